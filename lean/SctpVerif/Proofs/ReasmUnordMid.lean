import SctpVerif.Proofs.ReasmUnordRun
/-!
C06, unordered I-DATA ("Mid" here = the UNORDERED MID space; ordered I-DATA is `MidInv` of `Proofs/ReasmOrd.lean`
and `Proofs/ReasmFwdMid.lean`): the universe of fragments (MID = message index in the unordered MID space, FSN = fragment
index, TSNs arbitrary), the refinement `UMInv` of the containers `unorderedMIDMap` / `unorderedMID` to a table of
fragment indices / a list of message indices, its push and read steps, runs.
-/
set_option linter.unusedVariables false
set_option linter.unusedSimpArgs false
namespace Reasm
open Gen

/-- unordered I-DATA fragment `i` of message `k`: as `idataFrag` with the U flag. -/
def Sender.uidataFrag (S : Sender) (τ : Nat → Nat → BitVec 32) (k i : Nat) : Chunk :=
  { S.idataFrag τ k i with unordered := true }

/-- a set of the unordered MID map / of `unorderedMID` holding fragments `e.2` of message `e.1`. -/
def Sender.usetMID (S : Sender) (τ : Nat → Nat → BitVec 32) (e : Nat × List Nat) : ChunkSetMID :=
  { mid := BitVec.ofNat 32 e.1, ppi := if 0 ∈ e.2 then (S.msg e.1).ppi else 0,
    chunks := e.2.map (S.uidataFrag τ e.1) }

/-- universe hypothesis for unordered I-DATA: messages well formed, at most 2^31 messages (one half-space window of
the unordered MID space; there is no cursor a sliding window could be anchored at). -/
structure Sender.UMWF (S : Sender) : Prop where
  wf : S.WF
  span : S.msgs.length ≤ 2^31

theorem uidataFrag_msgFrags (S : Sender) (τ) (k : Nat) : MsgFrags (S.uidataFrag τ k) (S.nf k) :=
  ⟨fun _ => rfl, fun _ => rfl, fun _ => rfl⟩

theorem ucompleteMID_iff (S : Sender) (hS : S.WF) (τ) (k : Nat) (hk : k < S.msgs.length) (js : List Nat)
    (hjs : ∀ j ∈ js, j < S.nf k) :
    chunksCompleteMID (js.map (S.uidataFrag τ k)) = true ↔ js = List.range (S.nf k) :=
  completeMID_iff_of (uidataFrag_msgFrags S τ k) (S.nf_pos hS hk) js hjs

theorem upushAndCheck_conc (S : Sender) (τ) (k i : Nat) (js : List Nat) (s : ChunkSetMID)
    (hch : s.chunks = js.map (S.uidataFrag τ k)) (hinc : s.isComplete = false)
    (hjs : ∀ j ∈ js, j < 2^31) (hi : i < 2^31) (hnotin : i ∉ js) :
    s.pushAndCheck (S.uidataFrag τ k i) =
      ({ mid := s.mid, ppi := if i = 0 then (S.msg k).ppi else s.ppi,
         chunks := (goSort (fun a b => decide (a < b)) (js ++ [i])).map (S.uidataFrag τ k) },
       chunksCompleteMID ((goSort (fun a b => decide (a < b)) (js ++ [i])).map (S.uidataFrag τ k)), true) := by
  rw [pushAndCheck_of (uidataFrag_msgFrags S τ k) i js s hch hinc hjs hi hnotin]
  by_cases h0 : i = 0
  · subst h0; rfl
  · rw [if_neg h0, if_neg h0]

theorem uidataFrags_payload (S : Sender) (τ) (k : Nat) :
    (((List.range (S.nf k)).map (S.uidataFrag τ k)).map (·.userData)).flatten = (S.msg k).payload := by
  rw [← idataFrags_payload S τ k]
  simp [List.map_map, Function.comp_def, Sender.uidataFrag]

theorem updMID_fresh (mid : BitVec 32) (s s' : ChunkSetMID) (l : List ChunkSetMID)
    (hl : ∀ x ∈ l, (x.mid == mid) = false) (hs : s.mid = mid) : updMID mid s' (l ++ [s]) = l ++ [s'] :=
  updMID_at mid s s' l [] hl hs

theorem delMID_fresh (mid : BitVec 32) (s : ChunkSetMID) (l : List ChunkSetMID)
    (hl : ∀ x ∈ l, (x.mid == mid) = false) (hs : s.mid = mid) : delMID mid (l ++ [s]) = l :=
  (delMID_at mid s l [] hl hs).trans (List.append_nil l)

/-- the complete set of message `k` as it waits in `unorderedMID`. -/
def Sender.usetFull (S : Sender) (τ : Nat → Nat → BitVec 32) (k : Nat) : ChunkSetMID :=
  S.usetMID τ (k, List.range (S.nf k))

/-- the local function `go` of `pushUnorderedIData`. -/
def goUI (c : Chunk) (q : Q) (cset : ChunkSetMID) : Q × Bool × Err :=
  let (cset', complete, accepted) := cset.pushAndCheck c
  if !accepted then (q, false, .none)
  else
    let q := q.addBytes c.len
    if complete then
      ({ q with unorderedMIDMap := delMID c.mid q.unorderedMIDMap,
                unorderedMID := q.unorderedMID ++ [cset'] }, true, .none)
    else
      ({ q with unorderedMIDMap := updMID c.mid cset' q.unorderedMIDMap },
       false, .none)

theorem pushUnorderedIData_eq (q : Q) (c : Chunk) :
    q.pushUnorderedIData c =
      if q.hasQueuedUnorderedMID c.mid then (q, false, .none)
      else match q.unorderedMIDMap.find? (fun s => s.mid == c.mid) with
        | some cset => goUI c q cset
        | none =>
          if q.isMIDLimitReached q.unorderedMIDEntryCount then (q, false, .midLimit)
          else goUI c { q with unorderedMIDMap := q.unorderedMIDMap ++ [newChunkSetMID c.mid c.ppi] }
                 (newChunkSetMID c.mid c.ppi) := rfl

/-- refinement invariant of the unordered I-DATA containers. `D` = messages read, `W` = complete messages waiting in
`unorderedMID`, `A` = the MID map (message index ↦ fragment indices held, all incomplete), `P` = fragments handed
over, `G` ⊆ `P` those taken without error. -/
structure UMInv (S : Sender) (τ : Nat → Nat → BitVec 32) (q : Q) (D W : List Nat) (A : Tab)
    (P G : List (Nat × Nat)) : Prop where
  si : q.si = S.si
  il : q.useInterleaving = false → A = [] ∧ W = []
  map : q.unorderedMIDMap = A.map (S.usetMID τ)
  um : q.unorderedMID = W.map (S.usetFull τ)
  keys : A.Pairwise (fun a b => a.1 ≠ b.1)
  awf : ∀ e ∈ A, e.1 < S.msgs.length ∧ e.2.Pairwise (· < ·) ∧ (∀ j ∈ e.2, j < S.nf e.1) ∧
          e.2 ≠ List.range (S.nf e.1)
  apush : ∀ e ∈ A, ∀ j ∈ e.2, (e.1, j) ∈ P
  nodup : (D ++ W).Nodup
  dwlen : ∀ k ∈ D ++ W, k < S.msgs.length
  dwpush : ∀ k ∈ D ++ W, ∀ i, i < S.nf k → (k, i) ∈ P
  disj : ∀ e ∈ A, e.1 ∉ D ++ W
  track : ∀ p ∈ G, p.1 ∈ D ++ W ∨ ∃ js, (p.1, js) ∈ A ∧ p.2 ∈ js

theorem UMInv_new (S : Sender) (τ) (me : BitVec 32) : UMInv S τ (new S.si me) [] [] [] [] [] := by
  constructor <;> simp [new]

/-- the fields a push of an unordered I-DATA chunk leaves alone (frame); `useInterleaving` becomes true. -/
structure FrameUM (q q' : Q) : Prop where
  si : q'.si = q.si
  ordered : q'.ordered = q.ordered
  unordered : q'.unordered = q.unordered
  unorderedChunks : q'.unorderedChunks = q.unorderedChunks
  nextSSN : q'.nextSSN = q.nextSSN
  nextMID : q'.nextMID = q.nextMID
  orderedMID : q'.orderedMID = q.orderedMID
  maxEntries : q'.maxEntries = q.maxEntries

/-- the common tail of `pushUnorderedIData` (`go`): the set `s` of message `k` (fragments `js`, possibly none) sits in
the map between `pre` and `post`; fragment `i ∉ js` goes in; the set either stays (incomplete) or moves to
`unorderedMID` (complete: then it holds exactly all fragments). -/
theorem UMInv.afterGo {S τ q D W A P G} (h : UMInv S τ q D W A P G) (hS : S.UMWF) {k i : Nat}
    (hk : k < S.msgs.length) (hi : i < S.nf k) (hP : (k, i) ∉ P)
    (pre post : Tab) (js : List Nat) (s : ChunkSetMID) (q1 : Q)
    (hsl : (pre ++ post).Sublist A)
    (hnok : ∀ e ∈ pre ++ post, e.1 ≠ k) (hAcov : ∀ e ∈ A, e ∈ pre ++ post ∨ e = (k, js))
    (hjs1 : js.Pairwise (· < ·)) (hjs2 : ∀ j ∈ js, j < S.nf k) (hjs3 : js ≠ List.range (S.nf k))
    (hjs4 : ∀ j ∈ js, (k, j) ∈ P)
    (hfr : FrameUM q q1) (hq1il : q1.useInterleaving = true) (hq1um : q1.unorderedMID = q.unorderedMID)
    (hq1map : q1.unorderedMIDMap = pre.map (S.usetMID τ) ++ s :: post.map (S.usetMID τ))
    (hsmid : s.mid = BitVec.ofNat 32 k) (hsch : s.chunks = js.map (S.uidataFrag τ k))
    (hsppi : i ≠ 0 → s.ppi = if 0 ∈ js then (S.msg k).ppi else 0) :
    FrameUM q (goUI (S.uidataFrag τ k i) q1 s).1 ∧ (goUI (S.uidataFrag τ k i) q1 s).1.useInterleaving = true ∧
    ∃ W' A', UMInv S τ (goUI (S.uidataFrag τ k i) q1 s).1 D W' A' ((k, i) :: P)
      ((if (goUI (S.uidataFrag τ k i) q1 s).2.2 = .none then [(k, i)] else []) ++ G) := by
  have hnf := S.nf_pos hS.wf hk
  have hspan := hS.span
  have hsub : ∀ e ∈ pre ++ post, e ∈ A := fun e he => hsl.subset he
  have hkeysR := h.keys.sublist hsl
  have hnotin : i ∉ js := fun hin => hP (hjs4 i hin)
  have hkDW : k ∉ D ++ W := fun hin => hP (h.dwpush k hin i hi)
  have hinc : s.isComplete = false := by
    cases hc : s.isComplete with
    | false => rfl
    | true =>
      rw [ChunkSetMID.isComplete, hsch] at hc
      exact absurd ((ucompleteMID_iff S hS.wf τ k hk js hjs2).1 hc) hjs3
  have hpc := upushAndCheck_conc S τ k i js s hsch hinc (fun j hj => by have := hjs2 j hj; omega) (by omega) hnotin
  let js' := goSort (fun a b => decide (a < b)) (js ++ [i])
  have hmemj : ∀ j, j ∈ js' ↔ j ∈ js ∨ j = i := by
    intro j; simp only [js']; rw [goSort_mem]; simp
  have hjs'1 : js'.Pairwise (· < ·) := by
    apply goSort_sorted (fun a : Nat => a)
    rw [List.pairwise_append]
    refine ⟨hjs1.imp (fun hab => by omega), by simp, ?_⟩
    intro a ha b hb
    simp only [List.mem_singleton] at hb; subst hb
    intro hab; exact hnotin (hab ▸ ha)
  have hjs'2 : ∀ j ∈ js', j < S.nf k := by
    intro j hj
    rcases (hmemj j).1 hj with hj | rfl
    · exact hjs2 j hj
    · exact hi
  have hjs'4 : ∀ j ∈ js', (k, j) ∈ (k, i) :: P := by
    intro j hj
    rcases (hmemj j).1 hj with hj | rfl
    · exact List.mem_cons_of_mem _ (hjs4 j hj)
    · exact List.mem_cons_self ..
  have hset : ({ mid := s.mid, ppi := if i = 0 then (S.msg k).ppi else s.ppi,
                 chunks := js'.map (S.uidataFrag τ k) } : ChunkSetMID) = S.usetMID τ (k, js') := by
    simp only [Sender.usetMID, hsmid]
    congr 1
    by_cases h0 : i = 0
    · have : 0 ∈ js' := (hmemj 0).2 (.inr h0.symm)
      simp [h0, this]
    · have : 0 ∈ js' ↔ 0 ∈ js := by
        rw [hmemj 0]; constructor
        · rintro (h | h)
          · exact h
          · exact absurd h.symm h0
        · exact .inl
      simp only [h0, ↓reduceIte, this, hsppi h0]
  have hpreNo : ∀ x ∈ pre.map (S.usetMID τ), (x.mid == BitVec.ofNat 32 k) = false := by
    intro x hx
    obtain ⟨e, he, rfl⟩ := List.mem_map.1 hx
    have h1 := hnok e (by simp [he])
    have h2 := (h.awf e (hsub e (by simp [he]))).1
    simp only [Sender.usetMID, beq_eq_false_iff_ne, ne_eq]
    rw [Sna.ofNat32_eq_iff _ _ (by omega) (by omega)]; exact h1
  have hcmid : (S.uidataFrag τ k i).mid = BitVec.ofNat 32 k := rfl
  have htrackR : ∀ p ∈ (k, i) :: G, p.1 ∈ D ++ W ∨ (∃ js0, (p.1, js0) ∈ pre ++ post ∧ p.2 ∈ js0) ∨
      (p.1 = k ∧ p.2 ∈ js') := by
    intro p hp
    rcases List.mem_cons.1 hp with rfl | hp
    · exact .inr (.inr ⟨rfl, (hmemj i).2 (.inr rfl)⟩)
    · rcases h.track p hp with hin | ⟨js0, hin, hj⟩
      · exact .inl hin
      · rcases hAcov _ hin with hr | heq
        · exact .inr (.inl ⟨js0, hr, hj⟩)
        · simp only [Prod.mk.injEq] at heq
          exact .inr (.inr ⟨heq.1, (hmemj _).2 (.inl (heq.2 ▸ hj))⟩)
  unfold goUI
  rw [hpc]
  simp only [Bool.not_true, Bool.false_eq_true, ↓reduceIte, hcmid]
  cases hcomp : chunksCompleteMID (List.map (S.uidataFrag τ k) (goSort (fun a b => decide (a < b)) (js ++ [i]))) with
  | true =>
    have hall : js' = List.range (S.nf k) := (ucompleteMID_iff S hS.wf τ k hk js' hjs'2).1 hcomp
    simp only [↓reduceIte, Q.addBytes, hq1map]
    rw [delMID_at _ _ _ _ hpreNo hsmid]
    refine ⟨⟨hfr.1, hfr.2, hfr.3, hfr.4, hfr.5, hfr.6, hfr.7, hfr.8⟩, hq1il, W ++ [k], pre ++ post, ?_⟩
    exact
      { si := by simp [hfr.si, h.si], il := by simp [hq1il],
        map := by simp,
        um := by
          simp only [hq1um, h.um, List.map_append, List.map_cons, List.map_nil]
          congr 2
          show _ = S.usetMID τ (k, List.range (S.nf k))
          rw [← hall]; exact hset
        keys := hkeysR,
        awf := fun e he => h.awf e (hsub e he),
        apush := fun e he j hj => List.mem_cons_of_mem _ (h.apush e (hsub e he) j hj),
        nodup := nodup_append_snoc h.nodup hkDW,
        dwlen := by
          intro x hx
          rcases mem_append_snoc.1 hx with hx | rfl
          · exact h.dwlen x hx
          · exact hk
        dwpush := by
          intro x hx j hj
          rcases mem_append_snoc.1 hx with hx | rfl
          · exact List.mem_cons_of_mem _ (h.dwpush x hx j hj)
          · exact hjs'4 j (by rw [hall]; exact List.mem_range.2 hj)
        disj := by
          intro e he hin
          rcases mem_append_snoc.1 hin with hin | heq
          · exact h.disj e (hsub e he) hin
          · exact hnok e he heq
        track := by
          intro p hp
          rcases htrackR p hp with hin | ⟨js0, hin, hj⟩ | ⟨hpk, _⟩
          · exact .inl (mem_append_snoc.2 (.inl hin))
          · exact .inr ⟨js0, hin, hj⟩
          · exact .inl (mem_append_snoc.2 (.inr hpk)) }
  | false =>
    have hnall : js' ≠ List.range (S.nf k) := by
      intro hall
      have := (ucompleteMID_iff S hS.wf τ k hk js' hjs'2).2 hall
      rw [hcomp] at this; cases this
    simp only [Bool.false_eq_true, ↓reduceIte, Q.addBytes, hq1map]
    rw [updMID_at _ _ _ _ _ hpreNo hsmid]
    refine ⟨⟨hfr.1, hfr.2, hfr.3, hfr.4, hfr.5, hfr.6, hfr.7, hfr.8⟩, hq1il, W, pre ++ (k, js') :: post, ?_⟩
    have hmemA' : ∀ e, e ∈ pre ++ (k, js') :: post ↔ e ∈ pre ++ post ∨ e = (k, js') := by
      intro e; rw [List.mem_append, List.mem_cons, List.mem_append, or_left_comm, or_comm]
    exact
      { si := by simp [hfr.si, h.si], il := by simp [hq1il],
        map := by simp only [List.map_append, List.map_cons]; rw [← hset],
        um := by simp only [hq1um, h.um],
        keys := by
          rw [List.pairwise_append] at hkeysR ⊢
          refine ⟨hkeysR.1, ?_, ?_⟩
          · rw [List.pairwise_cons]
            exact ⟨fun b hb => (hnok b (by simp [hb])).symm, hkeysR.2.1⟩
          · intro a ha b hb
            rcases List.mem_cons.1 hb with rfl | hb
            · exact hnok a (by simp [ha])
            · exact hkeysR.2.2 a ha b hb
        awf := by
          intro e he
          rcases (hmemA' e).1 he with he | rfl
          · exact h.awf e (hsub e he)
          · exact ⟨hk, hjs'1, hjs'2, hnall⟩
        apush := by
          intro e he j hj
          rcases (hmemA' e).1 he with he | rfl
          · exact List.mem_cons_of_mem _ (h.apush e (hsub e he) j hj)
          · exact hjs'4 j hj
        nodup := h.nodup, dwlen := h.dwlen,
        dwpush := fun x hx j hj => List.mem_cons_of_mem _ (h.dwpush x hx j hj),
        disj := by
          intro e he
          rcases (hmemA' e).1 he with he | rfl
          · exact h.disj e (hsub e he)
          · exact hkDW
        track := by
          intro p hp
          rcases htrackR p hp with hin | ⟨js0, hin, hj⟩ | ⟨hpk, hj⟩
          · exact .inl hin
          · exact .inr ⟨js0, (hmemA' _).2 (.inl hin), hj⟩
          · exact .inr ⟨js', (hmemA' _).2 (.inr (by rw [hpk])), hj⟩ }

/-- a message all of whose fragments were taken has been read or waits complete in `unorderedMID`: otherwise every
fragment would sit in the map entry of `k`, and a map entry is incomplete. -/
theorem UMInv.complete {S τ q D W A P G} (h : UMInv S τ q D W A P G) (hS : S.UMWF) {k : Nat} (hk : k < S.msgs.length)
    (hall : ∀ i, i < S.nf k → (k, i) ∈ G) : k ∈ D ∨ S.usetFull τ k ∈ q.unorderedMID := by
  by_cases hin : k ∈ D ++ W
  · rcases List.mem_append.1 hin with hd | hw
    · exact .inl hd
    · right; rw [h.um]; exact List.mem_map.2 ⟨k, hw, rfl⟩
  · exfalso
    have hent : ∀ j, j < S.nf k → ∃ js, (k, js) ∈ A ∧ j ∈ js := fun j hj =>
      (h.track (k, j) (hall j hj)).resolve_left hin
    obtain ⟨js, hjs, _⟩ := hent 0 (S.nf_pos hS.wf hk).1
    have hwf := h.awf _ hjs
    refine hwf.2.2.2 (sorted_all_eq_range _ _ hwf.2.1 hwf.2.2.1 fun j hj => ?_)
    obtain ⟨js', hjs', hj'⟩ := hent j hj
    rw [congrArg Prod.snd (ListAux.eq_of_key_eq (f := Prod.fst) h.keys hjs hjs' rfl)]; exact hj'

theorem UMInv.push {S τ q D W A P G} (h : UMInv S τ q D W A P G) (hS : S.UMWF) {k i : Nat}
    (hk : k < S.msgs.length) (hi : i < S.nf k) (hP : (k, i) ∉ P) :
    FrameUM q (q.pushWithError (S.uidataFrag τ k i)).1 ∧
    (q.pushWithError (S.uidataFrag τ k i)).1.useInterleaving = true ∧
    ∃ W' A', UMInv S τ (q.pushWithError (S.uidataFrag τ k i)).1 D W' A' ((k, i) :: P)
      ((if (q.pushWithError (S.uidataFrag τ k i)).2.2 = .none then [(k, i)] else []) ++ G) := by
  have hspan := hS.span
  obtain ⟨q1, hq1⟩ : ∃ q1 : Q, q1 = ({ q with useInterleaving := true } : Q) := ⟨_, rfl⟩
  have e : q.pushWithError (S.uidataFrag τ k i) = q1.pushUnorderedIData (S.uidataFrag τ k i) := by
    rw [hq1]; simp [Q.pushWithError, Q.pushIData, Sender.uidataFrag, Sender.idataFrag, h.si]
  have hq1il : q1.useInterleaving = true := by rw [hq1]
  have hq1map : q1.unorderedMIDMap = A.map (S.usetMID τ) := by rw [hq1]; exact h.map
  have hq1um : q1.unorderedMID = W.map (S.usetFull τ) := by rw [hq1]; exact h.um
  have hq1um0 : q1.unorderedMID = q.unorderedMID := by rw [hq1]
  have hfr1 : FrameUM q q1 := by rw [hq1]; constructor <;> rfl
  have hcmid : (S.uidataFrag τ k i).mid = BitVec.ofNat 32 k := rfl
  have hq : q1.hasQueuedUnorderedMID (BitVec.ofNat 32 k) = false := by
    simp only [Q.hasQueuedUnorderedMID, hq1um, List.any_map, List.any_eq_false, Function.comp]
    intro k' hk' heq
    have hk'len := h.dwlen k' (by simp [hk'])
    simp only [Sender.usetFull, Sender.usetMID, beq_iff_eq] at heq
    have := (Sna.ofNat32_eq_iff _ _ (by omega) (by omega)).1 heq
    subst this
    exact hP (h.dwpush k' (by simp [hk']) i hi)
  rw [e, pushUnorderedIData_eq, hcmid, hq]
  simp only [Bool.false_eq_true, ↓reduceIte]
  rcases findKey_conc (S.usetMID τ) (fun _ => rfl) k A (fun e he => by have := (h.awf e he).1; omega) with
    ⟨hfresh, hnone⟩ | ⟨pre, js, post, hA, hpre, hsome⟩
  · rw [← hq1map] at hnone
    rw [hnone]
    simp only
    split
    · -- MID limit: refused with an error
      refine ⟨hfr1, hq1il, W, A, ?_⟩
      simp only [reduceCtorEq, ↓reduceIte, List.nil_append]
      exact ⟨hfr1.si.trans h.si, fun hc => (by rw [hq1il] at hc; cases hc), hq1map, hq1um, h.keys, h.awf,
        fun e he j hj => List.mem_cons_of_mem _ (h.apush e he j hj), h.nodup, h.dwlen,
        fun x hx j hj => List.mem_cons_of_mem _ (h.dwpush x hx j hj), h.disj, h.track⟩
    · exact h.afterGo hS hk hi hP A [] [] (newChunkSetMID (BitVec.ofNat 32 k) (S.uidataFrag τ k i).ppi)
        { q1 with unorderedMIDMap := q1.unorderedMIDMap ++ [newChunkSetMID (BitVec.ofNat 32 k) (S.uidataFrag τ k i).ppi] }
        (by simp) (by simpa using hfresh) (by intro e he; left; simpa using he)
        List.Pairwise.nil (by simp) (by have := (S.nf_pos hS.wf hk).1; intro hc; have := congrArg List.length hc; simp at this; omega)
        (by simp) ⟨hfr1.1, hfr1.2, hfr1.3, hfr1.4, hfr1.5, hfr1.6, hfr1.7, hfr1.8⟩ hq1il hq1um0 (by simp [hq1map]) rfl rfl
        (by intro h0; simp [Sender.uidataFrag, Sender.idataFrag, h0, newChunkSetMID])
  · rw [← hq1map] at hsome
    rw [hsome]
    simp only
    have hin : (k, js) ∈ A := by rw [hA]; simp
    have hwf := h.awf _ hin
    have hkeys := h.keys
    rw [hA, List.pairwise_append, List.pairwise_cons] at hkeys
    exact h.afterGo hS hk hi hP pre post js (S.usetMID τ (k, js)) q1
      (by rw [hA]; exact (List.Sublist.refl pre).append (List.sublist_cons_self ..))
      (by
        intro e he
        rcases List.mem_append.1 he with h | h
        · exact hpre e h
        · exact (hkeys.2.1.1 e h).symm)
      (by
        intro e he; rw [hA] at he
        simp only [List.mem_append, List.mem_cons] at he ⊢
        rcases he with h | h | h
        · exact .inl (.inl h)
        · exact .inr h
        · exact .inl (.inr h))
      hwf.2.1 hwf.2.2.1 hwf.2.2.2 (fun j hj => h.apush _ hin j hj) hfr1 hq1il hq1um0
      (by rw [hq1map, hA]; simp) rfl rfl (fun _ => rfl)

/-- `read` in interleaving mode with a complete unordered message waiting: serves the first one. -/
theorem UMInv.read {S τ q D W A P G} (h : UMInv S τ q D W A P G) (hil : q.useInterleaving = true)
    {k : Nat} {W' : List Nat} (hW : W = k :: W') (hk : 1 ≤ S.nf k) (n : Nat) :
    ((q.read n).2.err = .shortBuffer ∧ (q.read n).1 = q) ∨
    ((q.read n).2.err = .ok ∧ (q.read n).2.ppi = (S.msg k).ppi ∧ (q.read n).2.data = (S.msg k).payload ∧
      FrameUM q (q.read n).1 ∧ (q.read n).1.useInterleaving = true ∧
      UMInv S τ (q.read n).1 (D ++ [k]) W' A P G) := by
  subst hW
  unfold Q.read
  simp only [hil, ↓reduceIte, h.um, List.map_cons]
  cases herr : (copyLoop (n : Int) (S.usetFull τ k).chunks 0 false []).2.1 with
  | true => left; simp [herr]
  | false =>
    right
    have hdata := copyLoop_ok _ _ _ _ herr
    simp only [herr, Bool.false_eq_true, ↓reduceIte]
    have e : (D ++ [k]) ++ W' = D ++ k :: W' := (List.append_cons ..).symm
    refine ⟨trivial, ?_, ?_, by constructor <;> simp [Q.subtractNumBytes], by simp [Q.subtractNumBytes], ?_⟩
    · have : 0 ∈ List.range (S.nf k) := List.mem_range.2 (by omega)
      simp [Sender.usetFull, Sender.usetMID, this]
    · rw [hdata]; simp only [Sender.usetFull, Sender.usetMID, List.nil_append]; exact uidataFrags_payload S τ k
    · exact { h with si := by simp [Q.subtractNumBytes, h.si], il := by simp [Q.subtractNumBytes],
                       map := by simp [Q.subtractNumBytes, h.map], um := by simp [Q.subtractNumBytes],
                       nodup := e ▸ h.nodup, dwlen := e ▸ h.dwlen, dwpush := e ▸ h.dwpush, disj := e ▸ h.disj,
                       track := e ▸ h.track }

theorem read_nothing_il (q : Q) (h : q.useInterleaving = true) (hu : q.unorderedMID = []) (ho : q.orderedMID = [])
    (n : Nat) : q.read n = (q, .tryAgain) := by
  unfold Q.read
  simp [h, hu, ho]

/-- the containers of the other classes stay empty along a pure unordered I-DATA run. -/
def OthersEmpty (q : Q) : Prop := q.ordered = [] ∧ q.unordered = [] ∧ q.orderedMID = []

theorem UMInv.run {S : Sender} {τ} (hS : S.UMWF) (ops : List HOp) {q D W A P G} (h : UMInv S τ q D W A P G)
    (ho : OthersEmpty q) (hadm : S.AdmissibleU P ops) :
    ∃ D' P' G', (∃ W' A', UMInv S τ (finalQ (S.uidataFrag τ) q ops) (D ++ D') W' A' P' G' ∧
        OthersEmpty (finalQ (S.uidataFrag τ) q ops)) ∧
      S.deliveries (S.uidataFrag τ) q ops = D'.map S.out ∧
      (∀ p, p ∈ G' ↔ p ∈ G ∨ p ∈ accepted (S.uidataFrag τ) q ops) ∧
      (∀ p, p ∈ P' → p ∈ P ∨ HOp.push p.1 p.2 ∈ ops) :=
  run_of_steps (I := fun q D P G => ∃ W A, UMInv S τ q D W A P G ∧ OthersEmpty q) (frag := S.uidataFrag τ)
    (fun ⟨W, A, h, ho⟩ hk hi hP =>
      have ⟨hfr, _, W1, A1, h1⟩ := h.push hS hk hi hP
      ⟨W1, A1, h1, by rw [hfr.ordered, ho.1], by rw [hfr.unordered, ho.2.1], by rw [hfr.orderedMID, ho.2.2]⟩)
    (fun {q} _ _ _ n ⟨W, A, h, ho⟩ => by
      cases hil : q.useInterleaving with
      | false =>
        rw [read_nothing q hil ho.2.1 ho.1 n]
        exact .inl ⟨RErr.noConfusion, rfl⟩
      | true =>
        cases hW : W with
        | nil =>
          rw [read_nothing_il q hil (by rw [h.um, hW]; rfl) ho.2.2 n]
          exact .inl ⟨RErr.noConfusion, rfl⟩
        | cons k W0 =>
          have hklen := h.dwlen k (by rw [hW]; exact List.mem_append_right _ (List.mem_cons_self ..))
          rcases h.read hil hW (S.nf_pos hS.wf hklen).1 n with ⟨herr, hq⟩ | ⟨hok, hppi, hdata, hfr, _, h1⟩
          · exact .inl ⟨by rw [herr]; exact RErr.noConfusion, hq⟩
          · exact .inr ⟨k, hok, hppi, hdata, W0, A, h1, by rw [hfr.ordered, ho.1], by rw [hfr.unordered, ho.2.1],
              by rw [hfr.orderedMID, ho.2.2]⟩)
    ops ⟨W, A, h, ho⟩ hadm

end Reasm
