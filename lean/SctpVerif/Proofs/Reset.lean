import SctpVerif.Proofs.Reset.Perf
import SctpVerif.Proofs.Reset.Final
import SctpVerif.Proofs.Reset.Reopen
/-!
Helper lemmas for C14 (stream reset), split over `Proofs/Reset/*.lean`:
`Basic` (handlers of RE-CONFIG parameters: what they cannot touch; `Local`: what an application call does), `Pop` (what one
pass of the write loop takes out of the pending queue; `gather_cases`), `Inv`/`RecvFrame`/`SendInv` (send-half invariants),
`ReadInv`/`RecvInv` (receive queues), `Cross` (one direction of the system), `System` (both endpoints; `Sys.Step`: what an
operation does), `Gens` (incarnations), `GStep` (the walk of an inbound packet under all invariants, `HCtx.handle`; every
step keeps the invariants: `Sys.Step.inv`, `.ginv`), `Final` (EOF only after every message; `Sys.Step.il`), `Schedule`
(evaluation lemmas for single operations, the message-transfer block `transfer`), `Reopen` (the explicit schedule
`scheduleOps`: write, close, both resets, re-open, write), `Perf` (the performed-request set of the D10 fix). `run_il` below:
both endpoints of a run use the same framing.
-/
namespace Rs

theorem run_il (il : Bool) (tsnA tsnB : Nat) (ops : List Op) :
    ((Sys.init il tsnA tsnB).run ops).a.il = ((Sys.init il tsnA tsnB).run ops).b.il :=
  ListAux.foldl_inv (P := fun s => s.a.il = s.b.il) ops rfl fun s op _ h => (step_cases s op).il h

end Rs
