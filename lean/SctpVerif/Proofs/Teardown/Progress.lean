import SctpVerif.Proofs.Teardown.Inv
/-!
No reachable state of the teardown is stuck: once a teardown has been set off, either everything is finished or some
process of the package can take a step WITHOUT any help from the environment. Enabledness is shown by naming the rule.
-/
namespace Conc

/-- nothing of the package is enabled -/
structure Blocked (s : St) : Prop where
  all : ∀ a ∈ procActs s, step E s a = none

theorem Blocked.proc {s s' : St} {a : Act} (hb : Blocked s) (h : Step s a s')
    (ha : a ∈ [Act.rlReadErr, .rlHandle, .rlCH 0, .rlCH 1, .rlCH 2, .rlDefer, .wlGather 0 false, .wlWrite, .wlSel 0, .wlSel 1, .wlCwArm,
      .wlClosing, .wlExit, .tlExit, .tlCb, .tcRun, .tcCH 0, .tcCH 1, .tcCH 2, .cn 0, .cn 1] := by decide) : False := by
  have := hb.all a (by simp only [procActs, List.mem_append]; exact .inl ha)
  rw [h.enabled] at this
  cases this

theorem Blocked.call {s s' : St} {i : Nat} {c : Caller} (hb : Blocked s) (hc : s.callers[i]? = some c)
    (h : Step s (.call i 0) s') : False := by
  have hi := (List.getElem?_eq_some_iff.mp hc).1
  have := hb.all (.call i 0) (by
    simp only [procActs, List.mem_append, List.mem_flatMap, List.mem_range]
    exact .inr ⟨i, hi, by simp⟩)
  rw [h.enabled] at this
  cases this

/-- a blocked constructor that is running `Close()` waits for `readLoopCloseCh`, with the transport and `closeWriteLoopCh` closed -/
theorem blocked_closing {s : St} {k : Nat} (hi : Inv s) (hb : Blocked s) (hcn : s.cn = .closing k) :
    s.rc = false ∧ s.conn = true ∧ s.cw = true := by
  have hs := hi.hs
  rw [hcn] at hs
  obtain ⟨_, _, h2, h4, _, _⟩ := hs
  rcases k with _|_|_|_|_|k
  · exact (hb.proc (.cnClose0 0 hcn)).elim
  · exact (hb.proc (.cnClose1 0 hcn)).elim
  · exact (hb.proc (.cnClose2 0 hcn)).elim
  · exact (hb.proc (.cnClose3 0 hcn)).elim
  · exact ⟨Bool.eq_false_iff.mpr fun h => hb.proc (.cnClose4 0 hcn h), h2 (by decide), h4 (by decide)⟩
  · exact (hb.proc (.cnCloseEnd 0 _ hcn (by omega))).elim

/-- whoever sits in `completeHandshake` has an arm ready, unless the constructor itself can move -/
theorem ch_ready (s : St) (hi : Inv s) (hb : Blocked s) (hch : s.lock = some .rlCH ∨ s.lock = some .tcCH) :
    s.cw = true ∨ s.rc = true ∨ ∃ client, s.cn = .sel client := by
  have hs := hi.hs
  cases hcn : s.cn with
  | sel client => exact .inr (.inr ⟨client, rfl⟩)
  | closing k => exact .inl (blocked_closing hi hb hcn).2.2
  | fin r =>
    rw [hcn] at hs
    have := hs.ctor.2
    split at this
    · rcases hch with h | h
      · exact absurd h this.2.1
      · exact absurd h this.2.2
    · exact .inr (.inl this.1)

/-- nobody is parked inside a critical section -/
theorem blocked_lock_free (s : St) (hi : Inv s) (hb : Blocked s) : s.lock = none := by
  obtain ⟨hl, hx⟩ := hi.lk
  -- the timer callback is not parked in completeHandshake
  have htc : tcHolds s.tc = false := by
    cases htc : s.tc <;> try rfl
    exfalso
    rw [htc] at hl hx
    have hr : rlHolds s.rl = none := by
      cases h : rlHolds s.rl
      · rfl
      · rw [h] at hx; cases hx rfl
    rw [hr] at hl
    replace hl : s.lock = some .tcCH := hl
    rcases ch_ready s hi hb (.inr hl) with h | h | ⟨cl, h⟩
    · exact hb.proc (.tcCHquit 1 htc hl (.inl ⟨rfl, h⟩))
    · exact hb.proc (.tcCHquit 2 htc hl (.inr ⟨rfl, h⟩))
    · exact hb.proc (.tcCHsend cl htc hl h)
  rw [htc] at hl
  cases hrl : s.rl with
  | inCH err =>
    exfalso
    rw [hrl] at hl
    replace hl : s.lock = some .rlCH := hl
    rcases ch_ready s hi hb (.inl hl) with h | h | ⟨cl, h⟩
    · exact hb.proc (.rlCHquit 1 err hrl hl (.inl ⟨rfl, h⟩))
    · exact hb.proc (.rlCHquit 2 err hrl hl (.inr ⟨rfl, h⟩))
    · exact hb.proc (.rlCHsend err cl hrl hl h)
  | defer k =>
    rw [hrl] at hl
    simp only [rlHolds] at hl
    split at hl
    · exfalso
      rename_i hk
      rcases k with _|_|_|_|_|_|k
      · omega
      · omega
      · exact hb.proc (.rlDefer2 hrl)
      · exact hb.proc (.rlDefer3 hrl)
      · exact hb.proc (.rlDefer4 hrl)
      · exact hb.proc (.rlDefer5 hrl)
      · omega
    · exact hl
  | reading => rw [hrl] at hl; exact hl
  | handling p => rw [hrl] at hl; exact hl
  | done => rw [hrl] at hl; exact hl

/-- with the lock free, every process that is not waiting on a channel can move -/
theorem blocked_shapes (s : St) (hi : Inv s) (hb : Blocked s) :
    (s.rl = .reading ∨ s.rl = .done) ∧ (s.wl = .sel ∨ s.wl = .done) ∧ (s.tl = .sel ∨ s.tl = .done) ∧ s.tc = .idle := by
  have hl := blocked_lock_free s hi hb
  have hlk := hi.lk.eq
  rw [hl] at hlk
  refine ⟨?_, ?_, ?_, ?_⟩
  · cases hrl : s.rl with
    | reading => exact .inl rfl
    | done => exact .inr rfl
    | handling p =>
      exfalso
      cases p with
      | data => exact hb.proc (.rlData hrl hl)
      | hsFinal e =>
        cases ht : s.hsTried
        · exact hb.proc (.rlHsFinal e hrl hl ht)
        · exact hb.proc (.rlHsAgain e hrl hl ht)
      | abort c => exact hb.proc (.rlAbort c hrl hl)
      | reset sid =>
        cases hg : s.gone.contains sid
        · cases hu : s.unreg
          · exact hb.proc (.rlReset sid hrl hl hg hu)
          · exact hb.proc (.rlResetGone sid hrl hl (.inr hu))
        · exact hb.proc (.rlResetGone sid hrl hl (.inl hg))
      | shutdownComplete => exact hb.proc (.rlShutdownComplete hrl hl)
      | shutdownAck => exact hb.proc (.rlShutdownAck hrl hl)
    | inCH err => rw [hrl] at hlk; cases hlk
    | defer k =>
      exfalso
      have := hi.df.le
      simp only [hrl, prog] at this
      rcases k with _|_|_|_|_|_|_|_|k
      · exact hb.proc (.rlDefer0 hrl)
      · exact hb.proc (.rlDefer1 hrl hl)
      · exact hb.proc (.rlDefer2 hrl)
      · exact hb.proc (.rlDefer3 hrl)
      · exact hb.proc (.rlDefer4 hrl)
      · exact hb.proc (.rlDefer5 hrl)
      · exact hb.proc (.rlDefer6 hrl)
      · exact hb.proc (.rlDefer7 hrl)
      · exact hb.proc (.rlDeferEnd _ hrl (by omega))
  · cases hwl : s.wl with
    | sel => exact .inl rfl
    | done => exact .inr rfl
    | gather =>
      exfalso
      cases hwa : s.willAbort with
      | none => exact hb.proc (.wlGather 0 false hwl hl hwa (Nat.zero_le _))
      | some c => exact hb.proc (.wlGatherAbort 0 false c hwl hl hwa)
    | write n ok ab =>
      exfalso
      cases n with
      | zero => exact hb.proc (.wlWritten ok ab hwl)
      | succ n =>
        cases hc : s.conn
        · cases hf : s.wrFail
          · exact hb.proc (.wlWrite n ok ab hwl hc hf)
          · exact hb.proc (.wlWriteFail n ok ab hwl (.inr hf))
        · exact hb.proc (.wlWriteFail n ok ab hwl (.inl hc))
    | cwArm => exact (hb.proc (.wlCwArm hwl hl)).elim
    | closing => exact (hb.proc (.wlClosing hwl)).elim
    | exit => exact (hb.proc (.wlExit hwl)).elim
  · cases htl : s.tl with
    | sel => exact .inl rfl
    | done => exact .inr rfl
    | cb => exact (hb.proc (.tlCb htl hl)).elim
  · cases htc : s.tc with
    | idle => rfl
    | spawned f =>
      exfalso
      cases f
      · exact hb.proc (.tcRun false htc hl (.inl rfl))
      · cases ht : s.hsTried
        · exact hb.proc (.tcRunCH htc hl ht)
        · exact hb.proc (.tcRun true htc hl (.inr ht))
    | inCH =>
      exfalso
      rw [htc] at hlk
      cases h : rlHolds s.rl <;> rw [h] at hlk <;> cases hlk

/-- a blocked caller that is not quiet is parked at one of six places: a reader not yet woken, or a wait for `writeNotify`, `acceptCh`,
`closeWriteLoopCh` (`Shutdown`), `readLoopCloseCh` (`Close`, `Abort`) -/
theorem blocked_caller (s : St) (hi : Inv s) (hb : Blocked s) (c : Caller) (hc : c ∈ s.callers) (hq : c.quiet = false) :
    (∃ sid, c = .rdWait sid false) ∨ (c = .wrWait ∧ s.wn = false) ∨ (c = .accWait ∧ s.ac = false) ∨ (c = .shWait ∧ s.cw = false) ∨
    (c = .cl 4 ∧ s.rc = false) ∨ (∃ cause, c = .ab cause 5 ∧ s.rc = false) := by
  have hl := blocked_lock_free s hi hb
  have hci := hi.cs c hc
  obtain ⟨i, hi0⟩ := List.getElem?_of_mem hc
  have move : ∀ {c'}, Move s 0 c c' → False := fun hm => hb.call hi0 (.callMove i 0 c _ hi0 hm)
  cases c with
  | idle k => cases hq
  | fin k r => cases hq
  | rdWait sid w =>
    cases w with
    | false => exact .inl ⟨sid, rfl⟩
    | true => exact (move (.rd sid (by rw [hi.lost]; rfl))).elim
  | wrBegin =>
    exfalso
    cases hn : s.notEst
    · exact hb.call hi0 (.callWrite i 0 hi0 hl hn (by decide))
    · exact move (.wrClosed hl hn)
  | wrWait =>
    exact .inr (.inl ⟨rfl, Bool.eq_false_iff.mpr fun h => move (.wrRetry rfl h)⟩)
  | accWait =>
    exact .inr (.inr (.inl ⟨rfl, Bool.eq_false_iff.mpr fun h => move (.acc h)⟩))
  | shBegin =>
    exfalso
    cases hn : s.notEst
    · exact hb.call hi0 (.callShutdown i 0 hi0 hl hn)
    · exact move (.shClosed hl hn)
  | shWait =>
    exact .inr (.inr (.inr (.inl ⟨rfl, Bool.eq_false_iff.mpr fun h => move (.shDone rfl h hl)⟩)))
  | cl k =>
    simp only [callerInv, Bool.and_eq_true, decide_eq_true_eq] at hci
    rcases k with _|_|_|_|_|k
    · exact (hb.call hi0 (.callClose0 i 0 hi0)).elim
    · exact (hb.call hi0 (.callClose1 i 0 hi0)).elim
    · exact (hb.call hi0 (.callClose2 i 0 hi0)).elim
    · exact (hb.call hi0 (.callClose3 i 0 hi0)).elim
    · exact .inr (.inr (.inr (.inr (.inl ⟨rfl, Bool.eq_false_iff.mpr fun h => move (.cl4 h)⟩))))
    · exact (move (.clEnd _ (by omega))).elim
  | ab cause k =>
    rcases k with _|_|_|_|_|_|_|k
    · exact (hb.call hi0 (.callAbort0 i 0 cause hi0 hl)).elim
    · exact (move (.ab1 cause)).elim
    · exact (hb.call hi0 (.callAbort2 i 0 cause hi0)).elim
    · exact (move (.ab3 cause)).elim
    · exact (hb.call hi0 (.callAbort4 i 0 cause hi0)).elim
    · exact .inr (.inr (.inr (.inr (.inr ⟨cause, rfl, Bool.eq_false_iff.mpr fun h => move (.ab5 cause h)⟩))))
    · exact (move (.ab6 cause)).elim
    · exact (move (.abEnd cause _ (by omega))).elim

/-- once a teardown is under way, a blocked system has its read loop gone -/
theorem blocked_rl_done (s : St) (hi : Inv s) (hb : Blocked s) (ht : s.triggered = true) : s.rl = .done := by
  obtain ⟨hrl, hwl, _, _⟩ := blocked_shapes s hi hb
  rcases hrl with hrl | hrl
  · exfalso
    have hrd : s.rdFail = false := Bool.eq_false_iff.mpr fun h => hb.proc (.rlReadErr hrl h)
    simp only [St.triggered, hrd, hrl, Bool.false_or, Bool.or_eq_true] at ht
    rcases ht with (ht | ht) | ht
    · rcases hwl with h | h <;> simp [h] at ht
    · -- the constructor is running Close()
      cases hcn : s.cn with
      | sel c => simp [hcn] at ht
      | fin r => simp [hcn] at ht
      | closing k => have := hi.tr.cf (blocked_closing hi hb hcn).2.1; simp [hrd] at this
    · -- a Close / Abort call is under way
      simp only [List.any_eq_true] at ht
      obtain ⟨c, hc, hact⟩ := ht
      have hq : c.quiet = false := by cases c <;> simp [Caller.active] at hact <;> rfl
      have hci := hi.cs c hc
      rcases blocked_caller s hi hb c hc hq with ⟨sid, rfl⟩ | ⟨rfl, _⟩ | ⟨rfl, _⟩ | ⟨rfl, _⟩ | ⟨rfl, _⟩ | ⟨cause, rfl, _⟩
      · simp [Caller.active] at hact
      · simp [Caller.active] at hact
      · simp [Caller.active] at hact
      · simp [Caller.active] at hact
      · simp [callerInv] at hci
        have := hi.tr.cf hci.1; simp [hrd] at this
      · simp [callerInv, hrd] at hci
  · exact hrl

/-- a blocked state in which a teardown has been set off has nothing left to do -/
theorem done_of_blocked (s : St) (hi : Inv s) (ht : s.triggered = true) (hb : Blocked s) : s.done = true := by
  have hl := blocked_lock_free s hi hb
  obtain ⟨_, hwl, htl, htc⟩ := blocked_shapes s hi hb
  have hrl := blocked_rl_done s hi hb ht
  have df := hi.df
  rw [hrl] at df
  have hcw := df.cwSet (by decide)
  have hrc := df.rcIff.mpr (by decide)
  have hac := df.acIff.mpr (by decide)
  have hwn := df.wnSet (by decide)
  have hun := df.unreg.mpr (by decide)
  -- writeLoop and timerLoop see closeWriteLoopCh
  have hwl' : s.wl = .done := by
    rcases hwl with h | h
    · exact (hb.proc (.wlSelCw 1 h (by decide) hcw)).elim
    · exact h
  have htl' : s.tl = .done := by
    rcases htl with h | h
    · exact (hb.proc (.tlExit h hcw)).elim
    · exact h
  -- the constructor sees readLoopCloseCh
  have hcn : ∃ r, s.cn = .fin r := by
    cases hcn : s.cn with
    | fin r => exact ⟨r, rfl⟩
    | sel client => exact (hb.proc (.cnRc client hcn hrc)).elim
    | closing k => rw [(blocked_closing hi hb hcn).1] at hrc; cases hrc
  -- every caller has returned
  have hcs : s.callers.all Caller.quiet = true := by
    simp only [List.all_eq_true]
    intro c hc
    cases hq : c.quiet
    · exfalso
      have hci := hi.cs c hc
      rcases blocked_caller s hi hb c hc hq with ⟨sid, rfl⟩ | ⟨rfl, h⟩ | ⟨rfl, h⟩ | ⟨rfl, h⟩ | ⟨rfl, h⟩ | ⟨cause, rfl, h⟩
      · simp [callerInv, hun] at hci
      · simp [hwn] at h
      · simp [hac] at h
      · simp [hcw] at h
      · simp [hrc] at h
      · simp [hrc] at h
    · rfl
  obtain ⟨r, hcn⟩ := hcn
  simp [St.done, hrl, hwl', htl', htc, hcn, hcs]

/-- **No stuck state.** Under the invariant, once a teardown has been set off: if anything is still pending, some process of
the package itself is enabled. -/
theorem no_stuck (s : St) (hi : Inv s) (ht : s.triggered = true) : s.stuck E = false := by
  cases hd : s.done
  · simp only [St.stuck, hd, Bool.not_false, Bool.true_and, Bool.eq_false_iff]
    intro hall
    rw [done_of_blocked s hi ht ⟨by simpa using hall⟩] at hd
    cases hd
  · simp [St.stuck, hd]

end Conc
