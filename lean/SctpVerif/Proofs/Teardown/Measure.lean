import SctpVerif.Proofs.Teardown.Inv
/-!
Termination: a measure that every step (of the package AND of the environment, which spends `fuel`) strictly decreases.
-/
namespace Conc

def rlP : RL → Nat
  | .done => 0
  | .defer k => 10 - k
  | .reading => 11
  | .inCH _ => 12
  | .handling _ => 17

def wlP (abortPending : Bool) : WL → Nat
  | .done => 0
  | .exit => 1
  | .closing => 1
  | .write n ok _ => n + 1 + (if ok then 10 else 2)
  | .sel => 10
  | .cwArm => 6
  | .gather => if abortPending then 5 else 12

def tlP : TL → Nat
  | .done => 0
  | .sel => 2
  | .cb => 3

def tcP : TC → Nat
  | .idle => 0
  | .inCH => 2
  | .spawned _ => 6

def cnP : CN → Nat
  | .fin _ => 0
  | .closing k => 7 - k
  | .sel _ => 8

def callerP (notEst : Bool) : Caller → Nat
  | .idle _ => 0
  | .fin _ _ => 0
  | .rdWait _ _ => 1
  | .wrBegin => if notEst then 1 else 6
  | .wrWait => 2
  | .accWait => 1
  | .shBegin => 5
  | .shWait => 1
  | .cl k => 7 - k
  | .ab _ k => 4 * (8 - k)

def sumP (notEst : Bool) (cs : List Caller) : Nat := (cs.map (callerP notEst)).sum

/-- The inequalities behind the weights (one per kind of rule; `Step.mu_lt` checks them):
* a unit of fuel (40) outweighs what an environment step adds: a started call at most 32 (`.ab _ 0`), a packet 6
  (`reading` 11 → `handling` 17), a fired timer 6, a poke 1, a served writer at most 4 (`wrWait` 2 → `wrBegin` ≤ 6);
* a rule that sets `awake` (3) lowers its own counter by more than 3: `handling` 17 → `reading` 11, `spawned` 6 → `idle` 0,
  `wrBegin` 6 → `fin` 0, `shBegin` 5 → `shWait` 1, and one statement of `Abort` is worth 4;
* `writeLoop` pays for a round with the token: `sel` 10 + 3 > `gather` 12 > `write 0 true _` 11 > `sel` 10, every packet
  gathered costs a unit of fuel; with an abort pending `cwArm` 6 > `gather` 5 > `write 1 false true` 4, and storing the
  cause (`callAbort0`) can only lower `wlP` (`wlP_mono`);
* `notEst` only ever rises and `callerP true ≤ callerP false` (`sumP_mono`); a released blocked writer (`wrWait` 2) goes back
  to `wrBegin` at 1, because `writeNotify` is closed only when `notEst` (`DeferInv.wn_ne`);
* the counters of `defer k`, `closing k`, `.cl k`, `.ab _ k` stay positive up to the last position the invariant allows
  (`k ≤ 8`, `5`, `5`, `7`), so the final move to `done` / `fin` decreases too. -/
def mu (s : St) : Nat :=
  40 * s.fuel + rlP s.rl + wlP s.willAbort.isSome s.wl + (if s.awake then 3 else 0) + tlP s.tl + tcP s.tc + cnP s.cn +
    sumP s.notEst s.callers

theorem callerP_mono (c : Caller) (b : Bool) : callerP true c ≤ callerP b c := by
  cases c <;> cases b <;> simp [callerP]

theorem sumP_mono (cs : List Caller) (b : Bool) : sumP true cs ≤ sumP b cs := by
  induction cs with
  | nil => simp [sumP]
  | cons c cs ih =>
    have := callerP_mono c b
    simp only [sumP, List.map_cons, List.sum_cons] at *
    omega

theorem callerP_wake1 (b : Bool) (sel : Nat → Bool) (c : Caller) : callerP b (wake1 sel c) = callerP b c := by
  unfold wake1
  split
  · split <;> rfl
  · rfl

theorem sumP_wakeAll (sel : Nat → Bool) (b : Bool) (cs : List Caller) : sumP b (wakeReaders .all sel cs) = sumP b cs := by
  simp only [wakeReaders_all, sumP, List.map_map, Function.comp_def, callerP_wake1]

theorem sumP_set (b : Bool) {cs : List Caller} {i : Nat} {c : Caller} (c' : Caller) (h : cs[i]? = some c) :
    sumP b (cs.set i c') + callerP b c = sumP b cs + callerP b c' := by
  induction cs generalizing i with
  | nil => simp at h
  | cons x xs ih =>
    cases i with
    | zero =>
      simp at h; subst h
      simp only [List.set_cons_zero, sumP, List.map_cons, List.sum_cons]; omega
    | succ i =>
      simp at h
      have := ih h
      simp only [List.set_cons_succ, sumP, List.map_cons, List.sum_cons] at *; omega

theorem wlP_mono (w : WL) (b : Bool) : wlP true w ≤ wlP b w := by
  cases w <;> cases b <;> simp [wlP]

/-- a caller's own move brings it nearer to its return; a blocked writer that is released finds the association closed
(`writeNotify` is closed only after the state has left `established`) and fails next -/
theorem Move.lt {s : St} {arm : Nat} {c c' : Caller} (hm : Move s arm c c') (hw : s.wn = true → s.notEst = true)
    (h : callerInv s.unreg s.gone s.conn s.cw s.rdFail c = true) : callerP s.notEst c' < callerP s.notEst c := by
  cases hm <;> simp_all [callerP, callerInv] <;> omega

/-- Every rule lowers one program counter by more than what it adds elsewhere (a token for `writeLoop`, the measure of a
caller that starts), or spends fuel. -/
theorem Step.mu_lt {s s' : St} {a : Act} (hi : Inv s) (h : Step s a s') : mu s' < mu s := by
  have hne := sumP_mono s.callers s.notEst
  cases h with
  | envPacket _ hr | rlReadErr hr | rlHsAgain _ hr | rlHsFinal _ hr | rlResetGone _ hr | rlCHquit _ _ hr | rlDefer0 hr
  | rlDefer1 hr | rlDefer2 hr | rlDefer4 hr | rlDefer5 hr | rlDefer6 hr | rlDefer7 hr =>
    simp only [mu, hr, rlP]; omega
  | envReadFail | envWriteFail | envCtxCancel | envDeadline =>
    simp only [mu]; omega
  | envFire _ ht | tcRunCH ht | tcCHquit _ ht =>
    simp only [mu, ht, tcP]; omega
  | envPoke ht | tlExit ht | tlCb ht =>
    simp only [mu, ht, tlP]; omega
  | envStart i k _ _ hc =>
    have := sumP_set s.notEst (startCaller s k) hc
    have : callerP s.notEst (startCaller s k) ≤ 32 := by cases k <;> simp [callerP, startCaller] <;> split <;> omega
    simp only [mu, callerP] at *; omega
  | envServeRd i sid _ _ hc =>
    have := sumP_set s.notEst (.fin (.rd sid) .ok) hc
    simp only [mu, callerP] at *; omega
  | envServeAcc i _ hc =>
    have := sumP_set s.notEst (.fin .acc .ok) hc
    simp only [mu, callerP] at *; omega
  | envServeWr i _ hc =>
    have := sumP_set s.notEst .wrBegin hc
    have : callerP s.notEst .wrBegin ≤ 6 := by simp only [callerP]; split <;> omega
    simp only [mu, callerP] at *; omega
  | rlData hr | rlShutdownAck hr =>
    simp only [mu, hr, rlP, ite_true]; omega
  | rlAbort _ hr | rlShutdownComplete hr =>
    simp only [mu, St.close, hr, rlP]; omega
  | rlReset _ hr | rlDefer3 hr =>
    simp only [mu, hr, rlP, sumP_wakeAll]; omega
  | rlCHsend _ _ hr _ hc => simp only [mu, hr, hc, rlP, cnP]; omega
  | rlDeferEnd _ hr =>
    have := hi.df.le
    simp only [mu, hr, rlP, prog] at *; omega
  | wlGatherAbort _ _ _ hw _ ha => simp only [mu, hw, ha, wlP, Option.isSome_some, ite_true, Bool.false_eq_true, ite_false]; omega
  | wlGather _ f hw _ ha =>
    simp only [mu, hw, ha, wlP, Option.isSome_none, Bool.false_eq_true, ite_false]
    cases f <;> simp only [Bool.not_true, Bool.not_false, ite_true, Bool.false_eq_true, ite_false] <;> omega
  | wlWritten ok _ hw => simp only [mu, hw]; cases ok <;> simp only [wlP, ite_true, Bool.false_eq_true, ite_false] <;> omega
  | wlWriteFail _ _ _ hw | wlWrite _ _ _ hw | wlSelCw _ hw | wlExit hw =>
    simp only [mu, hw, wlP]; omega
  | wlSelAwake hw ha =>
    have : wlP s.willAbort.isSome .gather ≤ 12 := by simp only [wlP]; split <;> omega
    simp only [mu, hw, ha, wlP, ite_true, Bool.false_eq_true, ite_false] at *; omega
  | wlCwArm hw => simp only [mu, hw]; cases s.willAbort.isSome <;> simp only [wlP, ite_true, Bool.false_eq_true, ite_false] <;> omega
  | wlClosing hw => simp only [mu, St.close, hw, wlP]; omega
  | tcRun _ ht => simp only [mu, ht, tcP, ite_true]; omega
  | tcCHsend _ ht _ hc => simp only [mu, ht, hc, tcP, cnP]; omega
  | cnRc _ hc | cnCtx _ hc | cnClose0 _ hc | cnClose1 _ hc | cnClose2 _ hc | cnClose3 _ hc | cnClose4 _ hc =>
    simp only [mu, hc, cnP]; omega
  | cnCloseEnd _ _ hc =>
    have := hi.hs
    rw [hc] at this
    have := this.ctor.2.2.2.2
    simp only [mu, hc, cnP]; omega
  | callMove i _ c c' hc hm =>
    have := sumP_set s.notEst c' hc
    have := hm.lt hi.df.wn_ne (hi.cs c (List.mem_of_getElem? hc))
    simp only [mu]; omega
  | callWrite i _ hc _ hn =>
    have := sumP_set s.notEst (.fin .wr .ok) hc
    simp only [mu, callerP, hn, ite_true, Bool.false_eq_true, ite_false] at *; omega
  | callShutdown i _ hc =>
    have := sumP_set true .shWait hc
    simp only [mu, callerP, ite_true] at *; omega
  | callClose0 i _ hc =>
    have := sumP_set true (.cl 1) hc
    simp only [mu, callerP] at *; omega
  | callClose1 i _ hc =>
    have := sumP_set s.notEst (.cl 2) hc
    simp only [mu, callerP] at *; omega
  | callClose2 i _ hc =>
    have := sumP_set s.notEst (.cl 3) hc
    simp only [mu, callerP] at *; omega
  | callClose3 i _ hc =>
    have := sumP_set s.notEst (.cl 4) hc
    simp only [mu, callerP] at *; omega
  | callAbort0 i _ c hc =>
    have := sumP_set s.notEst (.ab c 1) hc
    have := wlP_mono s.wl s.willAbort.isSome
    simp only [mu, callerP, Option.isSome_some] at *; omega
  | callAbort2 i _ c hc =>
    have := sumP_set s.notEst (.ab c 3) hc
    simp only [mu, callerP, ite_true] at *; omega
  | callAbort4 i _ c hc =>
    have := sumP_set s.notEst (.ab c 5) hc
    simp only [mu, callerP] at *; omega

theorem mu_step (s s' : St) (a : Act) (hi : Inv s) (h : step E s a = some s') : mu s' < mu s :=
  (Step.of_step h).mu_lt hi

theorem run_length_le (s s' : St) (as : List Act) (hi : Inv s) (h : run E s as = some s') : as.length + mu s' ≤ mu s := by
  induction as generalizing s with
  | nil => simp [run] at h; subst h; simp
  | cons a as ih =>
    simp only [run] at h
    split at h
    · rename_i s1 h1
      have := ih s1 (inv_step s s1 a hi h1) h
      have := mu_step s s1 a hi h1
      simp only [List.length_cons]; omega
    · simp at h

end Conc
