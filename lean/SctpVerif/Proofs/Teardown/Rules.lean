import SctpVerif.Model.Teardown
/-!
The steps of the `Teardown` system under the expected choreography as a relation with one rule per branch of `step`
(guard and successor state written out; the moves of an API caller that change nothing but its own program point are
collected in `Move`, under the single rule `callMove`), and its equivalence with `step Choreo.expected`: `Step.of_step`,
`Step.enabled`. The theorems about "all steps" (`Step.inv`, `Step.mu_lt`, `Step.trig`, `closeErr_stable`, …) are case
analyses over `Step`.
-/
namespace Conc

abbrev E : Choreo := Choreo.expected

/-- a move of an API caller that touches nothing but its own program point -/
inductive Move (s : St) (arm : Nat) : Caller → Caller → Prop
  | rd (sid : Nat) (hl : s.lost.contains sid = false) : Move s arm (.rdWait sid true) (.fin (.rd sid) (readRes s sid))
  | wrClosed (hl : s.lock = none) (hn : s.notEst = true) : Move s arm .wrBegin (.fin .wr (.err .notEstablished))
  | wrBlock (hl : s.lock = none) (hn : s.notEst = false) (ha : arm = 1) : Move s arm .wrBegin .wrWait
  | wrRetry (ha : arm = 0) (hw : s.wn = true) : Move s arm .wrWait .wrBegin
  | wrCtx (ha : arm ≠ 0) (hc : s.ctxCancelled = true) : Move s arm .wrWait (.fin .wr (.err .ctx))
  | acc (hc : s.ac = true) : Move s arm .accWait (.fin .acc .eof)
  | shClosed (hl : s.lock = none) (hn : s.notEst = true) : Move s arm .shBegin (.fin .sh (.err .shutdownNonEstablished))
  | shDone (ha : arm = 0) (hc : s.cw = true) (hl : s.lock = none) :
      Move s arm .shWait (.fin .sh (if s.sdAcked then .nil else .err .shutdownIncomplete))
  | shCtx (ha : arm ≠ 0) (hc : s.ctxCancelled = true) : Move s arm .shWait (.fin .sh (.err .ctx))
  | cl4 (hc : s.rc = true) : Move s arm (.cl 4) (.cl 5)
  | clEnd (k : Nat) (hk : 5 ≤ k) : Move s arm (.cl k) (.fin .cl .ok)
  | ab1 (c : String) : Move s arm (.ab c 1) (.ab c 2)
  | ab3 (c : String) : Move s arm (.ab c 3) (.ab c 4)
  | ab5 (c : String) (hc : s.rc = true) : Move s arm (.ab c 5) (.ab c 6)
  | ab6 (c : String) : Move s arm (.ab c 6) (.ab c 7)
  | abEnd (c : String) (k : Nat) (hk : 7 ≤ k) : Move s arm (.ab c k) (.fin (.ab c) .ok)

/-- `close()`: the four statements of `Choreo.expected.closeProg` -/
def St.close (s : St) : St :=
  { s with stClosed := true, notEst := true, conn := true, rdFail := true,
           connCloses := if s.conn then s.connCloses else s.connCloses + 1, timersClosed := true, cw := true }

inductive Step (s : St) : Act → St → Prop
  | envPacket (p : Pkt) (hr : s.rl = .reading) (hf : s.rdFail = false) (hu : 0 < s.fuel) :
      Step s (.envPacket p) { s with rl := .handling p, fuel := s.fuel - 1 }
  | envReadFail (hf : s.rdFail = false) (hu : 0 < s.fuel) : Step s .envReadFail { s with rdFail := true, fuel := s.fuel - 1 }
  | envWriteFail (hf : s.wrFail = false) (hu : 0 < s.fuel) : Step s .envWriteFail { s with wrFail := true, fuel := s.fuel - 1 }
  | envCtxCancel (hf : s.ctxCancelled = false) (hu : 0 < s.fuel) :
      Step s .envCtxCancel { s with ctxCancelled := true, fuel := s.fuel - 1 }
  | envFire (f : Bool) (ht : s.tc = .idle) (hc : s.timersClosed = false) (hu : 0 < s.fuel) :
      Step s (.envFire f) { s with tc := .spawned f, fuel := s.fuel - 1 }
  | envPoke (ht : s.tl = .sel) (hu : 0 < s.fuel) : Step s .envPoke { s with tl := .cb, fuel := s.fuel - 1 }
  | envDeadline (sid : Nat) (hu : 0 < s.fuel) : Step s (.envDeadline sid) { s with fuel := s.fuel - 1 }
  | envStart (i : Nat) (k : Kind) (hd : s.hsDone = true) (hu : 0 < s.fuel) (hc : s.callers[i]? = some (.idle k)) :
      Step s (.envStart i) { s with fuel := s.fuel - 1, callers := s.callers.set i (startCaller s k) }
  | envServeRd (i sid : Nat) (w : Bool) (hu : 0 < s.fuel) (hc : s.callers[i]? = some (.rdWait sid w)) :
      Step s (.envServe i) { s with fuel := s.fuel - 1, callers := s.callers.set i (.fin (.rd sid) .ok) }
  | envServeAcc (i : Nat) (hu : 0 < s.fuel) (hc : s.callers[i]? = some .accWait) (ha : s.ac = false) :
      Step s (.envServe i) { s with fuel := s.fuel - 1, callers := s.callers.set i (.fin .acc .ok) }
  | envServeWr (i : Nat) (hu : 0 < s.fuel) (hc : s.callers[i]? = some .wrWait) :
      Step s (.envServe i) { s with fuel := s.fuel - 1, callers := s.callers.set i .wrBegin }
  | rlReadErr (hr : s.rl = .reading) (hf : s.rdFail = true) : Step s .rlReadErr { s with rl := .defer 0, closeErr := some .transport }
  | rlData (hr : s.rl = .handling .data) (hl : s.lock = none) : Step s .rlHandle { s with rl := .reading, awake := true }
  | rlHsAgain (e : Bool) (hr : s.rl = .handling (.hsFinal e)) (hl : s.lock = none) (ht : s.hsTried = true) :
      Step s .rlHandle { s with rl := .reading }
  | rlHsFinal (e : Bool) (hr : s.rl = .handling (.hsFinal e)) (hl : s.lock = none) (ht : s.hsTried = false) :
      Step s .rlHandle { s with rl := .inCH e, hsTried := true, lock := some .rlCH }
  | rlAbort (c : String) (hr : s.rl = .handling (.abort c)) (hl : s.lock = none) :
      Step s .rlHandle { s.close with rl := .defer 0, closeErr := some (.abort c) }
  | rlResetGone (sid : Nat) (hr : s.rl = .handling (.reset sid)) (hl : s.lock = none)
      (hg : s.gone.contains sid = true ∨ s.unreg = true) : Step s .rlHandle { s with rl := .reading }
  | rlReset (sid : Nat) (hr : s.rl = .handling (.reset sid)) (hl : s.lock = none)
      (hg : s.gone.contains sid = false) (hu : s.unreg = false) :
      Step s .rlHandle { s with rl := .reading, gone := sid :: s.gone, callers := wakeReaders .all (fun x => x == sid) s.callers }
  | rlShutdownComplete (hr : s.rl = .handling .shutdownComplete) (hl : s.lock = none) :
      Step s .rlHandle { s.close with rl := .reading, sdAcked := true }
  | rlShutdownAck (hr : s.rl = .handling .shutdownAck) (hl : s.lock = none) :
      Step s .rlHandle { s with rl := .reading, sdAcked := true, awake := true }
  | rlCHsend (e client : Bool) (hr : s.rl = .inCH e) (hl : s.lock = some .rlCH) (hc : s.cn = .sel client) :
      Step s (.rlCH 0) { s with cn := .fin (if e then .err .handshake else .ok), hsDone := !e, lock := none, rl := .reading }
  | rlCHquit (arm : Nat) (e : Bool) (hr : s.rl = .inCH e) (hl : s.lock = some .rlCH)
      (hg : arm = 1 ∧ s.cw = true ∨ arm = 2 ∧ s.rc = true) : Step s (.rlCH arm) { s with lock := none, rl := .reading }
  | rlDefer0 (hr : s.rl = .defer 0) : Step s .rlDefer { s with cw := true, rl := .defer 1 }
  | rlDefer1 (hr : s.rl = .defer 1) (hl : s.lock = none) : Step s .rlDefer { s with lock := some .rlDefer, rl := .defer 2 }
  | rlDefer2 (hr : s.rl = .defer 2) : Step s .rlDefer { s with stClosed := true, notEst := true, rl := .defer 3 }
  | rlDefer3 (hr : s.rl = .defer 3) :
      Step s .rlDefer { s with unreg := true, callers := wakeReaders .all (fun sid => !s.gone.contains sid) s.callers, rl := .defer 4 }
  | rlDefer4 (hr : s.rl = .defer 4) : Step s .rlDefer { s with wn := true, rl := .defer 5 }
  | rlDefer5 (hr : s.rl = .defer 5) : Step s .rlDefer { s with lock := none, rl := .defer 6 }
  | rlDefer6 (hr : s.rl = .defer 6) : Step s .rlDefer { s with ac := true, rl := .defer 7 }
  | rlDefer7 (hr : s.rl = .defer 7) : Step s .rlDefer { s with rc := true, rl := .defer 8 }
  | rlDeferEnd (k : Nat) (hr : s.rl = .defer k) (hk : 8 ≤ k) : Step s .rlDefer { s with rl := .done }
  | wlGatherAbort (n : Nat) (f : Bool) (c : String) (hw : s.wl = .gather) (hl : s.lock = none) (ha : s.willAbort = some c) :
      Step s (.wlGather n f) { s with wl := .write 1 false true, willAbort := none, wireAbort := some c }
  | wlGather (n : Nat) (f : Bool) (hw : s.wl = .gather) (hl : s.lock = none) (ha : s.willAbort = none) (hn : n ≤ s.fuel) :
      Step s (.wlGather n f) { s with wl := .write n (!f) false, fuel := s.fuel - n }
  | wlWritten (ok ab : Bool) (hw : s.wl = .write 0 ok ab) : Step s .wlWrite { s with wl := if ok then .sel else .closing }
  | wlWriteFail (n : Nat) (ok ab : Bool) (hw : s.wl = .write (n+1) ok ab) (hg : s.conn = true ∨ s.wrFail = true) :
      Step s .wlWrite
        { s with abortSent := ab || s.abortSent, lateWrites := if s.conn then s.lateWrites + 1 else s.lateWrites, wl := .exit,
                 conn := true, rdFail := true, connCloses := if s.conn then s.connCloses else s.connCloses + 1 }
  | wlWrite (n : Nat) (ok ab : Bool) (hw : s.wl = .write (n+1) ok ab) (hc : s.conn = false) (hf : s.wrFail = false) :
      Step s .wlWrite { s with abortSent := ab || s.abortSent, wl := .write n ok ab }
  | wlSelAwake (hw : s.wl = .sel) (ha : s.awake = true) : Step s (.wlSel 0) { s with wl := .gather, awake := false }
  | wlSelCw (arm : Nat) (hw : s.wl = .sel) (ha : arm ≠ 0) (hc : s.cw = true) : Step s (.wlSel arm) { s with wl := .cwArm }
  | wlCwArm (hw : s.wl = .cwArm) (hl : s.lock = none) :
      Step s .wlCwArm { s with wl := if s.willAbort.isSome then .gather else .exit }
  | wlClosing (hw : s.wl = .closing) : Step s .wlClosing { s.close with wl := .done }
  | wlExit (hw : s.wl = .exit) : Step s .wlExit { s with stClosed := true, notEst := true, timersClosed := true, wl := .done }
  | tlExit (ht : s.tl = .sel) (hc : s.cw = true) : Step s .tlExit { s with tl := .done }
  | tlCb (ht : s.tl = .cb) (hl : s.lock = none) : Step s .tlCb { s with tl := .sel }
  | tcRunCH (ht : s.tc = .spawned true) (hl : s.lock = none) (hh : s.hsTried = false) :
      Step s .tcRun { s with tc := .inCH, hsTried := true, lock := some .tcCH }
  | tcRun (f : Bool) (ht : s.tc = .spawned f) (hl : s.lock = none) (hg : f = false ∨ s.hsTried = true) :
      Step s .tcRun { s with tc := .idle, awake := true }
  | tcCHsend (client : Bool) (ht : s.tc = .inCH) (hl : s.lock = some .tcCH) (hc : s.cn = .sel client) :
      Step s (.tcCH 0) { s with cn := .fin (.err .handshake), hsDone := false, lock := none, tc := .idle }
  | tcCHquit (arm : Nat) (ht : s.tc = .inCH) (hl : s.lock = some .tcCH) (hg : arm = 1 ∧ s.cw = true ∨ arm = 2 ∧ s.rc = true) :
      Step s (.tcCH arm) { s with lock := none, tc := .idle }
  | cnRc (client : Bool) (hc : s.cn = .sel client) (hr : s.rc = true) : Step s (.cn 0) { s with cn := .fin (.err .closedBeforeConn) }
  | cnCtx (arm : Nat) (hc : s.cn = .sel true) (ha : arm ≠ 0) (hx : s.ctxCancelled = true) : Step s (.cn arm) { s with cn := .closing 0 }
  | cnClose0 (arm : Nat) (hc : s.cn = .closing 0) : Step s (.cn arm) { s with stClosed := true, notEst := true, cn := .closing 1 }
  | cnClose1 (arm : Nat) (hc : s.cn = .closing 1) :
      Step s (.cn arm) { s with conn := true, rdFail := true, connCloses := if s.conn then s.connCloses else s.connCloses + 1, cn := .closing 2 }
  | cnClose2 (arm : Nat) (hc : s.cn = .closing 2) : Step s (.cn arm) { s with timersClosed := true, cn := .closing 3 }
  | cnClose3 (arm : Nat) (hc : s.cn = .closing 3) : Step s (.cn arm) { s with cw := true, cn := .closing 4 }
  | cnClose4 (arm : Nat) (hc : s.cn = .closing 4) (hr : s.rc = true) : Step s (.cn arm) { s with cn := .closing 5 }
  | cnCloseEnd (arm k : Nat) (hc : s.cn = .closing k) (hk : 5 ≤ k) : Step s (.cn arm) { s with cn := .fin (.err .ctx) }
  | callMove (i arm : Nat) (c c' : Caller) (hc : s.callers[i]? = some c) (hm : Move s arm c c') :
      Step s (.call i arm) { s with callers := s.callers.set i c' }
  | callWrite (i arm : Nat) (hc : s.callers[i]? = some .wrBegin) (hl : s.lock = none) (hn : s.notEst = false) (ha : arm ≠ 1) :
      Step s (.call i arm) { s with awake := true, callers := s.callers.set i (.fin .wr .ok) }
  | callShutdown (i arm : Nat) (hc : s.callers[i]? = some .shBegin) (hl : s.lock = none) (hn : s.notEst = false) :
      Step s (.call i arm) { s with notEst := true, awake := true, wn := true, callers := s.callers.set i .shWait }
  | callClose0 (i arm : Nat) (hc : s.callers[i]? = some (.cl 0)) :
      Step s (.call i arm) { s with stClosed := true, notEst := true, callers := s.callers.set i (.cl 1) }
  | callClose1 (i arm : Nat) (hc : s.callers[i]? = some (.cl 1)) :
      Step s (.call i arm) { s with conn := true, rdFail := true, connCloses := if s.conn then s.connCloses else s.connCloses + 1,
                                    callers := s.callers.set i (.cl 2) }
  | callClose2 (i arm : Nat) (hc : s.callers[i]? = some (.cl 2)) :
      Step s (.call i arm) { s with timersClosed := true, callers := s.callers.set i (.cl 3) }
  | callClose3 (i arm : Nat) (hc : s.callers[i]? = some (.cl 3)) :
      Step s (.call i arm) { s with cw := true, callers := s.callers.set i (.cl 4) }
  | callAbort0 (i arm : Nat) (c : String) (hc : s.callers[i]? = some (.ab c 0)) (hl : s.lock = none) :
      Step s (.call i arm) { s with willAbort := some c, callers := s.callers.set i (.ab c 1) }
  | callAbort2 (i arm : Nat) (c : String) (hc : s.callers[i]? = some (.ab c 2)) :
      Step s (.call i arm) { s with awake := true, callers := s.callers.set i (.ab c 3) }
  | callAbort4 (i arm : Nat) (c : String) (hc : s.callers[i]? = some (.ab c 4)) :
      Step s (.call i arm) { s with rdFail := true, callers := s.callers.set i (.ab c 5) }

theorem deferProg_none (k : Nat) (hk : 8 ≤ k) : E.deferProg[k]? = none := by
  obtain ⟨j, rfl⟩ := Nat.exists_eq_add_of_le' hk; rfl

theorem closeApi_none (k : Nat) (hk : 5 ≤ k) : E.closeApi[k]? = none := by
  obtain ⟨j, rfl⟩ := Nat.exists_eq_add_of_le' hk; rfl

theorem abortProg_none (k : Nat) (hk : 7 ≤ k) : E.abortProg[k]? = none := by
  obtain ⟨j, rfl⟩ := Nat.exists_eq_add_of_le' hk; rfl

theorem chArm_eq_some {s s1 : St} {e : Bool} {arm : Nat} (h : chArm E s e arm = some s1) :
    (arm = 0 ∧ ∃ client, s.cn = .sel client ∧ s1 = { s with cn := .fin (if e then .err .handshake else .ok), hsDone := !e, lock := none }) ∨
    ((arm = 1 ∧ s.cw = true ∨ arm = 2 ∧ s.rc = true) ∧ s1 = { s with lock := none }) := by
  unfold chArm at h
  split at h
  · split at h
    · rename_i client hc
      simp only [E, Choreo.expected, Bool.and_self, ite_self, ite_true, Option.some.injEq] at h
      exact .inl ⟨rfl, client, hc, h.symm⟩
    · cases h
  · simp only [E, Choreo.expected, Bool.true_and, Option.ite_none_right_eq_some, Option.some.injEq] at h
    exact .inr ⟨.inl ⟨rfl, h.1⟩, h.2.symm⟩
  · simp only [E, Choreo.expected, Bool.true_and, Option.ite_none_right_eq_some, Option.some.injEq] at h
    exact .inr ⟨.inr ⟨rfl, h.1⟩, h.2.symm⟩
  · cases h

theorem close_eq (s : St) : applyOps E s E.closeProg = s.close := rfl

theorem Step.of_step {s s' : St} {a : Act} (h : step E s a = some s') : Step s a s' := by
  cases a with
  | envPacket p =>
    simp only [step, Option.ite_none_right_eq_some, Option.some.injEq, Bool.and_eq_true, beq_iff_eq, Bool.not_eq_true',
      decide_eq_true_eq] at h
    obtain ⟨⟨⟨hr, hf⟩, hu⟩, rfl⟩ := h
    exact .envPacket p hr hf hu
  | envReadFail =>
    simp only [step, Option.ite_none_right_eq_some, Option.some.injEq, Bool.and_eq_true, Bool.not_eq_true', decide_eq_true_eq] at h
    obtain ⟨⟨hf, hu⟩, rfl⟩ := h
    exact .envReadFail hf hu
  | envWriteFail =>
    simp only [step, Option.ite_none_right_eq_some, Option.some.injEq, Bool.and_eq_true, Bool.not_eq_true', decide_eq_true_eq] at h
    obtain ⟨⟨hf, hu⟩, rfl⟩ := h
    exact .envWriteFail hf hu
  | envCtxCancel =>
    simp only [step, Option.ite_none_right_eq_some, Option.some.injEq, Bool.and_eq_true, Bool.not_eq_true', decide_eq_true_eq] at h
    obtain ⟨⟨hf, hu⟩, rfl⟩ := h
    exact .envCtxCancel hf hu
  | envFire f =>
    simp only [step, Option.ite_none_right_eq_some, Option.some.injEq, Bool.and_eq_true, beq_iff_eq, Bool.not_eq_true',
      decide_eq_true_eq] at h
    obtain ⟨⟨⟨ht, hc⟩, hu⟩, rfl⟩ := h
    exact .envFire f ht hc hu
  | envPoke =>
    simp only [step, Option.ite_none_right_eq_some, Option.some.injEq, Bool.and_eq_true, beq_iff_eq, decide_eq_true_eq] at h
    obtain ⟨⟨ht, hu⟩, rfl⟩ := h
    exact .envPoke ht hu
  | envDeadline sid =>
    simp only [step, E, Choreo.expected, Bool.true_or, ite_true, Option.ite_none_right_eq_some, Option.some.injEq] at h
    obtain ⟨hu, rfl⟩ := h
    exact .envDeadline sid hu
  | envStart i =>
    simp only [step] at h
    split at h
    · rename_i hg
      simp only [Bool.and_eq_true, decide_eq_true_eq] at hg
      split at h
      · rename_i k hk
        cases h
        exact .envStart i k hg.1 hg.2 hk
      · cases h
    · cases h
  | envServe i =>
    simp only [step] at h
    split at h
    · rename_i hu
      split at h
      · rename_i sid w hk
        cases h
        exact .envServeRd i sid w hu hk
      · rename_i hk
        split at h
        · cases h
        · rename_i hac
          cases h
          exact .envServeAcc i hu hk (by simpa using hac)
      · rename_i hk
        cases h
        exact .envServeWr i hu hk
      · cases h
    · cases h
  | rlReadErr =>
    simp only [step, Option.ite_none_right_eq_some, Option.some.injEq, Bool.and_eq_true, beq_iff_eq] at h
    obtain ⟨⟨hr, hf⟩, rfl⟩ := h
    exact .rlReadErr hr hf
  | rlHandle =>
    simp only [step] at h
    split at h
    · rename_i p hr
      split at h
      · rename_i hl
        rw [Option.isNone_iff_eq_none] at hl
        cases p with
        | data => cases h; exact .rlData hr hl
        | hsFinal e =>
          simp only at h
          split at h
          · rename_i ht; cases h; exact .rlHsAgain e hr hl ht
          · rename_i ht; cases h; exact .rlHsFinal e hr hl (by simpa using ht)
        | abort c => simp only [close_eq, Option.some.injEq] at h; subst h; exact .rlAbort c hr hl
        | reset sid =>
          simp only [E, Choreo.expected] at h
          split at h
          · rename_i hg; cases h; exact .rlResetGone sid hr hl (by simpa using hg)
          · rename_i hg
            simp only [Bool.or_eq_true, not_or, Bool.not_eq_true] at hg
            cases h; exact .rlReset sid hr hl hg.1 hg.2
        | shutdownComplete => simp only [close_eq, Option.some.injEq] at h; subst h; exact .rlShutdownComplete hr hl
        | shutdownAck => cases h; exact .rlShutdownAck hr hl
      · cases h
    · cases h
  | rlCH arm =>
    simp only [step] at h
    split at h
    · rename_i e hr
      split at h
      · rename_i hl
        obtain ⟨s1, h1, rfl⟩ := Option.map_eq_some_iff.mp h
        rcases chArm_eq_some h1 with ⟨rfl, client, hc, rfl⟩ | ⟨hg, rfl⟩
        · exact .rlCHsend e client hr (eq_of_beq hl) hc
        · exact .rlCHquit arm e hr (eq_of_beq hl) hg
      · cases h
    · cases h
  | rlDefer =>
    simp only [step] at h
    split at h
    · rename_i k hr
      rcases k with _|_|_|_|_|_|_|_|k
      · cases h; exact .rlDefer0 hr
      · simp only [E, Choreo.expected, List.getElem?_cons_succ, List.getElem?_cons_zero, execOp, Option.map_eq_some_iff,
          Option.ite_none_right_eq_some, Option.some.injEq] at h
        obtain ⟨s1, ⟨hl, rfl⟩, rfl⟩ := h
        exact .rlDefer1 hr (Option.isNone_iff_eq_none.mp hl)
      · cases h; exact .rlDefer2 hr
      · cases h; exact .rlDefer3 hr
      · cases h; exact .rlDefer4 hr
      · cases h; exact .rlDefer5 hr
      · cases h; exact .rlDefer6 hr
      · cases h; exact .rlDefer7 hr
      · rw [deferProg_none _ (by omega)] at h
        cases h; exact .rlDeferEnd _ hr (by omega)
    · cases h
  | wlGather n f =>
    simp only [step] at h
    split at h
    · rename_i hg
      simp only [Bool.and_eq_true, beq_iff_eq, Option.isNone_iff_eq_none] at hg
      split at h
      · rename_i c hc; cases h; exact .wlGatherAbort n f c hg.1 hg.2 hc
      · rename_i hc
        split at h
        · rename_i hn; cases h; exact .wlGather n f hg.1 hg.2 hc hn
        · cases h
    · cases h
  | wlWrite =>
    simp only [step] at h
    split at h
    · rename_i ok ab hw; cases h; exact .wlWritten ok ab hw
    · rename_i n ok ab hw
      simp only [E, Choreo.expected, applyOp, ite_true] at h
      split at h
      · rename_i hg
        simp only [Bool.or_eq_true] at hg
        cases ab <;> (cases h; exact .wlWriteFail n ok _ hw hg)
      · rename_i hg
        simp only [Bool.or_eq_true, not_or, Bool.not_eq_true] at hg
        cases ab <;> (cases h; exact .wlWrite n ok _ hw hg.1 hg.2)
    · cases h
  | wlSel arm =>
    simp only [step, E, Choreo.expected, Bool.true_and, ite_true] at h
    split at h
    · rename_i hw
      split at h
      · rename_i harm
        simp only [Option.ite_none_right_eq_some, Option.some.injEq] at h
        obtain ⟨hg, rfl⟩ := h
        cases eq_of_beq harm
        exact .wlSelAwake (eq_of_beq hw) hg
      · rename_i harm
        simp only [Option.ite_none_right_eq_some, Option.some.injEq] at h
        obtain ⟨hg, rfl⟩ := h
        exact .wlSelCw arm (eq_of_beq hw) (by simpa using harm) hg
    · cases h
  | wlCwArm =>
    simp only [step, Option.ite_none_right_eq_some, Option.some.injEq, Bool.and_eq_true, beq_iff_eq, Option.isNone_iff_eq_none] at h
    obtain ⟨⟨hw, hl⟩, rfl⟩ := h
    exact .wlCwArm hw hl
  | wlClosing =>
    simp only [step, close_eq, Option.ite_none_right_eq_some, Option.some.injEq, beq_iff_eq] at h
    obtain ⟨hw, rfl⟩ := h
    exact .wlClosing hw
  | wlExit =>
    simp only [step, Option.ite_none_right_eq_some, Option.some.injEq, beq_iff_eq] at h
    obtain ⟨hw, rfl⟩ := h
    exact .wlExit hw
  | tlExit =>
    simp only [step, E, Choreo.expected, Bool.and_true, Option.ite_none_right_eq_some, Option.some.injEq, Bool.and_eq_true,
      beq_iff_eq] at h
    obtain ⟨⟨ht, hc⟩, rfl⟩ := h
    exact .tlExit ht hc
  | tlCb =>
    simp only [step, Option.ite_none_right_eq_some, Option.some.injEq, Bool.and_eq_true, beq_iff_eq, Option.isNone_iff_eq_none] at h
    obtain ⟨⟨ht, hl⟩, rfl⟩ := h
    exact .tlCb ht hl
  | tcRun =>
    simp only [step] at h
    split at h
    · rename_i f ht
      split at h
      · rename_i hl
        rw [Option.isNone_iff_eq_none] at hl
        split at h
        · rename_i hg
          simp only [Bool.and_eq_true, Bool.not_eq_true'] at hg
          cases h; rw [hg.1] at ht; exact .tcRunCH ht hl hg.2
        · rename_i hg
          cases h
          refine .tcRun f ht hl ?_
          cases f <;> simp_all
      · cases h
    · cases h
  | tcCH arm =>
    simp only [step] at h
    split at h
    · rename_i hg
      simp only [Bool.and_eq_true, beq_iff_eq] at hg
      obtain ⟨s1, h1, rfl⟩ := Option.map_eq_some_iff.mp h
      rcases chArm_eq_some h1 with ⟨rfl, client, hc, rfl⟩ | ⟨hq, rfl⟩
      · exact .tcCHsend client hg.1 hg.2 hc
      · exact .tcCHquit arm hg.1 hg.2 hq
    · cases h
  | cn arm =>
    simp only [step] at h
    split at h
    · rename_i client hc
      split at h
      · rename_i harm
        cases eq_of_beq harm
        simp only [E, Choreo.expected, ite_self, Bool.true_and, Option.ite_none_right_eq_some, Option.some.injEq] at h
        obtain ⟨hr, rfl⟩ := h
        exact .cnRc client hc hr
      · rename_i harm
        simp only [E, Choreo.expected, Bool.and_true, Option.ite_none_right_eq_some, Option.some.injEq, Bool.and_eq_true] at h
        obtain ⟨⟨rfl, hx⟩, rfl⟩ := h
        exact .cnCtx arm hc (by simpa using harm) hx
    · rename_i k hc
      rcases k with _|_|_|_|_|k
      · cases h; exact .cnClose0 arm hc
      · cases h; exact .cnClose1 arm hc
      · cases h; exact .cnClose2 arm hc
      · cases h; exact .cnClose3 arm hc
      · simp only [E, Choreo.expected, List.getElem?_cons_succ, List.getElem?_cons_zero, execOp, Option.map_eq_some_iff,
          Option.ite_none_right_eq_some, Option.some.injEq] at h
        obtain ⟨s1, ⟨hr, rfl⟩, rfl⟩ := h
        exact .cnClose4 arm hc hr
      · rw [closeApi_none _ (by omega)] at h
        cases h; exact .cnCloseEnd arm _ hc (by omega)
    · cases h
  | call i arm =>
    simp only [step, callerStep] at h
    split at h
    · cases h
    · rename_i c hc
      cases c with
      | idle k => cases h
      | fin k r => cases h
      | rdWait sid w =>
        simp only [Option.ite_none_right_eq_some, Option.some.injEq, Bool.and_eq_true, Bool.not_eq_true'] at h
        obtain ⟨⟨rfl, hl⟩, rfl⟩ := h
        exact .callMove i arm _ _ hc (.rd sid hl)
      | wrBegin =>
        simp only at h
        split at h
        · rename_i hl
          rw [Option.isNone_iff_eq_none] at hl
          split at h
          · rename_i hn; cases h; exact .callMove i arm _ _ hc (.wrClosed hl hn)
          · rename_i hn
            simp only [Bool.not_eq_true] at hn
            split at h
            · rename_i ha; cases h; exact .callMove i arm _ _ hc (.wrBlock hl hn (eq_of_beq ha))
            · rename_i ha; cases h; exact .callWrite i arm hc hl hn (by simpa using ha)
        · cases h
      | wrWait =>
        simp only [E, Choreo.expected, Bool.true_and] at h
        split at h
        · rename_i ha
          simp only [Option.ite_none_right_eq_some, Option.some.injEq] at h
          obtain ⟨hw, rfl⟩ := h
          exact .callMove i arm _ _ hc (.wrRetry (eq_of_beq ha) hw)
        · rename_i ha
          simp only [Option.ite_none_right_eq_some, Option.some.injEq] at h
          obtain ⟨hx, rfl⟩ := h
          exact .callMove i arm _ _ hc (.wrCtx (by simpa using ha) hx)
      | accWait =>
        simp only [E, Choreo.expected, Bool.true_and, Option.ite_none_right_eq_some, Option.some.injEq] at h
        obtain ⟨ha, rfl⟩ := h
        exact .callMove i arm _ _ hc (.acc ha)
      | shBegin =>
        simp only at h
        split at h
        · rename_i hl
          rw [Option.isNone_iff_eq_none] at hl
          split at h
          · rename_i hn; cases h; exact .callMove i arm _ _ hc (.shClosed hl hn)
          · rename_i hn; cases h; exact .callShutdown i arm hc hl (by simpa using hn)
        · cases h
      | shWait =>
        simp only [E, Choreo.expected, Bool.true_and, ite_true] at h
        split at h
        · rename_i ha
          simp only [Option.ite_none_right_eq_some, Option.some.injEq, Option.isNone_iff_eq_none] at h
          obtain ⟨hw, hl, rfl⟩ := h
          exact .callMove i arm _ _ hc (.shDone (eq_of_beq ha) hw hl)
        · rename_i ha
          simp only [Option.ite_none_right_eq_some, Option.some.injEq] at h
          obtain ⟨hx, rfl⟩ := h
          exact .callMove i arm _ _ hc (.shCtx (by simpa using ha) hx)
      | cl k =>
        simp only at h
        rcases k with _|_|_|_|_|k
        · cases h; exact .callClose0 i arm hc
        · cases h; exact .callClose1 i arm hc
        · cases h; exact .callClose2 i arm hc
        · cases h; exact .callClose3 i arm hc
        · simp only [E, Choreo.expected, List.getElem?_cons_succ, List.getElem?_cons_zero, execOp, Option.map_eq_some_iff,
            Option.ite_none_right_eq_some, Option.some.injEq] at h
          obtain ⟨s1, ⟨hr, rfl⟩, rfl⟩ := h
          exact .callMove i arm _ _ hc (.cl4 hr)
        · rw [closeApi_none _ (by omega)] at h
          cases h; exact .callMove i arm _ _ hc (.clEnd _ (by omega))
      | ab c k =>
        simp only at h
        rcases k with _|_|_|_|_|_|_|k
        · simp only [E, Choreo.expected, List.getElem?_cons_zero, execOp, Option.map_eq_some_iff,
            Option.ite_none_right_eq_some, Option.some.injEq, Option.isNone_iff_eq_none] at h
          obtain ⟨s1, ⟨hl, rfl⟩, rfl⟩ := h
          exact .callAbort0 i arm c hc hl
        · cases h; exact .callMove i arm _ _ hc (.ab1 c)
        · cases h; exact .callAbort2 i arm c hc
        · cases h; exact .callMove i arm _ _ hc (.ab3 c)
        · cases h; exact .callAbort4 i arm c hc
        · simp only [E, Choreo.expected, List.getElem?_cons_succ, List.getElem?_cons_zero, execOp, Option.map_eq_some_iff,
            Option.ite_none_right_eq_some, Option.some.injEq] at h
          obtain ⟨s1, ⟨hr, rfl⟩, rfl⟩ := h
          exact .callMove i arm _ _ hc (.ab5 c hr)
        · cases h; exact .callMove i arm _ _ hc (.ab6 c)
        · rw [abortProg_none _ (by omega)] at h
          cases h; exact .callMove i arm _ _ hc (.abEnd c _ (by omega))

theorem Step.enabled {s s' : St} {a : Act} (h : Step s a s') : step E s a = some s' := by
  cases h with
  | callMove i arm c c' hc hm =>
    cases hm <;> simp_all [step, callerStep, execOp, applyOp, E, Choreo.expected, setCaller]
  | rlCHquit arm e hr hl hg => rcases hg with ⟨rfl, h⟩ | ⟨rfl, h⟩ <;> simp [step, chArm, E, Choreo.expected, hr, hl, h]
  | tcCHquit arm ht hl hg => rcases hg with ⟨rfl, h⟩ | ⟨rfl, h⟩ <;> simp [step, chArm, E, Choreo.expected, ht, hl, h]
  | wlWriteFail n ok ab hw hg => cases ab <;> rcases hg with h | h <;> simp [step, applyOp, E, Choreo.expected, hw, h]
  | wlWrite n ok ab hw hc hf => cases ab <;> simp [step, hw, hc, hf]
  | tcRun f ht hl hg => rcases hg with rfl | h <;> simp [step, *]
  | _ =>
    simp_all [step, chArm, callerStep, execOp, applyOp, E, Choreo.expected, setCaller, St.close, applyOps]

theorem step_iff {s s' : St} {a : Act} : step E s a = some s' ↔ Step s a s' := ⟨Step.of_step, Step.enabled⟩

end Conc
