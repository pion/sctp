import SctpVerif.Proofs.Teardown.Rules
/-!
The inductive invariant of the `Teardown` system under the expected choreography, in groups over the fields they read, and
its preservation by every rule.
-/
namespace Conc

/-! Each group speaks about few fields of the state, given as arguments: a step that leaves those fields alone keeps the group
by definitional unfolding of the record update, and the program points enter only through `prog`, `rlHolds`, `tcHolds`,
`wlOut`, so that a move between points of the same class is a rewrite of the program point. -/

/-- how far `readLoop` has come on its way out: `k + 1` before statement `k` of the deferred block.

The positions of the eight statements of `Choreo.expected.deferProg` are numeric literals here and in `rlHolds` (lock held
from after statement 1 to statement 5), the thresholds of `DeferInv`, `DeferInv.next`, `rlP` (`Measure.lean`), the rules
`Step.rlDefer0` … `rlDeferEnd` and `deferProg_none` (`Rules.lean`), and the `rcases k` splits of `Step.of_step`,
`blocked_lock_free` and `blocked_shapes`. Likewise the five statements of `closeApi` (`HsInv`, `callerInv`, `HsInv.closeNext`,
`cnP`, `callerP`) and the seven of `abortProg` (`callerInv`, `callerP`). -/
def prog : RL → Nat
  | .defer k => k + 1
  | .done => 9
  | _ => 0

/-- the holder of `a.lock` that `readLoop`'s program point stands for -/
def rlHolds : RL → Option Holder
  | .inCH _ => some .rlCH
  | .defer k => if 2 ≤ k ∧ k ≤ 5 then some .rlDefer else none
  | _ => none

def tcHolds : TC → Bool
  | .inCH => true
  | _ => false

def wlOut : WL → Bool
  | .exit | .done => true
  | _ => false

theorem wlOut_iff {w : WL} : wlOut w = true ↔ w = .exit ∨ w = .done := by
  cases w <;> simp [wlOut]

def hsRes (r : Res) : Bool := r == .ok || r == .err .handshake

def leaving (s : St) : Bool := match s.rl with | .defer _ | .done => true | _ => false

/-- `a.lock` is held by whoever stands inside a critical section that blocks, and by at most one of them -/
structure LockInv (lock rh : Option Holder) (th : Bool) : Prop where
  eq : lock = rh.or (if th then some .tcCH else none)
  excl : rh.isSome = true → th = false

/-- the deferred block sets its flags in order (`p` = `prog`), and `unreg`, `ac`, `rc` are set by nobody else -/
structure DeferInv (p : Nat) (cw sc ne un wn ac rc ce : Bool) : Prop where
  le : p ≤ 9
  err : 1 ≤ p → ce = true
  cwSet : 2 ≤ p → cw = true
  closed : 4 ≤ p → sc = true ∧ ne = true
  unreg : un = true ↔ 5 ≤ p
  wnSet : 6 ≤ p → wn = true
  acIff : ac = true ↔ 8 ≤ p
  rcIff : rc = true ↔ 9 ≤ p
  wn_ne : wn = true → ne = true
  sc_ne : sc = true → ne = true

structure TransInv (conn rdFail : Bool) (connCloses lateWrites : Nat) (out : Bool) : Prop where
  cf : conn = true → rdFail = true
  cc : connCloses = if conn then 1 else 0
  lw : lateWrites = 0 ∨ (lateWrites = 1 ∧ out = true)

/-- the hand-over of the handshake result to the constructor, and the constructor's own `Close()` -/
structure HsInv (lock : Option Holder) (hsTried hsDone : Bool) (cn : CN) (conn cw rc : Bool) : Prop where
  busy : lock = some .rlCH ∨ lock = some .tcCH → hsTried = true
  ctor : match cn with
    | .sel _ => hsDone = false
    | .closing k => hsDone = false ∧ (2 ≤ k → conn = true) ∧ (4 ≤ k → cw = true) ∧ (5 ≤ k → rc = true) ∧ k ≤ 5
    | .fin r =>
      (hsDone = true → r = .ok) ∧
      if hsRes r then hsTried = true ∧ lock ≠ some .rlCH ∧ lock ≠ some .tcCH
      else rc = true ∧ (r = .err .closedBeforeConn ∨ (r = .err .ctx ∧ conn = true))

def callerInv (unreg : Bool) (gone : List Nat) (conn cw rdFail : Bool) : Caller → Bool
  | .rdWait sid w => !(unreg || gone.contains sid) || w
  | .cl k => (k < 2 || conn) && (k < 4 || cw) && k ≤ 5
  | .ab _ k => (k < 5 || rdFail) && k ≤ 7
  | _ => true

structure Inv (s : St) : Prop where
  lk : LockInv s.lock (rlHolds s.rl) (tcHolds s.tc)
  df : DeferInv (prog s.rl) s.cw s.stClosed s.notEst s.unreg s.wn s.ac s.rc s.closeErr.isSome
  tr : TransInv s.conn s.rdFail s.connCloses s.lateWrites (wlOut s.wl)
  hs : HsInv s.lock s.hsTried s.hsDone s.cn s.conn s.cw s.rc
  lost : s.lost = []
  cs : ∀ c ∈ s.callers, callerInv s.unreg s.gone s.conn s.cw s.rdFail c = true

section
variable {l l' rh : Option Holder} {x : Holder} {cn : CN} {p k cc lw : Nat}
  {th t d c rf o o' conn cw rc conn' cw' rc' sc ne un wn ac ce client : Bool}

theorem LockInv.free (h : LockInv none rh th) : rh = none ∧ th = false := by
  obtain ⟨h1, _⟩ := h
  cases rh <;> cases th <;> simp_all

theorem LockInv.acquireRl (h : LockInv none rh th) (x : Holder) : LockInv (some x) (some x) th :=
  ⟨rfl, fun _ => h.free.2⟩

theorem LockInv.acquireTc (h : LockInv none rh th) : LockInv (some .tcCH) rh true := by
  rw [h.free.1]; exact ⟨rfl, nofun⟩

theorem LockInv.releaseRl (h : LockInv l (some x) th) : LockInv none none th := by
  rw [h.excl rfl]; exact ⟨rfl, nofun⟩

theorem LockInv.releaseTc (h : LockInv l rh true) : LockInv none rh false := by
  cases rh with
  | none => exact ⟨rfl, nofun⟩
  | some x => cases h.excl rfl

theorem DeferInv.enter (h : DeferInv 0 cw sc ne un wn ac rc ce) :
    DeferInv 1 cw sc ne un wn ac rc true := by
  obtain ⟨_, _, _, _, h5, _, h7, h8, h9, h10⟩ := h
  exact ⟨by omega, fun _ => rfl, by omega, by omega, by simpa using h5, by omega, by simpa using h7, by simpa using h8, h9, h10⟩

/-- statement `p - 1` of the deferred block: which flag it sets. Each threshold of `DeferInv` is one more than the `p` at
which its flag is set here, so the clause that becomes due at `p + 1` is the one just made true. -/
theorem DeferInv.next (h : DeferInv p cw sc ne un wn ac rc ce) (h1 : 1 ≤ p := by decide) (h9 : p < 9 := by decide) :
    DeferInv (p + 1) (p == 1 || cw) (p == 3 || sc) (p == 3 || ne) (p == 4 || un) (p == 5 || wn) (p == 7 || ac) (p == 8 || rc) ce := by
  obtain ⟨_, h2, h3, h4, h5, h6, h7, h8, h9, h10⟩ := h
  constructor <;> grind

theorem DeferInv.setCw (h : DeferInv p cw sc ne un wn ac rc ce) :
    DeferInv p true sc ne un wn ac rc ce :=
  { h with cwSet := fun _ => rfl }

theorem DeferInv.setClosed (h : DeferInv p cw sc ne un wn ac rc ce) :
    DeferInv p cw true true un wn ac rc ce :=
  { h with closed := fun _ => ⟨rfl, rfl⟩, wn_ne := fun _ => rfl, sc_ne := fun _ => rfl }

/-- `Shutdown` leaves the established state and releases the blocked writers -/
theorem DeferInv.shutdown (h : DeferInv p cw sc ne un wn ac rc ce) :
    DeferInv p cw sc true un true ac rc ce :=
  { h with closed := fun hp => ⟨(h.closed hp).1, rfl⟩, wnSet := fun _ => rfl, wn_ne := fun _ => rfl, sc_ne := fun _ => rfl }

theorem TransInv.fail (h : TransInv c rf cc lw o) : TransInv c true cc lw o :=
  { h with cf := fun _ => rfl }

theorem TransInv.close (h : TransInv c rf cc lw o) :
    TransInv true true (if c then cc else cc + 1) lw o := by
  refine ⟨fun _ => rfl, ?_, h.lw⟩
  have := h.cc
  cases c <;> simp_all

theorem TransInv.out (h : TransInv c rf cc lw o) (ho : o = true → o' = true) : TransInv c rf cc lw o' :=
  { h with lw := h.lw.imp_right fun ⟨h1, h2⟩ => ⟨h1, ho h2⟩ }

/-- the one write that may follow `netConn.Close()`: it fails, and `writeLoop` leaves -/
theorem TransInv.lateWrite (h : TransInv c rf cc lw false) :
    TransInv true true (if c then cc else cc + 1) (if c then lw + 1 else lw) true := by
  have h0 : lw = 0 := h.lw.resolve_right (by simp)
  refine ⟨fun _ => rfl, h.close.cc, ?_⟩
  cases c <;> simp [h0]

theorem HsInv.mono (h : HsInv l t d cn conn cw rc)
    (h1 : conn = true → conn' = true) (h2 : cw = true → cw' = true) (h3 : rc = true → rc' = true) : HsInv l t d cn conn' cw' rc' := by
  refine ⟨h.busy, ?_⟩
  have := h.ctor
  cases cn with
  | sel c => exact this
  | closing k => exact ⟨this.1, fun hk => h1 (this.2.1 hk), fun hk => h2 (this.2.2.1 hk), fun hk => h3 (this.2.2.2.1 hk), this.2.2.2.2⟩
  | fin r =>
    refine ⟨this.1, ?_⟩
    have := this.2
    split at this
    · rwa [if_pos ‹_›]
    · rw [if_neg ‹_›]; exact ⟨h3 this.1, this.2.imp_right fun ⟨a, b⟩ => ⟨a, h1 b⟩⟩

/-- raising those of `conn`, `cw`, `rc` for which `true` is given keeps the group -/
theorem HsInv.raise (h : HsInv l t d cn conn cw rc) (a b e : Bool) : HsInv l t d cn (a || conn) (b || cw) (e || rc) :=
  h.mono (fun x => by simp [x]) (fun x => by simp [x]) (fun x => by simp [x])

/-- `a.lock` passes to or from somebody who is not inside `completeHandshake` -/
theorem HsInv.relock (h : HsInv l t d cn conn cw rc)
    (h1 : l' ≠ some .rlCH) (h2 : l' ≠ some .tcCH) : HsInv l' t d cn conn cw rc := by
  refine ⟨fun hl => by simp_all, ?_⟩
  have := h.ctor
  cases cn with
  | sel c => exact this
  | closing k => exact this
  | fin r =>
    refine ⟨this.1, ?_⟩
    have := this.2
    split at this
    · rw [if_pos ‹_›]; exact ⟨this.1, h1, h2⟩
    · rwa [if_neg ‹_›]

/-- the first (and only) attempt at `completeHandshake` takes `a.lock` -/
theorem HsInv.enterCH (h : HsInv none false d cn conn cw rc) :
    HsInv l true d cn conn cw rc := by
  refine ⟨fun _ => rfl, ?_⟩
  have := h.ctor
  cases cn with
  | sel c => exact this
  | closing k => exact this
  | fin r =>
    refine ⟨this.1, ?_⟩
    have := this.2
    split at this
    · cases this.1
    · rwa [if_neg ‹_›]

/-- `completeHandshake` hands its result to the constructor waiting in its select -/
theorem HsInv.send (h : HsInv l t d (.sel client) conn cw rc)
    (hl : l = some .rlCH ∨ l = some .tcCH) (e : Bool) :
    HsInv none t (!e) (.fin (if e then .err .handshake else .ok)) conn cw rc := by
  have ht := h.busy hl
  refine ⟨nofun, ?_⟩
  cases e
  · exact ⟨fun _ => rfl, ht, nofun, nofun⟩
  · exact ⟨nofun, ht, nofun, nofun⟩

/-- the constructor, still waiting in its select, sees `readLoopCloseCh` closed -/
theorem HsInv.closedBeforeConn (h : HsInv l t d (.sel client) conn cw rc)
    (hr : rc = true) : HsInv l t d (.fin (.err .closedBeforeConn)) conn cw rc :=
  ⟨h.busy, .intro (fun hd => by rw [h.ctor] at hd; cases hd) ⟨hr, .inl rfl⟩⟩

theorem HsInv.closeEnter (h : HsInv l t d (.sel client) conn cw rc) :
    HsInv l t d (.closing 0) conn cw rc :=
  ⟨h.busy, h.ctor, nofun, nofun, nofun, Nat.zero_le _⟩

/-- statement `k` of the constructor's `Close()`: which flag it sets or waits for -/
theorem HsInv.closeNext (h : HsInv l t d (.closing k) conn cw rc) (hrc : k = 4 → rc = true) (hk : k < 5 := by decide) :
    HsInv l t d (.closing (k + 1)) (k == 1 || conn) (k == 3 || cw) rc := by
  obtain ⟨hb, hd, h2, h4, h5, _⟩ := h
  refine ⟨hb, hd, ?_, ?_, ?_, hk⟩ <;> grind

theorem HsInv.closeEnd (h : HsInv l t d (.closing k) conn cw rc) (hk : 5 ≤ k) :
    HsInv l t d (.fin (.err .ctx)) conn cw rc := by
  obtain ⟨hb, hd, h2, _, h5, _⟩ := h
  exact ⟨hb, .intro (fun hd' => by rw [hd] at hd'; cases hd') ⟨h5 hk, .inr ⟨rfl, h2 (by omega)⟩⟩⟩

end

theorem callerInv_mono {u : Bool} {g : List Nat} {c0 w0 r0 c1 w1 r1 : Bool} (h1 : c0 = true → c1 = true) (h2 : w0 = true → w1 = true)
    (h3 : r0 = true → r1 = true) (c : Caller) (h : callerInv u g c0 w0 r0 c = true) : callerInv u g c1 w1 r1 c = true := by
  cases c <;> simp_all [callerInv] <;> grind

/-- raising those of `conn`, `cw`, `rdFail` for which `true` is given keeps the callers' invariant (as `HsInv.raise`) -/
theorem callers_raise {cs : List Caller} {u : Bool} {g : List Nat} {c0 w0 r0 : Bool}
    (h : ∀ c ∈ cs, callerInv u g c0 w0 r0 c = true) (a b d : Bool) :
    ∀ c ∈ cs, callerInv u g (a || c0) (b || w0) (d || r0) c = true :=
  fun c hc => callerInv_mono (fun e => by simp [e]) (fun e => by simp [e]) (fun e => by simp [e]) c (h c hc)

theorem callers_set {cs : List Caller} {P : Caller → Prop} (h : ∀ c ∈ cs, P c) (i : Nat) {c' : Caller} (h' : P c') :
    ∀ c ∈ cs.set i c', P c := by
  intro c hc
  rcases List.mem_or_eq_of_mem_set hc with hc | rfl
  · exact h c hc
  · exact h'

def wake1 (sel : Nat → Bool) : Caller → Caller
  | .rdWait sid false => if sel sid then .rdWait sid true else .rdWait sid false
  | c => c

theorem wakeReaders_all (sel : Nat → Bool) (cs : List Caller) : wakeReaders .all sel cs = cs.map (wake1 sel) := by
  induction cs with
  | nil => rfl
  | cons c cs ih =>
    cases c with
    | rdWait sid w =>
      cases w with
      | false => simp only [wakeReaders, List.map_cons, wake1]; split <;> simp [ih]
      | true => simp [wakeReaders, wake1, ih]
    | _ => simp [wakeReaders, wake1, ih]

theorem wakeReaders_length (m : Wake) (sel : Nat → Bool) (cs : List Caller) : (wakeReaders m sel cs).length = cs.length := by
  induction cs generalizing sel with
  | nil => rfl
  | cons c cs ih =>
    cases c with
    | rdWait sid w =>
      cases w with
      | false => simp only [wakeReaders]; split <;> (try cases m) <;> simp [ih]
      | true => simp [wakeReaders, ih]
    | _ => simp [wakeReaders, ih]

/-- a Broadcast that reaches every stream which gets its terminal error now keeps the readers' invariant -/
theorem callers_wake {cs : List Caller} {u u' : Bool} {g g' : List Nat} {cn cw rf : Bool} (sel : Nat → Bool)
    (h : ∀ c ∈ cs, callerInv u g cn cw rf c = true)
    (hsel : ∀ sid, (u' || g'.contains sid) = true → (u || g.contains sid) = true ∨ sel sid = true) :
    ∀ c ∈ wakeReaders .all sel cs, callerInv u' g' cn cw rf c = true := by
  intro c hc
  rw [wakeReaders_all, List.mem_map] at hc
  obtain ⟨c0, hc0, rfl⟩ := hc
  have h0 := h c0 hc0
  cases c0 with
  | rdWait x w =>
    cases w with
    | true => simp [wake1, callerInv]
    | false =>
      simp only [wake1]
      split
      · simp [callerInv]
      · rename_i hs
        have := hsel x
        simp_all [callerInv]
  | _ => exact h0

theorem Move.inv {s : St} {arm : Nat} {c c' : Caller} (hm : Move s arm c c')
    (h : callerInv s.unreg s.gone s.conn s.cw s.rdFail c = true) : callerInv s.unreg s.gone s.conn s.cw s.rdFail c' = true := by
  cases hm <;> simp_all [callerInv]

/-- Each rule names the groups it touches; the others are kept by unfolding the record update. -/
theorem Step.inv {s s' : St} {a : Act} (hi : Inv s) (h : Step s a s') : Inv s' := by
  obtain ⟨lk, df, tr, hs, lost, cs⟩ := hi
  cases h with
  | envPacket _ hr | rlData hr | rlHsAgain _ hr | rlResetGone _ hr | rlShutdownAck hr =>
    rw [hr] at lk df; exact ⟨lk, df, tr, hs, lost, cs⟩
  | envReadFail => exact ⟨lk, df, tr.fail, hs, lost, callers_raise cs false false true⟩
  | envWriteFail | envCtxCancel | envPoke | envDeadline | tlExit | tlCb =>
    exact ⟨lk, df, tr, hs, lost, cs⟩
  | envFire _ ht | tcRun _ ht =>
    rw [ht] at lk; exact ⟨lk, df, tr, hs, lost, cs⟩
  | envStart i k =>
    refine ⟨lk, df, tr, hs, lost, callers_set cs i ?_⟩
    cases k with
    | rd sid => exact Bool.not_or_self _
    | _ => rfl
  | envServeRd i | envServeAcc i | envServeWr i | callWrite i | callAbort0 i | callAbort2 i =>
    exact ⟨lk, df, tr, hs, lost, callers_set cs i rfl⟩
  | rlReadErr hr => rw [hr] at lk df; exact ⟨lk, df.enter, tr, hs, lost, cs⟩
  | rlHsFinal _ hr hl ht =>
    rw [hr] at df; rw [hl] at lk hs; rw [ht] at hs
    exact ⟨lk.acquireRl .rlCH, df, tr, hs.enterCH, lost, cs⟩
  | rlAbort _ hr =>
    rw [hr] at lk df
    exact ⟨lk, df.setClosed.setCw.enter, tr.close, hs.raise true true false, lost, callers_raise cs true true true⟩
  | rlReset _ hr =>
    rw [hr] at lk df
    refine ⟨lk, df, tr, hs, lost, callers_wake _ cs fun x hx => ?_⟩
    simp only [List.contains_cons, Bool.or_eq_true] at hx ⊢
    rcases hx with hx | hx | hx
    · exact .inl (.inl hx)
    · exact .inr hx
    · exact .inl (.inr hx)
  | rlShutdownComplete hr =>
    rw [hr] at lk df
    exact ⟨lk, df.setClosed.setCw, tr.close, hs.raise true true false, lost, callers_raise cs true true true⟩
  | rlCHsend e _ hr hl hc =>
    rw [hr] at lk df; rw [hc] at hs
    exact ⟨lk.releaseRl, df, tr, hs.send (.inl hl) e, lost, cs⟩
  | rlCHquit _ _ hr =>
    rw [hr] at lk df
    exact ⟨lk.releaseRl, df, tr, hs.relock nofun nofun, lost, cs⟩
  | rlDefer0 hr =>
    rw [hr] at lk df
    exact ⟨lk, df.next, tr, hs.raise false true false, lost, callers_raise cs false true false⟩
  | rlDefer1 hr hl =>
    rw [hr] at lk df; rw [hl] at lk
    exact ⟨lk.acquireRl .rlDefer, df.next, tr, hs.relock nofun nofun, lost, cs⟩
  | rlDefer2 hr | rlDefer4 hr | rlDefer6 hr =>
    rw [hr] at lk df; exact ⟨lk, df.next, tr, hs, lost, cs⟩
  | rlDefer3 hr =>
    rw [hr] at lk df
    refine ⟨lk, df.next, tr, hs, lost, callers_wake _ cs fun x _ => ?_⟩
    cases s.gone.contains x <;> simp
  | rlDefer5 hr =>
    rw [hr] at lk df
    exact ⟨lk.releaseRl, df.next, tr, hs.relock nofun nofun, lost, cs⟩
  | rlDefer7 hr =>
    rw [hr] at lk df
    exact ⟨lk, df.next, tr, hs.raise false false true, lost, cs⟩
  | rlDeferEnd k hr =>
    rw [hr] at lk df
    obtain rfl : k = 8 := by have := df.le; simp only [prog] at this; omega
    exact ⟨lk, df, tr, hs, lost, cs⟩
  | wlGatherAbort _ _ _ hw | wlGather _ _ hw | wlWrite _ _ _ hw | wlSelAwake hw | wlSelCw _ hw =>
    rw [hw] at tr; exact ⟨lk, df, tr, hs, lost, cs⟩
  | wlWritten _ _ hw | wlCwArm hw =>
    rw [hw] at tr; exact ⟨lk, df, tr.out nofun, hs, lost, cs⟩
  | wlWriteFail _ _ _ hw =>
    rw [hw] at tr
    exact ⟨lk, df, tr.lateWrite, hs.raise true false false, lost, callers_raise cs true false true⟩
  | wlClosing hw =>
    rw [hw] at tr
    exact ⟨lk, df.setClosed.setCw, (tr.out nofun).close, hs.raise true true false, lost,
      callers_raise cs true true true⟩
  | wlExit hw => rw [hw] at tr; exact ⟨lk, df.setClosed, tr, hs, lost, cs⟩
  | tcRunCH _ hl hh =>
    rw [hl] at lk hs; rw [hh] at hs
    exact ⟨lk.acquireTc, df, tr, hs.enterCH, lost, cs⟩
  | tcCHsend _ ht hl hc =>
    rw [ht] at lk; rw [hc] at hs
    exact ⟨lk.releaseTc, df, tr, hs.send (.inr hl) true, lost, cs⟩
  | tcCHquit _ ht =>
    rw [ht] at lk
    exact ⟨lk.releaseTc, df, tr, hs.relock nofun nofun, lost, cs⟩
  | cnRc _ hc hr => rw [hc] at hs; exact ⟨lk, df, tr, hs.closedBeforeConn hr, lost, cs⟩
  | cnCtx _ hc => rw [hc] at hs; exact ⟨lk, df, tr, hs.closeEnter, lost, cs⟩
  | cnClose0 _ hc =>
    rw [hc] at hs
    exact ⟨lk, df.setClosed, tr, hs.closeNext (by simp), lost, cs⟩
  | cnClose1 _ hc =>
    rw [hc] at hs
    exact ⟨lk, df, tr.close, hs.closeNext (by simp), lost, callers_raise cs true false true⟩
  | cnClose2 _ hc => rw [hc] at hs; exact ⟨lk, df, tr, hs.closeNext (by simp), lost, cs⟩
  | cnClose3 _ hc =>
    rw [hc] at hs
    exact ⟨lk, df.setCw, tr, hs.closeNext (by simp), lost, callers_raise cs false true false⟩
  | cnClose4 _ hc hr => rw [hc] at hs; exact ⟨lk, df, tr, hs.closeNext fun _ => hr, lost, cs⟩
  | cnCloseEnd _ _ hc hk => rw [hc] at hs; exact ⟨lk, df, tr, hs.closeEnd hk, lost, cs⟩
  | callMove i _ c _ hc hm =>
    exact ⟨lk, df, tr, hs, lost, callers_set cs i (hm.inv (cs c (List.mem_of_getElem? hc)))⟩
  | callShutdown i => exact ⟨lk, df.shutdown, tr, hs, lost, callers_set cs i rfl⟩
  | callClose0 i => exact ⟨lk, df.setClosed, tr, hs, lost, callers_set cs i rfl⟩
  | callClose1 i =>
    exact ⟨lk, df, tr.close, hs.raise true false false, lost, callers_set (callers_raise cs true false true) i rfl⟩
  | callClose2 i _ hc =>
    have := cs _ (List.mem_of_getElem? hc)
    exact ⟨lk, df, tr, hs, lost, callers_set cs i (by simpa [callerInv] using this)⟩
  | callClose3 i _ hc =>
    have := cs _ (List.mem_of_getElem? hc)
    exact ⟨lk, df.setCw, tr, hs.raise false true false, lost,
      callers_set (callers_raise cs false true false) i (by simpa [callerInv] using this)⟩
  | callAbort4 i =>
    exact ⟨lk, df, tr.fail, hs, lost, callers_set (callers_raise cs false false true) i rfl⟩

theorem inv_step (s s' : St) (a : Act) (hi : Inv s) (h : step E s a = some s') : Inv s' :=
  (Step.of_step h).inv hi

theorem inv_init (cs : List Caller) (fuel : Nat) (client : Bool) (hcs : ∀ c ∈ cs, ∃ k, c = .idle k) :
    Inv { callers := cs, fuel := fuel, cn := .sel client } := by
  refine ⟨⟨rfl, nofun⟩, ⟨by simp [prog], nofun, nofun, nofun, by simp [prog], nofun, by simp [prog], by simp [prog], nofun, nofun⟩,
    ⟨nofun, rfl, .inl rfl⟩, ⟨nofun, rfl⟩, rfl, fun c hc => ?_⟩
  obtain ⟨k, rfl⟩ := hcs c hc
  rfl

theorem inv_run (s s' : St) (as : List Act) (hi : Inv s) (h : run E s as = some s') : Inv s' := by
  induction as generalizing s with
  | nil => cases h; exact hi
  | cons a as ih =>
    simp only [run] at h
    split at h
    · rename_i s1 h1
      exact ih s1 (inv_step s s1 a hi h1) h
    · cases h

end Conc
