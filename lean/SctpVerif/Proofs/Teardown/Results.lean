import SctpVerif.Proofs.Teardown.Measure
import SctpVerif.Proofs.Teardown.Progress
/-!
A teardown, once set off, stays set off (`Step.trig`, `trig_run`); what callers get (`call_result`); the late write, what an
`Abort` puts on the wire and what an inbound ABORT leaves as close error (`write_after_close_fails`, `gather_abort`,
`handle_abort`, `closeErr_stable`); the terminal read error is sticky (`terminal_sticky`); `Close` on a closed association
(`Closed`, `close_again`); who raises the completion flag of `Shutdown` (`sdAcked_only_by_peer`).
-/
namespace Conc

theorem any_active_wakeAll (sel : Nat → Bool) (cs : List Caller) :
    (wakeReaders .all sel cs).any Caller.active = cs.any Caller.active := by
  have : ∀ c, (wake1 sel c).active = c.active := fun c => by
    unfold wake1
    split
    · split <;> rfl
    · rfl
  simp only [wakeReaders_all, List.any_map, Function.comp_def, this]

theorem any_active_set {cs : List Caller} {i : Nat} {c c' : Caller} (h : cs[i]? = some c)
    (hc : c.active = false ∨ c'.active = true) (ha : cs.any Caller.active = true) : (cs.set i c').any Caller.active = true := by
  induction cs generalizing i with
  | nil => simp at ha
  | cons x xs ih =>
    cases i with
    | zero =>
      simp at h; subst h
      simp only [List.set_cons_zero, List.any_cons, Bool.or_eq_true] at *
      rcases hc with hc | hc
      · rw [hc] at ha; simp only [Bool.false_eq_true, false_or] at ha; exact Or.inr ha
      · exact Or.inl hc
    | succ i =>
      simp at h
      simp only [List.set_cons_succ, List.any_cons, Bool.or_eq_true] at *
      rcases ha with ha | ha
      · exact Or.inl ha
      · exact Or.inr (ih h ha)

theorem Move.active {s : St} {arm : Nat} {c c' : Caller} (hm : Move s arm c c') (hi : Inv s)
    (h : callerInv s.unreg s.gone s.conn s.cw s.rdFail c = true) : c.active = false ∨ c'.active = true ∨ s.rdFail = true := by
  have := hi.tr.cf
  cases hm <;> simp_all [Caller.active, callerInv] <;> grind

/-! `triggered` is a disjunction over the transport, `readLoop`, `writeLoop`, the constructor and the callers; a rule either makes
one of them true or leaves alone whichever was. -/

def rlTrig : RL → Bool
  | .defer _ | .done | .handling (.abort _) | .handling .shutdownComplete => true
  | _ => false

def wlTrig (wrFail : Bool) : WL → Bool
  | .closing => true
  | .write (_+1) _ _ => wrFail
  | _ => false

def cnTrig : CN → Bool
  | .closing _ => true
  | _ => false

theorem wlTrig_true {b : Bool} {w : WL} (h : wlTrig b w = true) : wlTrig true w = true := by
  unfold wlTrig at *
  split <;> simp_all

theorem triggered_eq (s : St) :
    s.triggered = (s.rdFail || rlTrig s.rl || wlTrig s.wrFail s.wl || cnTrig s.cn || s.callers.any Caller.active) := rfl

theorem trig_rdFail {s : St} (h : s.rdFail = true) : s.triggered = true := by simp [triggered_eq, h]

theorem trig_rl {s : St} (h : rlTrig s.rl = true) : s.triggered = true := by simp [triggered_eq, h]

theorem trig_cn {s : St} (h : cnTrig s.cn = true) : s.triggered = true := by simp [triggered_eq, h]

theorem trig_frame {s s' : St} (ht : s.triggered = true) (h1 : s.rdFail = true → s'.rdFail = true)
    (h2 : rlTrig s.rl = true → rlTrig s'.rl = true) (h3 : wlTrig s.wrFail s.wl = true → wlTrig s'.wrFail s'.wl = true)
    (h4 : cnTrig s.cn = true → cnTrig s'.cn = true)
    (h5 : s.callers.any Caller.active = true → s'.callers.any Caller.active = true) : s'.triggered = true := by
  simp only [triggered_eq, Bool.or_eq_true] at ht ⊢
  rcases ht with (((ht | ht) | ht) | ht) | ht
  · exact .inl (.inl (.inl (.inl (h1 ht))))
  · exact .inl (.inl (.inl (.inr (h2 ht))))
  · exact .inl (.inl (.inr (h3 ht)))
  · exact .inl (.inr (h4 ht))
  · exact .inr (h5 ht)

theorem Step.trig {s s' : St} {a : Act} (hi : Inv s) (ht : s.triggered = true) (h : Step s a s') : s'.triggered = true := by
  cases h with
  | envCtxCancel | envFire | envPoke | envDeadline | tlExit | tlCb | tcRunCH | tcRun | tcCHquit =>
    exact ht
  | envReadFail | rlAbort | rlShutdownComplete | wlWriteFail | wlClosing | cnClose1 =>
    exact trig_rdFail rfl
  | rlReadErr | rlDefer0 | rlDefer1 | rlDefer2 | rlDefer3 | rlDefer4 | rlDefer5 | rlDefer6 | rlDefer7 | rlDeferEnd =>
    exact trig_rl rfl
  | cnCtx | cnClose0 | cnClose2 | cnClose3 | cnClose4 =>
    exact trig_cn rfl
  | envPacket _ hr | rlData hr | rlHsAgain _ hr | rlHsFinal _ hr | rlResetGone _ hr | rlShutdownAck hr | rlCHquit _ _ hr =>
    exact trig_frame ht id (by rw [hr]; nofun) id id id
  | rlReset _ hr => exact trig_frame ht id (by rw [hr]; nofun) id id (any_active_wakeAll _ _ ▸ id)
  | rlCHsend _ _ hr _ hc => exact trig_frame ht id (by rw [hr]; nofun) id (by rw [hc]; nofun) id
  | wlGatherAbort _ _ _ hw | wlGather _ _ hw | wlWritten _ _ hw | wlSelAwake hw | wlSelCw _ hw | wlCwArm hw | wlExit hw =>
    exact trig_frame ht id id (by rw [hw]; nofun) id id
  | wlWrite _ _ _ hw _ hf => exact trig_frame ht id id (by rw [hw, hf]; nofun) id id
  | envWriteFail => exact trig_frame ht id id wlTrig_true id id
  | tcCHsend _ _ _ hc | cnRc _ hc => exact trig_frame ht id id id (by rw [hc]; nofun) id
  | cnCloseEnd _ _ hc =>
    have hs := hi.hs
    rw [hc] at hs
    exact trig_rdFail (hi.tr.cf (hs.ctor.2.1 (by omega)))
  | envStart _ _ _ _ hc | envServeRd _ _ _ _ hc | envServeAcc _ _ hc | envServeWr _ _ hc | callWrite _ _ hc
  | callShutdown _ _ hc =>
    exact trig_frame ht id id id id (any_active_set hc (.inl rfl))
  | callMove _ _ c _ hc hm =>
    rcases hm.active hi (hi.cs c (List.mem_of_getElem? hc)) with h | h | h
    · exact trig_frame ht id id id id (any_active_set hc (.inl h))
    · exact trig_frame ht id id id id (any_active_set hc (.inr h))
    · exact trig_rdFail h
  | callClose0 _ _ hc | callClose2 _ _ hc | callClose3 _ _ hc | callAbort0 _ _ _ hc | callAbort2 _ _ _ hc =>
    exact trig_frame ht id id id id (any_active_set hc (.inr rfl))
  | callClose1 | callAbort4 => exact trig_rdFail rfl

/-- **a teardown, once set off, stays set off** -/
theorem trig_step (s s' : St) (a : Act) (hi : Inv s) (ht : s.triggered = true) (h : step E s a = some s') : s'.triggered = true :=
  (Step.of_step h).trig hi ht

theorem trig_run (s s' : St) (as : List Act) (hi : Inv s) (ht : s.triggered = true) (h : run E s as = some s') :
    s'.triggered = true := by
  induction as generalizing s with
  | nil => simp [run] at h; subst h; exact ht
  | cons a as ih =>
    simp only [run] at h
    split at h
    · rename_i s1 h1
      exact ih s1 (inv_step s s1 a hi h1) (trig_step s s1 a hi ht h1) h
    · simp at h

def Res.isFailure : Res → Bool
  | .eof | .err _ => true
  | _ => false

theorem readRes_isFailure (s : St) (sid : Nat) : (readRes s sid).isFailure = true := by
  unfold readRes
  split
  · rfl
  · split <;> rfl

/-- the result with which the package (not the environment) lets a call return, by the place it was waiting at -/
theorem call_result (s s' : St) (i arm : Nat) (c : Caller) (k : Kind) (r : Res)
    (hc : s.callers[i]? = some c) (h : step E s (.call i arm) = some s') (hf : s'.callers[i]? = some (.fin k r)) :
    match c with
    | .rdWait sid _ => r = readRes s sid ∧ r.isFailure = true
    | .wrBegin => (r = .ok ∧ s.notEst = false) ∨ (r = .err .notEstablished ∧ s.notEst = true)
    | .wrWait => r = .err .ctx
    | .accWait => r = .eof
    | .shBegin => r = .err .shutdownNonEstablished
    | .shWait => (r = .nil ∧ s.cw = true ∧ s.sdAcked = true) ∨ (r = .err .shutdownIncomplete ∧ s.cw = true ∧ s.sdAcked = false) ∨ r = .err .ctx
    | .cl _ => r = .ok
    | .ab _ _ => r = .ok
    | _ => False := by
  have hlt : i < s.callers.length := (List.getElem?_eq_some_iff.mp hc).1
  have key : ∀ c', (s.callers.set i c')[i]? = some (.fin k r) → c' = .fin k r := fun c' h => by
    rw [List.getElem?_set_self hlt] at h; exact Option.some.inj h
  cases Step.of_step h with
  | callMove _ _ c0 c' hc0 hm =>
    cases hc.symm.trans hc0
    cases key _ hf
    cases hm with
    | rd sid hl => exact ⟨rfl, readRes_isFailure s sid⟩
    | wrClosed hl hn => exact .inr ⟨rfl, hn⟩
    | wrCtx ha hx => rfl
    | acc ha => rfl
    | shClosed hl hn => rfl
    | shDone ha hw hl => cases hsa : s.sdAcked <;> simp [hw]
    | shCtx ha hx => exact .inr (.inr rfl)
    | clEnd k hk => rfl
    | abEnd c k hk => rfl
  | callWrite _ _ hc0 hl hn ha =>
    cases hc.symm.trans hc0
    cases key _ hf
    exact .inl ⟨rfl, hn⟩
  | callShutdown _ _ hc0 hl hn => cases key _ hf
  | callClose0 _ _ hc0 => cases key _ hf
  | callClose1 _ _ hc0 => cases key _ hf
  | callClose2 _ _ hc0 => cases key _ hf
  | callClose3 _ _ hc0 => cases key _ hf
  | callAbort0 _ _ c hc0 hl => cases key _ hf
  | callAbort2 _ _ c hc0 => cases key _ hf
  | callAbort4 _ _ c hc0 => cases key _ hf

/-- a `netConn.Write` issued after `netConn.Close()` fails: `writeLoop` goes to its exit path (`.exit`), and the write is counted in `lateWrites` -/
theorem write_after_close_fails (s s' : St) (n : Nat) (ok ab : Bool) (hw : s.wl = .write (n+1) ok ab) (hc : s.conn = true)
    (h : step E s .wlWrite = some s') : s'.wl = .exit ∧ s'.lateWrites = s.lateWrites + 1 := by
  simp only [step, hw, hc, Bool.true_or, ite_true, E, Choreo.expected, applyOp, Option.some.injEq] at h
  subst h
  cases ab <;> simp

/-- `Abort(cause)`: what the next gather puts on the wire is exactly the stored cause, as a lone terminal packet -/
theorem gather_abort (s s' : St) (n : Nat) (f : Bool) (c : String) (hwa : s.willAbort = some c)
    (h : step E s (.wlGather n f) = some s') : s'.wireAbort = some c ∧ s'.wl = .write 1 false true ∧ s'.willAbort = none := by
  simp only [step] at h
  split at h
  · simp only [hwa, Option.some.injEq] at h
    subst h; simp
  · simp at h

/-- an inbound ABORT makes its cause the close error and sends `readLoop` into its deferred block -/
theorem handle_abort (s s' : St) (c : String) (hr : s.rl = .handling (.abort c)) (h : step E s .rlHandle = some s') :
    s'.closeErr = some (.abort c) ∧ s'.rl = .defer 0 ∧ s'.conn = true ∧ s'.cw = true := by
  simp only [step, hr] at h
  split at h
  · simp only [E, Choreo.expected, applyOps, List.foldl, applyOp, Option.some.injEq] at h
    subst h; simp
  · simp at h

/-- once `readLoop` is on its way out, the close error never changes: only `readLoop` writes it, on its way into the deferred block -/
theorem closeErr_stable (s s' : St) (a : Act) (hl : leaving s = true) (h : step E s a = some s') : s'.closeErr = s.closeErr := by
  cases Step.of_step h with
  | rlReadErr hr hf => simp [leaving, hr] at hl
  | rlAbort c hr hl' => simp [leaving, hr] at hl
  | _ => rfl

/-- Once every stream has been unregistered with the close error (`unreg`), no step - in particular no read deadline that
expires afterwards (`envDeadline`) - changes what a read on any stream returns: `unreg` stays, the set of streams that ended
with EOF stays, the close error stays (`closeErr_stable`), and no terminal error is ever lost (`Inv.lost`). -/
theorem terminal_sticky (s s' : St) (a : Act) (hi : Inv s) (hu : s.unreg = true) (h : step E s a = some s') :
    s'.unreg = true ∧ s'.gone = s.gone ∧ s'.closeErr = s.closeErr ∧ s'.lost = [] := by
  have hl : leaving s = true := by
    have := hi.df.unreg.mp hu
    unfold leaving; unfold prog at this
    cases hrl : s.rl <;> simp [hrl] at this ⊢
  refine ⟨?_, ?_, closeErr_stable s s' a hl h, (inv_step s s' a hi h).lost⟩
  · cases Step.of_step h with
    | rlDefer3 hr => rfl
    | _ => exact hu
  · cases Step.of_step h with
    | rlReset sid hr hl' hg hu' => rw [hu] at hu'; cases hu'
    | _ => rfl

structure Closed (s : St) : Prop where
  conn : s.conn = true
  rdFail : s.rdFail = true
  stClosed : s.stClosed = true
  notEst : s.notEst = true
  timers : s.timersClosed = true
  cw : s.cw = true
  rc : s.rc = true

theorem setCaller_get (s : St) (i : Nat) (c : Caller) (h : i < s.callers.length) : (setCaller s i c).callers[i]? = some c := by
  simp [setCaller, h]

theorem setCaller_setCaller (s : St) (i : Nat) (c c' : Caller) : setCaller (setCaller s i c) i c' = setCaller s i c' := by
  simp [setCaller]

theorem closed_setCaller (s : St) (i : Nat) (c : Caller) (h : Closed s) : Closed (setCaller s i c) := by
  obtain ⟨h1, h2, h3, h4, h5, h6, h7⟩ := h
  constructor <;> simpa [setCaller]

/-- one statement of `Close()` executed on an association that is already closed changes nothing but the caller's program counter -/
theorem close_step_closed (s : St) (i k : Nat) (hc : Closed s) (hi : s.callers[i]? = some (.cl k)) (hk : k < 5) :
    step E s (.call i 0) = some (setCaller s i (.cl (k+1))) := by
  obtain ⟨h1, h2, h3, h4, h5, h6, h7⟩ := hc
  rcases k with _|_|_|_|_|k
  · simp only [(Step.callClose0 i 0 hi).enabled, setCaller, h3, h4]
  · simp only [(Step.callClose1 i 0 hi).enabled, setCaller, h1, h2, ↓reduceIte]
  · simp only [(Step.callClose2 i 0 hi).enabled, setCaller, h5]
  · simp only [(Step.callClose3 i 0 hi).enabled, setCaller, h6]
  · exact (Step.callMove i 0 _ _ hi (.cl4 h7)).enabled
  · omega

/-- `Close()` taken up at any of its statements on a closed association runs to its end -/
theorem close_run (s : St) (i n k : Nat) (hk : k + n = 5) (hc : Closed s) (hi : s.callers[i]? = some (.cl k)) :
    run E s (List.replicate (n + 1) (.call i 0)) = some (setCaller s i (.fin .cl .ok)) := by
  induction n generalizing s k with
  | zero => simp only [List.replicate, run, (Step.callMove i 0 _ _ hi (.clEnd k (by omega))).enabled]; rfl
  | succ n ih =>
    have hlt := (List.getElem?_eq_some_iff.mp hi).1
    rw [List.replicate_succ, run, close_step_closed s i k hc hi (by omega)]
    simp only
    rw [ih _ (k + 1) (by omega) (closed_setCaller s i _ hc) (setCaller_get s i _ hlt), setCaller_setCaller]

/-- **Close on a closed association**: the call runs through its five statements and returns; the shared state is
untouched (in particular `netConn.Close()` is not called again: `connCloses` is part of the state) -/
theorem close_again (s : St) (i : Nat) (hc : Closed s) (hi : s.callers[i]? = some (.cl 0)) :
    run E s (List.replicate 6 (.call i 0)) = some (setCaller s i (.fin .cl .ok)) :=
  close_run s i 5 0 rfl hc hi

/-- the completion flag of Shutdown is raised only by handling the peer's SHUTDOWN-ACK or SHUTDOWN-COMPLETE -/
theorem sdAcked_only_by_peer (s s' : St) (a : Act) (h : step E s a = some s') (hs : s'.sdAcked = true) :
    s.sdAcked = true ∨ (a = .rlHandle ∧ (s.rl = .handling .shutdownAck ∨ s.rl = .handling .shutdownComplete)) := by
  cases Step.of_step h with
  | rlShutdownComplete hr hl => exact .inr ⟨rfl, .inr hr⟩
  | rlShutdownAck hr hl => exact .inr ⟨rfl, .inl hr⟩
  | _ => exact .inl hs

end Conc
