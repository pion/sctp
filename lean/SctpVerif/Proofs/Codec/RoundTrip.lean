import SctpVerif.Proofs.Codec.Frame
/-!
Round trips of parameters and error causes, and of the lists of fixed-size items inside them.
-/
namespace Codec
open Res CodecSpec

/-- the parameter type number `encParam` writes -/
def ptOf : Param → BitVec 16
  | .heartbeatInfo _ => ptHeartbeatInfo
  | .stateCookie _ => ptStateCookie
  | .outReset .. => ptOutReset
  | .reconfigResp .. => ptReconfigResp
  | .ecnCapable => ptEcn
  | .zeroChecksum _ => ptZeroChecksum
  | .random _ => ptRandom
  | .chunkList _ => ptChunkList
  | .reqHmac _ => ptReqHmac
  | .supportedExt _ => ptSupportedExt
  | .fwdTsnSupported => ptFwdTsnSupp

theorem paramHeader_roundtrip (typ : BitVec 16) (v tail : Bytes) (hv : v.length + 4 < 65536) :
    paramHeaderUnmarshal (paramHeaderMarshal typ v ++ tail) = .ok (typ, v, 4 + v.length) := by
  unfold paramHeaderUnmarshal paramHeaderMarshal
  have hn : (trunc16 (4 + v.length)).toNat = 4 + v.length := trunc16_toNat (by omega)
  have hs := slice_mid (be16 typ ++ be16 (trunc16 (4 + v.length))) v tail
  simp only [c_paramHeaderLength, List.append_assoc, List.length_append, be16_length, u16At_be16_zero, u16At_be16_add,
    ok_bind, hn, Nat.reduceAdd] at hs ⊢
  rw [if_neg (by omega), if_neg (by omega), if_neg (by omega), hs]
  rfl

theorem u16At_mid (pre rest : Bytes) (x : BitVec 16) : u16At (pre ++ (be16 x ++ rest)) pre.length = .ok x := by
  rw [← Nat.add_zero pre.length, u16At_append_right, u16At_be16_zero]

theorem u32At_mid (pre rest : Bytes) (x : BitVec 32) : u32At (pre ++ (be32 x ++ rest)) pre.length = .ok x := by
  rw [← Nat.add_zero pre.length, u32At_append_right, u32At_be32_zero]

theorem readU16s_flatten (pre : Bytes) (xs : List (BitVec 16)) (post : Bytes) :
    readU16s (pre ++ ((xs.map be16).flatten ++ post)) pre.length xs.length = .ok xs := by
  induction xs generalizing pre with
  | nil => simp [readU16s]
  | cons x xs ih =>
    simp only [List.map_cons, List.flatten_cons, List.length_cons, List.append_assoc]
    unfold readU16s
    rw [u16At_mid]
    have := ih (pre ++ be16 x)
    simp only [List.append_assoc, List.length_append, be16_length] at this
    simp only [ok_bind, this]

theorem readU32s_flatten (pre : Bytes) (xs : List (BitVec 32)) (post : Bytes) :
    readU32s (pre ++ ((xs.map be32).flatten ++ post)) pre.length xs.length = .ok xs := by
  induction xs generalizing pre with
  | nil => simp [readU32s]
  | cons x xs ih =>
    simp only [List.map_cons, List.flatten_cons, List.length_cons, List.append_assoc]
    unfold readU32s
    rw [u32At_mid]
    have := ih (pre ++ be32 x)
    simp only [List.append_assoc, List.length_append, be32_length] at this
    simp only [ok_bind, this]

theorem readHmacs_flatten (pre : Bytes) (xs : List (BitVec 16)) (fuel : Nat) (hf : xs.length < fuel)
    (hx : ∀ a ∈ xs, a = 1#16 ∨ a = 3#16) :
    readHmacs (pre ++ (xs.map be16).flatten) fuel pre.length = .ok xs := by
  induction xs generalizing pre fuel with
  | nil =>
    cases fuel with
    | zero => omega
    | succ f => simp [readHmacs]
  | cons x xs ih =>
    cases fuel with
    | zero => omega
    | succ f =>
      simp only [List.map_cons, List.flatten_cons]
      unfold readHmacs
      rw [if_pos (by simp only [List.length_append, be16_length]; omega)]
      have hm := u16At_mid pre ((xs.map be16).flatten) x
      rw [hm]
      have hx1 : x = 1#16 ∨ x = 3#16 := hx x (by simp)
      have hv : x.toNat = Gen.hmacSHA128 ∨ x.toNat = Gen.hmacSHA256 := by
        rcases hx1 with h | h <;> subst h <;> simp
      simp only [ok_bind]
      rw [if_pos hv]
      have := ih (pre ++ be16 x) f (by simp at hf; omega) (fun a ha => hx a (by simp [ha]))
      simp only [List.append_assoc, List.length_append, be16_length] at this
      simp only [this, ok_bind]


theorem encParam_eq (p : Param) : ∃ v, encParam p = paramHeaderMarshal (ptOf p) v := by
  cases p <;> exact ⟨_, rfl⟩

/-- `buildParam ∘ marshal` for each of the 11 parameter structs, whatever bytes follow -/
theorem buildParam_roundtrip (p : Param) (tail : Bytes) (h : CodecSpec.wfParam p = true) :
    buildParam (ptOf p) (encParam p ++ tail) = .ok (p, (encParam p).length) := by
  cases p with
  | heartbeatInfo v | stateCookie v | random v | chunkList v | supportedExt v =>
    simp only [CodecSpec.wfParam, fits_iff] at h
    simp only [ptOf, encParam, buildParam, paramHeader_roundtrip _ _ _ h, paramHeaderMarshal_length]; simp
  | ecnCapable | fwdTsnSupported =>
    simp only [ptOf, encParam, buildParam, paramHeader_roundtrip _ [] _ (by simp), paramHeaderMarshal_length]; simp
  | zeroChecksum e =>
    simp only [ptOf, encParam, buildParam, paramHeader_roundtrip _ (be32 e) _ (by simp), paramHeaderMarshal_length]
    simp [be32]
  | reconfigResp sn r =>
    simp only [ptOf, encParam, buildParam, paramHeader_roundtrip _ (be32 sn ++ be32 r) _ (by simp), paramHeaderMarshal_length]
    simp [be32]
  | reqHmac as =>
    simp only [CodecSpec.wfParam, fits_iff, Bool.and_eq_true, List.all_eq_true, Bool.or_eq_true, decide_eq_true_eq] at h
    obtain ⟨hfit, hall⟩ := h
    have hlen := flatten_be16_length as
    simp only [ptOf, encParam, buildParam, paramHeader_roundtrip _ ((as.map be16).flatten) _ (by omega),
      paramHeaderMarshal_length]
    have hr := readHmacs_flatten [] as (as.length + 1) (by omega) hall
    simp only [List.nil_append, List.length_nil] at hr
    simp [hr, hlen]
  | outReset a b c sids =>
    simp only [CodecSpec.wfParam, fits_iff] at h
    have hlen := flatten_be16_length sids
    have hl : (be32 a ++ be32 b ++ be32 c ++ (sids.map be16).flatten).length = 12 + 2 * sids.length := by
      simp [hlen]; omega
    simp only [ptOf, encParam, buildParam, paramHeader_roundtrip _ _ _ (by rw [hl]; omega), paramHeaderMarshal_length]
    have hr := readU16s_flatten (be32 a ++ be32 b ++ be32 c) sids []
    simp only [List.append_nil, List.length_append, be32_length] at hr
    have hlim : ((be32 a ++ be32 b ++ be32 c ++ (sids.map be16).flatten).length -
        Gen.paramOutgoingResetRequestStreamIdentifiersOffset) / 2 = sids.length := by
      rw [hl, c_outResetOffset]; omega
    rw [show (4 + 4 + 4 : Nat) = 12 from rfl] at hr
    simp only [pt_outreset, pt_fwdtsn, pt_supext, pt_ecn, pt_random, pt_hmac, pt_chunklist, pt_cookie, pt_hb, ok_bind,
      BitVec.reduceEq, ↓reduceIte, c_outResetOffset]
    have hnot : ¬ (12 + 2 * sids.length < 12) := by omega
    simp only [hl, hnot, ↓reduceIte]
    simp only [be32, List.cons_append, List.nil_append] at hr
    simp [be32, hr]

theorem causeHeaderMarshal_ok (code : BitVec 16) (raw : Bytes) (h : raw.length + 4 < 65536) :
    causeHeaderMarshal code raw = .ok (be16 code ++ be16 (trunc16 (raw.length + 4)) ++ raw) := by
  unfold causeHeaderMarshal
  have he : trunc16 raw.length + trunc16 Gen.errorCauseHeaderLength = trunc16 (raw.length + 4) := by
    apply BitVec.eq_of_toNat_eq
    simp only [trunc16, c_errorCauseHeaderLength, BitVec.toNat_add, BitVec.toNat_ofNat]
    omega
  have hn : (trunc16 (raw.length + 4)).toNat = raw.length + 4 := trunc16_toNat (by omega)
  simp only [he]
  simp only [hn, c_errorCauseHeaderLength]
  rw [if_neg (by omega)]
  simp

theorem causeHeaderUnmarshal_cons (a b c d : Byte) (v tail : Bytes) (hl : (u16 c d).toNat = 4 + v.length) :
    causeHeaderUnmarshal (a :: b :: c :: d :: (v ++ tail)) = .ok (u16 a b, 4 + v.length, v) := by
  unfold causeHeaderUnmarshal
  have hlen : (a :: b :: c :: d :: (v ++ tail)).length = 4 + v.length + tail.length := by simp; omega
  simp only [u16At_zero, u16At_cons_succ, ok_bind]
  rw [if_neg (by rw [hl, hlen, c_errorCauseHeaderLength]; omega)]
  have hvl : (u16 c d - trunc16 Gen.errorCauseHeaderLength).toNat = v.length := by
    simp only [trunc16, c_errorCauseHeaderLength, BitVec.toNat_sub, BitVec.toNat_ofNat, hl]; omega
  rw [hvl, c_errorCauseHeaderLength]
  have := slice_mid [a, b, c, d] v tail
  simp only [List.cons_append, List.nil_append, List.length_cons, List.length_nil, Nat.zero_add, Nat.reduceAdd] at this
  rw [this, hl]
  rfl

/-- the code `encCause` puts on the wire -/
def wireCode (c : Cause) : BitVec 16 :=
  match c.kind with
  | .unrecognizedChunk => ccUnrecognizedChunk
  | .userAbort => ccUserAbort
  | _ => c.code

/-- the bytes `encCause` produces for a cause whose data fits -/
def causeBytes (c : Cause) : Bytes := be16 (wireCode c) ++ be16 (trunc16 (c.data.length + 4)) ++ c.data

theorem causeBytes_length (c : Cause) : (causeBytes c).length = 4 + c.data.length := by
  simp [causeBytes]; omega

theorem encCause_ok (c : Cause) (h : wfCause c = true) : encCause c = .ok (causeBytes c) := by
  obtain ⟨kind, code, data⟩ := c
  simp only [wfCause, Bool.and_eq_true, fits_iff] at h
  cases kind <;> simp only [encCause, causeBytes, wireCode] <;> exact causeHeaderMarshal_ok _ _ h.1

/-- `buildErrorCause ∘ marshal` for the five cause structs, whatever bytes follow -/
theorem buildErrorCause_roundtrip (c : Cause) (tail : Bytes) (h : wfCause c = true) :
    buildErrorCause (causeBytes c ++ tail) = .ok (c, 4 + c.data.length) := by
  obtain ⟨kind, code, data⟩ := c
  simp only [wfCause, Bool.and_eq_true, fits_iff] at h
  obtain ⟨hfit, hk⟩ := h
  have key : ∀ code' : BitVec 16,
      (if code' = ccInvalidMandatory then CauseKind.invalidMandatory
        else if code' = ccUnrecognizedChunk then .unrecognizedChunk
        else if code' = ccProtocolViolation then .protocolViolation
        else if code' = ccUserAbort then .userAbort else .hdr) = kind →
      buildErrorCause (be16 code' ++ be16 (trunc16 (data.length + 4)) ++ data ++ tail)
        = .ok ({ kind := kind, code := code', data := data }, 4 + data.length) := by
    intro code' hkind
    unfold buildErrorCause
    simp only [be16, List.cons_append, List.nil_append, u16At_zero, ok_bind, u16_be]
    have := causeHeaderUnmarshal_cons (byteOf (code'.toNat / 256)) (byteOf code'.toNat)
      (byteOf ((trunc16 (data.length + 4)).toNat / 256)) (byteOf (trunc16 (data.length + 4)).toNat) data tail
      (by rw [u16_be, trunc16_toNat (by omega)]; omega)
    rw [u16_be] at this
    rw [this]
    simp only [ok_bind, hkind]
  simp only [causeBytes, wireCode]
  cases kind with
  | hdr =>
    apply key
    simp only [ne_eq, Bool.and_eq_true, decide_eq_true_eq, cc_unrec, cc_invparam, cc_uabort, cc_pviol] at hk
    obtain ⟨⟨⟨h1, h2⟩, h3⟩, h4⟩ := hk
    simp [h1, h2, h3, h4]
  | invalidMandatory | protocolViolation =>
    apply key
    simp only [decide_eq_true_eq] at hk
    simp [hk]
  | unrecognizedChunk | userAbort =>
    simp only [decide_eq_true_eq] at hk
    subst hk
    apply key
    simp

theorem encCauses_ok (cs : List Cause) (hwf : ∀ c ∈ cs, wfCause c = true) :
    encCauses cs = .ok (cs.map causeBytes).flatten := by
  induction cs with
  | nil => rfl
  | cons c cs ih =>
    unfold encCauses
    rw [encCause_ok c (hwf c (by simp)), ih (fun x hx => hwf x (by simp [hx]))]
    simp

theorem causes_flatten_length (cs : List Cause) :
    ((cs.map causeBytes).flatten).length = (cs.map fun c => 4 + c.data.length).sum := by
  induction cs with
  | nil => rfl
  | cons c cs ih => simp [causeBytes_length, ih]

/-- the cause loop of ABORT / ERROR reads back what `encCauses` wrote (causes are not padded) -/
theorem causesLoop_roundtrip (pre : Bytes) (cs : List Cause) (fuel : Nat) (hf : cs.length < fuel)
    (hwf : ∀ c ∈ cs, wfCause c = true) :
    causesLoop (pre ++ (cs.map causeBytes).flatten) fuel pre.length = .ok cs := by
  induction cs generalizing pre fuel with
  | nil =>
    cases fuel with
    | zero => omega
    | succ f =>
      unfold causesLoop
      rw [if_neg (by simp)]
  | cons c cs ih =>
    cases fuel with
    | zero => omega
    | succ f =>
      unfold causesLoop
      have hcl := causeBytes_length c
      rw [if_pos (by simp only [List.map_cons, List.flatten_cons, List.length_append, hcl]; omega)]
      rw [sliceFrom_append]
      simp only [ok_bind, List.map_cons, List.flatten_cons]
      rw [buildErrorCause_roundtrip c _ (hwf c (by simp))]
      have := ih (pre ++ causeBytes c) f (by simp at hf; omega) (fun x hx => hwf x (by simp [hx]))
      simp only [List.append_assoc, List.length_append, hcl] at this
      simp only [ok_bind, this]

end Codec
