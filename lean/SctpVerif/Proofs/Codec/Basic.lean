import SctpVerif.Model.Codec
import SctpVerif.Spec.CodecSpec
/-!
Ground layer for the codec model: the `Res` monad and the form `Res.Sat` in which decoder functions are
specified, checked reads, big-endian round trips, padding arithmetic, the Go constants as literals, and at the
end `fits` / `fitsV` as inequalities, `trunc16` below 2^16, and the lengths of encoded lists, parameter headers
and parameters (`flatten_map_length` … `encParamsPadded_length_ge`).
-/
namespace Codec
open Res

@[simp] theorem ok_bind {α β : Type} (a : α) (f : α → Res β) : (Res.ok a >>= f) = f a := rfl
@[simp] theorem err_bind {α β : Type} (e : Err) (f : α → Res β) : (Res.err e >>= f) = Res.err e := rfl
@[simp] theorem panic_bind {α β : Type} (f : α → Res β) : (Res.panic >>= f) = Res.panic := rfl
@[simp] theorem loop_bind {α β : Type} (f : α → Res β) : (Res.loop >>= f) = Res.loop := rfl
@[simp] theorem pure_eq {α : Type} (a : α) : (pure a : Res α) = Res.ok a := rfl
@[simp] theorem wrap_ok {α : Type} (a : α) (e : Err) : (Res.ok a).wrap e = Res.ok a := rfl
@[simp] theorem wrap_err {α : Type} (e' e : Err) : (Res.err e' : Res α).wrap e = Res.err e := rfl
@[simp] theorem wrap_panic {α : Type} (e : Err) : (Res.panic : Res α).wrap e = Res.panic := rfl
@[simp] theorem wrap_loop {α : Type} (e : Err) : (Res.loop : Res α).wrap e = Res.loop := rfl

/-- `x` neither panics (a Go index out of range) nor exhausts its loop bound, and a value it returns
satisfies `P`. Every decoder function gets one statement of this form, from which both totality and
the shape of what is decoded are read off. -/
def Res.Sat {α : Type} (x : Res α) (P : α → Prop) : Prop :=
  match x with
  | .ok a => P a
  | .err _ => True
  | .panic => False
  | .loop => False

section Sat
variable {α β : Type} {x : Res α} {P Q : α → Prop}

@[simp] theorem sat_ok {a : α} : (Res.ok a).Sat P ↔ P a := Iff.rfl
@[simp] theorem sat_err {e : Err} : (Res.err e : Res α).Sat P := trivial

theorem Res.Sat.ne_panic (h : x.Sat P) : x ≠ .panic := by rintro rfl; exact h
theorem Res.Sat.ne_loop (h : x.Sat P) : x ≠ .loop := by rintro rfl; exact h
theorem Res.Sat.of_ok (h : x.Sat P) {a : α} (hx : x = .ok a) : P a := by subst hx; exact h

/-- keeps the equation: for the few places where a later step needs the call itself, not only `P` -/
theorem Res.Sat.self (h : x.Sat P) : x.Sat fun a => x = .ok a ∧ P a := by
  cases x with
  | ok a => exact ⟨rfl, h⟩
  | err e => trivial
  | panic => exact h
  | loop => exact h

theorem Res.Sat.mono (h : x.Sat P) (hpq : ∀ a, P a → Q a) : x.Sat Q := by
  cases x with
  | ok a => exact hpq a h
  | err e => trivial
  | panic => exact h
  | loop => exact h

theorem sat_bind {f : α → Res β} {R : β → Prop} (hx : x.Sat P) (hf : ∀ a, P a → (f a).Sat R) : (x >>= f).Sat R := by
  cases x with
  | ok a => exact hf a hx
  | err e => trivial
  | panic => exact hx
  | loop => exact hx

theorem sat_wrap (e : Err) (hx : x.Sat P) : (x.wrap e).Sat P := by
  cases x with
  | ok a => exact hx
  | err e' => trivial
  | panic => exact hx
  | loop => exact hx

theorem bind_eq_ok {f : α → Res β} {b : β} (h : (x >>= f) = .ok b) : ∃ a, x = .ok a ∧ f a = .ok b := by
  cases x with
  | ok a => exact ⟨a, rfl, h⟩
  | err e => cases h
  | panic => cases h
  | loop => cases h

theorem bind_congr {f g : α → Res β} (h : ∀ a, x = .ok a → f a = g a) : (x >>= f) = (x >>= g) := by
  cases x with
  | ok a => exact h a rfl
  | err e => rfl
  | panic => rfl
  | loop => rfl
end Sat

theorem byteOf_toNat (n : Nat) : (byteOf n).toNat = n % 256 := by simp [byteOf]

@[simp] theorem u16_be (v : BitVec 16) : u16 (byteOf (v.toNat / 256)) (byteOf v.toNat) = v := by
  apply BitVec.eq_of_toNat_eq
  have := v.isLt
  simp only [u16, byteOf, BitVec.toNat_ofNat]
  omega

@[simp] theorem u32_be (v : BitVec 32) :
    u32 (byteOf (v.toNat / 256 / 256 / 256)) (byteOf (v.toNat / 256 / 256)) (byteOf (v.toNat / 256)) (byteOf v.toNat) = v := by
  apply BitVec.eq_of_toNat_eq
  have := v.isLt
  simp only [u32, byteOf, BitVec.toNat_ofNat]
  omega

theorem be16_u16 (x y : Byte) : be16 (u16 x y) = [x, y] := by
  have hx := x.isLt; have hy := y.isLt
  simp only [be16, u16, byteOf, BitVec.toNat_ofNat]
  congr 1
  · apply BitVec.eq_of_toNat_eq; simp only [BitVec.toNat_ofNat]; omega
  · congr 1; apply BitVec.eq_of_toNat_eq; simp only [BitVec.toNat_ofNat]; omega

@[simp] theorem be16_length (v : BitVec 16) : (be16 v).length = 2 := rfl
@[simp] theorem be32_length (v : BitVec 32) : (be32 v).length = 4 := rfl
@[simp] theorem le32_length (v : BitVec 32) : (le32 v).length = 4 := rfl
@[simp] theorem zeros_length (n : Nat) : (zeros n).length = n := by simp [zeros]

@[simp] theorem u8At_cons_succ (x : Byte) (l : Bytes) (n : Nat) : u8At (x :: l) (n+1) = u8At l n := by simp [u8At]
@[simp] theorem u16At_cons_succ (x : Byte) (l : Bytes) (n : Nat) : u16At (x :: l) (n+1) = u16At l n := by simp [u16At]
@[simp] theorem u32At_cons_succ (x : Byte) (l : Bytes) (n : Nat) : u32At (x :: l) (n+1) = u32At l n := by simp [u32At]
@[simp] theorem u8At_zero (x : Byte) (l : Bytes) : u8At (x :: l) 0 = .ok x := rfl
@[simp] theorem u16At_zero (x y : Byte) (l : Bytes) : u16At (x :: y :: l) 0 = .ok (u16 x y) := rfl
@[simp] theorem u32At_zero (x y z w : Byte) (l : Bytes) : u32At (x :: y :: z :: w :: l) 0 = .ok (u32 x y z w) := rfl

theorem u8At_drop (b : Bytes) (o i : Nat) : u8At (b.drop o) i = u8At b (o + i) := by simp [u8At, List.drop_drop]
theorem u16At_drop (b : Bytes) (o i : Nat) : u16At (b.drop o) i = u16At b (o + i) := by simp [u16At, List.drop_drop]
theorem u32At_drop (b : Bytes) (o i : Nat) : u32At (b.drop o) i = u32At b (o + i) := by simp [u32At, List.drop_drop]

theorem u8At_append_right (a b : Bytes) (i : Nat) : u8At (a ++ b) (a.length + i) = u8At b i := by
  simp only [u8At, List.drop_length_add_append]
theorem u16At_append_right (a b : Bytes) (i : Nat) : u16At (a ++ b) (a.length + i) = u16At b i := by
  simp only [u16At, List.drop_length_add_append]
theorem u32At_append_right (a b : Bytes) (i : Nat) : u32At (a ++ b) (a.length + i) = u32At b i := by
  simp only [u32At, List.drop_length_add_append]

/-! reading a fixed header laid out as `be32 a ++ (be16 b ++ …)`: a read at offset 0 returns the first
field, a read (below also `sliceFrom`) further on skips it -/
theorem u16At_be16_zero (x : BitVec 16) (rest : Bytes) : u16At (be16 x ++ rest) 0 = .ok x := by simp [be16]
theorem u32At_be32_zero (x : BitVec 32) (rest : Bytes) : u32At (be32 x ++ rest) 0 = .ok x := by simp [be32]
theorem u16At_be16_add (x : BitVec 16) (rest : Bytes) (i : Nat) : u16At (be16 x ++ rest) (i + 2) = u16At rest i := by
  simp [be16]
theorem u16At_be32_add (x : BitVec 32) (rest : Bytes) (i : Nat) : u16At (be32 x ++ rest) (i + 4) = u16At rest i := by
  simp [be32]
theorem u32At_be16_add (x : BitVec 16) (rest : Bytes) (i : Nat) : u32At (be16 x ++ rest) (i + 2) = u32At rest i := by
  simp [be16]
theorem u32At_be32_add (x : BitVec 32) (rest : Bytes) (i : Nat) : u32At (be32 x ++ rest) (i + 4) = u32At rest i := by
  simp [be32]

theorem slice_all (b : Bytes) : slice b 0 b.length = .ok b := by simp [slice]
theorem sliceFrom_all (b : Bytes) : sliceFrom b b.length = .ok [] := by simp [sliceFrom]
theorem sliceFrom_zero (b : Bytes) : sliceFrom b 0 = .ok b := by simp [sliceFrom]
theorem sliceFrom_be16_add (x : BitVec 16) (rest : Bytes) (i : Nat) :
    sliceFrom (be16 x ++ rest) (i + 2) = sliceFrom rest i := by simp [sliceFrom, be16]
theorem sliceFrom_be32_add (x : BitVec 32) (rest : Bytes) (i : Nat) :
    sliceFrom (be32 x ++ rest) (i + 4) = sliceFrom rest i := by simp [sliceFrom, be32]

/-! total readers `g8` / `g16` / `g32`: what a checked read returns when it is in range -/
def g8 (b : Bytes) (i : Nat) : Byte := b.getD i 0
def g16 (b : Bytes) (i : Nat) : BitVec 16 := u16 (g8 b i) (g8 b (i+1))
def g32 (b : Bytes) (i : Nat) : BitVec 32 := u32 (g8 b i) (g8 b (i+1)) (g8 b (i+2)) (g8 b (i+3))

theorem drop_eq_cons_of_lt {b : Bytes} {i : Nat} (h : i < b.length) : b.drop i = g8 b i :: b.drop (i+1) := by
  rw [List.drop_eq_getElem_cons h]
  simp [g8, List.getD_eq_getElem?_getD, List.getElem?_eq_getElem h]

theorem u8At_of_lt {b : Bytes} {i : Nat} (h : i < b.length) : u8At b i = .ok (g8 b i) := by
  simp [u8At, drop_eq_cons_of_lt h]

theorem u16At_of_le {b : Bytes} {i : Nat} (h : i + 2 ≤ b.length) : u16At b i = .ok (g16 b i) := by
  have h1 : i < b.length := by omega
  have h2 : i + 1 < b.length := by omega
  simp [u16At, drop_eq_cons_of_lt h1, drop_eq_cons_of_lt h2, g16]

theorem u32At_of_le {b : Bytes} {i : Nat} (h : i + 4 ≤ b.length) : u32At b i = .ok (g32 b i) := by
  have h1 : i < b.length := by omega
  have h2 : i + 1 < b.length := by omega
  have h3 : i + 2 < b.length := by omega
  have h4 : i + 3 < b.length := by omega
  simp [u32At, drop_eq_cons_of_lt h1, drop_eq_cons_of_lt h2, drop_eq_cons_of_lt h3, drop_eq_cons_of_lt h4, g32]

theorem u32leAt_of_le {b : Bytes} {i : Nat} (h : i + 4 ≤ b.length) :
    u32leAt b i = .ok (u32 (g8 b (i+3)) (g8 b (i+2)) (g8 b (i+1)) (g8 b i)) := by
  have h1 : i < b.length := by omega
  have h2 : i + 1 < b.length := by omega
  have h3 : i + 2 < b.length := by omega
  have h4 : i + 3 < b.length := by omega
  simp [u32leAt, drop_eq_cons_of_lt h1, drop_eq_cons_of_lt h2, drop_eq_cons_of_lt h3, drop_eq_cons_of_lt h4]

theorem sliceFrom_of_le {b : Bytes} {i : Nat} (h : i ≤ b.length) : sliceFrom b i = .ok (b.drop i) := by
  simp [sliceFrom, h]
theorem slice_of_le {b : Bytes} {lo hi : Nat} (h1 : lo ≤ hi) (h2 : hi ≤ b.length) :
    slice b lo hi = .ok ((b.take hi).drop lo) := by
  simp [slice, h1, h2]

theorem slice_mid (pre v tail : Bytes) : slice (pre ++ (v ++ tail)) pre.length (pre.length + v.length) = .ok v := by
  rw [slice_of_le (by omega) (by simp), List.take_length_add_append, List.drop_left, List.take_left]

theorem sliceFrom_append (pre rest : Bytes) : sliceFrom (pre ++ rest) pre.length = .ok rest := by
  rw [sliceFrom_of_le (by simp), List.drop_left]

section reads
variable {β : Type} {Q : β → Prop} {b : Bytes}

theorem sat_u8 {i : Nat} {f : Byte → Res β} (h : i < b.length) (hf : ∀ v, v = g8 b i → (f v).Sat Q) :
    (u8At b i >>= f).Sat Q := by rw [u8At_of_lt h]; exact hf _ rfl
theorem sat_u16 {i : Nat} {f : BitVec 16 → Res β} (h : i + 2 ≤ b.length) (hf : ∀ v, v = g16 b i → (f v).Sat Q) :
    (u16At b i >>= f).Sat Q := by rw [u16At_of_le h]; exact hf _ rfl
theorem sat_u32 {i : Nat} {f : BitVec 32 → Res β} (h : i + 4 ≤ b.length) (hf : ∀ v, (f v).Sat Q) :
    (u32At b i >>= f).Sat Q := by rw [u32At_of_le h]; exact hf _
theorem sat_sliceFrom {i : Nat} {f : Bytes → Res β} (h : i ≤ b.length) (hf : (f (b.drop i)).Sat Q) :
    (sliceFrom b i >>= f).Sat Q := by rw [sliceFrom_of_le h]; exact hf
theorem sat_slice {lo hi : Nat} {f : Bytes → Res β} (h1 : lo ≤ hi) (h2 : hi ≤ b.length)
    (hf : (f ((b.take hi).drop lo)).Sat Q) : (slice b lo hi >>= f).Sat Q := by rw [slice_of_le h1 h2]; exact hf
end reads

theorem pad4_eq (n : Nat) : pad4 n = (4 - n % 4) % 4 := by
  unfold pad4 Gen.getPadding
  rw [Int.tmod_eq_emod_of_nonneg (by omega : (0:Int) ≤ (n:Int)), Int.tmod_eq_emod_of_nonneg (by omega)]
  omega

theorem pad4_lt (n : Nat) : pad4 n < 4 := by rw [pad4_eq]; omega
theorem add_pad4_mod (n : Nat) : (n + pad4 n) % 4 = 0 := by rw [pad4_eq]; omega
theorem pad4_of_mod {n : Nat} (h : n % 4 = 0) : pad4 n = 0 := by rw [pad4_eq]; omega
theorem pad4_add_mul4 (n k : Nat) : pad4 (4 * k + n) = pad4 n := by rw [pad4_eq, pad4_eq]; omega
theorem padded_mono {a b : Nat} (h : a ≤ b) : a + pad4 a ≤ b + pad4 b := by rw [pad4_eq, pad4_eq]; omega

end Codec

namespace Codec
/-! ### the Go constants the model refers to, as literals (if one changes in /repo its `by decide` fails) -/
@[simp] theorem c_paramHeaderLength : Gen.paramHeaderLength = 4 := by decide
@[simp] theorem c_chunkHeaderSize : Gen.chunkHeaderSize = 4 := by decide
@[simp] theorem c_errorCauseHeaderLength : Gen.errorCauseHeaderLength = 4 := by decide
@[simp] theorem c_initChunkMinLength : Gen.initChunkMinLength = 16 := by decide
@[simp] theorem c_initOptionalVarHeaderLength : Gen.initOptionalVarHeaderLength = 4 := by decide
@[simp] theorem c_packetHeaderSize : Gen.packetHeaderSize = 12 := by decide
@[simp] theorem c_selectiveAckHeaderSize : Gen.selectiveAckHeaderSize = 12 := by decide
@[simp] theorem c_forwardTSNStreamLength : Gen.forwardTSNStreamLength = 4 := by decide
@[simp] theorem c_newCumulativeTSNLength : Gen.newCumulativeTSNLength = 4 := by decide
@[simp] theorem c_iForwardTSNEntryLength : Gen.iForwardTSNEntryLength = 8 := by decide
@[simp] theorem c_maxIForwardTSNStreams : Gen.maxIForwardTSNStreams = 8190 := by decide
@[simp] theorem c_outResetOffset : Gen.paramOutgoingResetRequestStreamIdentifiersOffset = 12 := by decide
@[simp] theorem c_payloadDataHeaderSize : Gen.payloadDataHeaderSize = 12 := by decide
@[simp] theorem c_iDataHeaderSize : Gen.iDataHeaderSize = 16 := by decide
@[simp] theorem c_cumulativeTSNAckLength : Gen.cumulativeTSNAckLength = 4 := by decide
@[simp] theorem c_hmacSHA128 : Gen.hmacSHA128 = 1 := by decide
@[simp] theorem c_hmacSHA256 : Gen.hmacSHA256 = 3 := by decide
@[simp] theorem c_maskE : Gen.payloadDataEndingFragmentBitmask = 1 := by decide
@[simp] theorem c_maskB : Gen.payloadDataBeginingFragmentBitmask = 2 := by decide
@[simp] theorem c_maskU : Gen.payloadDataUnorderedBitmask = 4 := by decide
@[simp] theorem c_maskI : Gen.payloadDataImmediateSACK = 8 := by decide

@[simp] theorem pt_hb : ptHeartbeatInfo = 1#16 := by decide
@[simp] theorem pt_cookie : ptStateCookie = 7#16 := by decide
@[simp] theorem pt_outreset : ptOutReset = 13#16 := by decide
@[simp] theorem pt_reconfresp : ptReconfigResp = 16#16 := by decide
@[simp] theorem pt_ecn : ptEcn = 32768#16 := by decide
@[simp] theorem pt_zerock : ptZeroChecksum = 32769#16 := by decide
@[simp] theorem pt_random : ptRandom = 32770#16 := by decide
@[simp] theorem pt_chunklist : ptChunkList = 32771#16 := by decide
@[simp] theorem pt_hmac : ptReqHmac = 32772#16 := by decide
@[simp] theorem pt_supext : ptSupportedExt = 32776#16 := by decide
@[simp] theorem pt_fwdtsn : ptFwdTsnSupp = 49152#16 := by decide

@[simp] theorem cc_unrec : ccUnrecognizedChunk = 6#16 := by decide
@[simp] theorem cc_invparam : ccInvalidMandatory = 7#16 := by decide
@[simp] theorem cc_uabort : ccUserAbort = 12#16 := by decide
@[simp] theorem cc_pviol : ccProtocolViolation = 13#16 := by decide

@[simp] theorem ct_data : ctData = 0#8 := by decide
@[simp] theorem ct_init : ctInit = 1#8 := by decide
@[simp] theorem ct_initack : ctInitAck = 2#8 := by decide
@[simp] theorem ct_sack : ctSack = 3#8 := by decide
@[simp] theorem ct_hb : ctHeartbeat = 4#8 := by decide
@[simp] theorem ct_hback : ctHeartbeatAck = 5#8 := by decide
@[simp] theorem ct_abort : ctAbort = 6#8 := by decide
@[simp] theorem ct_shutdown : ctShutdown = 7#8 := by decide
@[simp] theorem ct_shutdownack : ctShutdownAck = 8#8 := by decide
@[simp] theorem ct_error : ctError = 9#8 := by decide
@[simp] theorem ct_cookieecho : ctCookieEcho = 10#8 := by decide
@[simp] theorem ct_cookieack : ctCookieAck = 11#8 := by decide
@[simp] theorem ct_shutdowncomplete : ctShutdownComplete = 14#8 := by decide
@[simp] theorem ct_idata : ctIData = 64#8 := by decide
@[simp] theorem ct_reconfig : ctReconfig = 130#8 := by decide
@[simp] theorem ct_fwdtsn : ctForwardTSN = 192#8 := by decide
@[simp] theorem ct_ifwdtsn : ctIForwardTSN = 194#8 := by decide
open CodecSpec in
theorem fits_iff (n : Nat) : fits n = true ↔ n + 4 < 65536 := by simp [fits]
open CodecSpec in
theorem fitsV_iff (n : Nat) : fitsV n = true ↔ n < 65536 := by simp [fitsV]

theorem trunc16_toNat {n : Nat} (h : n < 65536) : (trunc16 n).toNat = n := by
  simp only [trunc16, BitVec.toNat_ofNat]; omega

/-- a list of items of `k` bytes each is encoded in `k * n` bytes -/
theorem flatten_map_length {α : Type} (f : α → Bytes) (k : Nat) (hf : ∀ x, (f x).length = k) (xs : List α) :
    ((xs.map f).flatten).length = k * xs.length := by
  induction xs with
  | nil => rfl
  | cons x xs ih => rw [List.map_cons, List.flatten_cons, List.length_append, hf, ih, List.length_cons, Nat.mul_succ, Nat.add_comm]

theorem flatten_be16_length (xs : List (BitVec 16)) : ((xs.map be16).flatten).length = 2 * xs.length :=
  flatten_map_length be16 2 be16_length xs

theorem paramHeaderMarshal_length (t : BitVec 16) (v : Bytes) : (paramHeaderMarshal t v).length = 4 + v.length := by
  simp [paramHeaderMarshal]; omega

theorem encParam_length_ge (p : Param) : 4 ≤ (encParam p).length := by
  cases p <;> simp only [encParam, paramHeaderMarshal_length] <;> omega

theorem encParamsPadded_length_ge (ps : List Param) : 4 * ps.length ≤ (encParamsPadded ps).length := by
  induction ps with
  | nil => simp [encParamsPadded]
  | cons p ps ih =>
    have := encParam_length_ge p
    cases ps with
    | nil => simp [encParamsPadded]; omega
    | cons q qs =>
      simp only [encParamsPadded, List.length_append, List.length_cons, zeros_length] at ih ⊢
      omega
end Codec
