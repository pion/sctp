import SctpVerif.Model.Codec
import SctpVerif.Gen.CodecFacts
/-!
Definitions only, for the dispatch theorems of Props/C12.lean (`C12_dispatch_chunks`, `C12_dispatch_params`,
`C12_dispatch_causes`), which compare the model's type dispatch with the tables the translator reads off the
Go source (`Gen.packetUnmarshalDispatch`, `Gen.buildParamDispatch`, `Gen.buildErrorCauseDispatch`):
`goStruct` — the name of the Go struct a decoded chunk / parameter / cause kind stands for;
`probeValue`, `probeParam` — one input per type number on which the decoder is run.
-/
namespace Codec
open Res

/-- the Go struct a decoded chunk stands for -/
def Chunk.goStruct : Chunk → String
  | .data .. => "chunkPayloadData"
  | .init .. => "chunkInit"
  | .initAck .. => "chunkInitAck"
  | .sack .. => "chunkSelectiveAck"
  | .heartbeat .. => "chunkHeartbeat"
  | .heartbeatEmpty .. => "chunkHeartbeat"
  | .heartbeatAck .. => "chunkHeartbeatAck"
  | .abort .. => "chunkAbort"
  | .error .. => "chunkError"
  | .shutdown .. => "chunkShutdown"
  | .shutdownAck .. => "chunkShutdownAck"
  | .shutdownComplete .. => "chunkShutdownComplete"
  | .cookieEcho .. => "chunkCookieEcho"
  | .cookieAck .. => "chunkCookieAck"
  | .reconfig .. => "chunkReconfig"
  | .forwardTsn .. => "chunkForwardTSN"
  | .iForwardTsn .. => "chunkIForwardTSN"

def Param.goStruct : Param → String
  | .heartbeatInfo _ => "paramHeartbeatInfo"
  | .stateCookie _ => "paramStateCookie"
  | .outReset .. => "paramOutgoingResetRequest"
  | .reconfigResp .. => "paramReconfigResponse"
  | .ecnCapable => "paramECNCapable"
  | .zeroChecksum _ => "paramZeroChecksumAcceptable"
  | .random _ => "paramRandom"
  | .chunkList _ => "paramChunkList"
  | .reqHmac _ => "paramRequestedHMACAlgorithm"
  | .supportedExt _ => "paramSupportedExtensions"
  | .fwdTsnSupported => "paramForwardTSNSupported"

def CauseKind.goStruct : CauseKind → String
  | .hdr => "errorCauseHeader"
  | .invalidMandatory => "errorCauseInvalidMandatoryParameter"
  | .unrecognizedChunk => "errorCauseUnrecognizedChunkType"
  | .protocolViolation => "errorCauseProtocolViolation"
  | .userAbort => "errorCauseUserInitiatedAbort"

/-- for chunk type number `t`, one chunk value its decoder accepts, for probing which struct it builds:
a Heartbeat-Info parameter header of length 4 (empty info) for HEARTBEAT / HEARTBEAT-ACK, 12 zero bytes
for SACK (no gaps, no duplicates) and for I-FORWARD-TSN (one entry), the empty value for ABORT / ERROR,
4 zero bytes for SHUTDOWN, a Reconfig-Response parameter (type 16, length 12) for RECONFIG, 16 zero bytes
for every other type -/
def probeValue (t : Nat) : Bytes :=
  if t = 4 ∨ t = 5 then [0, 1, 0, 4]
  else if t = 3 then zeros 12
  else if t = 6 ∨ t = 9 then []
  else if t = 7 then zeros 4
  else if t = 130 then [0, 16, 0, 12] ++ zeros 8
  else if t = 194 then zeros 12
  else zeros 16

/-- for parameter type number `t`, one input that `buildParam` accepts for every type of its switch: header
(`t`, length 16) and the 12-byte value `0,1,0,3` three times (as HMAC identifiers: 1, 3, 1, 3, 1, 3) -/
def probeParam (t : Nat) : Bytes :=
  [byteOf (t / 256), byteOf t, 0, 16] ++ [0, 1, 0, 3, 0, 1, 0, 3, 0, 1, 0, 3].map (BitVec.ofNat 8)

end Codec
