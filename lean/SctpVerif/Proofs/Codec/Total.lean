import SctpVerif.Proofs.Codec.Basic
import SctpVerif.Proofs.ListAux
/-!
What the decoder returns, one statement `(f …).Sat post` per decoding function of Model/Codec.lean, in its
order, from `paramHeaderUnmarshal` up to the chunk loop `chunksLoop`; the statement for `decWith` itself
(`decWith_spec`) is in Packet.lean, after the normal form `decWith_eq` from which it is read off.
`Sat` carries two things at once. Totality (C03, decoder part): no byte string drives a decoding function into a
`panic` outcome (a Go index/slice out of range) or exhausts the loop fuel `len/4+1` (`loop`). And the
shape of accepted input: lengths stay inside the buffer, every loop iteration advances by at least 4
bytes, decoded parameters, causes and chunks are well formed (up to `normChunk`, and except the two
shapes `reencodable` excludes), which is the ingredient of re-encode stability (C12).
Not `Sat` statements: `buildParam_hb`, and before `decIForwardTsn_spec` the list facts about `normInsert` /
`normalizeStreams` (keys stay distinct, `normalizeStreams_idem`, `normalizeStreams_length`) it needs.
-/
namespace Codec
open Res CodecSpec

/-- `ifcase c => tac`: case split on the condition of the outermost `if c then … else …` of the goal;
`tac` closes the positive case, the proof continues in the negative one. The case hypothesis has a
hygienic (inaccessible) name in both branches: get hold of it with `rename_i` -/
macro "ifcase " t:term " => " tac:tacticSeq : tactic =>
  `(tactic| (by_cases hh : $t; (· rw [if_pos hh]; ($tac)); rw [if_neg hh]))

/-- `hifcase h : c => tac`: case split on the outermost `if c then … else …` in hypothesis `h` -/
macro "hifcase " h:ident " : " t:term " => " tac:tacticSeq : tactic =>
  `(tactic| (by_cases hh : $t; (· rw [if_pos hh] at $h:ident; ($tac)); rw [if_neg hh] at $h:ident))

/-! ### paramheader.go, param*.go -/

theorem paramHeaderUnmarshal_spec (raw : Bytes) :
    (paramHeaderUnmarshal raw).Sat fun (t, v, n) =>
      4 ≤ n ∧ n ≤ raw.length ∧ v = (raw.take n).drop 4 ∧ v.length = n - 4 ∧ n = (g16 raw 2).toNat ∧ t = g16 raw 0 := by
  unfold paramHeaderUnmarshal
  simp only [c_paramHeaderLength]
  split
  · exact sat_err
  · refine sat_u16 (by omega) fun l hl => ?_
    split
    · exact sat_err
    · split
      · exact sat_err
      · refine sat_u16 (by omega) fun t ht => sat_slice (by omega) (by omega) (sat_ok.2 ?_)
        dsimp only
        refine ⟨by omega, by omega, rfl, ?_, by rw [hl], ht⟩
        simp only [List.length_drop, List.length_take]
        omega

theorem readU16s_spec (raw : Bytes) (n off : Nat) (h : off + 2 * n ≤ raw.length) :
    (readU16s raw off n).Sat fun xs => xs.length = n := by
  induction n generalizing off with
  | zero => exact rfl
  | succ n ih =>
    unfold readU16s
    refine sat_u16 (by omega) fun x _ => sat_bind (ih (off + 2) (by omega)) fun xs hxs => ?_
    exact congrArg (· + 1) hxs

/-- the identifier loop of `paramRequestedHMACAlgorithm.unmarshal` on a value of even length: `len/2 + 1`
units of fuel are enough, every identifier kept is SHA-1 or SHA-256, and the whole value is consumed -/
theorem readHmacs_spec (raw : Bytes) (fuel i : Nat) (heven : raw.length % 2 = 0) (hi : i % 2 = 0)
    (hle : i ≤ raw.length) (hf : raw.length < i + 2 * fuel) :
    (readHmacs raw fuel i).Sat fun xs => (∀ a ∈ xs, a = 1#16 ∨ a = 3#16) ∧ i + 2 * xs.length = raw.length := by
  induction fuel generalizing i with
  | zero => omega
  | succ f ih =>
    unfold readHmacs
    split
    · refine sat_u16 (by omega) fun a _ => ?_
      split
      · rename_i hv
        refine sat_bind (ih (i + 2) (by omega) (by omega) (by omega)) fun xs hxs => ?_
        simp only [c_hmacSHA128, c_hmacSHA256] at hv
        simp only [sat_ok, List.mem_cons, forall_eq_or_imp, List.length_cons]
        exact ⟨⟨hv.imp BitVec.eq_of_toNat_eq BitVec.eq_of_toNat_eq, hxs.1⟩, by omega⟩
      · exact sat_err
    · exact sat_ok.2 ⟨(fun _ h => nomatch h), by simp only [List.length_nil]; omega⟩

/-- a decoded parameter is well formed, its re-encoding is not longer than the `n` bytes it claimed in its
own length field, and those lie inside the buffer -/
theorem buildParam_spec (typ : BitVec 16) (r : Bytes) :
    (buildParam typ r).Sat fun (p, n) =>
      CodecSpec.wfParam p = true ∧ (encParam p).length ≤ n ∧ 4 ≤ n ∧ n ≤ r.length ∧ n = (g16 r 2).toNat := by
  unfold buildParam
  -- the header alone gives the three facts about `n`; an arm is left with the parameter it builds from a value of `n - 4` bytes
  have hdr : ∀ k : BitVec 16 × Bytes × Nat → Res (Param × Nat),
      (∀ t v n, v.length + 4 = n → n < 65536 →
        (k (t, v, n)).Sat fun (p, m) => m = n ∧ CodecSpec.wfParam p = true ∧ (encParam p).length ≤ n) →
      (paramHeaderUnmarshal r >>= k).Sat fun (p, n) =>
        CodecSpec.wfParam p = true ∧ (encParam p).length ≤ n ∧ 4 ≤ n ∧ n ≤ r.length ∧ n = (g16 r 2).toNat := by
    intro k hk
    refine sat_bind (paramHeaderUnmarshal_spec r) ?_
    rintro ⟨t, v, n⟩ ⟨h1, h2, _, h4, h5, _⟩
    refine (hk t v n (by omega) (h5 ▸ (g16 r 2).isLt)).mono ?_
    rintro ⟨p, m⟩ ⟨rfl, hw, hl⟩
    exact ⟨hw, hl, h1, h2, h5⟩
  -- the seven parameters whose value is stored as it is (or not at all)
  have simple : ∀ (mk : Bytes → Param), (∀ v, v.length + 4 < 65536 → CodecSpec.wfParam (mk v) = true) →
      (∀ v, ∃ t w, encParam (mk v) = paramHeaderMarshal t w ∧ w.length ≤ v.length) →
      (paramHeaderUnmarshal r >>= fun x => Res.ok (mk x.2.1, x.2.2)).Sat fun (p, n) =>
        CodecSpec.wfParam p = true ∧ (encParam p).length ≤ n ∧ 4 ≤ n ∧ n ≤ r.length ∧ n = (g16 r 2).toNat := by
    intro mk hwf henc
    refine hdr _ fun t v n hv hn => ?_
    obtain ⟨t', w, he, hw⟩ := henc v
    simp only [sat_ok, he, paramHeaderMarshal_length, true_and]
    exact ⟨hwf v (by omega), by omega⟩
  have stored : ∀ v : Bytes, v.length + 4 < 65536 → fits v.length = true := fun v hv => (fits_iff _).2 hv
  ifcase typ = ptFwdTsnSupp => exact simple (fun _ => .fwdTsnSupported) (fun _ _ => rfl) fun v => ⟨_, [], rfl, Nat.zero_le _⟩
  ifcase typ = ptSupportedExt => exact simple .supportedExt stored fun v => ⟨_, v, rfl, Nat.le_refl _⟩
  ifcase typ = ptEcn => exact simple (fun _ => .ecnCapable) (fun _ _ => rfl) fun v => ⟨_, [], rfl, Nat.zero_le _⟩
  ifcase typ = ptRandom => exact simple .random stored fun v => ⟨_, v, rfl, Nat.le_refl _⟩
  ifcase typ = ptReqHmac =>
    refine hdr _ fun t v n hv hn => ?_
    dsimp only
    split
    · exact sat_err
    · refine sat_bind (readHmacs_spec v _ 0 (by omega) rfl (by omega) (by omega)) fun as has => ?_
      simp only [sat_ok, CodecSpec.wfParam, fits_iff, Bool.and_eq_true, List.all_eq_true, Bool.or_eq_true, decide_eq_true_eq,
        encParam, paramHeaderMarshal_length, flatten_be16_length, true_and]
      exact ⟨⟨by omega, has.1⟩, by omega⟩
  ifcase typ = ptChunkList => exact simple .chunkList stored fun v => ⟨_, v, rfl, Nat.le_refl _⟩
  ifcase typ = ptStateCookie => exact simple .stateCookie stored fun v => ⟨_, v, rfl, Nat.le_refl _⟩
  ifcase typ = ptHeartbeatInfo => exact simple .heartbeatInfo stored fun v => ⟨_, v, rfl, Nat.le_refl _⟩
  ifcase typ = ptOutReset =>
    refine hdr _ fun t v n hv hn => ?_
    simp only [c_outResetOffset]
    split
    · exact sat_err
    · refine sat_u32 (by omega) fun a => sat_u32 (by omega) fun b => sat_u32 (by omega) fun c => ?_
      refine sat_bind (readU16s_spec v _ _ (by omega)) fun sids hs => ?_
      simp only [sat_ok, CodecSpec.wfParam, fits_iff, encParam, paramHeaderMarshal_length, List.length_append, be32_length,
        flatten_be16_length, true_and]
      exact ⟨by omega, by omega⟩
  ifcase typ = ptReconfigResp =>
    refine hdr _ fun t v n hv hn => ?_
    dsimp only
    split
    · exact sat_err
    · refine sat_u32 (by omega) fun a => sat_u32 (by omega) fun b => ?_
      simp only [sat_ok, CodecSpec.wfParam, encParam, paramHeaderMarshal_length, List.length_append, be32_length, true_and]
      omega
  ifcase typ = ptZeroChecksum =>
    refine hdr _ fun t v n hv hn => ?_
    dsimp only
    split
    · exact sat_err
    · refine sat_u32 (by omega) fun a => ?_
      simp only [sat_ok, CodecSpec.wfParam, encParam, paramHeaderMarshal_length, be32_length, true_and]
      omega
  exact sat_err

theorem buildParam_hb {r : Bytes} {p : Param} {n : Nat} (h : buildParam ptHeartbeatInfo r = .ok (p, n)) :
    ∃ i, p = .heartbeatInfo i := by
  unfold buildParam at h
  simp only [pt_hb, pt_fwdtsn, pt_supext, pt_ecn, pt_random, pt_hmac, pt_chunklist, pt_cookie, BitVec.reduceEq,
    ↓reduceIte] at h
  obtain ⟨⟨t, v, m⟩, _, h⟩ := bind_eq_ok h
  exact ⟨v, (Prod.mk.inj (Res.ok.inj h)).1.symm⟩

theorem parseParamType_spec (raw : Bytes) : (parseParamType raw).Sat fun _ => True := by
  unfold parseParamType
  split
  · exact sat_err
  · rw [u16At_of_le (by omega)]; trivial

/-! ### error_cause*.go -/

theorem causeHeaderUnmarshal_spec (raw : Bytes) (h : 4 ≤ raw.length) :
    (causeHeaderUnmarshal raw).Sat fun (code, l, v) =>
      4 ≤ l ∧ l ≤ raw.length ∧ l < 65536 ∧ v.length = l - 4 ∧ code = g16 raw 0 := by
  unfold causeHeaderUnmarshal
  simp only [c_errorCauseHeaderLength]
  refine sat_u16 (by omega) fun code hc => sat_u16 (by omega) fun l _ => ?_
  split
  · exact sat_err
  · have hl : (l - trunc16 4).toNat = l.toNat - 4 := by
      simp only [trunc16, BitVec.toNat_sub, BitVec.toNat_ofNat]; omega
    have hlt := l.isLt
    rw [hl]
    refine sat_slice (by omega) (by omega) (sat_ok.2 ?_)
    dsimp only
    refine ⟨by omega, by omega, hlt, ?_, hc⟩
    simp only [List.length_drop, List.length_take]
    omega

/-- a decoded cause is well formed (the struct kind is the one of its code) and occupies `l = 4 + |data|`
bytes of the buffer -/
theorem buildErrorCause_spec (raw : Bytes) (h : 4 ≤ raw.length) :
    (buildErrorCause raw).Sat fun (c, l) => wfCause c = true ∧ l = 4 + c.data.length ∧ l ≤ raw.length := by
  unfold buildErrorCause
  refine sat_u16 (by omega) fun c hc => sat_bind (causeHeaderUnmarshal_spec raw h) ?_
  rintro ⟨code, l, v⟩ ⟨h1, h2, h3, h4, h5⟩
  subst hc h5
  simp only [sat_ok, wfCause, fits_iff, Bool.and_eq_true]
  refine ⟨⟨by omega, ?_⟩, by omega, h2⟩
  simp only [cc_invparam, cc_unrec, cc_pviol, cc_uabort]
  by_cases c1 : g16 raw 0 = 7#16
  · simp [c1]
  by_cases c2 : g16 raw 0 = 6#16
  · simp [c2]
  by_cases c3 : g16 raw 0 = 13#16
  · simp [c3]
  by_cases c4 : g16 raw 0 = 12#16
  · simp [c4]
  · simp [c1, c2, c3, c4]

theorem causesLoop_spec (raw : Bytes) (fuel off : Nat) (hoff : off ≤ raw.length) (hf : raw.length < off + 4 * fuel) :
    (causesLoop raw fuel off).Sat fun cs =>
      (∀ c ∈ cs, wfCause c = true) ∧ off + (cs.map fun c => 4 + c.data.length).sum ≤ raw.length := by
  induction fuel generalizing off with
  | zero => omega
  | succ f ih =>
    unfold causesLoop
    split
    · refine sat_sliceFrom hoff ?_
      have hlen : 4 ≤ (raw.drop off).length := by simp only [List.length_drop]; omega
      refine sat_bind (buildErrorCause_spec _ hlen) ?_
      rintro ⟨e, l⟩ ⟨hw, hl, hle⟩
      simp only [List.length_drop] at hle
      refine sat_bind (ih (off + l) (by omega) (by omega)) fun es hes => ?_
      simp only [sat_ok, List.mem_cons, forall_eq_or_imp, List.map_cons, List.sum_cons]
      exact ⟨⟨hw, hes.1⟩, by omega⟩
    · exact sat_ok.2 ⟨(fun _ h => nomatch h), hoff⟩

/-! ### chunkheader.go -/

theorem paddingLoop_spec (raw : Bytes) (vl i : Nat) (h : 4 + vl + i ≤ raw.length) :
    (paddingLoop raw vl i).Sat fun _ => True := by
  induction i with
  | zero => trivial
  | succ i ih =>
    unfold paddingLoop
    refine sat_u8 (by rw [c_chunkHeaderSize]; omega) fun b _ => ?_
    split
    · exact sat_err
    · exact ih (by omega)

/-- what `chunkHeaderUnmarshal` returns: type and flags are the first two bytes, the value is
`raw[4 : 4+vl]` with `vl = uint16(length - 4)`, and it fits -/
theorem chunkHeaderUnmarshal_spec (raw : Bytes) :
    (chunkHeaderUnmarshal raw).Sat fun (t, f, v) =>
      t = g8 raw 0 ∧ f = g8 raw 1 ∧ v.length = (g16 raw 2 - 4#16).toNat ∧ 4 + v.length ≤ raw.length ∧
      v = (raw.take (4 + v.length)).drop 4 := by
  unfold chunkHeaderUnmarshal
  simp only [c_chunkHeaderSize]
  split
  · exact sat_err
  · refine sat_u8 (by omega) fun t ht => sat_u8 (by omega) fun f hf => sat_u16 (by omega) fun l hl => ?_
    subst hl
    split
    · exact sat_err
    · have hl : ((raw.take (4 + (g16 raw 2 - trunc16 4).toNat)).drop 4).length = (g16 raw 2 - trunc16 4).toNat := by
        simp only [List.length_drop, List.length_take]; omega
      have fin : (slice raw 4 (4 + (g16 raw 2 - trunc16 4).toNat) >>= fun v => Res.ok (t, f, v)).Sat fun (t, f, v) =>
          t = g8 raw 0 ∧ f = g8 raw 1 ∧ v.length = (g16 raw 2 - 4#16).toNat ∧ 4 + v.length ≤ raw.length ∧
          v = (raw.take (4 + v.length)).drop 4 :=
        sat_slice (by omega) (by omega) (sat_ok.2 ⟨ht, hf, hl, by rw [hl]; omega, by rw [hl]⟩)
      split
      · exact sat_bind (paddingLoop_spec _ _ _ (by omega)) fun _ _ => fin
      · exact fin

/-! ### chunk_*.go -/

/-- the parameter loop of INIT / INIT-ACK: `len/4 + 1` units of fuel are enough, and the recognised
parameters re-encode (padded) into no more than the bytes they were read from -/
theorem initParamsLoop_spec (raw : Bytes) (fuel offset : Nat) (remaining : Int)
    (hrem : remaining = (raw.length : Int) - offset) (hf : remaining < 4 * fuel) (hpos : 0 < fuel) :
    (initParamsLoop raw fuel offset remaining).Sat fun (ps, _) =>
      (∀ p ∈ ps, CodecSpec.wfParam p = true) ∧ ((encParamsPadded ps).length : Int) ≤ max remaining 0 := by
  induction fuel generalizing offset remaining with
  | zero => omega
  | succ f ih =>
    unfold initParamsLoop
    simp only [c_initOptionalVarHeaderLength]
    have stop : (Res.ok (([] : List Param), ([] : List (BitVec 16 × Bytes)))).Sat fun (ps, _) =>
        (∀ p ∈ ps, CodecSpec.wfParam p = true) ∧ ((encParamsPadded ps).length : Int) ≤ max remaining 0 :=
      sat_ok.2 ⟨(fun _ h => nomatch h), by simp only [encParamsPadded, List.length_nil]; omega⟩
    split
    · split
      · refine sat_sliceFrom (by omega) (sat_bind (sat_wrap _ (paramHeaderUnmarshal_spec _)) ?_)
        rintro ⟨typ, v, plen⟩ ⟨h1, h2, _, _, h5, _⟩
        simp only [List.length_drop] at h2
        dsimp only
        have hrec := ih (offset + (plen + pad4 plen)) (remaining - ((plen + pad4 plen : Nat) : Int))
          (by omega) (by omega) (by omega)
        have hb := buildParam_spec typ (raw.drop offset)
        cases hbp : buildParam typ (raw.drop offset) with
        | ok x =>
          obtain ⟨p, n⟩ := x
          rw [hbp] at hb
          obtain ⟨hw, hle, _, _, hn⟩ := hb
          obtain rfl : n = plen := by omega
          refine sat_bind hrec ?_
          rintro ⟨ps, us⟩ ⟨i1, i2⟩
          simp only [sat_ok, List.mem_cons, forall_eq_or_imp]
          refine ⟨⟨hw, i1⟩, ?_⟩
          -- a parameter that is not the last is followed by its padding and at least 4 more bytes
          cases ps with
          | nil => simp only [encParamsPadded]; omega
          | cons q qs =>
            have hge := encParamsPadded_length_ge (q :: qs)
            have hm := padded_mono hle
            simp only [encParamsPadded, List.length_append, zeros_length, List.length_cons] at i2 hge ⊢
            omega
        | err e =>
          refine sat_bind hrec ?_
          rintro ⟨ps, us⟩ ⟨i1, i2⟩
          refine sat_ok.2 ?_
          dsimp only
          exact ⟨i1, by omega⟩
        | panic => rw [hbp] at hb; exact hb.elim
        | loop => rw [hbp] at hb; exact hb.elim
      · exact stop
    · exact stop

theorem initCommonUnmarshal_spec (raw : Bytes) (h : 16 ≤ raw.length) :
    (initCommonUnmarshal raw).Sat fun ic =>
      (∀ p ∈ ic.params, CodecSpec.wfParam p = true) ∧ (encParamsPadded ic.params).length + 16 ≤ raw.length := by
  unfold initCommonUnmarshal
  simp only [c_initChunkMinLength]
  refine sat_u32 (by omega) fun a => sat_u32 (by omega) fun b => sat_u16 (by omega) fun c _ =>
    sat_u16 (by omega) fun d _ => sat_u32 (by omega) fun e =>
      sat_bind (initParamsLoop_spec raw _ 16 _ rfl (by omega) (by omega)) ?_
  rintro ⟨ps, us⟩ ⟨hw, hsz⟩
  exact sat_ok.2 ⟨hw, by dsimp only; omega⟩

/-- what every body decoder establishes of the chunk it returns from the value `raw`: decoded from fewer than 2^16 bytes,
and not one of the two shapes `reencodable` excludes, it is well formed once the never-marshalled unrecognised INIT
parameters are dropped -/
def BodyOk (raw : Bytes) (c : Chunk) : Prop :=
  raw.length < 65536 → reencodable c = true → wfChunk (normChunk c) = true

theorem decInit_spec (ack : Bool) (flags : Byte) (raw : Bytes) : (decInit ack flags raw).Sat (BodyOk raw) := by
  unfold decInit
  simp only [c_initChunkMinLength]
  split
  · exact sat_err
  · split
    · exact sat_err
    · rename_i hlen hf
      have hf0 : flags = 0#8 := Decidable.not_not.mp hf
      refine sat_bind (sat_wrap _ (initCommonUnmarshal_spec raw (by omega))) ?_
      rintro ic ⟨hw, hsz⟩
      refine sat_ok.2 fun hv hr => ?_
      have hsize : (initCommonMarshal { ic with unrec := [] }).length < 65536 := by
        simp only [initCommonMarshal, List.length_append, be32_length, be16_length]
        omega
      cases ack <;>
      · simp only [reencodable, Bool.false_eq_true, ↓reduceIte] at hr
        simp only [Bool.false_eq_true, ↓reduceIte, normChunk, wfChunk, wfInit, Bool.and_eq_true, decide_eq_true_eq,
          List.all_eq_true, List.isEmpty_nil, fitsV_iff]
        exact ⟨hf0, ⟨⟨⟨hw, trivial⟩, hr⟩, hsize⟩⟩

theorem readGaps_spec (raw : Bytes) (n off : Nat) (h : off + 4 * n ≤ raw.length) :
    (readGaps raw off n).Sat fun xs => xs.length = n := by
  induction n generalizing off with
  | zero => exact rfl
  | succ n ih =>
    unfold readGaps
    refine sat_u16 (by omega) fun x _ => sat_u16 (by omega) fun y _ => sat_bind (ih (off + 4) (by omega)) fun xs hxs => ?_
    exact congrArg (· + 1) hxs

theorem readU32s_spec (raw : Bytes) (n off : Nat) (h : off + 4 * n ≤ raw.length) :
    (readU32s raw off n).Sat fun xs => xs.length = n := by
  induction n generalizing off with
  | zero => exact rfl
  | succ n ih =>
    unfold readU32s
    refine sat_u32 (by omega) fun x => sat_bind (ih (off + 4) (by omega)) fun xs hxs => ?_
    exact congrArg (· + 1) hxs

theorem decSack_spec (flags : Byte) (raw : Bytes) : (decSack flags raw).Sat (BodyOk raw) := by
  unfold decSack
  simp only [c_selectiveAckHeaderSize]
  split
  · exact sat_err
  · refine sat_u32 (by omega) fun a => sat_u32 (by omega) fun b => sat_u16 (by omega) fun ng _ =>
      sat_u16 (by omega) fun nd _ => ?_
    split
    · exact sat_err
    · rename_i hne
      have hne' : raw.length = 12 + (4 * ng.toNat + 4 * nd.toNat) := Decidable.not_not.mp hne
      refine sat_bind (readGaps_spec raw _ _ (by omega)) fun gs hg => ?_
      refine sat_bind (readU32s_spec raw _ _ (by omega)) fun ds hd => ?_
      simp only [sat_ok, BodyOk, normChunk, wfChunk, fitsV_iff]
      omega

/-- the parameter of a HEARTBEAT / HEARTBEAT-ACK is a Heartbeat-Info that fits the chunk value -/
theorem decHeartbeatParam_spec (raw : Bytes) (e1 e2 e3 e4 : Err) :
    (decHeartbeatParam raw e1 e2 e3 e4).Sat fun p => ∃ i, p = .heartbeatInfo i ∧ i.length + 4 ≤ raw.length := by
  unfold decHeartbeatParam
  simp only [c_initOptionalVarHeaderLength]
  split
  · exact sat_err
  · refine sat_bind (sat_wrap _ (parseParamType_spec raw)) fun pType _ => ?_
    split
    · exact sat_err
    · rename_i hpt
      have hpt' : pType = ptHeartbeatInfo := Decidable.not_not.mp hpt
      subst hpt'
      refine sat_bind (sat_wrap _ (paramHeaderUnmarshal_spec raw)) ?_
      rintro ⟨t, v, plen⟩ _
      dsimp only
      split
      · exact sat_err
      · rename_i hpl
        refine sat_slice (by omega) (by omega) (sat_bind (sat_wrap _ (buildParam_spec _ _).self) ?_)
        rintro ⟨p, n⟩ ⟨hb, _, hle, _, hn, _⟩
        obtain ⟨i, rfl⟩ := buildParam_hb hb
        refine sat_sliceFrom (by omega) ?_
        split
        · exact sat_err
        · simp only [encParam, paramHeaderMarshal_length] at hle
          simp only [List.length_drop, List.length_take] at hn
          exact sat_ok.2 ⟨i, rfl, by omega⟩

theorem decHeartbeat_spec (typ flags : Byte) (raw : Bytes) (htyp : typ = ctHeartbeat) :
    (decHeartbeat typ flags raw).Sat (BodyOk raw) := by
  unfold decHeartbeat
  split
  · rename_i hl
    have : raw = [] := List.eq_nil_of_length_eq_zero hl
    simp [this, BodyOk, normChunk, wfChunk, htyp]
  · refine sat_bind (decHeartbeatParam_spec raw _ _ _ _) ?_
    rintro _ ⟨i, rfl, hl⟩
    simp only [sat_ok, BodyOk, normChunk, wfChunk, fits_iff]; omega

theorem decHeartbeatAck_spec (flags : Byte) (raw : Bytes) : (decHeartbeatAck flags raw).Sat (BodyOk raw) := by
  unfold decHeartbeatAck
  split
  · exact sat_ok.2 fun _ hr => nomatch hr
  · refine sat_bind (decHeartbeatParam_spec raw _ _ _ _) ?_
    rintro _ ⟨i, rfl, hl⟩
    simp only [sat_ok, BodyOk, normChunk, wfChunk, fits_iff]; omega

theorem decReconfig_spec (flags : Byte) (raw : Bytes) : (decReconfig flags raw).Sat (BodyOk raw) := by
  unfold decReconfig
  refine sat_bind (parseParamType_spec raw) fun pType _ => sat_bind (buildParam_spec _ _) ?_
  rintro ⟨a, alen⟩ ⟨hwa, hla, _, hna, _⟩
  have hm := padded_mono hla
  dsimp only
  split
  · refine sat_sliceFrom (by omega) (sat_bind (parseParamType_spec _) fun pType _ => sat_bind (buildParam_spec _ _) ?_)
    rintro ⟨b, blen⟩ ⟨hwb, hlb, _, hnb, _⟩
    simp only [List.length_drop] at hnb
    simp only [sat_ok, BodyOk, normChunk, wfChunk, hwa, hwb, Bool.and_self, Bool.true_and, fitsV_iff, paramLen]
    omega
  · simp only [sat_ok, BodyOk, normChunk, wfChunk, hwa, Bool.and_self, Bool.true_and, fitsV_iff, paramLen]
    omega

theorem fwdStreamsLoop_spec (raw : Bytes) (fuel offset : Nat) (remaining : Int)
    (hrem : remaining = (raw.length : Int) - offset) (hf : remaining < 4 * fuel) (hpos : 0 < fuel) :
    (fwdStreamsLoop raw fuel offset remaining).Sat fun ss => offset + 4 * ss.length ≤ max raw.length offset := by
  induction fuel generalizing offset remaining with
  | zero => omega
  | succ f ih =>
    unfold fwdStreamsLoop
    simp only [c_forwardTSNStreamLength]
    split
    · refine sat_sliceFrom (by omega) ?_
      split
      · exact sat_err
      · rename_i h0 h4
        simp only [List.length_drop] at h4
        refine sat_u16 (by simp only [List.length_drop]; omega) fun a _ =>
          sat_u16 (by simp only [List.length_drop]; omega) fun b _ => ?_
        refine sat_bind (ih (offset + 4) (remaining - ((4 : Nat) : Int)) (by omega) (by omega) (by omega)) fun ss hss => ?_
        simp only [sat_ok, List.length_cons]
        omega
    · refine sat_ok.2 ?_
      simp only [List.length_nil]; omega

theorem decForwardTsn_spec (flags : Byte) (raw : Bytes) : (decForwardTsn flags raw).Sat (BodyOk raw) := by
  unfold decForwardTsn
  simp only [c_newCumulativeTSNLength]
  split
  · exact sat_err
  · refine sat_u32 (by omega) fun c => ?_
    refine sat_bind (fwdStreamsLoop_spec raw _ 4 _ rfl (by omega) (by omega)) fun ss hss => ?_
    simp only [sat_ok, BodyOk, normChunk, wfChunk, fitsV_iff]
    omega

/-! ### I-FORWARD-TSN: `normalizeIForwardTSNStreams` is idempotent and does not lengthen the list -/

def ikey (s : IStream) : BitVec 16 × Bool := (s.1, s.2.1)

theorem normInsert_keys (acc : List IStream) (s : IStream) :
    (normInsert acc s).map ikey = if ikey s ∈ acc.map ikey then acc.map ikey else acc.map ikey ++ [ikey s] := by
  induction acc with
  | nil => simp [normInsert]
  | cons a rest ih =>
    unfold normInsert
    by_cases hk : a.1 = s.1 ∧ a.2.1 = s.2.1
    · rw [if_pos hk]
      have : ikey a = ikey s := by simp [ikey, hk.1, hk.2]
      by_cases hlt : Gen.sna32LT a.2.2 s.2.2 = true
      · simp [hlt, ikey, hk.1, hk.2]
      · simp [hlt, this]
    · rw [if_neg hk]
      have hne : ikey a ≠ ikey s := by
        intro he; apply hk
        simp only [ikey, Prod.mk.injEq] at he; exact he
      simp only [List.map_cons, ih, List.mem_cons]
      by_cases hm : ikey s ∈ rest.map ikey
      · simp [hm]
      · simp [hm, Ne.symm hne]

theorem normInsert_fresh (acc : List IStream) (s : IStream) (h : ikey s ∉ acc.map ikey) :
    normInsert acc s = acc ++ [s] := by
  induction acc with
  | nil => simp [normInsert]
  | cons a rest ih =>
    simp only [List.map_cons, List.mem_cons, not_or] at h
    unfold normInsert
    have hk : ¬ (a.1 = s.1 ∧ a.2.1 = s.2.1) := by
      intro hk; apply h.1; simp [ikey, hk.1, hk.2]
    rw [if_neg hk, ih h.2]
    rfl

theorem foldl_normInsert_keys_nodup (ss acc : List IStream) (h : (acc.map ikey).Nodup) :
    ((ss.foldl normInsert acc).map ikey).Nodup := by
  refine ListAux.foldl_inv (P := fun acc : List IStream => (acc.map ikey).Nodup) ss h fun acc s _ h => ?_
  rw [normInsert_keys]
  by_cases hm : ikey s ∈ acc.map ikey
  · rw [if_pos hm]; exact h
  · rw [if_neg hm]
    rw [List.nodup_append]
    exact ⟨h, by simp, by intro a ha b hb; simp at hb; subst hb; intro he; subst he; exact hm ha⟩

theorem foldl_normInsert_nodup (ss acc : List IStream) (h : ((acc ++ ss).map ikey).Nodup) :
    ss.foldl normInsert acc = acc ++ ss := by
  induction ss generalizing acc with
  | nil => simp
  | cons s ss ih =>
    simp only [List.foldl_cons]
    have hfresh : ikey s ∉ acc.map ikey := by
      simp only [List.map_append, List.map_cons, List.nodup_append] at h
      intro hm
      exact h.2.2 _ hm _ (by simp) rfl
    rw [normInsert_fresh acc s hfresh, ih]
    · simp
    · simpa using h

theorem foldl_normInsert_length (ss acc : List IStream) : (ss.foldl normInsert acc).length ≤ acc.length + ss.length := by
  induction ss generalizing acc with
  | nil => simp
  | cons s ss ih =>
    simp only [List.foldl_cons, List.length_cons]
    have := ih (normInsert acc s)
    have hl : (normInsert acc s).length ≤ acc.length + 1 := by
      have := congrArg List.length (normInsert_keys acc s)
      simp only [List.length_map] at this
      rw [this]; split <;> simp
    omega

theorem normalizeStreams_idem (ss : List IStream) : normalizeStreams (normalizeStreams ss) = normalizeStreams ss := by
  unfold normalizeStreams
  by_cases h2 : ss.length < 2
  · simp [h2]
  · rw [if_neg h2]
    by_cases h3 : (ss.foldl normInsert []).length < 2
    · rw [if_pos h3]
    · rw [if_neg h3]
      have := foldl_normInsert_nodup (ss.foldl normInsert []) [] (by
        simpa using foldl_normInsert_keys_nodup ss [] (by simp))
      simpa using this

theorem normalizeStreams_length (ss : List IStream) : (normalizeStreams ss).length ≤ ss.length := by
  unfold normalizeStreams
  split
  · exact Nat.le_refl _
  · have := foldl_normInsert_length ss []; simpa using this

theorem readIStreams_spec (raw : Bytes) (n i : Nat) (h : 4 + (i + n) * 8 ≤ raw.length) :
    (readIStreams raw n i).Sat fun xs => xs.length = n := by
  induction n generalizing i with
  | zero => exact rfl
  | succ n ih =>
    unfold readIStreams
    simp only [c_iForwardTSNEntryLength, c_newCumulativeTSNLength]
    refine sat_slice (by omega) (by omega) ?_
    have hl : ((raw.take (4 + i * 8 + 8)).drop (4 + i * 8)).length = 8 := by
      simp only [List.length_drop, List.length_take]; omega
    refine sat_u16 (by omega) fun a _ => sat_u16 (by omega) fun b _ => sat_u32 (by omega) fun c =>
      sat_bind (ih (i + 1) (by omega)) fun xs hxs => ?_
    exact congrArg (· + 1) hxs

theorem decIForwardTsn_spec (flags : Byte) (raw : Bytes) : (decIForwardTsn flags raw).Sat (BodyOk raw) := by
  unfold decIForwardTsn
  simp only [c_iForwardTSNEntryLength, c_newCumulativeTSNLength, c_maxIForwardTSNStreams]
  split
  · exact sat_err
  · refine sat_u32 (by omega) fun c => ?_
    split
    · exact sat_err
    · split
      · exact sat_err
      · refine sat_bind (readIStreams_spec raw _ 0 (by omega)) fun ss hss => ?_
        have := normalizeStreams_length ss
        simp only [sat_ok, BodyOk, normChunk, wfChunk, normalizeStreams_idem, decide_true, Bool.true_and, decide_eq_true_eq,
          c_maxIForwardTSNStreams]
        omega

theorem decData_spec (typ flags : Byte) (raw : Bytes) : (decData typ flags raw).Sat (BodyOk raw) := by
  unfold decData
  simp only [c_payloadDataHeaderSize, c_iDataHeaderSize]
  split
  · split
    · exact sat_err
    · refine sat_u32 (by omega) fun a => sat_u16 (by omega) fun b _ => sat_u16 (by omega) fun c _ =>
        sat_u32 (by omega) fun d => sat_sliceFrom (by omega) ?_
      simp [BodyOk, normChunk, wfChunk, fitsV_iff]
      omega
  · split
    · exact sat_err
    · refine sat_u32 (by omega) fun a => sat_u16 (by omega) fun b _ => sat_u32 (by omega) fun c =>
        sat_u32 (by omega) fun d => sat_sliceFrom (by omega) ?_
      simp only [sat_ok, BodyOk, normChunk, wfChunk, ↓reduceIte, decide_true, Bool.true_and, Bool.and_eq_true, fitsV_iff,
        List.length_drop]
      exact fun hv _ => ⟨by cases flagBit flags Gen.payloadDataBeginingFragmentBitmask <;> simp, by omega⟩

theorem decBody_spec (typ flags : Byte) (raw : Bytes) : (decBody typ flags raw).Sat (BodyOk raw) := by
  unfold decBody
  have causes : ∀ (e : Err) (mk : List Cause → Chunk), (∀ cs, normChunk (mk cs) = mk cs) →
      (∀ cs, wfChunk (mk cs) = (cs.all wfCause && fitsV (cs.map fun c => 4 + c.data.length).sum)) →
      ((causesLoop raw (raw.length / 4 + 1) 0).wrap e >>= fun cs => Res.ok (mk cs)).Sat (BodyOk raw) := by
    intro e mk hn hw
    refine sat_bind (sat_wrap _ (causesLoop_spec raw _ 0 (by omega) (by omega))) fun cs hcs => sat_ok.2 fun hv _ => ?_
    rw [hn, hw, Bool.and_eq_true, List.all_eq_true, fitsV_iff]
    exact ⟨hcs.1, by omega⟩
  have bytes : ∀ mk : Bytes → Chunk, (∀ b, normChunk (mk b) = mk b) → (∀ b, wfChunk (mk b) = fitsV b.length) →
      (Res.ok (mk raw)).Sat (BodyOk raw) :=
    fun mk hn hw => sat_ok.2 fun hv _ => by rw [hn, hw, fitsV_iff]; exact hv
  ifcase typ = ctInit => exact decInit_spec _ _ _
  ifcase typ = ctInitAck => exact decInit_spec _ _ _
  ifcase typ = ctAbort => exact causes _ .abort (fun _ => rfl) (fun _ => rfl)
  ifcase typ = ctCookieEcho => exact bytes (.cookieEcho flags) (fun _ => rfl) (fun _ => rfl)
  ifcase typ = ctCookieAck => exact bytes (.cookieAck flags) (fun _ => rfl) (fun _ => rfl)
  ifcase typ = ctHeartbeat => rename_i h; exact decHeartbeat_spec _ _ _ h
  ifcase typ = ctHeartbeatAck => exact decHeartbeatAck_spec _ _
  ifcase typ = ctData ∨ typ = ctIData => exact decData_spec _ _ _
  ifcase typ = ctSack => exact decSack_spec _ _
  ifcase typ = ctReconfig => exact decReconfig_spec _ _
  ifcase typ = ctForwardTSN => exact decForwardTsn_spec _ _
  ifcase typ = ctIForwardTSN => exact decIForwardTsn_spec _ _
  ifcase typ = ctError => exact causes _ .error (fun _ => rfl) (fun _ => rfl)
  ifcase typ = ctShutdown =>
    split
    · exact sat_err
    · rename_i h
      have : raw.length = 4 := by simpa using h
      exact sat_u32 (by omega) fun c => sat_ok.2 fun _ _ => rfl
  ifcase typ = ctShutdownAck => exact bytes (.shutdownAck flags) (fun _ => rfl) (fun _ => rfl)
  ifcase typ = ctShutdownComplete => exact bytes (.shutdownComplete flags) (fun _ => rfl) (fun _ => rfl)
  exact sat_err

/-- a decoded chunk lies inside the bytes it was decoded from -/
theorem decChunk_spec (rem : Bytes) (h : 4 ≤ rem.length) :
    (decChunk rem).Sat fun (c, vl) =>
      4 + vl ≤ rem.length ∧ (reencodable c = true → wfChunk (normChunk c) = true) := by
  unfold decChunk
  refine sat_u8 (by omega) fun t _ => ?_
  split
  · exact sat_err
  · refine sat_bind (chunkHeaderUnmarshal_spec rem) ?_
    rintro ⟨typ, flags, v⟩ ⟨_, _, hvl, hle, _⟩
    have hlt := (g16 rem 2 - 4#16).isLt
    refine sat_bind (decBody_spec typ flags v) fun c hc => sat_ok.2 ⟨hle, hc (by omega)⟩

/-! ### packet.go -/

theorem chunksLoop_spec (raw : Bytes) (fuel offset : Nat) (hpos : 0 < fuel)
    (hf : (raw.length : Int) - offset < 4 * fuel) :
    (chunksLoop raw fuel offset).Sat fun cs => ∀ c ∈ cs, reencodable c = true → wfChunk (normChunk c) = true := by
  induction fuel generalizing offset with
  | zero => omega
  | succ f ih =>
    unfold chunksLoop
    simp only [c_chunkHeaderSize]
    split
    · refine sat_sliceFrom (by omega) ?_
      split
      · exact sat_err
      · rename_i hlt h4
        have hlen : 4 ≤ (raw.drop offset).length := by omega
        refine sat_bind (decChunk_spec _ hlen) ?_
        rintro ⟨c, vl⟩ ⟨hle, hc⟩
        simp only [List.length_drop] at hle
        refine sat_bind (ih _ (by omega) (by omega)) fun cs hcs => ?_
        simp only [sat_ok, List.mem_cons, forall_eq_or_imp]
        exact ⟨hc, hcs⟩
    · split
      · exact sat_err
      · exact sat_ok.2 fun _ h => nomatch h

end Codec
