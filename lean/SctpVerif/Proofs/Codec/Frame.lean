import SctpVerif.Proofs.Codec.Total
/-!
Framing layer: `chunkHeader` round trip, the decoding of one chunk as a function of its own
bytes (locality), shift invariance of the chunk loop, independence of its fuel.
-/
namespace Codec
open Res

theorem allZero_iff (b : Bytes) : allZero b = true ↔ ∀ x ∈ b, x = 0#8 := by
  simp [allZero, List.all_eq_true]

@[simp] theorem allZero_zeros (n : Nat) : allZero (zeros n) = true := by
  simp [allZero_iff, zeros]

@[simp] theorem allZero_nil : allZero [] = true := rfl

/-- the padding loop over `pre ++ tail` with `pre.length = 4 + vl` checks the first `i` bytes of `tail` -/
theorem paddingLoop_append (pre tail : Bytes) (vl i : Nat) (hpre : pre.length = 4 + vl) (hi : i ≤ tail.length)
    (hz : allZero tail = true) : paddingLoop (pre ++ tail) vl i = .ok () := by
  induction i with
  | zero => simp [paddingLoop]
  | succ i ih =>
    unfold paddingLoop
    have hlt : i < tail.length := by omega
    have : u8At (pre ++ tail) (Gen.chunkHeaderSize + vl + i) = .ok (g8 tail i) := by
      rw [c_chunkHeaderSize, ← hpre, u8At_append_right, u8At_of_lt hlt]
    rw [this]
    have hz' : g8 tail i = 0#8 := by
      rw [allZero_iff] at hz
      apply hz
      simp [g8, List.getD_eq_getElem?_getD, List.getElem?_eq_getElem hlt]
    simp only [ok_bind, hz', ne_eq, not_true_eq_false, if_false]
    exact ih (by omega)

/-- `chunkHeader.unmarshal` on `hdr ++ v ++ tail` when the length field says `4 + |v|` (mod 2^16): the
result is `(type, flags, v)` whatever follows — provided what follows is at least 4 bytes (another
chunk; padding is not looked at then) or all zero. -/
theorem chunkHeaderUnmarshal_append (t f b1 b2 : Byte) (v tail : Bytes)
    (hl : (u16 b1 b2 - trunc16 4).toNat = v.length)
    (ht : 4 ≤ tail.length ∨ allZero tail = true) :
    chunkHeaderUnmarshal (t :: f :: b1 :: b2 :: (v ++ tail)) = .ok (t, f, v) := by
  unfold chunkHeaderUnmarshal
  rw [if_neg (by simp)]
  simp only [u8At_zero, u8At_cons_succ, u16At_cons_succ, u16At_zero, ok_bind, c_chunkHeaderSize, hl]
  have hlen : (t :: f :: b1 :: b2 :: (v ++ tail)).length = 4 + v.length + tail.length := by
    simp; omega
  have hslice : slice (t :: f :: b1 :: b2 :: (v ++ tail)) 4 (4 + v.length) = .ok v := by
    exact slice_mid [t, f, b1, b2] v tail
  rw [hlen, hslice]
  rw [if_neg (by omega)]
  by_cases h4 : ((4 + v.length + tail.length : Nat) : Int) - (((4 : Nat) : Int) + (v.length : Int)) < 4
  · rw [if_pos h4]
    have hz : allZero tail = true := by
      rcases ht with ht | ht
      · omega
      · exact ht
    have : paddingLoop (t :: f :: b1 :: b2 :: (v ++ tail)) v.length
        (((4 + v.length + tail.length : Nat) : Int) - (((4 : Nat) : Int) + (v.length : Int))).toNat = .ok () := by
      have e : (t :: f :: b1 :: b2 :: (v ++ tail)) = (t :: f :: b1 :: b2 :: v) ++ tail := by simp
      rw [e]
      exact paddingLoop_append _ _ _ _ (by simp; omega) (by omega) hz
    rw [this]
    simp
  · rw [if_neg h4]
    simp

theorem trunc16_add4_sub4 {n : Nat} (h : n < 65536) : (trunc16 (n + 4) - trunc16 4).toNat = n := by
  simp only [trunc16, BitVec.toNat_sub, BitVec.toNat_ofNat]
  omega

/-- `chunkHeader.unmarshal ∘ chunkHeader.marshal`: any value shorter than 2^16 bytes, followed either
by at least 4 more bytes (another chunk: padding is not looked at) or by zero bytes only. -/
theorem chunkHeader_roundtrip (t f : Byte) (v tail : Bytes) (hv : v.length < 65536)
    (ht : 4 ≤ tail.length ∨ allZero tail = true) :
    chunkHeaderUnmarshal (chunkHeaderMarshal t f v ++ tail) = .ok (t, f, v) := by
  unfold chunkHeaderMarshal
  simp only [be16, List.cons_append, List.nil_append, c_chunkHeaderSize]
  apply chunkHeaderUnmarshal_append
  · rw [u16_be]; exact trunc16_add4_sub4 hv
  · exact ht


/-- the decoding of a chunk whose length field frames exactly `hdr ++ v`: the result is computed
from type, flags and `v` alone, whatever bytes follow (at least 4, or all zero). -/
theorem decChunk_framed (t f b1 b2 : Byte) (v tail : Bytes)
    (hl : (u16 b1 b2 - trunc16 4).toNat = v.length) (ht : 4 ≤ tail.length ∨ allZero tail = true) :
    decChunk (t :: f :: b1 :: b2 :: (v ++ tail)) =
      if knownChunkType t then (decBody t f v >>= fun c => .ok (c, v.length)) else .err .ErrUnmarshalUnknownChunkType := by
  unfold decChunk
  simp only [u8At_zero, ok_bind, chunkHeaderUnmarshal_append t f b1 b2 v tail hl ht]
  cases knownChunkType t <;> simp

theorem decChunk_marshal (t f : Byte) (v tail : Bytes) (hv : v.length < 65536)
    (ht : 4 ≤ tail.length ∨ allZero tail = true) :
    decChunk (chunkHeaderMarshal t f v ++ tail) =
      if knownChunkType t then (decBody t f v >>= fun c => .ok (c, v.length)) else .err .ErrUnmarshalUnknownChunkType := by
  unfold chunkHeaderMarshal
  simp only [be16, List.cons_append, List.nil_append, c_chunkHeaderSize]
  apply decChunk_framed
  · rw [u16_be]; exact trunc16_add4_sub4 hv
  · exact ht


theorem chunksLoop_shift (raw : Bytes) (fuel off k : Nat) (hoff : off ≤ raw.length) :
    chunksLoop raw fuel (off + k) = chunksLoop (raw.drop off) fuel k := by
  induction fuel generalizing k with
  | zero => rfl
  | succ f ih =>
    unfold chunksLoop
    have hl : (raw.drop off).length = raw.length - off := List.length_drop
    by_cases hlt : off + k < raw.length
    · have hlt' : k < (raw.drop off).length := by omega
      rw [if_pos hlt, if_pos hlt', sliceFrom_of_le (by omega), sliceFrom_of_le (by omega)]
      simp only [ok_bind, List.drop_drop]
      have e : ∀ adv : Nat, chunksLoop raw f (off + k + adv) = chunksLoop (raw.drop off) f (k + adv) := by
        intro adv; rw [Nat.add_assoc]; exact ih _
      simp only [e]
    · have hlt' : ¬ k < (raw.drop off).length := by omega
      rw [if_neg hlt, if_neg hlt']
      by_cases he : off + k = raw.length
      · have he' : k = (raw.drop off).length := by omega
        rw [if_neg (by simpa using he), if_neg (by simpa using he')]
      · have he' : k ≠ (raw.drop off).length := by omega
        rw [if_pos he, if_pos he']

/-- the chunk loop does not depend on its fuel once there is one unit per 4 bytes left -/
theorem chunksLoop_fuel (raw : Bytes) (f f' off : Nat) (hpos : 0 < f) (hpos' : 0 < f')
    (hf : (raw.length : Int) - off < 4 * f) (hf' : (raw.length : Int) - off < 4 * f') :
    chunksLoop raw f off = chunksLoop raw f' off := by
  induction f generalizing f' off with
  | zero => omega
  | succ f ih =>
    cases f' with
    | zero => omega
    | succ f' =>
      unfold chunksLoop
      split
      · refine bind_congr fun rem hrem => ?_
        obtain rfl : raw.drop off = rem := by
          rw [sliceFrom_of_le (by omega)] at hrem; exact Res.ok.inj hrem
        split
        · rfl
        · rename_i h4
          simp only [List.length_drop, c_chunkHeaderSize] at h4
          refine bind_congr ?_
          rintro ⟨c, vl⟩ _
          dsimp only
          rw [ih f' _ (by omega) (by omega) (by rw [c_chunkHeaderSize]; omega) (by rw [c_chunkHeaderSize]; omega)]
      · rfl
/-- decoding of the chunk area of a packet (everything after the 12-byte common header) -/
def decChunks (bs : Bytes) : Res (List Chunk) := chunksLoop bs (bs.length / 4 + 1) 0

/-- any fuel above `len/4` gives the same result as `decChunks` -/
theorem chunksLoop_eq_decChunks (bs : Bytes) (f : Nat) (hf : bs.length / 4 + 1 ≤ f) :
    chunksLoop bs f 0 = decChunks bs :=
  chunksLoop_fuel bs f _ 0 (by omega) (by omega) (by omega) (by omega)

theorem decChunks_nil : decChunks [] = .ok [] := by
  simp [decChunks, chunksLoop]

/-- LOCALITY of the chunk loop. For a chunk `hdr ++ v` whose length field frames exactly its own
bytes, followed by its padding and by `rest` (nothing, or at least one more chunk header):
decoding the bundle = decoding this chunk from (type, flags, v) alone, then decoding `rest`.
The padding bytes are looked at only when nothing follows (then they must be zero). -/
theorem decChunks_cons (t f b1 b2 : Byte) (v pad rest : Bytes)
    (hl : (u16 b1 b2 - trunc16 4).toNat = v.length)
    (hpad : pad.length = pad4 v.length)
    (hrest : (rest = [] ∧ allZero pad = true) ∨ 4 ≤ rest.length) :
    decChunks (t :: f :: b1 :: b2 :: (v ++ (pad ++ rest))) =
      ((if knownChunkType t then decBody t f v else .err .ErrUnmarshalUnknownChunkType) >>= fun c =>
        decChunks rest >>= fun cs => .ok (c :: cs)) := by
  have ht : 4 ≤ (pad ++ rest).length ∨ allZero (pad ++ rest) = true := by
    rcases hrest with ⟨h1, h2⟩ | h
    · right; subst h1; simpa using h2
    · left; simp; omega
  have hlen : (t :: f :: b1 :: b2 :: (v ++ (pad ++ rest))).length = 4 + v.length + pad.length + rest.length := by
    simp; omega
  have hdec := decChunk_framed t f b1 b2 v (pad ++ rest) hl ht
  generalize hraw : (t :: f :: b1 :: b2 :: (v ++ (pad ++ rest))) = raw at *
  unfold decChunks
  rw [chunksLoop.eq_def]
  simp only
  rw [if_pos (by omega), sliceFrom_of_le (by omega)]
  simp only [ok_bind, List.drop_zero]
  rw [if_neg (by rw [c_chunkHeaderSize]; omega), hdec]
  cases hk : knownChunkType t
  · simp
  · simp only [if_true]
    cases hb : decBody t f v with
    | ok c =>
      simp only [ok_bind, c_chunkHeaderSize]
      have hshift := chunksLoop_shift raw (raw.length / 4) (4 + v.length + pad4 v.length) 0 (by omega)
      rw [Nat.add_zero] at hshift
      have hdrop : raw.drop (4 + v.length + pad4 v.length) = rest := by
        rw [← hraw, ← hpad]
        have : (t :: f :: b1 :: b2 :: (v ++ (pad ++ rest))) = ([t, f, b1, b2] ++ v ++ pad) ++ rest := by simp
        rw [this]
        have hl' : 4 + v.length + pad.length = ([t, f, b1, b2] ++ v ++ pad).length := by simp; omega
        rw [hl', List.drop_left]
      rw [Nat.zero_add, hshift, hdrop, chunksLoop_eq_decChunks rest _ (by omega)]
      rfl
    | err e => simp
    | panic => simp
    | loop => simp

end Codec
