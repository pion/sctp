import SctpVerif.Proofs.Codec.Chunks
/-!
Packet level: every well-formed chunk round-trips (`chunk_roundtrip`), bundles (`encChunks_roundtrip`), the common
header and the checksum, `packet.unmarshal` in normal form (`decWith_eq`: the checksum rule `accept`, then `decAfter`)
and from it the `Sat` statement of `decWith` (`decWith_spec`: totality, C03), the packet round trip, re-encode stability.
-/
namespace Codec
open Res CodecSpec

theorem chunk_roundtrip (c : Chunk) (h : wfChunk c = true) : RoundTrips c := by
  cases c with
  | data iData u b e i tsn si ssn mid fsn ppi ud =>
    exact data_roundtrip iData u b e i tsn si ssn mid fsn ppi ud h
  | init flags c =>
    simp only [wfChunk, Bool.and_eq_true, decide_eq_true_eq] at h
    obtain ⟨h1, h2⟩ := h
    subst h1
    exact init_roundtrip false c h2
  | initAck flags c =>
    simp only [wfChunk, Bool.and_eq_true, decide_eq_true_eq] at h
    obtain ⟨h1, h2⟩ := h
    subst h1
    exact init_roundtrip true c h2
  | sack f cum arwnd gaps dups =>
    simp only [wfChunk, fitsV_iff] at h
    exact sack_roundtrip f cum arwnd gaps dups h
  | heartbeat ps =>
    match ps, h with
    | [.heartbeatInfo i], h =>
      simp only [wfChunk, fits_iff] at h
      exact heartbeat_roundtrip i (by omega)
  | heartbeatEmpty typ f raw =>
    simp only [wfChunk, Bool.and_eq_true, decide_eq_true_eq, List.isEmpty_iff] at h
    obtain ⟨h1, h2⟩ := h
    subst h1 h2
    exact heartbeatEmpty_roundtrip f
  | heartbeatAck f ps =>
    match ps, h with
    | [.heartbeatInfo i], h =>
      simp only [wfChunk, fits_iff] at h
      exact heartbeatAck_roundtrip f i (by omega)
  | abort cs =>
    simp only [wfChunk, Bool.and_eq_true, List.all_eq_true, fitsV_iff] at h
    exact abort_roundtrip cs h.1 (by omega)
  | error cs =>
    simp only [wfChunk, Bool.and_eq_true, List.all_eq_true, fitsV_iff] at h
    exact error_roundtrip cs h.1 (by omega)
  | shutdown f cum => exact shutdown_roundtrip f cum
  | shutdownAck f raw => exact ⟨ctShutdownAck, f, raw, rfl, by decide, (fitsV_iff _).1 h, decBody_shutdownAck f raw⟩
  | shutdownComplete f raw =>
    exact ⟨ctShutdownComplete, f, raw, rfl, by decide, (fitsV_iff _).1 h, decBody_shutdownComplete f raw⟩
  | cookieEcho f raw => exact ⟨ctCookieEcho, f, raw, rfl, by decide, (fitsV_iff _).1 h, decBody_cookieEcho f raw⟩
  | cookieAck f raw => exact ⟨ctCookieAck, f, raw, rfl, by decide, (fitsV_iff _).1 h, decBody_cookieAck f raw⟩
  | reconfig f a b =>
    simp only [wfChunk, Bool.and_eq_true, fitsV_iff] at h
    obtain ⟨⟨h1, h2⟩, h3⟩ := h
    refine reconfig_roundtrip f a b h1 ?_ (by cases b <;> simp_all <;> omega)
    intro x hx; subst hx; simpa using h2
  | forwardTsn f cum ss => simp only [wfChunk, fitsV_iff] at h; exact forwardTsn_roundtrip f cum ss h
  | iForwardTsn f cum ss =>
    simp only [wfChunk, Bool.and_eq_true, decide_eq_true_eq, c_maxIForwardTSNStreams] at h
    exact iForwardTsn_roundtrip f cum ss h.1 h.2


theorem chunkHeaderMarshal_length (t f : Byte) (v : Bytes) : (chunkHeaderMarshal t f v).length = 4 + v.length := by
  simp [chunkHeaderMarshal]; omega

/-- `packet.marshal`'s chunk loop followed by `packet.unmarshal`'s chunk loop is the identity on
well-formed chunk lists; the produced chunk area is 4-aligned. -/
theorem encChunks_roundtrip (pre : Bytes) (hpre : pre.length % 4 = 0) (cs : List Chunk)
    (hwf : ∀ c ∈ cs, wfChunk c = true) :
    ∃ body, encChunks pre cs = .ok (pre ++ body) ∧ decChunks body = .ok cs ∧ body.length % 4 = 0 ∧
      (body = [] ∨ 4 ≤ body.length) := by
  induction cs generalizing pre with
  | nil => exact ⟨[], by simp [encChunks], decChunks_nil, rfl, Or.inl rfl⟩
  | cons c cs ih =>
    obtain ⟨t, f, v, henc, hknown, hvl, hdec⟩ := chunk_roundtrip c (hwf c (by simp))
    have hcl := chunkHeaderMarshal_length t f v
    have hpad : pad4 (pre ++ chunkHeaderMarshal t f v).length = pad4 v.length := by
      rw [List.length_append, hcl, pad4_eq, pad4_eq]; omega
    have hal : (pre ++ chunkHeaderMarshal t f v ++ zeros (pad4 v.length)).length % 4 = 0 := by
      have := add_pad4_mod v.length
      simp only [List.length_append, hcl, zeros_length]; omega
    obtain ⟨body', he', hd', hm', hb'⟩ := ih (pre ++ chunkHeaderMarshal t f v ++ zeros (pad4 v.length)) hal
      (fun x hx => hwf x (by simp [hx]))
    refine ⟨chunkHeaderMarshal t f v ++ zeros (pad4 v.length) ++ body', ?_, ?_, ?_, ?_⟩
    · unfold encChunks
      simp only [List.append_assoc] at he'
      simp only [henc, ok_bind, hpad, List.append_assoc, he']
    · have hcons := decChunks_cons t f (byteOf ((trunc16 (v.length + 4)).toNat / 256)) (byteOf (trunc16 (v.length + 4)).toNat)
        v (zeros (pad4 v.length)) body' (by rw [u16_be]; exact trunc16_add4_sub4 hvl) (by simp)
        (by rcases hb' with h | h
            · exact Or.inl ⟨h, by simp⟩
            · exact Or.inr h)
      have hshape : chunkHeaderMarshal t f v ++ zeros (pad4 v.length) ++ body' =
          t :: f :: byteOf ((trunc16 (v.length + 4)).toNat / 256) :: byteOf (trunc16 (v.length + 4)).toNat ::
            (v ++ (zeros (pad4 v.length) ++ body')) := by
        simp [chunkHeaderMarshal, be16]
      rw [hshape, hcons, hknown]
      simp only [↓reduceIte, hdec, hd', ok_bind]
    · have := add_pad4_mod v.length
      simp only [List.length_append, hcl, zeros_length]; omega
    · right; simp only [List.length_append, hcl]; omega

/-! ### the common header and the checksum -/

/-- `generatePacketChecksum` as a total function -/
def cksum (crc : Bytes → BitVec 32) (raw : Bytes) : BitVec 32 := crc (raw.take 8 ++ zeros 4 ++ raw.drop 12)

/-- the checksum field as a total function -/
def field (raw : Bytes) : BitVec 32 := u32 (g8 raw 11) (g8 raw 10) (g8 raw 9) (g8 raw 8)

theorem packetChecksum_eq (crc : Bytes → BitVec 32) (raw : Bytes) (h : 12 ≤ raw.length) :
    packetChecksum crc raw = .ok (cksum crc raw) := by
  unfold packetChecksum cksum
  rw [slice_of_le (by omega) (by omega), sliceFrom_of_le (by omega)]
  rfl

theorem u32_le (v : BitVec 32) :
    u32 (byteOf (v.toNat / 256 / 256 / 256)) (byteOf (v.toNat / 256 / 256)) (byteOf (v.toNat / 256)) (byteOf v.toNat) = v :=
  u32_be v

/-- writing the checksum does not change what it is computed from -/
theorem cksum_putChecksum (crc : Bytes → BitVec 32) (raw : Bytes) (s : BitVec 32) (h : 12 ≤ raw.length) :
    cksum crc (putChecksum raw s) = cksum crc raw := by
  unfold cksum putChecksum
  have h8 : (raw.take 8).length = 8 := by simp; omega
  have e1 : (raw.take 8 ++ le32 s ++ raw.drop 12).take 8 = raw.take 8 := by
    rw [List.append_assoc]; exact List.take_left' h8
  have e2 : (raw.take 8 ++ le32 s ++ raw.drop 12).drop 12 = raw.drop 12 :=
    List.drop_left' (by simp; omega)
  rw [e1, e2]

theorem g8_append_right (a b : Bytes) (i : Nat) : g8 (a ++ b) (a.length + i) = g8 b i := by
  simp only [g8, List.getD_eq_getElem?_getD]
  rw [List.getElem?_append_right (by omega)]
  simp

theorem g8_append_left (a b : Bytes) (i : Nat) (h : i < a.length) : g8 (a ++ b) i = g8 a i := by
  simp only [g8, List.getD_eq_getElem?_getD]
  rw [List.getElem?_append_left h]

theorem field_append (a : Bytes) (s : BitVec 32) (d : Bytes) (h8 : a.length = 8) : field (a ++ le32 s ++ d) = s := by
  unfold field
  have g : ∀ k, k < 4 → g8 (a ++ le32 s ++ d) (8 + k) = g8 (le32 s) k := by
    intro k hk
    rw [List.append_assoc, ← h8, g8_append_right, g8_append_left _ _ _ (by simp; omega)]
  have h0 := g 0 (by omega); have h1 := g 1 (by omega); have h2 := g 2 (by omega); have h3 := g 3 (by omega)
  simp only [Nat.add_zero, Nat.reduceAdd] at h0 h1 h2 h3
  rw [h0, h1, h2, h3]
  simp [g8, le32, u32_be]

theorem field_putChecksum (raw : Bytes) (s : BitVec 32) (h : 12 ≤ raw.length) : field (putChecksum raw s) = s :=
  field_append _ _ _ (by simp; omega)

/-! ### `packet.unmarshal` in normal form: the checksum rule, then everything else -/

/-- the packet has a first chunk header and its type is INIT or COOKIE-ECHO -/
def firstIsInitOrCookieEcho (raw : Bytes) : Bool :=
  decide (16 ≤ raw.length) && (g8 raw 12 == ctInit || g8 raw 12 == ctCookieEcho)

/-- the checksum acceptance rule of `packet.unmarshal(doChecksum, raw)` -/
def accept (crc : Bytes → BitVec 32) (doChecksum : Bool) (raw : Bytes) : Prop :=
  field raw = cksum crc raw ∨ (field raw = 0#32 ∧ doChecksum = false ∧ firstIsInitOrCookieEcho raw = false)

instance (crc : Bytes → BitVec 32) (dc : Bool) (raw : Bytes) : Decidable (accept crc dc raw) := by
  unfold accept; infer_instance

/-- what `packet.unmarshal` does once the checksum rule has let the packet through: it depends
neither on the flag nor on the CRC -/
def decAfter (raw : Bytes) : Res Packet :=
  chunksLoop raw (raw.length / 4 + 1) 12 >>= fun cs =>
    .ok { sport := g16 raw 0, dport := g16 raw 2, vtag := g32 raw 4, chunks := cs }

/-- the checksum stage of `packet.unmarshal` as one condition: `a` the field, `b` the CRC, `d` the flag
in force (forced to `true` by a leading INIT / COOKIE-ECHO) -/
theorem checksumGate {α : Type} (a b : BitVec 32) (d : Bool) (x : Res α) :
    (if a ≠ 0#32 ∨ d = true then (if a ≠ b then Res.err .ErrChecksumMismatch else x) else x) =
      if a = b ∨ (a = 0#32 ∧ d = false) then x else .err .ErrChecksumMismatch := by
  by_cases hab : a = b
  · simp [hab]
  · cases d <;> by_cases h0 : a = 0#32 <;> simp [hab, h0]

theorem decWith_eq (crc : Bytes → BitVec 32) (dc : Bool) (raw : Bytes) (h12 : 12 ≤ raw.length) :
    decWith crc dc raw = if accept crc dc raw then decAfter raw else .err .ErrChecksumMismatch := by
  have hf : u32 (g8 raw (8 + 3)) (g8 raw (8 + 2)) (g8 raw (8 + 1)) (g8 raw 8) = field raw := rfl
  unfold decWith
  rw [if_neg (by rw [c_packetHeaderSize]; omega)]
  simp only [c_packetHeaderSize, c_chunkHeaderSize]
  rw [u32leAt_of_le (by omega), packetChecksum_eq crc raw h12, u16At_of_le (by omega), u16At_of_le (by omega),
    u32At_of_le (by omega), hf]
  simp only [ok_bind, pure_eq, err_bind, checksumGate]
  unfold accept firstIsInitOrCookieEcho decAfter
  -- both sides are now `if field = crc ∨ (field = 0 ∧ flag in force = false) then … else …`: compare the flags
  by_cases h16 : 12 + 4 ≤ raw.length
  · rw [if_pos h16, u8At_of_lt (by omega), ok_bind]
    refine ite_congr (propext (or_congr_right (and_congr_right fun _ => ?_))) (fun _ => rfl) (fun _ => rfl)
    have h16' : 16 ≤ raw.length := h16
    simp [h16', and_comm]
  · rw [if_neg h16]
    refine ite_congr (propext (or_congr_right (and_congr_right fun _ => ?_))) (fun _ => rfl) (fun _ => rfl)
    have : decide (16 ≤ raw.length) = false := decide_eq_false h16
    simp [this]

/-- totality of `packet.unmarshal`, and what it decodes: read off the normal form -/
theorem decWith_spec (crc : Bytes → BitVec 32) (dc : Bool) (raw : Bytes) :
    (decWith crc dc raw).Sat fun p => ∀ c ∈ p.chunks, reencodable c = true → wfChunk (normChunk c) = true := by
  by_cases h12 : 12 ≤ raw.length
  · rw [decWith_eq crc dc raw h12]
    split
    · exact sat_bind (chunksLoop_spec raw _ 12 (by omega) (by omega)) fun cs hcs => sat_ok.2 hcs
    · exact sat_err
  · unfold decWith
    rw [if_pos (by rw [c_packetHeaderSize]; omega)]
    exact sat_err


theorem encChunks_prefix (pre : Bytes) (cs : List Chunk) (raw : Bytes) (h : encChunks pre cs = .ok raw) :
    ∃ body, raw = pre ++ body := by
  induction cs generalizing pre with
  | nil => exact ⟨[], by rw [List.append_nil]; exact (Res.ok.inj h).symm⟩
  | cons c cs ih =>
    unfold encChunks at h
    obtain ⟨cb, _, h⟩ := bind_eq_ok h
    obtain ⟨body, hb⟩ := ih _ h
    exact ⟨cb ++ zeros (pad4 (pre ++ cb).length) ++ body, by rw [hb]; simp⟩

/-- the first 8 bytes of the common header (ports, verification tag); `packet.marshal` starts from
`hdr8 p ++ zeros 4`, the 12-byte header with a zero checksum field -/
def hdr8 (p : Packet) : Bytes := be16 p.sport ++ be16 p.dport ++ be32 p.vtag

theorem hdr8_length (p : Packet) : (hdr8 p).length = 8 := by simp [hdr8]

theorem putChecksum_hdr (p : Packet) (body : Bytes) (s : BitVec 32) :
    putChecksum (hdr8 p ++ zeros 4 ++ body) s = hdr8 p ++ le32 s ++ body := by
  unfold putChecksum
  have h1 : (hdr8 p ++ zeros 4 ++ body).take 8 = hdr8 p := by
    rw [List.append_assoc]; exact List.take_left' (hdr8_length p)
  have h2 : (hdr8 p ++ zeros 4 ++ body).drop 12 = body :=
    List.drop_left' (by simp [hdr8_length])
  rw [h1, h2]

/-- `packet.unmarshal` applies the chunk loop to everything after the 12-byte header -/
theorem decAfter_eq (raw : Bytes) (h : 12 ≤ raw.length) :
    decAfter raw = decChunks (raw.drop 12) >>= fun cs =>
      .ok { sport := g16 raw 0, dport := g16 raw 2, vtag := g32 raw 4, chunks := cs } := by
  unfold decAfter
  have := chunksLoop_shift raw (raw.length / 4 + 1) 12 0 h
  rw [Nat.add_zero] at this
  rw [this, chunksLoop_eq_decChunks _ _ (by simp only [List.length_drop]; omega)]

theorem decAfter_hdr (p : Packet) (x body : Bytes) (hx : x.length = 4) (cs : List Chunk)
    (hd : decChunks body = .ok cs) :
    decAfter (hdr8 p ++ x ++ body) = .ok { sport := p.sport, dport := p.dport, vtag := p.vtag, chunks := cs } := by
  have hl : (hdr8 p ++ x).length = 12 := by simp [hdr8_length, hx]
  rw [decAfter_eq _ (by rw [List.length_append, hl]; omega), List.drop_left' hl, hd]
  have e0 : g16 (hdr8 p ++ x ++ body) 0 = p.sport := by simp [hdr8, be16, g16, g8]
  have e2 : g16 (hdr8 p ++ x ++ body) 2 = p.dport := by simp [hdr8, be16, g16, g8]
  have e4 : g32 (hdr8 p ++ x ++ body) 4 = p.vtag := by simp [hdr8, be16, be32, g32, g8]
  rw [ok_bind, e0, e2, e4]

/-- ROUND TRIP: a well-formed packet, marshalled with its checksum, unmarshals to itself whatever
the `doChecksum` flag of the receiver. `crc` is arbitrary. -/
theorem packet_roundtrip (crc : Bytes → BitVec 32) (p : Packet) (hwf : wfPacket p = true) :
    ∃ raw, encWith crc true p = .ok raw ∧ ∀ dc, decWith crc dc raw = .ok p := by
  simp only [wfPacket, List.all_eq_true] at hwf
  obtain ⟨body, he, hd, _, _⟩ := encChunks_roundtrip (hdr8 p ++ zeros 4) (by simp [hdr8_length]) p.chunks hwf
  have hlen : 12 ≤ (hdr8 p ++ zeros 4 ++ body).length := by simp [hdr8_length]; omega
  refine ⟨hdr8 p ++ le32 (cksum crc (hdr8 p ++ zeros 4 ++ body)) ++ body, ?_, ?_⟩
  · unfold encWith
    have : be16 p.sport ++ be16 p.dport ++ be32 p.vtag ++ zeros 4 = hdr8 p ++ zeros 4 := rfl
    rw [this, he]
    simp only [ok_bind, ↓reduceIte, packetChecksum_eq crc _ hlen, putChecksum_hdr]
  · intro dc
    have hlen' : 12 ≤ (hdr8 p ++ le32 (cksum crc (hdr8 p ++ zeros 4 ++ body)) ++ body).length := by
      simp [hdr8_length]; omega
    rw [decWith_eq crc dc _ hlen']
    have hacc : accept crc dc (hdr8 p ++ le32 (cksum crc (hdr8 p ++ zeros 4 ++ body)) ++ body) := by
      left
      rw [← putChecksum_hdr, field_putChecksum _ _ hlen, cksum_putChecksum _ _ _ hlen]
    rw [if_pos hacc, decAfter_hdr p _ body (by simp) p.chunks hd]


theorem le32_zero : le32 0#32 = zeros 4 := by decide

/-- what `packet.marshal(doChecksum)` writes into the checksum field -/
theorem encWith_field (crc : Bytes → BitVec 32) (dc : Bool) (p : Packet) (raw : Bytes)
    (h : encWith crc dc p = .ok raw) :
    12 ≤ raw.length ∧ field raw = if dc then cksum crc raw else 0#32 := by
  unfold encWith at h
  obtain ⟨raw0, he, h⟩ := bind_eq_ok h
  obtain ⟨body, rfl⟩ := encChunks_prefix _ _ _ he
  have hlen : 12 ≤ (hdr8 p ++ zeros 4 ++ body).length := by simp [hdr8_length]; omega
  cases dc
  · obtain rfl := Res.ok.inj h
    refine ⟨hlen, ?_⟩
    rw [← le32_zero]
    exact field_append _ _ _ (hdr8_length p)
  · simp only [↓reduceIte] at h
    rw [show be16 p.sport ++ be16 p.dport ++ be32 p.vtag ++ zeros 4 = hdr8 p ++ zeros 4 from rfl,
      packetChecksum_eq crc _ hlen] at h
    obtain rfl := Res.ok.inj h
    refine ⟨by rw [putChecksum_hdr]; simp [hdr8_length]; omega, ?_⟩
    rw [field_putChecksum _ _ hlen, cksum_putChecksum _ _ _ hlen]
    rfl

/-- a packet of 13…15 bytes (something after the common header, but not a whole chunk header) is rejected
after the checksum stage, whatever its bytes; used in `C13_inbound_zero_never_for_init` for such a packet
whose byte 12 is INIT / COOKIE-ECHO -/
theorem decAfter_short (raw : Bytes) (h1 : 12 < raw.length) (h2 : raw.length < 16) :
    decAfter raw = .err .ErrParseSCTPChunkNotEnoughData := by
  unfold decAfter
  rw [chunksLoop.eq_def]
  simp only
  rw [if_pos h1, sliceFrom_of_le (by omega)]
  simp only [ok_bind]
  rw [if_pos (by simp only [List.length_drop, c_chunkHeaderSize]; omega)]
  rfl

/-! ### re-encode stability: what the decoder accepts is well formed up to `norm`, and `norm` changes nothing
the encoder looks at -/

theorem encChunk_norm (c : Chunk) : encChunk (normChunk c) = encChunk c := by
  cases c <;> rfl

theorem encChunks_norm (pre : Bytes) (cs : List Chunk) : encChunks pre (cs.map normChunk) = encChunks pre cs := by
  induction cs generalizing pre with
  | nil => rfl
  | cons c cs ih =>
    simp only [List.map_cons]
    unfold encChunks
    rw [encChunk_norm]
    cases encChunk c with
    | ok cb => simp only [ok_bind]; exact ih _
    | err e => rfl
    | panic => rfl
    | loop => rfl

theorem encWith_norm (crc : Bytes → BitVec 32) (dc : Bool) (p : Packet) : encWith crc dc (norm p) = encWith crc dc p := by
  unfold encWith norm
  simp only [encChunks_norm]

theorem normChunk_idem (c : Chunk) : normChunk (normChunk c) = normChunk c := by
  cases c <;> rfl

/-- RE-ENCODE STABILITY for every accepted packet none of whose chunks has one of the two known shapes:
the decoded packet is re-encoded successfully, the re-encoding decodes to the same packet (up to the
never-marshalled unrecognised INIT parameters), and a second round changes nothing. -/
theorem reencode_stable (crc : Bytes → BitVec 32) (dc : Bool) (raw : Bytes) (p : Packet)
    (h : decWith crc dc raw = .ok p) (hr : p.chunks.all reencodable = true) :
    ∃ raw', encWith crc true p = .ok raw' ∧ (∀ dc', decWith crc dc' raw' = .ok (norm p)) ∧
      encWith crc true (norm p) = .ok raw' := by
  have hwf : wfPacket (norm p) = true := by
    simp only [wfPacket, norm, List.all_eq_true, List.mem_map]
    rintro x ⟨c, hc, rfl⟩
    exact (decWith_spec crc dc raw).of_ok h c hc (List.all_eq_true.1 hr c hc)
  obtain ⟨raw', he, hd⟩ := packet_roundtrip crc (norm p) hwf
  exact ⟨raw', by rw [← encWith_norm]; exact he, hd, he⟩

end Codec
