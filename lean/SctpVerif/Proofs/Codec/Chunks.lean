import SctpVerif.Proofs.Codec.RoundTrip
/-!
Round trip of each chunk type: `decBody t f v = ok c` where `encChunk c = ok (chunkHeaderMarshal t f v)`.
-/
namespace Codec
open Res CodecSpec

/-! ### `decBody` by chunk type -/
section dispatch
variable (f : Byte) (v : Bytes)
theorem decBody_init : decBody ctInit f v = decInit false f v := by simp [decBody]
theorem decBody_initAck : decBody ctInitAck f v = decInit true f v := by simp [decBody]
theorem decBody_abort : decBody ctAbort f v =
    (causesLoop v (v.length / 4 + 1) 0).wrap .ErrBuildAbortChunkFailed >>= fun cs => .ok (.abort cs) := by simp [decBody]
theorem decBody_error : decBody ctError f v =
    (causesLoop v (v.length / 4 + 1) 0).wrap .ErrBuildErrorChunkFailed >>= fun cs => .ok (.error cs) := by simp [decBody]
theorem decBody_cookieEcho : decBody ctCookieEcho f v = .ok (.cookieEcho f v) := by simp [decBody]
theorem decBody_cookieAck : decBody ctCookieAck f v = .ok (.cookieAck f v) := by simp [decBody]
theorem decBody_heartbeat : decBody ctHeartbeat f v = decHeartbeat ctHeartbeat f v := by simp [decBody]
theorem decBody_heartbeatAck : decBody ctHeartbeatAck f v = decHeartbeatAck f v := by simp [decBody]
theorem decBody_data : decBody ctData f v = decData ctData f v := by simp [decBody]
theorem decBody_idata : decBody ctIData f v = decData ctIData f v := by simp [decBody]
theorem decBody_sack : decBody ctSack f v = decSack f v := by simp [decBody]
theorem decBody_reconfig : decBody ctReconfig f v = decReconfig f v := by simp [decBody]
theorem decBody_forwardTsn : decBody ctForwardTSN f v = decForwardTsn f v := by simp [decBody]
theorem decBody_iForwardTsn : decBody ctIForwardTSN f v = decIForwardTsn f v := by simp [decBody]
theorem decBody_shutdown : decBody ctShutdown f v =
    if v.length ≠ 4 then .err .ErrInvalidChunkSize else u32At v 0 >>= fun cum => .ok (.shutdown f cum) := by
  simp [decBody]
theorem decBody_shutdownAck : decBody ctShutdownAck f v = .ok (.shutdownAck f v) := by simp [decBody]
theorem decBody_shutdownComplete : decBody ctShutdownComplete f v = .ok (.shutdownComplete f v) := by simp [decBody]
end dispatch

/-- a chunk's wire form and its decoding from exactly that form -/
def RoundTrips (c : Chunk) : Prop :=
  ∃ t f v, encChunk c = .ok (chunkHeaderMarshal t f v) ∧ knownChunkType t = true ∧ v.length < 65536 ∧
    decBody t f v = .ok c

theorem flagBit_dataFlags (u b e i : Bool) :
    flagBit (dataFlags u b e i) 8 = i ∧ flagBit (dataFlags u b e i) 4 = u ∧
    flagBit (dataFlags u b e i) 2 = b ∧ flagBit (dataFlags u b e i) 1 = e := by
  cases u <;> cases b <;> cases e <;> cases i <;> decide

theorem data_roundtrip (iData u b e i : Bool) (tsn : BitVec 32) (si ssn : BitVec 16) (mid fsn ppi : BitVec 32) (ud : Bytes)
    (h : wfChunk (.data iData u b e i tsn si ssn mid fsn ppi ud) = true) :
    RoundTrips (.data iData u b e i tsn si ssn mid fsn ppi ud) := by
  obtain ⟨h1, h2, h3, h4⟩ := flagBit_dataFlags u b e i
  cases iData
  · simp only [wfChunk, Bool.false_eq_true, ↓reduceIte, Bool.and_eq_true, decide_eq_true_eq, fitsV_iff] at h
    obtain ⟨⟨rfl, rfl⟩, hl⟩ := h
    refine ⟨ctData, dataFlags u b e i, be32 tsn ++ be16 si ++ be16 ssn ++ be32 ppi ++ ud, rfl, by decide,
      by simp; omega, ?_⟩
    rw [decBody_data]
    unfold decData
    simp only [c_maskI, c_maskU, c_maskB, c_maskE, h1, h2, h3, h4, ct_data, ↓reduceIte, c_payloadDataHeaderSize]
    rw [if_neg (by simp; omega)]
    simp only [List.append_assoc, u32At_be32_zero, u32At_be32_add, u16At_be32_add, u16At_be16_zero, u16At_be16_add,
      u32At_be16_add, sliceFrom_be32_add, sliceFrom_be16_add, sliceFrom_zero, ok_bind]
    rfl
  · simp only [wfChunk, ↓reduceIte, Bool.and_eq_true, decide_eq_true_eq, fitsV_iff] at h
    obtain ⟨⟨rfl, hb⟩, hl⟩ := h
    refine ⟨ctIData, dataFlags u b e i,
      be32 tsn ++ be16 si ++ be16 0 ++ be32 mid ++ be32 (if b then ppi else fsn) ++ ud, rfl, by decide,
      by simp; omega, ?_⟩
    rw [decBody_idata]
    unfold decData
    simp only [c_maskI, c_maskU, c_maskB, c_maskE, h1, h2, h3, h4, ct_data, ct_idata, BitVec.reduceEq, ↓reduceIte,
      c_iDataHeaderSize]
    rw [if_neg (by simp; omega)]
    simp only [List.append_assoc, u32At_be32_zero, u32At_be32_add, u16At_be32_add, u16At_be16_zero,
      u32At_be16_add, sliceFrom_be32_add, sliceFrom_be16_add, sliceFrom_zero, ok_bind]
    -- the fourth word is the FSN on a middle/last fragment and the PPID on a first one; the other field is 0
    cases b
    · simp only [Bool.false_eq_true, ↓reduceIte, decide_eq_true_eq] at hb ⊢
      rw [hb]; rfl
    · simp only [↓reduceIte, decide_eq_true_eq] at hb ⊢
      rw [hb]; rfl

theorem shutdown_roundtrip (f : Byte) (cum : BitVec 32) : RoundTrips (.shutdown f cum) := by
  refine ⟨ctShutdown, f, be32 cum, rfl, by decide, by simp, ?_⟩
  rw [decBody_shutdown]
  simp [be32]

/-- the cause loop of ABORT / ERROR on its own encoding, with the fuel `decBody` gives it -/
theorem causesLoop_enc (cs : List Cause) (hwf : ∀ c ∈ cs, wfCause c = true) :
    causesLoop (cs.map causeBytes).flatten (((cs.map causeBytes).flatten).length / 4 + 1) 0 = .ok cs := by
  have hsum : 4 * cs.length ≤ ((cs.map causeBytes).flatten).length := by
    rw [causes_flatten_length]
    clear hwf
    induction cs with
    | nil => simp
    | cons c cs ih => simp only [List.map_cons, List.sum_cons, List.length_cons]; omega
  exact causesLoop_roundtrip [] cs _ (by omega) hwf

theorem abort_roundtrip (cs : List Cause) (hwf : ∀ c ∈ cs, wfCause c = true)
    (hfit : (cs.map fun c => 4 + c.data.length).sum < 65536) : RoundTrips (.abort cs) := by
  refine ⟨ctAbort, 0#8, (cs.map causeBytes).flatten, ?_, by decide, by rw [causes_flatten_length]; exact hfit, ?_⟩
  · simp only [encChunk, encCauses_ok cs hwf, ok_bind]
  · rw [decBody_abort, causesLoop_enc cs hwf]
    rfl

theorem error_roundtrip (cs : List Cause) (hwf : ∀ c ∈ cs, wfCause c = true)
    (hfit : (cs.map fun c => 4 + c.data.length).sum < 65536) : RoundTrips (.error cs) := by
  refine ⟨ctError, 0#8, (cs.map causeBytes).flatten, ?_, by decide, by rw [causes_flatten_length]; exact hfit, ?_⟩
  · simp only [encChunk, encCauses_ok cs hwf, ok_bind]
  · rw [decBody_error, causesLoop_enc cs hwf]
    rfl

/-! ### SACK -/

theorem readGaps_flatten (pre : Bytes) (gs : List (BitVec 16 × BitVec 16)) (post : Bytes) :
    readGaps (pre ++ ((gs.map fun g => be16 g.1 ++ be16 g.2).flatten ++ post)) pre.length gs.length = .ok gs := by
  induction gs generalizing pre with
  | nil => simp [readGaps]
  | cons g gs ih =>
    simp only [List.map_cons, List.flatten_cons, List.length_cons, List.append_assoc]
    unfold readGaps
    rw [u16At_mid]
    have h2 := u16At_mid (pre ++ be16 g.1) ((gs.map fun g => be16 g.1 ++ be16 g.2).flatten ++ post) g.2
    simp only [List.append_assoc, List.length_append, be16_length] at h2
    simp only [ok_bind, h2]
    have := ih (pre ++ be16 g.1 ++ be16 g.2)
    simp only [List.append_assoc, List.length_append, be16_length] at this
    rw [show pre.length + 4 = pre.length + (2 + 2) from rfl, this]
    rfl

theorem sack_roundtrip (f : Byte) (cum arwnd : BitVec 32) (gaps : List (BitVec 16 × BitVec 16)) (dups : List (BitVec 32))
    (h : 12 + 4 * gaps.length + 4 * dups.length < 65536) : RoundTrips (.sack f cum arwnd gaps dups) := by
  have hg := flatten_map_length (fun g : BitVec 16 × BitVec 16 => be16 g.1 ++ be16 g.2) 4 (fun _ => rfl) gaps
  have hd := flatten_map_length be32 4 be32_length dups
  refine ⟨ctSack, f, be32 cum ++ be32 arwnd ++ be16 (trunc16 gaps.length) ++ be16 (trunc16 dups.length)
      ++ (gaps.map fun g => be16 g.1 ++ be16 g.2).flatten ++ (dups.map be32).flatten, rfl, by decide,
    by simp [hg, hd]; omega, ?_⟩
  rw [decBody_sack]
  unfold decSack
  have hng : (trunc16 gaps.length).toNat = gaps.length := trunc16_toNat (by omega)
  have hnd : (trunc16 dups.length).toNat = dups.length := trunc16_toNat (by omega)
  have r1 := readGaps_flatten (be32 cum ++ be32 arwnd ++ be16 (trunc16 gaps.length) ++ be16 (trunc16 dups.length))
    gaps ((dups.map be32).flatten)
  have r2 := readU32s_flatten (be32 cum ++ be32 arwnd ++ be16 (trunc16 gaps.length) ++ be16 (trunc16 dups.length)
    ++ (gaps.map fun g => be16 g.1 ++ be16 g.2).flatten) dups []
  simp only [List.append_nil, List.length_append, be32_length, be16_length, hg, List.append_assoc] at r1 r2
  simp only [List.append_assoc, List.length_append, be32_length, be16_length, hg, hd, c_selectiveAckHeaderSize,
    u32At_be32_zero, u32At_be32_add, u16At_be32_add, u16At_be16_zero, u16At_be16_add, ok_bind, hng, hnd]
  rw [if_neg (by omega), if_neg (by omega)]
  rw [show (4 + (4 + (2 + 2)) : Nat) = 12 from rfl] at r1
  rw [show (4 + (4 + (2 + (2 + 4 * gaps.length))) : Nat) = 12 + 4 * gaps.length from by omega] at r2
  rw [r1, ok_bind, r2]
  rfl
/-! ### FORWARD-TSN, I-FORWARD-TSN -/

theorem fwdStreamsLoop_flatten (pre : Bytes) (ss : List (BitVec 16 × BitVec 16)) (fuel : Nat) (hf : ss.length < fuel) :
    fwdStreamsLoop (pre ++ (ss.map fun s => be16 s.1 ++ be16 s.2).flatten) fuel pre.length ((4 * ss.length : Nat) : Int)
      = .ok ss := by
  induction ss generalizing pre fuel with
  | nil =>
    cases fuel with
    | zero => omega
    | succ f => unfold fwdStreamsLoop; simp
  | cons x ss ih =>
    cases fuel with
    | zero => omega
    | succ f =>
      unfold fwdStreamsLoop
      rw [if_pos (by simp only [List.length_cons]; omega), sliceFrom_append]
      simp only [ok_bind, List.map_cons, List.flatten_cons, c_forwardTSNStreamLength]
      rw [if_neg (by simp only [List.length_append, be16_length]; omega)]
      simp only [List.append_assoc, u16At_be16_zero, u16At_be16_add]
      have := ih (pre ++ (be16 x.1 ++ be16 x.2)) f (by simp at hf; omega)
      simp only [List.append_assoc, List.length_append, be16_length] at this
      simp only [ok_bind]
      have hrem : (((4 * (x :: ss).length : Nat) : Int) - ((4 : Nat) : Int)) = ((4 * ss.length : Nat) : Int) := by
        simp only [List.length_cons]; omega
      rw [hrem, show pre.length + 4 = pre.length + (2 + 2) from rfl, this]
      rfl

theorem forwardTsn_roundtrip (f : Byte) (cum : BitVec 32) (ss : List (BitVec 16 × BitVec 16))
    (h : 4 + 4 * ss.length < 65536) : RoundTrips (.forwardTsn f cum ss) := by
  have hl := flatten_map_length (fun s : BitVec 16 × BitVec 16 => be16 s.1 ++ be16 s.2) 4 (fun _ => rfl) ss
  refine ⟨ctForwardTSN, f, be32 cum ++ (ss.map fun s => be16 s.1 ++ be16 s.2).flatten, rfl, by decide,
    by simp [hl]; omega, ?_⟩
  rw [decBody_forwardTsn]
  unfold decForwardTsn
  have hlen : (be32 cum ++ (ss.map fun s => be16 s.1 ++ be16 s.2).flatten).length = 4 + 4 * ss.length := by
    simp [hl]
  rw [if_neg (by rw [hlen, c_newCumulativeTSNLength]; omega)]
  simp only [u32At_be32_zero, ok_bind, hlen, c_newCumulativeTSNLength]
  have := fwdStreamsLoop_flatten (be32 cum) ss ((4 + 4 * ss.length) / 4 + 1) (by omega)
  simp only [be32_length] at this
  have hrem : (((4 + 4 * ss.length : Nat) : Int) - ((4 : Nat) : Int)) = ((4 * ss.length : Nat) : Int) := by omega
  rw [hrem, this]
  rfl

def istreamBytes (s : IStream) : Bytes := be16 s.1 ++ be16 (if s.2.1 then 1 else 0) ++ be32 s.2.2

theorem istreamBytes_length (s : IStream) : (istreamBytes s).length = 8 := by simp [istreamBytes]

theorem readIStreams_flatten (pre : Bytes) (ss : List IStream) (i : Nat) (hpre : pre.length = 4 + i * 8) :
    readIStreams (pre ++ (ss.map istreamBytes).flatten) ss.length i = .ok ss := by
  induction ss generalizing pre i with
  | nil => simp [readIStreams]
  | cons x ss ih =>
    simp only [List.length_cons, List.map_cons, List.flatten_cons]
    unfold readIStreams
    simp only [c_newCumulativeTSNLength, c_iForwardTSNEntryLength]
    have hs := slice_mid pre (istreamBytes x) ((ss.map istreamBytes).flatten)
    rw [istreamBytes_length, hpre] at hs
    rw [hs]
    obtain ⟨id, u, mid⟩ := x
    have hu : decide ((if u = true then (1 : BitVec 16) else 0).toNat % 2 = 1) = u := by cases u <;> decide
    simp only [ok_bind]
    have e0 : u16At (istreamBytes (id, u, mid)) 0 = .ok id := by simp [istreamBytes, be16]
    have e2 : u16At (istreamBytes (id, u, mid)) 2 = .ok (if u = true then 1 else 0) := by simp [istreamBytes, be16]
    have e4 : u32At (istreamBytes (id, u, mid)) 4 = .ok mid := by simp [istreamBytes, be16, be32]
    rw [e0, e2, e4]
    have := ih (pre ++ istreamBytes (id, u, mid)) (i + 1) (by simp only [List.length_append, istreamBytes_length, hpre]; omega)
    simp only [List.append_assoc] at this
    simp only [ok_bind, this, hu]

theorem iForwardTsn_roundtrip (f : Byte) (cum : BitVec 32) (ss : List IStream)
    (hn : normalizeStreams ss = ss) (hl : ss.length ≤ 8190) : RoundTrips (.iForwardTsn f cum ss) := by
  have hfl := flatten_map_length istreamBytes 8 istreamBytes_length ss
  refine ⟨ctIForwardTSN, f, be32 cum ++ (ss.map istreamBytes).flatten, ?_, by decide, by simp [hfl]; omega, ?_⟩
  · simp only [encChunk, hn, c_maxIForwardTSNStreams]
    rw [if_neg (by omega)]
    rfl
  · rw [decBody_iForwardTsn]
    unfold decIForwardTsn
    have hlen : (be32 cum ++ (ss.map istreamBytes).flatten).length = 4 + 8 * ss.length := by simp [hfl]
    rw [if_neg (by rw [hlen, c_newCumulativeTSNLength]; omega)]
    simp only [u32At_be32_zero, ok_bind, hlen, c_newCumulativeTSNLength, c_iForwardTSNEntryLength, c_maxIForwardTSNStreams]
    have h1 : (4 + 8 * ss.length - 4) % 8 = 0 := by omega
    have h2 : (4 + 8 * ss.length - 4) / 8 = ss.length := by omega
    simp only [h1, h2, ne_eq, not_true_eq_false, ↓reduceIte]
    rw [if_neg (by omega)]
    have := readIStreams_flatten (be32 cum) ss 0 (by simp)
    rw [this]
    simp only [ok_bind, hn]

/-! ### HEARTBEAT, HEARTBEAT-ACK -/

theorem parseParamType_enc (p : Param) (tail : Bytes) : parseParamType (encParam p ++ tail) = .ok (ptOf p) := by
  obtain ⟨v, hv⟩ := encParam_eq p
  rw [hv]
  unfold parseParamType paramHeaderMarshal
  rw [if_neg (by simp)]
  simp [be16]

theorem decHeartbeatParam_roundtrip (i : Bytes) (h : i.length + 4 < 65536) (e1 e2 e3 e4 : Err) :
    decHeartbeatParam (encParam (.heartbeatInfo i)) e1 e2 e3 e4 = .ok (.heartbeatInfo i) := by
  have hlen : (encParam (.heartbeatInfo i)).length = 4 + i.length := paramHeaderMarshal_length _ _
  have hp := parseParamType_enc (.heartbeatInfo i) []
  have hh := paramHeader_roundtrip ptHeartbeatInfo i [] h
  have hb := buildParam_roundtrip (.heartbeatInfo i) [] ((fits_iff _).2 h)
  rw [List.append_nil] at hp hh hb
  unfold decHeartbeatParam
  rw [if_neg (by rw [hlen, c_initOptionalVarHeaderLength]; omega), hp]
  simp only [wrap_ok, ok_bind, ptOf, ne_eq, not_true_eq_false, ↓reduceIte]
  rw [show encParam (.heartbeatInfo i) = paramHeaderMarshal ptHeartbeatInfo i from rfl] at hlen hb ⊢
  rw [hh]
  simp only [wrap_ok, ok_bind, c_initOptionalVarHeaderLength]
  rw [if_neg (by rw [hlen]; omega), ← hlen, slice_all]
  simp only [ok_bind, ptOf] at hb ⊢
  rw [hb]
  simp only [wrap_ok, ok_bind, sliceFrom_all]
  rfl
theorem heartbeat_roundtrip (i : Bytes) (h : i.length + 4 < 65536) : RoundTrips (.heartbeat [.heartbeatInfo i]) := by
  refine ⟨ctHeartbeat, 0#8, encParam (.heartbeatInfo i), rfl, by decide,
    by simp [encParam, paramHeaderMarshal_length]; omega, ?_⟩
  rw [decBody_heartbeat]
  unfold decHeartbeat
  rw [if_neg (by simp [encParam, paramHeaderMarshal_length])]
  rw [decHeartbeatParam_roundtrip i (by omega)]
  rfl

theorem heartbeatEmpty_roundtrip (f : Byte) : RoundTrips (.heartbeatEmpty ctHeartbeat f []) := by
  refine ⟨ctHeartbeat, f, [], rfl, by decide, by simp, ?_⟩
  rw [decBody_heartbeat]
  unfold decHeartbeat
  simp

theorem heartbeatAck_roundtrip (f : Byte) (i : Bytes) (h : i.length + 4 < 65536) :
    RoundTrips (.heartbeatAck f [.heartbeatInfo i]) := by
  refine ⟨ctHeartbeatAck, f, encParam (.heartbeatInfo i), rfl, by decide,
    by simp [encParam, paramHeaderMarshal_length]; omega, ?_⟩
  rw [decBody_heartbeatAck]
  unfold decHeartbeatAck
  rw [if_neg (by simp [encParam, paramHeaderMarshal_length])]
  rw [decHeartbeatParam_roundtrip i (by omega)]
  rfl

/-! ### RECONFIG -/

theorem reconfig_roundtrip (f : Byte) (a : Param) (b : Option Param) (ha : CodecSpec.wfParam a = true)
    (hb : ∀ x, b = some x → CodecSpec.wfParam x = true)
    (hfit : (match b with | none => paramLen a | some b => paramLen a + pad4 (paramLen a) + paramLen b) < 65536) :
    RoundTrips (.reconfig f a b) := by
  cases b with
  | none =>
    refine ⟨ctReconfig, f, encParam a, rfl, by decide, by simpa [paramLen] using hfit, ?_⟩
    rw [decBody_reconfig]
    unfold decReconfig
    have hp := parseParamType_enc a []
    have hbp := buildParam_roundtrip a [] ha
    rw [List.append_nil] at hp hbp
    rw [hp]
    simp only [ok_bind, hbp]
    rw [if_neg (by omega)]
  | some b =>
    have hb' := hb b rfl
    simp only [paramLen] at hfit
    refine ⟨ctReconfig, f, encParam a ++ zeros (pad4 (encParam a).length) ++ encParam b, rfl, by decide,
      by simp; omega, ?_⟩
    rw [decBody_reconfig]
    unfold decReconfig
    have hp := parseParamType_enc a (zeros (pad4 (encParam a).length) ++ encParam b)
    have hbp := buildParam_roundtrip a (zeros (pad4 (encParam a).length) ++ encParam b) ha
    rw [← List.append_assoc] at hp hbp
    rw [hp]
    simp only [ok_bind, hbp]
    have hge := encParam_length_ge b
    rw [if_pos (by simp; omega)]
    have hs := sliceFrom_append (encParam a ++ zeros (pad4 (encParam a).length)) (encParam b)
    simp only [List.length_append, zeros_length] at hs
    rw [hs]
    have hp2 := parseParamType_enc b []
    have hbp2 := buildParam_roundtrip b [] hb'
    rw [List.append_nil] at hp2 hbp2
    simp only [ok_bind, hp2, hbp2]

/-! ### INIT, INIT-ACK -/

theorem initParamsLoop_done (raw : Bytes) (fuel off : Nat) (rem : Int) (hf : 0 < fuel) (hr : rem ≤ 0) :
    initParamsLoop raw fuel off rem = .ok ([], []) := by
  cases fuel with
  | zero => omega
  | succ f => unfold initParamsLoop; rw [if_neg (by omega)]

theorem encParam_length_lt (p : Param) (h : CodecSpec.wfParam p = true) : (encParam p).length < 65536 := by
  cases p <;> simp only [CodecSpec.wfParam, fits_iff, Bool.and_eq_true] at h <;>
    simp only [encParam, paramHeaderMarshal_length, List.length_append, be32_length, flatten_be16_length, List.length_nil] <;>
    omega

/-- one iteration of the INIT parameter loop on `… ++ encParam p ++ tail` -/
theorem initParamsLoop_step (pre : Bytes) (p : Param) (tail : Bytes) (f : Nat) (rem : Int)
    (hwf : CodecSpec.wfParam p = true) (hrem : 4 < rem) :
    initParamsLoop (pre ++ (encParam p ++ tail)) (f + 1) pre.length rem =
      (initParamsLoop (pre ++ (encParam p ++ tail)) f (pre.length + ((encParam p).length + pad4 (encParam p).length))
        (rem - (((encParam p).length + pad4 (encParam p).length : Nat) : Int))) >>= fun r => .ok (p :: r.1, r.2) := by
  rw [initParamsLoop.eq_def]
  simp only
  rw [if_pos (by omega), if_pos (by rw [c_initOptionalVarHeaderLength]; omega), sliceFrom_append]
  obtain ⟨v, hv⟩ := encParam_eq p
  have hlen : (encParam p).length = 4 + v.length := by rw [hv, paramHeaderMarshal_length]
  have hvl : v.length + 4 < 65536 := by have := encParam_length_lt p hwf; omega
  have hh := paramHeader_roundtrip (ptOf p) v tail hvl
  rw [← hv] at hh
  simp only [ok_bind, hh, wrap_ok, buildParam_roundtrip p tail hwf, ← hlen]

/-- the parameter loop reads back what `encParamsPadded` wrote, provided the last parameter is
longer than 4 bytes (the loop stops at `remaining ≤ 4`) -/
theorem initParamsLoop_roundtrip (pre : Bytes) (ps : List Param) (fuel : Nat) (hf : ps.length < fuel)
    (hwf : ∀ p ∈ ps, CodecSpec.wfParam p = true)
    (hlast : ∀ p, ps.getLast? = some p → 4 < (encParam p).length) :
    initParamsLoop (pre ++ encParamsPadded ps) fuel pre.length ((encParamsPadded ps).length : Int) = .ok (ps, []) := by
  induction ps generalizing pre fuel with
  | nil => exact initParamsLoop_done _ _ _ _ (by omega) (by simp [encParamsPadded])
  | cons p ps ih =>
    cases fuel with
    | zero => omega
    | succ f =>
      have hp := hwf p (by simp)
      cases ps with
      | nil =>
        have h4 : 4 < (encParam p).length := hlast p rfl
        have := initParamsLoop_step pre p [] f ((encParam p).length : Int) hp (by omega)
        simp only [List.append_nil] at this
        simp only [encParamsPadded]
        rw [this, initParamsLoop_done _ _ _ _ (by simp at hf; omega) (by omega)]
        rfl
      | cons q qs =>
        have hge := encParam_length_ge p
        have hge2 := encParamsPadded_length_ge (q :: qs)
        simp only [List.length_cons] at hge2
        have hlen : (encParamsPadded (p :: q :: qs)).length =
            (encParam p).length + pad4 (encParam p).length + (encParamsPadded (q :: qs)).length := by
          simp only [encParamsPadded, List.length_append, zeros_length]
        have := initParamsLoop_step pre p (zeros (pad4 (encParam p).length) ++ encParamsPadded (q :: qs)) f
          ((encParamsPadded (p :: q :: qs)).length : Int) hp (by omega)
        have henc : encParamsPadded (p :: q :: qs) =
            encParam p ++ (zeros (pad4 (encParam p).length) ++ encParamsPadded (q :: qs)) := by
          simp only [encParamsPadded, List.append_assoc]
        rw [henc] at hlen this ⊢
        rw [this]
        have ih' := ih (pre ++ encParam p ++ zeros (pad4 (encParam p).length)) f (by simp at hf ⊢; omega)
          (fun x hx => hwf x (by simp [hx])) (fun x hx => hlast x (by simpa [List.getLast?_cons_cons] using hx))
        simp only [List.append_assoc, List.length_append, zeros_length] at ih'
        have hrem : ((encParam p ++ (zeros (pad4 (encParam p).length) ++ encParamsPadded (q :: qs))).length : Int)
            - (((encParam p).length + pad4 (encParam p).length : Nat) : Int) = ((encParamsPadded (q :: qs)).length : Int) := by
          rw [hlen]; omega
        rw [hrem, ih']
        rfl

theorem initCommon_roundtrip (c : InitCommon) (hwf : ∀ p ∈ c.params, CodecSpec.wfParam p = true)
    (hun : c.unrec = []) (hlast : ∀ p, c.params.getLast? = some p → 4 < (encParam p).length) :
    initCommonUnmarshal (initCommonMarshal c) = .ok c := by
  obtain ⟨tag, arwnd, nOut, nIn, itsn, ps, us⟩ := c
  simp only at hwf hun hlast
  subst hun
  unfold initCommonUnmarshal initCommonMarshal
  simp only [List.append_assoc]
  simp only [u32At_be32_zero, u32At_be32_add, u16At_be32_add, u16At_be16_zero, u16At_be16_add, u32At_be16_add,
    ok_bind, c_initChunkMinLength]
  have hge := encParamsPadded_length_ge ps
  have hl := initParamsLoop_roundtrip (be32 tag ++ be32 arwnd ++ be16 nOut ++ be16 nIn ++ be32 itsn) ps
    ((be32 tag ++ (be32 arwnd ++ (be16 nOut ++ (be16 nIn ++ (be32 itsn ++ encParamsPadded ps))))).length / 4 + 1)
    (by simp; omega) hwf hlast
  simp only [List.append_assoc, List.length_append, be32_length, be16_length] at hl
  have hrem : ((4 + (4 + (2 + (2 + (4 + (encParamsPadded ps).length)))) : Nat) : Int) - ((16 : Nat) : Int)
      = ((encParamsPadded ps).length : Int) := by omega
  simp only [List.length_append, be32_length, be16_length, hrem]
  rw [show (4 + (4 + (2 + (2 + 4))) : Nat) = 16 from rfl] at hl
  rw [hl]
  rfl

theorem init_roundtrip (ack : Bool) (c : InitCommon) (hwf : wfInit c = true) :
    RoundTrips (if ack then .initAck 0#8 c else .init 0#8 c) := by
  simp only [wfInit, Bool.and_eq_true, List.all_eq_true, List.isEmpty_iff, fitsV_iff, paramLen] at hwf
  obtain ⟨⟨⟨hp, hu⟩, hl⟩, hfit⟩ := hwf
  have hlast : ∀ p, c.params.getLast? = some p → 4 < (encParam p).length := by
    intro p hpl; rw [hpl] at hl; simpa using hl
  have hrt := initCommon_roundtrip c hp hu hlast
  have hlen : 16 ≤ (initCommonMarshal c).length := by simp [initCommonMarshal]; omega
  have hdec : decInit ack 0#8 (initCommonMarshal c) = .ok (if ack then .initAck 0#8 c else .init 0#8 c) := by
    unfold decInit
    rw [if_neg (by rw [c_initChunkMinLength]; omega)]
    simp [hrt]
  cases ack
  · exact ⟨ctInit, 0#8, initCommonMarshal c, by simp [encChunk], by decide, by omega, (decBody_init _ _).trans hdec⟩
  · exact ⟨ctInitAck, 0#8, initCommonMarshal c, by simp [encChunk], by decide, by omega, (decBody_initAck _ _).trans hdec⟩

end Codec
