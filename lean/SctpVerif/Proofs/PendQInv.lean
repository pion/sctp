import SctpVerif.Proofs.PendQ
/-!
Helper lemmas for C17, part 2: the invariant of the `pendingQueue` wrapper over arbitrary lists of
proper operations (push / peek / peek-then-pop / setInterleaving), for every policy and every number
type: well-formedness, exact counters, FIFO per (stream, ordering class).
-/
namespace PendQ
open AMap

theorem amap_empty_of_msum_zero {β : Type} (m : AMap (List β)) (h0 : msum List.length m = 0)
    (hne : ∀ s l, get m s = some l → l ≠ []) : m = [] := by
  cases m with
  | nil => rfl
  | cons hd tl =>
    obtain ⟨k, l⟩ := hd
    have := hne k l (by simp [get_cons])
    simp only [msum_cons] at h0
    have : l.length = 0 := by omega
    exact absurd (List.length_eq_zero_iff.mp this) (hne k l (by simp [get_cons]))

namespace Policy
variable {α : Type} [Num α]

def WF : Policy α → Prop
  | .msg m => m.WF
  | .rr r => r.WF
  | .wfq w => w.WF

def count : Policy α → Nat
  | .msg m => m.count
  | .rr r => r.count
  | .wfq w => w.count

def bytes : Policy α → Nat
  | .msg m => m.bytes
  | .rr r => r.bytes
  | .wfq w => w.bytes

/-- chunks of stream `s` and ordering class `u` held by the policy, oldest first -/
def queued : Policy α → Nat → Bool → List Chunk
  | .msg m => m.queued
  | .rr r => r.queued
  | .wfq w => w.queued

structure Empty (p : Policy α) : Prop where
  wf : p.WF
  cnt : p.count = 0
  byt : p.bytes = 0
  qd : ∀ s u, p.queued s u = []

omit [Num α] in
theorem empty_msg : (Policy.msg {} : Policy α).Empty :=
  ⟨MsgPol.wf_empty, rfl, rfl, fun s u => by cases u <;> rfl⟩

omit [Num α] in
theorem empty_rr : (Policy.rr {} : Policy α).Empty := ⟨RR.wf_empty, rfl, rfl, fun _ _ => rfl⟩

theorem empty_wfq (ws : AMap Nat) : (Policy.wfq (WFQ.new ws) : Policy α).Empty :=
  ⟨WFQ.wf_new ws, rfl, rfl, fun _ _ => rfl⟩

omit [Num α] in
theorem empty_of_count_zero {p : Policy α} (h : p.WF) (h0 : p.count = 0) : p.Empty := by
  cases p with
  | msg m =>
    simp only [count, MsgPol.count] at h0
    have h1 : m.unord = [] := List.length_eq_zero_iff.mp (by omega)
    have h2 : m.ord = [] := List.length_eq_zero_iff.mp (by omega)
    exact ⟨h, h0, by simp [bytes, MsgPol.bytes, h1, h2], fun s u => by cases u <;> simp [queued, MsgPol.queued, h1, h2]⟩
  | rr r =>
    have := amap_empty_of_msum_zero r.queues h0 (fun s l hl => (h.q.q1 s l hl).1)
    exact ⟨h, h0, by simp [bytes, RR.bytes, this], fun s u => by simp [queued, RR.queued, RR.sq, this]⟩
  | wfq w =>
    have := amap_empty_of_msum_zero w.queues h0 (fun s l hl => (h.q.q1 s l hl).1)
    exact ⟨h, h0, by simp [bytes, WFQ.bytes, this], fun s u => by simp [queued, WFQ.queued, WFQ.sq, this]⟩

theorem push_spec {p : Policy α} (h : p.WF) (c : Chunk) :
    (PQ.policyPush p c).WF ∧ (PQ.policyPush p c).count = p.count + 1 ∧
    (PQ.policyPush p c).bytes = p.bytes + c.len ∧ Appends p.queued (PQ.policyPush p c).queued c := by
  cases p with
  | msg m => exact ⟨MsgPol.push_wf h c, MsgPol.push_count m c, MsgPol.push_bytes m c, MsgPol.push_queued m c⟩
  | rr r => exact ⟨RR.push_wf h c, RR.push_count c, RR.push_bytes c, RR.push_queued r c⟩
  | wfq w => exact ⟨WFQ.push_wf h c, WFQ.push_count w c, WFQ.push_bytes w c, WFQ.push_queued w c⟩

theorem policyPeek_rr (r : RR) : PQ.policyPeek (.rr r : Policy α) = (.rr r.peek.1, r.peek.2) := rfl
theorem policyPeek_wfq (w : WFQ α) : PQ.policyPeek (.wfq w) = (.wfq w.peek.1, w.peek.2) := rfl
theorem policyPop_rr (r : RR) (c : Chunk) :
    PQ.policyPop (.rr r : Policy α) c = (.rr (r.pop c).1, (r.pop c).2) := rfl
theorem policyPop_wfq (w : WFQ α) (c : Chunk) : PQ.policyPop (.wfq w) c = (.wfq (w.pop c).1, (w.pop c).2) := rfl

/-- a successful pop of `c`: `p'` is the state before, `p''` after -/
structure Popped (p' p'' : Policy α) (c : Chunk) : Prop where
  wf : p''.WF
  cnt : p'.count = p''.count + 1
  byt : p'.bytes = p''.bytes + c.len
  rem : Removes p'.queued p''.queued c

/-- peek never panics on a well-formed policy and changes nothing that is counted; popping the
peeked chunk either succeeds (`Popped`) or — message policy only, head is not a B fragment — is
refused without any change. -/
theorem peek_pop_spec {p : Policy α} (h : p.WF) :
    (PQ.policyPeek p).1.WF ∧ (PQ.policyPeek p).1.count = p.count ∧ (PQ.policyPeek p).1.bytes = p.bytes ∧
    (PQ.policyPeek p).1.queued = p.queued ∧
    ((PQ.policyPeek p).2 = .chunk none ∨
      ∃ c, (PQ.policyPeek p).2 = .chunk (some c) ∧
        (PQ.policyPop (PQ.policyPeek p).1 c = ((PQ.policyPeek p).1, .err .qState) ∨
          ((PQ.policyPop (PQ.policyPeek p).1 c).2 = .ok ∧
            Popped (PQ.policyPeek p).1 (PQ.policyPop (PQ.policyPeek p).1 c).1 c))) := by
  cases p with
  | msg m =>
    refine ⟨h, rfl, rfl, rfl, ?_⟩
    cases hp : m.peek with
    | none => exact Or.inl (congrArg PeekRes.chunk hp)
    | some c =>
      refine Or.inr ⟨c, congrArg PeekRes.chunk hp, ?_⟩
      rcases MsgPol.pop_peeked h hp with ⟨h1, _, _⟩ | ⟨h1, hpops, _⟩
      · exact Or.inl (congrArg (fun x => (Policy.msg x.1, x.2)) h1)
      · exact Or.inr ⟨h1, hpops.wf h, hpops.count, hpops.bytes, hpops.removes⟩
  | rr r =>
    simp only [policyPeek_rr, policyPop_rr]
    obtain ⟨hwf', hq', ho', hres, _, _⟩ := RR.peek_spec h
    have hsq : ∀ s, (r.peek).1.sq s = r.sq s := fun s => congrArg (fun m => (get m s).getD []) hq'
    have hcnt : (r.peek).1.count = r.count := congrArg (msum List.length) hq'
    have hbyt : (r.peek).1.bytes = r.bytes := congrArg (msum lenSum) hq'
    refine ⟨hwf', hcnt, hbyt, funext fun s => funext fun u => congrArg (List.filter _) (hsq s), ?_⟩
    cases ho : r.order with
    | nil => exact Or.inl (hres.trans (by rw [ho]; rfl))
    | cons s rest =>
      obtain ⟨c, tl, hsqs, hpk, hok, hwf'', _, hsq'', _, hc, hb⟩ := RR.serve_spec h ho
      obtain rfl : c.sid = s := RR.sid_of_mem_sq h (by rw [hsqs]; exact List.mem_cons_self)
      exact Or.inr ⟨c, hpk, Or.inr ⟨hok, hwf'', hcnt.trans hc, hbyt.trans hb,
        removes_of_sq (sq := (r.peek).1.sq) (sq' := ((r.peek).1.pop c).1.sq) ((hsq _).trans hsqs)
          fun s' => by rw [hsq'', hsq]⟩⟩
  | wfq w =>
    simp only [policyPeek_wfq, policyPop_wfq]
    obtain ⟨hwf', hq', _, _, _, hres⟩ := WFQ.peek_spec h
    have hsq : ∀ s, (w.peek).1.sq s = w.sq s := fun s => congrArg (fun m => (get m s).getD []) hq'
    refine ⟨hwf', congrArg (msum List.length) hq',
      congrArg (msum fun l : List (Chunk × α) => lenSum (l.map Prod.fst)) hq',
      funext fun s => funext fun u =>
        congrArg (fun l : List (Chunk × α) => (l.map Prod.fst).filter fun c : Chunk => c.unordered == u) (hsq s), ?_⟩
    rcases hres with ⟨hn, _⟩ | ⟨c, f, tl, hpk, hsel, hg⟩
    · exact Or.inl hn
    · rw [← hq'] at hg
      obtain ⟨hok, hwf'', hsq'', _, _, _, _, hc, hb⟩ := WFQ.pop_spec hwf' hsel hg
      have hcs : c.sid = (w.peek).1.selStream := (hwf'.q.q1 _ _ hg).2 (c, f) List.mem_cons_self
      have hsqs : (w.peek).1.sq (w.peek).1.selStream = (c, f) :: tl := congrArg (·.getD []) hg
      exact Or.inr ⟨c, hpk, Or.inr ⟨hok, hwf'', hc, hb,
        removes_of_sq (sq := fun s => ((w.peek).1.sq s).map Prod.fst)
          (sq' := fun s => (((w.peek).1.pop c).1.sq s).map Prod.fst) (tl := tl.map Prod.fst)
          (by rw [hcs, hsqs]; rfl) fun s' => by rw [hsq'', hcs]; split <;> rfl⟩⟩

end Policy

/-- operations the association performs (everything except the two misuse ops) -/
def Op.proper : Op → Bool
  | .push _ | .peek | .pop | .setil _ => true
  | .rawPop _ | .popNil => false

def evPush : Op × Res → List Chunk
  | (.push c, _) => [c]
  | _ => []

def evPop : Op × Res → List Chunk
  | (_, .popped (some c) .ok) => [c]
  | _ => []

theorem pushesOf_cons (e : Op × Res) (tr : List (Op × Res)) : pushesOf (e :: tr) = evPush e ++ pushesOf tr := by
  obtain ⟨o, r⟩ := e
  cases o <;> simp [pushesOf, evPush]

theorem popsOf_cons (e : Op × Res) (tr : List (Op × Res)) : popsOf (e :: tr) = evPop e ++ popsOf tr := by
  obtain ⟨o, r⟩ := e
  cases r with
  | popped c pr =>
    cases c with
    | none => simp [popsOf, evPop]
    | some c => cases pr <;> simp [popsOf, evPop]
  | _ => simp [popsOf, evPop]

variable {α : Type} [Num α]

theorem PQ.run_cons (q : PQ α) (o : Op) (os : List Op) :
    q.run (o :: os) = (((q.step o).1.run os).1, (o, (q.step o).2) :: ((q.step o).1.run os).2) := rfl

/-- the association's pop when the policy hands out `c` and accepts its pop -/
theorem PQ.step_pop_ok {q : PQ α} {c : Chunk} (hpk : (PQ.policyPeek q.policy).2 = .chunk (some c))
    (hok : (PQ.policyPop (PQ.policyPeek q.policy).1 c).2 = .ok) :
    q.step .pop =
      ({ q with
          policy := (PQ.policyPop (PQ.policyPeek q.policy).1 c).1,
          nBytes := (if q.nBytes - (c.len : Int) < 0 then 0 else q.nBytes - c.len),
          nChunks := q.nChunks - 1 }, .popped (some c) .ok) := by
  simp only [PQ.step, PQ.peek, hpk, PQ.pop]
  generalize PQ.policyPop (PQ.policyPeek q.policy).1 c = pp at hok ⊢
  obtain ⟨p2, r2⟩ := pp
  cases hok
  rfl

structure Inv (q : PQ α) (P Q : List Chunk) : Prop where
  wf : q.policy.WF
  cnt : q.nChunks = q.policy.count
  byt : q.nBytes = q.policy.bytes
  fifo : ∀ s u, P.filter (key s u) = Q.filter (key s u) ++ q.policy.queued s u

omit [Num α] in
/-- with nothing queued only the counters and the two histories matter -/
theorem Inv.of_empty {q q' : PQ α} {P Q : List Chunk} (h : Inv q P Q) (he : q.policy.Empty) (he' : q'.policy.Empty)
    (hc : q'.nChunks = q.nChunks) (hb : q'.nBytes = q.nBytes) : Inv q' P Q :=
  ⟨he'.wf, by rw [hc, h.cnt, he.cnt, he'.cnt], by rw [hb, h.byt, he.byt, he'.byt],
    fun s u => by rw [he'.qd, h.fifo s u, he.qd]⟩

omit [Num α] in
theorem inv_new (f : Factory) : Inv (PQ.new f : PQ α) [] [] :=
  ⟨MsgPol.wf_empty, rfl, rfl, fun s u => by cases u <;> rfl⟩

theorem inv_setil {q : PQ α} {P Q : List Chunk} (h : Inv q P Q) (b : Bool) :
    Inv (q.setInterleaving b).1 P Q := by
  unfold PQ.setInterleaving
  split
  · exact h
  split
  · exact h
  · next _ h2 =>
    -- the policy is replaced only when nothing is queued
    have he : q.policy.Empty := Policy.empty_of_count_zero h.wf (by
      have := h.cnt; simp only [ne_eq, Decidable.not_not] at h2; omega)
    split
    · dsimp only
      split
      · exact ⟨h.wf, h.cnt, h.byt, h.fifo⟩
      · exact ⟨h.wf, h.cnt, h.byt, h.fifo⟩
      · exact h.of_empty he Policy.empty_rr rfl rfl
      · exact h.of_empty he (Policy.empty_wfq _) rfl rfl
    · exact h.of_empty he Policy.empty_msg rfl rfl

/-- `peek` only caches a selection -/
theorem Inv.peek {q : PQ α} {P Q : List Chunk} (h : Inv q P Q) :
    Inv { q with policy := (PQ.policyPeek q.policy).1 } P Q := by
  obtain ⟨hw, hc, hb, hq, _⟩ := Policy.peek_pop_spec h.wf
  exact ⟨hw, h.cnt.trans (congrArg _ hc.symm), h.byt.trans (congrArg _ hb.symm), fun s u => by
    have := h.fifo s u; rw [← hq] at this; exact this⟩

/-- one proper operation preserves the invariant; pushes and pops are appended to the histories -/
theorem inv_step {q : PQ α} {P Q : List Chunk} (h : Inv q P Q) (o : Op) (ho : o.proper = true) :
    Inv (q.step o).1 (P ++ evPush (o, (q.step o).2)) (Q ++ evPop (o, (q.step o).2)) := by
  cases o with
  | rawPop _ | popNil => cases ho
  | setil b => simpa [PQ.step, evPush, evPop] using inv_setil h b
  | push c =>
    obtain ⟨hw, hc, hb, ha⟩ := Policy.push_spec h.wf c
    simp only [PQ.step, evPush, evPop, List.append_nil]
    refine ⟨hw, ?_, ?_, ?_⟩
    · simp only [PQ.push, hc]; have := h.cnt; omega
    · simp only [PQ.push, hb]; have := h.byt; omega
    · exact fun s u => fifo_push (h.fifo s u) (ha s u)
  | peek => simpa [PQ.step, PQ.peek, evPush, evPop] using h.peek
  | pop =>
    obtain ⟨_, _, _, hq, hres⟩ := Policy.peek_pop_spec h.wf
    -- up to a successful policy pop only the policy's selection has changed
    have hunch : Inv ({ q with policy := (PQ.policyPeek q.policy).1 } : PQ α) (P ++ []) (Q ++ []) := by
      simpa using h.peek
    rcases hres with hn | ⟨c, hsome, herr | ⟨hok, hpd⟩⟩
    · rw [show q.step .pop = ({ q with policy := (PQ.policyPeek q.policy).1 }, .popped none .ok) by
        simp [PQ.step, PQ.peek, hn]]
      exact hunch
    · rw [show q.step .pop = ({ q with policy := (PQ.policyPeek q.policy).1 }, .popped (some c) (.err .qState)) by
        simp [PQ.step, PQ.peek, hsome, PQ.pop, herr]]
      exact hunch
    · have hbyt := h.byt
      have hcnt := h.cnt
      have := hpd.byt
      have := hpd.cnt
      rw [PQ.step_pop_ok hsome hok, if_neg (by omega)]
      refine ⟨hpd.wf, by simp only; omega, by simp only; omega, fun s u => ?_⟩
      show (P ++ []).filter _ = (Q ++ [c]).filter _ ++ _
      rw [List.append_nil]
      exact fifo_pop (h.fifo s u) (hq ▸ hpd.rem s u)

theorem inv_run {q : PQ α} {P Q : List Chunk} (h : Inv q P Q) (ops : List Op) (hops : ∀ o ∈ ops, o.proper = true) :
    Inv (q.run ops).1 (P ++ pushesOf (q.run ops).2) (Q ++ popsOf (q.run ops).2) := by
  induction ops generalizing q P Q with
  | nil => simpa [PQ.run, pushesOf, popsOf] using h
  | cons o os ih =>
    have h1 := inv_step h o (hops o (by simp))
    have h2 := ih h1 (fun o' ho' => hops o' (by simp [ho']))
    simp only [PQ.run]
    rw [pushesOf_cons, popsOf_cons]
    simpa [List.append_assoc] using h2

end PendQ
