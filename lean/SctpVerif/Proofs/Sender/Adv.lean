import SctpVerif.Proofs.Sender.Seq
import SctpVerif.Proofs.Sender.Ops
import SctpVerif.Proofs.Sender.Queue
/-! Partial reliability on the sender side: abandonment only grows; the advanced peer ack point walks over abandoned
chunks only (`AdvInv`), as far as it can (`AdvMax`); a validated SACK never hits the late error return of
`processFastRetransmission` (`sack_cases`); what the FORWARD-TSN / I-FORWARD-TSN lists contain.

Serial-number tests are read as comparisons of offsets from a base inside a half-space window (`Sna.window32`, `Sna.off_*`). -/
namespace SenderProofs
open Gen Sender

/-! ### what never changes about a chunk -/

/-- the immutable part of a chunk (everything but `len`, `acked`, `retransmit`, `nSent`, `missIndicator`, `since`, `firstSent`) -/
def Chunk.ident (c : Chunk) : BitVec 32 × Nat × BitVec 16 × BitVec 32 × Bool × BitVec 16 × BitVec 32 × Bool × Bool :=
  (c.tsn, c.msg, c.si, c.ppi, c.unordered, c.ssn, c.mid, c.bfrag, c.efrag)

theorem ident_msg {c c' : Chunk} (h : Chunk.ident c' = Chunk.ident c) : c'.msg = c.msg := by
  simp only [Chunk.ident, Prod.mk.injEq] at h; exact h.2.1

theorem ident_tsn {c c' : Chunk} (h : Chunk.ident c' = Chunk.ident c) : c'.tsn = c.tsn := by
  simp only [Chunk.ident, Prod.mk.injEq] at h; exact h.1

theorem ident_si {c c' : Chunk} (h : Chunk.ident c' = Chunk.ident c) : c'.si = c.si := by
  simp only [Chunk.ident, Prod.mk.injEq] at h; exact h.2.2.1

theorem ident_ppi {c c' : Chunk} (h : Chunk.ident c' = Chunk.ident c) : c'.ppi = c.ppi := by
  simp only [Chunk.ident, Prod.mk.injEq] at h; exact h.2.2.2.1

theorem Ev.ident {c x : Chunk} (h : Ev c x) : Chunk.ident x = Chunk.ident c := h.keeps Chunk.ident (fun _ => rfl) (fun _ => rfl)

theorem Fl.ident {c x : Chunk} (h : Fl c x) : Chunk.ident x = Chunk.ident c := (Fl.ev c x h).ident

theorem Pt.ident {q q' : List Chunk} (h : Pt Ev q q') : q'.map Chunk.ident = q.map Chunk.ident := Pt.map_eq Chunk.ident (fun _ _ e => e.ident) h

theorem Pt.ident_fl {q q' : List Chunk} (h : Pt Fl q q') : q'.map Chunk.ident = q.map Chunk.ident := (h.imp Fl.ev).ident

theorem QEv.ident {k : Nat} {s s' : St} (h : QEv k s s') : s'.inflight.map Chunk.ident = (s.inflight.drop k).map Chunk.ident := h.2.ident

/-- `l'` is `l` (up to flags) followed by more chunks -/
def IdentPrefix (l l' : List Chunk) : Prop := ∃ x, l'.map Chunk.ident = l.map Chunk.ident ++ x

theorem IdentPrefix.refl (l : List Chunk) : IdentPrefix l l := ⟨[], by simp⟩

theorem IdentPrefix.of_eq {l l' : List Chunk} (h : l'.map Chunk.ident = l.map Chunk.ident) : IdentPrefix l l' := ⟨[], by simp [h]⟩

theorem IdentPrefix.trans {a b c : List Chunk} (h1 : IdentPrefix a b) (h2 : IdentPrefix b c) : IdentPrefix a c := by
  obtain ⟨x, hx⟩ := h1
  obtain ⟨y, hy⟩ := h2
  exact ⟨x ++ y, by rw [hy, hx, List.append_assoc]⟩

theorem IdentPrefix.append (l : List Chunk) (x : List Chunk) : IdentPrefix l (l ++ x) := ⟨x.map Chunk.ident, by simp⟩

theorem IdentPrefix.length {l l' : List Chunk} (h : IdentPrefix l l') : l.length ≤ l'.length := by
  obtain ⟨x, hx⟩ := h
  have := congrArg List.length hx
  simp at this; omega

theorem IdentPrefix.get {l l' : List Chunk} (h : IdentPrefix l l') {i : Nat} {c' : Chunk} (hi : i < l.length) (hc : l'[i]? = some c') :
    ∃ c, l[i]? = some c ∧ Chunk.ident c' = Chunk.ident c := by
  obtain ⟨x, hx⟩ := h
  refine ⟨l[i], List.getElem?_eq_getElem hi, ?_⟩
  have h1 : (l'.map Chunk.ident)[i]? = some (Chunk.ident c') := by simp [hc]
  rw [hx, List.getElem?_append_left (by simpa using hi)] at h1
  simpa [hi] using h1.symm

/-! ### abandonment only grows -/

theorem isAbandoned_iff (aband allInf : List Nat) (c : Chunk) : isAbandoned aband allInf c = true ↔ c.msg ∈ aband ∧ c.msg ∈ allInf := by
  simp [isAbandoned]

theorem isAbandoned_mono {a a' b b' : List Nat} {c c' : Chunk} (ha : ∀ m ∈ a, m ∈ a') (hb : ∀ m ∈ b, m ∈ b') (hm : c'.msg = c.msg)
    (h : isAbandoned a b c = true) : isAbandoned a' b' c' = true := by
  rw [isAbandoned_iff] at h ⊢
  rw [hm]; exact ⟨ha _ h.1, hb _ h.2⟩

/-- the partial-reliability books of `s'` contain those of `s` -/
def AbLe (s s' : St) : Prop :=
  (∀ m ∈ s.abandonedMsgs, m ∈ s'.abandonedMsgs) ∧ (∀ m ∈ s.allInflightMsgs, m ∈ s'.allInflightMsgs)

theorem AbLe.refl (s : St) : AbLe s s := ⟨fun _ h => h, fun _ h => h⟩
theorem AbLe.trans {a b c : St} (h1 : AbLe a b) (h2 : AbLe b c) : AbLe a c :=
  ⟨fun m h => h2.1 m (h1.1 m h), fun m h => h2.2 m (h1.2 m h)⟩
theorem AbLe.of_eq {s s' : St} (h1 : s'.abandonedMsgs = s.abandonedMsgs) (h2 : s'.allInflightMsgs = s.allInflightMsgs) : AbLe s s' :=
  ⟨fun m h => by rw [h1]; exact h, fun m h => by rw [h2]; exact h⟩

theorem AbLe.abandoned {s s' : St} (h : AbLe s s') {c c' : Chunk} (hm : c'.msg = c.msg) (ha : s.abandoned c = true) : s'.abandoned c' = true :=
  isAbandoned_mono h.1 h.2 hm ha

/-! ### fields the acknowledgement path never touches -/

/-- control fields of partial reliability are unchanged -/
def SameCtl (s s' : St) : Prop :=
  s'.abandonedMsgs = s.abandonedMsgs ∧ s'.allInflightMsgs = s.allInflightMsgs ∧ s'.advPeerAck = s.advPeerAck ∧
  s'.willSendForwardTSN = s.willSendForwardTSN ∧ s'.established = s.established ∧ s'.nextMsg = s.nextMsg ∧ s'.pending = s.pending

theorem SameCtl.refl (s : St) : SameCtl s s := ⟨rfl, rfl, rfl, rfl, rfl, rfl, rfl⟩
theorem SameCtl.trans {a b c : St} (h1 : SameCtl a b) (h2 : SameCtl b c) : SameCtl a c := by
  obtain ⟨a1, a2, a3, a4, a5, a6, a7⟩ := h1
  obtain ⟨b1, b2, b3, b4, b5, b6, b7⟩ := h2
  exact ⟨b1.trans a1, b2.trans a2, b3.trans a3, b4.trans a4, b5.trans a5, b6.trans a6, b7.trans a7⟩

theorem SameCtl.abLe {s s' : St} (h : SameCtl s s') : AbLe s s' := AbLe.of_eq h.1 h.2.1

theorem ackPhase_ctl {s : St} {cum : BitVec 32} {gaps : List (BitVec 16 × BitVec 16)} {r : St × BitVec 32 × Bool}
    (h : ackPhase s cum gaps = some r) : SameCtl s r.1 := by
  obtain ⟨_, _, _, _, _, _, _, _, _, e⟩ := ackPhase_only h
  rw [e]; exact ⟨rfl, rfl, rfl, rfl, rfl, rfl, rfl⟩

theorem fastRetransCheck_ctl (s : St) (cum : BitVec 32) (gaps : List (BitVec 16 × BitVec 16)) (htna : BitVec 32) (adv : Bool) :
    SameCtl s (fastRetransCheck s cum gaps htna adv).1 :=
  fastRetransCheck_rule (P := SameCtl s) htna (fun _ _ _ h _ _ => h.trans ⟨rfl, rfl, rfl, rfl, rfl, rfl, rfl⟩)
    (fun _ h _ => h.trans ⟨rfl, rfl, rfl, rfl, rfl, rfl, rfl⟩) (fun _ h => h.trans ⟨rfl, rfl, rfl, rfl, rfl, rfl, rfl⟩) s cum gaps adv
    (SameCtl.refl s)

theorem applyMarks_ctl (s : St) (marks : List (BitVec 32)) : SameCtl s (applyMarks s marks) := ⟨rfl, rfl, rfl, rfl, rfl, rfl, rfl⟩

/-! ### the gather side: abandonment grows, the queue is extended, the ack points stay -/

/-- what a gather (or a part of it) does to the fields partial reliability reads -/
def GRel (s s' : St) : Prop :=
  AbLe s s' ∧ IdentPrefix s.inflight s'.inflight ∧ s'.advPeerAck = s.advPeerAck ∧ s'.cumAck = s.cumAck ∧
  s'.willSendForwardTSN = s.willSendForwardTSN ∧ s'.established = s.established

theorem GRel.refl (s : St) : GRel s s := ⟨AbLe.refl s, IdentPrefix.refl _, rfl, rfl, rfl, rfl⟩

theorem GRel.trans {a b c : St} (h1 : GRel a b) (h2 : GRel b c) : GRel a c := by
  obtain ⟨a1, a2, a3, a4, a5, a6⟩ := h1
  obtain ⟨b1, b2, b3, b4, b5, b6⟩ := h2
  exact ⟨a1.trans b1, a2.trans b2, b3.trans a3, b4.trans a4, b5.trans a5, b6.trans a6⟩

theorem gatherRtx_grel (s : St) (orc : Oracle) : GRel s (gatherRtx s orc).1 :=
  ⟨⟨scanLoop_aband_mono s _ _ 0 _ { b := orc.b, aband := s.abandonedMsgs }, fun _ h => h⟩,
   IdentPrefix.of_eq (gatherRtx_fl s orc).ident_fl, rfl, rfl, rfl, rfl⟩

theorem gatherFast_grel {B : Type} (s : St) (allow : B → Int → Bool × B) (b : B) : GRel s (gatherFast s allow b).1 := by
  unfold gatherFast
  split
  · exact GRel.refl s
  · simp only
    exact ⟨⟨scanLoop_aband_mono _ _ _ 0 _ { b := b, size := hdr, aband := s.abandonedMsgs }, fun _ h => h⟩,
      IdentPrefix.of_eq (scan_fl s { s with willRetransmitFast := false } _ _ (fastUpd_fl _) _ rfl).ident_fl, rfl, rfl, rfl, rfl⟩

theorem move_grel (s : St) (i : Nat) (c : Chunk) : GRel s (move s i c).1 := by
  refine ⟨⟨?_, ?_⟩, ?_, rfl, rfl, rfl, rfl⟩
  · intro m hm
    exact checkPR_sub _ _ _ m hm
  · intro m hm
    simp only [move, popPend]
    split
    · exact List.mem_cons_of_mem _ hm
    · exact hm
  · simp only [move, popPend]
    exact IdentPrefix.append _ _

theorem gatherNew_grel {B : Type} (s : St) (allow : B → Int → Bool × B) (b : B) (sel : List Nat) : GRel s (gatherNew s allow b sel).1 :=
  gatherNew_rule (P := GRel s) ⟨fun _ _ _ h _ _ => h, fun _ _ h => h, fun _ _ h => h, fun x i c h _ => h.trans (move_grel x i c)⟩
    allow b s sel (GRel.refl s)

/-- the state of a gather just before `gatherOutboundForwardTSNPackets` clears the flag -/
def gatherPre (s : St) (orc : Oracle) (sel : List Nat) : St :=
  (gatherFast (gatherNew (gatherRtx s orc).1 orc.allow (gatherRtx s orc).2.2 sel).1 orc.allow (gatherNew (gatherRtx s orc).1 orc.allow (gatherRtx s orc).2.2 sel).2.b).1

theorem gatherPre_grel (s : St) (orc : Oracle) (sel : List Nat) : GRel s (gatherPre s orc sel) :=
  GRel.trans (gatherRtx_grel s orc) (GRel.trans (gatherNew_grel _ _ _ _) (gatherFast_grel _ _ _))

theorem gather_eq (s : St) (orc : Oracle) (sel : List Nat) (he : s.established = true) :
    (gather s orc sel).1 = { gatherPre s orc sel with willSendForwardTSN := false } ∧
    (gather s orc sel).2.fwd = fwdOut (gatherPre s orc sel) := by
  unfold gather
  simp only [he, Bool.not_true, Bool.false_eq_true, if_false]
  constructor <;> first | rfl | trivial

/-- abandonment, queue prefix and ack points across a whole gather (the flag is cleared at the end) -/
theorem gather_grel (s : St) (orc : Oracle) (sel : List Nat) :
    AbLe s (gather s orc sel).1 ∧ IdentPrefix s.inflight (gather s orc sel).1.inflight ∧
    (gather s orc sel).1.advPeerAck = s.advPeerAck ∧ (gather s orc sel).1.cumAck = s.cumAck ∧
    (gather s orc sel).1.established = s.established := by
  by_cases he : s.established = true
  · rw [(gather_eq s orc sel he).1]
    obtain ⟨g1, g2, g3, g4, _, g6⟩ := gatherPre_grel s orc sel
    exact ⟨g1, g2, g3, g4, g6⟩
  · unfold gather
    simp only [he, Bool.not_false, if_true]
    exact ⟨AbLe.refl s, IdentPrefix.refl _, trivial, trivial, trivial⟩

/-! ### serial numbers as offsets from a base -/

theorem off_last (a v : BitVec 32) (h : 0 < v.toNat) : (a + v - (a + 1)).toNat = v.toNat - 1 := by bv_omega

theorem off_pred (x b : BitVec 32) (h : (x - (b + 1)).toNat + 1 < 2^32) : (x - b).toNat = (x - (b + 1)).toNat + 1 := by bv_omega

theorem adv_offset (adv cum : BitVec 32) : (adv + 1 - (cum + 1)).toNat = (adv - cum).toNat := by
  congr 1; bv_omega

theorem off_sub_ofNat (a c : BitVec 32) (k : Nat) (hk : k ≤ (a - c).toNat) : (a - (c + BitVec.ofNat 32 k)).toNat = (a - c).toNat - k := by
  have := (a - c).isLt
  have := Sna.toNat_ofNat_of_lt (w := 32) (k := k) (by omega)
  bv_omega

/-- moving the base `k` steps past `a` leaves `a` behind it, by less than half the number space -/
theorem off_behind (a c : BitVec 32) (k : Nat) (h1 : (a - c).toNat < k) (h2 : k < 2^31) :
    0 < (c + BitVec.ofNat 32 k - a).toNat ∧ (c + BitVec.ofNat 32 k - a).toNat < 2^31 := by
  have := Sna.toNat_ofNat_of_lt (w := 32) (k := k) (by omega)
  constructor <;> bv_omega

theorem get_off {q : List Chunk} {t tsn : BitVec 32} {off : Nat} {c : Chunk} (hc : Contig q t) (h : Sender.get q tsn = some (off, c)) :
    off = (tsn - t).toNat ∧ q[off]? = some c ∧ off < q.length := by
  cases q with
  | nil => simp [Sender.get] at h
  | cons f r =>
    have hf : f.tsn = t := hc.1
    simp only [Sender.get, hf] at h
    split at h
    · cases h
    · rename_i hlt
      simp only [Option.map_eq_some_iff, Prod.mk.injEq] at h
      obtain ⟨a, h1, h2, h3⟩ := h
      subst h3
      exact ⟨h2.symm, by rw [← h2]; exact h1, by rw [← h2]; omega⟩

theorem get_of_lt {q : List Chunk} {t tsn : BitVec 32} (hc : Contig q t) (h : (tsn - t).toNat < q.length) :
    Sender.get q tsn = some ((tsn - t).toNat, q[(tsn - t).toNat]) := by
  cases q with
  | nil => simp at h
  | cons f r =>
    have hf : f.tsn = t := hc.1
    simp only [Sender.get, hf]
    rw [if_neg (by omega), List.getElem?_eq_getElem h]
    rfl

theorem get_none_of_ge {q : List Chunk} {t tsn : BitVec 32} (hc : Contig q t) (h : q.length ≤ (tsn - t).toNat) :
    Sender.get q tsn = none := by
  cases q with
  | nil => rfl
  | cons f r =>
    have hf : f.tsn = t := hc.1
    simp only [Sender.get, hf]
    rw [if_pos h]

/-! ### the advanced peer ack point covers abandoned chunks only -/

/-- `advancedPeerTSNAckPoint` lies inside the in-flight queue and every chunk up to it is abandoned -/
structure AdvInv (s : St) : Prop where
  le : (s.advPeerAck - s.cumAck).toNat ≤ s.inflight.length
  ab : ∀ i c, i < (s.advPeerAck - s.cumAck).toNat → s.inflight[i]? = some c → s.abandoned c = true

/-- `l'` carries the messages of `l`, in order, followed by more -/
def MsgPrefix (l l' : List Chunk) : Prop := ∃ x, l'.map (·.msg) = l.map (·.msg) ++ x

theorem msgs_of_ident {q q' : List Chunk} (h : q'.map Chunk.ident = q.map Chunk.ident) : q'.map (·.msg) = q.map (·.msg) :=
  map_of_factor Chunk.ident (·.2.1) h

theorem IdentPrefix.msgs {l l' : List Chunk} (h : IdentPrefix l l') : MsgPrefix l l' := by
  obtain ⟨x, hx⟩ := h
  have := congrArg (List.map (·.2.1)) hx
  rw [List.map_append, List.map_map, List.map_map] at this
  exact ⟨_, this⟩

theorem MsgPrefix.of_eq {l l' : List Chunk} (h : l'.map (·.msg) = l.map (·.msg)) : MsgPrefix l l' := ⟨[], by simp [h]⟩
theorem MsgPrefix.of_ident {l l' : List Chunk} (h : l'.map Chunk.ident = l.map Chunk.ident) : MsgPrefix l l' := MsgPrefix.of_eq (msgs_of_ident h)

theorem MsgPrefix.length {l l' : List Chunk} (h : MsgPrefix l l') : l.length ≤ l'.length := by
  obtain ⟨x, hx⟩ := h
  have := congrArg List.length hx
  simp at this; omega

theorem MsgPrefix.get {l l' : List Chunk} (h : MsgPrefix l l') {i : Nat} {c' : Chunk} (hi : i < l.length) (hc : l'[i]? = some c') :
    ∃ c, l[i]? = some c ∧ c'.msg = c.msg := by
  obtain ⟨x, hx⟩ := h
  refine ⟨l[i], List.getElem?_eq_getElem hi, ?_⟩
  have h1 : (l'.map (·.msg))[i]? = some c'.msg := by simp [hc]
  rw [hx, List.getElem?_append_left (by simpa using hi)] at h1
  simpa [hi] using h1.symm

theorem AdvInv.transfer {s s' : St} (h : AdvInv s) (ha : s'.advPeerAck = s.advPeerAck) (hc : s'.cumAck = s.cumAck)
    (hp : MsgPrefix s.inflight s'.inflight) (hab : AbLe s s') : AdvInv s' := by
  refine ⟨?_, ?_⟩
  · rw [ha, hc]; exact Nat.le_trans h.le hp.length
  · intro i c' hi hc'
    rw [ha, hc] at hi
    obtain ⟨c, h1, h2⟩ := hp.get (Nat.lt_of_lt_of_le hi h.le) hc'
    exact hab.abandoned h2 (h.ab i c hi h1)

/-- one step of the RFC 3758 C2 loop: the chunk right after the point is abandoned, the point moves over it -/
theorem AdvInv.step {s : St} (hs : Contig s.inflight (s.cumAck + 1)) (hsm : s.inflight.length < 2^32) (h : AdvInv s)
    {off : Nat} {c : Chunk} (hg : Sender.get s.inflight (s.advPeerAck + 1) = some (off, c)) (hab : s.abandoned c = true) :
    AdvInv { s with advPeerAck := s.advPeerAck + 1 } ∧ (s.advPeerAck + 1 - s.cumAck).toNat = (s.advPeerAck - s.cumAck).toNat + 1 ∧
    (s.advPeerAck - s.cumAck).toNat < s.inflight.length := by
  obtain ⟨o1, o2, o3⟩ := get_off hs hg
  rw [adv_offset] at o1
  have hd := Sna.off_succ s.cumAck s.advPeerAck (by omega)
  refine ⟨⟨?_, ?_⟩, hd, o1 ▸ o3⟩
  · show (s.advPeerAck + 1 - s.cumAck).toNat ≤ s.inflight.length
    omega
  · intro i x hi hx
    have hi' : i < (s.advPeerAck - s.cumAck).toNat + 1 := hd ▸ hi
    rcases Nat.lt_succ_iff_lt_or_eq.mp hi' with h1 | h1
    · exact h.ab i x h1 hx
    · have hx' : s.inflight[i]? = some x := hx
      rw [h1, ← o1, o2] at hx'
      cases hx'
      exact hab

theorem advLoop_inv (fuel : Nat) (s : St) (hs : Contig s.inflight (s.cumAck + 1)) (hsm : s.inflight.length < 2^32) (h : AdvInv s) :
    AdvInv (advLoop fuel s) := by
  induction fuel generalizing s with
  | zero => exact h
  | succ fuel ih =>
    rw [advLoop]
    cases hg : Sender.get s.inflight (s.advPeerAck + 1) with
    | none => exact h
    | some oc =>
      by_cases hab : s.abandoned oc.2 = true
      · simp only [hab, Bool.not_true, Bool.false_eq_true, if_false]
        exact ih _ hs hsm (h.step hs hsm hg hab).1
      · simp only [hab, Bool.not_false, if_true]
        exact h

/-- … and it stops only where it must: the chunk right after the point, if in flight, is not abandoned -/
theorem advLoop_stop (fuel : Nat) (s : St) (hs : Contig s.inflight (s.cumAck + 1)) (hsm : s.inflight.length < 2^32) (h : AdvInv s)
    (hf : s.inflight.length - (s.advPeerAck - s.cumAck).toNat < fuel) :
    ∀ off c, Sender.get (advLoop fuel s).inflight ((advLoop fuel s).advPeerAck + 1) = some (off, c) → (advLoop fuel s).abandoned c = false := by
  induction fuel generalizing s with
  | zero => omega
  | succ fuel ih =>
    rw [advLoop]
    cases hg : Sender.get s.inflight (s.advPeerAck + 1) with
    | none => intro off c hc; rw [hg] at hc; cases hc
    | some oc =>
      by_cases hab : s.abandoned oc.2 = true
      · simp only [hab, Bool.not_true, Bool.false_eq_true, if_false]
        obtain ⟨hinv, hd, hlt⟩ := h.step hs hsm hg hab
        apply ih { s with advPeerAck := s.advPeerAck + 1 } hs hsm hinv
        show s.inflight.length - (s.advPeerAck + 1 - s.cumAck).toNat < fuel
        omega
      · simp only [hab, Bool.not_false, if_true]
        intro off c hc
        rw [hg] at hc
        cases hc
        simpa using hab

/-! ### shape of the state after `processAcknowledgement` -/

/-- what `processAcknowledgement` leaves: control fields untouched, the cumulative point, a suffix of the queue (up to flags) -/
theorem ackPhase_shape {s : St} {cum : BitVec 32} {gaps : List (BitVec 16 × BitVec 16)} {r : St × BitVec 32 × Bool}
    (h : ackPhase s cum gaps = some r) :
    SameCtl s r.1 ∧ r.1.myNextTSN = s.myNextTSN ∧ r.1.cumAck = (if sna32LT s.cumAck cum then cum else s.cumAck) ∧
    ∃ k, k ≤ s.inflight.length ∧ r.1.inflight.map Chunk.ident = (s.inflight.drop k).map Chunk.ident := by
  obtain ⟨k, hk⟩ := ackPhase_qev h
  refine ⟨ackPhase_ctl h, ?_, ?_, k, hk.1, hk.ident⟩
  · obtain ⟨_, _, _, _, _, _, _, _, _, e⟩ := ackPhase_only h
    rw [e]
  · obtain ⟨q, a, g, hp, hg, rfl⟩ := ackPhase_eq h
    simp only [ackApply]
    rw [(releaseAll_frame _ _).2.2.2.2.2.2.2.2.2.2.2.1]
    split
    · exact (onCumAdvanced_seq _ _).1
    · rfl

/-- number of chunks a SACK pops, from contiguity before and after -/
theorem popped_count {s r : St} (hs : Seq s) (hr : Seq r) (hn : r.myNextTSN = s.myNextTSN) {k : Nat} (hk : k ≤ s.inflight.length)
    (hl : r.inflight.length = s.inflight.length - k) :
    r.cumAck = s.cumAck + BitVec.ofNat 32 k := by
  have h2 := hr.2
  rw [hn, hs.2, hl] at h2
  have : BitVec.ofNat 32 s.inflight.length = BitVec.ofNat 32 (s.inflight.length - k) + BitVec.ofNat 32 k := by
    rw [← BitVec.ofNat_add]; congr 1; omega
  rw [this] at h2
  generalize BitVec.ofNat 32 (s.inflight.length - k) = u at h2
  generalize BitVec.ofNat 32 k = v at h2 ⊢
  bv_omega

/-! ### a validated SACK never reaches the late error return of `processFastRetransmission` -/

theorem length_of_ident {q q' : List Chunk} (h : q'.map Chunk.ident = q.map Chunk.ident) : q'.length = q.length := by
  simpa using congrArg List.length h

theorem missLoop_ok (htna c0 maxTSN : BitVec 32) (fuel : Nat) (s : St) (tsn : BitVec 32)
    (hc : Contig s.inflight (c0 + 1)) (hm : (maxTSN - c0).toNat ≤ s.inflight.length) (hsm : s.inflight.length < 2^31)
    (hj : (tsn - (c0 + 1)).toNat ≤ (maxTSN - c0).toNat) (hf : (maxTSN - c0).toNat - (tsn - (c0 + 1)).toNat < fuel) :
    (missLoop htna fuel s tsn maxTSN).2 = true := by
  induction fuel generalizing s tsn with
  | zero => omega
  | succ fuel ih =>
    simp only [missLoop]
    by_cases hlt : sna32LT tsn maxTSN = true
    · rw [if_pos hlt]
      -- in offsets from `c0`, `tsn` lies strictly before `maxTSN`: its chunk is in the queue
      have hp := off_pred tsn c0 (by omega)
      have hj1 := (Sna.window32 c0 tsn maxTSN (by omega) (by omega)).1.mp hlt
      have hin : (tsn - (c0 + 1)).toNat < s.inflight.length := by omega
      rw [get_of_lt hc hin]
      have hnext := Sna.off_succ (c0 + 1) tsn (by omega)
      have key : ∀ x : St, x.inflight.map (·.tsn) = s.inflight.map (·.tsn) → (missLoop htna fuel x (tsn + 1) maxTSN).2 = true := by
        intro x hx
        have hl : x.inflight.length = s.inflight.length := by simpa using congrArg List.length hx
        exact ih x (tsn + 1) (contig_of_tsns hx hc) (by rw [hl]; exact hm) (by rw [hl]; exact hsm) (by omega) (by omega)
      refine ite_elim (fun r : St × Bool => r.2 = true) _ (key _ ?_) (key s rfl)
      exact ite_elim (fun x : St => x.inflight.map (·.tsn) = s.inflight.map (·.tsn)) _
        (map_tsn_set (List.getElem?_eq_getElem hin) rfl) (map_tsn_set (List.getElem?_eq_getElem hin) rfl)
    · rw [if_neg hlt]

theorem fastRetransCheck_ok (x : St) (cum : BitVec 32) (gaps : List (BitVec 16 × BitVec 16)) (htna : BitVec 32) (adv : Bool)
    (hc : Contig x.inflight (cum + 1)) (hsm : x.inflight.length < 2^31) (hh : (htna - cum).toNat ≤ x.inflight.length)
    (hg : ∀ st en, gaps.getLast? = some (st, en) → en.toNat ≤ x.inflight.length) :
    (fastRetransCheck x cum gaps htna adv).2 = true := by
  have h1 : (frLoop x cum gaps htna adv).2 = true := by
    unfold frLoop
    split
    · have key : ∀ M : BitVec 32, (M - cum).toNat ≤ x.inflight.length → (missLoop htna (x.inflight.length + 1) x (cum + 1) M).2 = true :=
        fun M hM => by
          have h0 : (cum + 1 - (cum + 1)).toNat = 0 := by simp
          exact missLoop_ok htna cum M _ x (cum + 1) hc hM hsm (by omega) (by omega)
      apply key
      split
      · exact hh
      · cases hl : gaps.getLast? with
        | none => simp
        | some g =>
          obtain ⟨st, en⟩ := g
          simp only
          have := hg st en hl
          have e : (BitVec.setWidth 32 en).toNat = en.toNat := by
            have := en.isLt
            simp [BitVec.toNat_setWidth]; omega
          have : (cum + BitVec.setWidth 32 en - cum).toNat = en.toNat := by bv_omega
          omega
    · rfl
  unfold fastRetransCheck frPost
  rw [h1]
  rfl

def HtnaOk (t : BitVec 32) (a : GapAcc) : Prop := a.htna + 1 = t ∨ (a.htna - t).toNat < a.q.length

theorem markOne_htna (t : BitVec 32) (a : GapAcc) (tsn : BitVec 32) {a' : GapAcc} (hc : Contig a.q t) (hh : HtnaOk t a)
    (h : markOne a tsn = some a') : HtnaOk t a' := by
  have hid := (markOne_pt a tsn h).length
  unfold markOne at h
  cases hg : Sender.get a.q tsn with
  | none => simp [hg] at h
  | some oc =>
    obtain ⟨off, c⟩ := oc
    obtain ⟨o1, o2, o3⟩ := get_off hc hg
    simp only [hg, Option.some.injEq] at h
    subst h
    unfold HtnaOk at hh ⊢
    rw [hid]
    simp only
    split
    · split
      · right; rw [← o1]; exact o3
      · exact hh
    · split
      · right; rw [← o1]; exact o3
      · exact hh

/-- the highest newly acked TSN the gap loop reports lies at the cumulative point or inside the queue it leaves -/
theorem ackPhase_htna {s : St} {cum : BitVec 32} {gaps : List (BitVec 16 × BitVec 16)} {r : St × BitVec 32 × Bool}
    (h : ackPhase s cum gaps = some r) (hr : Contig r.1.inflight (cum + 1)) :
    r.2.1 = cum ∨ (r.2.1 - (cum + 1)).toNat < r.1.inflight.length := by
  obtain ⟨q, a, g, hp, hg, rfl⟩ := ackPhase_eq h
  simp only at hr ⊢
  rw [ackApply_inflight] at hr ⊢
  have hc0 : Contig q (cum + 1) := contig_of_tsns (markGaps_pt cum gaps _ hg).tsns.symm hr
  have := (markGaps_inv (fun x => Contig x.q (cum + 1) ∧ HtnaOk (cum + 1) x)
    (fun x tsn x' hx h1 => ⟨contig_of_tsns (markOne_pt x tsn h1).tsns hx.1, markOne_htna _ x tsn hx.1 hx.2 h1⟩)
    cum gaps { q := q, infBytes := a.infBytes, rel := a.rel, htna := cum } ⟨hc0, Or.inl rfl⟩ hg).2
  rcases this with h1 | h1
  · left; bv_omega
  · right; exact h1

/-- a gap block that ends inside the queue (counted from `a + 1`) ends inside what is left after `k` pops -/
theorem gap_end_le (a : BitVec 32) (en : BitVec 16) (k n : Nat) (hk : k ≤ n) (hn : n < 2^31) (hen : 0 < en.toNat)
    (h : (a + BitVec.ofNat 32 k + BitVec.setWidth 32 en - (a + 1)).toNat < n) : en.toNat ≤ n - k := by
  have e1 : (BitVec.setWidth 32 en).toNat = en.toNat := by
    rw [BitVec.toNat_setWidth]; exact Nat.mod_eq_of_lt (by have := en.isLt; omega)
  have e3 := Sna.toNat_ofNat_of_lt (w := 32) (k := k) (by omega)
  have := en.isLt
  bv_omega

/-- **Structure of `handleSack` on reachable states**: it either leaves the state untouched (association not established,
stale, rejected by the validation) or runs the whole pipeline — both loops of `processAcknowledgement`, the window
update, `processFastRetransmission` WITHOUT its error return, the partial-reliability step, the RACK marks. -/
theorem sack_cases (s : St) (cum arwnd : BitVec 32) (gaps : List (BitVec 16 × BitVec 16)) (marks : List (BitVec 32))
    (hs : Seq s) (hsm : s.inflight.length < 2^31) :
    ((sack s cum arwnd gaps marks).2 ≠ .ok ∧ (sack s cum arwnd gaps marks).2 ≠ .failedLate ∧ (sack s cum arwnd gaps marks).1 = s ∧
      (s.established = false ∨ sna32GT s.cumAck cum = true ∨ validate s cum gaps = false)) ∨
    ((sack s cum arwnd gaps marks).2 = .ok ∧ s.established = true ∧ sna32GT s.cumAck cum = false ∧ validate s cum gaps = true ∧
      ∃ r, ackPhase s cum gaps = some r ∧ Seq r.1 ∧ r.1.cumAck = cum ∧
        (sack s cum arwnd gaps marks).1 =
          applyMarks (prStep (fastRetransCheck (setPeerWindow r.1 arwnd) cum gaps r.2.1 r.2.2).1) marks) := by
  by_cases hg : s.established = false ∨ sna32GT s.cumAck cum = true ∨ validate s cum gaps = false
  · obtain ⟨h1, h2, h3⟩ := sack_refused arwnd marks hg
    exact Or.inl ⟨h2, h3, h1, hg⟩
  · simp only [not_or, Bool.not_eq_false, Bool.not_eq_true] at hg
    obtain ⟨hest, hst, hv⟩ := hg
    obtain ⟨r, hr, hrs⟩ := ackPhase_total s cum gaps hs hst hv
    obtain ⟨_, p2, p3, _⟩ := ackPhase_shape hr
    obtain ⟨k, hq⟩ := ackPhase_qev hr
    have hk := hq.1
    have hcum : r.1.cumAck = cum := by
      rw [p3]
      by_cases hlt : sna32LT s.cumAck cum = true
      · rw [if_pos hlt]
      · rw [if_neg hlt]; exact sna32_eq_of_not _ _ (by simpa using hlt) hst
    have hlen : r.1.inflight.length = s.inflight.length - k := by have := hq.length; omega
    have hcq : Contig r.1.inflight (cum + 1) := hcum ▸ hrs.1
    have hpop := popped_count hs hrs p2 hk hlen
    rw [hcum] at hpop
    have hf : (fastRetransCheck (setPeerWindow r.1 arwnd) cum gaps r.2.1 r.2.2).2 = true := by
      apply fastRetransCheck_ok (setPeerWindow r.1 arwnd) cum gaps r.2.1 r.2.2 hcq (by show r.1.inflight.length < 2^31; omega)
      · show (r.2.1 - cum).toNat ≤ r.1.inflight.length
        rcases ackPhase_htna hr hcq with h1 | h1
        · rw [h1]; simp
        · have := off_pred r.2.1 cum (by omega); omega
      · intro st en hl
        show en.toNat ≤ r.1.inflight.length
        obtain ⟨g1, g2, _, g5⟩ := validate_gap hv (List.mem_of_getLast? hl)
        rw [get_contig hs.1] at g5
        have hst1 : st.toNat ≠ 0 := fun h => g1 (BitVec.eq_of_toNat_eq (by simpa using h))
        rw [BitVec.le_def] at g2
        rw [hlen]
        exact gap_end_le s.cumAck en k _ hk hsm (by omega) (hpop ▸ of_decide_eq_true g5)
    rw [sack_ok_eq marks hest hst hv hr hf]
    exact Or.inr ⟨rfl, hest, hst, hv, r, hr, hrs, hcum, rfl⟩

/-! ### the invariant across `handleSack` and T3 -/

/-- the cumulative point has overtaken the advanced peer ack point (transient, inside `handleSack`) -/
def Behind (x : St) : Prop := 0 < (x.cumAck - x.advPeerAck).toNat ∧ (x.cumAck - x.advPeerAck).toNat < 2^31

theorem pop_adv {s r : St} (h : AdvInv s) (hsm : s.inflight.length < 2^31) (hctl : SameCtl s r) {k : Nat} (hq : QEv k s r)
    (hcum : r.cumAck = s.cumAck + BitVec.ofNat 32 k) : AdvInv r ∨ Behind r := by
  have hle := h.le
  have hlen := hq.length
  by_cases hkd : k ≤ (s.advPeerAck - s.cumAck).toNat
  · left
    have hd : (r.advPeerAck - r.cumAck).toNat = (s.advPeerAck - s.cumAck).toNat - k := by
      rw [hctl.2.2.1, hcum]; exact off_sub_ofNat _ _ k hkd
    refine ⟨by rw [hd]; omega, ?_⟩
    intro i c' hi hc'
    rw [hd] at hi
    obtain ⟨c, h1, e⟩ := hq.2.get hc'
    rw [List.getElem?_drop] at h1
    exact hctl.abLe.abandoned (ident_msg e.ident) (h.ab (k + i) c (by omega) h1)
  · right
    unfold Behind
    rw [hctl.2.2.1, hcum]
    exact off_behind _ _ k (by omega) (by omega)

/-- nothing in flight right after the advanced peer ack point is abandoned: the point cannot move further -/
def AdvMax (z : St) : Prop := ∀ off c, Sender.get z.inflight (z.advPeerAck + 1) = some (off, c) → z.abandoned c = false

/-- what `advancePeerAck` leaves (RFC 3758 C2–C4): the point covers abandoned chunks only, it cannot move further, and the
flag is up whenever it is ahead of the cumulative point -/
structure AdvPost (z : St) : Prop where
  inv : AdvInv z
  max : AdvMax z
  flag : sna32GT z.advPeerAck z.cumAck = true → z.willSendForwardTSN = true

theorem advancePeerAck_post (y : St) (hc : Contig y.inflight (y.cumAck + 1)) (hsm : y.inflight.length < 2^32) (h : AdvInv y) :
    AdvPost (advancePeerAck y) := by
  have h1 := advLoop_inv (y.inflight.length + 1) y hc hsm h
  have h2 : AdvMax (advLoop (y.inflight.length + 1) y) := advLoop_stop (y.inflight.length + 1) y hc hsm h (by omega)
  unfold advancePeerAck
  simp only
  split
  · exact ⟨⟨h1.le, h1.ab⟩, h2, fun _ => rfl⟩
  · rename_i hgt
    exact ⟨h1, h2, fun hg => absurd hg hgt⟩

/-- the loss marks and `markAllToRetrasmit`, which follow `advancePeerAck`, rewrite flags only -/
theorem AdvPost.flags {z : St} (h : AdvPost z) {q' : List Chunk} (hq : Pt Fl z.inflight q') : AdvPost { z with inflight := q' } := by
  refine ⟨h.inv.transfer rfl rfl (MsgPrefix.of_ident hq.ident_fl) (AbLe.refl _), ?_, h.flag⟩
  intro off x hg
  obtain ⟨c, hc, e⟩ := hq.sget (fun _ _ e => e.tsn) hg
  have := h.max off c hc
  simp only [St.abandoned, isAbandoned, e.keeps (·.msg) (fun _ => rfl)] at this ⊢
  exact this

/-- the state `prStep` hands to `advancePeerAck` -/
def prSync (x : St) : St := if sna32LT x.advPeerAck x.cumAck then { x with advPeerAck := x.cumAck } else x

theorem prStep_eq (x : St) (hpr : x.cfg.prEnabled = true) : prStep x = advancePeerAck (prSync x) := by
  unfold prStep prSync
  rw [if_pos hpr]

theorem prSync_inv (x : St) (h : AdvInv x ∨ Behind x) :
    AdvInv (prSync x) ∧ (prSync x).inflight = x.inflight ∧ (prSync x).cumAck = x.cumAck ∧
    (prSync x).abandonedMsgs = x.abandonedMsgs ∧ (prSync x).allInflightMsgs = x.allInflightMsgs ∧ (prSync x).cfg = x.cfg ∧
    (prSync x).myNextTSN = x.myNextTSN := by
  unfold prSync
  split
  · refine ⟨⟨by simp, ?_⟩, rfl, rfl, rfl, rfl, rfl, rfl⟩
    intro i c hi
    simp at hi
  · rename_i hlt
    refine ⟨?_, rfl, rfl, rfl, rfl, rfl, rfl⟩
    rcases h with h | h
    · exact h
    · exfalso
      apply hlt
      obtain ⟨b1, b2⟩ := h
      simp only [sna32LT, Bool.or_eq_true, Bool.and_eq_true, decide_eq_true_eq]
      bv_omega

/-- an accepted SACK on a reachable state: `k` chunks are popped from the front, the rest is rewritten pointwise, up to the
state `x` that `finishAcknowledgement` hands to the partial-reliability step and the RACK marks -/
theorem sack_ok_mid (s : St) (cum arwnd : BitVec 32) (gaps : List (BitVec 16 × BitVec 16)) (marks : List (BitVec 32))
    (hs : Seq s) (hsm : s.inflight.length < 2^31) (hok : (sack s cum arwnd gaps marks).2 = .ok) :
    ∃ (x : St) (k : Nat), (sack s cum arwnd gaps marks).1 = applyMarks (prStep x) marks ∧ QEv k s x ∧
      cum = s.cumAck + BitVec.ofNat 32 k ∧ x.cumAck = cum ∧ SameCtl s x ∧ Seq x ∧ x.cfg = s.cfg := by
  rcases sack_cases s cum arwnd gaps marks hs hsm with ⟨hne, _, _, _⟩ | ⟨_, _, _, _, r, hr, hrs, hcum, he⟩
  · exact absurd hok hne
  · obtain ⟨p1, p2, _, _⟩ := ackPhase_shape hr
    obtain ⟨k, hk⟩ := ackPhase_qev hr
    have hpop := popped_count hs hrs p2 hk.1 (by have := hk.length; omega)
    have hcfg : r.1.cfg = s.cfg := (ackPhase_win hr).1
    have f1 := fastRetransCheck_sameAcct (setPeerWindow r.1 arwnd) cum gaps r.2.1 r.2.2
    exact ⟨_, k, he, hk.then (QEv.of_fl (s := r.1) (fastRetransCheck_fl (setPeerWindow r.1 arwnd) cum gaps r.2.1 r.2.2)), hcum ▸ hpop,
      f1.cumAck.trans hcum,
      p1.trans (fastRetransCheck_ctl (setPeerWindow r.1 arwnd) cum gaps r.2.1 r.2.2), f1.seq (show Seq (setPeerWindow r.1 arwnd) from hrs),
      f1.cfg.trans hcfg⟩

/-- … with partial reliability: the result is `advancePeerAck`, then the RACK marks, applied to a contiguous state `y` that
satisfies the invariant -/
theorem sack_ok_form (s : St) (cum arwnd : BitVec 32) (gaps : List (BitVec 16 × BitVec 16)) (marks : List (BitVec 32))
    (hs : Seq s) (hsm : s.inflight.length < 2^31) (hpr : s.cfg.prEnabled = true) (h : AdvInv s)
    (hok : (sack s cum arwnd gaps marks).2 = .ok) :
    ∃ y : St, AdvInv y ∧ Contig y.inflight (y.cumAck + 1) ∧ y.inflight.length ≤ s.inflight.length ∧
      (sack s cum arwnd gaps marks).1 = applyMarks (advancePeerAck y) marks := by
  obtain ⟨x, k, he, hq, hcum, hxc, ctl, hxs, hxcfg⟩ := sack_ok_mid s cum arwnd gaps marks hs hsm hok
  obtain ⟨b1, b2, b3, _⟩ := prSync_inv x (pop_adv h hsm ctl hq (hxc.trans hcum))
  rw [he, prStep_eq x (hxcfg ▸ hpr)]
  exact ⟨prSync x, b1, by rw [b2, b3]; exact hxs.1, by rw [b2]; have := hq.length; omega, rfl⟩

/-- **after an accepted SACK** the advanced peer ack point is maximal (the chunk right after it, if in flight, is not
abandoned) and, if it is ahead of the cumulative point, a FORWARD-TSN will be sent -/
theorem sack_post (s : St) (cum arwnd : BitVec 32) (gaps : List (BitVec 16 × BitVec 16)) (marks : List (BitVec 32))
    (hs : Seq s) (hsm : s.inflight.length < 2^31) (hpr : s.cfg.prEnabled = true) (h : AdvInv s)
    (hok : (sack s cum arwnd gaps marks).2 = .ok) : AdvPost (sack s cum arwnd gaps marks).1 := by
  obtain ⟨y, y1, y2, y3, he⟩ := sack_ok_form s cum arwnd gaps marks hs hsm hpr h hok
  rw [he]
  exact (advancePeerAck_post y y2 (by omega) y1).flags (applyMarks_fl _ marks)

theorem sack_adv (s : St) (cum arwnd : BitVec 32) (gaps : List (BitVec 16 × BitVec 16)) (marks : List (BitVec 32))
    (hs : Seq s) (hsm : s.inflight.length < 2^31) (hpr : s.cfg.prEnabled = true) (h : AdvInv s) :
    AdvInv (sack s cum arwnd gaps marks).1 := by
  by_cases hok : (sack s cum arwnd gaps marks).2 = .ok
  · exact (sack_post s cum arwnd gaps marks hs hsm hpr h hok).inv
  · rcases sack_cases s cum arwnd gaps marks hs hsm with ⟨_, _, he, _⟩ | ⟨h1, _⟩
    · rw [he]; exact h
    · exact absurd h1 hok

/-- `onRetransmissionTimeout(T3)` as "some bookkeeping that leaves the partial-reliability fields alone, then
`advancePeerAck`, then `markAllToRetrasmit`" -/
theorem t3_eq (s : St) : ∃ x : St,
    t3 s = { (if x.cfg.prEnabled then advancePeerAck x else x) with
             inflight := markAllToRetransmit (if x.cfg.prEnabled then advancePeerAck x else x) } ∧
    x.inflight = s.inflight ∧ x.cumAck = s.cumAck ∧ x.advPeerAck = s.advPeerAck ∧
    x.abandonedMsgs = s.abandonedMsgs ∧ x.allInflightMsgs = s.allInflightMsgs ∧ x.cfg = s.cfg := by
  unfold t3
  simp only
  split
  · exact ⟨_, rfl, rfl, rfl, rfl, rfl, rfl, rfl⟩
  · exact ⟨_, rfl, rfl, rfl, rfl, rfl, rfl, rfl⟩

/-- **after T3** likewise -/
theorem t3_post (s : St) (hs : Seq s) (hsm : s.inflight.length < 2^32) (hpr : s.cfg.prEnabled = true) (h : AdvInv s) : AdvPost (t3 s) := by
  obtain ⟨x, hx, x1, x2, x3, x4, x5, x6⟩ := t3_eq s
  rw [hx, if_pos (x6 ▸ hpr)]
  have hx0 : AdvInv x := h.transfer x3 x2 (MsgPrefix.of_eq (by rw [x1])) (AbLe.of_eq x4 x5)
  exact (advancePeerAck_post x (by rw [x1, x2]; exact hs.1) (by rw [x1]; exact hsm) hx0).flags (markAll_fl _)

theorem t3_adv (s : St) (hs : Seq s) (hsm : s.inflight.length < 2^32) (hpr : s.cfg.prEnabled = true) (h : AdvInv s) : AdvInv (t3 s) :=
  (t3_post s hs hsm hpr h).inv

/-- **Run premise for serial-number arithmetic**: fewer than 2^31 TSNs are outstanding in every state the run passes
through (the first, every intermediate one, the last). Decidable; real runs satisfy it by far (the peer's window and
the congestion window bound the outstanding data long before). -/
def TsnOk : St → List Op → Prop
  | s, [] => s.inflight.length < 2^31
  | s, op :: ops => s.inflight.length < 2^31 ∧ TsnOk (step s op) ops

instance TsnOk.dec : (s : St) → (ops : List Op) → Decidable (TsnOk s ops)
  | s, [] => inferInstanceAs (Decidable (s.inflight.length < 2^31))
  | s, op :: ops => @instDecidableAnd _ _ _ (TsnOk.dec (step s op) ops)

theorem TsnOk.head {s : St} {ops : List Op} (h : TsnOk s ops) : s.inflight.length < 2^31 := by
  cases ops with
  | nil => exact h
  | cons op ops => exact h.1

theorem TsnOk.last {s : St} {ops : List Op} (h : TsnOk s ops) : (run s ops).inflight.length < 2^31 := by
  induction ops generalizing s with
  | nil => exact h
  | cons op ops ih => exact ih h.2

theorem TsnOk.append {s : St} {ops ops' : List Op} (h : TsnOk s ops) (h' : TsnOk (run s ops) ops') : TsnOk s (ops ++ ops') := by
  induction ops generalizing s with
  | nil => exact h'
  | cons op ops ih => exact ⟨h.1, ih h.2 h'⟩

theorem TsnOk.take {s : St} {ops ops' : List Op} (h : TsnOk s (ops ++ ops')) : TsnOk s ops := by
  induction ops generalizing s with
  | nil => exact h.head
  | cons op ops ih => exact ⟨h.1, ih h.2⟩

theorem run_append (s : St) (ops ops' : List Op) : run s (ops ++ ops') = run (run s ops) ops' := by
  induction ops generalizing s with
  | nil => rfl
  | cons op ops ih => exact ih (step s op)

theorem iter_t3_adv (n : Nat) (s : St) (hs : Seq s) (hsm : s.inflight.length < 2^32) (hpr : s.cfg.prEnabled = true) (h : AdvInv s) :
    AdvInv (iter t3 n s) := by
  induction n generalizing s with
  | zero => exact h
  | succ n ih =>
    simp only [iter]
    have f := (t3_frame s).1
    have hl : (t3 s).inflight.length = s.inflight.length := by
      simpa using congrArg List.length f.core
    exact ih (t3 s) (f.seq hs) (by rw [hl]; exact hsm) (by rw [f.cfg]; exact hpr) (t3_adv s hs hsm hpr h)

theorem step_adv (s : St) (op : Op) (hs : Seq s) (hsm : s.inflight.length < 2^31) (hpr : s.cfg.prEnabled = true)
    (h : AdvInv s) : AdvInv (step s op) := by
  cases op with
  | openS si u rt rv th => exact ⟨h.le, h.ab⟩
  | unreg si =>
    simp only [step, unregister]
    split
    · exact h
    · exact ⟨h.le, h.ab⟩
  | setEstablished b => exact ⟨h.le, h.ab⟩
  | write si ppi len =>
    obtain ⟨_, _, _, _, _, _, hw⟩ := write_only s si ppi len
    rw [step, hw]
    exact ⟨h.le, h.ab⟩
  | gather orc sel =>
    obtain ⟨g1, g2, g3, g4, _⟩ := gather_grel s orc sel
    exact h.transfer g3 g4 g2.msgs g1
  | sack cum arwnd gaps marks => exact sack_adv s cum arwnd gaps marks hs hsm hpr h
  | t3 => exact t3_adv s hs (by omega) hpr h
  | tick ms n marks =>
    simp only [step]
    have h0 : AdvInv { s with now := s.now + ms } := ⟨h.le, h.ab⟩
    have := iter_t3_adv n { s with now := s.now + ms } hs (by show s.inflight.length < 2^32; omega) hpr h0
    exact this.transfer rfl rfl (MsgPrefix.of_ident (applyMarks_fl _ marks).ident_fl) (AbLe.refl _)

theorem run_adv (s : St) (ops : List Op) (hs : Seq s) (hw : WinInv s) (hpr : s.cfg.prEnabled = true) (h : AdvInv s) (hok : TsnOk s ops) :
    AdvInv (run s ops) := by
  induction ops generalizing s with
  | nil => exact h
  | cons op ops ih =>
    exact ih (step s op) (step_seq s op hs hw.cfgOk) (step_win s op hw).1 (by rw [step_cfg_eq s op hw.cfgOk]; exact hpr)
      (step_adv s op hs hok.1 hpr h) hok.2

theorem init_adv (cfg : Cfg) (tsn peerRwnd : BitVec 32) : AdvInv (init cfg tsn peerRwnd) := by
  refine ⟨by simp [init], ?_⟩
  intro i c hi
  simp [init] at hi

/-! ### abandonment is monotone along every run (no invariant needed) -/

/-- whatever the operation, no message leaves the abandoned set and none leaves the all-fragments-in-flight set -/
theorem step_abLe (s : St) (op : Op) : AbLe s (step s op) := by
  cases op with
  | openS si u rt rv th => exact AbLe.of_eq rfl rfl
  | unreg si =>
    simp only [step, unregister]
    split
    · exact AbLe.refl s
    · exact AbLe.of_eq rfl rfl
  | setEstablished b => exact AbLe.of_eq rfl rfl
  | write si ppi len =>
    obtain ⟨_, _, _, _, _, _, h⟩ := write_only s si ppi len
    exact AbLe.of_eq (by rw [step, h]) (by rw [step, h])
  | gather orc sel => exact (gather_grel s orc sel).1
  | sack cum arwnd gaps marks => exact AbLe.of_eq (sack_kept s cum arwnd gaps marks).abandonedMsgs (sack_kept s cum arwnd gaps marks).allInflightMsgs
  | t3 => exact AbLe.of_eq (t3_kept s).1.abandonedMsgs (t3_kept s).1.allInflightMsgs
  | tick ms n marks => exact AbLe.of_eq (tick_kept s ms n marks).1.abandonedMsgs (tick_kept s ms n marks).1.allInflightMsgs

theorem run_abLe (s : St) (ops : List Op) : AbLe s (run s ops) := by
  induction ops generalizing s with
  | nil => exact AbLe.refl s
  | cons op ops ih => exact (step_abLe s op).trans (ih (step s op))

/-! ### what a gather does with the flag and the FORWARD-TSN -/

theorem gather_flag (s : St) (orc : Oracle) (sel : List Nat) (he : s.established = true) :
    (gather s orc sel).1.willSendForwardTSN = false := by
  rw [(gather_eq s orc sel he).1]

theorem fwdOut_isSome (x : St) : (fwdOut x).isSome = true ↔
    (x.willSendForwardTSN = true ∧ sna32GT x.advPeerAck x.cumAck = true ∧ (x.cfg.useIForwardTSN = true ∨ x.cfg.prEnabled = true)) := by
  unfold fwdOut
  by_cases h1 : x.willSendForwardTSN = true <;> by_cases h2 : sna32GT x.advPeerAck x.cumAck = true <;>
    by_cases h3 : x.cfg.useIForwardTSN = true <;> by_cases h4 : x.cfg.prEnabled = true <;> simp [h1, h2, h3, h4]

/-! ### contents of FORWARD-TSN / I-FORWARD-TSN -/

theorem fwdScan_congr {s s' : St} (h1 : s'.advPeerAck = s.advPeerAck) (h2 : s'.inflight = s.inflight) (fuel : Nat) (i : BitVec 32) :
    fwdScan s' fuel i = fwdScan s fuel i := by
  induction fuel generalizing i with
  | zero => rfl
  | succ fuel ih => simp only [fwdScan, h1, h2, ih]

/-- the flag does not matter for what a FORWARD-TSN would contain -/
theorem fwd_flag (x : St) (b : Bool) : fwdChunks { x with willSendForwardTSN := b } = fwdChunks x := by
  unfold fwdChunks
  exact fwdScan_congr (s := x) (s' := { x with willSendForwardTSN := b }) rfl rfl _ _

/-- the scan of `createForwardTSN` visits exactly the first `advPeerAck − cumAck` chunks of the queue -/
theorem fwdScan_eq (s : St) (hc : Contig s.inflight (s.cumAck + 1)) (hsm : s.inflight.length < 2^31)
    (hle : (s.advPeerAck - s.cumAck).toNat ≤ s.inflight.length) (fuel : Nat) (i : BitVec 32)
    (hj : (i - (s.cumAck + 1)).toNat ≤ (s.advPeerAck - s.cumAck).toNat)
    (hf : (s.advPeerAck - s.cumAck).toNat - (i - (s.cumAck + 1)).toNat < fuel) :
    fwdScan s fuel i = (s.inflight.drop (i - (s.cumAck + 1)).toNat).take ((s.advPeerAck - s.cumAck).toNat - (i - (s.cumAck + 1)).toNat) := by
  induction fuel generalizing i with
  | zero => omega
  | succ fuel ih =>
    simp only [fwdScan]
    -- in offsets from `cumAck`: `i` is at `j + 1`, the point at `d`, so `i ≤ point` iff `j < d`
    have hp := off_pred i s.cumAck (by omega)
    have hw := (Sna.window32 s.cumAck i s.advPeerAck (by omega) (by omega)).2
    by_cases hlt : (i - (s.cumAck + 1)).toNat < (s.advPeerAck - s.cumAck).toNat
    · have hin : (i - (s.cumAck + 1)).toNat < s.inflight.length := by omega
      rw [if_pos (hw.mpr (by omega)), get_of_lt hc hin]
      simp only
      have hnext := Sna.off_succ (s.cumAck + 1) i (by omega)
      rw [ih (i + 1) (by omega) (by omega), hnext]
      have e : (s.advPeerAck - s.cumAck).toNat - (i - (s.cumAck + 1)).toNat =
          ((s.advPeerAck - s.cumAck).toNat - ((i - (s.cumAck + 1)).toNat + 1)) + 1 := by omega
      rw [e, List.drop_eq_getElem_cons hin, List.take_succ_cons]
    · rw [if_neg (fun h => by have := hw.mp h; omega), show (s.advPeerAck - s.cumAck).toNat - (i - (s.cumAck + 1)).toNat = 0 by omega]
      simp

theorem fwdChunks_eq (s : St) (hs : Seq s) (hsm : s.inflight.length < 2^31) (h : AdvInv s) :
    fwdChunks s = s.inflight.take (s.advPeerAck - s.cumAck).toNat := by
  unfold fwdChunks
  have h0 : (s.cumAck + 1 - (s.cumAck + 1)).toNat = 0 := by simp
  rw [fwdScan_eq s hs.1 hsm h.le _ _ (by omega) (by have := h.le; omega), h0]
  simp

/-- the chunks a FORWARD-TSN covers, by position: the first `advPeerAck − cumAck` of the queue -/
theorem AdvInv.fwd_mem {s : St} (h : AdvInv s) (hs : Seq s) (hsm : s.inflight.length < 2^31) {c : Chunk} (hc : c ∈ fwdChunks s) :
    ∃ i, i < (s.advPeerAck - s.cumAck).toNat ∧ s.inflight[i]? = some c := by
  rw [fwdChunks_eq s hs hsm h] at hc
  obtain ⟨i, hi, hget⟩ := List.getElem_of_mem hc
  rw [List.getElem_take] at hget
  rw [List.length_take] at hi
  exact ⟨i, by omega, by rw [List.getElem?_eq_getElem (by omega), hget]⟩

theorem AdvInv.fwd_abandoned {s : St} (h : AdvInv s) (hs : Seq s) (hsm : s.inflight.length < 2^31) : ∀ c ∈ fwdChunks s, s.abandoned c = true := by
  intro c hc
  obtain ⟨i, hi, hx⟩ := h.fwd_mem hs hsm hc
  exact h.ab i c hi hx

/-- … and by TSN: every in-flight chunk up to the advanced peer ack point is abandoned -/
theorem AdvInv.range {s : St} (h : AdvInv s) (hs : Seq s) (hsm : s.inflight.length < 2^31) {c : Chunk} (hc : c ∈ s.inflight)
    (h2 : sna32LTE c.tsn s.advPeerAck = true) : s.abandoned c = true := by
  obtain ⟨i, hi, hget⟩ := List.getElem_of_mem hc
  have hq : s.inflight[i]? = some c := by rw [List.getElem?_eq_getElem hi, hget]
  apply h.ab i c ?_ hq
  -- in offsets from the cumulative point the chunk sits at `i + 1`, the advanced point at most at the queue's length
  have hle := h.le
  have hoff : (c.tsn - s.cumAck).toNat = i + 1 := by rw [contig_getElem hs.1 hq]; exact Sna.off_succ_add_ofNat _ i (by omega)
  have := (Sna.window32 s.cumAck c.tsn s.advPeerAck (by omega) (by omega)).2.mp h2
  omega

/-- the generic "greatest per key" fold both chunk builders run -/
def upFold {K V : Type} [DecidableEq K] (lt : V → V → Bool) : List (K × V) → List (K × V) → List (K × V)
  | [], m => m
  | (k, v) :: r, m => upFold lt r (upsertMax lt m k v)

def getv {K V : Type} [DecidableEq K] : List (K × V) → K → Option V
  | [], _ => none
  | (k', v') :: r, k => if k' = k then some v' else getv r k

theorem getv_mem {K V : Type} [DecidableEq K] {m : List (K × V)} {k : K} {v : V} (h : getv m k = some v) : (k, v) ∈ m := by
  induction m with
  | nil => cases h
  | cons e r ih =>
    obtain ⟨k', v'⟩ := e
    simp only [getv] at h
    split at h
    · rename_i hk; cases h; subst hk; exact List.mem_cons_self
    · exact List.mem_cons_of_mem _ (ih h)

theorem getv_upsert {K V : Type} [DecidableEq K] (lt : V → V → Bool) (m : List (K × V)) (k : K) (v : V) (k' : K) :
    getv (upsertMax lt m k v) k' =
      if k' = k then some (match getv m k with | none => v | some v' => if lt v' v then v else v') else getv m k' := by
  induction m with
  | nil =>
    simp only [upsertMax, getv]
    by_cases h : k' = k
    · subst h; simp
    · simp [h, Ne.symm h]
  | cons e r ih =>
    obtain ⟨k0, v0⟩ := e
    simp only [upsertMax]
    by_cases h0 : k0 = k
    · subst h0
      simp only [if_true, getv]
      by_cases h : k' = k0
      · subst h; simp
      · simp [h, Ne.symm h]
    · simp only [h0, if_false, getv]
      by_cases h : k' = k
      · subst h; simp only [h0, if_false, ih, if_true]
      · by_cases h1 : k0 = k'
        · simp [h1, h]
        · simp [h1, h, ih]

theorem upsert_mem {K V : Type} [DecidableEq K] (lt : V → V → Bool) (m : List (K × V)) (k : K) (v : V) (e : K × V)
    (h : e ∈ upsertMax lt m k v) : e ∈ m ∨ e = (k, v) := by
  induction m with
  | nil => simp [upsertMax] at h; exact Or.inr h
  | cons e0 r ih =>
    obtain ⟨k0, v0⟩ := e0
    simp only [upsertMax] at h
    split at h
    · rename_i hk
      rcases List.mem_cons.mp h with h1 | h1
      · split at h1
        · right; rw [h1, hk]
        · left; rw [h1]; exact List.mem_cons_self
      · left; exact List.mem_cons_of_mem _ h1
    · rcases List.mem_cons.mp h with h1 | h1
      · left; rw [h1]; exact List.mem_cons_self
      · rcases ih h1 with h2 | h2
        · left; exact List.mem_cons_of_mem _ h2
        · right; exact h2

theorem upsert_keys {K V : Type} [DecidableEq K] (lt : V → V → Bool) (m : List (K × V)) (k : K) (v : V) :
    (∀ k', k' ∈ (upsertMax lt m k v).map (·.1) ↔ k' = k ∨ k' ∈ m.map (·.1)) ∧
    ((m.map (·.1)).Nodup → ((upsertMax lt m k v).map (·.1)).Nodup) := by
  induction m with
  | nil => simp [upsertMax]
  | cons e0 r ih =>
    obtain ⟨k0, v0⟩ := e0
    simp only [upsertMax]
    by_cases h0 : k0 = k
    · subst h0
      simp only [if_true, List.map_cons]
      refine ⟨fun k' => by simp, fun h => h⟩
    · simp only [h0, if_false, List.map_cons]
      refine ⟨fun k' => by simp [ih.1 k']; exact or_left_comm, fun h => ?_⟩
      rw [List.nodup_cons] at h ⊢
      refine ⟨?_, ih.2 h.2⟩
      intro hm
      rcases (ih.1 k0).mp hm with h1 | h1
      · exact h0 h1
      · exact h.1 h1

theorem upFold_mem {K V : Type} [DecidableEq K] (lt : V → V → Bool) (kvs m : List (K × V)) (e : K × V)
    (h : e ∈ upFold lt kvs m) : e ∈ m ∨ e ∈ kvs := by
  induction kvs generalizing m with
  | nil => exact Or.inl h
  | cons kv r ih =>
    obtain ⟨k, v⟩ := kv
    simp only [upFold] at h
    rcases ih _ h with h1 | h1
    · rcases upsert_mem lt m k v e h1 with h2 | h2
      · exact Or.inl h2
      · right; rw [h2]; exact List.mem_cons_self
    · exact Or.inr (List.mem_cons_of_mem _ h1)

theorem upFold_nodup {K V : Type} [DecidableEq K] (lt : V → V → Bool) (kvs m : List (K × V)) (h : (m.map (·.1)).Nodup) :
    ((upFold lt kvs m).map (·.1)).Nodup := by
  induction kvs generalizing m with
  | nil => exact h
  | cons kv r ih =>
    obtain ⟨k, v⟩ := kv
    exact ih _ ((upsert_keys lt m k v).2 h)

/-- `upFold` keeps, per key, a value of greatest rank among those seen, for any `rank` whose strict order `lt` decides
on the values that occur (`W`) -/
theorem upFold_max {K V : Type} [DecidableEq K] (lt : V → V → Bool) (W : K → V → Prop) (rank : K → V → Nat)
    (hlt : ∀ k a b, W k a → W k b → (lt a b = true ↔ rank k a < rank k b))
    (kvs m seen : List (K × V)) (hW : ∀ e ∈ seen ++ kvs, W e.1 e.2) (hWm : ∀ e ∈ m, W e.1 e.2)
    (hdom : ∀ e ∈ seen, ∃ v, getv m e.1 = some v ∧ rank e.1 e.2 ≤ rank e.1 v) :
    ∀ e ∈ seen ++ kvs, ∃ v, getv (upFold lt kvs m) e.1 = some v ∧ rank e.1 e.2 ≤ rank e.1 v := by
  induction kvs generalizing m seen with
  | nil => simpa [upFold] using hdom
  | cons kv r ih =>
    obtain ⟨k, v⟩ := kv
    have hWkv : W k v := hW (k, v) (by simp)
    -- the entry for `k` after the update: `v` or an older value of no smaller rank
    have hk : ∃ v1, getv (upsertMax lt m k v) k = some v1 ∧ W k v1 ∧ rank k v ≤ rank k v1 ∧
        ∀ v0, getv m k = some v0 → rank k v0 ≤ rank k v1 := by
      rw [getv_upsert, if_pos rfl]
      cases hg : getv m k with
      | none => exact ⟨v, rfl, hWkv, Nat.le_refl _, fun _ h => nomatch h⟩
      | some v0 =>
        have hW0 : W k v0 := hWm (k, v0) (getv_mem hg)
        by_cases hl : lt v0 v = true
        · have := (hlt k v0 v hW0 hWkv).mp hl
          exact ⟨v, by simp only [hl, if_true], hWkv, Nat.le_refl _, fun _ h => by cases h; omega⟩
        · have := mt (hlt k v0 v hW0 hWkv).mpr hl
          exact ⟨v0, by simp only [hl]; rfl, hW0, by omega, fun _ h => by cases h; exact Nat.le_refl _⟩
    obtain ⟨v1, g1, w1, r1, r2⟩ := hk
    have := ih (upsertMax lt m k v) (seen ++ [(k, v)]) (by simpa using hW)
      (by
        intro e he
        rcases upsert_mem lt m k v e he with h1 | h1
        · exact hWm e h1
        · rw [h1]; exact hWkv)
      (by
        intro e he
        rcases List.mem_append.mp he with h1 | h1
        · obtain ⟨v0, g0, g2⟩ := hdom e h1
          by_cases hk : e.1 = k
          · rw [hk] at g0 g2 ⊢
            exact ⟨v1, g1, Nat.le_trans g2 (r2 v0 g0)⟩
          · rw [getv_upsert, if_neg hk]; exact ⟨v0, g0, g2⟩
        · cases List.mem_singleton.mp h1
          exact ⟨v1, g1, r1⟩)
    simpa [upFold] using this

/-- the greatest-per-key property in the form the two chunk builders use it: from an empty map, every pair of the
input is dominated (`le`) by the entry of its key -/
theorem upFold_greatest {K V : Type} [DecidableEq K] (lt le : V → V → Bool) (W : K → V → Prop) (rank : K → V → Nat)
    (hlt : ∀ k a b, W k a → W k b → (lt a b = true ↔ rank k a < rank k b))
    (hle : ∀ k a b, W k a → W k b → (le a b = true ↔ rank k a ≤ rank k b))
    (kvs : List (K × V)) (hW : ∀ e ∈ kvs, W e.1 e.2) (e : K × V) (he : e ∈ kvs) :
    ∃ v, (e.1, v) ∈ upFold lt kvs [] ∧ le e.2 v = true := by
  obtain ⟨v, hv1, hv2⟩ := upFold_max lt W rank hlt kvs [] [] (by simpa using hW) (by simp) (by simp) e (by simpa using he)
  have hv := getv_mem hv1
  have hWv : W e.1 v := (upFold_mem lt kvs [] _ hv).elim (fun h => nomatch h) (hW _)
  exact ⟨v, hv, (hle e.1 e.2 v (hW e he) hWv).mpr hv2⟩

theorem fwdStreams_eq (L : List Chunk) (m : List (BitVec 16 × BitVec 16)) :
    fwdStreams L m = upFold sna16LT ((L.filter (fun c => !c.unordered)).map fun c => (c.si, c.ssn)) m := by
  induction L generalizing m with
  | nil => rfl
  | cons c r ih =>
    simp only [fwdStreams]
    by_cases hu : c.unordered = true
    · simp [hu, ih]
    · have hu' : c.unordered = false := by simpa using hu
      simp [hu', ih, upFold]

theorem ifwdStreams_eq (L : List Chunk) (m : List ((BitVec 16 × Bool) × BitVec 32)) :
    ifwdStreams L m = upFold sna32LT (L.map fun c => ((c.si, c.unordered), c.mid)) m := by
  induction L generalizing m with
  | nil => rfl
  | cons c r ih => simp [ifwdStreams, ih, upFold]

/-- **what a gather puts on the wire as FORWARD-TSN**: one goes out exactly when the flag is up and the advanced peer ack
point is ahead of the cumulative point; it carries that point and the lists computed on the state the gather leaves -/
theorem gather_fwd (s : St) (orc : Oracle) (sel : List Nat) (he : s.established = true) :
    ((gather s orc sel).2.fwd.isSome = true ↔
      (s.willSendForwardTSN = true ∧ sna32GT s.advPeerAck s.cumAck = true ∧ (s.cfg.useIForwardTSN = true ∨ s.cfg.prEnabled = true))) ∧
    (∀ f, (gather s orc sel).2.fwd = some f →
      f = (if s.cfg.useIForwardTSN then Fwd.ifwd s.advPeerAck (iForwardTSN (gather s orc sel).1).2
           else Fwd.fwd s.advPeerAck (forwardTSN (gather s orc sel).1).2)) := by
  obtain ⟨e1, e2⟩ := gather_eq s orc sel he
  obtain ⟨_, _, g3, g4, g5, _⟩ := gatherPre_grel s orc sel
  have hcfg : (gatherPre s orc sel).cfg = s.cfg := by
    have := gather_cfg s orc sel
    rw [e1] at this; exact this
  refine ⟨?_, ?_⟩
  · rw [e2, fwdOut_isSome, g3, g4, g5, hcfg]
  · intro f hf
    rw [e2] at hf
    rw [e1]
    have h1 : (iForwardTSN { gatherPre s orc sel with willSendForwardTSN := false }).2 = (iForwardTSN (gatherPre s orc sel)).2 := by
      simp only [iForwardTSN, fwd_flag]
    have h2 : (forwardTSN { gatherPre s orc sel with willSendForwardTSN := false }).2 = (forwardTSN (gatherPre s orc sel)).2 := by
      simp only [forwardTSN, fwd_flag]
    rw [h1, h2]
    unfold fwdOut at hf
    rw [hcfg] at hf
    split at hf
    · split at hf
      · rename_i hi
        rw [if_pos hi]
        simp only [Option.some.injEq] at hf
        rw [← hf]
        simp only [iForwardTSN, g3]
      · rename_i hi
        rw [if_neg hi]
        split at hf
        · simp only [Option.some.injEq] at hf
          rw [← hf]
          simp only [forwardTSN, g3]
        · cases hf
    · cases hf

/-- the stream list of `createForwardTSN` over a chunk list: one entry per stream that has an ORDERED chunk in the list,
each entry is the SSN of such a chunk, and (SSNs of a stream within one half-space window) it is the greatest -/
theorem fwdStreams_spec (L : List Chunk) :
    ((fwdStreams L []).map (·.1)).Nodup ∧
    (∀ e ∈ fwdStreams L [], ∃ c ∈ L, c.unordered = false ∧ c.si = e.1 ∧ c.ssn = e.2) ∧
    (∀ base : BitVec 16 → BitVec 16, (∀ c ∈ L, c.unordered = false → (c.ssn - base c.si).toNat < 2^15) →
      ∀ c ∈ L, c.unordered = false → ∃ ssn, (c.si, ssn) ∈ fwdStreams L [] ∧ sna16LTE c.ssn ssn = true) := by
  rw [fwdStreams_eq]
  refine ⟨upFold_nodup _ _ _ (by simp), ?_, ?_⟩
  · intro e he
    rcases upFold_mem _ _ _ e he with h | h
    · cases h
    · simp only [List.mem_map, List.mem_filter] at h
      obtain ⟨c, ⟨hc1, hc2⟩, hc3⟩ := h
      exact ⟨c, hc1, by simpa using hc2, by rw [← hc3], by rw [← hc3]⟩
  · intro base hwin c hc hu
    have hkv : ∀ e ∈ (L.filter (fun c => !c.unordered)).map (fun c => (c.si, c.ssn)), (e.2 - base e.1).toNat < 2^15 := by
      intro e he
      simp only [List.mem_map, List.mem_filter] at he
      obtain ⟨c', ⟨h1, h2⟩, h3⟩ := he
      rw [← h3]; exact hwin c' h1 (by simpa using h2)
    exact upFold_greatest sna16LT sna16LTE (fun k v => (v - base k).toNat < 2^15) (fun k v => (v - base k).toNat)
      (fun k a b ha hb => (Sna.window16 (base k) a b (Nat.le_of_lt ha) hb).1) (fun k a b ha hb => (Sna.window16 (base k) a b (Nat.le_of_lt ha) hb).2)
      _ hkv (c.si, c.ssn) (List.mem_map.mpr ⟨c, List.mem_filter.mpr ⟨hc, by simp [hu]⟩, rfl⟩)

/-- likewise for `createIForwardTSN`: keys are (stream, unordered flag), values message identifiers -/
theorem ifwdStreams_spec (L : List Chunk) :
    ((ifwdStreams L []).map (·.1)).Nodup ∧
    (∀ e ∈ ifwdStreams L [], ∃ c ∈ L, (c.si, c.unordered) = e.1 ∧ c.mid = e.2) ∧
    (∀ base : BitVec 16 × Bool → BitVec 32, (∀ c ∈ L, (c.mid - base (c.si, c.unordered)).toNat < 2^31) →
      ∀ c ∈ L, ∃ mid, ((c.si, c.unordered), mid) ∈ ifwdStreams L [] ∧ sna32LTE c.mid mid = true) := by
  rw [ifwdStreams_eq]
  refine ⟨upFold_nodup _ _ _ (by simp), ?_, ?_⟩
  · intro e he
    rcases upFold_mem _ _ _ e he with h | h
    · cases h
    · simp only [List.mem_map] at h
      obtain ⟨c, hc1, hc3⟩ := h
      exact ⟨c, hc1, by rw [← hc3], by rw [← hc3]⟩
  · intro base hwin c hc
    have hkv : ∀ e ∈ L.map (fun c => ((c.si, c.unordered), c.mid)), (e.2 - base e.1).toNat < 2^31 := by
      intro e he
      simp only [List.mem_map] at he
      obtain ⟨c', h1, h3⟩ := he
      rw [← h3]; exact hwin c' h1
    exact upFold_greatest sna32LT sna32LTE (fun k v => (v - base k).toNat < 2^31) (fun k v => (v - base k).toNat)
      (fun k a b ha hb => (Sna.window32 (base k) a b (Nat.le_of_lt ha) hb).1) (fun k a b ha hb => (Sna.window32 (base k) a b (Nat.le_of_lt ha) hb).2)
      _ hkv ((c.si, c.unordered), c.mid) (List.mem_map.mpr ⟨c, hc, rfl⟩)

end SenderProofs
