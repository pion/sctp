import SctpVerif.Proofs.Sender.Arith
import SctpVerif.Proofs.Sna
/-! The sender's operations described by their outcomes, free of any invariant: which ways a function can end and which
fields it writes. Proofs about an operation start from these. -/
namespace SenderProofs
open Gen Sender

/-- a property of both branches holds of the conditional (used where `split` would have to abstract a whole state) -/
theorem ite_elim {α : Sort _} (P : α → Prop) (c : Prop) [Decidable c] {a b : α} (ha : P a) (hb : P b) : P (if c then a else b) :=
  iteInduction (fun _ => ha) (fun _ => hb)

/-- lists that agree under `g` agree under every projection that factors through `g` -/
theorem map_of_factor {α β γ : Type} (g : α → β) (p : β → γ) {q q' : List α} (h : q'.map g = q.map g) :
    q'.map (fun x => p (g x)) = q.map (fun x => p (g x)) := by
  have := congrArg (List.map p) h
  rwa [List.map_map, List.map_map] at this

/-! ### pointwise relation of two queues -/

/-- `q'` is `q` with every chunk replaced by an `R`-successor -/
def Pt (R : Chunk → Chunk → Prop) : List Chunk → List Chunk → Prop
  | [], [] => True
  | c :: q, x :: q' => R c x ∧ Pt R q q'
  | _, _ => False

theorem Pt.refl {R : Chunk → Chunk → Prop} (hr : ∀ c, R c c) (q : List Chunk) : Pt R q q := by
  induction q with
  | nil => trivial
  | cons c r ih => exact ⟨hr c, ih⟩

theorem Pt.imp {R R' : Chunk → Chunk → Prop} (hi : ∀ c x, R c x → R' c x) {q q' : List Chunk} (h : Pt R q q') : Pt R' q q' := by
  induction q generalizing q' with
  | nil => cases q' with | nil => trivial | cons _ _ => exact h.elim
  | cons c r ih => cases q' with | nil => exact h.elim | cons c' r' => exact ⟨hi _ _ h.1, ih h.2⟩

theorem Pt.trans {R : Chunk → Chunk → Prop} (ht : ∀ a b c, R a b → R b c → R a c) {q q' q'' : List Chunk}
    (h1 : Pt R q q') (h2 : Pt R q' q'') : Pt R q q'' := by
  induction q generalizing q' q'' with
  | nil => cases q' <;> cases q'' <;> simp_all [Pt]
  | cons c r ih =>
    cases q' with
    | nil => exact h1.elim
    | cons c' r' =>
      cases q'' with
      | nil => exact h2.elim
      | cons c'' r'' => exact ⟨ht _ _ _ h1.1 h2.1, ih h1.2 h2.2⟩

theorem Pt.map {R : Chunk → Chunk → Prop} (f : Chunk → Chunk) (hf : ∀ c, R c (f c)) (q : List Chunk) : Pt R q (q.map f) := by
  induction q with
  | nil => trivial
  | cons c r ih => exact ⟨hf c, ih⟩

theorem Pt.set {R : Chunk → Chunk → Prop} (hr : ∀ c, R c c) {q : List Chunk} {i : Nat} {c c' : Chunk} (hq : q[i]? = some c) (h : R c c') :
    Pt R q (q.set i c') := by
  induction q generalizing i with
  | nil => simp at hq
  | cons x r ih =>
    cases i with
    | zero => simp at hq; subst hq; exact ⟨h, Pt.refl hr r⟩
    | succ n => exact ⟨hr x, ih (by simpa using hq)⟩

theorem Pt.append {R : Chunk → Chunk → Prop} {a a' b b' : List Chunk} (h1 : Pt R a a') (h2 : Pt R b b') : Pt R (a ++ b) (a' ++ b') := by
  induction a generalizing a' with
  | nil => cases a' with | nil => exact h2 | cons _ _ => exact h1.elim
  | cons c r ih => cases a' with | nil => exact h1.elim | cons c' r' => exact ⟨h1.1, ih h1.2⟩

/-- what `R` keeps of a chunk the pointwise relation keeps of the queue -/
theorem Pt.map_eq {R : Chunk → Chunk → Prop} {β : Type} (g : Chunk → β) (hg : ∀ c x, R c x → g x = g c) {q q' : List Chunk} (h : Pt R q q') :
    q'.map g = q.map g := by
  induction q generalizing q' with
  | nil => cases q' with | nil => rfl | cons _ _ => exact h.elim
  | cons c r ih => cases q' with | nil => exact h.elim | cons c' r' => simp [hg _ _ h.1, ih h.2]

theorem Pt.length {R : Chunk → Chunk → Prop} {q q' : List Chunk} (h : Pt R q q') : q'.length = q.length := by
  simpa using congrArg List.length (Pt.map_eq (fun _ => ()) (fun _ _ _ => rfl) h)

theorem Pt.mem {R : Chunk → Chunk → Prop} {q q' : List Chunk} (h : Pt R q q') {x : Chunk} (hx : x ∈ q') : ∃ c ∈ q, R c x := by
  induction q generalizing q' with
  | nil => cases q' with | nil => cases hx | cons _ _ => exact h.elim
  | cons c r ih =>
    cases q' with
    | nil => cases hx
    | cons c' r' =>
      rcases List.mem_cons.1 hx with e | e
      · exact ⟨c, List.mem_cons_self, e ▸ h.1⟩
      · obtain ⟨y, hy, hr⟩ := ih h.2 e
        exact ⟨y, List.mem_cons_of_mem _ hy, hr⟩

theorem Pt.get {R : Chunk → Chunk → Prop} {q q' : List Chunk} (h : Pt R q q') {i : Nat} {x : Chunk} (hx : q'[i]? = some x) :
    ∃ c, q[i]? = some c ∧ R c x := by
  induction q generalizing q' i with
  | nil => cases q' with | nil => simp at hx | cons _ _ => exact h.elim
  | cons c r ih =>
    cases q' with
    | nil => simp at hx
    | cons c' r' =>
      cases i with
      | zero => simp at hx; exact ⟨c, by simp, hx ▸ h.1⟩
      | succ n => simpa using ih h.2 (by simpa using hx)

/-- `payloadQueue.get` finds corresponding chunks at the same offset -/
theorem Pt.sget {R : Chunk → Chunk → Prop} (hr : ∀ c x, R c x → x.tsn = c.tsn) {q q' : List Chunk} (h : Pt R q q') {tsn : BitVec 32}
    {off : Nat} {x : Chunk} (hg : Sender.get q' tsn = some (off, x)) : ∃ c, Sender.get q tsn = some (off, c) ∧ R c x := by
  cases q with
  | nil => cases q' with | nil => cases hg | cons _ _ => exact h.elim
  | cons f r =>
    cases q' with
    | nil => exact h.elim
    | cons f' r' =>
      have hl : (f' :: r').length = (f :: r).length := h.length
      simp only [Sender.get, hr _ _ h.1, hl] at hg ⊢
      split at hg
      · cases hg
      · rename_i hlt
        simp only [Option.map_eq_some_iff, Prod.mk.injEq] at hg
        obtain ⟨a, h1, h2, h3⟩ := hg
        subst h3
        obtain ⟨c, hc, e⟩ := h.get h1
        rw [if_neg hlt, hc]
        exact ⟨c, by simp [h2], e⟩

/-- the head of the later queue is the successor of the head of the earlier one -/
theorem Pt.head {R : Chunk → Chunk → Prop} {c : Chunk} {q q' : List Chunk} (h : Pt R (c :: q) q') : ∃ x r, q' = x :: r ∧ R c x := by
  cases q' with
  | nil => exact h.elim
  | cons x r => exact ⟨x, r, rfl, h.1⟩

/-- rewriting chunks by `f`, or one chunk in place, changes nothing that the projection `g` does not see -/
theorem map_flags_eq {β : Type} (g : Chunk → β) (q : List Chunk) (f : Chunk → Chunk) (hf : ∀ c, g (f c) = g c) :
    (q.map f).map g = q.map g :=
  Pt.map_eq g (fun _ _ e => e) (Pt.map (R := fun c x => g x = g c) f hf q)

theorem list_set_map {β : Type} (g : Chunk → β) (q : List Chunk) (off : Nat) (c c' : Chunk) (hq : q[off]? = some c) (hc : g c' = g c) :
    (q.set off c').map g = q.map g :=
  Pt.map_eq g (fun _ _ e => e) (Pt.set (R := fun c x => g x = g c) (fun _ => rfl) hq hc)

theorem mem_eraseIdx {l : List Chunk} {i : Nat} {x : Chunk} (h : x ∈ l.eraseIdx i) : x ∈ l :=
  List.mem_of_mem_eraseIdx h

theorem mem_set_cases {l : List Chunk} {i : Nat} {c' x : Chunk} (h : x ∈ l.set i c') : x = c' ∨ x ∈ l := by
  rcases List.mem_or_eq_of_mem_set h with h | h
  · exact Or.inr h
  · exact Or.inl h

/-! ### packetize -/

theorem mkChunks_length (si : BitVec 16) (msg : Nat) (ppi : BitVec 32) (u : Bool) (ssn : BitVec 16) (mid : BitVec 32)
    (fs : List Nat) (fsn : BitVec 32) (first : Bool) : (mkChunks si msg ppi u ssn mid fs fsn first).length = fs.length := by
  induction fs generalizing fsn first with
  | nil => rfl
  | cons f r ih => simp only [mkChunks, List.length_cons, ih]

/-- the `i`-th chunk `packetize` makes of a message: the `i`-th fragment size, FSN `fsn + i`, B on the first and E on the
last, everything else that of the message -/
theorem mkChunks_getElem (si : BitVec 16) (msg : Nat) (ppi : BitVec 32) (u : Bool) (ssn : BitVec 16) (mid : BitVec 32)
    (fs : List Nat) (fsn : BitVec 32) (first : Bool) (i : Nat) (hi : i < fs.length) :
    (mkChunks si msg ppi u ssn mid fs fsn first)[i]? =
      some { si := si, len := fs[i], msg := msg, ppi := ppi, unordered := u, bfrag := (first && i == 0), efrag := (i + 1 == fs.length),
             ssn := ssn, mid := mid, fsn := fsn + BitVec.ofNat 32 i } := by
  induction fs generalizing fsn first i with
  | nil => simp at hi
  | cons f r ih =>
    cases i with
    | zero =>
      simp only [mkChunks, List.getElem?_cons_zero, List.getElem_cons_zero, List.length_cons]
      congr 2
      · simp
      · cases r <;> simp
      · simp
    | succ j =>
      simp only [mkChunks, List.getElem?_cons_succ, List.getElem_cons_succ, List.length_cons]
      rw [ih (fsn + 1) false j (by simpa using hi)]
      congr 2
      · simp
      · simp
      · rw [BitVec.add_assoc]; congr 1
        apply BitVec.eq_of_toNat_eq; simp [BitVec.toNat_add, BitVec.toNat_ofNat]; omega

theorem mkChunks_mem {si : BitVec 16} {msg : Nat} {ppi : BitVec 32} {u : Bool} {ssn : BitVec 16} {mid : BitVec 32}
    {fs : List Nat} {fsn : BitVec 32} {first : Bool} {c : Chunk} (hc : c ∈ mkChunks si msg ppi u ssn mid fs fsn first) :
    ∃ i, ∃ hi : i < fs.length,
      c = { si := si, len := fs[i], msg := msg, ppi := ppi, unordered := u, bfrag := (first && i == 0), efrag := (i + 1 == fs.length),
            ssn := ssn, mid := mid, fsn := fsn + BitVec.ofNat 32 i } := by
  obtain ⟨i, hi⟩ := List.getElem?_of_mem hc
  have hl : i < fs.length := mkChunks_length si msg ppi u ssn mid fs fsn first ▸ (List.getElem?_eq_some_iff.mp hi).1
  rw [mkChunks_getElem _ _ _ _ _ _ _ _ _ i hl] at hi
  exact ⟨i, hl, (Option.some.inj hi).symm⟩

/-! ### write -/

/-- `rollback` undoes `packetize` on the stream: buffered amount, SSN, both MID counters -/
theorem rollback_packetize (cfg : Cfg) (st : Stream) (si : BitVec 16) (msg : Nat) (ppi : BitVec 32) (len : Nat) :
    rollback cfg (packetize cfg st si msg ppi len).st (packetize cfg st si msg ppi len).unordered len = st := by
  obtain ⟨reg, un, rt, rv, buf, th, hcb, cb, ssn, om, um⟩ := st
  simp only [packetize, rollback]
  cases hil : cfg.useInterleaving <;> cases hd : (ppi != BitVec.ofNat 32 PayloadTypeWebRTCDCEP) <;> cases un <;>
    simp [BitVec.add_sub_cancel]

/-- the chunks an accepted `write` appends to the pending queue (none when the call is rejected or fails) -/
def writeChunks (s : St) (si : BitVec 16) (ppi : BitVec 32) (len : Nat) : List Chunk :=
  match s.streams si with
  | none => []
  | some st =>
    if len > s.cfg.maxMessageSize.toNat then []
    else if len = 0 then []
    else if s.cfg.maxPayload = 0 then []
    else if s.established then (packetize s.cfg st si s.nextMsg ppi len).chunks else []

/-- `WriteSCTP` in three cases: refused before `packetize` (no stream object, message too large or empty,
`maxPayload = 0`); accepted: stream counters and message identity advance and the chunks are queued; outside the
established state: the stream is rolled back, only the message identity and the wrap flag have moved -/
theorem write_eq (s : St) (si : BitVec 16) (ppi : BitVec 32) (len : Nat) :
    ((write s si ppi len).1 = s ∧ writeChunks s si ppi len = []) ∨
    ∃ st, s.streams si = some st ∧ len ≤ s.cfg.maxMessageSize.toNat ∧ len ≠ 0 ∧ s.cfg.maxPayload ≠ 0 ∧
      ((s.established = true ∧ writeChunks s si ppi len = (packetize s.cfg st si s.nextMsg ppi len).chunks ∧
        (write s si ppi len).1 = pushPending { setStream s si (packetize s.cfg st si s.nextMsg ppi len).st with
          nextMsg := s.nextMsg + 1, wrapBuf := s.wrapBuf || (packetize s.cfg st si s.nextMsg ppi len).wrap }
          (packetize s.cfg st si s.nextMsg ppi len).chunks) ∨
       (s.established = false ∧ writeChunks s si ppi len = [] ∧
        (write s si ppi len).1 =
          { s with nextMsg := s.nextMsg + 1, wrapBuf := s.wrapBuf || (packetize s.cfg st si s.nextMsg ppi len).wrap })) := by
  unfold write writeChunks
  cases hs : s.streams si with
  | none => exact Or.inl ⟨rfl, rfl⟩
  | some st =>
    simp only
    split
    · exact Or.inl ⟨rfl, rfl⟩
    · split
      · exact Or.inl ⟨rfl, rfl⟩
      · split
        · exact Or.inl ⟨rfl, rfl⟩
        · rename_i h1 h2 h3
          refine Or.inr ⟨st, rfl, by omega, h2, h3, ?_⟩
          cases he : s.established with
          | true => exact Or.inl ⟨rfl, rfl, rfl⟩
          | false =>
            refine Or.inr ⟨rfl, rfl, ?_⟩
            have hstr : (fun k => if k = si then some st else if k = si then some (packetize s.cfg st si s.nextMsg ppi len).st else s.streams k) =
                s.streams := by
              funext k
              by_cases hk : k = si
              · rw [if_pos hk, hk, hs]
              · rw [if_neg hk, if_neg hk]
            simp only [Bool.false_eq_true, if_false, rollback_packetize, setStream, hstr]
            rw [he]

/-- `write` touches the stream table, the pending queue with its counters, the message counter and a ghost flag -/
theorem write_only (s : St) (si : BitVec 16) (ppi : BitVec 32) (len : Nat) : ∃ str pen pb pc nm wb,
    (write s si ppi len).1 = { s with streams := str, pending := pen, penBytes := pb, penChunks := pc, nextMsg := nm, wrapBuf := wb } := by
  rcases write_eq s si ppi len with ⟨h, _⟩ | ⟨st, _, _, _, _, ⟨_, _, h⟩ | ⟨_, _, h⟩⟩ <;> rw [h] <;> exact ⟨_, _, _, _, _, _, rfl⟩

/-! ### partial reliability -/

/-- `checkPartialReliabilityStatus` leaves the set alone or adds the chunk's message -/
theorem checkPR_cases (s : St) (aband : List Nat) (c : Chunk) : checkPR s aband c = aband ∨ checkPR s aband c = c.msg :: aband := by
  let P : List Nat → Prop := fun r => r = aband ∨ r = c.msg :: aband
  have keep : P aband := .inl rfl
  have add : ∀ p [Decidable p], P (if p then c.msg :: aband else aband) := fun p _ => ite_elim P p (.inr rfl) keep
  unfold checkPR
  refine ite_elim P _ keep (ite_elim P _ keep ?_)
  cases s.streams c.si with
  | none => exact keep
  | some st => exact ite_elim P _ keep (ite_elim P _ (add _) (ite_elim P _ (add _) keep))

theorem checkPR_sub (s : St) (aband : List Nat) (c : Chunk) : ∀ m ∈ aband, m ∈ checkPR s aband c := by
  intro m hm
  rcases checkPR_cases s aband c with h | h <;> rw [h]
  · exact hm
  · exact List.mem_cons_of_mem _ hm

/-- the fields `checkPartialReliabilityStatus` reads, and the message counter -/
def PolEq (s s' : St) : Prop := s'.cfg = s.cfg ∧ s'.streams = s.streams ∧ s'.now = s.now ∧ s'.nextMsg = s.nextMsg

theorem PolEq.refl (s : St) : PolEq s s := ⟨rfl, rfl, rfl, rfl⟩
theorem PolEq.trans {a b c : St} (h1 : PolEq a b) (h2 : PolEq b c) : PolEq a c :=
  ⟨h2.1.trans h1.1, h2.2.1.trans h1.2.1, h2.2.2.1.trans h1.2.2.1, h2.2.2.2.trans h1.2.2.2⟩

theorem checkPR_congr {s s' : St} (h : PolEq s s') (aband : List Nat) (c : Chunk) : checkPR s' aband c = checkPR s aband c := by
  unfold checkPR
  rw [h.1, h.2.1, h.2.2.1]

/-! ### the advanced peer ack point -/

theorem advLoop_only (fuel : Nat) (s : St) : ∃ a, advLoop fuel s = { s with advPeerAck := a } := by
  induction fuel generalizing s with
  | zero => exact ⟨s.advPeerAck, rfl⟩
  | succ fuel ih =>
    simp only [advLoop]
    cases hg : Sender.get s.inflight (s.advPeerAck + 1) with
    | none => exact ⟨s.advPeerAck, rfl⟩
    | some oc =>
      simp only
      split
      · exact ⟨s.advPeerAck, rfl⟩
      · obtain ⟨a, ha⟩ := ih { s with advPeerAck := s.advPeerAck + 1 }
        exact ⟨a, by rw [ha]⟩

/-- RFC 3758 C2 moves the advanced peer ack point and may ask for a FORWARD-TSN; nothing else -/
theorem advancePeerAck_only (y : St) : ∃ a b, advancePeerAck y = { y with advPeerAck := a, willSendForwardTSN := b } := by
  unfold advancePeerAck
  obtain ⟨a, ha⟩ := advLoop_only (y.inflight.length + 1) y
  simp only [ha]
  split
  · exact ⟨a, true, rfl⟩
  · exact ⟨a, y.willSendForwardTSN, rfl⟩

/-- the partial-reliability step of `finishAcknowledgement` writes the advanced peer ack point and the FORWARD-TSN flag only -/
theorem prStep_only (x : St) : ∃ a b, prStep x = { x with advPeerAck := a, willSendForwardTSN := b } := by
  unfold prStep
  refine ite_elim (fun y : St => ∃ a b, y = { x with advPeerAck := a, willSendForwardTSN := b }) _ ?_ ⟨_, _, rfl⟩
  obtain ⟨a, b, h⟩ := advancePeerAck_only (if sna32LT x.advPeerAck x.cumAck then { x with advPeerAck := x.cumAck } else x)
  rw [h]
  exact ite_elim (fun y : St => ∃ a' b', ({ y with advPeerAck := a, willSendForwardTSN := b } : St) =
    { x with advPeerAck := a', willSendForwardTSN := b' }) _ ⟨_, _, rfl⟩ ⟨_, _, rfl⟩

/-! ### SACK -/

/-- no serial order either way means equal -/
theorem sna32_eq_of_not (a b : BitVec 32) (h1 : sna32LT a b = false) (h2 : sna32GT a b = false) : a = b := by
  rw [Bool.eq_false_iff, ne_eq, Sna.lt32_iff] at h1
  rw [Bool.eq_false_iff, ne_eq, Sna.gt32_iff] at h2
  bv_omega

/-- the cumulative-ack loop as a proof rule: it pops chunks off the front, one at a time -/
theorem popCum_rule (exitPt : BitVec 32) (P : List Chunk → CumAcc → Prop)
    (hpop : ∀ c r a, P (c :: r) a →
      P r { infBytes := a.infBytes - (c.len : Int), rel := if !c.acked then addRel a.rel c.si (c.len : Int) else a.rel,
            inFR := if a.inFR && c.tsn == exitPt then false else a.inFR })
    (q : List Chunk) (idx cum : BitVec 32) (a : CumAcc) {q' : List Chunk} {a' : CumAcc} (h0 : P q a)
    (h : popCum exitPt q idx cum a = some (q', a')) : P q' a' := by
  induction q generalizing idx a with
  | nil =>
    rw [popCum] at h
    split at h
    · cases h
    · cases h; exact h0
  | cons c r ih =>
    rw [popCum] at h
    split at h
    · split at h
      · exact ih _ _ (hpop c r a h0) h
      · cases h
    · cases h; exact h0

/-- the cumulative-ack loop pops a prefix of the queue -/
theorem popCum_drop (exitPt : BitVec 32) (q : List Chunk) (idx cum : BitVec 32) (a : CumAcc) {q' : List Chunk} {a' : CumAcc}
    (h : popCum exitPt q idx cum a = some (q', a')) : ∃ k, k ≤ q.length ∧ q' = q.drop k :=
  popCum_rule exitPt (fun x _ => ∃ k, k ≤ q.length ∧ x = q.drop k)
    (fun c r _ ⟨k, hk, e⟩ => ⟨k + 1, by
      have : (q.drop k).length = r.length + 1 := by rw [← e]; rfl
      rw [List.length_drop] at this; omega, by rw [← List.drop_drop, ← e]; rfl⟩)
    q idx cum a ⟨0, Nat.zero_le _, rfl⟩ h

theorem popCum_sub (exitPt : BitVec 32) (q : List Chunk) (idx cum : BitVec 32) (a : CumAcc) {q' : List Chunk} {a' : CumAcc}
    (h : popCum exitPt q idx cum a = some (q', a')) : ∀ x ∈ q', x ∈ q := by
  obtain ⟨k, _, e⟩ := popCum_drop _ _ _ _ _ h
  exact fun x hx => List.mem_of_mem_drop (e ▸ hx)

/-- `onCumulativeTSNAckPointAdvanced` writes the congestion window, the partial-bytes counter and a ghost flag -/
theorem onCumAdvanced_only (s : St) (total : Int) :
    ∃ cw pba ww, onCumAdvanced s total = { s with cwnd := cw, partialBytesAcked := pba, wrapWin := ww } := by
  let P : St → Prop := fun x => ∃ cw pba ww, x = { s with cwnd := cw, partialBytesAcked := pba, wrapWin := ww }
  unfold onCumAdvanced
  exact ite_elim P _ (ite_elim P _ ⟨_, _, _, rfl⟩ ⟨_, _, _, rfl⟩) (ite_elim P _ ⟨_, _, _, rfl⟩ ⟨_, _, _, rfl⟩)

/-- the per-stream releases write stream objects and the clamp ghost only -/
theorem releaseAll_only (rel : Rel) (s : St) : ∃ str cl, releaseAll rel s = { s with streams := str, clamped := cl } := by
  induction rel generalizing s with
  | nil => exact ⟨_, _, rfl⟩
  | cons e r ih =>
    obtain ⟨si, n⟩ := e
    rw [releaseAll]
    cases s.streams si with
    | none => exact ih s
    | some st =>
      refine ite_elim (fun x : St => ∃ str cl, x = { s with streams := str, clamped := cl }) _ ?_ (ih s)
      obtain ⟨str, cl, h⟩ := ih { setStream s si (release st n).1 with clamped := s.clamped || (release st n).2 }
      exact ⟨str, cl, h⟩

/-- one iteration of the gap-ack inner loop: the chunk it finds was acked already and only `htna` may move, or it is marked
acked in place and its bytes are taken off the counter and booked for its stream -/
theorem markOne_cases {a : GapAcc} {tsn : BitVec 32} {a' : GapAcc} (h : markOne a tsn = some a') :
    ∃ off c, Sender.get a.q tsn = some (off, c) ∧ a'.htna = (if sna32LT a.htna tsn then tsn else a.htna) ∧
      ((c.acked = true ∧ a'.q = a.q ∧ a'.infBytes = a.infBytes ∧ a'.rel = a.rel) ∨
       (c.acked = false ∧ a'.q = a.q.set off c.markAcked ∧ a'.infBytes = a.infBytes - (c.len : Int) ∧
        a'.rel = addRel a.rel c.si (c.len : Int))) := by
  unfold markOne at h
  cases hg : Sender.get a.q tsn with
  | none => rw [hg] at h; cases h
  | some oc =>
    obtain ⟨off, c⟩ := oc
    rw [hg] at h
    cases hc : c.acked <;> simp only [hc, Bool.not_true, Bool.not_false, Bool.false_eq_true, if_true, if_false, Option.some.injEq] at h <;>
      subst h
    · exact ⟨off, c, rfl, rfl, .inr ⟨hc, rfl, rfl, rfl⟩⟩
    · exact ⟨off, c, rfl, rfl, .inl ⟨hc, rfl, rfl, rfl⟩⟩

/-- what every iteration of the gap-ack inner loop preserves, the whole gap-ack pass preserves -/
theorem markGaps_inv (P : GapAcc → Prop) (hone : ∀ a tsn a', P a → markOne a tsn = some a' → P a') (cum : BitVec 32)
    (gaps : List (BitVec 16 × BitVec 16)) (a : GapAcc) {a' : GapAcc} (ha : P a) (h : markGaps cum gaps a = some a') : P a' := by
  have hrange : ∀ (is : List Nat) (a : GapAcc) {a' : GapAcc}, P a → markRange cum is a = some a' → P a' := by
    intro is
    induction is with
    | nil => intro a a' ha h; cases h; exact ha
    | cons i r ih =>
      intro a a' ha h
      rw [markRange] at h
      cases h1 : markOne a (cum + BitVec.ofNat 32 i) with
      | none => rw [h1] at h; cases h
      | some a1 => rw [h1] at h; exact ih a1 (hone _ _ _ ha h1) h
  induction gaps generalizing a with
  | nil => cases h; exact ha
  | cons g r ih =>
    rw [markGaps] at h
    cases h1 : markRange cum (List.range' g.1.toNat (g.2.toNat + 1 - g.1.toNat)) a with
    | none => rw [h1] at h; cases h
    | some a1 => rw [h1] at h; exact ih a1 (hrange _ a ha h1) h

/-- a successful `ackPhase` is `ackApply` on what the two loops returned -/
theorem ackPhase_eq {s : St} {cum : BitVec 32} {gaps : List (BitVec 16 × BitVec 16)} {r : St × BitVec 32 × Bool}
    (h : ackPhase s cum gaps = some r) :
    ∃ q a g, popCum s.fastRecoverExitPoint s.inflight (s.cumAck + 1) cum { infBytes := s.infBytes, rel := [], inFR := s.inFastRecovery } = some (q, a) ∧
      markGaps cum gaps { q := q, infBytes := a.infBytes, rel := a.rel, htna := cum } = some g ∧
      r = (ackApply s cum g a.inFR, g.htna, sna32LT s.cumAck cum) := by
  unfold ackPhase at h
  split at h
  · cases h
  · rename_i qa hp
    split at h
    · cases h
    · rename_i g hg
      exact ⟨qa.1, qa.2, g, hp, hg, (Option.some.inj h).symm⟩

/-- the end of `processAcknowledgement` installs what the two loops returned and writes the cumulative point, the congestion
window with its partial-bytes counter, the stream objects and two ghost flags; nothing else -/
theorem ackApply_only (s : St) (cum : BitVec 32) (g : GapAcc) (inFR : Bool) : ∃ ca cw pba ww str cl,
    ackApply s cum g inFR =
      { s with inflight := g.q, infBytes := g.infBytes, inFastRecovery := inFR, cumAck := ca, cwnd := cw,
               partialBytesAcked := pba, wrapWin := ww, streams := str, clamped := cl } := by
  let Q (x : St) : Prop := ∃ ca cw pba ww,
    x = { s with inflight := g.q, infBytes := g.infBytes, inFastRecovery := inFR, cumAck := ca, cwnd := cw,
                 partialBytesAcked := pba, wrapWin := ww }
  have key : ∀ x : St, Q x → ∃ ca cw pba ww str cl, releaseAll g.rel x =
      { s with inflight := g.q, infBytes := g.infBytes, inFastRecovery := inFR, cumAck := ca, cwnd := cw,
               partialBytesAcked := pba, wrapWin := ww, streams := str, clamped := cl } := by
    rintro x ⟨ca, cw, pba, ww, rfl⟩
    obtain ⟨str, cl, h⟩ := releaseAll_only g.rel
      { s with inflight := g.q, infBytes := g.infBytes, inFastRecovery := inFR, cumAck := ca, cwnd := cw,
               partialBytesAcked := pba, wrapWin := ww }
    exact ⟨ca, cw, pba, ww, str, cl, h⟩
  unfold ackApply
  apply key
  refine ite_elim Q _ ?_ ⟨s.cumAck, s.cwnd, s.partialBytesAcked, s.wrapWin, rfl⟩
  obtain ⟨cw, pba, ww, h⟩ := onCumAdvanced_only { s with inflight := g.q, infBytes := g.infBytes, inFastRecovery := inFR, cumAck := cum }
    (relTotal g.rel)
  exact ⟨cum, cw, pba, ww, h⟩

theorem ackPhase_only {s : St} {cum : BitVec 32} {gaps : List (BitVec 16 × BitVec 16)} {r : St × BitVec 32 × Bool}
    (h : ackPhase s cum gaps = some r) : ∃ q ib fr ca cw pba ww str cl,
    r.1 = { s with inflight := q, infBytes := ib, inFastRecovery := fr, cumAck := ca, cwnd := cw, partialBytesAcked := pba,
                   wrapWin := ww, streams := str, clamped := cl } := by
  obtain ⟨_, a, g, _, _, rfl⟩ := ackPhase_eq h
  obtain ⟨ca, cw, pba, ww, str, cl, e⟩ := ackApply_only s cum g a.inFR
  exact ⟨_, _, _, ca, cw, pba, ww, str, cl, e⟩

/-- the three ways `handleSack` ends: untouched state, the late error return of `processFastRetransmission`, the whole pipeline -/
theorem sack_shape (s : St) (cum arwnd : BitVec 32) (gaps : List (BitVec 16 × BitVec 16)) (marks : List (BitVec 32)) :
    (sack s cum arwnd gaps marks).1 = s ∨ ∃ r, ackPhase s cum gaps = some r ∧ sna32GT s.cumAck cum = false ∧ validate s cum gaps = true ∧
      ((sack s cum arwnd gaps marks).1 = (fastRetransCheck (setPeerWindow r.1 arwnd) cum gaps r.2.1 r.2.2).1 ∨
       (sack s cum arwnd gaps marks).1 = applyMarks (prStep (fastRetransCheck (setPeerWindow r.1 arwnd) cum gaps r.2.1 r.2.2).1) marks) := by
  let P : St × SackRes → Prop := fun o => o.1 = s ∨ ∃ r, ackPhase s cum gaps = some r ∧ sna32GT s.cumAck cum = false ∧
      validate s cum gaps = true ∧ (o.1 = (fastRetransCheck (setPeerWindow r.1 arwnd) cum gaps r.2.1 r.2.2).1 ∨
       o.1 = applyMarks (prStep (fastRetransCheck (setPeerWindow r.1 arwnd) cum gaps r.2.1 r.2.2).1) marks)
  have hs : ∀ e, P (s, e) := fun _ => .inl rfl
  unfold sack
  refine ite_elim P _ (hs _) ?_
  by_cases hst : sna32GT s.cumAck cum = true
  · rw [if_pos hst]; exact hs _
  rw [if_neg hst]
  by_cases hv : validate s cum gaps = true
  · rw [if_neg (by simp [hv])]
    cases hr : ackPhase s cum gaps with
    | none => exact hs _
    | some r =>
      exact ite_elim P _ (.inr ⟨r, hr, by simpa using hst, hv, .inl rfl⟩) (.inr ⟨r, hr, by simpa using hst, hv, .inr rfl⟩)
  · rw [if_pos (by simpa using hv)]; exact hs _

/-- `handleSack` when nothing stops it -/
theorem sack_ok_eq {s : St} {cum arwnd : BitVec 32} {gaps : List (BitVec 16 × BitVec 16)} (marks : List (BitVec 32)) {r : St × BitVec 32 × Bool}
    (he : s.established = true) (hst : sna32GT s.cumAck cum = false) (hv : validate s cum gaps = true) (hr : ackPhase s cum gaps = some r)
    (hf : (fastRetransCheck (setPeerWindow r.1 arwnd) cum gaps r.2.1 r.2.2).2 = true) :
    sack s cum arwnd gaps marks = (applyMarks (prStep (fastRetransCheck (setPeerWindow r.1 arwnd) cum gaps r.2.1 r.2.2).1) marks, .ok) := by
  unfold sack
  simp only [he, hst, hv, hr, hf, Bool.not_true, Bool.false_eq_true, if_false]

/-- `handleSack` when one of its three guards stops it -/
theorem sack_refused {s : St} {cum : BitVec 32} {gaps : List (BitVec 16 × BitVec 16)} (arwnd : BitVec 32) (marks : List (BitVec 32))
    (h : s.established = false ∨ sna32GT s.cumAck cum = true ∨ validate s cum gaps = false) :
    (sack s cum arwnd gaps marks).1 = s ∧ (sack s cum arwnd gaps marks).2 ≠ .ok ∧ (sack s cum arwnd gaps marks).2 ≠ .failedLate := by
  unfold sack
  by_cases he : s.established = true
  · rw [if_neg (by simp [he])]
    by_cases hst : sna32GT s.cumAck cum = true
    · rw [if_pos hst]; exact ⟨rfl, nofun, nofun⟩
    · rw [if_neg hst, if_pos (by rcases h with h | h | h <;> simp_all)]; exact ⟨rfl, nofun, nofun⟩
  · rw [if_pos (by simpa using he)]; exact ⟨rfl, nofun, nofun⟩

/-- what the validation at the head of `processSelectiveAck` checks of one gap-ack block -/
theorem validate_gap {s : St} {cum : BitVec 32} {gaps : List (BitVec 16 × BitVec 16)} (hv : validate s cum gaps = true)
    {st en : BitVec 16} (hm : (st, en) ∈ gaps) :
    st ≠ 0 ∧ st ≤ en ∧ (Sender.get s.inflight (cum + BitVec.setWidth 32 st)).isSome = true ∧
    (Sender.get s.inflight (cum + BitVec.setWidth 32 en)).isSome = true := by
  simp only [validate, Bool.and_eq_true, List.all_eq_true] at hv
  have := hv.2 _ hm
  simp only [bne_iff_ne, ne_eq, decide_eq_true_eq] at this
  obtain ⟨⟨⟨g1, g2⟩, g3⟩, g4⟩ := this
  refine ⟨g1, g2, g3, ?_⟩
  by_cases he : cum + BitVec.setWidth 32 en = cum + BitVec.setWidth 32 st
  · rw [he]; exact g3
  · simpa [he] using g4

/-! ### loss marking, T3 -/

theorem get_some {q : List Chunk} {tsn : BitVec 32} {off : Nat} {c : Chunk} (h : Sender.get q tsn = some (off, c)) : q[off]? = some c := by
  cases q with
  | nil => simp [Sender.get] at h
  | cons f r =>
    simp [Sender.get] at h
    obtain ⟨_, h1, h2⟩ := h
    rw [← h2]; exact h1

/-- the miss-indication pass as a proof rule: it raises the miss indicator of un-acknowledged chunks, and outside fast
recovery the third indication enters it -/
theorem missLoop_rule {P : St → Prop} (htna : BitVec 32)
    (hmiss : ∀ s off c, P s → s.inflight[off]? = some c → c.acked = false →
      P { s with inflight := s.inflight.set off { c with missIndicator := c.missIndicator + 1 } })
    (henter : ∀ s, P s → s.inFastRecovery = false →
      P { s with inFastRecovery := true, fastRecoverExitPoint := htna, ssthresh := fastRecovery_ssthresh s.cwnd s.cfg.mtu,
                 cwnd := setCwnd s (fastRecovery_cwndArg (fastRecovery_ssthresh s.cwnd s.cfg.mtu)), partialBytesAcked := 0,
                 willRetransmitFast := true })
    (fuel : Nat) (s : St) (tsn maxTSN : BitVec 32) (h : P s) : P (missLoop htna fuel s tsn maxTSN).1 := by
  induction fuel generalizing s tsn with
  | zero => exact h
  | succ fuel ih =>
    simp only [missLoop]
    split
    · cases hg : Sender.get s.inflight tsn with
      | none => exact h
      | some oc =>
        obtain ⟨off, c⟩ := oc
        simp only
        split
        · rename_i hc
          simp only [Bool.and_eq_true, Bool.not_eq_true'] at hc
          have h1 := hmiss s off c h (get_some hg) hc.1.1
          split
          · rename_i hent
            simp only [Bool.and_eq_true, Bool.not_eq_true'] at hent
            exact ih _ _ (henter _ h1 hent.2)
          · exact ih _ _ h1
        · exact ih s _ h
    · exact h

/-- `processFastRetransmission` as a proof rule: the miss-indication pass, then possibly the fast-retransmit flag -/
theorem fastRetransCheck_rule {P : St → Prop} (htna : BitVec 32)
    (hmiss : ∀ s off c, P s → s.inflight[off]? = some c → c.acked = false →
      P { s with inflight := s.inflight.set off { c with missIndicator := c.missIndicator + 1 } })
    (henter : ∀ s, P s → s.inFastRecovery = false →
      P { s with inFastRecovery := true, fastRecoverExitPoint := htna, ssthresh := fastRecovery_ssthresh s.cwnd s.cfg.mtu,
                 cwnd := setCwnd s (fastRecovery_cwndArg (fastRecovery_ssthresh s.cwnd s.cfg.mtu)), partialBytesAcked := 0,
                 willRetransmitFast := true })
    (hflag : ∀ s, P s → P { s with willRetransmitFast := true })
    (s : St) (cum : BitVec 32) (gaps : List (BitVec 16 × BitVec 16)) (adv : Bool) (h : P s) :
    P (fastRetransCheck s cum gaps htna adv).1 := by
  have h1 : P (frLoop s cum gaps htna adv).1 := by
    unfold frLoop
    split
    · exact missLoop_rule htna hmiss henter _ _ _ _ h
    · exact h
  unfold fastRetransCheck frPost
  split
  · exact h1
  · split
    · exact hflag _ h1
    · exact h1

/-- a T3 expiry: congestion response, fast recovery left, RFC 3758 C2, then every un-acked, un-abandoned chunk is marked -/
theorem t3_shape (s : St) : ∃ (x : St) (a : BitVec 32) (w fr wf : Bool) (ep pba : BitVec 32),
    t3 s = { x with inflight := markAllToRetransmit x } ∧
    x = { s with ssthresh := t3_ssthresh s.cwnd s.cfg.mtu, cwnd := setCwnd s (t3_cwndArg s.cfg.mtu), inFastRecovery := fr,
                 willRetransmitFast := wf, fastRecoverExitPoint := ep, partialBytesAcked := pba, advPeerAck := a,
                 willSendForwardTSN := w } := by
  have key : ∀ y : St, ∃ a w, (if y.cfg.prEnabled then advancePeerAck y else y) = { y with advPeerAck := a, willSendForwardTSN := w } := by
    intro y
    split
    · exact advancePeerAck_only y
    · exact ⟨_, _, rfl⟩
  unfold t3
  simp only
  split
  · obtain ⟨a, w, h⟩ := key { s with
      ssthresh := t3_ssthresh s.cwnd s.cfg.mtu, cwnd := setCwnd s (t3_cwndArg s.cfg.mtu),
      inFastRecovery := false, willRetransmitFast := false, fastRecoverExitPoint := 0, partialBytesAcked := 0 }
    exact ⟨_, a, w, _, _, _, _, rfl, h⟩
  · obtain ⟨a, w, h⟩ := key { s with ssthresh := t3_ssthresh s.cwnd s.cfg.mtu, cwnd := setCwnd s (t3_cwndArg s.cfg.mtu) }
    exact ⟨_, a, w, _, _, _, _, rfl, h⟩

end SenderProofs
