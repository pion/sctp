import SctpVerif.Proofs.Sender.Ops
/-! The gather loops: every chunk they hand to `bundle` fits into a packet of its own, and they only touch
flags (`retransmit`, `nSent`, `since`), never the identity / payload length of an in-flight chunk. -/
namespace SenderProofs
open Gen Sender

theorem allFit_snoc {mtu il} {l : List Chunk} {c : Chunk} (h : AllFit mtu il l) (hc : hdr + c.sizeInPacket il ≤ (mtu.toNat : Int)) :
    AllFit mtu il (l ++ [c]) := by
  intro x hx
  rcases List.mem_append.mp hx with h1 | h1
  · exact h x h1
  · simp at h1; subst h1; exact hc

theorem sip_congr (il : Bool) (c c' : Chunk) (h : c'.len = c.len) : c'.sizeInPacket il = c.sizeInPacket il := by
  simp [Chunk.sizeInPacket, h]

/-- what `packAllow` has established when it takes a chunk -/
theorem packAllow_take {B : Type} (allow : B → Int → Bool × B) (b : B) (mtu : BitVec 32) (abip cb : Int) (full tooBig : Bool)
    (hfull : full = decide (abip + cb > (mtu.toNat : Int))) (htb : tooBig = decide (cb + hdr > (mtu.toNat : Int)))
    (hinv : abip = 0 ∨ hdr ≤ abip) (hcb : 0 ≤ cb) {b' : B} {bip' : Int}
    (h : packAllow allow b abip cb full tooBig = .take b' bip') :
    hdr + cb ≤ (mtu.toNat : Int) ∧ hdr ≤ bip' ∧ bip' ≤ (mtu.toNat : Int) := by
  subst hfull htb
  unfold packAllow bip0 at h
  simp only [hdr, commonHeaderSize] at *
  by_cases h0 : abip = 0
  · subst h0
    simp at h
    split at h
    · cases h
    · split at h
      · cases h
      · cases h; omega
  · have h12 : (12:Int) ≤ abip := by rcases hinv with h1 | h1; exact absurd h1 h0; simpa using h1
    by_cases hf : abip + cb > (mtu.toNat : Int)
    · simp [h0, hf] at h
      split at h
      · cases h
      · split at h
        · cases h
        · cases h; omega
    · simp [h0, hf] at h
      split at h
      · cases h
      · cases h; omega

/-- loop accumulator invariant of the gather loops -/
def AccOk {B : Type} (mtu : BitVec 32) (il : Bool) (a : LoopAcc B) : Prop :=
  (a.bip = 0 ∨ hdr ≤ a.bip) ∧ AllFit mtu il a.out

/-- a decision function only takes chunks that fit -/
def DecFits {B : Type} (s : St) (dec : Int → LoopAcc B → Chunk → Take B) : Prop :=
  ∀ i a c b bip, (a.bip = 0 ∨ hdr ≤ a.bip) → dec i a c = .take b bip →
    hdr + c.sizeInPacket s.cfg.useInterleaving ≤ (s.cfg.mtu.toNat : Int) ∧ hdr ≤ bip

/-- the scan as a proof rule: every chunk is left alone or, if `dec` takes it, replaced by `upd` of it (`R`); `P` is kept
by the loop index and the accumulator through a skip, a take and the final stop -/
theorem scanLoop_rule {B : Type} (s : St) (dec : Int → LoopAcc B → Chunk → Take B) (upd : Chunk → Chunk)
    (R : Chunk → Chunk → Prop) (P : Int → LoopAcc B → Prop) (hr : ∀ c, R c c)
    (hskip : ∀ i a c, P i a → dec i a c = .skip → P (i + 1) a)
    (hstop : ∀ i a c b, P i a → dec i a c = .stop b → P i { a with b := b })
    (htake : ∀ i a c b bip, P i a → dec i a c = .take b bip → R c (upd c) ∧
      P (i + 1) { a with b := b, bytesToSend := a.bytesToSend + (c.len : Int), bip := bip,
                         size := a.size + c.sizeInPacket s.cfg.useInterleaving, out := a.out ++ [upd c],
                         aband := checkPR s a.aband (upd c) })
    (i : Int) (q : List Chunk) (a : LoopAcc B) (h : P i a) :
    Pt R q (scanLoop s dec upd i q a).1 ∧ ∃ j, P j (scanLoop s dec upd i q a).2 := by
  induction q generalizing i a with
  | nil => exact ⟨trivial, i, h⟩
  | cons c rest ih =>
    simp only [scanLoop]
    cases hd : dec i a c with
    | skip => exact ⟨⟨hr c, (ih _ _ (hskip i a c h hd)).1⟩, (ih _ _ (hskip i a c h hd)).2⟩
    | stop b => exact ⟨Pt.refl hr _, i, hstop i a c b h hd⟩
    | take b bip =>
      obtain ⟨h1, h2⟩ := htake i a c b bip h hd
      exact ⟨⟨h1, (ih _ _ h2).1⟩, (ih _ _ h2).2⟩

/-- a scan rewrites the chunks it takes by `upd` and leaves the others -/
theorem scanLoop_pt {B : Type} {R : Chunk → Chunk → Prop} (hr : ∀ c, R c c) (s : St) (dec : Int → LoopAcc B → Chunk → Take B) (upd : Chunk → Chunk)
    (hu : ∀ c, R c (upd c)) (i : Int) (q : List Chunk) (a : LoopAcc B) : Pt R q (scanLoop s dec upd i q a).1 :=
  (scanLoop_rule s dec upd R (fun _ _ => True) hr (fun _ _ _ _ _ => trivial) (fun _ _ _ _ _ _ => trivial)
    (fun _ _ c _ _ _ _ => ⟨hu c, trivial⟩) i q a trivial).1

/-- what `upd` keeps of a chunk, the scan keeps of the queue -/
theorem scanLoop_map {B β : Type} (g : Chunk → β) (s : St) (dec : Int → LoopAcc B → Chunk → Take B) (upd : Chunk → Chunk)
    (hupd : ∀ c, g (upd c) = g c) (i : Int) (q : List Chunk) (a : LoopAcc B) :
    (scanLoop s dec upd i q a).1.map g = q.map g :=
  Pt.map_eq g (fun _ _ e => e) (scanLoop_pt (R := fun c x => g x = g c) (fun _ => rfl) s dec upd hupd i q a)

/-- a scan only adds to the set of abandoned messages -/
theorem scanLoop_aband_mono {B : Type} (s : St) (dec : Int → LoopAcc B → Chunk → Take B) (upd : Chunk → Chunk)
    (i : Int) (q : List Chunk) (a : LoopAcc B) : ∀ m ∈ a.aband, m ∈ (scanLoop s dec upd i q a).2.aband := by
  obtain ⟨_, _, h⟩ := scanLoop_rule s dec upd (fun _ _ => True) (fun _ x => ∀ m ∈ a.aband, m ∈ x.aband) (fun _ => trivial)
    (fun _ _ _ h _ => h) (fun _ _ _ _ h _ => h) (fun _ x c _ _ h _ => ⟨trivial, fun m hm => checkPR_sub s x.aband (upd c) m (h m hm)⟩)
    i q a (fun _ h => h)
  exact h

theorem scanLoop_fit {B : Type} (s : St) (dec : Int → LoopAcc B → Chunk → Take B) (upd : Chunk → Chunk)
    (hdec : DecFits s dec) (hupd : ∀ c, (upd c).len = c.len)
    (i : Int) (q : List Chunk) (a : LoopAcc B) (ha : AccOk s.cfg.mtu s.cfg.useInterleaving a) :
    AccOk s.cfg.mtu s.cfg.useInterleaving (scanLoop s dec upd i q a).2 := by
  obtain ⟨_, _, h⟩ := scanLoop_rule s dec upd (fun _ _ => True) (fun _ x => AccOk s.cfg.mtu s.cfg.useInterleaving x) (fun _ => trivial)
    (fun _ _ _ h _ => h) (fun _ _ _ _ h _ => h)
    (fun i x c b bip h hd => ⟨trivial, Or.inr (hdec i x c b bip h.1 hd).2,
      allFit_snoc h.2 (by rw [sip_congr _ _ _ (hupd c)]; exact (hdec i x c b bip h.1 hd).1)⟩) i q a ha
  exact h

theorem rtxDecide_fits {B : Type} (s : St) (allow : B → Int → Bool × B) (awnd : BitVec 32) : DecFits s (rtxDecide s allow awnd) := by
  intro i a c b bip hinv h
  unfold rtxDecide at h
  split at h
  · cases h
  · split at h
    · cases h
    · split at h
      · cases h
      · have := packAllow_take allow a.b s.cfg.mtu a.bip _ _ _ (by simp [rtx_packetFull]) (by simp [rtx_firstTooBig]) hinv
          (by have := (sizeInPacket_nonneg s.cfg.useInterleaving c).1; omega) h
        exact ⟨this.1, this.2.1⟩

theorem fastDecide_fits {B : Type} (s : St) (allow : B → Int → Bool × B) (wnd : Int) : DecFits s (fastDecide s allow wnd) := by
  intro i a c b bip hinv h
  unfold fastDecide at h
  split at h
  · cases h
  · split at h
    · cases h
    · simp only at h
      split at h
      · cases h
      · have := packAllow_take allow a.b s.cfg.mtu a.bip _ _ _ (by simp [fastRtx_packetFull]) (by simp [fastRtx_firstTooBig]) hinv
          (by have := (sizeInPacket_nonneg s.cfg.useInterleaving c).1; omega) h
        exact ⟨this.1, this.2.1⟩

/-! ### what the loop bodies have tested when they take a chunk -/

theorem rtxDecide_take {B : Type} (s : St) (allow : B → Int → Bool × B) (awnd : BitVec 32) (i : Int) (a : LoopAcc B) (c : Chunk)
    (b : B) (bip : Int) (h : rtxDecide s allow awnd i a c = .take b bip) :
    c.retransmit = true ∧ isAbandoned a.aband s.allInflightMsgs c = false := by
  unfold rtxDecide at h
  by_cases hr : c.retransmit = true
  · by_cases ha : isAbandoned a.aband s.allInflightMsgs c = true
    · simp [hr, ha] at h
    · exact ⟨hr, by simpa using ha⟩
  · simp [hr] at h

theorem fastDecide_take {B : Type} (s : St) (allow : B → Int → Bool × B) (wnd : Int) (i : Int) (a : LoopAcc B) (c : Chunk)
    (b : B) (bip : Int) (h : fastDecide s allow wnd i a c = .take b bip) :
    c.acked = false ∧ isAbandoned a.aband s.allInflightMsgs c = false ∧ fastRtx_skip c.nSent c.missIndicator = false := by
  unfold fastDecide at h
  by_cases h1 : (c.acked || isAbandoned a.aband s.allInflightMsgs c) = true
  · simp [h1] at h
  · by_cases h2 : fastRtx_skip c.nSent c.missIndicator = true
    · simp [h1, h2] at h
    · simp only [Bool.or_eq_true, not_or, Bool.not_eq_true] at h1
      exact ⟨h1.1, h1.2, by simpa using h2⟩

/-! ### identity of chunks -/

/-- what the accounting invariants look at -/
def Chunk.core (c : Chunk) : BitVec 32 × BitVec 16 × Nat × Bool × Nat := (c.tsn, c.si, c.len, c.acked, c.msg)

theorem rtxUpd_core (s : St) (c : Chunk) : Chunk.core (rtxUpd s c) = Chunk.core c := rfl
theorem fastUpd_core (s : St) (c : Chunk) : Chunk.core (fastUpd s c) = Chunk.core c := rfl

end SenderProofs
