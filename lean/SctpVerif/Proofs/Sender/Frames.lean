import SctpVerif.Proofs.Sender.Step
/-! What the bookkeeping layer leaves alone: everything the accounting and peer-window invariants read (`SameAcct`).
The frames of the single passes and operations are read off their decomposition into `Flag` changes. -/
namespace SenderProofs
open Gen Sender

/-- everything the accounting and peer-window invariants read is unchanged (in-flight chunks up to their flags) -/
structure SameAcct (s s' : St) : Prop where
  rwnd : s'.rwnd = s.rwnd
  infBytes : s'.infBytes = s.infBytes
  lastArwnd : s'.lastArwnd = s.lastArwnd
  wrapWin : s'.wrapWin = s.wrapWin
  cfg : s'.cfg = s.cfg
  streams : s'.streams = s.streams
  pending : s'.pending = s.pending
  penBytes : s'.penBytes = s.penBytes
  penChunks : s'.penChunks = s.penChunks
  wrapBuf : s'.wrapBuf = s.wrapBuf
  clamped : s'.clamped = s.clamped
  cumAck : s'.cumAck = s.cumAck
  myNextTSN : s'.myNextTSN = s.myNextTSN
  core : s'.inflight.map Chunk.core = s.inflight.map Chunk.core

theorem SameAcct.refl (s : St) : SameAcct s s := ⟨rfl, rfl, rfl, rfl, rfl, rfl, rfl, rfl, rfl, rfl, rfl, rfl, rfl, rfl⟩

theorem SameAcct.trans {a b c : St} (h1 : SameAcct a b) (h2 : SameAcct b c) : SameAcct a c :=
  ⟨h2.rwnd.trans h1.rwnd, h2.infBytes.trans h1.infBytes, h2.lastArwnd.trans h1.lastArwnd, h2.wrapWin.trans h1.wrapWin,
   h2.cfg.trans h1.cfg, h2.streams.trans h1.streams, h2.pending.trans h1.pending, h2.penBytes.trans h1.penBytes,
   h2.penChunks.trans h1.penChunks, h2.wrapBuf.trans h1.wrapBuf, h2.clamped.trans h1.clamped, h2.cumAck.trans h1.cumAck,
   h2.myNextTSN.trans h1.myNextTSN, h2.core.trans h1.core⟩

theorem SameAcct.RW {s s' : St} (h : SameAcct s s') (hR : RW s) : RW s' :=
  RW_congr h.rwnd h.infBytes h.lastArwnd h.wrapWin hR

theorem Flag.sameAcct {a b : St} (m : Flag a b) : SameAcct a b := by
  cases m with
  | flags q' h => exact ⟨rfl, rfl, rfl, rfl, rfl, rfl, rfl, rfl, rfl, rfl, rfl, rfl, rfl, Pt.map_eq Chunk.core (fun _ _ e => e.core) h⟩
  | _ => exact ⟨rfl, rfl, rfl, rfl, rfl, rfl, rfl, rfl, rfl, rfl, rfl, rfl, rfl, rfl⟩

theorem Abandon.sameAcct {a b : St} (m : Abandon a b) : SameAcct a b := by
  cases m; exact ⟨rfl, rfl, rfl, rfl, rfl, rfl, rfl, rfl, rfl, rfl, rfl, rfl, rfl, rfl⟩

theorem Star.sameAcct {s s' : St} (h : Star Flag s s') : SameAcct s s' :=
  h.rel SameAcct.refl (fun _ _ _ => SameAcct.trans) (fun _ _ => Flag.sameAcct)

theorem Star.sameAcct' {s s' : St} (h : Star (fun a b => Flag a b ∨ Abandon a b) s s') : SameAcct s s' :=
  h.rel SameAcct.refl (fun _ _ _ => SameAcct.trans) (fun _ _ m => m.elim Flag.sameAcct Abandon.sameAcct)

theorem gatherRtx_frame (s : St) (orc : Oracle) : SameAcct s (gatherRtx s orc).1 := (gatherRtx_star s orc).sameAcct'

theorem gatherFast_frame {B : Type} (s : St) (allow : B → Int → Bool × B) (b : B) : SameAcct s (gatherFast s allow b).1 :=
  (gatherFast_star s allow b).sameAcct'

theorem fastRetransCheck_sameAcct (s : St) (cum : BitVec 32) (gaps : List (BitVec 16 × BitVec 16)) (htna : BitVec 32) (adv : Bool) :
    SameAcct s (fastRetransCheck s cum gaps htna adv).1 := (fastRetransCheck_star s cum gaps htna adv).sameAcct

theorem prStep_frame (s : St) : SameAcct s (prStep s) ∧ (prStep s).cwnd = s.cwnd := by
  refine ⟨(prStep_star s).sameAcct, ?_⟩
  obtain ⟨a, w, h⟩ := prStep_only s
  rw [h]

theorem applyMarks_frame (s : St) (marks : List (BitVec 32)) : SameAcct s (applyMarks s marks) ∧ (applyMarks s marks).cwnd = s.cwnd :=
  ⟨(applyMarks_star s marks).sameAcct, rfl⟩

theorem t3_frame (s : St) : SameAcct s (t3 s) ∧ (t3 s).cwnd = setCwnd s (t3_cwndArg s.cfg.mtu) ∧
    (t3 s).ssthresh = t3_ssthresh s.cwnd s.cfg.mtu := by
  refine ⟨(t3_star s).sameAcct, ?_⟩
  obtain ⟨x, a, w, fr, wf, ep, pba, h, rfl⟩ := t3_shape s
  rw [h]; exact ⟨rfl, rfl⟩

theorem iter_t3_sameAcct (n : Nat) (s : St) : SameAcct s (iter t3 n s) := (iter_t3_star n s).sameAcct

theorem tick_sameAcct (s : St) (ms n : Nat) (marks : List (BitVec 32)) : SameAcct s (step s (.tick ms n marks)) :=
  (tick_star s ms n marks).sameAcct

/-- after `processAcknowledgement` and the peer-window update, a SACK is bookkeeping -/
theorem sack_split (s : St) (cum arwnd : BitVec 32) (gaps : List (BitVec 16 × BitVec 16)) (marks : List (BitVec 32)) :
    (sack s cum arwnd gaps marks).1 = s ∨
    ∃ r, ackPhase s cum gaps = some r ∧ sna32GT s.cumAck cum = false ∧ validate s cum gaps = true ∧
      SameAcct (setPeerWindow r.1 arwnd) (sack s cum arwnd gaps marks).1 := by
  rcases sack_star s cum arwnd gaps marks with e | ⟨r, ha, hst, hv, h⟩
  · exact .inl e
  · exact .inr ⟨r, ha, hst, hv, h.sameAcct⟩

/-! ### new DATA and a whole gather, for predicates on the state -/

/-- the ways new DATA changes the state, with the charge against the peer window and the move apart -/
structure NewData (P : St → Prop) : Prop where
  drop : ∀ s i c, P s → s.pending[i]? = some c → (BitVec.ofNat 32 c.len == 0) = true → P (popPend s i c)
  send : ∀ s c, P s → P (chargeSend s c)
  probe : ∀ s c, P s → P (chargeProbe s c)
  move : ∀ s i c, P s → s.pending[i]? = some c → P (move s i c).1

theorem NewData.of_new {P : St → Prop} (hP : NewData P) {a b : St} (m : New a b) (h : P a) : P b := by
  cases m with
  | drop i c hp hz => exact hP.drop a i c h hp hz
  | admit i c hp _ _ _ => exact hP.move _ i c (hP.send a c h) hp
  | admitProbe i c hp _ => exact hP.move _ i c (hP.probe a c h) hp

theorem gatherNew_rule {P : St → Prop} (hP : NewData P) {B : Type} (allow : B → Int → Bool × B) (b : B) (s : St) (sel : List Nat)
    (h : P s) : P (gatherNew s allow b sel).1 :=
  (gatherNew_new s allow b sel).rule (fun _ _ m => hP.of_new m) h

/-- a whole `gather`, for predicates that only read what `SameAcct` preserves -/
theorem gather_rule_acct {P : St → Prop} (hP : NewData P) (hsame : ∀ s s', SameAcct s s' → P s → P s')
    (s : St) (orc : Oracle) (sel : List Nat) (h : P s) : P (gather s orc sel).1 :=
  (gather_star s orc sel).rule
    (fun a b m => m.elim (fun m => hsame a b m.sameAcct) (·.elim (fun m => hsame a b m.sameAcct) (fun m => hP.of_new m))) h

/-- what no gather touches -/
theorem gather_frame (s : St) (orc : Oracle) (sel : List Nat) :
    (gather s orc sel).1.cfg = s.cfg ∧ (gather s orc sel).1.cwnd = s.cwnd ∧ (gather s orc sel).1.ssthresh = s.ssthresh ∧
    (gather s orc sel).1.lastArwnd = s.lastArwnd ∧ (gather s orc sel).1.streams = s.streams ∧
    (gather s orc sel).1.wrapBuf = s.wrapBuf ∧ (gather s orc sel).1.clamped = s.clamped ∧
    (gather s orc sel).1.nextMsg = s.nextMsg ∧ (gather s orc sel).1.cumAck = s.cumAck ∧
    (gather s orc sel).1.established = s.established := by
  have h := (gather_star s orc sel).rule (P := fun x => x.cfg = s.cfg ∧ x.lastArwnd = s.lastArwnd ∧ x.streams = s.streams ∧
      x.wrapBuf = s.wrapBuf ∧ x.clamped = s.clamped ∧ x.nextMsg = s.nextMsg ∧ x.cumAck = s.cumAck ∧ x.established = s.established)
    (by rintro a b (m | m | m) h <;> cases m <;> exact h) ⟨rfl, rfl, rfl, rfl, rfl, rfl, rfl, rfl⟩
  -- the congestion state: of the bookkeeping rules a gather uses none that responds to loss
  have hc : (gather s orc sel).1.cwnd = s.cwnd ∧ (gather s orc sel).1.ssthresh = s.ssthresh := by
    unfold gather
    split
    · exact ⟨rfl, rfl⟩
    · have h2 := (gatherNew_new (gatherRtx s orc).1 orc.allow (gatherRtx s orc).2.2 sel).rule
        (P := fun x => x.cwnd = s.cwnd ∧ x.ssthresh = s.ssthresh) (by rintro a b m h; cases m <;> exact h) ⟨rfl, rfl⟩
      simp only [gatherFast]
      split <;> exact h2
  exact ⟨h.1, hc.1, hc.2, h.2⟩

end SenderProofs
