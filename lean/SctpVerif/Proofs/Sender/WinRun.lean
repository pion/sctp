import SctpVerif.Proofs.Sender.Frames
import SctpVerif.Proofs.Sender.Admit
/-! The two window invariants along arbitrary runs: peer window (`RW`) and congestion-window floor (`CwndFloor`). -/
namespace SenderProofs
open Gen Sender

/-- configurations in which `4·MTU` does not wrap a uint32 -/
def CfgOk (cfg : Cfg) : Prop := cfg.mtu.toNat < 2^30

/-- both invariants, the configuration constraint, and "the no-wrap flag, once raised, stays raised" packaged per step -/
structure WinInv (s : St) : Prop where
  cfgOk : CfgOk s.cfg
  rw : RW s
  floor : CwndFloor s

/-- one gather from a state with `RW`: `RW` again, and every new chunk admitted by the rule or the lone probe -/
theorem gather_spec (s : St) (orc : Oracle) (sel : List Nat) (hR : RW s) :
    RW (gather s orc sel).1 ∧
    (∀ x ∈ (gather s orc sel).2.admits, x.probe = false ∨ ProbeOk (gather s orc sel).2.admits x) ∧
    ((gather s orc sel).1.wrapWin = false → s.wrapWin = false ∧
      ∀ x ∈ (gather s orc sel).2.admits, AdmitOk s.lastArwnd.toNat x ∨ ProbeOk (gather s orc sel).2.admits x) := by
  unfold gather
  split
  · exact ⟨hR, fun x hx => absurd hx List.not_mem_nil, fun h => ⟨h, fun x hx => absurd hx List.not_mem_nil⟩⟩
  · have a := gatherRtx_frame s orc
    obtain ⟨_, _, _, n4, n5⟩ := gatherNew_spec orc.allow (gatherRtx s orc).2.2 (gatherRtx s orc).1 sel
    obtain ⟨n1, n6⟩ := n5 (a.RW hR)
    have f := gatherFast_frame (gatherNew (gatherRtx s orc).1 orc.allow (gatherRtx s orc).2.2 sel).1 orc.allow
      (gatherNew (gatherRtx s orc).1 orc.allow (gatherRtx s orc).2.2 sel).2.b
    refine ⟨RW_congr (s := (gatherFast _ orc.allow _).1) rfl rfl rfl rfl (f.RW n1), n4, fun hw => ?_⟩
    obtain ⟨w1, w2⟩ := n6 (f.wrapWin ▸ hw)
    rw [a.wrapWin] at w1; rw [a.lastArwnd] at w2
    exact ⟨w1, w2⟩

theorem releaseAll_frame (rel : Rel) (s : St) :
    (releaseAll rel s).rwnd = s.rwnd ∧ (releaseAll rel s).infBytes = s.infBytes ∧ (releaseAll rel s).lastArwnd = s.lastArwnd ∧
    (releaseAll rel s).wrapWin = s.wrapWin ∧ (releaseAll rel s).cfg = s.cfg ∧ (releaseAll rel s).cwnd = s.cwnd ∧
    (releaseAll rel s).inflight = s.inflight ∧ (releaseAll rel s).pending = s.pending ∧ (releaseAll rel s).penBytes = s.penBytes ∧
    (releaseAll rel s).penChunks = s.penChunks ∧ (releaseAll rel s).wrapBuf = s.wrapBuf ∧ (releaseAll rel s).cumAck = s.cumAck ∧
    (releaseAll rel s).myNextTSN = s.myNextTSN ∧ (releaseAll rel s).ssthresh = s.ssthresh := by
  obtain ⟨_, _, h⟩ := releaseAll_only rel s
  rw [h]; exact ⟨rfl, rfl, rfl, rfl, rfl, rfl, rfl, rfl, rfl, rfl, rfl, rfl, rfl, rfl⟩

theorem onCumAdvanced_win (s : St) (total : Int) :
    (onCumAdvanced s total).rwnd = s.rwnd ∧ (onCumAdvanced s total).infBytes = s.infBytes ∧
    (onCumAdvanced s total).lastArwnd = s.lastArwnd ∧ (onCumAdvanced s total).cfg = s.cfg ∧
    ((onCumAdvanced s total).wrapWin = false → s.wrapWin = false ∧ s.cwnd.toNat ≤ (onCumAdvanced s total).cwnd.toNat) := by
  unfold onCumAdvanced
  split
  · split
    · refine ⟨rfl, rfl, rfl, rfl, ?_⟩
      intro hw
      simp only [Bool.or_eq_false_iff, decide_eq_false_iff_not, not_or, Int.not_lt, ge_iff_le, Nat.not_le] at hw
      refine ⟨hw.1, ?_⟩
      have := (setCwnd_ge s (cumAck_slowStartCwndArg s.cwnd total)).1
      simp only [cumAck_slowStartCwndArg] at this ⊢
      have h3 := hw.2.2.2
      have : (s.cwnd + min32 (BitVec.ofInt 32 total) s.cwnd).toNat = s.cwnd.toNat + (min32 (BitVec.ofInt 32 total) s.cwnd).toNat := by
        rw [BitVec.toNat_add]; omega
      omega
    · exact ⟨rfl, rfl, rfl, rfl, fun h => ⟨h, Nat.le_refl _⟩⟩
  · simp only
    split
    · refine ⟨rfl, rfl, rfl, rfl, ?_⟩
      intro hw
      simp only [Bool.or_eq_false_iff, decide_eq_false_iff_not, ge_iff_le, Nat.not_le] at hw
      refine ⟨hw.1, ?_⟩
      have := (setCwnd_ge s (cumAck_caCwndArg s.cwnd (cumAck_caStep s.cfg.mtu s.cfg.cwndCAStep))).1
      simp only [cumAck_caCwndArg] at this ⊢
      have : (s.cwnd + cumAck_caStep s.cfg.mtu s.cfg.cwndCAStep).toNat = s.cwnd.toNat + (cumAck_caStep s.cfg.mtu s.cfg.cwndCAStep).toNat := by
        rw [BitVec.toNat_add]; omega
      omega
    · exact ⟨rfl, rfl, rfl, rfl, fun h => ⟨h, Nat.le_refl _⟩⟩

/-- the congestion part of a cumulative advance touches `cwnd`, `partialBytesAcked` and the wrap flag only -/
theorem onCumAdvanced_frame (s : St) (total : Int) :
    (onCumAdvanced s total).inflight = s.inflight ∧ (onCumAdvanced s total).infBytes = s.infBytes ∧
    (onCumAdvanced s total).pending = s.pending ∧ (onCumAdvanced s total).penBytes = s.penBytes ∧
    (onCumAdvanced s total).penChunks = s.penChunks ∧ (onCumAdvanced s total).streams = s.streams ∧
    (onCumAdvanced s total).clamped = s.clamped ∧ (onCumAdvanced s total).wrapBuf = s.wrapBuf ∧
    (onCumAdvanced s total).cumAck = s.cumAck ∧ (onCumAdvanced s total).myNextTSN = s.myNextTSN ∧
    (onCumAdvanced s total).nextMsg = s.nextMsg := by
  obtain ⟨_, _, _, h⟩ := onCumAdvanced_only s total
  rw [h]; exact ⟨rfl, rfl, rfl, rfl, rfl, rfl, rfl, rfl, rfl, rfl, rfl⟩

/-- what the end of `processAcknowledgement` does to queues, counters and TSN points -/
theorem ackApply_frame (s : St) (cum : BitVec 32) (g : GapAcc) (inFR : Bool) :
    (ackApply s cum g inFR).inflight = g.q ∧ (ackApply s cum g inFR).infBytes = g.infBytes ∧
    (ackApply s cum g inFR).pending = s.pending ∧ (ackApply s cum g inFR).penBytes = s.penBytes ∧
    (ackApply s cum g inFR).penChunks = s.penChunks ∧ (ackApply s cum g inFR).wrapBuf = s.wrapBuf ∧
    (ackApply s cum g inFR).myNextTSN = s.myNextTSN ∧
    (ackApply s cum g inFR).cumAck = (if sna32LT s.cumAck cum then cum else s.cumAck) := by
  unfold ackApply
  simp only
  obtain ⟨_, f2, _, _, _, _, f7, f8, f9, f10, f11, f12, f13, _⟩ := releaseAll_frame g.rel
    (if sna32LT s.cumAck cum then onCumAdvanced { s with inflight := g.q, infBytes := g.infBytes, inFastRecovery := inFR, cumAck := cum } (relTotal g.rel)
     else { s with inflight := g.q, infBytes := g.infBytes, inFastRecovery := inFR })
  rw [f2, f7, f8, f9, f10, f11, f12, f13]
  split
  · obtain ⟨o1, o2, o3, o4, o5, _, _, o8, o9, o10, _⟩ := onCumAdvanced_frame { s with inflight := g.q, infBytes := g.infBytes, inFastRecovery := inFR, cumAck := cum } (relTotal g.rel)
    exact ⟨o1, o2, o3, o4, o5, o8, o10, o9⟩
  · exact ⟨rfl, rfl, rfl, rfl, rfl, rfl, rfl, rfl⟩

theorem ackApply_win (s : St) (cum : BitVec 32) (g : GapAcc) (inFR : Bool) :
    (ackApply s cum g inFR).cfg = s.cfg ∧
    ((ackApply s cum g inFR).wrapWin = false → s.wrapWin = false ∧ s.cwnd.toNat ≤ (ackApply s cum g inFR).cwnd.toNat) := by
  unfold ackApply
  simp only
  obtain ⟨_, _, _, r4, r5, r6, _⟩ := releaseAll_frame g.rel
    (if sna32LT s.cumAck cum then onCumAdvanced { s with inflight := g.q, infBytes := g.infBytes, inFastRecovery := inFR, cumAck := cum } (relTotal g.rel)
     else { s with inflight := g.q, infBytes := g.infBytes, inFastRecovery := inFR })
  rw [r4, r5, r6]
  split
  · obtain ⟨_, _, _, o4, o5⟩ := onCumAdvanced_win { s with inflight := g.q, infBytes := g.infBytes, inFastRecovery := inFR, cumAck := cum } (relTotal g.rel)
    exact ⟨o4, o5⟩
  · exact ⟨rfl, fun h => ⟨h, Nat.le_refl _⟩⟩

theorem ackPhase_win {s : St} {cum : BitVec 32} {gaps : List (BitVec 16 × BitVec 16)} {r : St × BitVec 32 × Bool}
    (h : ackPhase s cum gaps = some r) :
    r.1.cfg = s.cfg ∧ (r.1.wrapWin = false → s.wrapWin = false ∧ s.cwnd.toNat ≤ r.1.cwnd.toNat) := by
  obtain ⟨_, _, _, _, _, rfl⟩ := ackPhase_eq h
  exact ackApply_win _ _ _ _

theorem setPeerWindow_RW (s : St) (arwnd : BitVec 32) : RW (setPeerWindow s arwnd) := by
  intro hw
  simp only [setPeerWindow, Bool.or_eq_false_iff, decide_eq_false_iff_not, not_or, Int.not_lt, ge_iff_le, Int.not_le] at hw ⊢
  obtain ⟨_, h1, h2⟩ := hw
  have e : (BitVec.ofInt 32 s.infBytes).toNat = s.infBytes.toNat := by rw [BitVec.toNat_ofInt]; omega
  simp only [sack_windowFull, sack_rwndArg]
  by_cases hf : BitVec.ofInt 32 s.infBytes ≥ arwnd
  · simp only [hf, decide_true, if_true]
    have : arwnd.toNat ≤ (BitVec.ofInt 32 s.infBytes).toNat := by simpa [BitVec.le_def] using hf
    simp; omega
  · simp only [hf, decide_false, Bool.false_eq_true, if_false]
    have : (BitVec.ofInt 32 s.infBytes).toNat < arwnd.toNat := by simpa [BitVec.le_def] using hf
    have : ((arwnd - BitVec.ofInt 32 s.infBytes).toNat : Int) = (arwnd.toNat : Int) - s.infBytes := by bv_omega
    omega

/-- `handleSack` as a proof rule: the state is left alone, or goes through `ackPhase` (on a validated SACK that is not
stale), the peer-window update, the miss indications, the partial-reliability step and the loss marks -/
theorem sack_rule {P : St → Prop} (s : St) (cum arwnd : BitVec 32) (gaps : List (BitVec 16 × BitVec 16)) (marks : List (BitVec 32))
    (h : P s) (hack : ∀ r, sna32GT s.cumAck cum = false → validate s cum gaps = true → ackPhase s cum gaps = some r → P r.1)
    (hwin : ∀ x, P x → P (setPeerWindow x arwnd))
    (hfr : ∀ x htna adv, P x → P (fastRetransCheck x cum gaps htna adv).1)
    (hpr : ∀ x, P x → P (prStep x)) (hmk : ∀ x, P x → P (applyMarks x marks)) :
    P (sack s cum arwnd gaps marks).1 := by
  rcases sack_shape s cum arwnd gaps marks with e | ⟨r, hr, hst, hv, e | e⟩ <;> rw [e]
  · exact h
  · exact hfr _ _ _ (hwin _ (hack r hst hv hr))
  · exact hmk _ (hpr _ (hfr _ _ _ (hwin _ (hack r hst hv hr))))

theorem pushPending_frame (s : St) (cs : List Chunk) :
    (pushPending s cs).rwnd = s.rwnd ∧ (pushPending s cs).infBytes = s.infBytes ∧ (pushPending s cs).lastArwnd = s.lastArwnd ∧
    (pushPending s cs).wrapWin = s.wrapWin ∧ (pushPending s cs).cfg = s.cfg ∧ (pushPending s cs).cwnd = s.cwnd ∧
    (pushPending s cs).inflight = s.inflight ∧ (pushPending s cs).clamped = s.clamped ∧ (pushPending s cs).ssthresh = s.ssthresh :=
  ⟨rfl, rfl, rfl, rfl, rfl, rfl, rfl, rfl, rfl⟩

theorem write_frame (s : St) (si : BitVec 16) (ppi : BitVec 32) (len : Nat) :
    (write s si ppi len).1.rwnd = s.rwnd ∧ (write s si ppi len).1.infBytes = s.infBytes ∧ (write s si ppi len).1.lastArwnd = s.lastArwnd ∧
    (write s si ppi len).1.wrapWin = s.wrapWin ∧ (write s si ppi len).1.cfg = s.cfg ∧ (write s si ppi len).1.cwnd = s.cwnd ∧
    (write s si ppi len).1.inflight = s.inflight ∧ (write s si ppi len).1.clamped = s.clamped ∧
    (write s si ppi len).1.ssthresh = s.ssthresh := by
  rcases write_eq s si ppi len with ⟨he, _⟩ | ⟨st, _, _, _, _, ⟨_, _, he⟩ | ⟨_, _, he⟩⟩ <;> rw [he]
  · exact ⟨rfl, rfl, rfl, rfl, rfl, rfl, rfl, rfl, rfl⟩
  · exact pushPending_frame _ _
  · exact ⟨rfl, rfl, rfl, rfl, rfl, rfl, rfl, rfl, rfl⟩

/-! ### the window invariants, rule by rule -/

/-- the loss responses keep the congestion-window floor: entering fast recovery sets `cwnd = max(ssthresh, minCwnd)` with
`ssthresh ≥ 4·MTU`, a T3 expiry `cwnd = max(MTU, minCwnd)` -/
theorem Flag.win {a b : St} (m : Flag a b) (h : WinInv a) : WinInv b ∧ (b.wrapWin = false → a.wrapWin = false) := by
  cases m with
  | enterFR htna hfr =>
    refine ⟨⟨h.cfgOk, h.rw, fun _ => ?_⟩, id⟩
    have g1 := (setCwnd_ge a (fastRecovery_cwndArg (fastRecovery_ssthresh a.cwnd a.cfg.mtu))).1
    have g2 := (ssthresh_formula a.cwnd a.cfg.mtu h.cfgOk).2
    show a.cfg.mtu.toNat ≤ (setCwnd a _).toNat
    simp only [fastRecovery_cwndArg] at g1 ⊢
    omega
  | t3cc =>
    refine ⟨⟨h.cfgOk, h.rw, fun _ => ?_⟩, id⟩
    have := (setCwnd_ge a (t3_cwndArg a.cfg.mtu)).1
    simpa [t3_cwndArg] using this
  | _ => exact ⟨⟨h.cfgOk, h.rw, h.floor⟩, id⟩

theorem Abandon.win {a b : St} (m : Abandon a b) (h : WinInv a) : WinInv b ∧ (b.wrapWin = false → a.wrapWin = false) := by
  cases m; exact ⟨⟨h.cfgOk, h.rw, h.floor⟩, id⟩

theorem New.win {a b : St} (m : New a b) (h : WinInv a) : WinInv b ∧ (b.wrapWin = false → a.wrapWin = false) := by
  cases m with
  | drop i c hp hz => exact ⟨⟨h.cfgOk, h.rw, h.floor⟩, id⟩
  | admit i c hp hz hc hr =>
    obtain ⟨k1, k2⟩ := admitChunk_spec a i c h.rw hc hr hz
    obtain ⟨_, f2, _, _, _, f6, _⟩ := admitChunk_frame a i c
    exact ⟨⟨f6 ▸ h.cfgOk, k1, fun hw => by rw [f6, f2]; exact h.floor (k2 hw).1⟩, fun hw => (k2 hw).1⟩
  | admitProbe i c hp h0 =>
    obtain ⟨k1, k2⟩ := admitProbe_RW a i c h.rw
    obtain ⟨_, f2, _, _, _, f6, _⟩ := admitProbe_frame a i c
    exact ⟨⟨f6 ▸ h.cfgOk, k1, fun hw => by rw [f6, f2]; exact h.floor (k2 hw)⟩, k2⟩

/-- the peer window is re-established by the update from the SACK's `a_rwnd`; a cumulative advance only grows `cwnd` -/
theorem Ack.win {a b : St} (m : Ack a b) (h : WinInv a) : WinInv b ∧ (b.wrapWin = false → a.wrapWin = false) := by
  cases m with
  | ack cum arwnd gaps r hst hv ha =>
    obtain ⟨a1, a2⟩ := ackPhase_win ha
    have hmono : (setPeerWindow r.1 arwnd).wrapWin = false → a.wrapWin = false ∧ a.cwnd.toNat ≤ r.1.cwnd.toNat := fun hw => by
      simp only [setPeerWindow, Bool.or_eq_false_iff] at hw
      exact a2 hw.1
    refine ⟨⟨a1 ▸ h.cfgOk, setPeerWindow_RW _ _, fun hw => ?_⟩, fun hw => (hmono hw).1⟩
    show r.1.cfg.mtu.toNat ≤ r.1.cwnd.toNat
    rw [a1]; exact Nat.le_trans (h.floor (hmono hw).1) (hmono hw).2

theorem Api.win {a b : St} (m : Api a b) (h : WinInv a) : WinInv b ∧ (b.wrapWin = false → a.wrapWin = false) := by
  cases m <;> exact ⟨⟨h.cfgOk, h.rw, h.floor⟩, id⟩

theorem Atom.win {a b : St} (m : Atom a b) (h : WinInv a) : WinInv b ∧ (b.wrapWin = false → a.wrapWin = false) := by
  cases m with
  | flag m => exact m.win h
  | abandon m => exact m.win h
  | new m => exact m.win h
  | ack m => exact m.win h
  | api m => exact m.win h

/-- rules that keep both window invariants and never lower the "a uint32 computation wrapped" flag: so do their sequences -/
theorem Star.win {R : St → St → Prop} (hR : ∀ a b, R a b → WinInv a → WinInv b ∧ (b.wrapWin = false → a.wrapWin = false))
    {s s' : St} (h : Star R s s') (hw : WinInv s) : WinInv s' ∧ (s'.wrapWin = false → s.wrapWin = false) :=
  h.rule (P := fun x => WinInv x ∧ (x.wrapWin = false → s.wrapWin = false))
    (fun a b m hx => ⟨(hR a b m hx.1).1, fun hw => hx.2 ((hR a b m hx.1).2 hw)⟩) ⟨hw, id⟩

/-- every step keeps both window invariants, and never lowers the "a uint32 computation wrapped" flag -/
theorem step_win (s : St) (op : Op) (h : WinInv s) : WinInv (step s op) ∧ ((step s op).wrapWin = false → s.wrapWin = false) :=
  (step_star s op).win (fun _ _ => Atom.win) h

theorem run_win (s : St) (ops : List Op) (h : WinInv s) : WinInv (run s ops) ∧ ((run s ops).wrapWin = false → s.wrapWin = false) :=
  (run_star s ops).win (fun _ _ => Atom.win) h

theorem sack_win (s : St) (cum arwnd : BitVec 32) (gaps : List (BitVec 16 × BitVec 16)) (marks : List (BitVec 32))
    (h : WinInv s) : WinInv (sack s cum arwnd gaps marks).1 ∧ ((sack s cum arwnd gaps marks).1.wrapWin = false → s.wrapWin = false) :=
  step_win s (.sack cum arwnd gaps marks) h

theorem gather_win (s : St) (orc : Oracle) (sel : List Nat) (h : WinInv s) :
    WinInv (gather s orc sel).1 ∧ ((gather s orc sel).1.wrapWin = false → s.wrapWin = false) :=
  step_win s (.gather orc sel) h

theorem t3_win (s : St) (h : WinInv s) : WinInv (t3 s) ∧ ((t3 s).wrapWin = false → s.wrapWin = false) := step_win s .t3 h

theorem init_win (cfg : Cfg) (tsn peerRwnd : BitVec 32) (hc : CfgOk cfg) : WinInv (init cfg tsn peerRwnd) := by
  refine ⟨hc, ?_, ?_⟩
  · intro _; simp [init]
  · intro _
    unfold CfgOk at hc
    simp only [init, Association_setCWND, initialCwnd, min32, max32]
    have e4 : (4#32 * cfg.mtu).toNat = 4 * cfg.mtu.toNat := by simp [BitVec.toNat_mul]; omega
    have e2 : (2#32 * cfg.mtu).toNat = 2 * cfg.mtu.toNat := by simp [BitVec.toNat_mul]; omega
    repeat' split
    all_goals (simp only [BitVec.lt_def, gt_iff_lt, decide_eq_true_eq, Nat.not_lt, e4, e2] at *; try omega)

/-! ### the configuration never changes, message identities are only consumed, the buffered-amount wrap flag is only raised -/

theorem Atom.keeps {a b : St} (m : Atom a b) : b.cfg = a.cfg ∧ a.nextMsg ≤ b.nextMsg ∧ (b.wrapBuf = false → a.wrapBuf = false) := by
  cases m with
  | flag m => cases m <;> exact ⟨rfl, Nat.le_refl _, id⟩
  | abandon m => cases m; exact ⟨rfl, Nat.le_refl _, id⟩
  | new m => cases m <;> exact ⟨rfl, Nat.le_refl _, id⟩
  | ack m =>
    obtain ⟨_, _, _, _, _, _, _, _, _, _, _, e⟩ := m.only
    rw [e]; exact ⟨rfl, Nat.le_refl _, id⟩
  | api m =>
    cases m with
    | queue si st ppi len hs hmp hlen he => exact ⟨rfl, Nat.le_succ _, fun hw => (Bool.or_eq_false_iff.mp hw).1⟩
    | consume wb => exact ⟨rfl, Nat.le_succ _, fun hw => (Bool.or_eq_false_iff.mp hw).1⟩
    | _ => exact ⟨rfl, Nat.le_refl _, id⟩

theorem step_cfg_eq (s : St) (op : Op) (_hm : CfgOk s.cfg) : (step s op).cfg = s.cfg :=
  (step_star s op).rule (P := fun x => x.cfg = s.cfg) (fun _ _ m h => m.keeps.1.trans h) rfl

theorem gather_cfg (s : St) (orc : Oracle) (sel : List Nat) : (gather s orc sel).1.cfg = s.cfg := (gather_frame s orc sel).1

theorem sack_cfg (s : St) (cum arwnd : BitVec 32) (gaps : List (BitVec 16 × BitVec 16)) (marks : List (BitVec 32))
    (hm : s.cfg.mtu.toNat < 2^30) : (sack s cum arwnd gaps marks).1.cfg = s.cfg := step_cfg_eq s (.sack cum arwnd gaps marks) hm

theorem run_cfg (s : St) (ops : List Op) (_hm : CfgOk s.cfg) : (run s ops).cfg = s.cfg :=
  run_rule (P := fun x => x.cfg = s.cfg) (fun _ _ m h => m.keeps.1.trans h) s ops rfl

/-- no operation lowers the "a uint64 bufferedAmount addition wrapped" flag -/
theorem step_wrapBuf (s : St) (op : Op) (_hm : CfgOk s.cfg) : (step s op).wrapBuf = false → s.wrapBuf = false :=
  (step_star s op).rule (P := fun x => x.wrapBuf = false → s.wrapBuf = false) (fun _ _ m h hw => h (m.keeps.2.2 hw)) id

theorem run_wrapBuf (s : St) (ops : List Op) (_hw : WinInv s) : (run s ops).wrapBuf = false → s.wrapBuf = false :=
  run_rule (P := fun x => x.wrapBuf = false → s.wrapBuf = false) (fun _ _ m h hw => h (m.keeps.2.2 hw)) s ops id

end SenderProofs
