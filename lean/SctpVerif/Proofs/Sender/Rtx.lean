import SctpVerif.Proofs.Sender.Window
/-! T3 retransmissions (`getDataPacketsToRetransmit`) stay within `min(cwnd, rwnd)`, except the lone probe of the
earliest outstanding chunk when the peer window is smaller than that chunk. -/
namespace SenderProofs
open Gen Sender

/-- loop invariant: either everything taken so far fits the window, or exactly the probe was taken -/
def RtxOk {B : Type} (awnd : BitVec 32) (a : LoopAcc B) : Prop :=
  a.bytesToSend = (sumLen a.out : Int) ∧
  (a.bytesToSend ≤ (awnd.toNat : Int) ∨ (a.out.length = 1 ∧ (awnd.toNat : Int) < a.bytesToSend))

theorem sumLen_snoc (l : List Chunk) (c : Chunk) : sumLen (l ++ [c]) = sumLen l + c.len := by
  induction l with
  | nil => simp [sumLen]
  | cons x r ih => simp [sumLen, ih]; omega

theorem rtxLoop_window {B : Type} (s : St) (allow : B → Int → Bool × B) (i : Int) (q : List Chunk) (a : LoopAcc B)
    (hi : 0 ≤ i) (h0 : i = 0 → a.out = [] ∧ a.bytesToSend = 0)
    (ha : RtxOk (rtx_awnd s.cwnd s.rwnd) a) :
    RtxOk (rtx_awnd s.cwnd s.rwnd) (scanLoop s (rtxDecide s allow (rtx_awnd s.cwnd s.rwnd)) (rtxUpd s) i q a).2 := by
  -- only at loop index 0, with nothing taken yet, can a chunk be the probe
  refine Exists.elim (scanLoop_rule s (rtxDecide s allow (rtx_awnd s.cwnd s.rwnd)) (rtxUpd s) (fun _ _ => True)
    (fun i a => 0 ≤ i ∧ (i = 0 → a.out = [] ∧ a.bytesToSend = 0) ∧ RtxOk (rtx_awnd s.cwnd s.rwnd) a) (fun _ => trivial)
    (fun i a _ ⟨h1, _, h3⟩ _ => ⟨by omega, fun h => by omega, h3⟩) (fun _ _ _ _ h _ => h) ?_ i q a ⟨hi, h0, ha⟩).2 (fun _ h => h.2.2)
  intro i a c b bip ⟨hi, h0, ha⟩ hd
  refine ⟨trivial, by omega, fun h => by omega, ?_⟩
  -- what allowed the take
  unfold rtxDecide at hd
  split at hd
  · cases hd
  · split at hd
    · cases hd
    · split at hd
      · cases hd
      · rename_i _ hwin
        simp only [Bool.and_eq_true, Bool.not_eq_true', not_and] at hwin
        obtain ⟨e1, e2⟩ := ha
        refine ⟨?_, ?_⟩
        · simp only; rw [sumLen_snoc, e1]; push_cast; rw [show (rtxUpd s c).len = c.len from rfl]
        · by_cases hp : rtx_isProbe i s.rwnd (c.len : Int) = true
          · -- the probe: first scanned chunk, larger than rwnd
            simp only [rtx_isProbe, Bool.and_eq_true, beq_iff_eq, decide_eq_true_eq] at hp
            obtain ⟨hi0, hlt⟩ := hp
            obtain ⟨o1, o2⟩ := h0 hi0
            right
            refine ⟨by simp [o1], ?_⟩
            simp only [o2]
            have hle : (rtx_awnd s.cwnd s.rwnd).toNat ≤ s.rwnd.toNat := by
              simp only [rtx_awnd, min32]
              by_cases hc : s.cwnd < s.rwnd
              · simp only [hc, decide_true, if_true]; bv_omega
              · simp only [hc, decide_false, Bool.false_eq_true, if_false]; omega
            omega
          · have hne : rtx_exceedsWindow a.bytesToSend (c.len : Int) (rtx_awnd s.cwnd s.rwnd) = false := by
              have := hwin (by simpa using hp)
              simpa using this
            simp only [rtx_exceedsWindow, decide_eq_false_iff_not, Int.not_lt] at hne
            left; simp only; omega

/-- `getDataPacketsToRetransmit`: the user bytes retransmitted in one gather are at most `min(cwnd, rwnd)`, or the
gather retransmits a single chunk that alone exceeds that window (the zero-window probe of the earliest chunk) -/
theorem gatherRtx_window (s : St) (orc : Oracle) :
    (sumLen (gatherRtx s orc).2.1 : Int) ≤ ((min32 s.cwnd s.rwnd).toNat : Int) ∨ (gatherRtx s orc).2.1.length = 1 := by
  have h := rtxLoop_window s orc.allow 0 (scanSplit s).2 { b := orc.b, aband := s.abandonedMsgs } (by omega)
    (fun _ => ⟨rfl, rfl⟩) ⟨by simp [sumLen], Or.inl (by simp)⟩
  obtain ⟨h1, h2⟩ := h
  rcases h2 with h2 | h2
  · left
    show (sumLen (scanLoop s _ _ 0 _ _).2.out : Int) ≤ _
    rw [← h1]; exact h2
  · right; exact h2.1

end SenderProofs
