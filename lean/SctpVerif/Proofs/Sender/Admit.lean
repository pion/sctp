import SctpVerif.Proofs.Sender.Frames
/-! The ghost `Admit` records of a gather are exactly the chunks it appended to the in-flight queue, in order. -/
namespace SenderProofs
open Gen Sender

theorem popLoop_inflight {B : Type} (allow : B → Int → Bool × B) (fuel : Nat) (s : St) (sel : List Nat) (a : PopAcc B) :
    ∃ new : List Admit, (popLoop allow fuel s sel a).2.2.admits = a.admits ++ new ∧
      (popLoop allow fuel s sel a).1.inflight = s.inflight ++ new.map (·.chunk) := by
  refine popLoop_rule allow (fun x a' => ∃ new : List Admit, a'.admits = a.admits ++ new ∧ x.inflight = s.inflight ++ new.map (·.chunk))
    (fun _ _ _ _ h _ _ => h) (fun _ _ _ h => h) ?_ fuel s sel a ⟨[], by simp, by simp⟩
  rintro x i c a' b bip ⟨new, h1, h2⟩ _ _ _
  refine ⟨new ++ [mkAdmit x (admitChunk x i c).2 false], by simp [h1], ?_⟩
  rw [(admitChunk_frame x i c).2.2.2.2.2.2.2.1, h2]
  simp [mkAdmit]

theorem probe_inflight {B : Type} (allow : B → Int → Bool × B) (s : St) (sel : List Nat) (a : PopAcc B) :
    ∃ new : List Admit, (probe allow s sel a).2.2.admits = a.admits ++ new ∧
      (probe allow s sel a).1.inflight = s.inflight ++ new.map (·.chunk) := by
  refine probe_rule allow (fun x a' => ∃ new : List Admit, a'.admits = a.admits ++ new ∧ x.inflight = s.inflight ++ new.map (·.chunk))
    (fun _ _ _ h => h) ?_ s sel a ⟨[], by simp, by simp⟩
  rintro x i c a' b ⟨new, h1, h2⟩ _ _ _ _
  refine ⟨new ++ [mkAdmit x (admitProbe x i c).2 true], by simp [h1], ?_⟩
  rw [show (admitProbe x i c).1.inflight = x.inflight ++ [(admitProbe x i c).2] from (move_frame _ i c).2.2.2.2.2.2.2.1, h2]
  simp [mkAdmit]

/-- the chunks a gather newly puts in flight are exactly its `admits`, appended in order (older chunks keep their
identity and payload length; only flags change) -/
theorem gather_inflight (s : St) (orc : Oracle) (sel : List Nat) :
    (gather s orc sel).1.inflight.map Chunk.core = s.inflight.map Chunk.core ++ ((gather s orc sel).2.admits.map (·.chunk)).map Chunk.core := by
  unfold gather
  split
  · simp
  · simp only
    rw [(gatherFast_frame _ orc.allow _).core]
    have hr := (gatherRtx_frame s orc).core
    unfold gatherNew
    split
    · simp only
      obtain ⟨n1, a1, b1⟩ := popLoop_inflight orc.allow ((gatherRtx s orc).1.pending.length + 1) (gatherRtx s orc).1 sel { b := (gatherRtx s orc).2.2 }
      obtain ⟨n2, a2, b2⟩ := probe_inflight orc.allow (popLoop orc.allow ((gatherRtx s orc).1.pending.length + 1) (gatherRtx s orc).1 sel { b := (gatherRtx s orc).2.2 }).1
        (popLoop orc.allow ((gatherRtx s orc).1.pending.length + 1) (gatherRtx s orc).1 sel { b := (gatherRtx s orc).2.2 }).2.1
        (popLoop orc.allow ((gatherRtx s orc).1.pending.length + 1) (gatherRtx s orc).1 sel { b := (gatherRtx s orc).2.2 }).2.2
      rw [b2, b1, a2, a1]
      simp [hr]
    · simp [hr]


/-! ### MTU bound of a gather, for ANY state (no invariant needed) -/

theorem gatherNew_fit {B : Type} (allow : B → Int → Bool × B) (b : B) (s : St) (sel : List Nat) :
    (gatherNew s allow b sel).1.cfg = s.cfg ∧
    AllFit s.cfg.mtu s.cfg.useInterleaving ((gatherNew s allow b sel).2.admits.map (·.chunk)) :=
  ⟨(gatherNew_spec allow b s sel).1, (gatherNew_spec allow b s sel).2.2.1⟩

/-- every packet of a gather is non-empty and within the MTU, whatever the state and the oracles -/
theorem gather_packets_fit (s : St) (orc : Oracle) (sel : List Nat) :
    ∀ p ∈ (gather s orc sel).2.packets, p ≠ [] ∧ marshalLen s.cfg.useInterleaving p ≤ (s.cfg.mtu.toNat : Int) := by
  unfold gather
  split
  · intro p hp; simp [GatherOut.packets] at hp
  · intro p hp
    simp only [GatherOut.packets, List.mem_append] at hp
    have a6 := (gatherRtx_frame s orc).cfg
    have hfitR := gatherRtx_fit s orc
    obtain ⟨n3, hfitN⟩ := gatherNew_fit orc.allow (gatherRtx s orc).2.2 (gatherRtx s orc).1 sel
    rw [a6] at hfitN n3
    have hfitF := gatherFast_fit (gatherNew (gatherRtx s orc).1 orc.allow (gatherRtx s orc).2.2 sel).1 orc.allow
        (gatherNew (gatherRtx s orc).1 orc.allow (gatherRtx s orc).2.2 sel).2.b
    rw [n3] at hfitF
    have fin : ∀ l : List Chunk, AllFit s.cfg.mtu s.cfg.useInterleaving l → p ∈ bundle s.cfg.mtu s.cfg.useInterleaving l [] hdr →
        p ≠ [] ∧ marshalLen s.cfg.useInterleaving p ≤ (s.cfg.mtu.toNat : Int) := by
      intro l hl hp
      refine ⟨bundle_nonempty _ _ l [] hdr (by simp [sipSum]) hl (Or.inr rfl) p hp, ?_⟩
      rw [marshalLen_eq]
      refine bundle_fits _ _ l [] hdr (by simp [sipSum]) ?_ hl p hp
      simp only [sipSum, hdr, commonHeaderSize]
      by_cases hl0 : l = []
      · subst hl0; simp [bundle] at hp
      · obtain ⟨c, hc⟩ := List.exists_mem_of_ne_nil l hl0
        have := hl c hc
        have := (sizeInPacket_nonneg s.cfg.useInterleaving c).1
        simp only [hdr, commonHeaderSize] at *
        omega
    rcases hp with (hp | hp) | hp
    · exact fin _ hfitR hp
    · split at hp
      · simp at hp
      · exact fin _ hfitN hp
    · split at hp
      · simp at hp
      · exact fin _ hfitF hp

end SenderProofs
