import SctpVerif.Proofs.Sender.AdvMsg
import SctpVerif.Proofs.Sender.Rtx
/-! Progress lemmas for the sender half (used by `Props/C02.lean`): T3 marks everything outstanding; the lowest marked chunk
is retransmitted whatever the windows are; the zero-window probe; a cumulative SACK removes what it covers; the
"gather, then acknowledge everything in flight" rounds drain every reachable state. -/
namespace SenderProofs
open Gen Sender

/-! ### T3 -/

theorem iter_succ' (f : St → St) (n : Nat) (s : St) : iter f (n + 1) s = f (iter f n s) := by
  induction n generalizing s with
  | zero => rfl
  | succ n ih =>
    show iter f (n + 1) (f s) = f (iter f (n + 1) s)
    rw [ih (f s)]
    rfl

/-- after T3 every in-flight chunk that is neither acked nor abandoned is flagged for retransmission -/
theorem t3_marks_all (s : St) : ∀ c ∈ (t3 s).inflight, c.acked = false → (t3 s).abandoned c = false → c.retransmit = true := by
  intro c hc ha hb
  rw [t3_inflight] at hc
  obtain ⟨c0, _, e⟩ := List.mem_map.mp hc
  have hab : (t3 s).abandoned c = s.abandoned c0 := by
    show isAbandoned (t3 s).abandonedMsgs (t3 s).allInflightMsgs c = isAbandoned s.abandonedMsgs s.allInflightMsgs c0
    rw [(t3_kept s).1.abandonedMsgs, (t3_kept s).1.allInflightMsgs]
    have : c.msg = c0.msg := by rw [← e]; split <;> rfl
    simp only [isAbandoned, this]
  by_cases h : (c0.acked || s.abandoned c0) = true
  · rw [if_pos h] at e
    subst e
    rw [hab] at hb
    simp only [Bool.or_eq_true] at h
    rcases h with h | h
    · rw [h] at ha; cases ha
    · rw [h] at hb; cases hb
  · rw [if_neg h] at e
    rw [← e]

/-! ### shape of an accepted SACK -/

/-- an accepted SACK on a reachable state drops exactly the chunks up to its cumulative TSN and rewrites the rest pointwise -/
theorem sack_ok_evol (s : St) (cum arwnd : BitVec 32) (gaps : List (BitVec 16 × BitVec 16)) (marks : List (BitVec 32))
    (hs : Seq s) (hsm : s.inflight.length < 2^31) (hm : CfgOk s.cfg) (he : s.established = true) (hst : sna32GT s.cumAck cum = false)
    (hv : validate s cum gaps = true) :
    (sack s cum arwnd gaps marks).2 = .ok ∧
    ∃ k, QEv k s (sack s cum arwnd gaps marks).1 ∧ cum = s.cumAck + BitVec.ofNat 32 k ∧ (sack s cum arwnd gaps marks).1.cumAck = cum := by
  have hok : (sack s cum arwnd gaps marks).2 = .ok := by
    rcases sack_cases s cum arwnd gaps marks hs hsm with ⟨_, _, _, h | h | h⟩ | ⟨hok, _⟩
    · rw [he] at h; cases h
    · rw [hst] at h; cases h
    · rw [hv] at h; cases h
    · exact hok
  obtain ⟨x, k, hfin, hq, hcum, hxc, _, _, _⟩ := sack_ok_mid s cum arwnd gaps marks hs hsm hok
  obtain ⟨a, b, hp⟩ := prStep_only x
  rw [hfin, hp]
  exact ⟨hok, k, (hq.then (QEv.of_eq rfl)).then (QEv.of_fl (applyMarks_fl _ marks)), hcum, hxc⟩

/-- an accepted SACK on a reachable state: `k` chunks are popped from the front, the rest of the queue keeps its
identities; pending queue, configuration, state and the SACK's cumulative point are as expected -/
theorem sack_ok_shape (s : St) (cum arwnd : BitVec 32) (gaps : List (BitVec 16 × BitVec 16)) (marks : List (BitVec 32))
    (hs : Seq s) (hsm : s.inflight.length < 2^31) (hm : CfgOk s.cfg) (he : s.established = true) (hst : sna32GT s.cumAck cum = false)
    (hv : validate s cum gaps = true) :
    (sack s cum arwnd gaps marks).2 = .ok ∧
    ∃ k, k ≤ s.inflight.length ∧ cum = s.cumAck + BitVec.ofNat 32 k ∧
      (sack s cum arwnd gaps marks).1.inflight.map Chunk.ident = (s.inflight.drop k).map Chunk.ident ∧
      (sack s cum arwnd gaps marks).1.cumAck = cum ∧ (sack s cum arwnd gaps marks).1.pending = s.pending ∧
      (sack s cum arwnd gaps marks).1.established = true := by
  obtain ⟨hok, k, hq, hcum, hca⟩ := sack_ok_evol s cum arwnd gaps marks hs hsm hm he hst hv
  exact ⟨hok, k, hq.1, hcum, hq.ident, hca, sack_pending s cum arwnd gaps marks, (sack_kept s cum arwnd gaps marks).established.trans he⟩

/-! ### the lowest flagged chunk is retransmitted -/

theorem scanLoop_out_prefix {B : Type} (s : St) (dec : Int → LoopAcc B → Chunk → Take B) (upd : Chunk → Chunk) (i : Int) (q : List Chunk)
    (a : LoopAcc B) : ∃ tl, (scanLoop s dec upd i q a).2.out = a.out ++ tl := by
  induction q generalizing i a with
  | nil => exact ⟨[], by simp [scanLoop]⟩
  | cons c rest ih =>
    simp only [scanLoop]
    cases hd : dec i a c with
    | skip => exact ih _ _
    | stop b => exact ⟨[], by simp⟩
    | take b bip =>
      obtain ⟨tl, h⟩ := ih (i + 1) (LoopAcc.mk b (a.bytesToSend + (c.len : Int)) bip (a.size + c.sizeInPacket s.cfg.useInterleaving)
        (a.out ++ [upd c]) (checkPR s a.aband (upd c)))
      exact ⟨upd c :: tl, by simp only; rw [h]; simp⟩

/-- the shared tail of the gather loops for the first chunk of a packet that fits and that the budget allows -/
theorem packAllow_first {B : Type} (allow : B → Int → Bool × B) (b : B) (cb : Int) (mtu : BitVec 32) (full : Bool)
    (hfit : hdr + cb ≤ (mtu.toNat : Int)) (hal : (allow b (cb + hdr)).1 = true) :
    packAllow allow b 0 cb full (decide (cb + hdr > (mtu.toNat : Int))) = .take (allow b (cb + hdr)).2 (hdr + cb) := by
  have h1 : decide (cb + hdr > (mtu.toNat : Int)) = false := by simp; omega
  simp [packAllow, bip0, h1, hal]

theorem rtx_first {B : Type} (s : St) (allow : B → Int → Bool × B) (awnd : BitVec 32) (pre : List Chunk) (c : Chunk) (post : List Chunk)
    (i : Int) (a : LoopAcc B) (hpre : ∀ x ∈ pre, x.retransmit = false) (hc : c.retransmit = true)
    (hnab : isAbandoned a.aband s.allInflightMsgs c = false)
    (ha : a.bytesToSend = 0 ∧ a.bip = 0)
    (hwin : rtx_isProbe (i + (pre.length : Int)) s.rwnd (c.len : Int) = true ∨ rtx_exceedsWindow 0 (c.len : Int) awnd = false)
    (hfit : hdr + c.sizeInPacket s.cfg.useInterleaving ≤ (s.cfg.mtu.toNat : Int))
    (hal : (allow a.b (c.sizeInPacket s.cfg.useInterleaving + hdr)).1 = true) :
    ∃ tl, (scanLoop s (rtxDecide s allow awnd) (rtxUpd s) i (pre ++ c :: post) a).2.out = a.out ++ rtxUpd s c :: tl := by
  induction pre generalizing i with
  | nil =>
    simp only [List.nil_append, scanLoop]
    have hd : rtxDecide s allow awnd i a c =
        .take (allow a.b (c.sizeInPacket s.cfg.useInterleaving + hdr)).2 (hdr + c.sizeInPacket s.cfg.useInterleaving) := by
      unfold rtxDecide
      simp only [hc, Bool.not_true, Bool.false_eq_true, if_false, hnab]
      have hw : (!(rtx_isProbe i s.rwnd (c.len : Int)) && rtx_exceedsWindow a.bytesToSend (c.len : Int) awnd) = false := by
        rw [ha.1]
        rcases hwin with h | h
        · simp only [List.length_nil, Int.natCast_zero, Int.add_zero] at h
          rw [h]; rfl
        · rw [h]; simp
      rw [hw]
      simp only [Bool.false_eq_true, if_false, ha.2]
      exact packAllow_first allow a.b _ s.cfg.mtu _ hfit hal
    rw [hd]
    simp only
    obtain ⟨tl, h⟩ := scanLoop_out_prefix s (rtxDecide s allow awnd) (rtxUpd s) (i + 1) post
      (LoopAcc.mk (allow a.b (c.sizeInPacket s.cfg.useInterleaving + hdr)).2 (a.bytesToSend + (c.len : Int))
        (hdr + c.sizeInPacket s.cfg.useInterleaving) (a.size + c.sizeInPacket s.cfg.useInterleaving)
        (a.out ++ [rtxUpd s c]) (checkPR s a.aband (rtxUpd s c)))
    exact ⟨tl, by rw [h]; simp⟩
  | cons x pre' ih =>
    simp only [List.cons_append, scanLoop]
    have hx : rtxDecide s allow awnd i a x = .skip := by
      unfold rtxDecide
      simp [hpre x (by simp)]
    rw [hx]
    simp only
    apply ih (i + 1) (fun y hy => hpre y (by simp [hy]))
    simp only [List.length_cons, Int.natCast_add, Int.natCast_one] at hwin
    have e : i + 1 + (pre'.length : Int) = i + ((pre'.length : Int) + 1) := by omega
    rw [e]; exact hwin

theorem scanSplit_seq (s : St) (hs : Seq s) : scanSplit s = ([], s.inflight) := by
  unfold scanSplit
  cases hq : s.inflight with
  | nil => simp [Sender.get]
  | cons f r =>
    have h0 : (s.cumAck + 1 - (s.cumAck + 1)).toNat = 0 := by simp
    have hc : Contig (f :: r) (s.cumAck + 1) := by rw [← hq]; exact hs.1
    cases hg : Sender.get (f :: r) (s.cumAck + 1) with
    | none =>
      have := get_of_lt hc (show (s.cumAck + 1 - (s.cumAck + 1)).toNat < (f :: r).length by rw [h0]; simp)
      rw [hg] at this; cases this
    | some oc =>
      obtain ⟨o1, _, _⟩ := get_off hc hg
      rw [h0] at o1
      simp [o1]

/-- **`getDataPacketsToRetransmit` sends the lowest flagged chunk** (flagged chunks are never abandoned when they are flagged; one
that was abandoned afterwards is skipped — hypothesis `hnab`) when it is the earliest outstanding chunk and the peer
window is smaller than it (probe), or when it fits `min(cwnd, rwnd)` — provided it fits the MTU and the burst budget
allows a first chunk -/
theorem gatherRtx_lowest (s : St) (orc : Oracle) (hs : Seq s) (pre : List Chunk) (c : Chunk) (post : List Chunk)
    (hq : s.inflight = pre ++ c :: post) (hpre : ∀ x ∈ pre, x.retransmit = false) (hc : c.retransmit = true)
    (hnab : s.abandoned c = false)
    (hwin : (pre = [] ∧ s.rwnd.toNat < c.len) ∨ c.len ≤ (min32 s.cwnd s.rwnd).toNat)
    (hfit : hdr + c.sizeInPacket s.cfg.useInterleaving ≤ (s.cfg.mtu.toNat : Int))
    (hal : (orc.allow orc.b (c.sizeInPacket s.cfg.useInterleaving + hdr)).1 = true) :
    ∃ tl, (gatherRtx s orc).2.1 = rtxUpd s c :: tl := by
  have := rtx_first s orc.allow (rtx_awnd s.cwnd s.rwnd) pre c post 0 { b := orc.b, aband := s.abandonedMsgs } hpre hc hnab ⟨rfl, rfl⟩
    (by
      rcases hwin with ⟨h1, h2⟩ | h
      · left
        subst h1
        simp only [rtx_isProbe, List.length_nil, Int.natCast_zero, Int.add_zero, beq_self_eq_true, Bool.true_and, decide_eq_true_eq]
        exact Int.ofNat_lt.mpr h2
      · right
        simp only [rtx_exceedsWindow, rtx_awnd]
        have h' : (c.len : Int) ≤ ((min32 s.cwnd s.rwnd).toNat : Int) := Int.ofNat_le.mpr h
        simp only [decide_eq_false_iff_not, Int.not_lt, gt_iff_lt]
        omega)
    hfit hal
  obtain ⟨tl, h⟩ := this
  refine ⟨tl, ?_⟩
  show (scanLoop s _ _ 0 (scanSplit s).2 _).2.out = _
  rw [scanSplit_seq s hs, hq, h]
  rfl

theorem bundle_cur_head (mtu : BitVec 32) (il : Bool) (chunks cur : List Chunk) (bip : Int) (hcur : cur ≠ []) :
    ∃ p rest, bundle mtu il chunks cur bip = (cur ++ p) :: rest := by
  induction chunks generalizing cur bip with
  | nil =>
    simp only [bundle]
    have : cur.isEmpty = false := by cases cur with | nil => exact absurd rfl hcur | cons _ _ => rfl
    rw [this]
    exact ⟨[], [], by simp⟩
  | cons c r ih =>
    simp only [bundle]
    split
    · exact ⟨[], bundle mtu il r [c] (hdr + c.sizeInPacket il), by simp⟩
    · obtain ⟨p, rest, h⟩ := ih (cur ++ [c]) (bip + c.sizeInPacket il) (by simp)
      exact ⟨c :: p, rest, by rw [h]; simp⟩

/-- the first packet `bundleDataChunksIntoPackets` builds starts with the first chunk it is given (if that chunk fits a packet) -/
theorem bundle_head (mtu : BitVec 32) (il : Bool) (c : Chunk) (r : List Chunk) (hfit : hdr + c.sizeInPacket il ≤ (mtu.toNat : Int)) :
    ∃ p rest, bundle mtu il (c :: r) [] hdr = (c :: p) :: rest := by
  simp only [bundle]
  have : bundle_packetFull hdr (c.sizeInPacket il) mtu = false := by
    simp only [bundle_packetFull, decide_eq_false_iff_not, Int.not_lt]; omega
  rw [this]
  simp only [Bool.false_eq_true, if_false, List.nil_append]
  obtain ⟨p, rest, h⟩ := bundle_cur_head mtu il r [c] (hdr + c.sizeInPacket il) (by simp)
  exact ⟨p, rest, by rw [h]; simp⟩

/-! ### a cumulative SACK removes what it covers -/

theorem sumLen_take_drop (l : List Chunk) (k : Nat) : sumLen (l.take k) + sumLen (l.drop k) = sumLen l := by
  rw [← sumLen_append, List.take_append_drop]

/-- **a SACK whose cumulative TSN covers the lowest outstanding chunk removes it**: `k ≥ 1` chunks leave the queue
and the byte counter of the in-flight queue falls by at least their bytes -/
theorem sack_ack_progress (s : St) (cum arwnd : BitVec 32) (gaps : List (BitVec 16 × BitVec 16)) (marks : List (BitVec 32))
    (hs : Seq s) (hsm : s.inflight.length < 2^31) (hm : CfgOk s.cfg) (hc : Core s) (he : s.established = true)
    (hlt : sna32LT s.cumAck cum = true) (hv : validate s cum gaps = true) :
    (sack s cum arwnd gaps marks).2 = .ok ∧
    ∃ k, 1 ≤ k ∧ (sack s cum arwnd gaps marks).1.inflight.length + k = s.inflight.length ∧
      (sack s cum arwnd gaps marks).1.cumAck = s.cumAck + BitVec.ofNat 32 k ∧
      (sack s cum arwnd gaps marks).1.infBytes + (sumLen (s.inflight.take k) : Int) ≤ s.infBytes := by
  obtain ⟨hok, k, hq, hcum, hca⟩ := sack_ok_evol s cum arwnd gaps marks hs hsm hm he (Sna.gt32_false_of_lt32 hlt) hv
  refine ⟨hok, k, ?_, hq.length, by rw [hca, hcum], ?_⟩
  · rcases Nat.eq_zero_or_pos k with h0 | h0
    · rw [h0, show BitVec.ofNat 32 0 = 0#32 from rfl, BitVec.add_zero] at hcum
      rw [hcum] at hlt
      simp [sna32LT] at hlt
    · exact h0
  · -- the byte counter is the sum of the lengths; what is left of the queue holds no more bytes than it did
    have hle : (sumLen (sack s cum arwnd gaps marks).1.inflight : Int) ≤ (sumLen (s.inflight.drop k) : Int) := Int.ofNat_le.mpr hq.2.sumLen_le
    have htd : (sumLen (s.inflight.take k) : Int) + (sumLen (s.inflight.drop k) : Int) = (sumLen s.inflight : Int) := by
      rw [← sumLen_take_drop s.inflight k]; push_cast; rfl
    rw [(sack_core s cum arwnd gaps marks hc hm).inf, hc.inf]
    omega

/-! ### counting chunks across a gather -/

/-- chunks only move from pending to in flight -/
def PRel (s s' : St) : Prop :=
  s'.inflight.length + s'.pending.length ≤ s.inflight.length + s.pending.length ∧ (∀ c ∈ s'.pending, c ∈ s.pending) ∧
  s'.pending.length ≤ s.pending.length

theorem PRel.refl (s : St) : PRel s s := ⟨Nat.le_refl _, fun _ h => h, Nat.le_refl _⟩
theorem PRel.trans {a b c : St} (h1 : PRel a b) (h2 : PRel b c) : PRel a c :=
  ⟨Nat.le_trans h2.1 h1.1, fun x hx => h1.2.1 x (h2.2.1 x hx), Nat.le_trans h2.2.2 h1.2.2⟩

theorem PRel.of_same {s s' : St} (hi : s'.inflight.length = s.inflight.length) (hp : s'.pending = s.pending) : PRel s s' :=
  ⟨by rw [hi, hp]; exact Nat.le_refl _, fun c h => by rw [← hp]; exact h, by rw [hp]; exact Nat.le_refl _⟩

theorem popPend_prel (s : St) (i : Nat) (c : Chunk) : PRel s (popPend s i c) := by
  have : (s.pending.eraseIdx i).length ≤ s.pending.length := List.length_eraseIdx_le _ _
  exact ⟨by simp only [popPend]; omega, fun x hx => mem_eraseIdx hx, this⟩

theorem move_prel (s : St) (i : Nat) (c : Chunk) (hp : s.pending[i]? = some c) :
    PRel s (move s i c).1 ∧ (move s i c).1.pending.length + 1 = s.pending.length := by
  have hi : i < s.pending.length := by
    rcases Nat.lt_or_ge i s.pending.length with h | h
    · exact h
    · rw [List.getElem?_eq_none h] at hp; cases hp
  have hl : (s.pending.eraseIdx i).length = s.pending.length - 1 := by rw [List.length_eraseIdx]; simp [hi]
  refine ⟨⟨?_, fun x hx => mem_eraseIdx hx, ?_⟩, ?_⟩
  · simp only [move, popPend, List.length_append, List.length_singleton]; omega
  · simp only [move, popPend]; omega
  · simp only [move, popPend]; omega

theorem popLoop_prel {B : Type} (allow : B → Int → Bool × B) (fuel : Nat) (s : St) (sel : List Nat) (a : PopAcc B) :
    PRel s (popLoop allow fuel s sel a).1 :=
  popLoop_rule allow (fun x _ => PRel s x) (fun x i c _ h _ _ => h.trans (popPend_prel x i c)) (fun _ _ _ h => h)
    (fun x i c _ _ _ h hp _ _ => (h.trans (PRel.of_same rfl rfl : PRel x (chargeSend x c))).trans (move_prel _ i c hp).1) fuel s sel a (PRel.refl s)

theorem gatherNew_prel {B : Type} (s : St) (allow : B → Int → Bool × B) (b : B) (sel : List Nat) : PRel s (gatherNew s allow b sel).1 :=
  gatherNew_rule (P := PRel s) ⟨fun x i c h _ _ => h.trans (popPend_prel x i c), fun _ _ h => h.trans (PRel.of_same rfl rfl),
    fun _ _ h => h.trans (PRel.of_same rfl rfl), fun x i c h hp => h.trans (move_prel x i c hp).1⟩ allow b s sel (PRel.refl s)

theorem gather_prel (s : St) (orc : Oracle) (sel : List Nat) : PRel s (gather s orc sel).1 := by
  by_cases he : s.established = true
  · rw [(gather_eq s orc sel he).1]
    have g1 : PRel s (gatherRtx s orc).1 := PRel.of_same (gatherRtx_fl s orc).length rfl
    have g2 := g1.trans (gatherNew_prel _ orc.allow (gatherRtx s orc).2.2 sel)
    have g3 : PRel (gatherNew (gatherRtx s orc).1 orc.allow (gatherRtx s orc).2.2 sel).1 (gatherPre s orc sel) := by
      have f := gatherFast_frame (gatherNew (gatherRtx s orc).1 orc.allow (gatherRtx s orc).2.2 sel).1 orc.allow
        (gatherNew (gatherRtx s orc).1 orc.allow (gatherRtx s orc).2.2 sel).2.b
      unfold gatherPre
      exact PRel.of_same (by simpa using congrArg List.length f.core) f.pending
    exact (g2.trans g3).trans (PRel.of_same rfl rfl)
  · unfold gather
    simp only [he, Bool.not_false, if_true]
    exact PRel.refl s

/-! ### the zero-window probe: with nothing in flight a gather always admits a chunk -/

theorem gatherRtx_nil (s : St) (orc : Oracle) (h : s.inflight = []) : gatherRtx s orc = (s, [], orc.b) := by
  have hsp : scanSplit s = ([], []) := by unfold scanSplit; rw [h]; rfl
  unfold gatherRtx
  simp only [hsp, scanLoop, List.append_nil]
  congr 1
  cases s
  simp_all

theorem ofNat_len_ne_zero (n : Nat) (h0 : 0 < n) (h1 : n < 2^32) : (BitVec.ofNat 32 n == 0) = false := by
  have : (BitVec.ofNat 32 n).toNat = n := by simp [BitVec.toNat_ofNat]; omega
  cases hb : (BitVec.ofNat 32 n == 0) with
  | false => rfl
  | true =>
    have := congrArg BitVec.toNat (beq_iff_eq.mp hb)
    simp at this; omega

/-- what `popDecide` can answer when the chunk would open a packet, fits the MTU and the budget allows it -/
theorem popDecide_first {B : Type} (s : St) (allow : B → Int → Bool × B) (a : PopAcc B) (c : Chunk) (ha : a.bip = 0)
    (hfit : hdr + c.sizeInPacket s.cfg.useInterleaving ≤ (s.cfg.mtu.toNat : Int))
    (hal : (allow a.b (c.sizeInPacket s.cfg.useInterleaving + hdr)).1 = true) :
    popDecide s allow a c = .stop a.b ∨
    popDecide s allow a c = .take (allow a.b (c.sizeInPacket s.cfg.useInterleaving + hdr)).2 (hdr + c.sizeInPacket s.cfg.useInterleaving) := by
  unfold popDecide
  simp only
  split
  · exact Or.inl rfl
  · split
    · exact Or.inl rfl
    · right
      rw [ha]
      exact packAllow_first allow a.b _ s.cfg.mtu _ hfit hal

theorem probe_fires {B : Type} (allow : B → Int → Bool × B) (s : St) (sel : List Nat) (b : B) (sis : List (BitVec 16)) (i : Nat) (c : Chunk)
    (hin : s.inflight = []) (hp : peek s sel = some (i, c)) (hl0 : 0 < c.len)
    (hfit : hdr + c.sizeInPacket s.cfg.useInterleaving ≤ (s.cfg.mtu.toNat : Int))
    (hal : (allow b (c.sizeInPacket s.cfg.useInterleaving + hdr)).1 = true) :
    (probe allow s sel { b := b, sisToReset := sis }).1 = (admitProbe s i c).1 ∧
    (probe allow s sel { b := b, sisToReset := sis }).2.2.admits = [mkAdmit s (admitProbe s i c).2 true] := by
  unfold probe
  have e : hdr + c.sizeInPacket s.cfg.useInterleaving = c.sizeInPacket s.cfg.useInterleaving + hdr := Int.add_comm _ _
  simp only [List.isEmpty_nil, hin, List.length_nil, beq_self_eq_true, Bool.and_self, if_true, hp, hl0,
    popPending_probeAllowedSize, Bool.and_true, decide_eq_true_eq, e ▸ hfit, e, hal, List.nil_append]
  simp only [and_self]

/-- **With nothing in flight and something pending, `popPendingDataChunksToSend` admits at least one chunk**, whatever
cwnd and rwnd are: by the rule if both windows admit it, otherwise as the zero-window probe. -/
theorem gatherNew_progress {B : Type} (s : St) (allow : B → Int → Bool × B) (b : B) (sel : List Nat) (i : Nat) (c : Chunk)
    (hin : s.inflight = []) (hpen : s.penChunks > 0) (hp : peek s sel = some (i, c)) (hl0 : 0 < c.len) (hl1 : c.len < 2^32)
    (hfit : hdr + c.sizeInPacket s.cfg.useInterleaving ≤ (s.cfg.mtu.toNat : Int))
    (hal : (allow b (c.sizeInPacket s.cfg.useInterleaving + hdr)).1 = true) :
    (gatherNew s allow b sel).1.pending.length < s.pending.length ∧ (gatherNew s allow b sel).2.admits ≠ [] ∧
    ((popPending_exceedsCwnd s.infBytes (BitVec.ofNat 32 c.len) s.cwnd = true ∨ popPending_exceedsRwnd (BitVec.ofNat 32 c.len) s.rwnd = true) →
      (gatherNew s allow b sel).2.admits = [mkAdmit s (admitProbe s i c).2 true]) := by
  have hpi := peek_some hp
  have hnz := ofNat_len_ne_zero c.len hl0 hl1
  unfold gatherNew
  rw [if_pos hpen]
  simp only
  -- first iteration of the loop
  have hloop : popLoop allow (s.pending.length + 1) s sel { b := b } =
      match popDecide s allow { b := b } c with
      | .skip => (s, sel, { b := b })
      | .stop b' => (s, sel, { b := b' })
      | .take b' bip => popLoop allow s.pending.length (admitChunk s i c).1 sel.tail
          { b := b', bip := bip, admits := [mkAdmit s (admitChunk s i c).2 false] } := by
    simp only [popLoop, hp, hnz, Bool.false_eq_true, if_false]
    cases popDecide s allow { b := b } c <;> simp
  rcases popDecide_first s allow { b := b } c rfl hfit hal with hd | hd
  · -- the loop stops at the first chunk: the probe fires
    rw [hloop, hd]
    simp only
    obtain ⟨q1, q2⟩ := probe_fires allow s sel b [] i c hin hp hl0 hfit hal
    rw [q1, q2]
    refine ⟨?_, by simp, fun _ => rfl⟩
    have := (move_prel (chargeProbe s c) i c hpi).2
    show (move (chargeProbe s c) i c).1.pending.length < s.pending.length
    have e : (chargeProbe s c).pending = s.pending := rfl
    rw [e] at this; omega
  · -- admitted by the rule; more may follow; the probe does not apply
    rw [hloop, hd]
    simp only
    obtain ⟨new, n1, n2⟩ := popLoop_inflight allow s.pending.length (admitChunk s i c).1 sel.tail
      (PopAcc.mk (allow b (c.sizeInPacket s.cfg.useInterleaving + hdr)).2 (hdr + c.sizeInPacket s.cfg.useInterleaving)
        [mkAdmit s (admitChunk s i c).2 false] [])
    have hle := (popLoop_prel allow s.pending.length (admitChunk s i c).1 sel.tail
      (PopAcc.mk (allow b (c.sizeInPacket s.cfg.useInterleaving + hdr)).2 (hdr + c.sizeInPacket s.cfg.useInterleaving)
        [mkAdmit s (admitChunk s i c).2 false] [])).2.2
    have hmv := (move_prel (chargeSend s c) i c hpi).2
    have e : (chargeSend s c).pending = s.pending := rfl
    rw [e] at hmv
    have hmv' : (admitChunk s i c).1.pending.length + 1 = s.pending.length := hmv
    generalize popLoop allow s.pending.length (admitChunk s i c).1 sel.tail
      (PopAcc.mk (allow b (c.sizeInPacket s.cfg.useInterleaving + hdr)).2 (hdr + c.sizeInPacket s.cfg.useInterleaving)
        [mkAdmit s (admitChunk s i c).2 false] []) = R at n1 n2 hle
    obtain ⟨R1, R2, R3⟩ := R
    simp only at n1 n2 hle ⊢
    have hne : R3.admits.isEmpty = false := by rw [n1]; rfl
    have hpr : probe allow R1 R2 R3 = (R1, R2, R3) := by
      unfold probe
      simp [hne]
    rw [hpr]
    refine ⟨by simp only; omega, by simp only; rw [n1]; simp, ?_⟩
    intro hex
    exfalso
    have := popDecide_take s allow { b := b } c hd
    rcases hex with h | h
    · rw [this.1] at h; cases h
    · rw [this.2] at h; cases h

theorem gather_progress (s : St) (orc : Oracle) (sel : List Nat) (i : Nat) (c : Chunk) (he : s.established = true)
    (hin : s.inflight = []) (hpen : s.penChunks > 0) (hp : peek s sel = some (i, c)) (hl0 : 0 < c.len) (hl1 : c.len < 2^32)
    (hfit : hdr + c.sizeInPacket s.cfg.useInterleaving ≤ (s.cfg.mtu.toNat : Int))
    (hal : (orc.allow orc.b (c.sizeInPacket s.cfg.useInterleaving + hdr)).1 = true) :
    (gather s orc sel).1.pending.length < s.pending.length ∧ (gather s orc sel).2.admits ≠ [] ∧
    ((popPending_exceedsCwnd s.infBytes (BitVec.ofNat 32 c.len) s.cwnd = true ∨ popPending_exceedsRwnd (BitVec.ofNat 32 c.len) s.rwnd = true) →
      (gather s orc sel).2.admits = [mkAdmit s (admitProbe s i c).2 true]) := by
  have hg : (gather s orc sel).2.admits = (gatherNew s orc.allow orc.b sel).2.admits ∧
      (gather s orc sel).1.pending = (gatherNew s orc.allow orc.b sel).1.pending := by
    rw [(gather_eq s orc sel he).1]
    unfold gather gatherPre
    simp only [he, Bool.not_true, Bool.false_eq_true, if_false, gatherRtx_nil s orc hin]
    exact ⟨trivial, (gatherFast_frame _ orc.allow _).pending⟩
  rw [hg.1, hg.2]
  exact gatherNew_progress s orc.allow orc.b sel i c hin hpen hp hl0 hl1 hfit hal

/-! ### every pending chunk carries data and fits a packet -/

/-- the fragment size the association uses is not larger than what `maxPayloadSizeForMTU` computes for its MTU -/
def CfgFit (cfg : Cfg) : Prop := cfg.maxPayload.toNat ≤ (maxPayloadSizeForMTU cfg.mtu cfg.useInterleaving).toNat

def PendFit (s : St) : Prop :=
  ∀ c ∈ s.pending, 0 < c.len ∧ hdr + c.sizeInPacket s.cfg.useInterleaving ≤ (s.cfg.mtu.toNat : Int)

theorem peek_of_pick (s : St) (sel : List Nat) (i : Nat) (rest : List Nat) (hsel : sel = i :: rest) (hi : i < s.pending.length) :
    peek s sel = some (i, s.pending[i]) := by
  subst hsel
  simp [peek, List.getElem?_eq_getElem hi]

/-- the zero-window probe for a chunk `peek` hands out: `gather_progress` with its premises read off the books and `PendFit` -/
theorem gather_progress_at (s : St) (orc : Oracle) (i : Nat) (rest : List Nat) (hc : Core s) (hf : PendFit s) (he : s.established = true)
    (hin : s.inflight = []) (hi : i < s.pending.length)
    (hal : (orc.allow orc.b ((s.pending[i]).sizeInPacket s.cfg.useInterleaving + hdr)).1 = true) :
    (gather s orc (i :: rest)).1.pending.length < s.pending.length ∧ (gather s orc (i :: rest)).2.admits ≠ [] ∧
    ((popPending_exceedsCwnd s.infBytes (BitVec.ofNat 32 (s.pending[i]).len) s.cwnd = true ∨
        popPending_exceedsRwnd (BitVec.ofNat 32 (s.pending[i]).len) s.rwnd = true) →
      (gather s orc (i :: rest)).2.admits = [mkAdmit s (admitProbe s i s.pending[i]).2 true]) := by
  have hmem : s.pending[i] ∈ s.pending := List.getElem_mem hi
  obtain ⟨l0, lfit⟩ := hf _ hmem
  have hpen : s.penChunks > 0 := by
    rw [hc.penN]
    have : 0 < s.pending.length := by omega
    omega
  exact gather_progress s orc (i :: rest) i s.pending[i] he hin hpen (peek_of_pick s (i :: rest) i rest rfl hi) l0 (hc.penSmall _ hmem).1 lfit hal

theorem write_pending (s : St) (si : BitVec 16) (ppi : BitVec 32) (len : Nat) :
    (write s si ppi len).1.pending = s.pending ∨
    ∃ new, (write s si ppi len).1.pending = s.pending ++ new ∧ ∀ c ∈ new, 0 < c.len ∧ c.len ≤ s.cfg.maxPayload.toNat := by
  rcases write_eq s si ppi len with ⟨h, _⟩ | ⟨st, _, _, _, hmp, ⟨_, _, h⟩ | ⟨_, _, h⟩⟩ <;> rw [h]
  · exact Or.inl rfl
  · refine Or.inr ⟨(packetize s.cfg st si s.nextMsg ppi len).chunks, rfl, fun c hc => ?_⟩
    have := (packetize_spec s.cfg st si s.nextMsg ppi len hmp).2.2.2.2.2.1 c hc
    exact ⟨this.1, this.2.1⟩
  · exact Or.inl rfl

theorem iter_t3_pending (n : Nat) (s : St) : (iter t3 n s).pending = s.pending := by
  induction n generalizing s with
  | zero => rfl
  | succ n ih => simp only [iter]; rw [ih, (t3_ident s).2.1]

theorem step_pendfit (s : St) (op : Op) (hm : CfgOk s.cfg) (hf : CfgFit s.cfg) (h : PendFit s) : PendFit (step s op) := by
  have hcfg := step_cfg_eq s op hm
  unfold PendFit
  rw [hcfg]
  have same : (step s op).pending = s.pending → ∀ c ∈ (step s op).pending, 0 < c.len ∧ hdr + c.sizeInPacket s.cfg.useInterleaving ≤ (s.cfg.mtu.toNat : Int) :=
    fun e c hc => h c (by rw [← e]; exact hc)
  cases op with
  | openS si u rt rv th => exact same rfl
  | unreg si =>
    apply same
    simp only [step, unregister]
    split <;> rfl
  | setEstablished b => exact same rfl
  | write si ppi len =>
    rcases write_pending s si ppi len with e | ⟨new, e, hn⟩
    · exact same e
    · intro c hc
      simp only [step] at hc
      rw [e] at hc
      rcases List.mem_append.mp hc with h1 | h1
      · exact h c h1
      · obtain ⟨l0, l1⟩ := hn c h1
        refine ⟨l0, ?_⟩
        have hle : c.len ≤ (maxPayloadSizeForMTU s.cfg.mtu s.cfg.useInterleaving).toNat := Nat.le_trans l1 hf
        have hmp : maxPayloadSizeForMTU s.cfg.mtu s.cfg.useInterleaving ≠ 0 := by
          intro h0; rw [h0] at hle; simp at hle; omega
        have := fragment_fits s.cfg.mtu s.cfg.useInterleaving c.len hmp hle
        rw [sip_congr s.cfg.useInterleaving ({ len := c.len } : Chunk) c rfl]
        exact this
  | gather orc sel => exact fun c hc => h c ((gather_prel s orc sel).2.1 c hc)
  | sack cum arwnd gaps marks => exact same (sack_pending s cum arwnd gaps marks)
  | t3 => exact same (t3_ident s).2.1
  | tick ms n marks =>
    apply same
    simp only [step]
    show (iter t3 n _).pending = _
    rw [iter_t3_pending]

theorem run_pendfit (s : St) (ops : List Op) (hw : WinInv s) (hf : CfgFit s.cfg) (h : PendFit s) : PendFit (run s ops) := by
  induction ops generalizing s with
  | nil => exact h
  | cons op ops ih =>
    exact ih (step s op) (step_win s op hw).1 (by rw [step_cfg_eq s op hw.cfgOk]; exact hf) (step_pendfit s op hw.cfgOk hf h)

theorem init_pendfit (cfg : Cfg) (tsn peerRwnd : BitVec 32) : PendFit (init cfg tsn peerRwnd) := by
  intro c hc; simp [init] at hc

/-! ### "gather, then acknowledge everything in flight" -/

/-- a state from which the drain argument runs -/
structure Live (s : St) : Prop where
  seq : Seq s
  win : WinInv s
  core : Core s
  fit : PendFit s
  cfgFit : CfgFit s.cfg
  est : s.established = true
  small : s.inflight.length + s.pending.length < 2^31

/-- a reachable sender state is `Live` when it is established and fewer than 2^31 chunks are queued -/
theorem run_live (cfg : Cfg) (tsn peerRwnd : BitVec 32) (hc : CfgOk cfg) (hf : CfgFit cfg) (ops : List Op)
    (hest : (run (init cfg tsn peerRwnd) ops).established = true)
    (hsm : (run (init cfg tsn peerRwnd) ops).inflight.length + (run (init cfg tsn peerRwnd) ops).pending.length < 2^31) :
    Live (run (init cfg tsn peerRwnd) ops) :=
  ⟨run_seq _ ops (init_seq cfg tsn peerRwnd) (init_win cfg tsn peerRwnd hc),
   (run_win _ ops (init_win cfg tsn peerRwnd hc)).1,
   run_core _ ops (init_books cfg tsn peerRwnd).core (init_win cfg tsn peerRwnd hc),
   run_pendfit _ ops (init_win cfg tsn peerRwnd hc) hf (init_pendfit cfg tsn peerRwnd),
   by rw [run_cfg _ ops hc]; exact hf, hest, hsm⟩

/-- with both queues empty the books say that nothing is buffered -/
theorem Core.drained {s : St} (h : Core s) (h1 : s.inflight = []) (h2 : s.pending = []) : s.penBytes + s.infBytes = 0 := by
  rw [h.pen, h.inf, h1, h2]; simp [sumLen]

/-- `Live` across an operation: its five invariants by their step lemmas; left to show is that the association stays
established and the queues stay small -/
theorem Live.step {s : St} (h : Live s) (op : Op) (he : (step s op).established = true)
    (hsm : (step s op).inflight.length + (step s op).pending.length < 2^31) : Live (step s op) :=
  ⟨step_seq s op h.seq h.win.cfgOk, (step_win s op h.win).1, step_core s op h.core h.win.cfgOk, step_pendfit s op h.win.cfgOk h.cfgFit h.fit,
   by rw [step_cfg_eq s op h.win.cfgOk]; exact h.cfgFit, he, hsm⟩

theorem live_t3 {s : St} (h : Live s) : Live (t3 s) := by
  refine h.step .t3 ?_ (by show (t3 s).inflight.length + (t3 s).pending.length < _; rw [(t3_fl s).length, (t3_ident s).2.1]; exact h.small)
  obtain ⟨x, _, _, _, _, _, _, e, hx⟩ := t3_shape s
  show (t3 s).established = true
  rw [e, hx]; exact h.est

theorem live_gather {s : St} (h : Live s) (orc : Oracle) (sel : List Nat) : Live (gather s orc sel).1 :=
  h.step (.gather orc sel) ((gather_grel s orc sel).2.2.2.2.trans h.est) (Nat.lt_of_le_of_lt (gather_prel s orc sel).1 h.small)

theorem sack_len_le (s : St) (cum arwnd : BitVec 32) (gaps : List (BitVec 16 × BitVec 16)) (marks : List (BitVec 32)) :
    (sack s cum arwnd gaps marks).1.inflight.length ≤ s.inflight.length := by
  obtain ⟨k, hk⟩ := sack_qev s cum arwnd gaps marks
  have := hk.length; omega

theorem live_sack {s : St} (h : Live s) (cum arwnd : BitVec 32) (gaps : List (BitVec 16 × BitVec 16)) (marks : List (BitVec 32)) :
    Live (sack s cum arwnd gaps marks).1 :=
  h.step (.sack cum arwnd gaps marks) ((sack_kept s cum arwnd gaps marks).established.trans h.est)
    (by show (sack s cum arwnd gaps marks).1.inflight.length + (sack s cum arwnd gaps marks).1.pending.length < _
        rw [sack_pending]; have := sack_len_le s cum arwnd gaps marks; have := h.small; omega)

/-- the peer acknowledges everything that is in flight and advertises `arwnd` -/
def ackAll (arwnd : BitVec 32) (x : St) : St := (sack x (x.myNextTSN - 1) arwnd [] []).1

/-- one round: a gather (any burst budget that allows a first chunk is fine; here the free one), then the full cumulative SACK -/
def round (pick : St → List Nat) (arwnd : BitVec 32) (s : St) : St := ackAll arwnd (gather s freeOracle (pick s)).1

def rounds (pick : St → List Nat) (arwnd : BitVec 32) : Nat → St → St
  | 0, s => s
  | n + 1, s => rounds pick arwnd n (round pick arwnd s)

/-- the pending-queue selection names an existing chunk whenever the queue is not empty (what `pendingQueue.peek` does) -/
def PickOk (pick : St → List Nat) : Prop := ∀ s : St, s.pending ≠ [] → ∃ i rest, pick s = i :: rest ∧ i < s.pending.length

/-- a SACK for the first `k ≥ 1` chunks of the queue is valid and ahead of the cumulative point -/
theorem prefix_sack_ok (x : St) (hs : Seq x) (hsm : x.inflight.length < 2^31) (k : Nat) (h1 : 1 ≤ k) (hk : k ≤ x.inflight.length) :
    sna32LT x.cumAck (x.cumAck + BitVec.ofNat 32 k) = true ∧ validate x (x.cumAck + BitVec.ofNat 32 k) [] = true := by
  have e3 := Sna.toNat_ofNat_of_lt (w := 32) (k := k) (by omega)
  have hlt : sna32LT x.cumAck (x.cumAck + BitVec.ofNat 32 k) = true := by
    rw [(Sna.gt32_add x.cumAck (BitVec.ofNat 32 k) (by omega)).2, e3]; exact decide_eq_true h1
  refine ⟨hlt, ?_⟩
  simp only [validate, hlt, if_true, List.all_nil, Bool.and_true]
  rw [get_contig hs.1, get_contig hs.1, BitVec.sub_self, off_last _ _ (by omega), e3]
  simp only [BitVec.toNat_zero, Bool.and_eq_true, decide_eq_true_eq]
  omega

theorem ackAll_spec (arwnd : BitVec 32) (x : St) (hs : Seq x) (hsm : x.inflight.length < 2^31) (hm : CfgOk x.cfg) (he : x.established = true) :
    (ackAll arwnd x).inflight = [] ∧ (ackAll arwnd x).pending = x.pending ∧ (ackAll arwnd x).established = true ∧
    (sack x (x.myNextTSN - 1) arwnd [] []).2 = .ok := by
  -- the SACK's cumulative TSN is the last TSN in flight: `cumAck + length`
  have hnext : x.myNextTSN - 1 = x.cumAck + BitVec.ofNat 32 x.inflight.length := by
    rw [hs.2]; generalize BitVec.ofNat 32 x.inflight.length = v; bv_omega
  have e1 := Sna.toNat_ofNat_of_lt (w := 32) (k := x.inflight.length) (by omega)
  unfold ackAll
  rw [hnext]
  have hv : validate x (x.cumAck + BitVec.ofNat 32 x.inflight.length) [] = true := by
    rcases Nat.eq_zero_or_pos x.inflight.length with h0 | h0
    · have hlt := (Sna.gt32_add x.cumAck (BitVec.ofNat 32 x.inflight.length) (by omega)).2
      rw [e1] at hlt
      simp only [validate, hlt, List.all_nil, Bool.and_true, decide_eq_true_eq]
      rw [if_neg (by omega)]
    · exact (prefix_sack_ok x hs hsm _ h0 (Nat.le_refl _)).2
  obtain ⟨hok, k, hk, hcum, hid, _, hpen, hest⟩ :=
    sack_ok_shape x _ arwnd [] [] hs hsm hm he (Sna.gt32_add x.cumAck _ (by omega)).1 hv
  have hkl : x.inflight.length = k := by
    have hvw : BitVec.ofNat 32 x.inflight.length = BitVec.ofNat 32 k := by
      generalize BitVec.ofNat 32 x.inflight.length = v at hcum; generalize BitVec.ofNat 32 k = w at hcum; bv_omega
    have := congrArg BitVec.toNat hvw
    rwa [e1, Sna.toNat_ofNat_of_lt (by omega)] at this
  refine ⟨?_, hpen, hest, hok⟩
  have := length_of_ident hid
  rw [← hkl] at this
  simpa using this

theorem round_live (pick : St → List Nat) (arwnd : BitVec 32) (s : St) (hp : PickOk pick) (h : Live s) :
    Live (round pick arwnd s) ∧ (round pick arwnd s).inflight = [] ∧ (round pick arwnd s).pending.length ≤ s.pending.length ∧
    (s.inflight = [] → s.pending ≠ [] → (round pick arwnd s).pending.length < s.pending.length) := by
  have g := gather_prel s freeOracle (pick s)
  have gl := live_gather h freeOracle (pick s)
  obtain ⟨a1, a2, _, _⟩ := ackAll_spec arwnd (gather s freeOracle (pick s)).1 gl.seq (by have := gl.small; omega) gl.win.cfgOk gl.est
  have e2 : (round pick arwnd s).pending = (gather s freeOracle (pick s)).1.pending := a2
  refine ⟨live_sack gl _ arwnd [] [], a1, by rw [e2]; exact g.2.2, ?_⟩
  · intro hin hne
    obtain ⟨i, rest, hsel, hi⟩ := hp s hne
    rw [e2, hsel]; exact (gather_progress_at s freeOracle i rest h.core h.fit h.est hin hi rfl).1

/-- **the rounds drain everything**: after the first round nothing is in flight; from then on every round admits at
least one pending chunk and gets it acknowledged; `pending + 1` rounds suffice -/
theorem rounds_drain (pick : St → List Nat) (arwnd : BitVec 32) (hp : PickOk pick) (n : Nat) (s : St) (h : Live s)
    (hn : s.pending.length + 1 ≤ n) :
    Live (rounds pick arwnd n s) ∧ (rounds pick arwnd n s).inflight = [] ∧ (rounds pick arwnd n s).pending = [] := by
  have aux : ∀ (m : Nat) (x : St), Live x → x.inflight = [] → x.pending.length ≤ m →
      Live (rounds pick arwnd m x) ∧ (rounds pick arwnd m x).inflight = [] ∧ (rounds pick arwnd m x).pending = [] := by
    intro m
    induction m with
    | zero =>
      intro x hx hi hm
      simp only [rounds]
      exact ⟨hx, hi, List.eq_nil_of_length_eq_zero (by omega)⟩
    | succ m ih =>
      intro x hx hi hm
      obtain ⟨r1, r2, r3, r4⟩ := round_live pick arwnd x hp hx
      simp only [rounds]
      apply ih _ r1 r2
      by_cases hne : x.pending = []
      · have h0 : x.pending.length = 0 := by rw [hne]; rfl
        omega
      · have := r4 hi hne; omega
  cases n with
  | zero => omega
  | succ n =>
    obtain ⟨r1, r2, r3, _⟩ := round_live pick arwnd s hp h
    simp only [rounds]
    exact aux n _ r1 r2 (by omega)

/-- the rounds as operations of the model -/
def roundOps (pick : St → List Nat) (arwnd : BitVec 32) (s : St) : List Op :=
  [.gather freeOracle (pick s), .sack ((gather s freeOracle (pick s)).1.myNextTSN - 1) arwnd [] []]

def drainOps (pick : St → List Nat) (arwnd : BitVec 32) : Nat → St → List Op
  | 0, _ => []
  | n + 1, s => roundOps pick arwnd s ++ drainOps pick arwnd n (round pick arwnd s)

theorem run_drainOps (pick : St → List Nat) (arwnd : BitVec 32) (n : Nat) (s : St) :
    run s (drainOps pick arwnd n s) = rounds pick arwnd n s := by
  induction n generalizing s with
  | zero => rfl
  | succ n ih =>
    simp only [drainOps, rounds, run_append]
    rw [← ih]
    rfl

/-- the drain operations need no stream bookkeeping premise (they are gathers and SACKs only) -/
theorem runOk_drainOps (pick : St → List Nat) (arwnd : BitVec 32) (n : Nat) (s : St) : RunOk s (drainOps pick arwnd n s) := by
  induction n generalizing s with
  | zero => trivial
  | succ n ih =>
    simp only [drainOps, roundOps, List.cons_append, List.nil_append]
    exact ⟨trivial, trivial, ih _⟩

theorem runOk_append {s : St} {ops ops' : List Op} (h : RunOk s ops) (h' : RunOk (run s ops) ops') : RunOk s (ops ++ ops') := by
  induction ops generalizing s with
  | nil => exact h'
  | cons op ops ih => exact ⟨h.1, ih h.2 h'⟩

/-! ### small facts used by `Props/C02.lean` -/

theorem len_le_sizeInPacket (il : Bool) (c : Chunk) : (c.len : Int) ≤ c.sizeInPacket il := by
  rw [sizeInPacket_eq, size_eq]
  have hp := getPadding_spec ((if il then 20 else 16) + (c.len : Int)) (by split <;> omega)
  revert hp; generalize getPadding _ = p; intro hp
  cases il <;> simp at hp ⊢ <;> omega

theorem min32_toNat (a b : BitVec 32) : (min32 a b).toNat = min a.toNat b.toNat := by
  simp only [min32]
  by_cases h : a < b
  · simp only [h, decide_true, if_true]; bv_omega
  · simp only [h, decide_false, Bool.false_eq_true, if_false]; bv_omega

/-- every pending chunk holds at least one byte: the number of pending chunks is at most the pending bytes -/
theorem pending_le_bytes (s : St) (h : PendFit s) : s.pending.length ≤ sumLen s.pending := by
  have : ∀ l : List Chunk, (∀ c ∈ l, 0 < c.len) → l.length ≤ sumLen l := by
    intro l
    induction l with
    | nil => intro _; simp [sumLen]
    | cons c r ih =>
      intro hl
      have := hl c (by simp)
      have := ih (fun x hx => hl x (by simp [hx]))
      simp only [List.length_cons, sumLen]; omega
  exact this s.pending (fun c hc => (h c hc).1)

/-- `peek` = "the oldest chunk" is a valid selection -/
theorem pickHead_ok : PickOk (fun s => List.replicate s.pending.length 0) := by
  intro s hne
  cases hq : s.pending with
  | nil => exact absurd hq hne
  | cons c r => exact ⟨0, List.replicate r.length 0, by simp only [hq]; rfl, by simp⟩


end SenderProofs
