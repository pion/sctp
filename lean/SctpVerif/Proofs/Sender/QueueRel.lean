import SctpVerif.Proofs.Sender.Window
/-!
What a transition can make of a queued chunk.

The two relations on chunks that the transitions of the sender respect: the chunk keeps everything but its transmission
bookkeeping (`Fl`), or it is such a rewriting of the chunk marked acked, its payload released (`Ev`). Equalities of projected queues (`map Chunk.core`, `map Chunk.ident`, `map Chunk.frag`), membership
forms, lengths and byte sums are corollaries of `Pt Fl` / `Pt Ev`.
-/
namespace SenderProofs
open Gen Sender

/-! ### what happens to one queued chunk -/

/-- a chunk without its transmission bookkeeping: what is left is what no retransmission, miss indication, loss mark or
timer writes -/
def Chunk.fixed (c : Chunk) : Chunk := { c with retransmit := false, nSent := 0, missIndicator := 0, since := 0 }

/-- flags and counters only — what the retransmission gathers, the miss indications, the loss marks and T3 do to a chunk;
`retransmit` is raised on un-acknowledged chunks only -/
structure Fl (c x : Chunk) : Prop where
  fixed : Chunk.fixed x = Chunk.fixed c
  rtx : x.retransmit = true → c.retransmit = true ∨ c.acked = false

theorem Fl.refl (c : Chunk) : Fl c c := ⟨rfl, Or.inl⟩

/-- whatever does not read the bookkeeping fields is kept -/
theorem Fl.keeps {β : Type} (g : Chunk → β) (hg : ∀ c, g (Chunk.fixed c) = g c) {c x : Chunk} (h : Fl c x) : g x = g c := by
  rw [← hg x, h.fixed, hg c]

theorem Fl.tsn {c x : Chunk} (h : Fl c x) : x.tsn = c.tsn := h.keeps (·.tsn) (fun _ => rfl)
theorem Fl.len {c x : Chunk} (h : Fl c x) : x.len = c.len := h.keeps (·.len) (fun _ => rfl)
theorem Fl.acked {c x : Chunk} (h : Fl c x) : x.acked = c.acked := h.keeps (·.acked) (fun _ => rfl)
theorem Fl.core {c x : Chunk} (h : Fl c x) : Chunk.core x = Chunk.core c := h.keeps Chunk.core (fun _ => rfl)

theorem Fl.trans (a b c : Chunk) (h1 : Fl a b) (h2 : Fl b c) : Fl a c :=
  ⟨h2.fixed.trans h1.fixed, fun h => (h2.rtx h).elim h1.rtx (fun e => Or.inr (h1.acked ▸ e))⟩

theorem Fl.markAcked {c x : Chunk} (h : Fl c x) : Fl c.markAcked x.markAcked :=
  ⟨by have := h.fixed; simp only [Chunk.fixed, Chunk.markAcked] at this ⊢; cases c; cases x; simp_all, fun h => by cases h⟩

/-- `x` is what transitions made of the in-flight chunk `c`: flags and counters only, possibly after `markAsAcked` (acked,
payload released, not to be retransmitted) -/
def Ev (c x : Chunk) : Prop := Fl c x ∨ Fl c.markAcked x

theorem Fl.ev (c x : Chunk) (h : Fl c x) : Ev c x := Or.inl h

theorem Ev.refl (c : Chunk) : Ev c c := Or.inl (Fl.refl c)

theorem Ev.trans (a b c : Chunk) (h1 : Ev a b) (h2 : Ev b c) : Ev a c := by
  rcases h1 with h1 | h1 <;> rcases h2 with h2 | h2
  · exact Or.inl (Fl.trans _ _ _ h1 h2)
  · exact Or.inr (Fl.trans _ _ _ h1.markAcked h2)
  · exact Or.inr (Fl.trans _ _ _ h1 h2)
  · exact Or.inr (Fl.trans _ _ _ h1.markAcked h2)

/-- whatever reads neither the bookkeeping fields nor what `markAsAcked` writes is kept -/
theorem Ev.keeps {β : Type} (g : Chunk → β) (hg : ∀ c, g (Chunk.fixed c) = g c) (hm : ∀ c, g c.markAcked = g c) {c x : Chunk} (h : Ev c x) :
    g x = g c :=
  h.elim (Fl.keeps g hg) (fun h => (h.keeps g hg).trans (hm c))

theorem Ev.tsn {c x : Chunk} (h : Ev c x) : x.tsn = c.tsn := h.keeps (·.tsn) (fun _ => rfl) (fun _ => rfl)

/-- a chunk that is not acked afterwards has had flags and counters rewritten only -/
theorem Ev.fl_of_unacked {c x : Chunk} (h : Ev c x) (ha : x.acked = false) : Fl c x := by
  rcases h with h | h
  · exact h
  · rw [h.acked] at ha; cases ha

theorem Ev.len_le {c x : Chunk} (h : Ev c x) : x.len ≤ c.len := by
  rcases h with h | h
  · exact Nat.le_of_eq h.len
  · rw [h.len]; exact Nat.zero_le _

/-! ### the rewritings the loops apply -/

theorem rtxUpd_fl (s : St) (c : Chunk) : Fl c (rtxUpd s c) := ⟨rfl, fun h => by cases h⟩
theorem fastUpd_fl (s : St) (c : Chunk) : Fl c (fastUpd s c) := ⟨rfl, Or.inl⟩

/-- a scan over the part of the queue from `cumAck + 1` on rewrites the chunks it takes by `upd` -/
theorem scan_fl {B : Type} (s0 s : St) (dec : Int → LoopAcc B → Chunk → Take B) (upd : Chunk → Chunk) (hu : ∀ c, Fl c (upd c))
    (a : LoopAcc B) (h : s.inflight = s0.inflight) : Pt Fl s0.inflight ((scanSplit s).1 ++ (scanLoop s dec upd 0 (scanSplit s).2 a).1) := by
  have := Pt.append (Pt.refl Fl.refl (scanSplit s).1) (scanLoop_pt Fl.refl s dec upd hu 0 (scanSplit s).2 a)
  rwa [scanSplit_append, h] at this

theorem applyMarks_fl (s : St) (marks : List (BitVec 32)) : Pt Fl s.inflight (applyMarks s marks).inflight :=
  Pt.map _ (fun c => by
    split
    · rename_i h
      simp only [Bool.and_eq_true, Bool.not_eq_true'] at h
      exact ⟨rfl, fun _ => Or.inr h.1.2⟩
    · exact Fl.refl c) _

theorem markAll_fl (x : St) : Pt Fl x.inflight (markAllToRetransmit x) :=
  Pt.map _ (fun c => by
    split
    · exact Fl.refl c
    · rename_i h
      simp only [Bool.or_eq_true, not_or, Bool.not_eq_true] at h
      exact ⟨rfl, fun _ => Or.inr h.1⟩) _

theorem markOne_pt (a : GapAcc) (tsn : BitVec 32) {a' : GapAcc} (h : markOne a tsn = some a') : Pt Ev a.q a'.q := by
  obtain ⟨off, c, hg, _, ⟨_, eq, _⟩ | ⟨_, eq, _⟩⟩ := markOne_cases h <;> rw [eq]
  · exact Pt.refl Ev.refl _
  · exact Pt.set Ev.refl (get_some hg) (Or.inr (Fl.refl _))

theorem markGaps_pt (cum : BitVec 32) (gaps : List (BitVec 16 × BitVec 16)) (a : GapAcc) {a' : GapAcc} (h : markGaps cum gaps a = some a') :
    Pt Ev a.q a'.q :=
  markGaps_inv (fun x => Pt Ev a.q x.q) (fun x t _ hx h1 => Pt.trans Ev.trans hx (markOne_pt x t h1)) cum gaps a (Pt.refl Ev.refl _) h

theorem Pt.tsns {q q' : List Chunk} (h : Pt Ev q q') : q'.map (·.tsn) = q.map (·.tsn) := Pt.map_eq (·.tsn) (fun _ _ e => e.tsn) h

theorem Pt.sumLen_le {q q' : List Chunk} (h : Pt Ev q q') : sumLen q' ≤ sumLen q := by
  induction q generalizing q' with
  | nil => cases q' with | nil => exact Nat.le_refl _ | cons _ _ => exact h.elim
  | cons c r ih =>
    cases q' with
    | nil => exact h.elim
    | cons c' r' => simp only [sumLen]; exact Nat.add_le_add h.1.len_le (ih h.2)

end SenderProofs
