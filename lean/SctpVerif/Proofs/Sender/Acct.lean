import SctpVerif.Proofs.Sender.Books
import SctpVerif.Proofs.Sender.WinRun
/-! Byte accounting of the sender (C15): the books (`infBytes`, `penBytes`, `penChunks`, per-stream `bufferedAmount`)
agree with the chunks actually queued, along arbitrary runs. -/
namespace SenderProofs
open Gen Sender

/-- `Stream.BufferedAmount()` of the Stream object for `si` (0 if there is none) -/
def bufOf (s : St) (si : BitVec 16) : Nat := match s.streams si with | some st => st.buffered.toNat | none => 0

/-- user bytes of stream `si` in pending ∪ in-flight (an acknowledged chunk holds no bytes: its payload was released) -/
def outstanding (s : St) (si : BitVec 16) : Nat := bytesOf si s.pending + bytesOf si s.inflight

structure Books (s : St) : Prop where
  inf : s.infBytes = (sumLen s.inflight : Int)
  pen : s.penBytes = (sumLen s.pending : Int)
  penN : s.penChunks = (s.pending.length : Int)
  ackedEmpty : ∀ c ∈ s.inflight, c.acked = true → c.len = 0
  penSmall : ∀ c ∈ s.pending, c.len < 2^32 ∧ c.acked = false
  streams : ∀ si, bufOf s si = outstanding s si
  unreg : ∀ si st, s.streams si = some st → st.registered = false → outstanding s si = 0
  noClamp : s.clamped = false

/-- guarded by the ghost flag "a uint64 bufferedAmount addition wrapped" -/
def BooksG (s : St) : Prop := s.wrapBuf = false → Books s

/-! The association-level part of the books (`infBytes`, `penBytes`, `penChunks` against the queued chunks) holds along EVERY
run: it does not depend on the stream table, hence not on deviation D9, nor on any overflow flag. -/

structure Core (s : St) : Prop where
  inf : s.infBytes = (sumLen s.inflight : Int)
  pen : s.penBytes = (sumLen s.pending : Int)
  penN : s.penChunks = (s.pending.length : Int)
  ackedEmpty : ∀ c ∈ s.inflight, c.acked = true → c.len = 0
  penSmall : ∀ c ∈ s.pending, c.len < 2^32 ∧ c.acked = false

theorem Books.core {s : St} (h : Books s) : Core s := ⟨h.inf, h.pen, h.penN, h.ackedEmpty, h.penSmall⟩

theorem Books.of_core {s : St} (hc : Core s) (h1 : ∀ si, bufOf s si = outstanding s si)
    (h2 : ∀ si st, s.streams si = some st → st.registered = false → outstanding s si = 0) (h3 : s.clamped = false) : Books s :=
  ⟨hc.inf, hc.pen, hc.penN, hc.ackedEmpty, hc.penSmall, h1, h2, h3⟩

theorem release_spec (st : Stream) (n : Int) (h0 : 0 ≤ n) (hle : n ≤ (st.buffered.toNat : Int)) :
    ((release st n).1.buffered.toNat : Int) = (st.buffered.toNat : Int) - n ∧ (release st n).2 = false ∧
    (release st n).1.registered = st.registered := by
  unfold release
  split
  · have : n = 0 := by omega
    subst this; simp
  · have hlt := st.buffered.isLt
    have e : (BitVec.ofInt 64 n).toNat = n.toNat := by rw [BitVec.toNat_ofInt]; omega
    have hu : release_underflows st.buffered n = false := by
      simp only [release_underflows, decide_eq_false_iff_not, BitVec.lt_def, e]; omega
    have hsub : (st.buffered - BitVec.ofInt 64 n).toNat = st.buffered.toNat - n.toNat := by
      rw [BitVec.toNat_sub, e]; omega
    refine ⟨?_, ?_, ?_⟩
    · simp only [hu, Bool.false_eq_true, if_false, hsub]; omega
    · simp only [hu]
    · rfl

theorem bufOf_setStream (s : St) (si : BitVec 16) (st : Stream) (k : BitVec 16) :
    bufOf (setStream s si st) k = if k = si then st.buffered.toNat else bufOf s k := by
  simp only [bufOf, setStream]
  by_cases h : k = si <;> simp [h]

/-- registered Stream object for `si`? -/
def regOf (s : St) (si : BitVec 16) : Bool := match s.streams si with | some st => st.registered | none => false

theorem relOf_cons_le {k : BitVec 16} {n : Int} {r : Rel} {si : BitVec 16} {X : Int} (hn : 0 ≤ n)
    (h : relOf ((k, n) :: r) si ≤ X) : relOf r si ≤ X := by
  simp only [relOf] at h; split at h <;> omega

theorem relOf_cons_zero {k : BitVec 16} {n : Int} {r : Rel} {si : BitVec 16} (hn : 0 ≤ n) (hr : 0 ≤ relOf r si)
    (h : relOf ((k, n) :: r) si = 0) : relOf r si = 0 ∧ (k = si → n = 0) := by
  simp only [relOf] at h
  split at h
  · exact ⟨by omega, fun _ => by omega⟩
  · rename_i hne; exact ⟨by omega, fun h' => absurd h' hne⟩

theorem relOf_cons_n0 (k : BitVec 16) (r : Rel) (si : BitVec 16) : relOf ((k, 0) :: r) si = relOf r si := by
  simp only [relOf]; split <;> omega

theorem releaseAll_spec (rel : Rel) (s : St) (hn : RelNonneg rel) (hb : ∀ si, relOf rel si ≤ (bufOf s si : Int))
    (hu : ∀ si, regOf s si = false → relOf rel si = 0) (hc : s.clamped = false) :
    (∀ si, (bufOf (releaseAll rel s) si : Int) = (bufOf s si : Int) - relOf rel si) ∧ (releaseAll rel s).clamped = false ∧
    (∀ si, (releaseAll rel s).streams si = none ↔ s.streams si = none) ∧
    (∀ si st', (releaseAll rel s).streams si = some st' → ∃ st, s.streams si = some st ∧ st'.registered = st.registered) := by
  induction rel generalizing s with
  | nil =>
    refine ⟨fun si => by simp [releaseAll, relOf], hc, fun _ => Iff.rfl, fun si st' h => ⟨st', h, rfl⟩⟩
  | cons e r ih =>
    obtain ⟨k, n⟩ := e
    have hn0 : 0 ≤ n := hn (k, n) (by simp)
    have hnr : RelNonneg r := fun x hx => hn x (by simp [hx])
    have hrk := relOf_nonneg r hnr
    simp only [releaseAll]
    cases hs : s.streams k with
    | none =>
      simp only
      have hz := hu k (by simp [regOf, hs])
      simp only [relOf, if_true] at hz
      have hn00 : n = 0 := by have := hrk k; omega
      subst hn00
      obtain ⟨i1, i2, i3, i4⟩ := ih s hnr (fun si => relOf_cons_le hn0 (hb si))
        (fun si h => (relOf_cons_zero hn0 (hrk si) (hu si h)).1) hc
      refine ⟨fun si => ?_, i2, i3, i4⟩
      rw [i1 si, relOf_cons_n0]
    | some st =>
      simp only
      by_cases hreg : st.registered = true
      · simp only [hreg, if_true]
        have hbk := hb k
        simp only [relOf, if_true, bufOf, hs] at hbk
        obtain ⟨r1, r2, r3⟩ := release_spec st n hn0 (by have := hrk k; omega)
        have hb' : ∀ si, relOf r si ≤ (bufOf { setStream s k (release st n).1 with clamped := s.clamped || (release st n).2 } si : Int) := by
          intro si
          have := hb si
          show relOf r si ≤ (bufOf (setStream s k (release st n).1) si : Int)
          rw [bufOf_setStream]
          simp only [relOf] at this
          by_cases hsi : si = k
          · subst hsi; simp only [if_true] at this ⊢; simp only [bufOf, hs] at this; omega
          · have hsi' : ¬ k = si := fun h => hsi h.symm
            simp only [hsi, hsi', if_false] at this ⊢; omega
        have hu' : ∀ si, regOf { setStream s k (release st n).1 with clamped := s.clamped || (release st n).2 } si = false → relOf r si = 0 := by
          intro si hsi
          by_cases hk : si = k
          · subst hk; simp [regOf, setStream, r3, hreg] at hsi
          · have : regOf s si = false := by simpa [regOf, setStream, hk] using hsi
            have := hu si this
            have hk' : ¬ k = si := fun h => hk h.symm
            simpa [relOf, hk'] using this
        obtain ⟨i1, i2, i3, i4⟩ := ih _ hnr hb' hu' (by simp [hc, r2])
        refine ⟨fun si => ?_, i2, fun si => ?_, fun si st' h => ?_⟩
        · rw [i1 si]
          show ((bufOf (setStream s k (release st n).1) si : Nat) : Int) - relOf r si = _
          rw [bufOf_setStream]
          simp only [relOf]
          by_cases hsi : si = k
          · subst hsi; simp only [if_true, bufOf, hs]; omega
          · have hsi' : ¬ k = si := fun h => hsi h.symm
            simp only [hsi, hsi', if_false]; omega
        · rw [i3 si]
          simp only [setStream]
          by_cases hsi : si = k
          · subst hsi; simp [hs]
          · simp [hsi]
        · obtain ⟨st1, h1, h2⟩ := i4 si st' h
          simp only [setStream] at h1
          by_cases hsi : si = k
          · subst hsi; simp only [if_true, Option.some.injEq] at h1; subst h1; exact ⟨st, hs, by rw [h2, r3]⟩
          · simp only [hsi, if_false] at h1; exact ⟨st1, h1, h2⟩
      · simp only [hreg, Bool.false_eq_true, if_false]
        have hz := hu k (by simp [regOf, hs, hreg])
        simp only [relOf, if_true] at hz
        have hn00 : n = 0 := by have := hrk k; omega
        subst hn00
        obtain ⟨i1, i2, i3, i4⟩ := ih s hnr (fun si => relOf_cons_le hn0 (hb si))
          (fun si h => (relOf_cons_zero hn0 (hrk si) (hu si h)).1) hc
        refine ⟨fun si => ?_, i2, i3, i4⟩
        rw [i1 si, relOf_cons_n0]

/-- the fields `Books` reads are the same (in-flight chunks up to flags) -/
def SameBooks (s s' : St) : Prop :=
  s'.infBytes = s.infBytes ∧ s'.inflight.map Chunk.core = s.inflight.map Chunk.core ∧ s'.pending = s.pending ∧
  s'.penBytes = s.penBytes ∧ s'.penChunks = s.penChunks ∧ s'.streams = s.streams ∧ s'.clamped = s.clamped ∧ s'.wrapBuf = s.wrapBuf

theorem SameAcct.books {s s' : St} (h : SameAcct s s') : SameBooks s s' :=
  ⟨h.infBytes, h.core, h.pending, h.penBytes, h.penChunks, h.streams, h.clamped, h.wrapBuf⟩

theorem SameBooks.refl (s : St) : SameBooks s s := ⟨rfl, rfl, rfl, rfl, rfl, rfl, rfl, rfl⟩

theorem SameBooks.trans {a b c : St} (h1 : SameBooks a b) (h2 : SameBooks b c) : SameBooks a c :=
  ⟨h2.1.trans h1.1, h2.2.1.trans h1.2.1, h2.2.2.1.trans h1.2.2.1, h2.2.2.2.1.trans h1.2.2.2.1, h2.2.2.2.2.1.trans h1.2.2.2.2.1,
   h2.2.2.2.2.2.1.trans h1.2.2.2.2.2.1, h2.2.2.2.2.2.2.1.trans h1.2.2.2.2.2.2.1, h2.2.2.2.2.2.2.2.trans h1.2.2.2.2.2.2.2⟩

/-- the fields `Core` reads -/
def SameCore (s s' : St) : Prop :=
  s'.infBytes = s.infBytes ∧ s'.inflight.map Chunk.core = s.inflight.map Chunk.core ∧ s'.pending = s.pending ∧
  s'.penBytes = s.penBytes ∧ s'.penChunks = s.penChunks

theorem SameBooks.sameCore {s s' : St} (h : SameBooks s s') : SameCore s s' := ⟨h.1, h.2.1, h.2.2.1, h.2.2.2.1, h.2.2.2.2.1⟩

theorem SameCore.trans {a b c : St} (h1 : SameCore a b) (h2 : SameCore b c) : SameCore a c :=
  ⟨h2.1.trans h1.1, h2.2.1.trans h1.2.1, h2.2.2.1.trans h1.2.2.1, h2.2.2.2.1.trans h1.2.2.2.1, h2.2.2.2.2.trans h1.2.2.2.2⟩

theorem SameCore.transfer {s s' : St} (h : SameCore s s') (hb : Core s) : Core s' := by
  obtain ⟨h1, h2, h3, h4, h5⟩ := h
  obtain ⟨c1, _, c3⟩ := sums_of_core h2.symm
  exact ⟨by rw [h1, hb.inf, c1], by rw [h4, h3, hb.pen], by rw [h5, h3, hb.penN], c3 hb.ackedEmpty, by rw [h3]; exact hb.penSmall⟩

theorem SameBooks.transfer {s s' : St} (h : SameBooks s s') (hb : Books s) : Books s' := by
  have hc := h.sameCore.transfer hb.core
  obtain ⟨_, h2, h3, _, _, h6, h7, _⟩ := h
  obtain ⟨_, c2, _⟩ := sums_of_core h2.symm
  refine .of_core hc (fun si => ?_) (fun si st hs hr => ?_) (by rw [h7]; exact hb.noClamp)
  · have := hb.streams si
    simp only [bufOf, outstanding, h6, h3, ← c2 si] at this ⊢; exact this
  · rw [h6] at hs
    have := hb.unreg si st hs hr
    simp only [outstanding, h3, ← c2 si] at this ⊢; exact this

theorem SameBooks.transferG {s s' : St} (h : SameBooks s s') (hb : BooksG s) : BooksG s' :=
  fun hw => h.transfer (hb (by rw [← h.2.2.2.2.2.2.2]; exact hw))

theorem popPend_core (s : St) (i : Nat) (c : Chunk) (hb : Core s) (hp : s.pending[i]? = some c) (hz : c.len = 0) : Core (popPend s i c) := by
  obtain ⟨e1, e2, e3⟩ := sumLen_eraseIdx hp
  have hpen := hb.pen
  refine ⟨hb.inf, ?_, ?_, hb.ackedEmpty, fun x hx => hb.penSmall x (mem_eraseIdx hx)⟩
  · simp only [popPend, hz]; rw [hpen]; simp; split <;> omega
  · simp only [popPend]; rw [hb.penN]; omega

theorem move_core (s : St) (i : Nat) (c : Chunk) (hb : Core s) (hp : s.pending[i]? = some c) : Core (move s i c).1 := by
  obtain ⟨e1, e2, e3⟩ := sumLen_eraseIdx hp
  obtain ⟨hsmall, hfresh⟩ := hb.penSmall c (List.mem_of_getElem? hp)
  refine ⟨?_, ?_, ?_, ?_, ?_⟩
  · simp only [move, popPend, sumLen_append, sumLen]; rw [hb.inf]; push_cast; omega
  · simp only [move, popPend]; rw [hb.pen]; split <;> omega
  · simp only [move, popPend]; rw [hb.penN]; omega
  · intro x hx
    simp only [move, popPend, List.mem_append, List.mem_singleton] at hx
    rcases hx with h | h
    · exact hb.ackedEmpty x h
    · subst h; intro ha; simp only at ha; rw [hfresh] at ha; cases ha
  · intro x hx
    simp only [move, popPend] at hx
    exact hb.penSmall x (mem_eraseIdx hx)

theorem popPend_books (s : St) (i : Nat) (c : Chunk) (hb : Books s) (hp : s.pending[i]? = some c) (hz : c.len = 0) : Books (popPend s i c) := by
  obtain ⟨_, e2, _⟩ := sumLen_eraseIdx hp
  refine .of_core (popPend_core s i c hb.core hp hz) (fun si => ?_) (fun si st hs hr => ?_) hb.noClamp
  · have := hb.streams si
    have := e2 si
    simp only [bufOf, outstanding, popPend, hz, ite_self] at *; omega
  · have := hb.unreg si st hs hr
    have := e2 si
    simp only [outstanding, popPend, hz, ite_self] at *; omega

theorem move_books (s : St) (i : Nat) (c : Chunk) (hb : Books s) (hp : s.pending[i]? = some c) : Books (move s i c).1 := by
  obtain ⟨_, e2, _⟩ := sumLen_eraseIdx hp
  refine .of_core (move_core s i c hb.core hp) (fun si => ?_) (fun si st hs hr => ?_) (by simpa [move, popPend] using hb.noClamp)
  · have := hb.streams si
    have := e2 si
    simp only [bufOf, outstanding, move, popPend, bytesOf_append, bytesOf] at *
    omega
  · have hs' : s.streams si = some st := by simpa [move, popPend] using hs
    have := hb.unreg si st hs' hr
    have := e2 si
    simp only [outstanding, move, popPend, bytesOf_append, bytesOf] at *
    omega

theorem chargeSend_same (s : St) (c : Chunk) : SameBooks s (chargeSend s c) := ⟨rfl, rfl, rfl, rfl, rfl, rfl, rfl, rfl⟩
theorem chargeProbe_same (s : St) (c : Chunk) : SameBooks s (chargeProbe s c) := ⟨rfl, rfl, rfl, rfl, rfl, rfl, rfl, rfl⟩

theorem len_eq_zero {n : Nat} (hn : n < 2^32) (hz : (BitVec.ofNat 32 n == 0) = true) : n = 0 := by
  have := congrArg BitVec.toNat (show BitVec.ofNat 32 n = 0 by simpa using hz)
  simp [BitVec.toNat_ofNat] at this; omega

theorem core_newData : NewData Core where
  drop s i c hb hp hz := popPend_core s i c hb hp (len_eq_zero (hb.penSmall c (List.mem_of_getElem? hp)).1 hz)
  send s c hb := (chargeSend_same s c).sameCore.transfer hb
  probe s c hb := (chargeProbe_same s c).sameCore.transfer hb
  move s i c hb hp := move_core s i c hb hp

theorem books_newData : NewData Books where
  drop s i c hb hp hz := popPend_books s i c hb hp (len_eq_zero (hb.penSmall c (List.mem_of_getElem? hp)).1 hz)
  send s c hb := (chargeSend_same s c).transfer hb
  probe s c hb := (chargeProbe_same s c).transfer hb
  move s i c hb hp := move_books s i c hb hp

theorem gather_books (s : St) (orc : Oracle) (sel : List Nat) (hb : BooksG s) :
    BooksG (gather s orc sel).1 ∧ (gather s orc sel).1.wrapBuf = s.wrapBuf := by
  have hw := (gather_frame s orc sel).2.2.2.2.2.1
  exact ⟨fun h => gather_rule_acct books_newData (fun _ _ h => h.books.transfer) s orc sel (hb (hw ▸ h)), hw⟩

theorem onCumAdvanced_same (s : St) (total : Int) : SameBooks s (onCumAdvanced s total) ∧
    (onCumAdvanced s total).inflight = s.inflight := by
  obtain ⟨o1, o2, o3, o4, o5, o6, o7, o8, _⟩ := onCumAdvanced_frame s total
  exact ⟨⟨o2, by rw [o1], o3, o4, o5, o6, o7, o8⟩, o1⟩

/-- the two loops of `processAcknowledgement` on a queue whose acknowledged chunks are empty: the byte counter follows
the queue, and what left the queue per stream is in the release table -/
theorem ackLoops_spec {s : St} {cum : BitVec 32} {gaps : List (BitVec 16 × BitVec 16)} {q : List Chunk} {a : CumAcc} {g : GapAcc}
    (hinf : s.infBytes = (sumLen s.inflight : Int)) (hae : ∀ c ∈ s.inflight, c.acked = true → c.len = 0)
    (hp : popCum s.fastRecoverExitPoint s.inflight (s.cumAck + 1) cum { infBytes := s.infBytes, rel := [], inFR := s.inFastRecovery } = some (q, a))
    (hg : markGaps cum gaps { q := q, infBytes := a.infBytes, rel := a.rel, htna := cum } = some g) :
    g.infBytes = (sumLen g.q : Int) ∧ (∀ si, relOf g.rel si + (bytesOf si g.q : Int) = (bytesOf si s.inflight : Int)) ∧
    RelNonneg g.rel ∧ (∀ c ∈ g.q, c.acked = true → c.len = 0) := by
  obtain ⟨p1, p2, p3, p4⟩ := popCum_spec _ _ _ _ _ hae (fun e he => absurd he List.not_mem_nil) hp
  have gk := markGaps_spec cum gaps _ _ (GapOk.refl _ (fun c hc => hae c (p1 c hc)) p4) hg
  refine ⟨?_, fun si => ?_, gk.nonneg, gk.ackedEmpty⟩
  · have := gk.inf
    simp only at *
    omega
  · have := gk.rel si
    have := p3 si
    simp only [relOf] at *
    omega

theorem ackPhase_core {s : St} {cum : BitVec 32} {gaps : List (BitVec 16 × BitVec 16)} {r : St × BitVec 32 × Bool}
    (hb : Core s) (h : ackPhase s cum gaps = some r) : Core r.1 := by
  obtain ⟨q, a, g, hp, hg, rfl⟩ := ackPhase_eq h
  obtain ⟨hinf, _, _, hae⟩ := ackLoops_spec hb.inf hb.ackedEmpty hp hg
  obtain ⟨f1, f2, f3, f4, f5, _⟩ := ackApply_frame s cum g a.inFR
  exact ⟨by rw [f1, f2]; exact hinf, by rw [f3, f4]; exact hb.pen, by rw [f3, f5]; exact hb.penN, by rw [f1]; exact hae,
    by rw [f3]; exact hb.penSmall⟩

/-- the per-stream releases at the end of `processAcknowledgement`: every stream gives back exactly what left the queue -/
theorem ackApply_streams (s : St) (cum : BitVec 32) (g : GapAcc) (inFR : Bool) (hb : Books s)
    (hrel : ∀ si, relOf g.rel si + (bytesOf si g.q : Int) = (bytesOf si s.inflight : Int)) (hnn : RelNonneg g.rel) :
    (∀ si, bufOf (ackApply s cum g inFR) si = outstanding (ackApply s cum g inFR) si) ∧
    (∀ si st, (ackApply s cum g inFR).streams si = some st → st.registered = false → outstanding (ackApply s cum g inFR) si = 0) ∧
    (ackApply s cum g inFR).clamped = false := by
  unfold ackApply
  simp only
  -- the state handed to releaseAll: queue and counters replaced, streams / pending untouched
  have key : ∀ x : St, x.inflight = g.q → x.pending = s.pending → x.streams = s.streams → x.clamped = s.clamped →
      (∀ si, bufOf (releaseAll g.rel x) si = outstanding (releaseAll g.rel x) si) ∧
      (∀ si st, (releaseAll g.rel x).streams si = some st → st.registered = false → outstanding (releaseAll g.rel x) si = 0) ∧
      (releaseAll g.rel x).clamped = false := by
    intro x h1 h3 h6 h7
    have hbuf : ∀ si, bufOf x si = bufOf s si := fun si => by simp [bufOf, h6]
    have hreg : ∀ si, regOf x si = regOf s si := fun si => by simp [regOf, h6]
    have hle : ∀ si, relOf g.rel si ≤ (bufOf x si : Int) := by
      intro si
      have := hrel si
      have := hb.streams si
      rw [hbuf]
      simp only [outstanding] at this
      omega
    have hu : ∀ si, regOf x si = false → relOf g.rel si = 0 := by
      intro si hr
      rw [hreg] at hr
      have hnn' := relOf_nonneg g.rel hnn si
      have hrl := hrel si
      cases hs : s.streams si with
      | none =>
        have := hb.streams si
        simp only [bufOf, hs, outstanding] at this
        omega
      | some st =>
        have hr' : st.registered = false := by simpa [regOf, hs] using hr
        have := hb.unreg si st hs hr'
        simp only [outstanding] at this
        omega
    obtain ⟨r1, r2, _, r4⟩ := releaseAll_spec g.rel x hnn hle hu (by rw [h7]; exact hb.noClamp)
    obtain ⟨_, _, _, _, _, _, f7, f8, _⟩ := releaseAll_frame g.rel x
    refine ⟨fun si => ?_, fun si st' hs' hr' => ?_, r2⟩
    · have := r1 si
      have := hrel si
      have := hb.streams si
      rw [hbuf] at *
      simp only [outstanding, f7, f8, h1, h3] at *
      omega
    · obtain ⟨st, hs, hrr⟩ := r4 si st' hs'
      rw [h6] at hs
      have := hb.unreg si st hs (by rw [← hrr]; exact hr')
      have hnn' := relOf_nonneg g.rel hnn si
      have := hrel si
      simp only [outstanding, f7, f8, h1, h3] at *
      omega
  split
  · obtain ⟨o1, o2⟩ := onCumAdvanced_same { s with inflight := g.q, infBytes := g.infBytes, inFastRecovery := inFR, cumAck := cum } (relTotal g.rel)
    exact key _ o2 o1.2.2.1 o1.2.2.2.2.2.1 o1.2.2.2.2.2.2.1
  · exact key _ rfl rfl rfl rfl

theorem ackPhase_books {s : St} {cum : BitVec 32} {gaps : List (BitVec 16 × BitVec 16)} {r : St × BitVec 32 × Bool}
    (hb : Books s) (h : ackPhase s cum gaps = some r) : Books r.1 := by
  have hc := ackPhase_core hb.core h
  obtain ⟨q, a, g, hp, hg, rfl⟩ := ackPhase_eq h
  obtain ⟨_, l2, l3, _⟩ := ackLoops_spec hb.inf hb.ackedEmpty hp hg
  obtain ⟨k1, k2, k3⟩ := ackApply_streams s cum g a.inFR hb l2 l3
  exact .of_core hc k1 k2 k3

theorem setPeerWindow_same (s : St) (arwnd : BitVec 32) : SameBooks s (setPeerWindow s arwnd) := ⟨rfl, rfl, rfl, rfl, rfl, rfl, rfl, rfl⟩

theorem ackPhase_wrapBuf {s : St} {cum : BitVec 32} {gaps : List (BitVec 16 × BitVec 16)} {r : St × BitVec 32 × Bool}
    (h : ackPhase s cum gaps = some r) : r.1.wrapBuf = s.wrapBuf := by
  obtain ⟨_, _, _, _, _, _, _, _, _, e⟩ := ackPhase_only h
  rw [e]

theorem sack_books (s : St) (cum arwnd : BitVec 32) (gaps : List (BitVec 16 × BitVec 16)) (marks : List (BitVec 32))
    (hb : BooksG s) :
    BooksG (sack s cum arwnd gaps marks).1 ∧ (sack s cum arwnd gaps marks).1.wrapBuf = s.wrapBuf := by
  rcases sack_split s cum arwnd gaps marks with he | ⟨r, ha, _, _, hx⟩
  · rw [he]; exact ⟨hb, rfl⟩
  · have hsame := SameBooks.trans (setPeerWindow_same r.1 arwnd) hx.books
    have hw := hsame.2.2.2.2.2.2.2.trans (ackPhase_wrapBuf ha)
    exact ⟨fun h => hsame.transfer (ackPhase_books (hb (hw ▸ h)) ha), hw⟩

theorem fragAux_spec (mp : Nat) (hmp : 0 < mp) (fuel remaining : Nat) (hf : remaining ≤ fuel) :
    (fragAux mp fuel remaining).sum = remaining ∧ ∀ f ∈ fragAux mp fuel remaining, 0 < f ∧ f ≤ mp := by
  induction fuel generalizing remaining with
  | zero =>
    have : remaining = 0 := by omega
    subst this; simp [fragAux]
  | succ n ih =>
    simp only [fragAux]
    by_cases h0 : remaining = 0
    · subst h0; simp
    · have hc : ¬ (remaining = 0 ∨ mp = 0) := by omega
      simp only [hc, if_false]
      obtain ⟨i1, i2⟩ := ih (remaining - min mp remaining) (by omega)
      refine ⟨by simp [i1]; omega, ?_⟩
      intro f hf'
      rcases List.mem_cons.mp hf' with h | h
      · subst h; omega
      · exact i2 f h

theorem mkChunks_spec (si : BitVec 16) (msg : Nat) (ppi : BitVec 32) (u : Bool) (ssn : BitVec 16) (mid : BitVec 32)
    (fs : List Nat) (fsn : BitVec 32) (first : Bool) :
    sumLen (mkChunks si msg ppi u ssn mid fs fsn first) = fs.sum ∧
    (∀ k, bytesOf k (mkChunks si msg ppi u ssn mid fs fsn first) = if k = si then fs.sum else 0) ∧
    (mkChunks si msg ppi u ssn mid fs fsn first).length = fs.length ∧
    (∀ c ∈ mkChunks si msg ppi u ssn mid fs fsn first, c.len ∈ fs ∧ c.acked = false ∧ c.si = si) := by
  refine ⟨?_, ?_, mkChunks_length _ _ _ _ _ _ _ _ _, fun c hc => ?_⟩
  · induction fs generalizing fsn first with
    | nil => rfl
    | cons f r ih => simp only [mkChunks, sumLen, List.sum_cons, ih]
  · intro k
    induction fs generalizing fsn first with
    | nil => simp [mkChunks, bytesOf]
    | cons f r ih =>
      simp only [mkChunks, bytesOf, ih, List.sum_cons]
      by_cases hk : k = si
      · subst hk; simp
      · have : ¬ si = k := fun h => hk h.symm
        simp [hk, this]
  · obtain ⟨i, hi, rfl⟩ := mkChunks_mem hc
    exact ⟨List.getElem_mem hi, rfl, rfl⟩

/-- what `packetize` does to the stream object: only `bufferedAmount` and the SSN / MID counters move -/
theorem packetize_st (cfg : Cfg) (st : Stream) (si : BitVec 16) (msg : Nat) (ppi : BitVec 32) (len : Nat) :
    (packetize cfg st si msg ppi len).st.registered = st.registered ∧
    (packetize cfg st si msg ppi len).st.buffered = st.buffered + BitVec.ofNat 64 len ∧
    (packetize cfg st si msg ppi len).wrap = decide (st.buffered.toNat + len ≥ 2^64) ∧
    (packetize cfg st si msg ppi len).st.threshold = st.threshold ∧ (packetize cfg st si msg ppi len).st.hasCb = st.hasCb ∧
    (packetize cfg st si msg ppi len).st.cbCount = st.cbCount := by
  simp only [packetize]
  cases cfg.useInterleaving <;> cases (ppi != BitVec.ofNat 32 PayloadTypeWebRTCDCEP && st.unordered) <;>
    exact ⟨rfl, rfl, rfl, rfl, rfl, rfl⟩

theorem packetize_spec (cfg : Cfg) (st : Stream) (si : BitVec 16) (msg : Nat) (ppi : BitVec 32) (len : Nat) (hmp : cfg.maxPayload ≠ 0) :
    (packetize cfg st si msg ppi len).st.registered = st.registered ∧
    (packetize cfg st si msg ppi len).st.buffered = st.buffered + BitVec.ofNat 64 len ∧
    (packetize cfg st si msg ppi len).wrap = decide (st.buffered.toNat + len ≥ 2^64) ∧
    sumLen (packetize cfg st si msg ppi len).chunks = len ∧
    (∀ k, bytesOf k (packetize cfg st si msg ppi len).chunks = if k = si then len else 0) ∧
    (∀ c ∈ (packetize cfg st si msg ppi len).chunks, 0 < c.len ∧ c.len ≤ cfg.maxPayload.toNat ∧ c.acked = false ∧ c.si = si) ∧
    (packetize cfg st si msg ppi len).st.threshold = st.threshold ∧ (packetize cfg st si msg ppi len).st.hasCb = st.hasCb ∧
    (packetize cfg st si msg ppi len).st.cbCount = st.cbCount := by
  have hmp' : 0 < cfg.maxPayload.toNat := by
    rcases Nat.eq_zero_or_pos cfg.maxPayload.toNat with h | h
    · exact absurd (BitVec.eq_of_toNat_eq (by simpa using h)) hmp
    · exact h
  obtain ⟨f1, f2⟩ := fragAux_spec cfg.maxPayload.toNat hmp' len len (Nat.le_refl _)
  obtain ⟨s1, s2, s3, s7, s8, s9⟩ := packetize_st cfg st si msg ppi len
  refine ⟨s1, s2, s3, ?_, ?_, ?_, s7, s8, s9⟩ <;> simp only [packetize, fragSizes]
  · rw [(mkChunks_spec _ _ _ _ _ _ _ _ _).1, f1]
  · intro k; rw [(mkChunks_spec _ _ _ _ _ _ _ _ _).2.1 k, f1]
  · intro c hc
    obtain ⟨a1, a2, a3⟩ := (mkChunks_spec _ _ _ _ _ _ _ _ _).2.2.2 c hc
    exact ⟨(f2 _ a1).1, (f2 _ a1).2, a2, a3⟩

theorem Api.core {a b : St} (m : Api a b) (hb : Core a) : Core b := by
  cases m with
  | queue si st ppi len hs hmp hlen he =>
    obtain ⟨_, _, _, p4, _, p6, _⟩ := packetize_spec a.cfg st si a.nextMsg ppi len hmp
    refine ⟨hb.inf, ?_, ?_, hb.ackedEmpty, ?_⟩
    · simp only [pushPending, setStream, sumLen_append, p4]; rw [show a.penBytes = _ from hb.pen]; push_cast; rfl
    · simp only [pushPending, setStream, List.length_append]; rw [show a.penChunks = _ from hb.penN]; push_cast; rfl
    · intro c hc
      rcases List.mem_append.mp hc with h | h
      · exact hb.penSmall c h
      · exact ⟨by have := a.cfg.maxPayload.isLt; have := (p6 c h).2.1; omega, (p6 c h).2.2.1⟩
  | _ => exact ⟨hb.inf, hb.pen, hb.penN, hb.ackedEmpty, hb.penSmall⟩

theorem Atom.core {a b : St} (m : Atom a b) (hb : Core a) : Core b := by
  cases m with
  | flag m => exact m.sameAcct.books.sameCore.transfer hb
  | abandon m => exact m.sameAcct.books.sameCore.transfer hb
  | new m => exact core_newData.of_new m hb
  | ack m => cases m with | ack cum arwnd gaps r hst hv h => exact (setPeerWindow_same r.1 arwnd).sameCore.transfer (ackPhase_core hb h)
  | api m => exact m.core hb

theorem write_core (s : St) (si : BitVec 16) (ppi : BitVec 32) (len : Nat) (hb : Core s) : Core (write s si ppi len).1 :=
  (write_api s si ppi len).rule (fun _ _ m => m.core) hb

theorem step_core (s : St) (op : Op) (hb : Core s) (_hm : CfgOk s.cfg) : Core (step s op) :=
  (step_star s op).rule (fun _ _ m => m.core) hb

theorem gather_core (s : St) (orc : Oracle) (sel : List Nat) (hb : Core s) : Core (gather s orc sel).1 :=
  (step_star s (.gather orc sel)).rule (fun _ _ m => m.core) hb

theorem sack_core (s : St) (cum arwnd : BitVec 32) (gaps : List (BitVec 16 × BitVec 16)) (marks : List (BitVec 32))
    (hb : Core s) (_hm : s.cfg.mtu.toNat < 2^30) : Core (sack s cum arwnd gaps marks).1 :=
  (step_star s (.sack cum arwnd gaps marks)).rule (fun _ _ m => m.core) hb

theorem run_core (s : St) (ops : List Op) (hb : Core s) (_hw : WinInv s) : Core (run s ops) := run_rule (fun _ _ m => m.core) s ops hb

/-- a write never lowers the "bufferedAmount wrapped" flag -/
theorem write_wrapBuf (s : St) (si : BitVec 16) (ppi : BitVec 32) (len : Nat) :
    (write s si ppi len).1.wrapBuf = false → s.wrapBuf = false := by
  rcases write_eq s si ppi len with ⟨he, _⟩ | ⟨st, _, _, _, _, ⟨_, _, he⟩ | ⟨_, _, he⟩⟩ <;> rw [he]
  · exact id
  · exact fun h => (Bool.or_eq_false_iff.mp h).1
  · exact fun h => (Bool.or_eq_false_iff.mp h).1

theorem outstanding_pushPending (s : St) (cs : List Chunk) (k : BitVec 16) :
    outstanding (pushPending s cs) k = outstanding s k + bytesOf k cs := by
  simp only [outstanding, pushPending, bytesOf_append]; omega

theorem write_books (s : St) (si : BitVec 16) (ppi : BitVec 32) (len : Nat) (hb : BooksG s)
    (hreg : ∀ st, s.streams si = some st → st.registered = true) : BooksG (write s si ppi len).1 := by
  intro hw
  have hbk := hb (write_wrapBuf s si ppi len hw)
  have hc := write_core s si ppi len hbk.core
  rcases write_eq s si ppi len with ⟨he, _⟩ | ⟨st, hs, _, _, hmp, ⟨_, _, he⟩ | ⟨_, _, he⟩⟩ <;> rw [he] at hw hc ⊢
  · exact hbk
  · -- the chunks are queued: the stream's buffered amount and its pending bytes both grow by `len`
    obtain ⟨p1, p2, p3, _, p5, _⟩ := packetize_spec s.cfg st si s.nextMsg ppi len hmp
    have hnw : st.buffered.toNat + len < 2^64 := by simpa [p3] using (Bool.or_eq_false_iff.mp hw).2
    have hbuf : (packetize s.cfg st si s.nextMsg ppi len).st.buffered.toNat = st.buffered.toNat + len := by
      rw [p2, BitVec.toNat_add, BitVec.toNat_ofNat]; omega
    have hbs : st.buffered.toNat = outstanding s si := by simpa [bufOf, hs] using hbk.streams si
    refine .of_core hc (fun k => ?_) (fun k st' hs' hr' => ?_) hbk.noClamp
    · rw [outstanding_pushPending, p5 k]
      show bufOf (setStream s si _) k = outstanding s k + _
      rw [bufOf_setStream]
      by_cases hk : k = si
      · rw [if_pos hk, if_pos hk, hk, hbuf, hbs]
      · rw [if_neg hk, if_neg hk]; exact hbk.streams k
    · have hs'' : (setStream s si (packetize s.cfg st si s.nextMsg ppi len).st).streams k = some st' := hs'
      simp only [setStream] at hs''
      by_cases hk : k = si
      · rw [if_pos hk] at hs''
        rw [← Option.some.inj hs'', p1, hreg st hs] at hr'; cases hr'
      · rw [if_neg hk] at hs''
        rw [outstanding_pushPending, p5 k, if_neg hk]
        exact hbk.unreg k st' hs'' hr'
  · exact ⟨hbk.inf, hbk.pen, hbk.penN, hbk.ackedEmpty, hbk.penSmall, hbk.streams, hbk.unreg, hbk.noClamp⟩

/-- "a stream is registered with the association while it has data outstanding" (the hypothesis deviation D9 forces):
the association drops a stream only when nothing of it is outstanding, and nobody writes to a dropped stream -/
def OpOk (s : St) : Op → Prop
  | .unreg si => outstanding s si = 0
  | .write si _ _ => ∀ st, s.streams si = some st → st.registered = true
  | _ => True

def RunOk : St → List Op → Prop
  | _, [] => True
  | s, op :: ops => OpOk s op ∧ RunOk (step s op) ops

theorem openStream_books (s : St) (si : BitVec 16) (u : Bool) (rt : BitVec 8) (rv : BitVec 32) (th : BitVec 64) (hb : Books s) :
    Books (openStream s si u rt rv th) := by
  have hsi := hb.streams si
  refine ⟨hb.inf, hb.pen, hb.penN, hb.ackedEmpty, hb.penSmall, ?_, ?_, hb.noClamp⟩
  · intro k
    have := hb.streams k
    simp only [bufOf, outstanding, openStream, setStream] at *
    by_cases hk : k = si
    · subst hk
      simp only [if_true]
      cases hs : s.streams k with
      | none => simp only [hs] at this ⊢; simpa using this
      | some st =>
        simp only [hs] at this ⊢
        by_cases hr : st.registered = true
        · simpa [hr] using this
        · have := hb.unreg k st hs (by simpa using hr)
          simp only [outstanding] at this
          simp [hr]; omega
    · simp only [hk, if_false]; exact this
  · intro k st' hs' hr'
    simp only [openStream, setStream] at hs'
    by_cases hk : k = si
    · subst hk
      simp only [if_true, Option.some.injEq] at hs'
      subst hs'
      cases hs : s.streams k with
      | none => simp [hs] at hr'
      | some st =>
        by_cases hr : st.registered = true
        · simp [hs, hr] at hr'
        · simp [hs, hr] at hr'
    · simp only [hk, if_false] at hs'
      exact hb.unreg k st' hs' hr'

theorem unregister_books (s : St) (si : BitVec 16) (hb : Books s) (h0 : outstanding s si = 0) : Books (unregister s si) := by
  unfold unregister
  cases hs : s.streams si with
  | none => exact hb
  | some st =>
    refine ⟨hb.inf, hb.pen, hb.penN, hb.ackedEmpty, hb.penSmall, ?_, ?_, hb.noClamp⟩
    · intro k
      have := hb.streams k
      simp only [bufOf, outstanding, setStream] at *
      by_cases hk : k = si
      · subst hk; simp only [if_true, hs] at this ⊢; exact this
      · simp only [hk, if_false]; exact this
    · intro k st' hs' hr'
      simp only [setStream] at hs'
      by_cases hk : k = si
      · subst hk; exact h0
      · simp only [hk, if_false] at hs'; exact hb.unreg k st' hs' hr'

theorem t3_same (s : St) : SameBooks s (t3 s) := (t3_frame s).1.books

theorem iter_t3_same (n : Nat) (s : St) : SameBooks s (iter t3 n s) := by
  induction n generalizing s with
  | zero => exact SameBooks.refl s
  | succ n ih => exact SameBooks.trans (t3_same s) (ih (t3 s))

/-- every step keeps the books, provided streams stay registered while they have data outstanding -/
theorem step_books (s : St) (op : Op) (hb : BooksG s) (hok : OpOk s op) :
    BooksG (step s op) ∧ ((step s op).wrapBuf = false → s.wrapBuf = false) := by
  cases op with
  | openS si u rt rv th => exact ⟨fun hw => openStream_books s si u rt rv th (hb hw), id⟩
  | unreg si =>
    refine ⟨fun hw => ?_, ?_⟩
    · have hw' : s.wrapBuf = false := by
        simp only [step, unregister] at hw; split at hw <;> exact hw
      exact unregister_books s si (hb hw') hok
    · intro hw; simp only [step, unregister] at hw; split at hw <;> exact hw
  | setEstablished b =>
    have h : SameBooks s (step s (.setEstablished b)) := ⟨rfl, rfl, rfl, rfl, rfl, rfl, rfl, rfl⟩
    exact ⟨h.transferG hb, id⟩
  | write si ppi len => exact ⟨write_books s si ppi len hb hok, write_wrapBuf s si ppi len⟩
  | gather orc sel =>
    obtain ⟨g1, g2⟩ := gather_books s orc sel hb
    exact ⟨g1, fun hw => by rw [← g2]; exact hw⟩
  | sack cum arwnd gaps marks =>
    obtain ⟨g1, g2⟩ := sack_books s cum arwnd gaps marks hb
    exact ⟨g1, fun hw => by rw [← g2]; exact hw⟩
  | t3 => exact ⟨(t3_same s).transferG hb, fun hw => by rw [← (t3_same s).2.2.2.2.2.2.2]; exact hw⟩
  | tick ms n marks =>
    have h := (tick_sameAcct s ms n marks).books
    exact ⟨h.transferG hb, fun hw => by rw [← h.2.2.2.2.2.2.2]; exact hw⟩

theorem step_cfg (s : St) (op : Op) (h : WinInv s) : CfgOk (step s op).cfg := (step_win s op h).1.cfgOk

theorem run_books (s : St) (ops : List Op) (hb : BooksG s) (hw : WinInv s) (hok : RunOk s ops) :
    BooksG (run s ops) ∧ ((run s ops).wrapBuf = false → s.wrapBuf = false) := by
  induction ops generalizing s with
  | nil => exact ⟨hb, id⟩
  | cons op ops ih =>
    obtain ⟨s1, s2⟩ := step_books s op hb hok.1
    obtain ⟨r1, r2⟩ := ih (step s op) s1 (step_win s op hw).1 hok.2
    exact ⟨r1, fun h => s2 (r2 h)⟩

theorem init_books (cfg : Cfg) (tsn peerRwnd : BitVec 32) : Books (init cfg tsn peerRwnd) := by
  refine ⟨rfl, rfl, rfl, ?_, ?_, ?_, ?_, rfl⟩
  · intro c hc; simp [init] at hc
  · intro c hc; simp [init] at hc
  · intro si; simp [bufOf, outstanding, init, bytesOf]
  · intro si st hs; simp [init] at hs

theorem bytesOf_zero_iff (si : BitVec 16) (l : List Chunk) : bytesOf si l = 0 ↔ ∀ c ∈ l, c.si = si → c.len = 0 := by
  induction l with
  | nil => simp [bytesOf]
  | cons x r ih =>
    simp only [bytesOf, List.mem_cons, forall_eq_or_imp]
    by_cases hx : x.si = si
    · simp only [hx, if_true, forall_const]
      rw [← ih]; omega
    · simp only [hx, if_false, false_implies, true_and]
      rw [← ih]; omega

theorem sumLen_zero_iff (l : List Chunk) : sumLen l = 0 ↔ ∀ c ∈ l, c.len = 0 := by
  induction l with
  | nil => simp [sumLen]
  | cons x r ih =>
    simp only [sumLen, List.mem_cons, forall_eq_or_imp]
    rw [← ih]; omega

/-- a write outside the established state is rolled back completely -/
theorem write_rollback (s : St) (si : BitVec 16) (ppi : BitVec 32) (len : Nat) (h : s.established = false) :
    (write s si ppi len).1.streams = s.streams ∧ (write s si ppi len).1.pending = s.pending ∧
    (write s si ppi len).1.penBytes = s.penBytes ∧ (write s si ppi len).1.penChunks = s.penChunks ∧ (write s si ppi len).2.1 = 0 := by
  have h5 : (write s si ppi len).2.1 = 0 := by
    unfold write
    split
    · rfl
    · split
      · rfl
      · split
        · rfl
        · split
          · rfl
          · simp only [h, Bool.false_eq_true, if_false]
  rcases write_eq s si ppi len with ⟨he, _⟩ | ⟨st, _, _, _, _, ⟨he, _⟩ | ⟨_, _, he⟩⟩
  · rw [he]; exact ⟨rfl, rfl, rfl, rfl, h5⟩
  · rw [h] at he; cases he
  · rw [he]; exact ⟨rfl, rfl, rfl, rfl, h5⟩

end SenderProofs
