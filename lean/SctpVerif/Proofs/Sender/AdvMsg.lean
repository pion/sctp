import SctpVerif.Proofs.Sender.Adv
import SctpVerif.Proofs.Sender.Callback
/-! Which messages can be abandoned, and which retransmission paths look at `abandoned()`.

* `MsgInv`: the fragments of one message share stream and payload type (message identities are fresh per write).
* `NoAb Q`: no chunk whose (stream, payload type) satisfies `Q` belongs to an abandoned message — kept by every step as long
  as `checkPartialReliabilityStatus` leaves such chunks alone (`Safe Q`): DCEP always, a stream with reliable policy.
* T3 and RACK/PTO marks never flag an abandoned chunk; neither the fast-retransmit gather nor the T3 retransmission
  gather (`getDataPacketsToRetransmit`, since the fix of D21) takes one. -/
namespace SenderProofs
open Gen Sender

/-! ### identity of the queued chunks -/

def Chunk.key3 (c : Chunk) : Nat × BitVec 16 × BitVec 32 := (c.msg, c.si, c.ppi)

theorem key3_of_ident {c c' : Chunk} (h : Chunk.ident c' = Chunk.ident c) : Chunk.key3 c' = Chunk.key3 c := by
  simp only [Chunk.key3, ident_msg h, ident_si h, ident_ppi h]

/-- all chunks the sender holds -/
def chunksOf (s : St) : List Chunk := s.inflight ++ s.pending

/-- every chunk of `s'` is, up to its mutable fields, a chunk of `s` -/
def Sub (s s' : St) : Prop := ∀ c' ∈ chunksOf s', ∃ c ∈ chunksOf s, Chunk.key3 c' = Chunk.key3 c

theorem Sub.refl (s : St) : Sub s s := fun c hc => ⟨c, hc, rfl⟩
theorem Sub.trans {a b c : St} (h1 : Sub a b) (h2 : Sub b c) : Sub a c := by
  intro x hx
  obtain ⟨y, hy, e1⟩ := h2 x hx
  obtain ⟨z, hz, e2⟩ := h1 y hy
  exact ⟨z, hz, e1.trans e2⟩

theorem Sub.of_qev {k : Nat} {s s' : St} (h : QEv k s s') (hp : s'.pending = s.pending) : Sub s s' := by
  intro c' hc'
  rcases List.mem_append.mp hc' with h1 | h1
  · obtain ⟨c, hc, e⟩ := h.mem h1
    exact ⟨c, List.mem_append_left _ hc, key3_of_ident e.ident⟩
  · exact ⟨c', List.mem_append_right _ (hp ▸ h1), rfl⟩

/-- `checkPartialReliabilityStatus` never abandons a chunk whose (stream, payload type) satisfies `Q` -/
def Safe (Q : BitVec 16 → BitVec 32 → Prop) (s : St) : Prop := ∀ aband c, Q c.si c.ppi → checkPR s aband c = aband

theorem Safe.congr {Q : BitVec 16 → BitVec 32 → Prop} {s s' : St} (h : PolEq s s') (hs : Safe Q s) : Safe Q s' :=
  fun aband c hq => by rw [checkPR_congr h]; exact hs aband c hq

/-- new entries of the abandoned set are messages of chunks that do not satisfy `Q` -/
def NewAb (Q : BitVec 16 → BitVec 32 → Prop) (s s' : St) : Prop :=
  ∀ m ∈ s'.abandonedMsgs, m ∈ s.abandonedMsgs ∨ ∃ c ∈ chunksOf s, c.msg = m ∧ ¬ Q c.si c.ppi

structure GMsg (Q : BitVec 16 → BitVec 32 → Prop) (s s' : St) : Prop where
  sub : Sub s s'
  pol : PolEq s s'
  nab : NewAb Q s s'

theorem GMsg.refl (Q : BitVec 16 → BitVec 32 → Prop) (s : St) : GMsg Q s s := ⟨Sub.refl s, PolEq.refl s, fun _ h => Or.inl h⟩

theorem GMsg.trans {Q : BitVec 16 → BitVec 32 → Prop} {a b c : St} (h1 : GMsg Q a b) (h2 : GMsg Q b c) : GMsg Q a c := by
  refine ⟨h1.sub.trans h2.sub, h1.pol.trans h2.pol, ?_⟩
  intro m hm
  rcases h2.nab m hm with h | ⟨x, hx, e, hq⟩
  · exact h1.nab m h
  · obtain ⟨y, hy, e2⟩ := h1.sub x hx
    simp only [Chunk.key3, Prod.mk.injEq] at e2
    exact Or.inr ⟨y, hy, by rw [← e2.1]; exact e, by rw [← e2.2.1, ← e2.2.2]; exact hq⟩

/-- same queues (up to flags), same policy fields, same abandoned set -/
theorem GMsg.of_same (Q : BitVec 16 → BitVec 32 → Prop) {s s' : St} (hi : s'.inflight = s.inflight)
    (hp : s'.pending = s.pending) (hpol : PolEq s s') (hab : s'.abandonedMsgs = s.abandonedMsgs) : GMsg Q s s' :=
  ⟨Sub.of_qev (QEv.of_eq hi) hp, hpol, fun m hm => Or.inl (by rw [← hab]; exact hm)⟩

/-! ### the scan loops -/

theorem scanLoop_newab {B : Type} (Q : BitVec 16 → BitVec 32 → Prop) (s : St) (hs : Safe Q s) (dec : Int → LoopAcc B → Chunk → Take B)
    (upd : Chunk → Chunk) (hupd : ∀ c, Chunk.ident (upd c) = Chunk.ident c) (i : Int) (q : List Chunk) (a : LoopAcc B) :
    ∀ m ∈ (scanLoop s dec upd i q a).2.aband, m ∈ a.aband ∨ ∃ c ∈ q, c.msg = m ∧ ¬ Q c.si c.ppi := by
  induction q generalizing i a with
  | nil => intro m hm; left; simpa [scanLoop] using hm
  | cons c rest ih =>
    intro m hm
    simp only [scanLoop] at hm
    cases hd : dec i a c with
    | skip =>
      rw [hd] at hm
      rcases ih _ _ m hm with h | ⟨x, hx, e, hq⟩
      · exact Or.inl h
      · exact Or.inr ⟨x, List.mem_cons_of_mem _ hx, e, hq⟩
    | stop b => rw [hd] at hm; exact Or.inl hm
    | take b bip =>
      rw [hd] at hm
      rcases ih _ _ m hm with h | ⟨x, hx, e, hq⟩
      · simp only at h
        by_cases hQ : Q c.si c.ppi
        · rw [hs a.aband (upd c) (by rw [ident_si (hupd c), ident_ppi (hupd c)]; exact hQ)] at h
          exact Or.inl h
        · rcases checkPR_cases s a.aband (upd c) with h1 | h1
          · rw [h1] at h; exact Or.inl h
          · rw [h1] at h
            rcases List.mem_cons.mp h with h2 | h2
            · exact Or.inr ⟨c, List.mem_cons_self, by rw [h2, ident_msg (hupd c)], hQ⟩
            · exact Or.inl h2
      · exact Or.inr ⟨x, List.mem_cons_of_mem _ hx, e, hq⟩

theorem scanSplit_suffix_mem (s : St) {c : Chunk} (h : c ∈ (scanSplit s).2) : c ∈ s.inflight := by
  rw [← scanSplit_append s]; exact List.mem_append_right _ h

theorem gatherRtx_gmsg (Q : BitVec 16 → BitVec 32 → Prop) (s : St) (orc : Oracle) (hs : Safe Q s) : GMsg Q s (gatherRtx s orc).1 := by
  refine ⟨Sub.of_qev (QEv.of_fl (gatherRtx_fl s orc)) rfl, ⟨rfl, rfl, rfl, rfl⟩, ?_⟩
  intro m hm
  rcases scanLoop_newab Q s hs _ _ (fun c => (rtxUpd_fl s c).ident) 0 _ { b := orc.b, aband := s.abandonedMsgs } m hm with h | ⟨x, hx, e, hq⟩
  · exact Or.inl h
  · exact Or.inr ⟨x, List.mem_append_left _ (scanSplit_suffix_mem s hx), e, hq⟩

theorem gatherFast_gmsg {B : Type} (Q : BitVec 16 → BitVec 32 → Prop) (s : St) (allow : B → Int → Bool × B) (b : B) (hs : Safe Q s) :
    GMsg Q s (gatherFast s allow b).1 := by
  unfold gatherFast
  split
  · exact GMsg.refl Q s
  · have hs0 : Safe Q { s with willRetransmitFast := false } := hs.congr ⟨rfl, rfl, rfl, rfl⟩
    refine ⟨Sub.of_qev (QEv.of_fl (scan_fl s { s with willRetransmitFast := false } _ _ (fastUpd_fl _) _ rfl)) rfl, ⟨rfl, rfl, rfl, rfl⟩, ?_⟩
    · intro m hm
      rcases scanLoop_newab Q _ hs0 _ _ (fun c => (fastUpd_fl _ c).ident) 0 _ { b := b, size := hdr, aband := s.abandonedMsgs } m hm with h | ⟨x, hx, e, hq⟩
      · exact Or.inl h
      · exact Or.inr ⟨x, List.mem_append_left _ (scanSplit_suffix_mem { s with willRetransmitFast := false } hx), e, hq⟩

/-! ### moving chunks from pending to in flight -/

theorem popPend_gmsg (Q : BitVec 16 → BitVec 32 → Prop) (s : St) (i : Nat) (c : Chunk) : GMsg Q s (popPend s i c) := by
  refine ⟨?_, ⟨rfl, rfl, rfl, rfl⟩, fun m hm => Or.inl hm⟩
  intro x hx
  rcases List.mem_append.mp hx with h | h
  · exact ⟨x, List.mem_append_left _ h, rfl⟩
  · exact ⟨x, List.mem_append_right _ (mem_eraseIdx h), rfl⟩

theorem move_gmsg (Q : BitVec 16 → BitVec 32 → Prop) (s : St) (i : Nat) (c : Chunk) (hs : Safe Q s) (hp : s.pending[i]? = some c) :
    GMsg Q s (move s i c).1 := by
  have hc : c ∈ s.pending := List.mem_of_getElem? hp
  refine ⟨?_, ⟨rfl, rfl, rfl, rfl⟩, ?_⟩
  · intro x hx
    simp only [chunksOf, move, popPend] at hx
    rcases List.mem_append.mp hx with h | h
    · rcases List.mem_append.mp h with h1 | h1
      · exact ⟨x, List.mem_append_left _ h1, rfl⟩
      · simp only [List.mem_singleton] at h1
        exact ⟨c, List.mem_append_right _ hc, by rw [h1]; rfl⟩
    · exact ⟨x, List.mem_append_right _ (mem_eraseIdx h), rfl⟩
  · intro m hm
    have key : ∀ (X : St) (C : Chunk), PolEq s X → C.msg = c.msg → C.si = c.si → C.ppi = c.ppi → m ∈ checkPR X s.abandonedMsgs C →
        m ∈ s.abandonedMsgs ∨ ∃ c ∈ chunksOf s, c.msg = m ∧ ¬ Q c.si c.ppi := by
      intro X C hX e1 e2 e3 hm
      rw [checkPR_congr hX] at hm
      by_cases hQ : Q c.si c.ppi
      · rw [hs _ C (by rw [e2, e3]; exact hQ)] at hm
        exact Or.inl hm
      · rcases checkPR_cases s s.abandonedMsgs C with h1 | h1
        · rw [h1] at hm; exact Or.inl hm
        · rw [h1] at hm
          rcases List.mem_cons.mp hm with h2 | h2
          · exact Or.inr ⟨c, List.mem_append_right _ hc, by rw [h2, e1], hQ⟩
          · exact Or.inl h2
    simp only [move, popPend] at hm
    exact key _ _ (by exact ⟨rfl, rfl, rfl, rfl⟩) (by rfl) (by rfl) (by rfl) hm

theorem gatherNew_gmsg {B : Type} (Q : BitVec 16 → BitVec 32 → Prop) (s : St) (allow : B → Int → Bool × B) (b : B) (sel : List Nat)
    (hs : Safe Q s) : GMsg Q s (gatherNew s allow b sel).1 := by
  -- `Safe Q` of the current state travels with the relation: every part keeps the policy fields
  have same : ∀ x x' : St, x'.inflight = x.inflight → x'.pending = x.pending → PolEq x x' → x'.abandonedMsgs = x.abandonedMsgs →
      GMsg Q s x → GMsg Q s x' := fun x x' h1 h2 h3 h4 h => h.trans (GMsg.of_same Q h1 h2 h3 h4)
  exact gatherNew_rule (P := GMsg Q s)
    ⟨fun x i c h _ _ => h.trans (popPend_gmsg Q x i c), fun x c h => same x _ rfl rfl ⟨rfl, rfl, rfl, rfl⟩ rfl h,
     fun x c h => same x _ rfl rfl ⟨rfl, rfl, rfl, rfl⟩ rfl h, fun x i c h hp => h.trans (move_gmsg Q x i c (hs.congr h.pol) hp)⟩
    allow b s sel (GMsg.refl Q s)

theorem gather_gmsg (Q : BitVec 16 → BitVec 32 → Prop) (s : St) (orc : Oracle) (sel : List Nat) (hs : Safe Q s) :
    GMsg Q s (gather s orc sel).1 := by
  by_cases he : s.established = true
  · rw [(gather_eq s orc sel he).1]
    have g1 := gatherRtx_gmsg Q s orc hs
    have g2 := g1.trans (gatherNew_gmsg Q _ orc.allow (gatherRtx s orc).2.2 sel (hs.congr g1.pol))
    have g3 : GMsg Q s (gatherPre s orc sel) := g2.trans (gatherFast_gmsg Q _ orc.allow
      (gatherNew (gatherRtx s orc).1 orc.allow (gatherRtx s orc).2.2 sel).2.b (hs.congr g2.pol))
    exact g3.trans (GMsg.of_same Q rfl rfl ⟨rfl, rfl, rfl, rfl⟩ rfl)
  · unfold gather
    simp only [he, Bool.not_false, if_true]
    exact GMsg.refl Q s

/-! ### the acknowledgement side keeps queues (shrunk), policy fields and the abandoned set -/

/-- a SACK: queued chunks are a subset (up to flags) -/
theorem sack_sub (s : St) (cum arwnd : BitVec 32) (gaps : List (BitVec 16 × BitVec 16)) (marks : List (BitVec 32)) :
    Sub s (sack s cum arwnd gaps marks).1 := by
  obtain ⟨k, hk⟩ := sack_qev s cum arwnd gaps marks
  exact Sub.of_qev hk (sack_pending s cum arwnd gaps marks)

theorem t3_ident (s : St) : (t3 s).inflight.map Chunk.ident = s.inflight.map Chunk.ident ∧ (t3 s).pending = s.pending ∧
    PolEq s (t3 s) := by
  refine ⟨(t3_fl s).ident_fl, ?_⟩
  obtain ⟨x, _, _, _, _, _, _, h, hx⟩ := t3_shape s
  rw [h, hx]
  exact ⟨rfl, rfl, rfl, rfl, rfl⟩

/-! ### message identities are fresh; fragments of a message share stream and payload type -/

structure MsgInv (s : St) : Prop where
  lt : ∀ c ∈ chunksOf s, c.msg < s.nextMsg
  uni : ∀ c ∈ chunksOf s, ∀ c' ∈ chunksOf s, c.msg = c'.msg → c.si = c'.si ∧ c.ppi = c'.ppi
  ab : ∀ m ∈ s.abandonedMsgs, m < s.nextMsg

/-- no chunk whose (stream, payload type) satisfies `Q` belongs to a message flagged abandoned -/
def NoAb (Q : BitVec 16 → BitVec 32 → Prop) (s : St) : Prop := ∀ c ∈ chunksOf s, Q c.si c.ppi → c.msg ∉ s.abandonedMsgs

/-- nothing new: chunks a subset, same message counter, same abandoned set -/
def Quiet (s s' : St) : Prop := Sub s s' ∧ s'.nextMsg = s.nextMsg ∧ s'.abandonedMsgs = s.abandonedMsgs

theorem Quiet.refl (s : St) : Quiet s s := ⟨Sub.refl s, rfl, rfl⟩
theorem Quiet.trans {a b c : St} (h1 : Quiet a b) (h2 : Quiet b c) : Quiet a c :=
  ⟨h1.1.trans h2.1, h2.2.1.trans h1.2.1, h2.2.2.trans h1.2.2⟩

theorem key3_eq {c c' : Chunk} (h : Chunk.key3 c' = Chunk.key3 c) : c'.msg = c.msg ∧ c'.si = c.si ∧ c'.ppi = c.ppi := by
  simpa [Chunk.key3] using h

theorem MsgInv.of_sub {s s' : St} (h : MsgInv s) (hsub : Sub s s') (hn : s'.nextMsg = s.nextMsg)
    (hab : ∀ m ∈ s'.abandonedMsgs, m < s.nextMsg) : MsgInv s' := by
  refine ⟨?_, ?_, by rw [hn]; exact hab⟩
  · intro c' hc'
    obtain ⟨c, hc, e⟩ := hsub c' hc'
    rw [hn, (key3_eq e).1]; exact h.lt c hc
  · intro c1' h1 c2' h2 hm
    obtain ⟨c1, g1, e1⟩ := hsub c1' h1
    obtain ⟨c2, g2, e2⟩ := hsub c2' h2
    obtain ⟨a1, a2, a3⟩ := key3_eq e1
    obtain ⟨b1, b2, b3⟩ := key3_eq e2
    have := h.uni c1 g1 c2 g2 (by rw [← a1, ← b1]; exact hm)
    rw [a2, a3, b2, b3]; exact this

theorem MsgInv.quiet {s s' : St} (h : MsgInv s) (hq : Quiet s s') : MsgInv s' :=
  h.of_sub hq.1 hq.2.1 (by rw [hq.2.2]; exact h.ab)

theorem NoAb.quiet {Q : BitVec 16 → BitVec 32 → Prop} {s s' : St} (h : NoAb Q s) (hq : Quiet s s') : NoAb Q s' := by
  intro c' hc' hQ
  obtain ⟨c, hc, e⟩ := hq.1 c' hc'
  obtain ⟨a1, a2, a3⟩ := key3_eq e
  rw [hq.2.2, a1]
  exact h c hc (by rw [← a2, ← a3]; exact hQ)

theorem MsgInv.gmsg {s s' : St} (h : MsgInv s) (hg : GMsg (fun _ _ => False) s s') : MsgInv s' := by
  refine h.of_sub hg.sub hg.pol.2.2.2 ?_
  intro m hm
  rcases hg.nab m hm with h1 | ⟨c, hc, e, _⟩
  · exact h.ab m h1
  · rw [← e]; exact h.lt c hc

theorem NoAb.gmsg {Q : BitVec 16 → BitVec 32 → Prop} {s s' : St} (h : NoAb Q s) (hm : MsgInv s) (hg : GMsg Q s s') : NoAb Q s' := by
  intro c' hc' hQ hmem
  obtain ⟨c, hc, e⟩ := hg.sub c' hc'
  obtain ⟨a1, a2, a3⟩ := key3_eq e
  have hQc : Q c.si c.ppi := by rw [← a2, ← a3]; exact hQ
  rcases hg.nab _ hmem with h1 | ⟨x, hx, e2, hq⟩
  · exact h c hc hQc (by rw [← a1]; exact h1)
  · have := hm.uni x hx c hc (by rw [e2, a1])
    apply hq
    rw [this.1, this.2]; exact hQc

theorem safe_false (s : St) : Safe (fun _ _ => False) s := fun _ _ h => absurd h id

/-! ### the quiet steps -/

theorem sack_quiet (s : St) (cum arwnd : BitVec 32) (gaps : List (BitVec 16 × BitVec 16)) (marks : List (BitVec 32)) :
    Quiet s (sack s cum arwnd gaps marks).1 :=
  ⟨sack_sub s cum arwnd gaps marks, (sack_kept s cum arwnd gaps marks).nextMsg, (sack_kept s cum arwnd gaps marks).abandonedMsgs⟩

theorem t3_quiet (s : St) : Quiet s (t3 s) :=
  ⟨Sub.of_qev (QEv.of_fl (t3_fl s)) (t3_kept s).1.pending, (t3_kept s).1.nextMsg, (t3_kept s).1.abandonedMsgs⟩

theorem iter_t3_quiet (n : Nat) (s : St) : Quiet s (iter t3 n s) := by
  induction n generalizing s with
  | zero => exact Quiet.refl s
  | succ n ih => exact (t3_quiet s).trans (ih (t3 s))

theorem mkChunks_key (si : BitVec 16) (msg : Nat) (ppi : BitVec 32) (u : Bool) (ssn : BitVec 16) (mid : BitVec 32)
    (fs : List Nat) (fsn : BitVec 32) (first : Bool) :
    ∀ c ∈ mkChunks si msg ppi u ssn mid fs fsn first, c.msg = msg ∧ c.si = si ∧ c.ppi = ppi := by
  induction fs generalizing fsn first with
  | nil => intro c hc; simp [mkChunks] at hc
  | cons f r ih =>
    intro c hc
    simp only [mkChunks, List.mem_cons] at hc
    rcases hc with h | h
    · subst h; exact ⟨rfl, rfl, rfl⟩
    · exact ih _ _ c h

theorem write_chunks (s : St) (si : BitVec 16) (ppi : BitVec 32) (len : Nat) :
    (write s si ppi len).1.inflight = s.inflight ∧ (write s si ppi len).1.abandonedMsgs = s.abandonedMsgs ∧
    ((write s si ppi len).1.pending = s.pending ∧ ((write s si ppi len).1.nextMsg = s.nextMsg ∨ (write s si ppi len).1.nextMsg = s.nextMsg + 1) ∨
     ∃ new, (write s si ppi len).1.pending = s.pending ++ new ∧ (write s si ppi len).1.nextMsg = s.nextMsg + 1 ∧
       ∀ c ∈ new, c.msg = s.nextMsg ∧ c.si = si ∧ c.ppi = ppi) := by
  rcases write_eq s si ppi len with ⟨h, _⟩ | ⟨st, _, _, _, _, ⟨_, _, h⟩ | ⟨_, _, h⟩⟩ <;> rw [h]
  · exact ⟨rfl, rfl, Or.inl ⟨rfl, Or.inl rfl⟩⟩
  · exact ⟨rfl, rfl, Or.inr ⟨_, rfl, rfl, fun c hc => mkChunks_key _ _ _ _ _ _ _ _ _ c hc⟩⟩
  · exact ⟨rfl, rfl, Or.inl ⟨rfl, Or.inr rfl⟩⟩

theorem write_msginv (s : St) (si : BitVec 16) (ppi : BitVec 32) (len : Nat) (h : MsgInv s) : MsgInv (write s si ppi len).1 := by
  obtain ⟨w1, w2, w3⟩ := write_chunks s si ppi len
  rcases w3 with ⟨w3, w4⟩ | ⟨new, w3, w4, w5⟩
  · have hch : chunksOf (write s si ppi len).1 = chunksOf s := by simp only [chunksOf, w1, w3]
    have hle : s.nextMsg ≤ (write s si ppi len).1.nextMsg := by rcases w4 with e | e <;> rw [e] <;> omega
    exact ⟨fun c hc => Nat.lt_of_lt_of_le (h.lt c (by rw [← hch]; exact hc)) hle,
      fun c hc c' hc' => h.uni c (by rw [← hch]; exact hc) c' (by rw [← hch]; exact hc'),
      fun m hm => Nat.lt_of_lt_of_le (h.ab m (by rw [← w2]; exact hm)) hle⟩
  · have hch : ∀ c, c ∈ chunksOf (write s si ppi len).1 ↔ c ∈ chunksOf s ∨ c ∈ new := by
      intro c; simp only [chunksOf, w1, w3, List.mem_append]; exact or_assoc.symm
    refine ⟨?_, ?_, ?_⟩
    · intro c hc
      rw [w4]
      rcases (hch c).mp hc with h1 | h1
      · exact Nat.lt_succ_of_lt (h.lt c h1)
      · rw [(w5 c h1).1]; exact Nat.lt_succ_self _
    · intro c hc c' hc' hm
      rcases (hch c).mp hc with h1 | h1 <;> rcases (hch c').mp hc' with h2 | h2
      · exact h.uni c h1 c' h2 hm
      · have := h.lt c h1; rw [hm, (w5 c' h2).1] at this; omega
      · have := h.lt c' h2; rw [← hm, (w5 c h1).1] at this; omega
      · rw [(w5 c h1).2.1, (w5 c h1).2.2, (w5 c' h2).2.1, (w5 c' h2).2.2]; exact ⟨rfl, rfl⟩
    · intro m hm
      rw [w4]; exact Nat.lt_succ_of_lt (h.ab m (by rw [← w2]; exact hm))

theorem write_noab (Q : BitVec 16 → BitVec 32 → Prop) (s : St) (si : BitVec 16) (ppi : BitVec 32) (len : Nat) (hm : MsgInv s) (h : NoAb Q s) :
    NoAb Q (write s si ppi len).1 := by
  obtain ⟨w1, w2, w3⟩ := write_chunks s si ppi len
  intro c hc hQ
  rw [w2]
  rcases w3 with ⟨w3, _⟩ | ⟨new, w3, _, w5⟩
  · exact h c (by simpa only [chunksOf, w1, w3] using hc) hQ
  · simp only [chunksOf, w1, w3, List.mem_append] at hc
    rcases hc with h1 | h1 | h1
    · exact h c (List.mem_append_left _ h1) hQ
    · exact h c (List.mem_append_right _ h1) hQ
    · intro hmem
      have := hm.ab _ hmem
      rw [(w5 c h1).1] at this; omega

/-- every operation but `write` and `gather` is quiet -/
theorem step_quiet (s : St) (op : Op) :
    (∃ si ppi len, op = .write si ppi len) ∨ (∃ orc sel, op = .gather orc sel) ∨ Quiet s (step s op) := by
  cases op with
  | write si ppi len => exact .inl ⟨_, _, _, rfl⟩
  | gather orc sel => exact .inr (.inl ⟨_, _, rfl⟩)
  | openS si u rt rv th => exact .inr (.inr ⟨Sub.refl _, rfl, rfl⟩)
  | unreg si =>
    refine .inr (.inr ?_)
    simp only [step, unregister]
    cases s.streams si with
    | none => exact Quiet.refl s
    | some st => exact ⟨Sub.refl _, rfl, rfl⟩
  | setEstablished b => exact .inr (.inr ⟨Sub.refl _, rfl, rfl⟩)
  | sack cum arwnd gaps marks => exact .inr (.inr (sack_quiet s cum arwnd gaps marks))
  | t3 => exact .inr (.inr (t3_quiet s))
  | tick ms n marks =>
    have q1 : Quiet s { s with now := s.now + ms } := ⟨Sub.refl _, rfl, rfl⟩
    have q3 : Quiet (iter t3 n { s with now := s.now + ms }) (applyMarks (iter t3 n { s with now := s.now + ms }) marks) :=
      ⟨Sub.of_qev (QEv.of_fl (applyMarks_fl _ marks)) rfl, rfl, rfl⟩
    exact .inr (.inr (q1.trans ((iter_t3_quiet n _).trans q3)))

theorem step_msginv (s : St) (op : Op) (h : MsgInv s) : MsgInv (step s op) := by
  rcases step_quiet s op with ⟨si, ppi, len, rfl⟩ | ⟨orc, sel, rfl⟩ | hq
  · exact write_msginv s si ppi len h
  · exact h.gmsg (gather_gmsg _ s orc sel (safe_false s))
  · exact h.quiet hq

theorem step_noab (Q : BitVec 16 → BitVec 32 → Prop) (s : St) (op : Op) (hsafe : Safe Q s) (hm : MsgInv s) (h : NoAb Q s) :
    NoAb Q (step s op) := by
  rcases step_quiet s op with ⟨si, ppi, len, rfl⟩ | ⟨orc, sel, rfl⟩ | hq
  · exact write_noab Q s si ppi len hm h
  · exact h.gmsg hm (gather_gmsg Q s orc sel hsafe)
  · exact h.quiet hq

theorem run_msginv (s : St) (ops : List Op) (h : MsgInv s) : MsgInv (run s ops) := by
  induction ops generalizing s with
  | nil => exact h
  | cons op ops ih => exact ih (step s op) (step_msginv s op h)

theorem init_msginv (cfg : Cfg) (tsn peerRwnd : BitVec 32) : MsgInv (init cfg tsn peerRwnd) := by
  refine ⟨?_, ?_, ?_⟩ <;> simp [init, chunksOf]

/-- a chunk of a message that is not flagged abandoned is not `abandoned()` -/
theorem NoAb.abandoned {Q : BitVec 16 → BitVec 32 → Prop} {s : St} (h : NoAb Q s) {c : Chunk} (hc : c ∈ chunksOf s) (hQ : Q c.si c.ppi) :
    s.abandoned c = false := by
  have := h c hc hQ
  cases hab : s.abandoned c with
  | false => rfl
  | true =>
    exfalso
    have := (isAbandoned_iff _ _ _).mp hab
    exact (h c hc hQ) this.1

/-! ### who can be abandoned: never DCEP, never a chunk of a stream whose policy is reliable -/

def QDcep : BitVec 16 → BitVec 32 → Prop := fun _ ppi => ppi = BitVec.ofNat 32 PayloadTypeWebRTCDCEP
def QStream (si : BitVec 16) : BitVec 16 → BitVec 32 → Prop := fun si' _ => si' = si

theorem safe_dcep (s : St) : Safe QDcep s := by
  intro aband c hq
  unfold QDcep at hq
  unfold checkPR
  refine ite_elim (· = aband) _ rfl ?_
  rw [if_pos (by rw [hq]; exact beq_self_eq_true _)]

/-- the stream's policy is neither "limited retransmissions" nor "timed" (or the stream does not exist) -/
def StreamRel (si : BitVec 16) (s : St) : Prop :=
  ∀ st, s.streams si = some st → (st.relType == BitVec.ofNat 8 ReliabilityTypeRexmit) = false ∧ (st.relType == BitVec.ofNat 8 ReliabilityTypeTimed) = false

theorem safe_stream (si : BitVec 16) (s : St) (h : StreamRel si s) : Safe (QStream si) s := by
  intro aband c hq
  unfold QStream at hq
  unfold checkPR
  refine ite_elim (· = aband) _ rfl (ite_elim (· = aband) _ rfl ?_)
  rw [hq]
  cases hst : s.streams si with
  | none => rfl
  | some st =>
    obtain ⟨h1, h2⟩ := h st hst
    simp only [h1, h2, Bool.false_eq_true, if_false, ite_self]

/-- the reliability type recorded for a stream -/
def relTypeOf (s : St) (si : BitVec 16) : Option (BitVec 8) := (s.streams si).map (·.relType)

theorem streamRel_of_relType {s s' : St} {si : BitVec 16} (h : relTypeOf s' si = relTypeOf s si) (hr : StreamRel si s) : StreamRel si s' := by
  intro st' hst'
  unfold relTypeOf at h
  rw [hst'] at h
  cases hst : s.streams si with
  | none => rw [hst] at h; cases h
  | some st =>
    rw [hst] at h
    simp only [Option.map_some, Option.some.injEq] at h
    rw [h]; exact hr st hst

theorem relTypeOf_of_kept {s s' : St} {si : BitVec 16} (h : (s'.streams si).map Stream.kept = (s.streams si).map Stream.kept) :
    relTypeOf s' si = relTypeOf s si := by
  have e : (fun st : Stream => st.relType) ∘ Stream.kept = (·.relType) := rfl
  simpa only [relTypeOf, Option.map_map, e] using congrArg (Option.map (·.relType)) h

theorem relTypeOf_of_streams {s s' : St} (h : s'.streams = s.streams) (si : BitVec 16) : relTypeOf s' si = relTypeOf s si := by
  unfold relTypeOf; rw [h]

theorem packetize_relType (cfg : Cfg) (st : Stream) (si : BitVec 16) (msg : Nat) (ppi : BitVec 32) (len : Nat) :
    (packetize cfg st si msg ppi len).st.relType = st.relType := by
  simp only [packetize]
  repeat' split
  all_goals rfl

theorem write_relType (s : St) (k : BitVec 16) (ppi : BitVec 32) (len : Nat) (si : BitVec 16) :
    relTypeOf (write s k ppi len).1 si = relTypeOf s si := by
  rcases write_eq s k ppi len with ⟨h, _⟩ | ⟨st, hs, _, _, _, ⟨_, _, h⟩ | ⟨_, _, h⟩⟩ <;> rw [h]
  · unfold relTypeOf
    simp only [pushPending, setStream]
    by_cases hk : si = k
    · subst hk; simp [hs, packetize_relType]
    · simp [hk]
  · rfl

/-- an operation that does not give stream `si` a partially reliable policy -/
def KeepsRel (si : BitVec 16) : Op → Prop
  | .openS k _ rt _ _ => k = si → (rt == BitVec.ofNat 8 ReliabilityTypeRexmit) = false ∧ (rt == BitVec.ofNat 8 ReliabilityTypeTimed) = false
  | _ => True

theorem step_streamRel (s : St) (op : Op) (si : BitVec 16) (hk : KeepsRel si op) (h : StreamRel si s) : StreamRel si (step s op) := by
  cases op with
  | openS k u rt rv th =>
    intro st' hst'
    simp only [step, openStream, setStream] at hst'
    by_cases hki : si = k
    · simp only [hki, if_true, Option.some.injEq] at hst'
      rw [← hst']
      exact hk hki.symm
    · simp only [hki, if_false] at hst'
      exact h st' hst'
  | unreg k =>
    simp only [step, unregister]
    cases hs : s.streams k with
    | none => exact h
    | some st =>
      simp only
      intro st' hst'
      simp only [setStream] at hst'
      by_cases hki : si = k
      · simp only [hki, if_true, Option.some.injEq] at hst'
        rw [← hst']
        exact h st (by rw [hki]; exact hs)
      · simp only [hki, if_false] at hst'
        exact h st' hst'
  | setEstablished b => exact h
  | write k ppi len => exact streamRel_of_relType (write_relType s k ppi len si) h
  | gather orc sel => exact streamRel_of_relType (relTypeOf_of_streams (gather_streams s orc sel).2 si) h
  | sack cum arwnd gaps marks => exact streamRel_of_relType (relTypeOf_of_kept (sack_streams_kept s cum arwnd gaps marks si)) h
  | t3 => exact streamRel_of_relType (relTypeOf_of_streams (t3_kept s).2.1 si) h
  | tick ms n marks => exact streamRel_of_relType (relTypeOf_of_streams (tick_kept s ms n marks).2.1 si) h

/-- **DCEP is never abandoned**: along every run, no chunk carrying the DCEP payload type belongs to an abandoned message -/
theorem run_noab_dcep (s : St) (ops : List Op) (hm : MsgInv s) (h : NoAb QDcep s) : NoAb QDcep (run s ops) := by
  induction ops generalizing s with
  | nil => exact h
  | cons op ops ih => exact ih (step s op) (step_msginv s op hm) (step_noab QDcep s op (safe_dcep s) hm h)

/-- **a stream with reliable policy never has a message abandoned**, as long as nobody changes its policy -/
theorem run_noab_stream (si : BitVec 16) (s : St) (ops : List Op) (hw : WinInv s) (hm : MsgInv s) (hr : StreamRel si s) (h : NoAb (QStream si) s)
    (hk : ∀ op ∈ ops, KeepsRel si op) : NoAb (QStream si) (run s ops) ∧ StreamRel si (run s ops) := by
  induction ops generalizing s with
  | nil => exact ⟨h, hr⟩
  | cons op ops ih =>
    exact ih (step s op) (step_win s op hw).1 (step_msginv s op hm) (step_streamRel s op si (hk op (by simp)) hr)
      (step_noab (QStream si) s op (safe_stream si s hr) hm h) (fun o ho => hk o (by simp [ho]))

/-! ### which retransmission paths look at `abandoned()` -/

/-- `markAllToRetrasmit` on T3: exactly the chunks that are neither acked nor abandoned get flagged; nothing else changes -/
theorem t3_inflight (s : St) :
    (t3 s).inflight = s.inflight.map (fun c => if c.acked || s.abandoned c then c else { c with retransmit := true }) := by
  obtain ⟨x, _, _, _, _, _, _, h, hx⟩ := t3_shape s
  rw [h]
  simp only [markAllToRetransmit, St.abandoned, hx]; rfl

theorem scanLoop_out {B : Type} (s : St) (dec : Int → LoopAcc B → Chunk → Take B) (upd : Chunk → Chunk)
    (I : List Nat → Prop) (P : Chunk → Prop) (hI : ∀ aband c, I aband → I (checkPR s aband c))
    (hP : ∀ i a c b bip, I a.aband → dec i a c = .take b bip → P c)
    (i : Int) (q : List Chunk) (a : LoopAcc B) (ha : I a.aband) :
    ∀ x ∈ (scanLoop s dec upd i q a).2.out, x ∈ a.out ∨ ∃ c ∈ q, x = upd c ∧ P c := by
  induction q generalizing i a with
  | nil => intro x hx; left; simpa [scanLoop] using hx
  | cons c rest ih =>
    intro x hx
    simp only [scanLoop] at hx
    cases hd : dec i a c with
    | skip =>
      rw [hd] at hx
      rcases ih _ _ ha x hx with h | ⟨y, hy, e, hp⟩
      · exact Or.inl h
      · exact Or.inr ⟨y, List.mem_cons_of_mem _ hy, e, hp⟩
    | stop b => rw [hd] at hx; exact Or.inl hx
    | take b bip =>
      rw [hd] at hx
      rcases ih _ _ (hI _ _ ha) x hx with h | ⟨y, hy, e, hp⟩
      · simp only [List.mem_append, List.mem_singleton] at h
        rcases h with h | h
        · exact Or.inl h
        · exact Or.inr ⟨c, List.mem_cons_self, h, hP i a c b bip ha hd⟩
      · exact Or.inr ⟨y, List.mem_cons_of_mem _ hy, e, hp⟩

/-- `getDataPacketsToRetransmit` puts on the wire only chunks that carry the `retransmit` flag and are not abandoned -/
theorem gatherRtx_sends_flagged (s : St) (orc : Oracle) :
    ∀ x ∈ (gatherRtx s orc).2.1, ∃ c ∈ s.inflight, c.retransmit = true ∧ s.abandoned c = false ∧ x = rtxUpd s c := by
  intro x hx
  have := scanLoop_out s (rtxDecide s orc.allow (rtx_awnd s.cwnd s.rwnd)) (rtxUpd s)
    (fun aband => ∀ m ∈ s.abandonedMsgs, m ∈ aband) (fun c => c.retransmit = true ∧ s.abandoned c = false)
    (fun aband c h m hm => checkPR_sub _ aband c m (h m hm))
    (by
      intro i a c b bip hI hd
      unfold rtxDecide at hd
      split at hd
      · cases hd
      · rename_i h1
        split at hd
        · cases hd
        · rename_i h2
          refine ⟨by simpa using h1, ?_⟩
          cases hab : s.abandoned c with
          | false => rfl
          | true =>
            have : isAbandoned a.aband s.allInflightMsgs c = true := isAbandoned_mono hI (fun _ h => h) rfl hab
            rw [this] at h2; exact absurd rfl h2)
    0 (scanSplit s).2 { b := orc.b, aband := s.abandonedMsgs } (fun _ h => h) x hx
  rcases this with h | ⟨c, hc, e, hp⟩
  · simp at h
  · exact ⟨c, scanSplit_suffix_mem s hc, hp.1, hp.2, e⟩

/-- the fast-retransmit gather never takes a chunk that is acked or abandoned -/
theorem gatherFast_skips_abandoned {B : Type} (s : St) (allow : B → Int → Bool × B) (b : B) :
    ∀ x ∈ (gatherFast s allow b).2, ∃ c ∈ s.inflight, x = fastUpd { s with willRetransmitFast := false } c ∧ c.acked = false ∧ s.abandoned c = false := by
  unfold gatherFast
  split
  · intro x hx; simp at hx
  · intro x hx
    simp only at hx
    have := scanLoop_out { s with willRetransmitFast := false }
      (fastDecide { s with willRetransmitFast := false } allow (fastRtx_wnd s.cfg.mtu s.cfg.fastRtxWnd)) (fastUpd { s with willRetransmitFast := false })
      (fun aband => ∀ m ∈ s.abandonedMsgs, m ∈ aband) (fun c => c.acked = false ∧ s.abandoned c = false)
      (fun aband c h m hm => checkPR_sub _ aband c m (h m hm))
      (by
        intro i a c b' bip hI hd
        unfold fastDecide at hd
        split at hd
        · cases hd
        · rename_i h
          simp only [Bool.or_eq_true, not_or, Bool.not_eq_true] at h
          refine ⟨h.1, ?_⟩
          cases hab : s.abandoned c with
          | false => rfl
          | true =>
            have : isAbandoned a.aband s.allInflightMsgs c = true := isAbandoned_mono hI (fun _ h => h) rfl hab
            rw [h.2] at this; cases this)
      0 (scanSplit { s with willRetransmitFast := false }).2 { b := b, size := hdr, aband := s.abandonedMsgs } (fun _ h => h) x hx
    rcases this with h | ⟨c, hc, e, hp⟩
    · simp at h
    · exact ⟨c, scanSplit_suffix_mem { s with willRetransmitFast := false } hc, e, hp⟩

end SenderProofs
