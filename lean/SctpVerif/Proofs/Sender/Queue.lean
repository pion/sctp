import SctpVerif.Proofs.Sender.WinRun
/-!
How the in-flight queue evolves.

Every transition but the move of new DATA rewrites the in-flight queue pointwise: the chunk at a position keeps everything
but its transmission bookkeeping (`Fl`), or it is such a rewriting of the chunk marked acked, its payload released (`Ev`).
A SACK additionally drops a prefix; a gather appends the chunks it admitted. `Pt Ev (q.drop k) q'` is that statement;
equalities of projected queues (`map Chunk.core`, `map Chunk.ident`, `map Chunk.frag`), membership forms, lengths and byte
sums are its corollaries.
-/
namespace SenderProofs
open Gen Sender

/-- the in-flight queue of `s'` is that of `s` without its first `k` chunks, rewritten pointwise -/
def QEv (k : Nat) (s s' : St) : Prop := k ≤ s.inflight.length ∧ Pt Ev (s.inflight.drop k) s'.inflight

theorem QEv.refl (s : St) : QEv 0 s s := ⟨Nat.zero_le _, Pt.refl Ev.refl _⟩

theorem QEv.of_eq {s s' : St} (h : s'.inflight = s.inflight) : QEv 0 s s' := ⟨Nat.zero_le _, by rw [h]; exact Pt.refl Ev.refl _⟩

theorem QEv.of_fl {s s' : St} (h : Pt Fl s.inflight s'.inflight) : QEv 0 s s' := ⟨Nat.zero_le _, h.imp Fl.ev⟩

theorem QEv.then {k : Nat} {a b c : St} (h1 : QEv k a b) (h2 : QEv 0 b c) : QEv k a c :=
  ⟨h1.1, Pt.trans Ev.trans h1.2 h2.2⟩

/-! ### the bookkeeping layer rewrites flags only -/

theorem Flag.fl {a b : St} (m : Flag a b) : Pt Fl a.inflight b.inflight := by
  cases m with
  | flags q' h => exact h
  | _ => exact Pt.refl Fl.refl _

theorem Star.fl {s s' : St} (h : Star Flag s s') : Pt Fl s.inflight s'.inflight :=
  h.rel (Q := fun a b => Pt Fl a.inflight b.inflight) (fun _ => Pt.refl Fl.refl _) (fun _ _ _ => Pt.trans Fl.trans) (fun _ _ => Flag.fl)

theorem Star.fl' {s s' : St} (h : Star (fun a b => Flag a b ∨ Abandon a b) s s') : Pt Fl s.inflight s'.inflight :=
  h.rel (Q := fun a b => Pt Fl a.inflight b.inflight) (fun _ => Pt.refl Fl.refl _) (fun _ _ _ => Pt.trans Fl.trans)
    (fun _ _ m => m.elim Flag.fl (fun m => by cases m; exact Pt.refl Fl.refl _))

theorem gatherRtx_fl (s : St) (orc : Oracle) : Pt Fl s.inflight (gatherRtx s orc).1.inflight := (gatherRtx_star s orc).fl'

theorem gatherFast_fl {B : Type} (s : St) (allow : B → Int → Bool × B) (b : B) : Pt Fl s.inflight (gatherFast s allow b).1.inflight :=
  (gatherFast_star s allow b).fl'

theorem fastRetransCheck_fl (s : St) (cum : BitVec 32) (gaps : List (BitVec 16 × BitVec 16)) (htna : BitVec 32) (adv : Bool) :
    Pt Fl s.inflight (fastRetransCheck s cum gaps htna adv).1.inflight := (fastRetransCheck_star s cum gaps htna adv).fl

theorem ackApply_inflight (s : St) (cum : BitVec 32) (g : GapAcc) (inFR : Bool) : (ackApply s cum g inFR).inflight = g.q := by
  obtain ⟨_, _, _, _, _, _, e⟩ := ackApply_only s cum g inFR
  rw [e]

theorem ackPhase_qev {s : St} {cum : BitVec 32} {gaps : List (BitVec 16 × BitVec 16)} {r : St × BitVec 32 × Bool}
    (h : ackPhase s cum gaps = some r) : ∃ k, QEv k s r.1 := by
  obtain ⟨q, a, g, hp, hm, rfl⟩ := ackPhase_eq h
  obtain ⟨k, hk, hq⟩ := popCum_drop _ _ _ _ _ hp
  refine ⟨k, hk, ?_⟩
  show Pt Ev (s.inflight.drop k) (ackApply s cum g a.inFR).inflight
  rw [ackApply_inflight, ← hq]; exact markGaps_pt cum gaps _ hm

/-! ### the operations -/

/-- **a SACK drops a prefix of the in-flight queue and rewrites the rest pointwise** — on every state, whatever the SACK -/
theorem sack_qev (s : St) (cum arwnd : BitVec 32) (gaps : List (BitVec 16 × BitVec 16)) (marks : List (BitVec 32)) :
    ∃ k, QEv k s (sack s cum arwnd gaps marks).1 := by
  rcases sack_star s cum arwnd gaps marks with h | ⟨r, ha, _, _, h⟩
  · rw [h]; exact ⟨0, QEv.refl s⟩
  · obtain ⟨k, hk⟩ := ackPhase_qev ha
    exact ⟨k, hk.then (QEv.of_fl (s := r.1) h.fl)⟩

/-- **T3 and the clock rewrite flags only** -/
theorem t3_fl (s : St) : Pt Fl s.inflight (t3 s).inflight := (t3_star s).fl

theorem iter_t3_fl (n : Nat) (s : St) : Pt Fl s.inflight (iter t3 n s).inflight := (iter_t3_star n s).fl

theorem tick_fl (s : St) (ms n : Nat) (marks : List (BitVec 32)) : Pt Fl s.inflight (step s (.tick ms n marks)).inflight :=
  (tick_star s ms n marks).fl

theorem gatherNew_inflight {B : Type} (allow : B → Int → Bool × B) (b : B) (s : St) (sel : List Nat) :
    (gatherNew s allow b sel).1.inflight = s.inflight ++ (gatherNew s allow b sel).2.admits.map (·.chunk) := by
  unfold gatherNew
  split
  · obtain ⟨n1, a1, b1⟩ := popLoop_inflight allow (s.pending.length + 1) s sel { b := b }
    obtain ⟨n2, a2, b2⟩ := probe_inflight allow (popLoop allow (s.pending.length + 1) s sel { b := b }).1
      (popLoop allow (s.pending.length + 1) s sel { b := b }).2.1 (popLoop allow (s.pending.length + 1) s sel { b := b }).2.2
    simp only [b2, b1, a2, a1, List.nil_append, List.map_append, List.append_assoc]
  · simp

/-- **a gather rewrites flags of the old queue and appends the chunks it admitted, in order** -/
theorem gather_fl (s : St) (orc : Oracle) (sel : List Nat) :
    Pt Fl (s.inflight ++ (gather s orc sel).2.admits.map (·.chunk)) (gather s orc sel).1.inflight := by
  unfold gather
  split
  · simpa using Pt.refl Fl.refl s.inflight
  · have h1 := Pt.append (gatherRtx_fl s orc) (Pt.refl Fl.refl ((gatherNew (gatherRtx s orc).1 orc.allow (gatherRtx s orc).2.2 sel).2.admits.map (·.chunk)))
    have h3 := gatherFast_fl (gatherNew (gatherRtx s orc).1 orc.allow (gatherRtx s orc).2.2 sel).1 orc.allow
      (gatherNew (gatherRtx s orc).1 orc.allow (gatherRtx s orc).2.2 sel).2.b
    rw [gatherNew_inflight] at h3
    exact Pt.trans Fl.trans h1 h3

/-! ### projections -/

theorem QEv.length {k : Nat} {s s' : St} (h : QEv k s s') : s'.inflight.length + k = s.inflight.length := by
  have hl := h.2.length
  have hk := h.1
  rw [List.length_drop] at hl; omega

/-- every chunk in flight afterwards is the successor of a chunk in flight before -/
theorem QEv.mem {k : Nat} {s s' : St} (h : QEv k s s') {x : Chunk} (hx : x ∈ s'.inflight) : ∃ c ∈ s.inflight, Ev c x := by
  obtain ⟨c, hc, e⟩ := h.2.mem hx
  exact ⟨c, List.mem_of_mem_drop hc, e⟩

/-- an un-acknowledged chunk afterwards was un-acknowledged, of the same length, before -/
theorem QEv.unacked {k : Nat} {s s' : St} (h : QEv k s s') {x : Chunk} (hx : x ∈ s'.inflight) (ha : x.acked = false) :
    ∃ c ∈ s.inflight, Fl c x := by
  obtain ⟨c, hc, e⟩ := h.mem hx
  exact ⟨c, hc, e.fl_of_unacked ha⟩

/-! ### the other fields -/

/-- what neither `processAcknowledgement` nor any bookkeeping pass writes: a SACK, T3 and a clock tick leave these alone -/
structure Kept (s s' : St) : Prop where
  cfg : s'.cfg = s.cfg
  pending : s'.pending = s.pending
  nextMsg : s'.nextMsg = s.nextMsg
  established : s'.established = s.established
  abandonedMsgs : s'.abandonedMsgs = s.abandonedMsgs
  allInflightMsgs : s'.allInflightMsgs = s.allInflightMsgs
  myNextTSN : s'.myNextTSN = s.myNextTSN

theorem Kept.refl (s : St) : Kept s s := ⟨rfl, rfl, rfl, rfl, rfl, rfl, rfl⟩

theorem Kept.trans (a b c : St) (h1 : Kept a b) (h2 : Kept b c) : Kept a c :=
  ⟨h2.cfg.trans h1.cfg, h2.pending.trans h1.pending, h2.nextMsg.trans h1.nextMsg, h2.established.trans h1.established,
   h2.abandonedMsgs.trans h1.abandonedMsgs, h2.allInflightMsgs.trans h1.allInflightMsgs, h2.myNextTSN.trans h1.myNextTSN⟩

theorem Ack.kept {a b : St} (m : Ack a b) : Kept a b := by
  obtain ⟨_, _, _, _, _, _, _, _, _, _, _, e⟩ := m.only
  rw [e]; exact ⟨rfl, rfl, rfl, rfl, rfl, rfl, rfl⟩

/-- a bookkeeping step keeps, besides, the stream objects and the cumulative point -/
theorem Flag.kept {a b : St} (m : Flag a b) : Kept a b ∧ b.streams = a.streams ∧ b.cumAck = a.cumAck := by
  cases m <;> exact ⟨⟨rfl, rfl, rfl, rfl, rfl, rfl, rfl⟩, rfl, rfl⟩

theorem Star.kept {s s' : St} (h : Star Flag s s') : Kept s s' ∧ s'.streams = s.streams ∧ s'.cumAck = s.cumAck :=
  h.rel (Q := fun a b => Kept a b ∧ b.streams = a.streams ∧ b.cumAck = a.cumAck) (fun a => ⟨Kept.refl a, rfl, rfl⟩)
    (fun a b c h1 h2 => ⟨Kept.trans a b c h1.1 h2.1, h2.2.1.trans h1.2.1, h2.2.2.trans h1.2.2⟩) (fun _ _ m => m.kept)

theorem sack_kept (s : St) (cum arwnd : BitVec 32) (gaps : List (BitVec 16 × BitVec 16)) (marks : List (BitVec 32)) :
    Kept s (sack s cum arwnd gaps marks).1 := by
  rcases sack_star s cum arwnd gaps marks with e | ⟨r, ha, hst, hv, h⟩
  · rw [e]; exact Kept.refl s
  · exact Kept.trans _ _ _ (Ack.ack s cum arwnd gaps r hst hv ha).kept h.kept.1

theorem sack_pending (s : St) (cum arwnd : BitVec 32) (gaps : List (BitVec 16 × BitVec 16)) (marks : List (BitVec 32)) :
    (sack s cum arwnd gaps marks).1.pending = s.pending := (sack_kept s cum arwnd gaps marks).pending

theorem t3_kept (s : St) : Kept s (t3 s) ∧ (t3 s).streams = s.streams ∧ (t3 s).cumAck = s.cumAck := (t3_star s).kept

theorem tick_kept (s : St) (ms n : Nat) (marks : List (BitVec 32)) :
    Kept s (step s (.tick ms n marks)) ∧ (step s (.tick ms n marks)).streams = s.streams ∧ (step s (.tick ms n marks)).cumAck = s.cumAck :=
  (tick_star s ms n marks).kept

/-- a stream object without its byte counter and callback count: what `onBufferReleased` leaves alone -/
def Stream.kept (st : Stream) : Stream := { st with buffered := 0, cbCount := 0 }

theorem release_kept (st : Stream) (n : Int) : Stream.kept (release st n).1 = Stream.kept st := by
  unfold release
  split <;> rfl

/-- the per-stream releases write byte counters and callback counts only -/
theorem releaseAll_streams (rel : Rel) (s : St) (si : BitVec 16) :
    ((releaseAll rel s).streams si).map Stream.kept = (s.streams si).map Stream.kept := by
  induction rel generalizing s with
  | nil => rfl
  | cons e r ih =>
    obtain ⟨k, n⟩ := e
    simp only [releaseAll]
    cases hs : s.streams k with
    | none => exact ih s
    | some st =>
      simp only
      split
      · rw [ih]
        simp only [setStream]
        by_cases hk : si = k
        · subst hk; simp [hs, release_kept]
        · simp [hk]
      · exact ih s

theorem ackPhase_streams {s : St} {cum : BitVec 32} {gaps : List (BitVec 16 × BitVec 16)} {r : St × BitVec 32 × Bool}
    (h : ackPhase s cum gaps = some r) (si : BitVec 16) : (r.1.streams si).map Stream.kept = (s.streams si).map Stream.kept := by
  obtain ⟨q, a, g, _, _, rfl⟩ := ackPhase_eq h
  show ((ackApply s cum g a.inFR).streams si).map Stream.kept = _
  unfold ackApply
  rw [releaseAll_streams]
  split
  · obtain ⟨_, _, _, e⟩ := onCumAdvanced_only { { s with inflight := g.q, infBytes := g.infBytes, inFastRecovery := a.inFR } with cumAck := cum } (relTotal g.rel)
    rw [e]
  · rfl

/-- of a stream object a SACK writes the byte counter and the callback count only -/
theorem sack_streams_kept (s : St) (cum arwnd : BitVec 32) (gaps : List (BitVec 16 × BitVec 16)) (marks : List (BitVec 32)) (si : BitVec 16) :
    (((sack s cum arwnd gaps marks).1.streams si).map Stream.kept) = (s.streams si).map Stream.kept := by
  rcases sack_star s cum arwnd gaps marks with e | ⟨r, ha, _, _, h⟩
  · rw [e]
  · rw [h.kept.2.1]; exact ackPhase_streams ha si

end SenderProofs
