import SctpVerif.Proofs.Sender.Wire
/-! Message identities: `nextMsg` is touched by `write` only, so the `msg` field identifies the write that created a chunk. -/
namespace SenderProofs
open Gen Sender

theorem move_nextMsg (s : St) (i : Nat) (c : Chunk) : (move s i c).1.nextMsg = s.nextMsg := rfl

theorem gather_nextMsg (s : St) (orc : Oracle) (sel : List Nat) : (gather s orc sel).1.nextMsg = s.nextMsg :=
  (gather_frame s orc sel).2.2.2.2.2.2.2.1

theorem releaseAll_nextMsg (rel : Rel) (s : St) : (releaseAll rel s).nextMsg = s.nextMsg := by
  obtain ⟨_, _, h⟩ := releaseAll_only rel s
  rw [h]

theorem ackPhase_nextMsg {s : St} {cum : BitVec 32} {gaps : List (BitVec 16 × BitVec 16)} {r : St × BitVec 32 × Bool}
    (h : ackPhase s cum gaps = some r) : r.1.nextMsg = s.nextMsg := by
  obtain ⟨_, _, _, _, _, _, _, _, _, e⟩ := ackPhase_only h
  rw [e]

theorem t3_nextMsg (s : St) : (t3 s).nextMsg = s.nextMsg :=
  (t3_star s).rule (P := fun x => x.nextMsg = s.nextMsg) (by rintro a b m h; cases m <;> exact h) rfl

theorem sack_nextMsg (s : St) (cum arwnd : BitVec 32) (gaps : List (BitVec 16 × BitVec 16)) (marks : List (BitVec 32)) :
    (sack s cum arwnd gaps marks).1.nextMsg = s.nextMsg := by
  rcases sack_star s cum arwnd gaps marks with e | ⟨r, ha, _, _, h⟩
  · rw [e]
  · exact (h.rule (P := fun x => x.nextMsg = r.1.nextMsg) (by rintro a b m h; cases m <;> exact h) rfl).trans (ackPhase_nextMsg ha)

theorem write_nextMsg (s : St) (si : BitVec 16) (ppi : BitVec 32) (len : Nat) :
    s.nextMsg ≤ (write s si ppi len).1.nextMsg ∧
    (writeChunks s si ppi len ≠ [] → (write s si ppi len).1.nextMsg = s.nextMsg + 1) := by
  rcases write_eq s si ppi len with ⟨he, hc⟩ | ⟨st, _, _, _, _, ⟨_, _, he⟩ | ⟨_, _, he⟩⟩ <;> rw [he]
  · exact ⟨Nat.le_refl _, fun h => absurd hc h⟩
  · exact ⟨Nat.le_succ _, fun _ => rfl⟩
  · exact ⟨Nat.le_succ _, fun _ => rfl⟩

theorem step_nextMsg (s : St) (op : Op) :
    s.nextMsg ≤ (step s op).nextMsg ∧ (writtenBy s op ≠ [] → (step s op).nextMsg = s.nextMsg + 1) := by
  refine ⟨(step_star s op).rule (P := fun x => s.nextMsg ≤ x.nextMsg) (fun _ _ m h => Nat.le_trans h m.keeps.2.1) (Nat.le_refl _), ?_⟩
  cases op with
  | write si ppi len => exact (write_nextMsg s si ppi len).2
  | _ => exact fun h => absurd rfl h

theorem writeChunks_cases (s : St) (si : BitVec 16) (ppi : BitVec 32) (len : Nat) :
    writeChunks s si ppi len = [] ∨
    ∃ u ssn mid, writeChunks s si ppi len = mkChunks si s.nextMsg ppi u ssn mid (fragSizes s.cfg.maxPayload.toNat len) 0 true ∧
      len ≤ s.cfg.maxMessageSize.toNat ∧ s.cfg.maxPayload ≠ 0 := by
  rcases write_eq s si ppi len with ⟨_, hc⟩ | ⟨st, _, hlen, _, hmp, ⟨_, hc, _⟩ | ⟨_, hc, _⟩⟩
  · exact Or.inl hc
  · exact Or.inr ⟨_, _, _, by rw [hc]; simp only [packetize]; rfl, hlen, hmp⟩
  · exact Or.inl hc

/-- chunks written by a run carry message identities at or above the counter at its start -/
theorem written_msg_ge (s : St) (ops : List Op) : ∀ c ∈ written s ops, s.nextMsg ≤ c.msg := by
  induction ops generalizing s with
  | nil => intro c hc; cases hc
  | cons op ops ih =>
    intro c hc
    simp only [written, List.mem_append] at hc
    rcases hc with h | h
    · cases op with
      | write si ppi len =>
        rcases writeChunks_cases s si ppi len with h0 | ⟨u, ssn, mid, h0, _, _⟩ <;> rw [writtenBy, h0] at h
        · cases h
        · obtain ⟨i, hi⟩ := List.getElem?_of_mem h
          exact Nat.le_of_eq (mkChunks_get _ _ _ _ _ _ _ _ _ i c hi).2.1.symm
      | _ => cases h
    · exact Nat.le_trans (step_nextMsg s op).1 (ih _ c h)

theorem fragSizes_length_le (mp len : Nat) (hmp : 0 < mp) : (fragSizes mp len).length ≤ len := by
  obtain ⟨h1, h2⟩ := fragAux_spec mp hmp len len (Nat.le_refl _)
  unfold fragSizes
  have : ∀ l : List Nat, (∀ f ∈ l, 0 < f) → l.length ≤ l.sum := by
    intro l
    induction l with
    | nil => intro _; simp
    | cons x r ih =>
      intro h
      have hx := h x List.mem_cons_self
      have := ih (fun f hf => h f (List.mem_cons_of_mem _ hf))
      simp only [List.length_cons, List.sum_cons]; omega
  have := this _ (fun f hf => (h2 f hf).1)
  omega

/-- **Message identity.** Two chunks created by the writes of a run that carry the same `msg` were created by the same
write: same stream, PPI, ordering flag, SSN and MID; if they also have the same FSN they are the same chunk. -/
theorem written_same_msg (s : St) (ops : List Op) :
    ∀ a ∈ written s ops, ∀ b ∈ written s ops, a.msg = b.msg →
      a.si = b.si ∧ a.ppi = b.ppi ∧ a.unordered = b.unordered ∧ a.ssn = b.ssn ∧ a.mid = b.mid ∧ (a.fsn = b.fsn → a = b) := by
  induction ops generalizing s with
  | nil => intro a ha; cases ha
  | cons op ops ih =>
    intro a ha b hb hab
    simp only [written, List.mem_append] at ha hb
    have hge := written_msg_ge (step s op) ops
    have hhead : ∀ c ∈ writtenBy s op, c.msg = s.nextMsg ∧ (step s op).nextMsg = s.nextMsg + 1 := by
      intro c hc
      have hne : writtenBy s op ≠ [] := List.ne_nil_of_mem hc
      refine ⟨?_, (step_nextMsg s op).2 hne⟩
      cases op with
      | write si ppi len =>
        simp only [writtenBy] at hc
        rcases writeChunks_cases s si ppi len with h | ⟨u, ssn, mid, h, _, _⟩
        · rw [h] at hc; cases hc
        · rw [h] at hc
          obtain ⟨i, hi⟩ := List.getElem?_of_mem hc
          exact (mkChunks_get _ _ _ _ _ _ _ _ _ i c hi).2.1
      | _ => cases hc
    rcases ha with ha | ha <;> rcases hb with hb | hb
    · -- both created by this write
      cases op with
      | write si ppi len =>
        simp only [writtenBy] at ha hb
        rcases writeChunks_cases s si ppi len with h | ⟨u, ssn, mid, h, hlen, hmp⟩
        · rw [h] at ha; cases ha
        · rw [h] at ha hb
          obtain ⟨i, hi⟩ := List.getElem?_of_mem ha
          obtain ⟨j, hj⟩ := List.getElem?_of_mem hb
          obtain ⟨a1, _, a3, a4, a5, a6, a7, _, _, a10⟩ := mkChunks_get _ _ _ _ _ _ _ _ _ i a hi
          obtain ⟨b1, _, b3, b4, b5, b6, b7, _, _, b10⟩ := mkChunks_get _ _ _ _ _ _ _ _ _ j b hj
          refine ⟨a1.trans b1.symm, a3.trans b3.symm, a4.trans b4.symm, a5.trans b5.symm, a6.trans b6.symm, fun hf => ?_⟩
          have hmp' : 0 < s.cfg.maxPayload.toNat := by
            rcases Nat.eq_zero_or_pos s.cfg.maxPayload.toNat with h0 | h0
            · exact absurd (BitVec.eq_of_toNat_eq (by simpa using h0)) hmp
            · exact h0
          have hcount := fragSizes_length_le s.cfg.maxPayload.toNat len hmp'
          have hmax : s.cfg.maxMessageSize.toNat < 2^32 := s.cfg.maxMessageSize.isLt
          have hi' : i < (fragSizes s.cfg.maxPayload.toNat len).length := by
            rcases Nat.lt_or_ge i (fragSizes s.cfg.maxPayload.toNat len).length with h' | h'
            · exact h'
            · rw [List.getElem?_eq_none h'] at a10; cases a10
          have hj' : j < (fragSizes s.cfg.maxPayload.toNat len).length := by
            rcases Nat.lt_or_ge j (fragSizes s.cfg.maxPayload.toNat len).length with h' | h'
            · exact h'
            · rw [List.getElem?_eq_none h'] at b10; cases b10
          rw [a7, b7] at hf
          have hij : i = j := by
            have hf' : BitVec.ofNat 32 i = BitVec.ofNat 32 j := by simpa using hf
            have := congrArg BitVec.toNat hf'
            simp only [BitVec.toNat_ofNat] at this
            omega
          subst hij
          rw [hi] at hj
          exact Option.some.inj hj
      | _ => cases ha
    · have h1 := hhead a ha
      have h2 := hge b hb
      omega
    · have h1 := hhead b hb
      have h2 := hge a ha
      omega
    · exact ih (step s op) a ha b hb hab

end SenderProofs
