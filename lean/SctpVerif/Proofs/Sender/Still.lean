import SctpVerif.Proofs.Sender.MsgId
import SctpVerif.Proofs.Sender.Queue
/-!
Transitions that neither write nor move a chunk to in flight ("quiet": retransmission gathers, SACK processing,
T3, clock ticks, loss marks) leave alone everything the TSN assignment and the SSN / MID assignment depend on:
the configuration, `myNextTSN`, the write counter, the pending queue, the sequence counters of every stream
object — and every chunk in flight afterwards is a chunk that was in flight before, with the SAME TSN and the
same fragment identity (`Chunk.frag`). No hypothesis on the configuration (unlike the `SameAcct` frames of the
window proofs, nothing here needs `4·MTU < 2^32`).
-/
namespace SenderProofs

theorem Ev.frag {c x : Sender.Chunk} (h : Ev c x) : Chunk.frag x = Chunk.frag c := h.keeps Chunk.frag (fun _ => rfl) (fun _ => rfl)

end SenderProofs

namespace SenderTsn
open SenderProofs
open Gen Sender

/-- what `packetize` reads of a stream object besides the byte counter -/
def Stream.sk (st : Stream) : Bool × Bool × BitVec 8 × BitVec 16 × BitVec 32 × BitVec 32 :=
  (st.registered, st.unordered, st.relType, st.ssn, st.nextOrderedMID, st.nextUnorderedMID)

/-- every chunk in flight afterwards was in flight before: same TSN, same fragment -/
def InfK (s s' : St) : Prop := ∀ x ∈ s'.inflight, ∃ c ∈ s.inflight, c.tsn = x.tsn ∧ Chunk.frag c = Chunk.frag x

theorem InfK.refl (s : St) : InfK s s := fun x hx => ⟨x, hx, rfl, rfl⟩

/-- the scalar part: configuration, next TSN, write counter, pending queue, stream counters -/
structure SameQ (s s' : St) : Prop where
  cfg : s'.cfg = s.cfg
  next : s'.myNextTSN = s.myNextTSN
  msg : s'.nextMsg = s.nextMsg
  pen : s'.pending = s.pending
  est : s'.established = s.established
  str : ∀ si, (s'.streams si).map Stream.sk = (s.streams si).map Stream.sk

theorem SameQ.refl (s : St) : SameQ s s := ⟨rfl, rfl, rfl, rfl, rfl, fun _ => rfl⟩

structure Still (s s' : St) : Prop where
  q : SameQ s s'
  k : InfK s s'

theorem Still.refl (s : St) : Still s s := ⟨SameQ.refl s, InfK.refl s⟩

theorem InfK.of_qev {k : Nat} {s s' : St} (h : QEv k s s') : InfK s s' := fun x hx => by
  obtain ⟨c, hc, e⟩ := h.mem hx
  exact ⟨c, hc, e.tsn.symm, e.frag.symm⟩

/-- what a scan emits it also leaves in the queue -/
theorem scanLoop_out_sub {B : Type} (s : St) (dec : Int → LoopAcc B → Chunk → Take B) (upd : Chunk → Chunk) (i : Int) (q : List Chunk)
    (a : LoopAcc B) : ∀ e ∈ (scanLoop s dec upd i q a).2.out, e ∈ a.out ∨ e ∈ (scanLoop s dec upd i q a).1 := by
  induction q generalizing i a with
  | nil => intro e he; exact Or.inl he
  | cons c rest ih =>
    intro e he
    simp only [scanLoop] at he ⊢
    cases hd : dec i a c with
    | skip => rw [hd] at he; exact (ih _ _ e he).imp id (List.mem_cons_of_mem _)
    | stop b => rw [hd] at he; exact Or.inl he
    | take b bip =>
      rw [hd] at he
      rcases ih _ _ e he with h | h
      · rcases List.mem_append.1 h with h | h
        · exact Or.inl h
        · exact Or.inr (by rw [List.mem_singleton.1 h]; exact List.mem_cons_self)
      · exact Or.inr (List.mem_cons_of_mem _ h)

theorem gatherRtx_still (s : St) (orc : Oracle) :
    Still s (gatherRtx s orc).1 ∧ ∀ e ∈ (gatherRtx s orc).2.1, ∃ c ∈ s.inflight, c.tsn = e.tsn ∧ Chunk.frag c = Chunk.frag e := by
  have hk := InfK.of_qev (QEv.of_fl (gatherRtx_fl s orc))
  refine ⟨⟨⟨rfl, rfl, rfl, rfl, rfl, fun _ => rfl⟩, hk⟩, fun e he => hk e ?_⟩
  rcases scanLoop_out_sub s _ _ 0 _ _ e he with h | h
  · cases h
  · exact List.mem_append_right _ h

theorem gatherFast_still {B : Type} (s : St) (allow : B → Int → Bool × B) (b : B) :
    Still s (gatherFast s allow b).1 ∧ ∀ e ∈ (gatherFast s allow b).2, ∃ c ∈ s.inflight, c.tsn = e.tsn ∧ Chunk.frag c = Chunk.frag e := by
  have hk := InfK.of_qev (QEv.of_fl (gatherFast_fl s allow b))
  unfold gatherFast at hk ⊢
  split
  · exact ⟨Still.refl s, fun e he => by cases he⟩
  · rename_i hf
    simp only [hf] at hk
    refine ⟨⟨⟨rfl, rfl, rfl, rfl, rfl, fun _ => rfl⟩, hk⟩, fun e he => hk e ?_⟩
    rcases scanLoop_out_sub _ _ _ 0 _ _ e he with h | h
    · cases h
    · exact List.mem_append_right _ h

/-! ## SACK, T3, clock tick -/

theorem SameQ.of_kept {s s' : St} (h : Kept s s') (hs : ∀ si, (s'.streams si).map Stream.kept = (s.streams si).map Stream.kept) :
    SameQ s s' := by
  refine ⟨h.cfg, h.myNextTSN, h.nextMsg, h.pending, h.established, fun si => ?_⟩
  have e : Stream.sk ∘ Stream.kept = Stream.sk := rfl
  simpa only [Option.map_map, e] using congrArg (Option.map Stream.sk) (hs si)

theorem sack_still (s : St) (cum arwnd : BitVec 32) (gaps : List (BitVec 16 × BitVec 16)) (marks : List (BitVec 32)) :
    Still s (sack s cum arwnd gaps marks).1 := by
  obtain ⟨k, hk⟩ := sack_qev s cum arwnd gaps marks
  exact ⟨SameQ.of_kept (sack_kept s cum arwnd gaps marks) (sack_streams_kept s cum arwnd gaps marks), InfK.of_qev hk⟩

theorem t3_still (s : St) : Still s (t3 s) :=
  ⟨SameQ.of_kept (t3_kept s).1 (fun si => by rw [(t3_kept s).2.1]), InfK.of_qev (QEv.of_fl (t3_fl s))⟩

theorem tick_still (s : St) (ms n : Nat) (marks : List (BitVec 32)) :
    Still s (applyMarks (iter t3 n { s with now := s.now + ms }) marks) :=
  ⟨SameQ.of_kept (tick_kept s ms n marks).1 (fun si => congrArg (fun f => (f si).map Stream.kept) (tick_kept s ms n marks).2.1),
   InfK.of_qev (QEv.of_fl (tick_fl s ms n marks))⟩

end SenderTsn
