import SctpVerif.Model.NetSys
import SctpVerif.Proofs.Sender.Moved
/-!
SSN / MID assignment. In runs in which every stream is opened ordered and none is unregistered (`OrdOps`), the chunks
created by the writes of a run are exactly `gen` of the ACCEPTED writes: the `k`-th accepted write on a stream (counted
from 0) creates the fragments `grp … k` — SSN `k mod 2^16` (DATA), MID `k mod 2^32` and SSN = its low 16 bits
(I-DATA), FSN `i`, `B` on the first, `E` on the last, lengths `fragSizes`. Rejected writes (no such stream, too large,
empty, not established — the last one rolls the counters back) consume no sequence number.
-/
namespace SenderTsn
open SenderProofs
open Gen Sender
open NetSys (Write accepts)

def cntOf (ws : List Write) (si : BitVec 16) : Nat := (ws.filter (·.si == si)).length

/-- the chunks the `k`-th accepted ordered write on its stream creates (payload length `len`) -/
def grp (il : Bool) (mp len k : Nat) (a : Write) : List Chunk :=
  mkChunks a.si a.msg a.ppi false (if il then BitVec.setWidth 16 (BitVec.ofNat 32 k) else BitVec.ofNat 16 k)
    (if il then BitVec.ofNat 32 k else 0) (fragSizes mp len) 0 true

/-- the chunks a list of accepted writes creates, `pre` = the accepted writes before them -/
def gen (il : Bool) (mp : Nat) (lenOf : Nat → Nat) : List Write → List Write → List Chunk
  | _, [] => []
  | pre, a :: r => grp il mp (lenOf a.msg) (cntOf pre a.si) a ++ gen il mp lenOf (pre ++ [a]) r

def accBy (s : St) : Op → List Write
  | .write si ppi len => if accepts s si ppi len then [⟨si, ppi, s.nextMsg⟩] else []
  | _ => []

/-- the accepted writes of a run, in order -/
def accepted : St → List Op → List Write
  | _, [] => []
  | s, op :: ops => accBy s op ++ accepted (step s op) ops

/-- every stream is opened ordered, none is unregistered -/
def OrdOp : Op → Prop
  | .openS _ u _ _ _ => u = false
  | .unreg _ => False
  | _ => True

/-- every write carries the length the ghost assigns to its message identity -/
def LenOp (lenOf : Nat → Nat) (s : St) : Op → Prop
  | .write _ _ len => len = lenOf s.nextMsg
  | _ => True

def LenOk (lenOf : Nat → Nat) : St → List Op → Prop
  | _, [] => True
  | s, op :: ops => LenOp lenOf s op ∧ LenOk lenOf (step s op) ops

/-- the sequence counters of every stream object count the accepted writes on it -/
def CInv (il : Bool) (ws : List Write) (s : St) : Prop :=
  ∀ si, match s.streams si with
    | none => cntOf ws si = 0
    | some st => st.registered = true ∧ st.unordered = false ∧
        (il = true → st.nextOrderedMID = BitVec.ofNat 32 (cntOf ws si)) ∧ (il = false → st.ssn = BitVec.ofNat 16 (cntOf ws si))

theorem CInv.of_sk {il : Bool} {ws : List Write} {s s' : St} (h : CInv il ws s)
    (hs : ∀ si, (s'.streams si).map Stream.sk = (s.streams si).map Stream.sk) : CInv il ws s' := by
  intro si
  have h1 := h si
  have h2 := hs si
  cases hs' : s'.streams si with
  | none =>
    cases hss : s.streams si with
    | none => simpa [hss] using h1
    | some st => simp [hs', hss] at h2
  | some st' =>
    cases hss : s.streams si with
    | none => simp [hs', hss] at h2
    | some st =>
      simp only [hs', hss, Option.map_some, Option.some.injEq, Stream.sk, Prod.mk.injEq] at h2
      simp only [hss] at h1
      obtain ⟨e1, e2, _, e4, e5, _⟩ := h2
      simp only
      rw [e1, e2, e4, e5]
      exact h1

theorem gather_str (s : St) (orc : Oracle) (sel : List Nat) : (gather s orc sel).1.streams = s.streams := by
  unfold gather
  split
  · rfl
  · show (gatherFast _ _ _).1.streams = s.streams
    rw [(gatherFast_frame _ orc.allow _).streams, (gatherNew_moves orc.allow _ _ sel).str]
    exact (gatherRtx_frame s orc).streams

theorem write_err (s : St) (si : BitVec 16) (ppi : BitVec 32) (len : Nat) :
    (write s si ppi len).2.2 = match s.streams si with
      | none => .noStream
      | some _ => if len > s.cfg.maxMessageSize.toNat then .tooLarge else if len = 0 then .none
          else if s.cfg.maxPayload = 0 then .hang else if s.established then .none else .notEstablished := by
  unfold write
  cases s.streams si with
  | none => rfl
  | some st =>
    simp only
    by_cases h1 : len > s.cfg.maxMessageSize.toNat
    · rw [if_pos h1, if_pos h1]
    rw [if_neg h1, if_neg h1]
    by_cases h2 : len = 0
    · rw [if_pos h2, if_pos h2]
    rw [if_neg h2, if_neg h2]
    by_cases h3 : s.cfg.maxPayload = 0
    · rw [if_pos h3, if_pos h3]
    rw [if_neg h3, if_neg h3]
    cases s.established <;> rfl

theorem accepts_iff (s : St) (si : BitVec 16) (ppi : BitVec 32) (len : Nat) :
    accepts s si ppi len = true ↔
      ∃ st, s.streams si = some st ∧ ¬ len > s.cfg.maxMessageSize.toNat ∧ len ≠ 0 ∧ s.cfg.maxPayload ≠ 0 ∧ s.established = true := by
  unfold accepts
  rw [write_err]
  cases hs : s.streams si with
  | none => simp
  | some st =>
    simp only
    by_cases h1 : len > s.cfg.maxMessageSize.toNat
    · simp [h1]
    · by_cases h2 : len = 0
      · simp [h2]
      · by_cases hmp : s.cfg.maxPayload = 0#32
        · simp [h1, h2, hmp]
        · cases he : s.established <;> simp [h1, h2, hmp]

/-- a rejected write creates nothing and leaves every stream object as it was -/
theorem write_rejected (s : St) (si : BitVec 16) (ppi : BitVec 32) (len : Nat) (h : accepts s si ppi len = false) :
    writeChunks s si ppi len = [] ∧ (write s si ppi len).1.streams = s.streams := by
  have hn : ¬ ∃ st, s.streams si = some st ∧ ¬ len > s.cfg.maxMessageSize.toNat ∧ len ≠ 0 ∧ s.cfg.maxPayload ≠ 0 ∧ s.established = true := by
    rw [← accepts_iff s si ppi len]; simp [h]
  cases hs : s.streams si with
  | none => simp [writeChunks, write, hs]
  | some st =>
    by_cases h1 : len > s.cfg.maxMessageSize.toNat
    · simp [writeChunks, write, hs, h1]
    · by_cases h2 : len = 0
      · simp [writeChunks, write, hs, h2]
      · by_cases hmp : s.cfg.maxPayload = 0#32
        · simp [writeChunks, write, hs, h1, h2, hmp]
        · have he : s.established = false := by
            cases he : s.established with
            | false => rfl
            | true => exact absurd ⟨st, hs, h1, h2, hmp, he⟩ hn
          refine ⟨by simp [writeChunks, hs, h1, h2, hmp, he], (write_rollback s si ppi len he).1⟩

/-- an accepted write: the chunks `packetize` makes, the stream object `packetize` leaves -/
theorem write_accepted (s : St) (si : BitVec 16) (ppi : BitVec 32) (len : Nat) (h : accepts s si ppi len = true) :
    ∃ st, s.streams si = some st ∧ len ≤ s.cfg.maxMessageSize.toNat ∧ len ≠ 0 ∧ s.cfg.maxPayload ≠ 0 ∧
      writeChunks s si ppi len = (packetize s.cfg st si s.nextMsg ppi len).chunks ∧
      (write s si ppi len).1.streams = fun k => if k = si then some (packetize s.cfg st si s.nextMsg ppi len).st else s.streams k := by
  obtain ⟨st, hs, h1, h2, hmp, he⟩ := (accepts_iff s si ppi len).1 h
  have hmp' : ¬ s.cfg.maxPayload = 0#32 := hmp
  refine ⟨st, hs, by omega, h2, hmp, by simp [writeChunks, hs, h1, h2, hmp', he], ?_⟩
  simp [write, hs, h1, h2, hmp', he, pushPending, setStream]

theorem cntOf_append_single (ws : List Write) (a : Write) (si : BitVec 16) :
    cntOf (ws ++ [a]) si = cntOf ws si + (if a.si = si then 1 else 0) := by
  simp only [cntOf, List.filter_append, List.length_append, List.filter_cons, List.filter_nil]
  by_cases h : a.si = si <;> simp [h]

theorem step_cinv (il : Bool) (ws : List Write) (s : St) (op : Op) (h : CInv il ws s) (hil : s.cfg.useInterleaving = il) (ho : OrdOp op) :
    CInv il (ws ++ accBy s op) (step s op) ∧
    writtenBy s op = match accBy s op with
      | [] => []
      | a :: _ => grp il s.cfg.maxPayload.toNat (match op with | .write _ _ len => len | _ => 0) (cntOf ws a.si) a := by
  cases op with
  | openS si u rt rv th =>
    simp only [accBy, List.append_nil, writtenBy, and_true]
    simp only [OrdOp] at ho
    subst ho
    intro k
    have hk := h k
    simp only [step, openStream, setStream]
    by_cases hks : k = si
    · subst hks
      simp only [if_true]
      cases hs : s.streams k with
      | none =>
        simp only [hs] at hk
        simp [hk]
      | some st =>
        simp only [hs] at hk
        obtain ⟨r1, r2, r3, r4⟩ := hk
        simp only [r1, if_true]
        exact ⟨trivial, trivial, r3, r4⟩
    · simp only [hks, if_false]
      exact hk
  | unreg si => exact absurd ho (by simp [OrdOp])
  | setEstablished b =>
    simp only [accBy, List.append_nil, writtenBy, and_true]
    exact h
  | write si ppi len =>
    simp only [accBy, writtenBy, step]
    cases hacc : accepts s si ppi len with
    | false =>
      obtain ⟨w1, w2⟩ := write_rejected s si ppi len hacc
      simp only [Bool.false_eq_true, if_false, List.append_nil, w1, and_true]
      intro k
      rw [w2]
      exact h k
    | true =>
      obtain ⟨st, hs, hmax, h0, hmp, w1, w2⟩ := write_accepted s si ppi len hacc
      simp only [if_true]
      have hst := h si
      simp only [hs] at hst
      obtain ⟨r1, r2, r3, r4⟩ := hst
      refine ⟨?_, ?_⟩
      · intro k
        rw [w2]
        by_cases hks : k = si
        · subst hks
          simp only [if_true, cntOf_append_single]
          cases il with
          | true =>
            refine ⟨by simp [packetize, hil, r2, r1], by simp [packetize, hil, r2], fun _ => ?_, fun hc => by cases hc⟩
            simp [packetize, hil, r2, r3 rfl, ← BitVec.ofNat_add]
          | false =>
            refine ⟨by simp [packetize, hil, r2, r1], by simp [packetize, hil, r2], fun hc => (by cases hc), fun _ => ?_⟩
            simp [packetize, hil, r2, r4 rfl, ← BitVec.ofNat_add]
        · simp only [hks, if_false]
          have hk := h k
          have hne : ¬ si = k := fun e => hks e.symm
          cases hsk : s.streams k with
          | none => simp only [hsk] at hk ⊢; simp [cntOf_append_single, hne, hk]
          | some st' => simp only [hsk] at hk ⊢; simpa [cntOf_append_single, hne] using hk
      · rw [w1]
        cases il with
        | true => simp [packetize, grp, hil, r2, r3 rfl]
        | false => simp [packetize, grp, hil, r2, r4 rfl]
  | gather orc sel =>
    simp only [accBy, List.append_nil, writtenBy, and_true, step]
    exact h.of_sk (fun si => by rw [gather_str])
  | sack cum arwnd gaps marks =>
    simp only [accBy, List.append_nil, writtenBy, and_true, step]
    exact h.of_sk (sack_still s cum arwnd gaps marks).q.str
  | t3 =>
    simp only [accBy, List.append_nil, writtenBy, and_true, step]
    exact h.of_sk (t3_still s).q.str
  | tick ms n marks =>
    simp only [accBy, List.append_nil, writtenBy, and_true, step]
    exact h.of_sk (tick_still s ms n marks).q.str

theorem step_cfg_all (s : St) (op : Op) : (step s op).cfg = s.cfg := by
  cases op with
  | openS si u rt rv th => rfl
  | unreg si => simp only [step, unregister]; split <;> rfl
  | setEstablished b => rfl
  | write si ppi len => exact (write_myNextTSN s si ppi len).2
  | gather orc sel => exact gather_cfg s orc sel
  | sack cum arwnd gaps marks => exact (sack_still s cum arwnd gaps marks).q.cfg
  | t3 => exact (t3_still s).q.cfg
  | tick ms n marks => exact (tick_still s ms n marks).q.cfg

theorem run_cfg_all (s : St) (ops : List Op) : (run s ops).cfg = s.cfg := by
  induction ops generalizing s with
  | nil => rfl
  | cons op ops ih => simp only [run]; rw [ih, step_cfg_all]

/-- **The chunks the writes of a run create are `gen` of its accepted writes.** -/
theorem run_gen (il : Bool) (lenOf : Nat → Nat) (pre : List Write) (s : St) (ops : List Op) (h : CInv il pre s)
    (hil : s.cfg.useInterleaving = il) (ho : ∀ op ∈ ops, OrdOp op) (hl : LenOk lenOf s ops) :
    written s ops = gen il s.cfg.maxPayload.toNat lenOf pre (accepted s ops) ∧ CInv il (pre ++ accepted s ops) (run s ops) := by
  induction ops generalizing pre s with
  | nil => simp only [written, accepted, gen, List.append_nil, run]; exact ⟨trivial, h⟩
  | cons op ops ih =>
    obtain ⟨h1, h2⟩ := step_cinv il pre s op h hil (ho op List.mem_cons_self)
    have hcfg := step_cfg_all s op
    obtain ⟨i1, i2⟩ := ih (pre ++ accBy s op) (step s op) h1 (by rw [hcfg]; exact hil)
      (fun o ho' => ho o (List.mem_cons_of_mem _ ho')) hl.2
    simp only [written, accepted, run]
    rw [← List.append_assoc]
    refine ⟨?_, i2⟩
    rw [i1, h2, hcfg]
    cases op with
    | write si ppi len =>
      have hlen : len = lenOf s.nextMsg := hl.1
      simp only [accBy]
      cases hacc : accepts s si ppi len with
      | false => simp
      | true => simp [gen, hlen]
    | _ => simp [accBy]

theorem init_cinv (il : Bool) (cfg : Cfg) (tsn peerRwnd : BitVec 32) : CInv il [] (init cfg tsn peerRwnd) := by
  intro si
  simp [init, cntOf]

/-! ## what `gen` contains -/

theorem gen_mem (il : Bool) (mp : Nat) (lenOf : Nat → Nat) (pre ws : List Write) (w : Chunk) (h : w ∈ gen il mp lenOf pre ws) :
    ∃ (ws1 : List Write) (a : Write) (ws2 : List Write) (i : Nat), ws = ws1 ++ a :: ws2 ∧ (grp il mp (lenOf a.msg) (cntOf (pre ++ ws1) a.si) a)[i]? = some w := by
  induction ws generalizing pre with
  | nil => simp [gen] at h
  | cons a r ih =>
    simp only [gen, List.mem_append] at h
    rcases h with h | h
    · obtain ⟨i, hi⟩ := List.getElem?_of_mem h
      exact ⟨[], a, r, i, rfl, by simpa using hi⟩
    · obtain ⟨ws1, b, ws2, i, e, hi⟩ := ih (pre ++ [a]) h
      refine ⟨a :: ws1, b, ws2, i, by rw [e]; rfl, ?_⟩
      simpa [List.append_assoc] using hi

theorem gen_append (il : Bool) (mp : Nat) (lenOf : Nat → Nat) (pre ws1 ws2 : List Write) :
    gen il mp lenOf pre (ws1 ++ ws2) = gen il mp lenOf pre ws1 ++ gen il mp lenOf (pre ++ ws1) ws2 := by
  induction ws1 generalizing pre with
  | nil => simp [gen]
  | cons a r ih => simp only [List.cons_append, gen, ih, List.append_assoc]; simp

/-- the fields of the `i`-th chunk of a group -/
theorem grp_get (il : Bool) (mp len k : Nat) (a : Write) (i : Nat) (w : Chunk) (h : (grp il mp len k a)[i]? = some w) :
    w.si = a.si ∧ w.msg = a.msg ∧ w.ppi = a.ppi ∧ w.unordered = false ∧
    w.ssn = (if il then BitVec.setWidth 16 (BitVec.ofNat 32 k) else BitVec.ofNat 16 k) ∧
    w.mid = (if il then BitVec.ofNat 32 k else 0) ∧ w.fsn = BitVec.ofNat 32 i ∧ w.bfrag = (i == 0) ∧
    w.efrag = (i + 1 == (fragSizes mp len).length) ∧ (fragSizes mp len)[i]? = some w.len := by
  obtain ⟨g1, g2, g3, g4, g5, g6, g7, g8, g9, g10⟩ := mkChunks_get _ _ _ _ _ _ _ _ _ i w h
  exact ⟨g1, g2, g3, g4, g5, g6, by simpa using g7, by simpa using g8, g9, g10⟩

end SenderTsn
