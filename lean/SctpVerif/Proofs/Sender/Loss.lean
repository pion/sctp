import SctpVerif.Proofs.Sender.Frames
/-! Response to loss: T3 expiry and entry to fast recovery apply the RFC 4960 §7.2.3 formula, once. -/
namespace SenderProofs
open Gen Sender

/-- what the miss-indication pass does to the congestion state, from a state inside / outside fast recovery -/
theorem missLoop_loss (htna : BitVec 32) (fuel : Nat) (s : St) (tsn maxTSN : BitVec 32) :
    (missLoop htna fuel s tsn maxTSN).1.cfg = s.cfg ∧
    (s.inFastRecovery = true →
      (missLoop htna fuel s tsn maxTSN).1.cwnd = s.cwnd ∧ (missLoop htna fuel s tsn maxTSN).1.ssthresh = s.ssthresh ∧
      (missLoop htna fuel s tsn maxTSN).1.inFastRecovery = true) ∧
    (s.inFastRecovery = false →
      ((missLoop htna fuel s tsn maxTSN).1.inFastRecovery = false ∧ (missLoop htna fuel s tsn maxTSN).1.cwnd = s.cwnd ∧
        (missLoop htna fuel s tsn maxTSN).1.ssthresh = s.ssthresh) ∨
      ((missLoop htna fuel s tsn maxTSN).1.inFastRecovery = true ∧
        (missLoop htna fuel s tsn maxTSN).1.ssthresh = fastRecovery_ssthresh s.cwnd s.cfg.mtu ∧
        (missLoop htna fuel s tsn maxTSN).1.cwnd = setCwnd s (fastRecovery_cwndArg (fastRecovery_ssthresh s.cwnd s.cfg.mtu)) ∧
        (missLoop htna fuel s tsn maxTSN).1.fastRecoverExitPoint = htna ∧
        (missLoop htna fuel s tsn maxTSN).1.willRetransmitFast = true)) := by
  -- along the pass: congestion state as at the start, or fast recovery was entered from the start values and,
  -- once inside, nothing of it moves
  have h := missLoop_rule (P := fun x => x.cfg = s.cfg ∧
      ((x.inFastRecovery = s.inFastRecovery ∧ x.cwnd = s.cwnd ∧ x.ssthresh = s.ssthresh) ∨
       (s.inFastRecovery = false ∧ x.inFastRecovery = true ∧ x.ssthresh = fastRecovery_ssthresh s.cwnd s.cfg.mtu ∧
        x.cwnd = setCwnd s (fastRecovery_cwndArg (fastRecovery_ssthresh s.cwnd s.cfg.mtu)) ∧
        x.fastRecoverExitPoint = htna ∧ x.willRetransmitFast = true))) htna
    (fun _ _ _ h _ _ => h) ?_ fuel s tsn maxTSN ⟨rfl, Or.inl ⟨rfl, rfl, rfl⟩⟩
  · obtain ⟨h1, h2⟩ := h
    refine ⟨h1, fun hin => ?_, fun hout => ?_⟩
    · rcases h2 with ⟨a, b, c⟩ | ⟨a, _⟩
      · exact ⟨b, c, a.trans hin⟩
      · rw [hin] at a; cases a
    · rcases h2 with ⟨a, b, c⟩ | ⟨_, r⟩
      · exact Or.inl ⟨a.trans hout, b, c⟩
      · exact Or.inr r
  · rintro x ⟨h1, h2⟩ hx
    refine ⟨h1, ?_⟩
    rcases h2 with ⟨a, b, c⟩ | ⟨_, a, _⟩
    · refine Or.inr ⟨a.symm.trans hx, rfl, ?_, ?_, rfl, rfl⟩
      · show fastRecovery_ssthresh x.cwnd x.cfg.mtu = _
        rw [b, h1]
      · show setCwnd x (fastRecovery_cwndArg (fastRecovery_ssthresh x.cwnd x.cfg.mtu)) = _
        simp only [setCwnd, b, h1]
    · rw [hx] at a; cases a

/-- `processFastRetransmission`: if it takes the sender into fast recovery, ssthresh and cwnd are set by the formula
from the cwnd at that moment; if the sender already was in fast recovery, neither is touched -/
theorem fastRetransCheck_loss (s : St) (cum : BitVec 32) (gaps : List (BitVec 16 × BitVec 16)) (htna : BitVec 32) (adv : Bool) :
    (s.inFastRecovery = true →
      (fastRetransCheck s cum gaps htna adv).1.cwnd = s.cwnd ∧ (fastRetransCheck s cum gaps htna adv).1.ssthresh = s.ssthresh) ∧
    (s.inFastRecovery = false → (fastRetransCheck s cum gaps htna adv).1.inFastRecovery = true →
      (fastRetransCheck s cum gaps htna adv).1.ssthresh = fastRecovery_ssthresh s.cwnd s.cfg.mtu ∧
      (fastRetransCheck s cum gaps htna adv).1.cwnd = setCwnd s (fastRecovery_cwndArg (fastRecovery_ssthresh s.cwnd s.cfg.mtu)) ∧
      (fastRetransCheck s cum gaps htna adv).1.willRetransmitFast = true) ∧
    (s.inFastRecovery = false → (fastRetransCheck s cum gaps htna adv).1.inFastRecovery = false →
      (fastRetransCheck s cum gaps htna adv).1.cwnd = s.cwnd ∧ (fastRetransCheck s cum gaps htna adv).1.ssthresh = s.ssthresh) := by
  have hpost : ∀ r : St × Bool, (frPost r adv).1.cwnd = r.1.cwnd ∧ (frPost r adv).1.ssthresh = r.1.ssthresh ∧
      (frPost r adv).1.inFastRecovery = r.1.inFastRecovery ∧ (r.1.willRetransmitFast = true → (frPost r adv).1.willRetransmitFast = true) := by
    intro r
    unfold frPost
    split
    · exact ⟨rfl, rfl, rfl, id⟩
    · split
      · exact ⟨rfl, rfl, rfl, fun _ => rfl⟩
      · exact ⟨rfl, rfl, rfl, id⟩
  obtain ⟨q1, q2, q3, q4⟩ := hpost (frLoop s cum gaps htna adv)
  unfold fastRetransCheck
  rw [q1, q2, q3]
  unfold frLoop at q4 ⊢
  split
  · obtain ⟨m1, m2, m3⟩ := missLoop_loss htna (s.inflight.length + 1) s (cum + 1)
      (if (!s.inFastRecovery) = true then htna else match gaps.getLast? with | some (_, en) => cum + BitVec.setWidth 32 en | none => cum)
    rename_i hc
    simp only [hc, if_true] at q4
    refine ⟨fun h => ⟨(m2 h).1, (m2 h).2.1⟩, fun h hin => ?_, fun h hout => ?_⟩
    · rcases m3 h with ⟨a, _, _⟩ | ⟨a, b, c, d, e⟩
      · exact absurd (a.symm.trans hin) (by decide)
      · exact ⟨b, c, q4 e⟩
    · rcases m3 h with ⟨a, b, c⟩ | ⟨a, _⟩
      · exact ⟨b, c⟩
      · exact absurd (a.symm.trans hout) (by decide)
  · refine ⟨fun _ => ⟨rfl, rfl⟩, fun h hin => ?_, fun _ _ => ⟨rfl, rfl⟩⟩
    rw [h] at hin; cases hin

end SenderProofs
