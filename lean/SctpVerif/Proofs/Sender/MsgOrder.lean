import SctpVerif.Proofs.Sender.WireId
/-!
Every accepted write creates at least one chunk; hence there are at most as many accepted writes, and at most as
many fragments in one message, as chunks written in all.

Message identities grow along the accepted writes, so a message identity names ONE accepted write (`split_unique`);
identification of every written and every moved chunk (`written_ident`, `moved_ident`); and two list-level facts about
a move order that keeps the fragments of a message together (`Contig`): looking backward, every moved fragment `i` sits
`i` places after the first fragment of its message; looking forward, the fragments of a message whose first fragment was
moved follow it without a gap as far as the moves go.
-/
namespace SenderTsn
open SenderProofs
open Gen Sender
open NetSys (Write accepts)

theorem accepted_pos (lenOf : Nat → Nat) (s : St) (ops : List Op) (hl : LenOk lenOf s ops) :
    ∀ a ∈ accepted s ops, lenOf a.msg ≠ 0 ∧ s.cfg.maxPayload ≠ 0 := by
  induction ops generalizing s with
  | nil => intro a ha; cases ha
  | cons op ops ih =>
    intro a ha
    simp only [accepted, List.mem_append] at ha
    rcases ha with ha | ha
    · cases op with
      | write si ppi len =>
        simp only [accBy] at ha
        cases hacc : accepts s si ppi len with
        | false => simp [hacc] at ha
        | true =>
          simp only [hacc, if_true, List.mem_singleton] at ha
          subst ha
          obtain ⟨st, _, _, h2, hmp, _⟩ := (accepts_iff s si ppi len).1 hacc
          have hlen : len = lenOf s.nextMsg := hl.1
          exact ⟨by rw [← hlen]; exact h2, hmp⟩
      | _ => cases ha
    · have := ih (step s op) hl.2 a ha
      rw [step_cfg_all] at this
      exact this

theorem fragSizes_ne_nil (mp len : Nat) (h1 : len ≠ 0) (h2 : mp ≠ 0) : fragSizes mp len ≠ [] := by
  unfold fragSizes
  cases len with
  | zero => exact absurd rfl h1
  | succ n =>
    simp only [fragAux]
    have : ¬ (n + 1 = 0 ∨ mp = 0) := by omega
    rw [if_neg this]
    exact List.cons_ne_nil _ _

theorem grp_length (il : Bool) (mp len k : Nat) (a : Write) : (grp il mp len k a).length = (fragSizes mp len).length :=
  (mkChunks_spec _ _ _ _ _ _ _ _ _).2.2.1

theorem gen_length (il : Bool) (mp : Nat) (lenOf : Nat → Nat) (pre ws : List Write)
    (h : ∀ a ∈ ws, fragSizes mp (lenOf a.msg) ≠ []) :
    ws.length ≤ (gen il mp lenOf pre ws).length ∧
    ∀ a ∈ ws, (fragSizes mp (lenOf a.msg)).length ≤ (gen il mp lenOf pre ws).length := by
  induction ws generalizing pre with
  | nil => exact ⟨Nat.le_refl _, fun a ha => by cases ha⟩
  | cons a r ih =>
    obtain ⟨i1, i2⟩ := ih (pre ++ [a]) (fun b hb => h b (List.mem_cons_of_mem _ hb))
    have hne := h a List.mem_cons_self
    have hpos : 0 < (fragSizes mp (lenOf a.msg)).length := List.length_pos_iff.2 hne
    simp only [gen, List.length_append, grp_length, List.length_cons]
    refine ⟨by omega, fun b hb => ?_⟩
    rcases List.mem_cons.1 hb with rfl | hb
    · omega
    · have := i2 b hb; omega

/-- in ordered runs from `init`: at most as many accepted writes, and fragments per message, as chunks written -/
theorem accepted_le_written (cfg : Cfg) (tsn peerRwnd : BitVec 32) (lenOf : Nat → Nat) (ops : List Op)
    (ho : ∀ op ∈ ops, OrdOp op) (hl : LenOk lenOf (init cfg tsn peerRwnd) ops) :
    (accepted (init cfg tsn peerRwnd) ops).length ≤ (written (init cfg tsn peerRwnd) ops).length ∧
    ∀ a ∈ accepted (init cfg tsn peerRwnd) ops,
      1 ≤ (fragSizes cfg.maxPayload.toNat (lenOf a.msg)).length ∧
      (fragSizes cfg.maxPayload.toNat (lenOf a.msg)).length ≤ (written (init cfg tsn peerRwnd) ops).length ∧
      0 < cfg.maxPayload.toNat := by
  obtain ⟨hgen, _⟩ := run_gen cfg.useInterleaving lenOf [] (init cfg tsn peerRwnd) ops (init_cinv _ cfg tsn peerRwnd) rfl ho hl
  have hpos := accepted_pos lenOf (init cfg tsn peerRwnd) ops hl
  have hcfg : (init cfg tsn peerRwnd).cfg = cfg := rfl
  rw [hcfg] at hgen hpos
  have hmp : ∀ a ∈ accepted (init cfg tsn peerRwnd) ops, cfg.maxPayload.toNat ≠ 0 := by
    intro a ha h0
    exact (hpos a ha).2 (BitVec.eq_of_toNat_eq (by simpa using h0))
  have hne : ∀ a ∈ accepted (init cfg tsn peerRwnd) ops, fragSizes cfg.maxPayload.toNat (lenOf a.msg) ≠ [] :=
    fun a ha => fragSizes_ne_nil _ _ (hpos a ha).1 (hmp a ha)
  obtain ⟨g1, g2⟩ := gen_length cfg.useInterleaving cfg.maxPayload.toNat lenOf [] _ hne
  rw [hgen]
  exact ⟨g1, fun a ha => ⟨List.length_pos_iff.2 (hne a ha), g2 a ha, Nat.pos_of_ne_zero (hmp a ha)⟩⟩

/-- the moved chunks are at most the written ones -/
theorem moved_le_written (cfg : Cfg) (tsn peerRwnd : BitVec 32) (ops : List Op) :
    (moved (init cfg tsn peerRwnd) ops).length ≤ (written (init cfg tsn peerRwnd) ops).length := by
  have := moved_count_le cfg tsn peerRwnd ops (fun _ => true)
  simpa using this

theorem accBy_msg (s : St) (op : Op) : ∀ a ∈ accBy s op, a.msg = s.nextMsg ∧ (step s op).nextMsg = s.nextMsg + 1 := by
  intro a ha
  cases op with
  | write si ppi len =>
    simp only [accBy] at ha
    cases hacc : accepts s si ppi len with
    | false => simp [hacc] at ha
    | true =>
      simp only [hacc, if_true, List.mem_singleton] at ha
      subst ha
      refine ⟨rfl, ?_⟩
      obtain ⟨st, hs, h1, h2, hmp, he⟩ := (accepts_iff s si ppi len).1 hacc
      have hmp' : ¬ s.cfg.maxPayload = 0#32 := hmp
      simp [step, write, hs, h1, h2, hmp', he, pushPending, setStream]
  | _ => cases ha

theorem accepted_msg_ge (s : St) (ops : List Op) : ∀ a ∈ accepted s ops, s.nextMsg ≤ a.msg := by
  induction ops generalizing s with
  | nil => intro a ha; cases ha
  | cons op ops ih =>
    intro a ha
    simp only [accepted, List.mem_append] at ha
    rcases ha with ha | ha
    · exact Nat.le_of_eq (accBy_msg s op a ha).1.symm
    · exact Nat.le_trans (step_nextMsg s op).1 (ih _ a ha)

/-- message identities strictly increase along the accepted writes -/
theorem accepted_sorted (s : St) (ops : List Op) : (accepted s ops).Pairwise (fun a b => a.msg < b.msg) := by
  induction ops generalizing s with
  | nil => exact List.Pairwise.nil
  | cons op ops ih =>
    simp only [accepted]
    rw [List.pairwise_append]
    refine ⟨?_, ih _, ?_⟩
    · cases op with
      | write si ppi len =>
        simp only [accBy]
        split
        · exact List.pairwise_singleton _ _
        · exact List.Pairwise.nil
      | _ => exact List.Pairwise.nil
    · intro a ha b hb
      have h1 := accBy_msg s op a ha
      have h2 := accepted_msg_ge (step s op) ops b hb
      omega

/-- a message identity names one position in a list with increasing identities -/
theorem split_unique (acc : List Write) (hs : acc.Pairwise (fun a b => a.msg < b.msg)) (ws1 ws2 ws1' ws2' : List Write) (a a' : Write)
    (h1 : acc = ws1 ++ a :: ws2) (h2 : acc = ws1' ++ a' :: ws2') (hm : a.msg = a'.msg) : ws1 = ws1' ∧ a = a' ∧ ws2 = ws2' := by
  induction ws1 generalizing acc ws1' with
  | nil =>
    cases ws1' with
    | nil =>
      rw [h1] at h2
      simp only [List.nil_append, List.cons.injEq] at h2
      exact ⟨rfl, h2.1, h2.2⟩
    | cons b r =>
      rw [h1] at h2
      simp only [List.nil_append, List.cons_append, List.cons.injEq] at h2
      obtain ⟨e1, e2⟩ := h2
      rw [h1] at hs
      simp only [List.nil_append, List.pairwise_cons] at hs
      have : a.msg < a'.msg := hs.1 a' (by rw [e2]; simp)
      omega
  | cons b r ih =>
    cases ws1' with
    | nil =>
      have h2c := h2
      rw [h1] at h2
      simp only [List.nil_append, List.cons_append, List.cons.injEq] at h2
      obtain ⟨e1, e2⟩ := h2
      rw [h2c] at hs
      simp only [List.nil_append, List.pairwise_cons] at hs
      have : a'.msg < a.msg := hs.1 a (by rw [← e2]; simp)
      omega
    | cons b' r' =>
      rw [h1] at h2 hs
      simp only [List.cons_append, List.cons.injEq] at h2
      simp only [List.cons_append, List.pairwise_cons] at hs
      obtain ⟨e1, e2⟩ := h2
      obtain ⟨i1, i2, i3⟩ := ih (r ++ a :: ws2) hs.2 r' rfl e2
      exact ⟨by rw [e1, i1], i2, i3⟩

/-! ## identification of written and moved chunks -/

theorem written_ident (cfg : Cfg) (tsn peerRwnd : BitVec 32) (lenOf : Nat → Nat) (ops : List Op)
    (ho : ∀ op ∈ ops, OrdOp op) (hl : LenOk lenOf (init cfg tsn peerRwnd) ops) :
    ∀ w ∈ written (init cfg tsn peerRwnd) ops,
      ∃ (ws1 : List Write) (a : Write) (ws2 : List Write) (i : Nat),
        accepted (init cfg tsn peerRwnd) ops = ws1 ++ a :: ws2 ∧
        i < (fragSizes cfg.maxPayload.toNat (lenOf a.msg)).length ∧
        Chunk.frag w = fragOf cfg.useInterleaving a (cntOf ws1 a.si) i (fragSizes cfg.maxPayload.toNat (lenOf a.msg)).length ∧
        (fragSizes cfg.maxPayload.toNat (lenOf a.msg))[i]? = some w.len := by
  intro w hw
  obtain ⟨hgen, _⟩ := run_gen cfg.useInterleaving lenOf [] (init cfg tsn peerRwnd) ops (init_cinv _ cfg tsn peerRwnd) rfl ho hl
  rw [hgen] at hw
  obtain ⟨ws1, a, ws2, i, hacc, hi⟩ := gen_mem _ _ _ _ _ w hw
  have hcfg : (init cfg tsn peerRwnd).cfg = cfg := rfl
  rw [hcfg] at hi
  simp only [List.nil_append] at hi
  obtain ⟨g1, g2, g3, g4, g5, g6, g7, g8, g9, g10⟩ := grp_get _ _ _ _ _ i w hi
  have hilt : i < (fragSizes cfg.maxPayload.toNat (lenOf a.msg)).length := by
    rcases Nat.lt_or_ge i (fragSizes cfg.maxPayload.toNat (lenOf a.msg)).length with h' | h'
    · exact h'
    · rw [List.getElem?_eq_none h'] at g10; cases g10
  refine ⟨ws1, a, ws2, i, hacc, hilt, ?_, g10⟩
  simp only [Chunk.frag, fragOf, g1, g2, g3, g4, g5, g6, g7, g8, g9]

theorem moved_ident (cfg : Cfg) (tsn peerRwnd : BitVec 32) (lenOf : Nat → Nat) (ops : List Op)
    (ho : ∀ op ∈ ops, OrdOp op) (hl : LenOk lenOf (init cfg tsn peerRwnd) ops) :
    ∀ j m, (moved (init cfg tsn peerRwnd) ops)[j]? = some m →
      m.tsn = tsn + BitVec.ofNat 32 j ∧
      ∃ (ws1 : List Write) (a : Write) (ws2 : List Write) (i : Nat),
        accepted (init cfg tsn peerRwnd) ops = ws1 ++ a :: ws2 ∧
        i < (fragSizes cfg.maxPayload.toNat (lenOf a.msg)).length ∧
        Chunk.frag m = fragOf cfg.useInterleaving a (cntOf ws1 a.si) i (fragSizes cfg.maxPayload.toNat (lenOf a.msg)).length := by
  intro j m hj
  refine ⟨(run_tsn cfg tsn peerRwnd ops).2.2.1 j m hj, ?_⟩
  have hm : m ∈ moved (init cfg tsn peerRwnd) ops := List.mem_of_getElem? hj
  have hc := moved_count_le cfg tsn peerRwnd ops (fun x => x == Chunk.frag m)
  have hpos : 0 < ((moved (init cfg tsn peerRwnd) ops).map Chunk.frag).countP (fun x => x == Chunk.frag m) :=
    List.countP_pos_iff.2 ⟨Chunk.frag m, List.mem_map.2 ⟨m, hm, rfl⟩, by simp⟩
  obtain ⟨f, hf, hfe⟩ := List.countP_pos_iff.1 (Nat.lt_of_lt_of_le hpos hc)
  obtain ⟨w, hw, rfl⟩ := List.mem_map.1 hf
  have hfe' : Chunk.frag w = Chunk.frag m := by simpa using hfe
  obtain ⟨ws1, a, ws2, i, e1, e2, e3, _⟩ := written_ident cfg tsn peerRwnd lenOf ops ho hl w hw
  exact ⟨ws1, a, ws2, i, e1, e2, by rw [← hfe']; exact e3⟩

/-! ## a move order that keeps the fragments of a message together -/

/-- the first moved chunk is a first fragment; after a last fragment comes a first fragment; after any other fragment
comes the next fragment of the same message -/
structure Contig (mv : List Chunk) : Prop where
  head : ∀ c, mv[0]? = some c → c.bfrag = true
  next : ∀ j x y, mv[j]? = some x → mv[j + 1]? = some y →
    if x.efrag then y.bfrag = true else (y.msg = x.msg ∧ y.fsn = x.fsn + 1)

/-- backward: fragment `i` of a message sits `i` places after its first fragment -/
theorem Contig.back {mv : List Chunk} (h : Contig mv)
    (hwf : ∀ c ∈ mv, (c.bfrag = true ↔ c.fsn = 0) ∧ c.fsn.toNat + 1 < 2^32) :
    ∀ (j : Nat) (c : Chunk), mv[j]? = some c → c.fsn.toNat ≤ j ∧ ∃ b : Chunk, mv[j - c.fsn.toNat]? = some b ∧ b.msg = c.msg ∧ b.bfrag = true := by
  intro j
  induction j with
  | zero =>
    intro c hc
    have hb := h.head c hc
    have h0 : c.fsn = 0 := ((hwf c (List.mem_of_getElem? hc)).1).1 hb
    rw [h0]
    exact ⟨by simp, c, by simpa using hc, rfl, hb⟩
  | succ j ih =>
    intro c hc
    cases hb : c.bfrag with
    | true =>
      have h0 : c.fsn = 0 := ((hwf c (List.mem_of_getElem? hc)).1).1 hb
      rw [h0]
      exact ⟨by simp, c, by simpa using hc, rfl, hb⟩
    | false =>
      have hjl : j < mv.length := by
        rcases Nat.lt_or_ge (j + 1) mv.length with h' | h'
        · omega
        · rw [List.getElem?_eq_none h'] at hc; cases hc
      have hx : mv[j]? = some mv[j] := List.getElem?_eq_getElem hjl
      have hn := h.next j mv[j] c hx hc
      cases he : (mv[j]).efrag with
      | true => simp [he, hb] at hn
      | false =>
        simp only [he, Bool.false_eq_true, if_false] at hn
        obtain ⟨n1, n2⟩ := hn
        have hxw := (hwf mv[j] (List.getElem_mem hjl)).2
        have hfs : c.fsn.toNat = (mv[j]).fsn.toNat + 1 := by
          rw [n2, BitVec.toNat_add]
          simp only [BitVec.toNat_ofNat, Nat.reducePow, Nat.reduceMod]
          exact Nat.mod_eq_of_lt hxw
        obtain ⟨i1, b, i2, i3, i4⟩ := ih mv[j] hx
        refine ⟨by omega, b, ?_, i3.trans n1.symm, i4⟩
        have : j + 1 - c.fsn.toNat = j - (mv[j]).fsn.toNat := by omega
        rw [this]; exact i2

/-- forward: behind a moved first fragment the fragments of its message follow without a gap, as far as the moves go -/
theorem Contig.fwd {mv : List Chunk} (h : Contig mv) (J0 : Nat) (b : Chunk) (hb : mv[J0]? = some b) (hb0 : b.fsn = 0) (n : Nat)
    (hn : n < 2^32) (he : ∀ c ∈ mv, c.msg = b.msg → c.efrag = (c.fsn.toNat + 1 == n)) :
    ∀ i, i < n → J0 + i < mv.length → ∃ c, mv[J0 + i]? = some c ∧ c.msg = b.msg ∧ c.fsn = BitVec.ofNat 32 i := by
  intro i
  induction i with
  | zero => intro _ _; exact ⟨b, by simpa using hb, rfl, by simpa using hb0⟩
  | succ i ih =>
    intro hi hl
    obtain ⟨x, hx, x1, x2⟩ := ih (by omega) (by omega)
    have hy : mv[J0 + i + 1]? = some mv[J0 + i + 1] := List.getElem?_eq_getElem (by omega)
    have hne := h.next (J0 + i) x _ hx hy
    have hxe : x.efrag = false := by
      rw [he x (List.mem_of_getElem? hx) x1, x2, BitVec.toNat_ofNat, Nat.mod_eq_of_lt (by omega)]
      simp; omega
    simp only [hxe, Bool.false_eq_true, if_false] at hne
    refine ⟨_, hy, hne.1.trans x1, ?_⟩
    rw [hne.2, x2]
    show BitVec.ofNat 32 i + BitVec.ofNat 32 1 = _
    rw [← BitVec.ofNat_add]

end SenderTsn
