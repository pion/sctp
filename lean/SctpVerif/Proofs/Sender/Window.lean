import SctpVerif.Proofs.Sender.Gather
/-! Window discipline of the sender: admission of new DATA (cwnd, rwnd, lone probe), the peer-window
invariant, the congestion-window floor. -/
namespace SenderProofs
open Gen Sender

/-- the congestion-window floor, guarded by the "no uint32 wrap so far" flag -/
def CwndFloor (s : St) : Prop := s.wrapWin = false → s.cfg.mtu.toNat ≤ s.cwnd.toNat

theorem setCwnd_ge (s : St) (v : BitVec 32) : v.toNat ≤ (setCwnd s v).toNat ∧ s.cfg.minCwnd.toNat ≤ (setCwnd s v).toNat := by
  simp only [setCwnd, Association_setCWND]
  by_cases h : v < s.cfg.minCwnd
  · simp [h]; bv_omega
  · simp [h]; bv_omega

theorem setCwnd_eq (s : St) (v : BitVec 32) : (setCwnd s v).toNat = max v.toNat s.cfg.minCwnd.toNat := by
  simp only [setCwnd, Association_setCWND]
  by_cases h : v < s.cfg.minCwnd
  · simp [h]; bv_omega
  · simp [h]; bv_omega

/-- the RFC 4960 §7.2.3 formula of the generated `t3_ssthresh` / `fastRecovery_ssthresh`, in natural numbers -/
theorem ssthresh_formula (cw mtu : BitVec 32) (hm : mtu.toNat < 2^30) :
    (t3_ssthresh cw mtu).toNat = max (cw.toNat / 2) (4 * mtu.toNat) ∧
    (fastRecovery_ssthresh cw mtu).toNat = max (cw.toNat / 2) (4 * mtu.toNat) := by
  have e1 : (cw / 2#32).toNat = cw.toNat / 2 := by simp [BitVec.toNat_udiv]
  have e2 : (4#32 * mtu).toNat = 4 * mtu.toNat := by simp [BitVec.toNat_mul]; omega
  simp only [t3_ssthresh, fastRecovery_ssthresh, max32]
  by_cases h : cw / 2#32 > 4#32 * mtu
  · have h' := h
    rw [gt_iff_lt, BitVec.lt_def, e1, e2] at h'
    simp only [h, decide_true, if_true, e1]; omega
  · have h' := h
    rw [gt_iff_lt, BitVec.lt_def, e1, e2] at h'
    simp only [h, decide_false, Bool.false_eq_true, if_false, e2]; omega

theorem move_frame (s : St) (i : Nat) (c : Chunk) :
    (move s i c).1.rwnd = s.rwnd ∧ (move s i c).1.cwnd = s.cwnd ∧ (move s i c).1.wrapWin = s.wrapWin ∧
    (move s i c).1.lastArwnd = s.lastArwnd ∧ (move s i c).1.infBytes = s.infBytes + (c.len : Int) ∧
    (move s i c).1.cfg = s.cfg ∧ (move s i c).2.len = c.len ∧
    (move s i c).1.inflight = s.inflight ++ [(move s i c).2] ∧ (move s i c).1.streams = s.streams ∧
    (move s i c).1.ssthresh = s.ssthresh ∧ (move s i c).1.established = s.established := by
  simp [move, popPend]

/-- the window invariant (b) of C10, guarded by the ghost "no uint32 wrap so far" flag -/
def RW (s : St) : Prop :=
  s.wrapWin = false → (s.rwnd.toNat : Int) + s.infBytes ≤ max (s.lastArwnd.toNat : Int) s.infBytes

/-- a non-probe admission, in natural numbers; `A` = the peer's last advertised window -/
def AdmitOk (A : Nat) (x : Admit) : Prop :=
  x.probe = false ∧ 0 < x.chunk.len ∧ x.infBefore + (x.chunk.len : Int) ≤ (x.cwnd.toNat : Int) ∧
  x.chunk.len ≤ x.rwndBefore.toNat ∧ x.infBefore + (x.chunk.len : Int) ≤ (A : Int)

theorem popDecide_take {B : Type} (s : St) (allow : B → Int → Bool × B) (a : PopAcc B) (c : Chunk) {b : B} {bip : Int}
    (h : popDecide s allow a c = .take b bip) :
    popPending_exceedsCwnd s.infBytes (BitVec.ofNat 32 c.len) s.cwnd = false ∧
    popPending_exceedsRwnd (BitVec.ofNat 32 c.len) s.rwnd = false := by
  unfold popDecide at h
  simp only at h
  split at h
  · cases h
  · split at h
    · cases h
    · rename_i h1 h2; exact ⟨by simpa using h1, by simpa using h2⟩

theorem admitChunk_frame (s : St) (i : Nat) (c : Chunk) :
    (admitChunk s i c).1.rwnd = popPending_rwndAfterSend s.rwnd (BitVec.ofNat 32 c.len) ∧
    (admitChunk s i c).1.cwnd = s.cwnd ∧
    (admitChunk s i c).1.wrapWin = (s.wrapWin || decide (s.infBytes < 0 ∨ s.infBytes + (c.len : Int) ≥ 2^32)) ∧
    (admitChunk s i c).1.lastArwnd = s.lastArwnd ∧ (admitChunk s i c).1.infBytes = s.infBytes + (c.len : Int) ∧
    (admitChunk s i c).1.cfg = s.cfg ∧ (admitChunk s i c).2.len = c.len ∧
    (admitChunk s i c).1.inflight = s.inflight ++ [(admitChunk s i c).2] ∧ (admitChunk s i c).1.streams = s.streams ∧
    (admitChunk s i c).1.ssthresh = s.ssthresh ∧ (admitChunk s i c).1.established = s.established := by
  simp [admitChunk, chargeSend, move, popPend]

theorem admitChunk_spec (s : St) (i : Nat) (c : Chunk) (hR : RW s)
    (hc : popPending_exceedsCwnd s.infBytes (BitVec.ofNat 32 c.len) s.cwnd = false)
    (hr : popPending_exceedsRwnd (BitVec.ofNat 32 c.len) s.rwnd = false)
    (hz : (BitVec.ofNat 32 c.len == 0) = false) :
    RW (admitChunk s i c).1 ∧
    ((admitChunk s i c).1.wrapWin = false → s.wrapWin = false ∧ AdmitOk s.lastArwnd.toNat (mkAdmit s (admitChunk s i c).2 false)) := by
  obtain ⟨h1, h2, h3, h4, h5, h6, h7, _⟩ := admitChunk_frame s i c
  have key : (s.wrapWin || decide (s.infBytes < 0 ∨ s.infBytes + (c.len : Int) ≥ 2^32)) = false →
      s.wrapWin = false ∧ 0 ≤ s.infBytes ∧ s.infBytes + (c.len : Int) < 2^32 ∧ 0 < c.len ∧
      s.infBytes + (c.len : Int) ≤ (s.cwnd.toNat : Int) ∧ c.len ≤ s.rwnd.toNat ∧
      ((popPending_rwndAfterSend s.rwnd (BitVec.ofNat 32 c.len)).toNat : Int) = (s.rwnd.toNat : Int) - c.len := by
    intro hw
    simp only [Bool.or_eq_false_iff, decide_eq_false_iff_not, not_or, Int.not_lt, ge_iff_le, Int.not_le] at hw
    obtain ⟨hw1, hw2, hw3⟩ := hw
    have hlen : c.len < 2^32 := by omega
    simp only [popPending_exceedsCwnd, popPending_exceedsRwnd, popPending_rwndAfterSend, decide_eq_false_iff_not] at hc hr ⊢
    have hz' : c.len ≠ 0 := by
      intro h0; simp [h0] at hz
    have e1 : (BitVec.ofNat 32 c.len).toNat = c.len := Sna.toNat_ofNat_of_lt (by omega)
    have e2 : (BitVec.ofInt 32 s.infBytes).toNat = s.infBytes.toNat := by
      rw [BitVec.toNat_ofInt]; omega
    refine ⟨hw1, hw2, by omega, by omega, ?_⟩
    bv_omega
  refine ⟨?_, ?_⟩
  · intro hw
    rw [h3] at hw
    obtain ⟨k1, k2, k3, k4, k5, k6, k7⟩ := key hw
    have := hR k1
    rw [h1, h4, h5]
    omega
  · intro hw
    rw [h3] at hw
    obtain ⟨k1, k2, k3, k4, k5, k6, k7⟩ := key hw
    have := hR k1
    refine ⟨k1, rfl, ?_, ?_, ?_, ?_⟩ <;> simp only [mkAdmit, h7] <;> omega

theorem popDecide_fits {B : Type} (s : St) (allow : B → Int → Bool × B) (a : PopAcc B) (c : Chunk) {b : B} {bip : Int}
    (hinv : a.bip = 0 ∨ hdr ≤ a.bip) (h : popDecide s allow a c = .take b bip) :
    hdr + c.sizeInPacket s.cfg.useInterleaving ≤ (s.cfg.mtu.toNat : Int) ∧ hdr ≤ bip := by
  unfold popDecide at h
  simp only at h
  split at h
  · cases h
  · split at h
    · cases h
    · have := packAllow_take allow a.b s.cfg.mtu a.bip _ _ _ (by simp [popPending_packetFull]) (by simp [popPending_firstTooBig]) hinv
        (by have := (sizeInPacket_nonneg s.cfg.useInterleaving c).1; omega) h
      exact ⟨this.1, this.2.1⟩

theorem allFit_nil (mtu : BitVec 32) (il : Bool) : AllFit mtu il [] := fun _ hx => absurd hx List.not_mem_nil

theorem popPend_RW (s : St) (i : Nat) (c : Chunk) (h : RW s) : RW (popPend s i c) := by
  simpa [RW, popPend] using h

theorem peek_some {s : St} {sel : List Nat} {i : Nat} {c : Chunk} (h : peek s sel = some (i, c)) : s.pending[i]? = some c := by
  unfold peek at h
  cases sel with
  | nil => cases h
  | cons j r =>
    simp only at h
    cases hq : s.pending[j]? with
    | none => simp [hq] at h
    | some _ => simp [hq] at h; obtain ⟨h1, h2⟩ := h; subst h1 h2; exact hq

/-! ### new DATA as proof rules

`popPendingDataChunksToSend` changes the state in three ways only: it drops an empty pending chunk, it admits a chunk its
loop body took, it sends one probe. A predicate on state and accumulator that survives these survives the function. -/

theorem popLoop_rule {B : Type} (allow : B → Int → Bool × B) (P : St → PopAcc B → Prop)
    (hdrop : ∀ s i c a, P s a → s.pending[i]? = some c → (BitVec.ofNat 32 c.len == 0) = true →
      P (popPend s i c) { a with sisToReset := a.sisToReset ++ [c.si] })
    (hstop : ∀ s a b, P s a → P s { a with b := b })
    (hadmit : ∀ s i c a b bip, P s a → s.pending[i]? = some c → (BitVec.ofNat 32 c.len == 0) = false →
      popDecide s allow a c = .take b bip →
      P (admitChunk s i c).1 { a with b := b, bip := bip, admits := a.admits ++ [mkAdmit s (admitChunk s i c).2 false] })
    (fuel : Nat) (s : St) (sel : List Nat) (a : PopAcc B) (h : P s a) :
    P (popLoop allow fuel s sel a).1 (popLoop allow fuel s sel a).2.2 := by
  induction fuel generalizing s sel a with
  | zero => exact h
  | succ fuel ih =>
    simp only [popLoop]
    cases hp : peek s sel with
    | none => exact h
    | some ic =>
      obtain ⟨i, c⟩ := ic
      simp only
      split
      · rename_i hz
        exact ih _ _ _ (hdrop s i c a h (peek_some hp) hz)
      · rename_i hz
        cases hd : popDecide s allow a c with
        | skip => exact h
        | stop b => exact hstop s a b h
        | take b bip => exact ih _ _ _ (hadmit s i c a b bip h (peek_some hp) (by simpa using hz) hd)

theorem probe_rule {B : Type} (allow : B → Int → Bool × B) (P : St → PopAcc B → Prop)
    (hstop : ∀ s a b, P s a → P s { a with b := b })
    (hprobe : ∀ s i c a b, P s a → s.pending[i]? = some c → a.admits = [] → s.inflight.length = 0 →
      popPending_probeAllowedSize (hdr + c.sizeInPacket s.cfg.useInterleaving) s.cfg.mtu true = true →
      P (admitProbe s i c).1 { a with b := b, admits := a.admits ++ [mkAdmit s (admitProbe s i c).2 true] })
    (s : St) (sel : List Nat) (a : PopAcc B) (h : P s a) :
    P (probe allow s sel a).1 (probe allow s sel a).2.2 := by
  unfold probe
  split
  · rename_i hcond
    simp only [Bool.and_eq_true, List.isEmpty_iff, beq_iff_eq] at hcond
    cases hp : peek s sel with
    | none => exact h
    | some ic =>
      obtain ⟨i, c⟩ := ic
      simp only
      split
      · split
        · rename_i hsz
          split
          · exact hprobe s i c a _ h (peek_some hp) hcond.1 hcond.2 hsz
          · exact hstop s a _ h
        · exact h
      · exact h
  · exact h

theorem admitProbe_frame (s : St) (i : Nat) (c : Chunk) :
    (admitProbe s i c).1.rwnd = (if popPending_probeExhaustsRwnd (BitVec.ofNat 32 c.len) s.rwnd then 0 else popPending_rwndAfterProbe s.rwnd (BitVec.ofNat 32 c.len)) ∧
    (admitProbe s i c).1.cwnd = s.cwnd ∧
    (admitProbe s i c).1.wrapWin = (s.wrapWin || decide (c.len ≥ 2^32)) ∧
    (admitProbe s i c).1.lastArwnd = s.lastArwnd ∧ (admitProbe s i c).1.infBytes = s.infBytes + (c.len : Int) ∧
    (admitProbe s i c).1.cfg = s.cfg ∧ (admitProbe s i c).2.len = c.len := by
  simp [admitProbe, chargeProbe, move, popPend]

theorem admitProbe_RW (s : St) (i : Nat) (c : Chunk) (hR : RW s) :
    RW (admitProbe s i c).1 ∧ ((admitProbe s i c).1.wrapWin = false → s.wrapWin = false) := by
  obtain ⟨h1, h2, h3, h4, h5, h6, h7⟩ := admitProbe_frame s i c
  refine ⟨?_, ?_⟩
  · intro hw
    rw [h3] at hw
    simp only [Bool.or_eq_false_iff, decide_eq_false_iff_not, ge_iff_le, Nat.not_le] at hw
    have := hR hw.1
    have e1 : (BitVec.ofNat 32 c.len).toNat = c.len := Sna.toNat_ofNat_of_lt (by omega)
    rw [h1, h4, h5]
    simp only [popPending_probeExhaustsRwnd, popPending_rwndAfterProbe]
    by_cases hge : BitVec.ofNat 32 c.len ≥ s.rwnd
    · simp only [hge, decide_true, if_true]; simp; omega
    · simp only [hge, decide_false, Bool.false_eq_true, if_false]
      have : ((s.rwnd - BitVec.ofNat 32 c.len).toNat : Int) = (s.rwnd.toNat : Int) - c.len := by bv_omega
      omega
  · intro hw
    rw [h3] at hw
    simp only [Bool.or_eq_false_iff] at hw
    exact hw.1

/-- the probe of a gather: alone, with nothing in flight -/
def ProbeOk (admits : List Admit) (x : Admit) : Prop := x.probe = true ∧ admits = [x] ∧ x.nInflightBefore = 0

/-- invariant of the admission loop started in `s0`; the window facts presuppose `RW s0`, the MTU facts nothing -/
structure AdmitInv {B : Type} (s0 s : St) (a : PopAcc B) : Prop where
  cfg : s.cfg = s0.cfg
  arwnd : s.lastArwnd = s0.lastArwnd
  bip : a.bip = 0 ∨ hdr ≤ a.bip
  fit : AllFit s0.cfg.mtu s0.cfg.useInterleaving (a.admits.map (·.chunk))
  noProbe : ∀ x ∈ a.admits, x.probe = false
  rw : RW s0 → RW s
  ok : RW s0 → s.wrapWin = false → s0.wrapWin = false ∧ ∀ x ∈ a.admits, AdmitOk s0.lastArwnd.toNat x

theorem popLoop_admitInv {B : Type} (allow : B → Int → Bool × B) (s0 : St) (fuel : Nat) (s : St) (sel : List Nat) (a : PopAcc B)
    (h : AdmitInv s0 s a) : AdmitInv s0 (popLoop allow fuel s sel a).1 (popLoop allow fuel s sel a).2.2 := by
  refine popLoop_rule allow (AdmitInv s0) ?_ ?_ ?_ fuel s sel a h
  · intro s i c a h _ _
    exact ⟨h.cfg, h.arwnd, h.bip, h.fit, h.noProbe, fun h0 => popPend_RW s i c (h.rw h0), h.ok⟩
  · intro s a b h
    exact ⟨h.cfg, h.arwnd, h.bip, h.fit, h.noProbe, h.rw, h.ok⟩
  · intro s i c a b bip h _ hz hd
    obtain ⟨hc, hr⟩ := popDecide_take s allow a c hd
    obtain ⟨hf1, hf2⟩ := popDecide_fits s allow a c h.bip hd
    obtain ⟨_, _, g3, g4, _, g6, g7, _⟩ := admitChunk_frame s i c
    refine ⟨g6.trans h.cfg, g4.trans h.arwnd, Or.inr hf2, ?_, ?_, fun h0 => (admitChunk_spec s i c (h.rw h0) hc hr hz).1, fun h0 hw => ?_⟩
    · simp only [List.map_append, List.map_cons, List.map_nil]
      refine allFit_snoc h.fit ?_
      rw [← h.cfg]
      show hdr + Chunk.sizeInPacket _ (admitChunk s i c).2 ≤ _
      rw [sip_congr _ _ _ g7]; exact hf1
    · intro x hx
      rcases List.mem_append.mp hx with hx | hx
      · exact h.noProbe x hx
      · rw [List.mem_singleton.mp hx]; rfl
    · obtain ⟨w1, w2⟩ := (admitChunk_spec s i c (h.rw h0) hc hr hz).2 hw
      obtain ⟨w3, w4⟩ := h.ok h0 w1
      refine ⟨w3, fun x hx => ?_⟩
      rcases List.mem_append.mp hx with hx | hx
      · exact w4 x hx
      · rw [List.mem_singleton.mp hx, ← h.arwnd]; exact w2

/-- `popPendingDataChunksToSend`: configuration and advertised window untouched, every admitted chunk fits a packet of
its own; from a state with `RW`: `RW` again, and every chunk admitted by the rule or the lone probe -/
theorem gatherNew_spec {B : Type} (allow : B → Int → Bool × B) (b : B) (s : St) (sel : List Nat) :
    (gatherNew s allow b sel).1.cfg = s.cfg ∧
    (gatherNew s allow b sel).1.lastArwnd = s.lastArwnd ∧
    AllFit s.cfg.mtu s.cfg.useInterleaving ((gatherNew s allow b sel).2.admits.map (·.chunk)) ∧
    (∀ x ∈ (gatherNew s allow b sel).2.admits, x.probe = false ∨ ProbeOk (gatherNew s allow b sel).2.admits x) ∧
    (RW s → RW (gatherNew s allow b sel).1 ∧
      ((gatherNew s allow b sel).1.wrapWin = false → s.wrapWin = false ∧
        ∀ x ∈ (gatherNew s allow b sel).2.admits, AdmitOk s.lastArwnd.toNat x ∨ ProbeOk (gatherNew s allow b sel).2.admits x)) := by
  have h0 : AdmitInv s s ({ b := b } : PopAcc B) :=
    ⟨rfl, rfl, Or.inl rfl, allFit_nil _ _, fun x hx => absurd hx List.not_mem_nil, id,
      fun _ hw => ⟨hw, fun x hx => absurd hx List.not_mem_nil⟩⟩
  let Post (x : St) (a : PopAcc B) : Prop :=
    x.cfg = s.cfg ∧ x.lastArwnd = s.lastArwnd ∧ AllFit s.cfg.mtu s.cfg.useInterleaving (a.admits.map (·.chunk)) ∧
    (∀ y ∈ a.admits, y.probe = false ∨ ProbeOk a.admits y) ∧
    (RW s → RW x ∧ (x.wrapWin = false → s.wrapWin = false ∧ ∀ y ∈ a.admits, AdmitOk s.lastArwnd.toNat y ∨ ProbeOk a.admits y))
  have post : ∀ x (a : PopAcc B), AdmitInv s x a → Post x a := fun x a h =>
    ⟨h.cfg, h.arwnd, h.fit, fun y hy => Or.inl (h.noProbe y hy),
      fun hR => ⟨h.rw hR, fun hw => ⟨(h.ok hR hw).1, fun y hy => Or.inl ((h.ok hR hw).2 y hy)⟩⟩⟩
  show Post (gatherNew s allow b sel).1 (gatherNew s allow b sel).2
  unfold gatherNew
  split
  · refine probe_rule allow Post (fun _ _ _ h => h) ?_ _ _ _ (post _ _ (popLoop_admitInv allow s _ s sel _ h0))
    intro x i c a b' ⟨p1, p2, _, _, p5⟩ _ hnil hinf hsz
    obtain ⟨_, _, _, g4, _, g6, g7⟩ := admitProbe_frame x i c
    have hok : ProbeOk (a.admits ++ [mkAdmit x (admitProbe x i c).2 true]) (mkAdmit x (admitProbe x i c).2 true) :=
      ⟨rfl, by rw [hnil]; rfl, hinf⟩
    have hall : ∀ y ∈ a.admits ++ [mkAdmit x (admitProbe x i c).2 true], ProbeOk (a.admits ++ [mkAdmit x (admitProbe x i c).2 true]) y := by
      intro y hy
      rw [hnil, List.nil_append, List.mem_singleton] at hy
      rw [hy]; exact hok
    refine ⟨g6.trans p1, g4.trans p2, ?_, fun y hy => Or.inr (hall y hy), fun hR => ?_⟩
    · rw [hnil]
      intro y hy
      rw [List.nil_append, List.map_cons, List.map_nil, List.mem_singleton] at hy
      rw [hy]
      show hdr + Chunk.sizeInPacket _ (admitProbe x i c).2 ≤ _
      rw [sip_congr _ _ _ g7, ← p1]
      simpa [popPending_probeAllowedSize] using hsz
    · obtain ⟨k1, k2⟩ := admitProbe_RW x i c (p5 hR).1
      exact ⟨k1, fun hw => ⟨((p5 hR).2 (k2 hw)).1, fun y hy => Or.inr (hall y hy)⟩⟩
  · exact post _ _ h0

/-! ### the retransmission scans -/

theorem scanSplit_append (s : St) : (scanSplit s).1 ++ (scanSplit s).2 = s.inflight := by
  unfold scanSplit
  split <;> simp

theorem gatherRtx_fit (s : St) (orc : Oracle) : AllFit s.cfg.mtu s.cfg.useInterleaving (gatherRtx s orc).2.1 :=
  (scanLoop_fit s (rtxDecide s orc.allow (rtx_awnd s.cwnd s.rwnd)) (rtxUpd s) (rtxDecide_fits s orc.allow _) (fun _ => rfl) 0
    (scanSplit s).2 { b := orc.b, aband := s.abandonedMsgs } ⟨Or.inl rfl, allFit_nil _ _⟩).2

theorem gatherFast_fit {B : Type} (s : St) (allow : B → Int → Bool × B) (b : B) :
    AllFit s.cfg.mtu s.cfg.useInterleaving (gatherFast s allow b).2 := by
  unfold gatherFast
  split
  · exact allFit_nil _ _
  · exact (scanLoop_fit { s with willRetransmitFast := false } _ (fastUpd _) (fastDecide_fits _ allow _) (fun _ => rfl) 0 _
      { b := b, size := hdr, aband := s.abandonedMsgs } ⟨Or.inl rfl, allFit_nil _ _⟩).2

theorem RW_congr {s s' : St} (h1 : s'.rwnd = s.rwnd) (h2 : s'.infBytes = s.infBytes) (h3 : s'.lastArwnd = s.lastArwnd)
    (h4 : s'.wrapWin = s.wrapWin) (h : RW s) : RW s' := by
  unfold RW at *; rw [h1, h2, h3, h4]; exact h

end SenderProofs
