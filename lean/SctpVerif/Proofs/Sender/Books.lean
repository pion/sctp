import SctpVerif.Proofs.Sender.Frames
/-! Bookkeeping lemmas for the byte accounting: sums over chunk lists, the per-stream release table
(`bytesAckedPerStream`), the two SACK loops. -/
namespace SenderProofs
open Gen Sender

theorem sumLen_append (a b : List Chunk) : sumLen (a ++ b) = sumLen a + sumLen b := by
  induction a with
  | nil => simp [sumLen]
  | cons c r ih => simp [sumLen, ih]; omega

theorem bytesOf_append (si : BitVec 16) (a b : List Chunk) : bytesOf si (a ++ b) = bytesOf si a + bytesOf si b := by
  induction a with
  | nil => simp [bytesOf]
  | cons c r ih => simp [bytesOf, ih]; omega

theorem bytesOf_le_sumLen (si : BitVec 16) (l : List Chunk) : bytesOf si l ≤ sumLen l := by
  induction l with
  | nil => simp [bytesOf, sumLen]
  | cons c r ih => simp only [bytesOf, sumLen]; split <;> omega

theorem sums_of_core {l l' : List Chunk} (h : l.map Chunk.core = l'.map Chunk.core) :
    sumLen l = sumLen l' ∧ (∀ si, bytesOf si l = bytesOf si l') ∧
    ((∀ c ∈ l, c.acked = true → c.len = 0) → ∀ c ∈ l', c.acked = true → c.len = 0) := by
  induction l generalizing l' with
  | nil => cases l' with
    | nil => exact ⟨rfl, fun _ => rfl, fun h => h⟩
    | cons _ _ => simp at h
  | cons c r ih => cases l' with
    | nil => simp at h
    | cons c' r' =>
      simp only [List.map_cons, List.cons.injEq] at h
      obtain ⟨hc, hr⟩ := h
      obtain ⟨i1, i2, i3⟩ := ih hr
      simp only [Chunk.core, Prod.mk.injEq] at hc
      obtain ⟨_, hsi, hlen, hack, _⟩ := hc
      refine ⟨by simp [sumLen, i1, hlen], fun si => by simp [bytesOf, i2, hlen, hsi], ?_⟩
      intro hall x hx
      rcases List.mem_cons.mp hx with h1 | h1
      · subst h1; intro ha; rw [← hlen]; exact hall c (by simp) (by rw [hack]; exact ha)
      · exact i3 (fun y hy => hall y (by simp [hy])) x h1

theorem sumLen_eraseIdx {l : List Chunk} {i : Nat} {c : Chunk} (h : l[i]? = some c) :
    sumLen (l.eraseIdx i) + c.len = sumLen l ∧ (∀ si, bytesOf si (l.eraseIdx i) + (if c.si = si then c.len else 0) = bytesOf si l) ∧
    (l.eraseIdx i).length + 1 = l.length := by
  induction l generalizing i with
  | nil => simp at h
  | cons x r ih =>
    cases i with
    | zero =>
      simp at h; subst h
      refine ⟨by simp [sumLen]; omega, fun si => by simp [bytesOf]; omega, by simp⟩
    | succ n =>
      simp at h
      obtain ⟨i1, i2, i3⟩ := ih h
      refine ⟨by simp [sumLen]; omega, fun si => ?_, by simp; omega⟩
      have := i2 si
      simp [bytesOf]; omega

theorem sumLen_set {l : List Chunk} {i : Nat} {c c' : Chunk} (h : l[i]? = some c) :
    sumLen (l.set i c') + c.len = sumLen l + c'.len ∧
    (∀ si, bytesOf si (l.set i c') + (if c.si = si then c.len else 0) = bytesOf si l + (if c'.si = si then c'.len else 0)) := by
  induction l generalizing i with
  | nil => simp at h
  | cons x r ih =>
    cases i with
    | zero =>
      simp at h; subst h
      exact ⟨by simp [sumLen]; omega, fun si => by simp [bytesOf]; omega⟩
    | succ n =>
      simp at h
      obtain ⟨i1, i2⟩ := ih h
      refine ⟨by simp [sumLen]; omega, fun si => ?_⟩
      have := i2 si
      simp [bytesOf]; omega

/-- bytes recorded for stream `si` -/
def relOf : Rel → BitVec 16 → Int
  | [], _ => 0
  | (k, v) :: r, si => (if k = si then v else 0) + relOf r si

def RelNonneg (rel : Rel) : Prop := ∀ e ∈ rel, 0 ≤ e.2

theorem relOf_addRel (rel : Rel) (si : BitVec 16) (n : Int) (k : BitVec 16) :
    relOf (addRel rel si n) k = relOf rel k + (if si = k then n else 0) := by
  induction rel with
  | nil => simp [addRel, relOf]
  | cons e r ih =>
    obtain ⟨k', v⟩ := e
    simp only [addRel]
    split
    · rename_i h; subst h; simp only [relOf]; split <;> omega
    · simp only [relOf, ih]; omega

theorem relNonneg_addRel (rel : Rel) (si : BitVec 16) (n : Int) (h : RelNonneg rel) (hn : 0 ≤ n) : RelNonneg (addRel rel si n) := by
  induction rel with
  | nil => intro e he; simp [addRel] at he; subst he; exact hn
  | cons e r ih =>
    obtain ⟨k', v⟩ := e
    simp only [addRel]
    have hv : 0 ≤ v := h (k', v) (by simp)
    have hr : RelNonneg r := fun x hx => h x (by simp [hx])
    split
    · intro x hx
      rcases List.mem_cons.mp hx with h1 | h1
      · subst h1; show 0 ≤ v + n; omega
      · exact hr x h1
    · intro x hx
      rcases List.mem_cons.mp hx with h1 | h1
      · subst h1; exact hv
      · exact ih hr x h1

theorem relOf_nonneg (rel : Rel) (h : RelNonneg rel) (k : BitVec 16) : 0 ≤ relOf rel k := by
  induction rel with
  | nil => simp [relOf]
  | cons e r ih =>
    obtain ⟨k', v⟩ := e
    have hv : 0 ≤ v := h (k', v) (by simp)
    have := ih (fun x hx => h x (by simp [hx]))
    simp only [relOf]; split <;> omega

theorem relTotal_nonneg (rel : Rel) (h : RelNonneg rel) : 0 ≤ relTotal rel := by
  induction rel with
  | nil => simp [relTotal]
  | cons e r ih =>
    obtain ⟨k', v⟩ := e
    have hv : 0 ≤ v := h (k', v) (by simp)
    have := ih (fun x hx => h x (by simp [hx]))
    simp only [relTotal]; omega

/-- keys of the table are pairwise different: one release per stream and SACK -/
def RelKeysNodup (rel : Rel) : Prop := (rel.map (·.1)).Nodup

theorem addRel_keys (rel : Rel) (si : BitVec 16) (n : Int) :
    (∀ k, k ∈ (addRel rel si n).map (·.1) ↔ k = si ∨ k ∈ rel.map (·.1)) ∧ (RelKeysNodup rel → RelKeysNodup (addRel rel si n)) := by
  induction rel with
  | nil => simp [addRel, RelKeysNodup]
  | cons e r ih =>
    obtain ⟨k', v⟩ := e
    obtain ⟨i1, i2⟩ := ih
    simp only [addRel]
    split
    · rename_i h; subst h
      refine ⟨fun k => by simp, fun hn => by simpa [RelKeysNodup] using hn⟩
    · rename_i hne
      refine ⟨fun k => ?_, fun hn => ?_⟩
      · simp only [List.map_cons, List.mem_cons, i1]
        constructor
        · rintro (h | h | h)
          · exact Or.inr (Or.inl h)
          · exact Or.inl h
          · exact Or.inr (Or.inr h)
        · rintro (h | h | h)
          · exact Or.inr (Or.inl h)
          · exact Or.inl h
          · exact Or.inr (Or.inr h)
      · simp only [RelKeysNodup, List.map_cons, List.nodup_cons] at hn ⊢
        refine ⟨?_, i2 hn.2⟩
        intro hmem
        rcases (i1 k').mp hmem with h | h
        · exact hne h
        · exact hn.1 h

theorem popCum_spec (exitPt : BitVec 32) (q : List Chunk) (idx cum : BitVec 32) (a : CumAcc) {q' : List Chunk} {a' : CumAcc}
    (hq : ∀ c ∈ q, c.acked = true → c.len = 0) (hn : RelNonneg a.rel)
    (h : popCum exitPt q idx cum a = some (q', a')) :
    (∀ c ∈ q', c ∈ q) ∧ a'.infBytes + (sumLen q : Int) = a.infBytes + (sumLen q' : Int) ∧
    (∀ si, relOf a'.rel si + (bytesOf si q' : Int) = relOf a.rel si + (bytesOf si q : Int)) ∧
    RelNonneg a'.rel := by
  refine popCum_rule exitPt (fun x b => (∀ c ∈ x, c ∈ q) ∧ b.infBytes + (sumLen q : Int) = a.infBytes + (sumLen x : Int) ∧
    (∀ si, relOf b.rel si + (bytesOf si x : Int) = relOf a.rel si + (bytesOf si q : Int)) ∧ RelNonneg b.rel)
    ?_ q idx cum a ⟨fun _ h => h, rfl, fun _ => rfl, hn⟩ h
  rintro c r b ⟨i1, i2, i3, i4⟩
  refine ⟨fun x hx => i1 x (List.mem_cons_of_mem _ hx), ?_, fun si => ?_, ?_⟩
  · simp only [sumLen] at i2 ⊢; push_cast at i2 ⊢; omega
  · have := i3 si
    simp only [bytesOf] at this
    by_cases hack : c.acked = true
    · have hl := hq c (i1 c List.mem_cons_self) hack
      simp only [hack, Bool.not_true, Bool.false_eq_true, if_false]
      simp only [hl] at this; simp at this; omega
    · simp only [hack, Bool.not_false, if_true, relOf_addRel]
      push_cast at this
      split <;> rename_i hs <;> simp only [hs, if_true, if_false] at this <;> omega
  · split
    · exact relNonneg_addRel _ _ _ i4 (by omega)
    · exact i4

/-- what the gap loop maintains -/
structure GapOk (a0 a : GapAcc) : Prop where
  ackedEmpty : ∀ c ∈ a.q, c.acked = true → c.len = 0
  inf : a.infBytes + (sumLen a0.q : Int) = a0.infBytes + (sumLen a.q : Int)
  rel : ∀ si, relOf a.rel si + (bytesOf si a.q : Int) = relOf a0.rel si + (bytesOf si a0.q : Int)
  nonneg : RelNonneg a.rel

theorem GapOk.refl (a : GapAcc) (h1 : ∀ c ∈ a.q, c.acked = true → c.len = 0) (h2 : RelNonneg a.rel) : GapOk a a :=
  ⟨h1, rfl, fun _ => rfl, h2⟩

theorem map_tsn_set {l : List Chunk} {i : Nat} {c c' : Chunk} (h : l[i]? = some c) (ht : c'.tsn = c.tsn) :
    (l.set i c').map (·.tsn) = l.map (·.tsn) := list_set_map (·.tsn) l i c c' h ht

theorem markOne_spec (a0 a : GapAcc) (tsn : BitVec 32) {a' : GapAcc} (ha : GapOk a0 a) (h : markOne a tsn = some a') : GapOk a0 a' := by
  obtain ⟨off, c, hg, _, ⟨_, eq, ei, er⟩ | ⟨hack, eq, ei, er⟩⟩ := markOne_cases h
  · exact ⟨eq ▸ ha.ackedEmpty, by rw [ei, eq]; exact ha.inf, fun si => by rw [er, eq]; exact ha.rel si, er ▸ ha.nonneg⟩
  · obtain ⟨s1, s2⟩ := sumLen_set (c' := c.markAcked) (get_some hg)
    have e1 : c.markAcked.len = 0 := rfl
    have e2 : c.markAcked.si = c.si := rfl
    rw [e1] at s1
    simp only [e1, e2] at s2
    refine ⟨?_, ?_, ?_, er ▸ relNonneg_addRel _ _ _ ha.nonneg (by omega)⟩
    · intro x hx
      rw [eq] at hx
      rcases mem_set_cases hx with h1 | h1
      · subst h1; intro _; exact e1
      · exact ha.ackedEmpty x h1
    · have := ha.inf
      rw [ei, eq]
      omega
    · intro si
      have h1 := ha.rel si
      have h2 := s2 si
      rw [er, eq, relOf_addRel]
      by_cases hs : c.si = si
      · simp only [hs, if_true] at h2 ⊢; omega
      · simp only [hs, if_false] at h2 ⊢; omega

theorem markGaps_spec (cum : BitVec 32) (gaps : List (BitVec 16 × BitVec 16)) (a0 a : GapAcc) {a' : GapAcc} (ha : GapOk a0 a)
    (h : markGaps cum gaps a = some a') : GapOk a0 a' :=
  markGaps_inv (GapOk a0) (fun x _ _ hx h1 => markOne_spec a0 x _ hx h1) cum gaps a ha h

end SenderProofs
