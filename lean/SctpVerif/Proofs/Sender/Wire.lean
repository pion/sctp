import SctpVerif.Proofs.Sender.Acct
/-!
What the sender puts on the wire is what the application wrote.

`Chunk.frag` is everything of a DATA / I-DATA chunk that identifies the piece of user data it carries (stream, message
identity, PPI, U/B/E flags, SSN, MID, FSN); together with `len` it is what the receiver reassembles. The invariant
`WireInv W s` says: every queued chunk (pending or in flight) is a faithful copy of a chunk in `W` (the chunks created by
the accepted writes so far), an acknowledged chunk is never flagged for retransmission, and `Emitted` chunks of a gather
are un-acknowledged faithful copies. Nothing here depends on windows, TSN arithmetic or overflow flags.
-/
namespace SenderProofs
open Gen Sender

/-- the identity of the piece of user data a chunk carries (not its TSN, not its transmission bookkeeping) -/
def Chunk.frag (c : Chunk) : BitVec 16 × Nat × BitVec 32 × Bool × Bool × Bool × BitVec 16 × BitVec 32 × BitVec 32 :=
  (c.si, c.msg, c.ppi, c.unordered, c.bfrag, c.efrag, c.ssn, c.mid, c.fsn)

/-- `x` is what a transition made of the queued chunk `c`: same fragment; either same length / acked flag and
`retransmit` raised only on an un-acked chunk, or it has become acked (payload released, not to be retransmitted) -/
def Upd (c x : Chunk) : Prop :=
  Chunk.frag x = Chunk.frag c ∧
  ((x.len = c.len ∧ x.acked = c.acked ∧ (x.retransmit = true → c.retransmit = true ∨ c.acked = false)) ∨
   (x.acked = true ∧ x.retransmit = false))

theorem Upd.refl (c : Chunk) : Upd c c := ⟨rfl, Or.inl ⟨rfl, rfl, fun h => Or.inl h⟩⟩

theorem Upd.trans {a b c : Chunk} (h1 : Upd a b) (h2 : Upd b c) : Upd a c := by
  obtain ⟨f1, r1⟩ := h1
  obtain ⟨f2, r2⟩ := h2
  refine ⟨f2.trans f1, ?_⟩
  rcases r2 with ⟨l2, a2, t2⟩ | h
  · rcases r1 with ⟨l1, a1, t1⟩ | ⟨ha, ht⟩
    · refine Or.inl ⟨l2.trans l1, a2.trans a1, fun h => ?_⟩
      rcases t2 h with h' | h'
      · exact t1 h'
      · exact Or.inr (a1 ▸ h')
    · refine Or.inr ⟨a2.trans ha, ?_⟩
      cases hc : c.retransmit with
      | false => rfl
      | true =>
        rcases t2 hc with h' | h'
        · rw [ht] at h'; cases h'
        · rw [ha] at h'; cases h'
  · exact Or.inr h

/-- a queued chunk is a faithful copy of a written one, and is not flagged for retransmission once acked -/
def Good (W : List Chunk) (c : Chunk) : Prop :=
  (∃ w ∈ W, Chunk.frag c = Chunk.frag w ∧ (c.acked = false → c.len = w.len)) ∧ (c.acked = true → c.retransmit = false)

theorem Good.upd {W : List Chunk} {c x : Chunk} (hg : Good W c) (hu : Upd c x) : Good W x := by
  obtain ⟨⟨w, hw, hf, hl⟩, hr⟩ := hg
  obtain ⟨f, r⟩ := hu
  rcases r with ⟨l, a, t⟩ | ⟨ha, ht⟩
  · refine ⟨⟨w, hw, f.trans hf, fun h => l.trans (hl (a ▸ h))⟩, fun h => ?_⟩
    cases hx : x.retransmit with
    | false => rfl
    | true =>
      have hca : c.acked = true := a ▸ h
      rcases t hx with h' | h'
      · rw [hr hca] at h'; cases h'
      · rw [hca] at h'; cases h'
  · exact ⟨⟨w, hw, f.trans hf, fun h => by rw [ha] at h; cases h⟩, fun _ => ht⟩

theorem Good.mono {W W' : List Chunk} {c : Chunk} (h : Good W c) (hs : ∀ w ∈ W, w ∈ W') : Good W' c := by
  obtain ⟨⟨w, hw, r⟩, h2⟩ := h
  exact ⟨⟨w, hs w hw, r⟩, h2⟩

structure WireInv (W : List Chunk) (s : St) : Prop where
  pen : ∀ c ∈ s.pending, Good W c ∧ c.acked = false
  inf : ∀ c ∈ s.inflight, Good W c

/-- what a transition may do to the two queues: every in-flight chunk afterwards comes from a chunk queued before,
the pending queue only loses chunks -/
structure Step (s s' : St) : Prop where
  inf : ∀ x ∈ s'.inflight, ∃ c, (c ∈ s.inflight ∨ c ∈ s.pending) ∧ Upd c x
  pen : ∀ x ∈ s'.pending, x ∈ s.pending

theorem Step.refl (s : St) : Step s s := ⟨fun x hx => ⟨x, Or.inl hx, Upd.refl x⟩, fun _ h => h⟩

theorem Step.of_eq {s s' : St} (h1 : s'.inflight = s.inflight) (h2 : s'.pending = s.pending) : Step s s' :=
  ⟨fun x hx => ⟨x, Or.inl (h1 ▸ hx), Upd.refl x⟩, fun x hx => h2 ▸ hx⟩

theorem Step.trans {a b c : St} (h1 : Step a b) (h2 : Step b c) : Step a c := by
  refine ⟨fun x hx => ?_, fun x hx => h1.pen x (h2.pen x hx)⟩
  obtain ⟨y, hy, uy⟩ := h2.inf x hx
  rcases hy with hy | hy
  · obtain ⟨z, hz, uz⟩ := h1.inf y hy
    exact ⟨z, hz, uz.trans uy⟩
  · exact ⟨y, Or.inr (h1.pen y hy), uy⟩

theorem Step.wire {W : List Chunk} {s s' : St} (h : Step s s') (hw : WireInv W s) : WireInv W s' := by
  refine ⟨fun c hc => hw.pen c (h.pen c hc), fun x hx => ?_⟩
  obtain ⟨c, hc, hu⟩ := h.inf x hx
  rcases hc with hc | hc
  · exact (hw.inf c hc).upd hu
  · exact (hw.pen c hc).1.upd hu

/-- in-flight list mapped element-wise by an `Upd`-respecting function -/
theorem Step.of_map {s s' : St} (f : Chunk → Chunk) (hf : ∀ c, Upd c (f c)) (h1 : s'.inflight = s.inflight.map f)
    (h2 : s'.pending = s.pending) : Step s s' := by
  refine ⟨fun x hx => ?_, fun x hx => h2 ▸ hx⟩
  rw [h1, List.mem_map] at hx
  obtain ⟨c, hc, rfl⟩ := hx
  exact ⟨c, Or.inl hc, hf c⟩

/-- elements of the scanned list afterwards: unchanged, or `upd` of a chunk `dec` took -/
theorem scanLoop_mem {B : Type} (s : St) (dec : Int → LoopAcc B → Chunk → Take B) (upd : Chunk → Chunk)
    (P : Chunk → Prop) (hP : ∀ i a c b bip, dec i a c = .take b bip → P c) (i : Int) (q : List Chunk) (a : LoopAcc B) :
    (∀ x ∈ (scanLoop s dec upd i q a).1, x ∈ q ∨ ∃ c ∈ q, P c ∧ x = upd c) ∧
    (∀ e ∈ (scanLoop s dec upd i q a).2.out, e ∈ a.out ∨ ∃ c ∈ q, P c ∧ e = upd c) := by
  induction q generalizing i a with
  | nil => simp [scanLoop]
  | cons c rest ih =>
    simp only [scanLoop]
    cases hd : dec i a c with
    | skip =>
      simp only
      obtain ⟨h1, h2⟩ := ih (i+1) a
      refine ⟨fun x hx => ?_, fun e he => ?_⟩
      · rcases List.mem_cons.1 hx with h | h
        · exact Or.inl (h ▸ List.mem_cons_self)
        · rcases h1 x h with h | ⟨c', hc', r⟩
          · exact Or.inl (List.mem_cons_of_mem _ h)
          · exact Or.inr ⟨c', List.mem_cons_of_mem _ hc', r⟩
      · rcases h2 e he with h | ⟨c', hc', r⟩
        · exact Or.inl h
        · exact Or.inr ⟨c', List.mem_cons_of_mem _ hc', r⟩
    | stop b => exact ⟨fun x hx => Or.inl hx, fun e he => Or.inl he⟩
    | take b bip =>
      simp only
      have hc := hP i a c b bip hd
      refine ⟨fun x hx => ?_, fun e he => ?_⟩
      · rcases List.mem_cons.1 hx with h | h
        · exact Or.inr ⟨c, List.mem_cons_self, hc, h⟩
        · rcases (ih (i+1) _).1 x h with h | ⟨c', hc', r⟩
          · exact Or.inl (List.mem_cons_of_mem _ h)
          · exact Or.inr ⟨c', List.mem_cons_of_mem _ hc', r⟩
      · rcases (ih (i+1) _).2 e he with h | ⟨c', hc', r⟩
        · simp only [List.mem_append, List.mem_singleton] at h
          rcases h with h | h
          · exact Or.inl h
          · exact Or.inr ⟨c, List.mem_cons_self, hc, h⟩
        · exact Or.inr ⟨c', List.mem_cons_of_mem _ hc', r⟩

theorem rtxUpd_upd (s : St) (c : Chunk) : Upd c (rtxUpd s c) :=
  ⟨rfl, Or.inl ⟨rfl, rfl, fun h => by simp [rtxUpd] at h⟩⟩

theorem fastUpd_upd (s : St) (c : Chunk) : Upd c (fastUpd s c) :=
  ⟨rfl, Or.inl ⟨rfl, rfl, fun h => Or.inl h⟩⟩

/-- what a gather emitted: an un-acked faithful copy of a written chunk -/
def Emitted (W : List Chunk) (e : Chunk) : Prop :=
  e.acked = false ∧ ∃ w ∈ W, Chunk.frag e = Chunk.frag w ∧ e.len = w.len

theorem Good.emitted {W : List Chunk} {c : Chunk} (h : Good W c) (ha : c.acked = false) : Emitted W c := by
  obtain ⟨⟨w, hw, hf, hl⟩, _⟩ := h
  exact ⟨ha, w, hw, hf, hl ha⟩

theorem gatherRtx_wire {W : List Chunk} (s : St) (orc : Oracle) (hw : WireInv W s) :
    Step s (gatherRtx s orc).1 ∧ ∀ e ∈ (gatherRtx s orc).2.1, Emitted W e := by
  have hsplit := scanSplit_append s
  obtain ⟨h1, h2⟩ := scanLoop_mem s (rtxDecide s orc.allow (rtx_awnd s.cwnd s.rwnd)) (rtxUpd s) (fun c => c.retransmit = true)
    (fun i a c b bip h => (rtxDecide_take s orc.allow _ i a c b bip h).1) 0 (scanSplit s).2 { b := orc.b, aband := s.abandonedMsgs }
  have hsuf : ∀ c ∈ (scanSplit s).2, c ∈ s.inflight := fun c hc => by rw [← hsplit]; exact List.mem_append_right _ hc
  refine ⟨⟨fun x hx => ?_, fun x hx => hx⟩, fun e he => ?_⟩
  · simp only [gatherRtx, List.mem_append] at hx
    rcases hx with hx | hx
    · exact ⟨x, Or.inl (by rw [← hsplit]; exact List.mem_append_left _ hx), Upd.refl x⟩
    · rcases h1 x hx with h | ⟨c, hc, _, rfl⟩
      · exact ⟨x, Or.inl (hsuf x h), Upd.refl x⟩
      · exact ⟨c, Or.inl (hsuf c hc), rtxUpd_upd s c⟩
  · simp only [gatherRtx] at he
    rcases h2 e he with h | ⟨c, hc, hr, rfl⟩
    · cases h
    · have hg := hw.inf c (hsuf c hc)
      have hna : c.acked = false := by
        cases ha : c.acked with
        | false => rfl
        | true => rw [hg.2 ha] at hr; cases hr
      exact (hg.upd (rtxUpd_upd s c)).emitted hna

theorem gatherFast_wire {B : Type} {W : List Chunk} (s : St) (allow : B → Int → Bool × B) (b : B) (hw : WireInv W s) :
    Step s (gatherFast s allow b).1 ∧ ∀ e ∈ (gatherFast s allow b).2, Emitted W e := by
  unfold gatherFast
  cases hf : s.willRetransmitFast with
  | false => simp only [Bool.not_false, if_true]; exact ⟨Step.refl s, fun e he => by cases he⟩
  | true =>
    simp only [Bool.not_true, Bool.false_eq_true, if_false]
    let s0 : St := { s with willRetransmitFast := false }
    have hsplit : (scanSplit s0).1 ++ (scanSplit s0).2 = s.inflight := scanSplit_append s0
    obtain ⟨h1, h2⟩ := scanLoop_mem s0 (fastDecide s0 allow (fastRtx_wnd s.cfg.mtu s.cfg.fastRtxWnd)) (fastUpd s0) (fun c => c.acked = false)
      (fun i a c b bip h => (fastDecide_take s0 allow _ i a c b bip h).1) 0 (scanSplit s0).2 { b := b, size := hdr, aband := s.abandonedMsgs }
    have hsuf : ∀ c ∈ (scanSplit s0).2, c ∈ s.inflight := fun c hc => by rw [← hsplit]; exact List.mem_append_right _ hc
    refine ⟨⟨fun x hx => ?_, fun x hx => hx⟩, fun e he => ?_⟩
    · simp only [List.mem_append] at hx
      rcases hx with hx | hx
      · exact ⟨x, Or.inl (by rw [← hsplit]; exact List.mem_append_left _ hx), Upd.refl x⟩
      · rcases h1 x hx with h | ⟨c, hc, _, rfl⟩
        · exact ⟨x, Or.inl (hsuf x h), Upd.refl x⟩
        · exact ⟨c, Or.inl (hsuf c hc), fastUpd_upd s0 c⟩
    · rcases h2 e he with h | ⟨c, hc, hr, rfl⟩
      · cases h
      · exact ((hw.inf c (hsuf c hc)).upd (fastUpd_upd s0 c)).emitted hr

theorem popPend_step (s : St) (i : Nat) (c : Chunk) : Step s (popPend s i c) :=
  ⟨fun x hx => ⟨x, Or.inl hx, Upd.refl x⟩, fun x hx => mem_eraseIdx hx⟩

/-- `move` keeps the fragment: the chunk only receives its TSN and its transmission bookkeeping -/
theorem move_upd (s : St) (i : Nat) (c : Chunk) : Upd c (move s i c).2 ∧ (move s i c).2.acked = c.acked ∧ (move s i c).2.len = c.len :=
  ⟨⟨rfl, Or.inl ⟨rfl, rfl, fun h => Or.inl h⟩⟩, rfl, rfl⟩

theorem move_step (s : St) (i : Nat) (c : Chunk) (hp : s.pending[i]? = some c) : Step s (move s i c).1 := by
  refine ⟨fun x hx => ?_, fun x hx => ?_⟩
  · simp only [move, popPend, List.mem_append, List.mem_singleton] at hx
    rcases hx with h | h
    · exact ⟨x, Or.inl h, Upd.refl x⟩
    · exact ⟨c, Or.inr (List.mem_of_getElem? hp), h ▸ (move_upd s i c).1⟩
  · simp only [move, popPend] at hx
    exact mem_eraseIdx hx

/-- an admitted chunk record: its chunk is an un-acked copy of a chunk that was pending -/
def FromPending (s : St) (x : Chunk) : Prop := ∃ c ∈ s.pending, Upd c x ∧ x.acked = c.acked ∧ x.len = c.len

theorem gatherNew_wire {B : Type} (allow : B → Int → Bool × B) (b : B) (s : St) (sel : List Nat) :
    Step s (gatherNew s allow b sel).1 ∧ ∀ ad ∈ (gatherNew s allow b sel).2.admits, FromPending s ad.chunk := by
  let Q (x : St) (a : PopAcc B) : Prop := Step s x ∧ ∀ ad ∈ a.admits, FromPending s ad.chunk
  -- `y` is `x` after `chargeSend` / `chargeProbe`: same queues
  have key : ∀ (x y : St) (i : Nat) (c : Chunk) (a : PopAcc B) (ad : Admit), y.pending = x.pending → y.inflight = x.inflight →
      ad.chunk = (move y i c).2 → x.pending[i]? = some c → Q x a →
      Step s (move y i c).1 ∧ ∀ ad' ∈ a.admits ++ [ad], FromPending s ad'.chunk := by
    intro x y i c a ad hp hi had hpc ⟨h1, h2⟩
    have hst := move_step y i c (hp ▸ hpc)
    refine ⟨h1.trans ⟨fun z hz => hi ▸ hp ▸ hst.inf z hz, fun z hz => hp ▸ hst.pen z hz⟩, fun ad' had' => ?_⟩
    rcases List.mem_append.mp had' with h | h
    · exact h2 ad' h
    · rw [List.mem_singleton.mp h, had]
      exact ⟨c, h1.pen c (List.mem_of_getElem? hpc), move_upd y i c⟩
  show Q (gatherNew s allow b sel).1 (gatherNew s allow b sel).2
  unfold gatherNew
  split
  · refine probe_rule allow Q (fun _ _ _ h => h) (fun x i c a _ h hpc _ _ _ => key x (chargeProbe x c) i c a _ rfl rfl rfl hpc h) _ _ _ ?_
    exact popLoop_rule allow Q (fun x i c _ h _ _ => ⟨h.1.trans (popPend_step x i c), h.2⟩) (fun _ _ _ h => h)
      (fun x i c a _ _ h hpc _ _ => key x (chargeSend x c) i c a _ rfl rfl rfl hpc h) _ _ _ _
      ⟨Step.refl s, fun ad h => absurd h List.not_mem_nil⟩
  · exact ⟨Step.refl s, fun ad h => absurd h List.not_mem_nil⟩

theorem bundle_flatten (mtu : BitVec 32) (il : Bool) (chunks cur : List Chunk) (bip : Int) :
    ∀ e ∈ (bundle mtu il chunks cur bip).flatten, e ∈ cur ∨ e ∈ chunks := by
  induction chunks generalizing cur bip with
  | nil =>
    intro e he
    simp only [bundle] at he
    split at he
    · cases he
    · simp at he; exact Or.inl he
  | cons c rest ih =>
    intro e he
    simp only [bundle] at he
    split at he
    · simp only [List.flatten_cons, List.mem_append] at he
      rcases he with h | h
      · exact Or.inl h
      · rcases ih [c] _ e h with h | h
        · simp at h; exact Or.inr (h ▸ List.mem_cons_self)
        · exact Or.inr (List.mem_cons_of_mem _ h)
    · rcases ih (cur ++ [c]) _ e he with h | h
      · simp only [List.mem_append, List.mem_singleton] at h
        rcases h with h | h
        · exact Or.inl h
        · exact Or.inr (h ▸ List.mem_cons_self)
      · exact Or.inr (List.mem_cons_of_mem _ h)

theorem gather_wire {W : List Chunk} (s : St) (orc : Oracle) (sel : List Nat) (hw : WireInv W s) :
    Step s (gather s orc sel).1 ∧ ∀ e ∈ (gather s orc sel).2.packets.flatten, Emitted W e := by
  unfold gather
  split
  · exact ⟨Step.refl s, fun e he => by simp [GatherOut.packets] at he⟩
  · obtain ⟨s1, e1⟩ := gatherRtx_wire s orc hw
    have hw1 := s1.wire hw
    obtain ⟨s2, e2⟩ := gatherNew_wire orc.allow (gatherRtx s orc).2.2 (gatherRtx s orc).1 sel
    have hw2 := s2.wire hw1
    obtain ⟨s3, e3⟩ := gatherFast_wire (gatherNew (gatherRtx s orc).1 orc.allow (gatherRtx s orc).2.2 sel).1 orc.allow
      (gatherNew (gatherRtx s orc).1 orc.allow (gatherRtx s orc).2.2 sel).2.b hw2
    refine ⟨?_, fun e he => ?_⟩
    · have h123 := (s1.trans s2).trans s3
      exact ⟨h123.inf, h123.pen⟩
    · simp only [GatherOut.packets, List.flatten_append, List.mem_append] at he
      rcases he with (he | he) | he
      · rcases bundle_flatten _ _ _ _ _ e he with h | h
        · cases h
        · exact e1 e h
      · split at he
        · cases he
        · rcases bundle_flatten _ _ _ _ _ e he with h | h
          · cases h
          · rw [List.mem_map] at h
            obtain ⟨ad, had, rfl⟩ := h
            obtain ⟨c, hc, hu, ha, hl⟩ := e2 ad had
            obtain ⟨hg, hna⟩ := hw1.pen c hc
            exact (hg.upd hu).emitted (ha.trans hna)
      · split at he
        · cases he
        · rcases bundle_flatten _ _ _ _ _ e he with h | h
          · cases h
          · exact e3 e h

theorem markAcked_upd (c : Chunk) : Upd c c.markAcked := ⟨rfl, Or.inr ⟨rfl, rfl⟩⟩

/-- list-level version of `Step.inf` for the gap-ack loops -/
def QUpd (q q' : List Chunk) : Prop := ∀ x ∈ q', ∃ c ∈ q, Upd c x

theorem QUpd.refl (q : List Chunk) : QUpd q q := fun x hx => ⟨x, hx, Upd.refl x⟩
theorem QUpd.trans {a b c : List Chunk} (h1 : QUpd a b) (h2 : QUpd b c) : QUpd a c := by
  intro x hx
  obtain ⟨y, hy, uy⟩ := h2 x hx
  obtain ⟨z, hz, uz⟩ := h1 y hy
  exact ⟨z, hz, uz.trans uy⟩

theorem markOne_q (a : GapAcc) (tsn : BitVec 32) {a' : GapAcc} (h : markOne a tsn = some a') : QUpd a.q a'.q := by
  obtain ⟨off, c, hg, _, ⟨_, eq, _⟩ | ⟨_, eq, _⟩⟩ := markOne_cases h <;> rw [eq]
  · exact QUpd.refl _
  · intro x hx
    rcases mem_set_cases hx with h | h
    · exact ⟨c, List.mem_of_getElem? (get_some hg), h ▸ markAcked_upd c⟩
    · exact ⟨x, h, Upd.refl x⟩

theorem markGaps_q (cum : BitVec 32) (gaps : List (BitVec 16 × BitVec 16)) (a : GapAcc) {a' : GapAcc}
    (h : markGaps cum gaps a = some a') : QUpd a.q a'.q :=
  markGaps_inv (fun x => QUpd a.q x.q) (fun x _ _ hx h1 => hx.trans (markOne_q x _ h1)) cum gaps a (QUpd.refl _) h

theorem ackPhase_step {s : St} {cum : BitVec 32} {gaps : List (BitVec 16 × BitVec 16)} {r : St × BitVec 32 × Bool}
    (h : ackPhase s cum gaps = some r) : Step s r.1 := by
  obtain ⟨q, a, g, hp, hg, rfl⟩ := ackPhase_eq h
  obtain ⟨f1, _, f3, _⟩ := ackApply_frame s cum g a.inFR
  refine ⟨fun x hx => ?_, fun x hx => f3 ▸ hx⟩
  obtain ⟨c, hc, hu⟩ := markGaps_q cum gaps _ hg x (f1 ▸ hx)
  exact ⟨c, Or.inl (popCum_sub _ _ _ _ _ hp c hc), hu⟩

theorem fastRetransCheck_step (s : St) (cum : BitVec 32) (gaps : List (BitVec 16 × BitVec 16)) (htna : BitVec 32) (adv : Bool) :
    Step s (fastRetransCheck s cum gaps htna adv).1 := by
  refine fastRetransCheck_rule (P := Step s) htna (fun x off c h hq _ => h.trans ⟨fun y hy => ?_, fun _ hy => hy⟩)
    (fun _ h _ => ⟨h.inf, h.pen⟩) (fun _ h => ⟨h.inf, h.pen⟩) s cum gaps adv (Step.refl s)
  rcases mem_set_cases hy with h | h
  · exact ⟨c, Or.inl (List.mem_of_getElem? hq), h ▸ ⟨rfl, Or.inl ⟨rfl, rfl, fun h => Or.inl h⟩⟩⟩
  · exact ⟨y, Or.inl h, Upd.refl y⟩

theorem prStep_queues (s : St) : (prStep s).inflight = s.inflight ∧ (prStep s).pending = s.pending := by
  obtain ⟨a, w, h⟩ := prStep_only s
  rw [h]; exact ⟨rfl, rfl⟩

theorem applyMarks_step (s : St) (marks : List (BitVec 32)) : Step s (applyMarks s marks) := by
  refine Step.of_map (fun c => if marks.contains c.tsn && !c.acked && !s.abandoned c then { c with retransmit := true } else c) ?_ rfl rfl
  intro c
  split
  · rename_i h
    have hna : c.acked = false := by
      cases ha : c.acked with
      | false => rfl
      | true => simp [ha] at h
    exact ⟨rfl, Or.inl ⟨rfl, rfl, fun _ => Or.inr hna⟩⟩
  · exact Upd.refl c

theorem sack_step (s : St) (cum arwnd : BitVec 32) (gaps : List (BitVec 16 × BitVec 16)) (marks : List (BitVec 32)) :
    Step s (sack s cum arwnd gaps marks).1 :=
  sack_rule (P := Step s) s cum arwnd gaps marks (Step.refl s) (fun _ _ _ ha => ackPhase_step ha)
    (fun _ h => h.trans (Step.of_eq rfl rfl)) (fun x htna adv h => h.trans (fastRetransCheck_step x cum gaps htna adv))
    (fun x h => h.trans (Step.of_eq (prStep_queues x).1 (prStep_queues x).2)) (fun x h => h.trans (applyMarks_step x marks))

theorem markAll_step (s x : St) (h1 : x.inflight = s.inflight) (h2 : x.pending = s.pending) :
    Step s { x with inflight := markAllToRetransmit x } := by
  refine Step.of_map (fun c => if c.acked || x.abandoned c then c else { c with retransmit := true }) ?_ ?_ h2
  · intro c
    split
    · exact Upd.refl c
    · rename_i h
      have hna : c.acked = false := by
        cases ha : c.acked with
        | false => rfl
        | true => simp [ha] at h
      exact ⟨rfl, Or.inl ⟨rfl, rfl, fun _ => Or.inr hna⟩⟩
  · simp only [markAllToRetransmit, h1]

theorem t3_step (s : St) : Step s (t3 s) := by
  obtain ⟨x, a, w, fr, wf, ep, pba, h, rfl⟩ := t3_shape s
  rw [h]
  exact markAll_step s _ rfl rfl

theorem write_queues (s : St) (si : BitVec 16) (ppi : BitVec 32) (len : Nat) :
    (write s si ppi len).1.inflight = s.inflight ∧ (write s si ppi len).1.pending = s.pending ++ writeChunks s si ppi len := by
  rcases write_eq s si ppi len with ⟨he, hc⟩ | ⟨st, _, _, _, _, ⟨_, hc, he⟩ | ⟨_, hc, he⟩⟩ <;> rw [he, hc]
  · exact ⟨rfl, (List.append_nil _).symm⟩
  · exact ⟨rfl, rfl⟩
  · exact ⟨rfl, (List.append_nil _).symm⟩

theorem mkChunks_fresh (si : BitVec 16) (msg : Nat) (ppi : BitVec 32) (u : Bool) (ssn : BitVec 16) (mid : BitVec 32)
    (fs : List Nat) (fsn : BitVec 32) (first : Bool) :
    ∀ c ∈ mkChunks si msg ppi u ssn mid fs fsn first, c.acked = false ∧ c.retransmit = false := by
  intro c hc
  obtain ⟨i, hi, rfl⟩ := mkChunks_mem hc
  exact ⟨rfl, rfl⟩

theorem writeChunks_fresh (s : St) (si : BitVec 16) (ppi : BitVec 32) (len : Nat) :
    ∀ c ∈ writeChunks s si ppi len, c.acked = false ∧ c.retransmit = false := by
  rcases write_eq s si ppi len with ⟨_, hc⟩ | ⟨st, _, _, _, _, ⟨_, hc, _⟩ | ⟨_, hc, _⟩⟩ <;> rw [hc]
  · exact fun c h => absurd h List.not_mem_nil
  · simp only [packetize]; exact mkChunks_fresh _ _ _ _ _ _ _ _ _
  · exact fun c h => absurd h List.not_mem_nil

theorem WireInv.mono {W W' : List Chunk} {s : St} (h : WireInv W s) (hs : ∀ w ∈ W, w ∈ W') : WireInv W' s :=
  ⟨fun c hc => ⟨(h.pen c hc).1.mono hs, (h.pen c hc).2⟩, fun c hc => (h.inf c hc).mono hs⟩

theorem write_wire {W : List Chunk} (s : St) (si : BitVec 16) (ppi : BitVec 32) (len : Nat) (hw : WireInv W s) :
    WireInv (W ++ writeChunks s si ppi len) (write s si ppi len).1 := by
  obtain ⟨h1, h2⟩ := write_queues s si ppi len
  have hm := hw.mono (W' := W ++ writeChunks s si ppi len) (fun w h => List.mem_append_left _ h)
  refine ⟨fun c hc => ?_, fun c hc => hm.inf c (h1 ▸ hc)⟩
  rw [h2, List.mem_append] at hc
  rcases hc with h | h
  · exact hm.pen c h
  · obtain ⟨ha, hr⟩ := writeChunks_fresh s si ppi len c h
    exact ⟨⟨⟨c, List.mem_append_right _ h, rfl, fun _ => rfl⟩, fun _ => hr⟩, ha⟩

def writtenBy (s : St) : Op → List Chunk
  | .write si ppi len => writeChunks s si ppi len
  | _ => []

def emittedBy (s : St) : Op → List Chunk
  | .gather orc sel => (gather s orc sel).2.packets.flatten
  | _ => []

/-- every chunk created by an accepted write of the run, in order -/
def written : St → List Op → List Chunk
  | _, [] => []
  | s, op :: ops => writtenBy s op ++ written (step s op) ops

/-- every DATA chunk put on the wire by the gathers of the run (first transmissions, T3 / RACK / PTO retransmissions,
fast retransmissions), in order -/
def wire : St → List Op → List Chunk
  | _, [] => []
  | s, op :: ops => emittedBy s op ++ wire (step s op) ops

theorem iter_t3_step (n : Nat) (s : St) : Step s (iter t3 n s) := by
  induction n generalizing s with
  | zero => exact Step.refl s
  | succ n ih => exact (t3_step s).trans (ih (t3 s))

theorem step_wire {W : List Chunk} (s : St) (op : Op) (hw : WireInv W s) :
    WireInv (W ++ writtenBy s op) (step s op) ∧ ∀ e ∈ emittedBy s op, Emitted W e := by
  cases op with
  | openS si u rt rv th =>
    refine ⟨?_, fun e he => by cases he⟩
    simp only [writtenBy, List.append_nil, step]
    exact (Step.of_eq (s := s) (s' := openStream s si u rt rv th) (by unfold openStream setStream; rfl) (by unfold openStream setStream; rfl)).wire hw
  | unreg si =>
    refine ⟨?_, fun e he => by cases he⟩
    simp only [writtenBy, List.append_nil, step]
    refine (Step.of_eq (s := s) (s' := unregister s si) ?_ ?_).wire hw
    · unfold unregister; split <;> rfl
    · unfold unregister; split <;> rfl
  | setEstablished b =>
    refine ⟨?_, fun e he => by cases he⟩
    simp only [writtenBy, List.append_nil, step]
    exact (Step.of_eq (s := s) (s' := { s with established := b }) rfl rfl).wire hw
  | write si ppi len =>
    exact ⟨write_wire s si ppi len hw, fun e he => by cases he⟩
  | gather orc sel =>
    obtain ⟨h1, h2⟩ := gather_wire s orc sel hw
    simp only [writtenBy, List.append_nil, step]
    exact ⟨h1.wire hw, h2⟩
  | sack cum arwnd gaps marks =>
    refine ⟨?_, fun e he => by cases he⟩
    simp only [writtenBy, List.append_nil, step]
    exact (sack_step s cum arwnd gaps marks).wire hw
  | t3 =>
    refine ⟨?_, fun e he => by cases he⟩
    simp only [writtenBy, List.append_nil, step]
    exact (t3_step s).wire hw
  | tick ms n marks =>
    refine ⟨?_, fun e he => by cases he⟩
    simp only [writtenBy, List.append_nil, step]
    have h0 : Step s { s with now := s.now + ms } := Step.of_eq rfl rfl
    exact ((h0.trans (iter_t3_step n _)).trans (applyMarks_step _ marks)).wire hw

theorem Emitted.mono {W W' : List Chunk} {e : Chunk} (h : Emitted W e) (hs : ∀ w ∈ W, w ∈ W') : Emitted W' e := by
  obtain ⟨ha, w, hw, r⟩ := h
  exact ⟨ha, w, hs w hw, r⟩

theorem run_wire {W : List Chunk} (s : St) (ops : List Op) (hw : WireInv W s) :
    ∀ e ∈ wire s ops, Emitted (W ++ written s ops) e := by
  induction ops generalizing W s with
  | nil => intro e he; cases he
  | cons op ops ih =>
    intro e he
    obtain ⟨h1, h2⟩ := step_wire s op hw
    simp only [wire, List.mem_append] at he
    simp only [written]
    rcases he with h | h
    · exact (h2 e h).mono (fun w hw => List.mem_append_left _ hw)
    · have := ih (step s op) h1 e h
      rw [List.append_assoc] at this
      exact this

theorem init_wire (cfg : Cfg) (tsn peerRwnd : BitVec 32) : WireInv [] (init cfg tsn peerRwnd) :=
  ⟨fun c hc => by simp [init] at hc, fun c hc => by simp [init] at hc⟩

theorem mkChunks_get (si : BitVec 16) (msg : Nat) (ppi : BitVec 32) (u : Bool) (ssn : BitVec 16) (mid : BitVec 32)
    (fs : List Nat) (fsn : BitVec 32) (first : Bool) (i : Nat) (c : Chunk)
    (h : (mkChunks si msg ppi u ssn mid fs fsn first)[i]? = some c) :
    c.si = si ∧ c.msg = msg ∧ c.ppi = ppi ∧ c.unordered = u ∧ c.ssn = ssn ∧ c.mid = mid ∧
    c.fsn = fsn + BitVec.ofNat 32 i ∧ c.bfrag = (first && i == 0) ∧ c.efrag = (i + 1 == fs.length) ∧ fs[i]? = some c.len := by
  have hl : i < fs.length := mkChunks_length si msg ppi u ssn mid fs fsn first ▸ (List.getElem?_eq_some_iff.mp h).1
  rw [mkChunks_getElem _ _ _ _ _ _ _ _ _ i hl] at h
  cases h
  exact ⟨rfl, rfl, rfl, rfl, rfl, rfl, rfl, rfl, rfl, List.getElem?_eq_getElem hl⟩

end SenderProofs
