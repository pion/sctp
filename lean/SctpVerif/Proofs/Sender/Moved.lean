import SctpVerif.Proofs.Sender.Still
/-!
TSN assignment. `moved s ops` = the chunks `movePendingDataChunkToInflightQueue` moved from the pending queue to in
flight along a run, in order. Along EVERY run (any SACK contents, any oracle values, any configuration):

* the `j`-th moved chunk got TSN `t0 + j` (`t0` = `myNextTSN` at the start), and `myNextTSN` counts the moves;
* every chunk in flight and every chunk ANY gather ever put on the wire (first transmission, T3 / RACK / PTO
  retransmission, fast retransmission) has the TSN and the fragment identity of a moved chunk: a retransmission
  never changes the TSN of a fragment, never puts a fragment under another TSN;
* the chunks written so far are, as a multiset of fragment identities, the pending chunks, the moved chunks and
  the (empty) chunks dropped from the pending queue: every written chunk is moved AT MOST ONCE — it gets at most
  one TSN.
-/
namespace SenderTsn
open SenderProofs
open Gen Sender

abbrev Frag := BitVec 16 × Nat × BitVec 32 × Bool × Bool × Bool × BitVec 16 × BitVec 32 × BitVec 32

/-- same multiset of fragment identities (stated by counting, for every predicate) -/
def CntEq (l l' : List Chunk) : Prop := ∀ q : Frag → Bool, (l.map Chunk.frag).countP q = (l'.map Chunk.frag).countP q

theorem CntEq.refl (l : List Chunk) : CntEq l l := fun _ => rfl

theorem countP_eraseIdx_frag {l : List Chunk} {i : Nat} {c : Chunk} (h : l[i]? = some c) (q : Frag → Bool) :
    (l.map Chunk.frag).countP q = ((l.eraseIdx i).map Chunk.frag).countP q + (if q (Chunk.frag c) then 1 else 0) := by
  induction l generalizing i with
  | nil => simp at h
  | cons x r ih =>
    cases i with
    | zero =>
      simp only [List.getElem?_cons_zero, Option.some.injEq] at h
      subst h
      simp only [List.map_cons, List.countP_cons, List.eraseIdx_zero, List.tail_cons]
    | succ n =>
      simp only [List.getElem?_cons_succ] at h
      simp only [List.map_cons, List.countP_cons, List.eraseIdx_cons_succ, ih h]
      omega

/-- `s'` results from `s` by moving the chunks `A`, in this order, from the pending queue to in flight
(and dropping some chunks from the pending queue) -/
structure Moves (s s' : St) (A : List Chunk) : Prop where
  cfg : s'.cfg = s.cfg
  msg : s'.nextMsg = s.nextMsg
  est : s'.established = s.established
  str : s'.streams = s.streams
  inf : s'.inflight = s.inflight ++ A
  next : s'.myNextTSN = s.myNextTSN + BitVec.ofNat 32 A.length
  tsn : ∀ j m, A[j]? = some m → m.tsn = s.myNextTSN + BitVec.ofNat 32 j
  cnt : ∃ D, CntEq s.pending (s'.pending ++ A ++ D)

theorem Moves.refl (s : St) : Moves s s [] :=
  ⟨rfl, rfl, rfl, rfl, by simp, by simp, fun j m h => by simp at h, ⟨[], by simpa using CntEq.refl _⟩⟩

theorem Moves.trans {a b c : St} {A B : List Chunk} (h1 : Moves a b A) (h2 : Moves b c B) : Moves a c (A ++ B) := by
  refine ⟨h2.cfg.trans h1.cfg, h2.msg.trans h1.msg, h2.est.trans h1.est, h2.str.trans h1.str, ?_, ?_, ?_, ?_⟩
  · rw [h2.inf, h1.inf, List.append_assoc]
  · rw [h2.next, h1.next, List.length_append, BitVec.ofNat_add, BitVec.add_assoc]
  · intro j m hj
    by_cases hlt : j < A.length
    · rw [List.getElem?_append_left hlt] at hj
      exact h1.tsn j m hj
    · rw [List.getElem?_append_right (by omega)] at hj
      rw [h2.tsn _ m hj, h1.next, BitVec.add_assoc, ← BitVec.ofNat_add]
      congr 2
      omega
  · obtain ⟨D1, c1⟩ := h1.cnt
    obtain ⟨D2, c2⟩ := h2.cnt
    refine ⟨D1 ++ D2, fun q => ?_⟩
    have e1 := c1 q
    have e2 := c2 q
    simp only [List.map_append, List.countP_append] at e1 e2 ⊢
    omega

/-- the left state may be replaced by one that agrees on what `Moves` reads -/
theorem Moves.congr_left {s0 s s' : St} {A : List Chunk} (h : Moves s s' A) (h1 : s.cfg = s0.cfg) (h2 : s.nextMsg = s0.nextMsg)
    (h3 : s.streams = s0.streams) (h4 : s.inflight = s0.inflight) (h5 : s.myNextTSN = s0.myNextTSN) (h6 : s.pending = s0.pending)
    (h7 : s.established = s0.established) :
    Moves s0 s' A :=
  ⟨h.cfg.trans h1, h.msg.trans h2, h.est.trans h7, h.str.trans h3, by rw [h.inf, h4], by rw [h.next, h5], fun j m hj => by rw [h.tsn j m hj, h5],
   by obtain ⟨D, c⟩ := h.cnt; exact ⟨D, by rw [← h6]; exact c⟩⟩

theorem popPend_moves (s : St) (i : Nat) (c : Chunk) (hp : s.pending[i]? = some c) : Moves s (popPend s i c) [] := by
  refine ⟨rfl, rfl, rfl, rfl, by simp [popPend], by simp [popPend], fun j m h => by simp at h, ⟨[c], fun q => ?_⟩⟩
  have := countP_eraseIdx_frag hp q
  simp only [popPend, List.append_nil, List.map_append, List.countP_append, List.map_cons, List.map_nil, List.countP_cons,
    List.countP_nil] at this ⊢
  omega

theorem move_moves (s : St) (i : Nat) (c : Chunk) (hp : s.pending[i]? = some c) : Moves s (move s i c).1 [(move s i c).2] := by
  refine ⟨rfl, rfl, rfl, rfl, (move_frame s i c).2.2.2.2.2.2.2.1, ?_, ?_, ⟨[], fun q => ?_⟩⟩
  · simp [move, popPend]
  · intro j m hj
    cases j with
    | zero =>
      simp only [List.getElem?_cons_zero, Option.some.injEq] at hj
      subst hj
      simp [move, popPend]
    | succ n => simp at hj
  · have := countP_eraseIdx_frag hp q
    have hf : Chunk.frag (move s i c).2 = Chunk.frag c := rfl
    simp only [List.append_nil, List.map_append, List.countP_append, List.map_cons, List.map_nil, List.countP_cons,
      List.countP_nil, hf] at this ⊢
    have hpen : (move s i c).1.pending = s.pending.eraseIdx i := rfl
    rw [hpen]
    omega

theorem gatherNew_moves {B : Type} (allow : B → Int → Bool × B) (b : B) (s : St) (sel : List Nat) :
    Moves s (gatherNew s allow b sel).1 ((gatherNew s allow b sel).2.admits.map (·.chunk)) := by
  -- the chunks admitted so far are the chunks moved so far
  let P : St → PopAcc B → Prop := fun x a => Moves s x (a.admits.map (·.chunk))
  unfold gatherNew
  by_cases hpen : s.penChunks > 0
  · rw [if_pos hpen]
    refine probe_rule allow P (fun _ _ _ h => h) ?_ _ _ _ (popLoop_rule allow P ?_ (fun _ _ _ h => h) ?_ _ _ _ _ (Moves.refl s))
    · intro x i c a _ h hp _ _ _
      show Moves s _ ((a.admits ++ [mkAdmit x (admitProbe x i c).2 true]).map (·.chunk))
      rw [List.map_append]
      exact h.trans ((move_moves (chargeProbe x c) i c hp).congr_left rfl rfl rfl rfl rfl rfl rfl)
    · intro x i c a h hp _
      simpa using h.trans (popPend_moves x i c hp)
    · intro x i c a _ _ h hp _ _
      show Moves s _ ((a.admits ++ [mkAdmit x (admitChunk x i c).2 false]).map (·.chunk))
      rw [List.map_append]
      exact h.trans ((move_moves (chargeSend x c) i c hp).congr_left rfl rfl rfl rfl rfl rfl rfl)
  · rw [if_neg hpen]; exact Moves.refl s

/-! ## `bundle` only groups (converse of `bundle_flatten`) -/

theorem bundle_all (mtu : BitVec 32) (il : Bool) (chunks cur : List Chunk) (bip : Int) :
    ∀ e, e ∈ cur ∨ e ∈ chunks → e ∈ (bundle mtu il chunks cur bip).flatten := by
  induction chunks generalizing cur bip with
  | nil =>
    intro e he
    rcases he with h | h
    · simp only [bundle]
      split
      · rename_i hc; simp at hc; subst hc; cases h
      · simpa using h
    · cases h
  | cons c rest ih =>
    intro e he
    simp only [bundle]
    split
    · simp only [List.flatten_cons, List.mem_append]
      rcases he with h | h
      · exact Or.inl h
      · rcases List.mem_cons.1 h with h | h
        · exact Or.inr (ih [c] _ e (Or.inl (by simp [h])))
        · exact Or.inr (ih [c] _ e (Or.inr h))
    · rcases he with h | h
      · exact ih _ _ e (Or.inl (List.mem_append_left _ h))
      · rcases List.mem_cons.1 h with h | h
        · exact ih _ _ e (Or.inl (by simp [h]))
        · exact ih _ _ e (Or.inr h)

/-! ## runs -/

def movedBy (s : St) : Op → List Chunk
  | .gather orc sel => (gather s orc sel).2.admits.map (·.chunk)
  | _ => []

/-- every chunk moved from pending to in flight along the run, in order (= in TSN order) -/
def moved : St → List Op → List Chunk
  | _, [] => []
  | s, op :: ops => movedBy s op ++ moved (step s op) ops

/-- `e` carries the TSN and the fragment identity of a moved chunk -/
def FromMoved (mv : List Chunk) (e : Chunk) : Prop := ∃ m ∈ mv, m.tsn = e.tsn ∧ Chunk.frag m = Chunk.frag e

theorem FromMoved.mono {mv mv' : List Chunk} {e : Chunk} (h : FromMoved mv e) (hs : ∀ m ∈ mv, m ∈ mv') : FromMoved mv' e := by
  obtain ⟨m, hm, r⟩ := h
  exact ⟨m, hs m hm, r⟩

structure MInv (t0 : BitVec 32) (W mv : List Chunk) (s : St) : Prop where
  next : s.myNextTSN = t0 + BitVec.ofNat 32 mv.length
  tsn : ∀ j m, mv[j]? = some m → m.tsn = t0 + BitVec.ofNat 32 j
  inf : ∀ x ∈ s.inflight, FromMoved mv x
  cnt : ∃ D, CntEq W (s.pending ++ mv ++ D)

theorem MInv.still {t0 : BitVec 32} {W mv : List Chunk} {s s' : St} (h : MInv t0 W mv s) (hq : Still s s') : MInv t0 W mv s' := by
  refine ⟨by rw [hq.q.next]; exact h.next, h.tsn, fun x hx => ?_, by rw [hq.q.pen]; exact h.cnt⟩
  obtain ⟨c, hc, t, f⟩ := hq.k x hx
  obtain ⟨m, hm, t', f'⟩ := h.inf c hc
  exact ⟨m, hm, t'.trans t, f'.trans f⟩

theorem MInv.moves {t0 : BitVec 32} {W mv A : List Chunk} {s s' : St} (h : MInv t0 W mv s) (hm : Moves s s' A) :
    MInv t0 W (mv ++ A) s' := by
  refine ⟨?_, ?_, ?_, ?_⟩
  · rw [hm.next, h.next, List.length_append, BitVec.ofNat_add, BitVec.add_assoc]
  · intro j m hj
    by_cases hlt : j < mv.length
    · rw [List.getElem?_append_left hlt] at hj
      exact h.tsn j m hj
    · rw [List.getElem?_append_right (by omega)] at hj
      rw [hm.tsn _ m hj, h.next, BitVec.add_assoc, ← BitVec.ofNat_add]
      congr 2
      omega
  · intro x hx
    rw [hm.inf, List.mem_append] at hx
    rcases hx with hx | hx
    · exact (h.inf x hx).mono (fun m hm => List.mem_append_left _ hm)
    · exact ⟨x, List.mem_append_right _ hx, rfl, rfl⟩
  · obtain ⟨D1, c1⟩ := h.cnt
    obtain ⟨D2, c2⟩ := hm.cnt
    refine ⟨D1 ++ D2, fun q => ?_⟩
    have e1 := c1 q
    have e2 := c2 q
    simp only [List.map_append, List.countP_append] at e1 e2 ⊢
    omega

theorem write_myNextTSN (s : St) (si : BitVec 16) (ppi : BitVec 32) (len : Nat) :
    (write s si ppi len).1.myNextTSN = s.myNextTSN ∧ (write s si ppi len).1.cfg = s.cfg := by
  obtain ⟨_, _, _, _, _, _, h⟩ := write_only s si ppi len
  rw [h]; exact ⟨rfl, rfl⟩

/-- what one `gather` does: quiet, then moves, then quiet -/
theorem gather_minv {t0 : BitVec 32} {W mv : List Chunk} (s : St) (orc : Oracle) (sel : List Nat) (h : MInv t0 W mv s) :
    MInv t0 W (mv ++ (gather s orc sel).2.admits.map (·.chunk)) (gather s orc sel).1 ∧
    (gather s orc sel).1.cfg = s.cfg ∧
    ∀ e ∈ (gather s orc sel).2.packets.flatten, FromMoved (mv ++ (gather s orc sel).2.admits.map (·.chunk)) e := by
  unfold gather
  split
  · simp only [List.map_nil, List.append_nil]
    exact ⟨h, trivial, fun e he => by simp [GatherOut.packets] at he⟩
  · obtain ⟨q1, e1⟩ := gatherRtx_still s orc
    have i1 := h.still q1
    have m2 := gatherNew_moves orc.allow (gatherRtx s orc).2.2 (gatherRtx s orc).1 sel
    have i2 := i1.moves m2
    obtain ⟨q3, e3⟩ := gatherFast_still (gatherNew (gatherRtx s orc).1 orc.allow (gatherRtx s orc).2.2 sel).1 orc.allow
      (gatherNew (gatherRtx s orc).1 orc.allow (gatherRtx s orc).2.2 sel).2.b
    have i3 := i2.still q3
    refine ⟨⟨i3.next, i3.tsn, i3.inf, i3.cnt⟩, ?_, fun e he => ?_⟩
    · show (gatherFast _ _ _).1.cfg = s.cfg
      rw [q3.q.cfg, m2.cfg, q1.q.cfg]
    · simp only [GatherOut.packets, List.flatten_append, List.mem_append] at he
      rcases he with (he | he) | he
      · rcases bundle_flatten _ _ _ _ _ e he with hc | hc
        · cases hc
        · obtain ⟨c, hc', t, f⟩ := e1 e hc
          obtain ⟨m, hm, t', f'⟩ := h.inf c hc'
          exact ⟨m, List.mem_append_left _ hm, t'.trans t, f'.trans f⟩
      · split at he
        · cases he
        · rcases bundle_flatten _ _ _ _ _ e he with hc | hc
          · cases hc
          · exact ⟨e, List.mem_append_right _ hc, rfl, rfl⟩
      · split at he
        · cases he
        · rcases bundle_flatten _ _ _ _ _ e he with hc | hc
          · cases hc
          · obtain ⟨c, hc', t, f⟩ := e3 e hc
            obtain ⟨m, hm, t', f'⟩ := i2.inf c hc'
            exact ⟨m, hm, t'.trans t, f'.trans f⟩

theorem step_minv {t0 : BitVec 32} {W mv : List Chunk} (s : St) (op : Op) (h : MInv t0 W mv s) :
    MInv t0 (W ++ writtenBy s op) (mv ++ movedBy s op) (step s op) ∧ (step s op).cfg = s.cfg ∧
    ∀ e ∈ emittedBy s op, FromMoved (mv ++ movedBy s op) e := by
  cases op with
  | openS si u rt rv th =>
    simp only [writtenBy, movedBy, emittedBy, List.append_nil]
    exact ⟨⟨h.next, h.tsn, h.inf, h.cnt⟩, rfl, fun e he => by cases he⟩
  | unreg si =>
    simp only [writtenBy, movedBy, emittedBy, List.append_nil, step, unregister]
    split
    · exact ⟨h, rfl, fun e he => by cases he⟩
    · exact ⟨⟨h.next, h.tsn, h.inf, h.cnt⟩, rfl, fun e he => by cases he⟩
  | setEstablished b =>
    simp only [writtenBy, movedBy, emittedBy, List.append_nil]
    exact ⟨⟨h.next, h.tsn, h.inf, h.cnt⟩, rfl, fun e he => by cases he⟩
  | write si ppi len =>
    simp only [writtenBy, movedBy, emittedBy, List.append_nil, step]
    obtain ⟨w1, w2⟩ := write_queues s si ppi len
    obtain ⟨w3, w4⟩ := write_myNextTSN s si ppi len
    refine ⟨⟨by rw [w3]; exact h.next, h.tsn, by rw [w1]; exact h.inf, ?_⟩, w4, fun e he => by cases he⟩
    obtain ⟨D, c⟩ := h.cnt
    refine ⟨D, fun q => ?_⟩
    have := c q
    rw [w2]
    simp only [List.map_append, List.countP_append] at this ⊢
    omega
  | gather orc sel =>
    simp only [writtenBy, movedBy, emittedBy, List.append_nil, step]
    exact gather_minv s orc sel h
  | sack cum arwnd gaps marks =>
    simp only [writtenBy, movedBy, emittedBy, List.append_nil, step]
    have q := sack_still s cum arwnd gaps marks
    exact ⟨h.still q, q.q.cfg, fun e he => by cases he⟩
  | t3 =>
    simp only [writtenBy, movedBy, emittedBy, List.append_nil, step]
    exact ⟨h.still (t3_still s), (t3_still s).q.cfg, fun e he => by cases he⟩
  | tick ms n marks =>
    simp only [writtenBy, movedBy, emittedBy, List.append_nil, step]
    exact ⟨h.still (tick_still s ms n marks), (tick_still s ms n marks).q.cfg, fun e he => by cases he⟩

theorem run_minv {t0 : BitVec 32} {W mv : List Chunk} (s : St) (ops : List Op) (h : MInv t0 W mv s) :
    MInv t0 (W ++ written s ops) (mv ++ moved s ops) (run s ops) ∧ (run s ops).cfg = s.cfg ∧
    ∀ e ∈ wire s ops, FromMoved (mv ++ moved s ops) e := by
  induction ops generalizing W mv s with
  | nil => simp only [written, moved, wire, List.append_nil, run]; exact ⟨h, trivial, fun e he => by cases he⟩
  | cons op ops ih =>
    obtain ⟨h1, h2, h3⟩ := step_minv s op h
    obtain ⟨i1, i2, i3⟩ := ih (step s op) h1
    simp only [written, moved, wire, run]
    rw [← List.append_assoc, ← List.append_assoc]
    refine ⟨i1, i2.trans h2, fun e he => ?_⟩
    rcases List.mem_append.1 he with he | he
    · exact (h3 e he).mono (fun m hm => List.mem_append_left _ hm)
    · exact i3 e he

theorem init_minv (cfg : Cfg) (tsn peerRwnd : BitVec 32) : MInv tsn [] [] (init cfg tsn peerRwnd) :=
  ⟨by simp [init], fun j m h => by simp at h, fun x hx => by simp [init] at hx, ⟨[], fun q => by simp [init]⟩⟩

/-- **TSN assignment along every run from `init`.** -/
theorem run_tsn (cfg : Cfg) (tsn peerRwnd : BitVec 32) (ops : List Op) :
    let mv := moved (init cfg tsn peerRwnd) ops
    (run (init cfg tsn peerRwnd) ops).cfg = cfg ∧
    (run (init cfg tsn peerRwnd) ops).myNextTSN = tsn + BitVec.ofNat 32 mv.length ∧
    (∀ j m, mv[j]? = some m → m.tsn = tsn + BitVec.ofNat 32 j) ∧
    (∀ e ∈ wire (init cfg tsn peerRwnd) ops, FromMoved mv e) ∧
    (∃ D, CntEq (written (init cfg tsn peerRwnd) ops) ((run (init cfg tsn peerRwnd) ops).pending ++ mv ++ D)) := by
  obtain ⟨h1, h2, h3⟩ := run_minv (init cfg tsn peerRwnd) ops (init_minv cfg tsn peerRwnd)
  simp only [List.nil_append] at h1 h3
  exact ⟨h2, h1.next, h1.tsn, h3, h1.cnt⟩

/-- no fragment identity occurs more often among the moved chunks than among the written ones -/
theorem moved_count_le (cfg : Cfg) (tsn peerRwnd : BitVec 32) (ops : List Op) (q : Frag → Bool) :
    ((moved (init cfg tsn peerRwnd) ops).map Chunk.frag).countP q ≤ ((written (init cfg tsn peerRwnd) ops).map Chunk.frag).countP q := by
  obtain ⟨D, c⟩ := (run_tsn cfg tsn peerRwnd ops).2.2.2.2
  have := c q
  simp only [List.map_append, List.countP_append] at this
  omega

end SenderTsn
