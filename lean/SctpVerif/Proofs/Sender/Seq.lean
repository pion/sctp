import SctpVerif.Proofs.Sender.Acct
import SctpVerif.Proofs.Sna
/-! TSN contiguity of the in-flight queue, and its consequence: a SACK that passes the validation at the head of
`processSelectiveAck` is applied completely — the "error after the state was already modified" returns are unreachable. -/
namespace SenderProofs
open Gen Sender

/-- the chunks carry consecutive TSNs starting at `t` -/
def Contig : List Chunk → BitVec 32 → Prop
  | [], _ => True
  | c :: r, t => c.tsn = t ∧ Contig r (t + 1)

theorem contig_of_tsns {q q' : List Chunk} {t : BitVec 32} (h : q'.map (·.tsn) = q.map (·.tsn)) (hc : Contig q t) : Contig q' t := by
  induction q generalizing q' t with
  | nil => cases q' with
    | nil => trivial
    | cons _ _ => simp at h
  | cons c r ih => cases q' with
    | nil => simp at h
    | cons c' r' =>
      simp only [List.map_cons, List.cons.injEq] at h
      exact ⟨h.1.trans hc.1, ih h.2 hc.2⟩

theorem contig_append (q : List Chunk) (t : BitVec 32) (c : Chunk) (hc : Contig q t) (ht : c.tsn = t + BitVec.ofNat 32 q.length) :
    Contig (q ++ [c]) t := by
  induction q generalizing t with
  | nil => simp [Contig] at *; simpa using ht
  | cons x r ih =>
    refine ⟨hc.1, ih (t + 1) hc.2 ?_⟩
    rw [ht]; simp only [List.length_cons]
    apply BitVec.eq_of_toNat_eq
    simp [BitVec.toNat_add, BitVec.toNat_ofNat]
    omega

theorem contig_getElem {q : List Chunk} {t : BitVec 32} (hc : Contig q t) {i : Nat} {c : Chunk} (h : q[i]? = some c) :
    c.tsn = t + BitVec.ofNat 32 i := by
  induction q generalizing t i with
  | nil => simp at h
  | cons x r ih =>
    cases i with
    | zero => simp at h; subst h; simpa using hc.1
    | succ n =>
      simp at h
      rw [ih hc.2 h]
      apply BitVec.eq_of_toNat_eq
      simp [BitVec.toNat_add, BitVec.toNat_ofNat]
      omega

/-- `get` on a contiguous queue starting at `t`: success iff the offset is inside the queue -/
theorem get_contig {q : List Chunk} {t : BitVec 32} (hc : Contig q t) (tsn : BitVec 32) :
    (Sender.get q tsn).isSome = decide ((tsn - t).toNat < q.length) := by
  cases q with
  | nil => simp [Sender.get]
  | cons f r =>
    have hf : f.tsn = t := hc.1
    unfold Sender.get
    simp only [hf]
    by_cases h : (tsn - t).toNat < (f :: r).length
    · have h' : ¬ (tsn - t).toNat ≥ (f :: r).length := by omega
      rw [if_neg h', List.getElem?_eq_getElem h]
      simp only [Option.map_some, Option.isSome_some]
      exact (decide_eq_true h).symm
    · have h' : (tsn - t).toNat ≥ (f :: r).length := by omega
      rw [if_pos h']
      simp only [Option.isSome_none]
      exact (decide_eq_false h).symm

theorem popCum_stop (exitPt : BitVec 32) (q : List Chunk) (idx cum : BitVec 32) (a : CumAcc) (h : sna32LTE idx cum = false) :
    popCum exitPt q idx cum a = some (q, a) := by
  cases q with
  | nil => rw [popCum]; simp [h]
  | cons c r => rw [popCum]; simp [h]

/-- on a contiguous queue starting at `idx`, acknowledging up to `idx + k - 1` pops exactly `k` chunks (`k = 0`: nothing) -/
theorem popCum_pops (exitPt : BitVec 32) (k : Nat) (q : List Chunk) (idx : BitVec 32) (a : CumAcc)
    (hc : Contig q idx) (hk : k ≤ q.length) (hd : k < 2^31) :
    ∃ a', popCum exitPt q idx (idx + BitVec.ofNat 32 k - 1) a = some (q.drop k, a') := by
  induction k generalizing q idx a with
  | zero =>
    refine ⟨a, ?_⟩
    rw [List.drop_zero]
    apply popCum_stop
    rw [Bool.eq_false_iff, ne_eq, Sna.lte32_iff]; bv_omega
  | succ m ih =>
    cases q with
    | nil => simp at hk
    | cons c r =>
      have hle : sna32LTE idx (idx + BitVec.ofNat 32 (m + 1) - 1) = true := by
        rw [Sna.lte32_iff]
        have : (BitVec.ofNat 32 (m + 1)).toNat = m + 1 := by simp [BitVec.toNat_ofNat]; omega
        bv_omega
      obtain ⟨a', ha'⟩ := ih r (idx + 1) _ hc.2 (by simpa using hk) (by omega)
      have e : idx + BitVec.ofNat 32 (m + 1) - 1 = idx + 1 + BitVec.ofNat 32 m - 1 := by
        rw [BitVec.ofNat_add]; bv_omega
      rw [popCum, if_pos hle, if_pos (by simp [hc.1]), e]
      exact ⟨a', by rw [ha']; rfl⟩

/-- offsets of a SACK's cumulative TSN and of a gap-block end from the front of the queue, `k = (cum - cumAck).toNat` -/
theorem cum_off (a c : BitVec 32) : a + 1 + BitVec.ofNat 32 (c - a).toNat - 1 = c ∧ a + 1 + BitVec.ofNat 32 (c - a).toNat = c + 1 := by
  rw [BitVec.ofNat_toNat, BitVec.setWidth_eq]; constructor <;> bv_omega

theorem cum_off_le (a c : BitVec 32) (n : Nat) (hlt : sna32LT a c = true) (h : (c - (a + 1)).toNat < n) : (c - a).toNat ≤ n := by
  rw [Sna.lt32_iff] at hlt; bv_omega

theorem gap_off (a c : BitVec 32) (en : BitVec 16) (hk : (c - a).toNat < 2^31) (h1 : 1 ≤ en.toNat) :
    (c + BitVec.setWidth 32 en - (a + 1)).toNat = (c - a).toNat + en.toNat - 1 := by
  have := en.isLt
  have : (BitVec.setWidth 32 en).toNat = en.toNat := by simp [BitVec.toNat_setWidth]; omega
  bv_omega

theorem contig_drop (q : List Chunk) (t : BitVec 32) (k : Nat) (hc : Contig q t) : Contig (q.drop k) (t + BitVec.ofNat 32 k) := by
  induction k generalizing q t with
  | zero => simpa using hc
  | succ n ih =>
    cases q with
    | nil => simp [Contig]
    | cons x r =>
      simp only [List.drop_succ_cons]
      have := ih r (t + 1) hc.2
      have e : t + 1 + BitVec.ofNat 32 n = t + BitVec.ofNat 32 (n + 1) := by
        apply BitVec.eq_of_toNat_eq
        simp [BitVec.toNat_add, BitVec.toNat_ofNat]; omega
      rw [← e]; exact this

/-! ### the gap-ack loop never fails on a contiguous queue when the blocks lie inside it -/

theorem markOne_total (a : GapAcc) (t tsn : BitVec 32) (hc : Contig a.q t) (hin : (tsn - t).toNat < a.q.length) :
    ∃ a', markOne a tsn = some a' ∧ Contig a'.q t ∧ a'.q.length = a.q.length := by
  have hs := get_contig hc tsn
  rw [decide_eq_true hin] at hs
  cases hg : Sender.get a.q tsn with
  | none => rw [hg] at hs; cases hs
  | some oc =>
    obtain ⟨off, c⟩ := oc
    have hq := get_some hg
    unfold markOne
    simp only [hg]
    refine ⟨_, rfl, ?_, ?_⟩
    · simp only
      split
      · exact contig_of_tsns (map_tsn_set hq (show c.markAcked.tsn = c.tsn from rfl)) hc
      · exact hc
    · simp only
      split
      · simp
      · rfl

theorem markRange_total (cum t : BitVec 32) (is : List Nat) (a : GapAcc) (hc : Contig a.q t)
    (hin : ∀ i ∈ is, (cum + BitVec.ofNat 32 i - t).toNat < a.q.length) :
    ∃ a', markRange cum is a = some a' ∧ Contig a'.q t ∧ a'.q.length = a.q.length := by
  induction is generalizing a with
  | nil => exact ⟨a, rfl, hc, rfl⟩
  | cons i r ih =>
    obtain ⟨a1, h1, h2, h3⟩ := markOne_total a t (cum + BitVec.ofNat 32 i) hc (hin i (by simp))
    obtain ⟨a2, k1, k2, k3⟩ := ih a1 h2 (fun j hj => by rw [h3]; exact hin j (by simp [hj]))
    exact ⟨a2, by simp only [markRange, h1]; exact k1, k2, k3.trans h3⟩

theorem markGaps_total (cum : BitVec 32) (gaps : List (BitVec 16 × BitVec 16)) (a : GapAcc) (hc : Contig a.q (cum + 1))
    (hin : ∀ g ∈ gaps, 1 ≤ g.1.toNat ∧ g.2.toNat ≤ a.q.length) :
    ∃ a', markGaps cum gaps a = some a' ∧ Contig a'.q (cum + 1) ∧ a'.q.length = a.q.length := by
  induction gaps generalizing a with
  | nil => exact ⟨a, rfl, hc, rfl⟩
  | cons g r ih =>
    obtain ⟨st, en⟩ := g
    obtain ⟨g1, g2⟩ := hin (st, en) (by simp)
    simp only at g1 g2
    have hr : ∀ i ∈ List.range' st.toNat (en.toNat + 1 - st.toNat), (cum + BitVec.ofNat 32 i - (cum + 1)).toNat < a.q.length := by
      intro i hi
      simp only [List.mem_range'_1] at hi
      have hen := en.isLt
      have : (cum + BitVec.ofNat 32 i - (cum + 1)).toNat = i - 1 := by
        have hi32 : i < 2^32 := by omega
        have e : (BitVec.ofNat 32 i).toNat = i := Sna.toNat_ofNat_of_lt (by omega)
        bv_omega
      rw [this]; omega
    obtain ⟨a1, h1, h2, h3⟩ := markRange_total cum (cum + 1) _ a hc hr
    obtain ⟨a2, k1, k2, k3⟩ := ih a1 h2 (fun g hg => by rw [h3]; exact hin g (by simp [hg]))
    exact ⟨a2, by simp only [markGaps, h1]; exact k1, k2, k3.trans h3⟩

theorem ofNat_split (t : BitVec 32) {k len : Nat} (hk : k ≤ len) :
    t + BitVec.ofNat 32 len = t + BitVec.ofNat 32 k + BitVec.ofNat 32 (len - k) := by
  rw [BitVec.add_assoc, ← BitVec.ofNat_add, Nat.add_sub_cancel' hk]

theorem onCumAdvanced_seq (s : St) (total : Int) :
    (onCumAdvanced s total).cumAck = s.cumAck ∧ (onCumAdvanced s total).myNextTSN = s.myNextTSN :=
  ⟨(onCumAdvanced_frame s total).2.2.2.2.2.2.2.2.1, (onCumAdvanced_frame s total).2.2.2.2.2.2.2.2.2.1⟩

/-- the in-flight queue is TSN-contiguous from the cumulative ack point to `myNextTSN` -/
def Seq (s : St) : Prop :=
  Contig s.inflight (s.cumAck + 1) ∧ s.myNextTSN = s.cumAck + 1 + BitVec.ofNat 32 s.inflight.length

/-- **A validated SACK is applied completely**: on a contiguous queue, after the validation at the head of
`processSelectiveAck` has passed (and the SACK is not stale), neither loop can hit its error return. -/
theorem ackPhase_total (s : St) (cum : BitVec 32) (gaps : List (BitVec 16 × BitVec 16)) (hseq : Seq s)
    (hstale : sna32GT s.cumAck cum = false) (hval : validate s cum gaps = true) :
    ∃ r, ackPhase s cum gaps = some r ∧ Seq r.1 := by
  obtain ⟨hc, hnext⟩ := hseq
  -- `k` chunks are popped; the new cumulative point is `cum` whether or not it moved
  have hk31 : (cum - s.cumAck).toNat < 2^31 := by
    rw [Bool.eq_false_iff, ne_eq, Sna.gt32_iff] at hstale; bv_omega
  have hcum : (if sna32LT s.cumAck cum then cum else s.cumAck) = cum := by
    split
    · rfl
    · rename_i h; exact sna32_eq_of_not _ _ (by simpa using h) hstale
  have hkl : (cum - s.cumAck).toNat ≤ s.inflight.length := by
    by_cases hadv : sna32LT s.cumAck cum = true
    · have hv := hval
      simp only [validate, hadv, if_true, Bool.and_eq_true] at hv
      have := hv.1.2
      rw [get_contig hc] at this
      exact cum_off_le _ _ _ hadv (of_decide_eq_true this)
    · have : cum = s.cumAck := (sna32_eq_of_not _ _ (by simpa using hadv) hstale).symm
      rw [this]; simp
  obtain ⟨a1, hp⟩ := popCum_pops s.fastRecoverExitPoint (cum - s.cumAck).toNat s.inflight (s.cumAck + 1)
    { infBytes := s.infBytes, rel := [], inFR := s.inFastRecovery } hc hkl hk31
  obtain ⟨ecum, ecum1⟩ := cum_off s.cumAck cum
  rw [ecum] at hp
  have hcq : Contig (s.inflight.drop (cum - s.cumAck).toNat) (cum + 1) := ecum1 ▸ contig_drop s.inflight (s.cumAck + 1) _ hc
  have hdl : (s.inflight.drop (cum - s.cumAck).toNat).length = s.inflight.length - (cum - s.cumAck).toNat := by simp
  obtain ⟨g, hg, hgc, hgl⟩ := markGaps_total cum gaps
    { q := s.inflight.drop (cum - s.cumAck).toNat, infBytes := a1.infBytes, rel := a1.rel, htna := cum } hcq
    (by
      rintro ⟨st, en⟩ hgm
      obtain ⟨h1, h2, _, h4⟩ := validate_gap hval hgm
      rw [get_contig hc] at h4
      have h4 := of_decide_eq_true h4
      have hen := en.isLt
      have hle : st.toNat ≤ en.toNat := by simpa [BitVec.le_def] using h2
      have hst1 : 1 ≤ st.toNat := by
        rcases Nat.eq_zero_or_pos st.toNat with h | h
        · exact absurd (BitVec.eq_of_toNat_eq (by simpa using h)) h1
        · exact h
      -- the block end, as an offset from the old front of the queue
      have e4 := gap_off s.cumAck cum en hk31 (by omega)
      refine ⟨hst1, ?_⟩
      show en.toNat ≤ (s.inflight.drop _).length
      rw [hdl]; omega)
  refine ⟨(ackApply s cum g a1.inFR, g.htna, sna32LT s.cumAck cum), by unfold ackPhase; rw [hp]; simp only; rw [hg], ?_⟩
  obtain ⟨f1, _, _, _, _, _, f7, f8⟩ := ackApply_frame s cum g a1.inFR
  refine ⟨by rw [f1, f8, hcum]; exact hgc, ?_⟩
  rw [f7, f1, f8, hcum, hnext, hgl, hdl, ← ecum1]
  exact ofNat_split _ hkl

theorem move_seq (s : St) (i : Nat) (c : Chunk) (hs : Seq s) : Seq (move s i c).1 := by
  obtain ⟨hc, hn⟩ := hs
  refine ⟨?_, ?_⟩
  · simp only [move, popPend]
    exact contig_append _ _ _ hc (by simp only; exact hn)
  · simp only [move, popPend, List.length_append, List.length_singleton]
    rw [hn, BitVec.ofNat_add, BitVec.add_assoc]; rfl

theorem tsns_of_core {q q' : List Chunk} (h : q'.map Chunk.core = q.map Chunk.core) : q'.map (·.tsn) = q.map (·.tsn) :=
  map_of_factor Chunk.core (·.1) h

theorem SameAcct.seq {s s' : St} (h : SameAcct s s') (hs : Seq s) : Seq s' := by
  have ht := tsns_of_core h.core
  have hl : s'.inflight.length = s.inflight.length := by simpa using congrArg List.length ht
  exact ⟨by rw [h.cumAck]; exact contig_of_tsns ht hs.1, by rw [h.myNextTSN, h.cumAck, hl]; exact hs.2⟩

theorem Atom.seq {a b : St} (m : Atom a b) (hs : Seq a) : Seq b := by
  cases m with
  | flag m => exact m.sameAcct.seq hs
  | abandon m => exact m.sameAcct.seq hs
  | new m =>
    cases m with
    | drop i c hp hz => exact hs
    | admit i c hp hz hc hr => exact move_seq (chargeSend a c) i c hs
    | admitProbe i c hp h0 => exact move_seq (chargeProbe a c) i c hs
  | ack m =>
    cases m with
    | ack cum arwnd gaps r hst hv h =>
      obtain ⟨r', hr', hrs⟩ := ackPhase_total a cum gaps hs hst hv
      rw [h] at hr'; cases hr'
      exact hrs
  | api m => cases m <;> exact hs

theorem step_seq (s : St) (op : Op) (hs : Seq s) (_hm : CfgOk s.cfg) : Seq (step s op) := (step_star s op).rule (fun _ _ m => m.seq) hs

theorem gather_seq (s : St) (orc : Oracle) (sel : List Nat) (hs : Seq s) : Seq (gather s orc sel).1 :=
  (step_star s (.gather orc sel)).rule (fun _ _ m => m.seq) hs

theorem sack_seq (s : St) (cum arwnd : BitVec 32) (gaps : List (BitVec 16 × BitVec 16)) (marks : List (BitVec 32))
    (hs : Seq s) (_hm : s.cfg.mtu.toNat < 2^30) : Seq (sack s cum arwnd gaps marks).1 :=
  (step_star s (.sack cum arwnd gaps marks)).rule (fun _ _ m => m.seq) hs

theorem run_seq (s : St) (ops : List Op) (hs : Seq s) (_hw : WinInv s) : Seq (run s ops) := run_rule (fun _ _ m => m.seq) s ops hs

theorem init_seq (cfg : Cfg) (tsn peerRwnd : BitVec 32) : Seq (init cfg tsn peerRwnd) := by
  refine ⟨trivial, ?_⟩
  simp only [init, List.length_nil]
  bv_omega

end SenderProofs
