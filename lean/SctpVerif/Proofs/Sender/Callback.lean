import SctpVerif.Proofs.Sender.Acct
/-! The low-threshold callback: invocations = downward crossings of the threshold by the stream's buffered amount,
observed after every operation. -/
namespace SenderProofs
open Gen Sender

theorem gather_streams (s : St) (orc : Oracle) (sel : List Nat) :
    (gather s orc sel).1.wrapBuf = s.wrapBuf ∧ (gather s orc sel).1.streams = s.streams :=
  ⟨(gather_frame s orc sel).2.2.2.2.2.1, (gather_frame s orc sel).2.2.2.2.1⟩

theorem popCum_nodup (exitPt : BitVec 32) (q : List Chunk) (idx cum : BitVec 32) (a : CumAcc) {q' : List Chunk} {a' : CumAcc}
    (hk : RelKeysNodup a.rel) (h : popCum exitPt q idx cum a = some (q', a')) : RelKeysNodup a'.rel :=
  popCum_rule exitPt (fun _ b => RelKeysNodup b.rel) (fun c _ b hb => by
    show RelKeysNodup (if !c.acked then addRel b.rel c.si (c.len : Int) else b.rel)
    split
    · exact (addRel_keys _ _ _).2 hb
    · exact hb) q idx cum a hk h

theorem markGaps_nodup (cum : BitVec 32) (gaps : List (BitVec 16 × BitVec 16)) (a : GapAcc) {a' : GapAcc}
    (hk : RelKeysNodup a.rel) (h : markGaps cum gaps a = some a') : RelKeysNodup a'.rel :=
  markGaps_inv (fun x => RelKeysNodup x.rel) (fun x _ x' hx h1 => by
    obtain ⟨_, _, _, _, ⟨_, _, _, er⟩ | ⟨_, _, _, er⟩⟩ := markOne_cases h1 <;> rw [er]
    · exact hx
    · exact (addRel_keys _ _ _).2 hx) cum gaps a hk h

/-- number of callback invocations of the Stream object for `si` -/
def cbOf (s : St) (si : BitVec 16) : Nat := match s.streams si with | some st => st.cbCount | none => 0

/-- a downward crossing of the threshold: above it before, at or below it after -/
def crossing (th a b : Nat) : Nat := if a > th ∧ b ≤ th then 1 else 0

/-- the stream object for `si` exists, has the callback installed and threshold `th` -/
def Watched (s : St) (si : BitVec 16) (th : BitVec 64) : Prop := ∃ st, s.streams si = some st ∧ st.threshold = th ∧ st.hasCb = true

theorem release_cb (st : Stream) (n : Int) (hcb : st.hasCb = true) :
    (release st n).1.cbCount = st.cbCount + crossing st.threshold.toNat st.buffered.toNat (release st n).1.buffered.toNat ∧
    (release st n).1.threshold = st.threshold ∧ (release st n).1.hasCb = st.hasCb ∧ (release st n).1.registered = st.registered := by
  unfold release
  split
  · refine ⟨?_, rfl, rfl, rfl⟩
    simp only [crossing]; split <;> omega
  · refine ⟨?_, rfl, rfl, rfl⟩
    simp only [release_crossesLow, crossing, hcb, Bool.true_and, BitVec.lt_def, BitVec.le_def, gt_iff_lt, Bool.and_eq_true, decide_eq_true_eq]

theorem releaseAll_untouched (rel : Rel) (s : St) (si : BitVec 16) (h : si ∉ rel.map (·.1)) :
    (releaseAll rel s).streams si = s.streams si := by
  induction rel generalizing s with
  | nil => rfl
  | cons e r ih =>
    obtain ⟨k, n⟩ := e
    simp only [List.map_cons, List.mem_cons, not_or] at h
    simp only [releaseAll]
    cases hs : s.streams k with
    | none => exact ih s h.2
    | some st =>
      simp only
      split
      · rw [ih _ h.2]; simp [setStream, h.1]
      · exact ih s h.2

theorem crossing_self (th a : Nat) : crossing th a a = 0 := by
  simp only [crossing]; split <;> omega

theorem releaseAll_cb (rel : Rel) (s : St) (hk : RelKeysNodup rel) (si : BitVec 16) (th : BitVec 64) (hw : Watched s si th) :
    Watched (releaseAll rel s) si th ∧
    cbOf (releaseAll rel s) si = cbOf s si + crossing th.toNat (bufOf s si) (bufOf (releaseAll rel s) si) := by
  induction rel generalizing s with
  | nil => exact ⟨hw, by simp [releaseAll, crossing_self]⟩
  | cons e r ih =>
    obtain ⟨k, n⟩ := e
    simp only [RelKeysNodup, List.map_cons, List.nodup_cons] at hk
    obtain ⟨hk1, hk2⟩ := hk
    simp only [releaseAll]
    by_cases hks : k = si
    · subst hks
      obtain ⟨st, hs, hth, hcb⟩ := hw
      simp only [hs]
      by_cases hreg : st.registered = true
      · simp only [hreg, if_true]
        have hun := releaseAll_untouched r { setStream s k (release st n).1 with clamped := s.clamped || (release st n).2 } k hk1
        obtain ⟨c1, c2, c3, _⟩ := release_cb st n hcb
        have hstr : (releaseAll r { setStream s k (release st n).1 with clamped := s.clamped || (release st n).2 }).streams k = some (release st n).1 := by
          rw [hun]; simp [setStream]
        refine ⟨⟨(release st n).1, hstr, by rw [c2, hth], by rw [c3, hcb]⟩, ?_⟩
        simp only [cbOf, bufOf, hstr, hs, c1, hth]
      · simp only [hreg, Bool.false_eq_true, if_false]
        have hun := releaseAll_untouched r s k hk1
        refine ⟨⟨st, by rw [hun]; exact hs, hth, hcb⟩, ?_⟩
        simp only [cbOf, bufOf, hun, hs, crossing_self]; omega
    · cases hs : s.streams k with
      | none => exact ih s hk2 hw
      | some st =>
        simp only
        split
        · have hw' : Watched { setStream s k (release st n).1 with clamped := s.clamped || (release st n).2 } si th := by
            obtain ⟨st0, h1, h2, h3⟩ := hw
            have : ¬ si = k := fun h => hks h.symm
            exact ⟨st0, by simp [setStream, this, h1], h2, h3⟩
          obtain ⟨i1, i2⟩ := ih _ hk2 hw'
          refine ⟨i1, ?_⟩
          have : ¬ si = k := fun h => hks h.symm
          have e1 : cbOf { setStream s k (release st n).1 with clamped := s.clamped || (release st n).2 } si = cbOf s si := by
            simp [cbOf, setStream, this]
          have e2 : bufOf { setStream s k (release st n).1 with clamped := s.clamped || (release st n).2 } si = bufOf s si := by
            simp [bufOf, setStream, this]
          rw [i2, e1, e2]
        · exact ih s hk2 hw

/-- an operation that leaves the stream object of `si` alone -/
theorem cb_of_stream_eq {s s' : St} {si : BitVec 16} (h : s'.streams si = s.streams si) (th : BitVec 64) (hw : Watched s si th) :
    Watched s' si th ∧ cbOf s' si = cbOf s si + crossing th.toNat (bufOf s si) (bufOf s' si) := by
  refine ⟨by unfold Watched; rw [h]; exact hw, ?_⟩
  simp only [cbOf, bufOf, h, crossing_self]; omega

/-- the streams after a SACK: the old table with one release per stream named in a duplicate-free table -/
theorem sack_streams (s : St) (cum arwnd : BitVec 32) (gaps : List (BitVec 16 × BitVec 16)) (marks : List (BitVec 32))
    (_hm : s.cfg.mtu.toNat < 2^30) :
    (sack s cum arwnd gaps marks).1.wrapBuf = s.wrapBuf ∧
    ∃ rel x, RelKeysNodup rel ∧ x.streams = s.streams ∧ (sack s cum arwnd gaps marks).1.streams = (releaseAll rel x).streams := by
  rcases sack_split s cum arwnd gaps marks with he | ⟨r, ha, _, _, hx⟩
  · rw [he]; exact ⟨rfl, [], s, by simp [RelKeysNodup], rfl, rfl⟩
  · refine ⟨hx.wrapBuf.trans (ackPhase_wrapBuf ha), ?_⟩
    obtain ⟨_, _, g, hp, hg, rfl⟩ := ackPhase_eq ha
    refine ⟨g.rel, _, markGaps_nodup cum gaps _ (popCum_nodup _ _ _ _ _ (by simp [RelKeysNodup]) hp) hg, ?_, hx.streams⟩
    split
    · exact (onCumAdvanced_same _ _).1.2.2.2.2.2.1
    · rfl

theorem iter_t3_streams (n : Nat) (s : St) : (iter t3 n s).streams = s.streams := (iter_t3_same n s).2.2.2.2.2.1

theorem write_cb (s : St) (k : BitVec 16) (ppi : BitVec 32) (len : Nat) (si : BitVec 16) (th : BitVec 64) (hw : Watched s si th)
    (hwb : (write s k ppi len).1.wrapBuf = false) :
    Watched (write s k ppi len).1 si th ∧
    cbOf (write s k ppi len).1 si = cbOf s si + crossing th.toNat (bufOf s si) (bufOf (write s k ppi len).1 si) := by
  rcases write_eq s k ppi len with ⟨he, _⟩ | ⟨st, hs, _, _, hmp, ⟨_, _, he⟩ | ⟨_, _, he⟩⟩ <;> rw [he] at hwb ⊢
  · exact cb_of_stream_eq rfl th hw
  · by_cases hk : si = k
    · -- the written stream: the buffered amount grows, no downward crossing
      subst hk
      obtain ⟨_, p2, p3, _, _, _, p7, p8, p9⟩ := packetize_spec s.cfg st si s.nextMsg ppi len hmp
      obtain ⟨st0, g1, g2, g3⟩ := hw
      rw [hs] at g1; cases g1
      have hnw : st.buffered.toNat + len < 2^64 := by simpa [p3] using (Bool.or_eq_false_iff.mp hwb).2
      have hbuf : (st.buffered + BitVec.ofNat 64 len).toNat = st.buffered.toNat + len := by
        rw [BitVec.toNat_add, BitVec.toNat_ofNat]; omega
      refine ⟨⟨(packetize s.cfg st si s.nextMsg ppi len).st, by simp [pushPending, setStream], by rw [p7, g2], by rw [p8, g3]⟩, ?_⟩
      simp only [cbOf, bufOf, pushPending, setStream, if_true, hs, p9, p2, hbuf, crossing]
      split <;> omega
    · exact cb_of_stream_eq (by simp [pushPending, setStream, hk]) th hw
  · exact cb_of_stream_eq rfl th hw

/-- one operation (other than re-configuring stream `si` itself): the callback count of `si` grows by exactly the
downward crossing, if any, of its buffered amount across the operation -/
theorem step_cb (s : St) (op : Op) (si : BitVec 16) (th : BitVec 64) (hw : Watched s si th) (hm : CfgOk s.cfg)
    (hop : ∀ u rt rv th', op ≠ .openS si u rt rv th') (hwb : (step s op).wrapBuf = false) :
    Watched (step s op) si th ∧ cbOf (step s op) si = cbOf s si + crossing th.toNat (bufOf s si) (bufOf (step s op) si) := by
  cases op with
  | openS k u rt rv th' =>
    have hk : ¬ si = k := fun h => hop u rt rv th' (by rw [h])
    exact cb_of_stream_eq (by simp [step, openStream, setStream, hk]) th hw
  | unreg k =>
    simp only [step, unregister]
    cases hs : s.streams k with
    | none => exact cb_of_stream_eq rfl th hw
    | some st =>
      simp only
      by_cases hk : si = k
      · subst hk
        obtain ⟨st0, g1, g2, g3⟩ := hw
        rw [hs] at g1; cases g1
        refine ⟨⟨{ st with registered := false }, by simp [setStream], g2, g3⟩, ?_⟩
        simp only [cbOf, bufOf, setStream, if_true, hs, crossing_self]; omega
      · exact cb_of_stream_eq (by simp [setStream, hk]) th hw
  | setEstablished b => exact cb_of_stream_eq rfl th hw
  | write k ppi len => exact write_cb s k ppi len si th hw hwb
  | gather orc sel => exact cb_of_stream_eq (congrFun (gather_streams s orc sel).2 si) th hw
  | sack cum arwnd gaps marks =>
    obtain ⟨_, rel, x, h1, h2, h3⟩ := sack_streams s cum arwnd gaps marks hm
    have hwx : Watched x si th := by unfold Watched; rw [h2]; exact hw
    obtain ⟨r1, r2⟩ := releaseAll_cb rel x h1 si th hwx
    refine ⟨by unfold Watched at r1 ⊢; rw [show (step s (.sack cum arwnd gaps marks)).streams = _ from h3]; exact r1, ?_⟩
    have e1 : cbOf (step s (.sack cum arwnd gaps marks)) si = cbOf (releaseAll rel x) si := by
      simp only [cbOf, show (step s (.sack cum arwnd gaps marks)).streams = _ from h3]
    have e2 : bufOf (step s (.sack cum arwnd gaps marks)) si = bufOf (releaseAll rel x) si := by
      simp only [bufOf, show (step s (.sack cum arwnd gaps marks)).streams = _ from h3]
    have e3 : cbOf x si = cbOf s si := by simp only [cbOf, h2]
    have e4 : bufOf x si = bufOf s si := by simp only [bufOf, h2]
    rw [e1, e2, r2, e3, e4]
  | t3 => exact cb_of_stream_eq (congrFun (t3_same s).2.2.2.2.2.1 si) th hw
  | tick ms n marks => exact cb_of_stream_eq (congrFun (tick_sameAcct s ms n marks).streams si) th hw

/-- the buffered amount of `si` observed after every operation of a run (starting value first) -/
def traj (si : BitVec 16) : St → List Op → List Nat
  | s, [] => [bufOf s si]
  | s, op :: ops => bufOf s si :: traj si (step s op) ops

/-- downward crossings of `th` along a trajectory -/
def crossings (th : Nat) : List Nat → Nat
  | a :: b :: r => crossing th a b + crossings th (b :: r)
  | _ => 0

theorem traj_head (si : BitVec 16) (s : St) (ops : List Op) : ∃ r, traj si s ops = bufOf s si :: r := by
  cases ops <;> exact ⟨_, rfl⟩

/-- along any run that does not re-configure stream `si`: callback invocations = downward crossings of the threshold
by the buffered amount observed after each operation -/
theorem run_cb (s : St) (ops : List Op) (si : BitVec 16) (th : BitVec 64) (hw : Watched s si th) (hwin : WinInv s)
    (hops : ∀ op ∈ ops, ∀ u rt rv th', op ≠ .openS si u rt rv th') (hwb : (run s ops).wrapBuf = false) :
    cbOf (run s ops) si = cbOf s si + crossings th.toNat (traj si s ops) := by
  induction ops generalizing s with
  | nil => simp [run, traj, crossings]
  | cons op ops ih =>
    have hwb1 : (step s op).wrapBuf = false := run_wrapBuf (step s op) ops (step_win s op hwin).1 hwb
    obtain ⟨w1, w2⟩ := step_cb s op si th hw hwin.cfgOk (hops op (by simp)) hwb1
    have := ih (step s op) w1 (step_win s op hwin).1 (fun o ho => hops o (by simp [ho])) hwb
    obtain ⟨r, hr⟩ := traj_head si (step s op) ops
    simp only [run, traj]
    rw [this, w2, hr, crossings, ← hr]
    omega

end SenderProofs
