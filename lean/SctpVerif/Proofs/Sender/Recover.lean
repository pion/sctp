import SctpVerif.Proofs.Sender.Progress
import SctpVerif.Proofs.Sender.Queue
/-! Recovery against a peer that keeps nothing beyond its cumulative point (except what it gap-acked): the schedule
"T3 expires; gather; the peer acknowledges, cumulatively, exactly what it can have" makes progress in every round.
Used by `C02_recovers_faithful` in `Props/C02.lean`. -/
namespace SenderProofs
open Gen Sender

/-! ### every unacknowledged in-flight chunk fits a packet -/

def InfFit (s : St) : Prop :=
  ∀ c ∈ s.inflight, c.acked = false → hdr + c.sizeInPacket s.cfg.useInterleaving ≤ (s.cfg.mtu.toNat : Int)

theorem InfFit.of_qev {k : Nat} {s s' : St} (h : InfFit s) (hq : QEv k s s') (hcfg : s'.cfg = s.cfg) : InfFit s' := by
  intro x hx ha
  obtain ⟨c, hc, e⟩ := hq.unacked hx ha
  rw [hcfg, sip_congr _ c x e.len]
  exact h c hc (e.acked ▸ ha)

theorem gather_admits_fit (s : St) (orc : Oracle) (sel : List Nat) :
    AllFit s.cfg.mtu s.cfg.useInterleaving ((gather s orc sel).2.admits.map (·.chunk)) := by
  unfold gather
  split
  · exact allFit_nil _ _
  · simp only
    have := (gatherNew_fit orc.allow (gatherRtx s orc).2.2 (gatherRtx s orc).1 sel).2
    rw [(gatherRtx_frame s orc).cfg] at this
    exact this

/-- what is in flight after a gather was in flight before or was admitted by it -/
theorem gather_inffit (s : St) (orc : Oracle) (sel : List Nat) (h : InfFit s) : InfFit (gather s orc sel).1 := by
  intro x hx ha
  obtain ⟨c, hc, e⟩ := (gather_fl s orc sel).mem hx
  rw [gather_cfg, sip_congr _ c x e.len]
  rcases List.mem_append.1 hc with h1 | h1
  · exact h c h1 (e.acked ▸ ha)
  · exact gather_admits_fit s orc sel c h1

theorem sack_inffit (s : St) (cum arwnd : BitVec 32) (gaps : List (BitVec 16 × BitVec 16)) (marks : List (BitVec 32)) (h : InfFit s) :
    InfFit (sack s cum arwnd gaps marks).1 := by
  obtain ⟨k, hk⟩ := sack_qev s cum arwnd gaps marks
  exact h.of_qev hk (sack_kept s cum arwnd gaps marks).cfg

theorem t3_inffit (s : St) (h : InfFit s) : InfFit (t3 s) := h.of_qev (QEv.of_fl (t3_fl s)) (t3_kept s).1.cfg

theorem step_inffit (s : St) (op : Op) (h : InfFit s) : InfFit (step s op) := by
  cases op with
  | openS si u rt rv th => exact h
  | unreg si =>
    simp only [step, unregister]
    split <;> exact h
  | setEstablished b => exact h
  | write si ppi len =>
    obtain ⟨_, _, _, _, _, _, e⟩ := write_only s si ppi len
    rw [step, e]; exact h
  | gather orc sel => exact gather_inffit s orc sel h
  | sack cum arwnd gaps marks => exact sack_inffit s cum arwnd gaps marks h
  | t3 => exact t3_inffit s h
  | tick ms n marks => exact h.of_qev (QEv.of_fl (tick_fl s ms n marks)) (tick_kept s ms n marks).1.cfg

theorem run_inffit (s : St) (ops : List Op) (h : InfFit s) : InfFit (run s ops) := by
  induction ops generalizing s with
  | nil => exact h
  | cons op ops ih => exact ih (step s op) (step_inffit s op h)

/-! ### what a gather puts on the wire -/

/-- TSNs of the DATA chunks a gather put on the wire -/
def sentTsns (o : GatherOut) : List (BitVec 32) := o.packets.flatten.map (·.tsn)

theorem bundle_flat (mtu : BitVec 32) (il : Bool) (chunks cur : List Chunk) (bip : Int) :
    (bundle mtu il chunks cur bip).flatten = cur ++ chunks := by
  induction chunks generalizing cur bip with
  | nil =>
    simp only [bundle]
    cases cur with
    | nil => simp
    | cons x r => simp
  | cons c r ih =>
    simp only [bundle]
    split
    · rw [List.flatten_cons, ih]; simp
    · rw [ih]; simp

/-- what a gather puts on the wire starts with its retransmissions, then the chunks it admitted, in order -/
theorem gather_flat (s : St) (orc : Oracle) (sel : List Nat) (he : s.established = true) :
    (gatherRtx s orc).2.1 ++ (gather s orc sel).2.admits.map (·.chunk) <+: (gather s orc sel).2.packets.flatten := by
  have hmid : ∀ nc : List Chunk, (if nc.isEmpty = true then [] else bundle s.cfg.mtu s.cfg.useInterleaving nc [] hdr).flatten = nc := by
    intro nc
    split
    · rename_i hemp
      rw [List.isEmpty_iff.mp hemp]; rfl
    · rw [bundle_flat, List.nil_append]
  unfold GatherOut.packets gather
  simp only [he, Bool.not_true, Bool.false_eq_true, if_false, List.flatten_append]
  rw [bundle_flat, List.nil_append, hmid]
  exact List.prefix_append _ _

/-! ### the head of the queue after "T3; gather" -/

/-- what the next gather needs of a state T3 has left: every in-flight chunk that is neither acked nor abandoned carries the
flag, and the congestion window holds a full packet -/
structure Flagged (s : St) : Prop where
  all : ∀ c ∈ s.inflight, c.acked = false → s.abandoned c = false → c.retransmit = true
  cw : s.cfg.mtu.toNat ≤ s.cwnd.toNat

theorem t3_flagged (s : St) : Flagged (t3 s) :=
  ⟨t3_marks_all s, by rw [(t3_frame s).2.1, (t3_frame s).1.cfg]; exact (setCwnd_ge s (t3_cwndArg s.cfg.mtu)).1⟩

/-- after a gather with a free burst budget the head of the in-flight queue is acked, or it was abandoned, or it is the
first chunk this gather put on the wire: retransmitted at loop index 0 whatever the windows are, or, with nothing in flight,
admitted (as the zero-window probe at worst) -/
theorem gather_head_first (s : St) (h : Live s) (hfit : InfFit s) (hfl : s.inflight ≠ [] → Flagged s) (sel : List Nat)
    (hsel : s.pending ≠ [] → ∃ i rest, sel = i :: rest ∧ i < s.pending.length)
    (hpos : 0 < s.inflight.length + s.pending.length) :
    ∃ c0 r, (gather s freeOracle sel).1.inflight = c0 :: r ∧
      (c0.acked = true ∨ (∃ f rest, s.inflight = f :: rest ∧ s.abandoned f = true) ∨
       ∃ e rest, (gather s freeOracle sel).2.packets.flatten = e :: rest ∧ e.tsn = c0.tsn) := by
  obtain ⟨fpk, hflat⟩ := gather_flat s freeOracle sel h.est
  have hq' := gather_fl s freeOracle sel
  cases hq : s.inflight with
  | nil =>
    have hpne : s.pending ≠ [] := by
      intro he; rw [hq, he] at hpos; simp at hpos
    obtain ⟨i, rest, rfl, hi⟩ := hsel hpne
    have hadm := (gather_progress_at s freeOracle i rest h.core h.fit h.est hq hi rfl).2.1
    rw [gatherRtx_nil s freeOracle hq] at hflat
    cases ha : (gather s freeOracle (i :: rest)).2.admits with
    | nil => exact absurd ha hadm
    | cons y ys =>
      rw [hq, ha] at hq'
      obtain ⟨c0, r, e1, e0⟩ := hq'.head
      exact ⟨c0, r, e1, Or.inr (Or.inr ⟨y.chunk, ys.map (·.chunk) ++ fpk, by rw [← hflat, ha]; rfl, e0.tsn.symm⟩)⟩
  | cons f rest =>
    rw [hq] at hq'
    obtain ⟨c0, r, e1, e0⟩ := hq'.head
    refine ⟨c0, r, e1, ?_⟩
    by_cases hacked : f.acked = true
    · exact Or.inl (e0.acked.trans hacked)
    by_cases hab : s.abandoned f = true
    · exact Or.inr (Or.inl ⟨f, rest, rfl, hab⟩)
    -- neither acked nor abandoned: flagged, and `getDataPacketsToRetransmit` sends the earliest outstanding chunk
    right; right
    have hacked' : f.acked = false := by simpa using hacked
    have hab' : s.abandoned f = false := by simpa using hab
    have hfmem : f ∈ s.inflight := by rw [hq]; simp
    obtain ⟨hall, hcw⟩ := hfl (by rw [hq]; simp)
    have hfit' := hfit f hfmem hacked'
    have hlen : (f.len : Int) ≤ f.sizeInPacket s.cfg.useInterleaving := len_le_sizeInPacket _ f
    have hwin : ([] = ([] : List Chunk) ∧ s.rwnd.toNat < f.len) ∨ f.len ≤ (min32 s.cwnd s.rwnd).toNat := by
      rw [min32_toNat]
      by_cases hr : s.rwnd.toNat < f.len
      · exact Or.inl ⟨rfl, hr⟩
      · right
        have : (0 : Int) ≤ hdr := by decide
        omega
    obtain ⟨tl, htl⟩ := gatherRtx_lowest s freeOracle h.seq [] f rest (by rw [hq]; rfl) (by intro x hx; cases hx)
      (hall f hfmem hacked' hab') hab' hwin hfit' rfl
    rw [htl] at hflat
    exact ⟨rtxUpd s f, tl ++ (gather s freeOracle sel).2.admits.map (·.chunk) ++ fpk, by rw [← hflat]; simp, e0.tsn.symm⟩

/-! ### a peer that keeps nothing beyond its cumulative point -/

/-- how far such a peer can acknowledge after a gather: the longest prefix of the in-flight queue whose chunks it had
gap-acked before, was told to skip by the FORWARD-TSN of this gather, or just received -/
def reach (x : St) (o : GatherOut) : Nat → List Chunk → Nat
  | _, [] => 0
  | i, c :: r =>
    if c.acked || (o.fwd.isSome && decide (i < (x.advPeerAck - x.cumAck).toNat)) || (sentTsns o).contains c.tsn then 1 + reach x o (i + 1) r
    else 0

theorem reach_le (x : St) (o : GatherOut) (i : Nat) (l : List Chunk) : reach x o i l ≤ l.length := by
  induction l generalizing i with
  | nil => simp [reach]
  | cons c r ih =>
    simp only [reach, List.length_cons]
    split
    · have := ih (i + 1); omega
    · omega

theorem reach_pos (x : St) (o : GatherOut) (c : Chunk) (r : List Chunk)
    (h : (c.acked || (o.fwd.isSome && decide (0 < (x.advPeerAck - x.cumAck).toNat)) || (sentTsns o).contains c.tsn) = true) :
    1 ≤ reach x o 0 (c :: r) := by
  simp only [reach, h, if_true]; omega

/-- the cumulative TSN that peer reports -/
def faithfulCum (x : St) (o : GatherOut) : BitVec 32 := x.cumAck + BitVec.ofNat 32 (reach x o 0 x.inflight)

/-- one round: T3 expires, one gather, the peer's cumulative SACK (advertising `arwnd`) -/
def roundFOps (pick : St → List Nat) (arwnd : BitVec 32) (s : St) : List Op :=
  [.t3, .gather freeOracle (pick (t3 s)),
   .sack (faithfulCum (gather (t3 s) freeOracle (pick (t3 s))).1 (gather (t3 s) freeOracle (pick (t3 s))).2) arwnd [] []]

def roundF (pick : St → List Nat) (arwnd : BitVec 32) (s : St) : St := run s (roundFOps pick arwnd s)

def roundsF (pick : St → List Nat) (arwnd : BitVec 32) : Nat → St → St
  | 0, s => s
  | n + 1, s => roundsF pick arwnd n (roundF pick arwnd s)

def recoverOps (pick : St → List Nat) (arwnd : BitVec 32) : Nat → St → List Op
  | 0, _ => []
  | n + 1, s => roundFOps pick arwnd s ++ recoverOps pick arwnd n (roundF pick arwnd s)

theorem run_recoverOps (pick : St → List Nat) (arwnd : BitVec 32) (n : Nat) (s : St) :
    run s (recoverOps pick arwnd n s) = roundsF pick arwnd n s := by
  induction n generalizing s with
  | zero => rfl
  | succ n ih =>
    simp only [recoverOps, roundsF, run_append]
    rw [← ih]
    rfl

/-! ### the invariants of the recovery argument are kept by its three steps -/

/-- what the recovery argument carries from round to round -/
structure Rec (s : St) : Prop where
  live : Live s
  adv : AdvInv s
  fit : InfFit s
  pr : s.cfg.prEnabled = true

theorem init_inffit (cfg : Cfg) (tsn peerRwnd : BitVec 32) : InfFit (init cfg tsn peerRwnd) := by
  intro c hc; simp [init] at hc

theorem run_rec (cfg : Cfg) (tsn peerRwnd : BitVec 32) (hc : CfgOk cfg) (hf : CfgFit cfg) (hpr : cfg.prEnabled = true) (ops : List Op)
    (hok : TsnOk (init cfg tsn peerRwnd) ops) (hest : (run (init cfg tsn peerRwnd) ops).established = true)
    (hsm : (run (init cfg tsn peerRwnd) ops).inflight.length + (run (init cfg tsn peerRwnd) ops).pending.length < 2^31) :
    Rec (run (init cfg tsn peerRwnd) ops) :=
  ⟨run_live cfg tsn peerRwnd hc hf ops hest hsm,
   run_adv _ ops (init_seq cfg tsn peerRwnd) (init_win cfg tsn peerRwnd hc) hpr (init_adv cfg tsn peerRwnd) hok,
   run_inffit _ ops (init_inffit cfg tsn peerRwnd),
   by rw [run_cfg _ ops hc]; exact hpr⟩

theorem Rec.step {s : St} (h : Rec s) (op : Op) (he : (step s op).established = true)
    (hsm : (step s op).inflight.length + (step s op).pending.length < 2^31) : Rec (step s op) :=
  ⟨h.live.step op he hsm, step_adv s op h.live.seq (by have := h.live.small; omega) h.pr h.adv, step_inffit s op h.fit,
   by rw [step_cfg_eq s op h.live.win.cfgOk]; exact h.pr⟩

theorem rec_t3 {s : St} (h : Rec s) : Rec (t3 s) := h.step .t3 (live_t3 h.live).est (live_t3 h.live).small

theorem rec_gather {s : St} (h : Rec s) (orc : Oracle) (sel : List Nat) : Rec (gather s orc sel).1 :=
  h.step (.gather orc sel) (live_gather h.live orc sel).est (live_gather h.live orc sel).small

theorem rec_sack {s : St} (h : Rec s) (cum arwnd : BitVec 32) (gaps : List (BitVec 16 × BitVec 16)) (marks : List (BitVec 32)) :
    Rec (sack s cum arwnd gaps marks).1 :=
  h.step (.sack cum arwnd gaps marks) (live_sack h.live cum arwnd gaps marks).est (live_sack h.live cum arwnd gaps marks).small

/-! ### every round makes progress -/

theorem roundF_eq (pick : St → List Nat) (arwnd : BitVec 32) (s : St) :
    roundF pick arwnd s =
      (sack (gather (t3 s) freeOracle (pick (t3 s))).1
        (faithfulCum (gather (t3 s) freeOracle (pick (t3 s))).1 (gather (t3 s) freeOracle (pick (t3 s))).2) arwnd [] []).1 := rfl

theorem t3_lengths (s : St) : (t3 s).inflight.length = s.inflight.length ∧ (t3 s).pending = s.pending := by
  have f := (t3_frame s).1
  exact ⟨by simpa using congrArg List.length f.core, f.pending⟩

theorem roundF_progress (pick : St → List Nat) (arwnd : BitVec 32) (hp : PickOk pick) (s : St) (h : Rec s) :
    Rec (roundF pick arwnd s) ∧
    (roundF pick arwnd s).inflight.length + (roundF pick arwnd s).pending.length ≤ s.inflight.length + s.pending.length ∧
    (0 < s.inflight.length + s.pending.length →
      (roundF pick arwnd s).inflight.length + (roundF pick arwnd s).pending.length < s.inflight.length + s.pending.length) := by
  rw [roundF_eq]
  have h1 := rec_t3 h
  have hx := rec_gather h1 freeOracle (pick (t3 s))
  obtain ⟨tl1, tl2⟩ := t3_lengths s
  have g := gather_prel (t3 s) freeOracle (pick (t3 s))
  have hpost := t3_post s h.live.seq (by have := h.live.small; omega) h.pr h.adv
  have hfl := t3_flagged s
  generalize t3 s = s1 at *
  have hxsm : (gather s1 freeOracle (pick s1)).1.inflight.length < 2^31 := by have := hx.live.small; omega
  have hlen := sack_len_le (gather s1 freeOracle (pick s1)).1 (faithfulCum (gather s1 freeOracle (pick s1)).1 (gather s1 freeOracle (pick s1)).2) arwnd [] []
  refine ⟨rec_sack hx _ arwnd [] [], ?_, ?_⟩
  · rw [sack_pending]
    have := g.1
    rw [tl2] at this
    omega
  · intro hpos
    -- the peer can acknowledge at least the head of the queue
    have hk1 : 1 ≤ reach (gather s1 freeOracle (pick s1)).1 (gather s1 freeOracle (pick s1)).2 0 (gather s1 freeOracle (pick s1)).1.inflight := by
      obtain ⟨c0, r, e1, hc0⟩ := gather_head_first s1 h1.live h1.fit (fun _ => hfl) (pick s1) (hp s1) (by rw [tl1, tl2]; exact hpos)
      rw [e1]
      apply reach_pos
      rcases hc0 with hacked | ⟨f, rest, hq, hab⟩ | ⟨e, rest', hw, het⟩
      · rw [hacked]; simp
      · -- abandoned: T3 moved the advanced peer ack point over it and raised the flag; this gather sends the FORWARD-TSN
        have hd : 1 ≤ (s1.advPeerAck - s1.cumAck).toNat := by
          rcases Nat.eq_zero_or_pos (s1.advPeerAck - s1.cumAck).toNat with h0 | h0
          · exfalso
            have h00 : (s1.advPeerAck + 1 - (s1.cumAck + 1)).toNat = 0 := by rw [adv_offset, h0]
            have hget := get_of_lt h1.live.seq.1 (show (s1.advPeerAck + 1 - (s1.cumAck + 1)).toNat < s1.inflight.length by rw [h00, hq]; simp)
            have := hpost.max _ _ hget
            have hf0 : s1.inflight[(s1.advPeerAck + 1 - (s1.cumAck + 1)).toNat]'(by rw [h00, hq]; simp) = f := by
              simp only [h00, hq]; rfl
            rw [hf0, hab] at this
            cases this
          · exact h0
        have hle := h1.adv.le
        have hs1sm : s1.inflight.length < 2^31 := by have := h1.live.small; omega
        have hgt : sna32GT s1.advPeerAck s1.cumAck = true := by
          simp only [sna32GT, Bool.or_eq_true, Bool.and_eq_true, decide_eq_true_eq]
          bv_omega
        have hfwd := ((gather_fwd s1 freeOracle (pick s1) h1.live.est).1).mpr ⟨hpost.flag hgt, hgt, Or.inr h1.pr⟩
        have hgr := gather_grel s1 freeOracle (pick s1)
        rw [hfwd, hgr.2.2.1, hgr.2.2.2.1]
        have : decide (0 < (s1.advPeerAck - s1.cumAck).toNat) = true := decide_eq_true (by omega)
        rw [this]; simp
      · have hc : (sentTsns (gather s1 freeOracle (pick s1)).2).contains c0.tsn = true := by
          simp only [sentTsns, hw, List.map_cons, ← het]; simp
        rw [hc]; simp
    have hkl := reach_le (gather s1 freeOracle (pick s1)).1 (gather s1 freeOracle (pick s1)).2 0 (gather s1 freeOracle (pick s1)).1.inflight
    obtain ⟨plt, pv⟩ := prefix_sack_ok (gather s1 freeOracle (pick s1)).1 hx.live.seq hxsm _ hk1 hkl
    obtain ⟨_, k, hk, hlen', _, _⟩ := sack_ack_progress (gather s1 freeOracle (pick s1)).1 (faithfulCum (gather s1 freeOracle (pick s1)).1 (gather s1 freeOracle (pick s1)).2) arwnd [] []
      hx.live.seq hxsm hx.live.win.cfgOk hx.live.core hx.live.est plt pv
    rw [sack_pending]
    have := g.1
    rw [tl2] at this
    omega

/-- **the faithful rounds drain everything**: `in-flight + pending` rounds suffice (one chunk per round at worst) -/
theorem roundsF_drain (pick : St → List Nat) (arwnd : BitVec 32) (hp : PickOk pick) (n : Nat) (s : St) (h : Rec s)
    (hn : s.inflight.length + s.pending.length ≤ n) :
    Rec (roundsF pick arwnd n s) ∧ (roundsF pick arwnd n s).inflight = [] ∧ (roundsF pick arwnd n s).pending = [] := by
  induction n generalizing s with
  | zero =>
    simp only [roundsF]
    exact ⟨h, List.eq_nil_of_length_eq_zero (by omega), List.eq_nil_of_length_eq_zero (by omega)⟩
  | succ n ih =>
    obtain ⟨r1, r2, r3⟩ := roundF_progress pick arwnd hp s h
    simp only [roundsF]
    apply ih _ r1
    rcases Nat.eq_zero_or_pos (s.inflight.length + s.pending.length) with h0 | h0
    · omega
    · have := r3 h0; omega

end SenderProofs
