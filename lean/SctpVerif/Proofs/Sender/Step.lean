import SctpVerif.Proofs.Sender.QueueRel
/-! The sender as a transition system of atomic changes: each rule is one group of assignments the code makes, with the
guards of its branch as hypotheses and the successor as a record update; the loops of `gather` / `sack` / `t3` / `tick`
are flattened into sequences (`Star`). The rules come in layers, so that what an operation can NOT do is visible as
well: `Flag` (transmission bookkeeping, read by no accounting fact), `Abandon` (messages given up by partial reliability),
`New` (new DATA), `Ack` (`processAcknowledgement` with the peer-window update) and `Api` (the calls of the application).
`t3` and `tick` are `Star Flag`, `gather` is `Star (Flag ∨ Abandon ∨ New)`, `sack` is nothing or one `Ack` followed by
`Star Flag`. An invariant is
proved by one case analysis over the rules (`Star.rule`, `run_rule`), a reflexive and transitive relation between states
likewise (`Star.rel`). -/
namespace SenderProofs
open Gen Sender

/-- bookkeeping of retransmission, fast recovery and partial reliability -/
inductive Flag : St → St → Prop
  | clock (s : St) (ms : Nat) : Flag s { s with now := s.now + ms }
  /-- the in-flight chunks rewritten in their transmission bookkeeping, `retransmit` raised on un-acknowledged chunks only -/
  | flags (s : St) (q' : List Chunk) (h : Pt Fl s.inflight q') : Flag s { s with inflight := q' }
  | fr (s : St) (fr wrf : Bool) (ep pba : BitVec 32) :
      Flag s { s with inFastRecovery := fr, willRetransmitFast := wrf, fastRecoverExitPoint := ep, partialBytesAcked := pba }
  | adv (s : St) (a : BitVec 32) (w : Bool) : Flag s { s with advPeerAck := a, willSendForwardTSN := w }
  | enterFR (s : St) (htna : BitVec 32) (h : s.inFastRecovery = false) :
      Flag s { s with inFastRecovery := true, fastRecoverExitPoint := htna, ssthresh := fastRecovery_ssthresh s.cwnd s.cfg.mtu,
                      cwnd := setCwnd s (fastRecovery_cwndArg (fastRecovery_ssthresh s.cwnd s.cfg.mtu)), partialBytesAcked := 0,
                      willRetransmitFast := true }
  | t3cc (s : St) : Flag s { s with ssthresh := t3_ssthresh s.cwnd s.cfg.mtu, cwnd := setCwnd s (t3_cwndArg s.cfg.mtu) }

/-- `checkPartialReliabilityStatus` in the retransmission scans: it only adds -/
inductive Abandon : St → St → Prop
  | abandon (s : St) (ab : List Nat) (h : ∀ m ∈ s.abandonedMsgs, m ∈ ab) : Abandon s { s with abandonedMsgs := ab }

/-- what `popPendingDataChunksToSend` does with one pending chunk -/
inductive New : St → St → Prop
  | drop (s : St) (i : Nat) (c : Chunk) (hp : s.pending[i]? = some c) (hz : (BitVec.ofNat 32 c.len == 0) = true) : New s (popPend s i c)
  /-- the chunk passed the cwnd and rwnd tests: charged against the peer window and moved to in flight -/
  | admit (s : St) (i : Nat) (c : Chunk) (hp : s.pending[i]? = some c) (hz : (BitVec.ofNat 32 c.len == 0) = false)
      (hc : popPending_exceedsCwnd s.infBytes (BitVec.ofNat 32 c.len) s.cwnd = false)
      (hr : popPending_exceedsRwnd (BitVec.ofNat 32 c.len) s.rwnd = false) : New s (admitChunk s i c).1
  /-- the zero-window probe: nothing in flight -/
  | admitProbe (s : St) (i : Nat) (c : Chunk) (hp : s.pending[i]? = some c) (h0 : s.inflight.length = 0) : New s (admitProbe s i c).1

/-- `processAcknowledgement` of a validated SACK that is not stale, then the peer-window update. One rule: between the two
the peer-window invariant does not hold. -/
inductive Ack : St → St → Prop
  | ack (s : St) (cum arwnd : BitVec 32) (gaps : List (BitVec 16 × BitVec 16)) (r : St × BitVec 32 × Bool)
      (hst : sna32GT s.cumAck cum = false) (hv : validate s cum gaps = true) (h : ackPhase s cum gaps = some r) :
      Ack s (setPeerWindow r.1 arwnd)

/-- the fields the acknowledgement rule may write -/
theorem Ack.only {a b : St} (m : Ack a b) : ∃ q ib fr ca cw pba ww str cl rw la,
    b = { a with inflight := q, infBytes := ib, inFastRecovery := fr, cumAck := ca, cwnd := cw, partialBytesAcked := pba,
                 wrapWin := ww, streams := str, clamped := cl, rwnd := rw, lastArwnd := la } := by
  cases m with
  | ack cum arwnd gaps r hst hv h =>
    obtain ⟨q, ib, fr, ca, cw, pba, ww, str, cl, e⟩ := ackPhase_only h
    rw [e]; exact ⟨_, _, _, _, _, _, _, _, _, _, _, rfl⟩

/-- the calls of the application and the association state -/
inductive Api : St → St → Prop
  /-- `OpenStream` / `delete(a.streams, si)`: a stream object replaced -/
  | stream (s : St) (si : BitVec 16) (st : Stream) : Api s (setStream s si st)
  | est (s : St) (b : Bool) : Api s { s with established := b }
  /-- an accepted `WriteSCTP` -/
  | queue (s : St) (si : BitVec 16) (st : Stream) (ppi : BitVec 32) (len : Nat) (hs : s.streams si = some st)
      (hmp : s.cfg.maxPayload ≠ 0) (hlen : len ≤ s.cfg.maxMessageSize.toNat) (he : s.established = true) :
      Api s (pushPending { setStream s si (packetize s.cfg st si s.nextMsg ppi len).st with
        nextMsg := s.nextMsg + 1, wrapBuf := s.wrapBuf || (packetize s.cfg st si s.nextMsg ppi len).wrap }
        (packetize s.cfg st si s.nextMsg ppi len).chunks)
  /-- a `WriteSCTP` rolled back: the message identity stays consumed -/
  | consume (s : St) (wb : Bool) : Api s { s with nextMsg := s.nextMsg + 1, wrapBuf := s.wrapBuf || wb }

/-- one atomic change of any layer -/
inductive Atom : St → St → Prop
  | flag {a b : St} : Flag a b → Atom a b
  | abandon {a b : St} : Abandon a b → Atom a b
  | new {a b : St} : New a b → Atom a b
  | ack {a b : St} : Ack a b → Atom a b
  | api {a b : St} : Api a b → Atom a b

/-- sequences of `R`-changes -/
inductive Star (R : St → St → Prop) : St → St → Prop
  | refl (s : St) : Star R s s
  | tail {a b c : St} : Star R a b → R b c → Star R a c

theorem Star.one {R : St → St → Prop} {a b : St} (m : R a b) : Star R a b := .tail (.refl a) m

theorem Star.trans {R : St → St → Prop} {a b c : St} (h1 : Star R a b) (h2 : Star R b c) : Star R a c := by
  induction h2 with
  | refl => exact h1
  | tail _ m ih => exact ih.tail m

theorem Star.mono {R R' : St → St → Prop} (hR : ∀ a b, R a b → R' a b) {s s' : St} (h : Star R s s') : Star R' s s' := by
  induction h with
  | refl => exact .refl _
  | tail _ m ih => exact ih.tail (hR _ _ m)

/-- what every rule keeps, every sequence keeps -/
theorem Star.rule {R : St → St → Prop} {P : St → Prop} (hP : ∀ a b, R a b → P a → P b) {s s' : St} (h : Star R s s') (h0 : P s) : P s' := by
  induction h with
  | refl => exact h0
  | tail _ m ih => exact hP _ _ m ih

/-- a reflexive and transitive relation that contains every rule contains every sequence -/
theorem Star.rel {R Q : St → St → Prop} (hr : ∀ s, Q s s) (ht : ∀ a b c, Q a b → Q b c → Q a c) (hQ : ∀ a b, R a b → Q a b)
    {s s' : St} (h : Star R s s') : Q s s' :=
  h.rule (P := Q s) (fun a b m hq => ht s a b hq (hQ a b m)) (hr s)

/-! ### the bookkeeping passes -/

/-- a retransmission scan rewrites transmission bookkeeping and may abandon messages -/
theorem scan_star {B : Type} (s : St) (dec : Int → LoopAcc B → Chunk → Take B) (upd : Chunk → Chunk)
    (hupd : ∀ c, Fl c (upd c)) (a : LoopAcc B) (ha : a.aband = s.abandonedMsgs) :
    Star (fun a b => Flag a b ∨ Abandon a b) s
      { s with inflight := (scanSplit s).1 ++ (scanLoop s dec upd 0 (scanSplit s).2 a).1,
               abandonedMsgs := (scanLoop s dec upd 0 (scanSplit s).2 a).2.aband } := by
  have h1 : Star (fun a b => Flag a b ∨ Abandon a b) s { s with abandonedMsgs := (scanLoop s dec upd 0 (scanSplit s).2 a).2.aband } :=
    .one (.inr (.abandon s _ (fun m hm => scanLoop_aband_mono s dec upd 0 _ a m (ha ▸ hm))))
  exact h1.tail (.inl (.flags { s with abandonedMsgs := _ } _ (scan_fl s s dec upd hupd a rfl)))

theorem gatherRtx_star (s : St) (orc : Oracle) : Star (fun a b => Flag a b ∨ Abandon a b) s (gatherRtx s orc).1 :=
  scan_star s _ (rtxUpd s) (rtxUpd_fl s) _ rfl

theorem gatherFast_star {B : Type} (s : St) (allow : B → Int → Bool × B) (b : B) :
    Star (fun a b => Flag a b ∨ Abandon a b) s (gatherFast s allow b).1 := by
  unfold gatherFast
  split
  · exact .refl s
  · exact (Star.one (.inl (.fr s _ false _ _))).trans (scan_star { s with willRetransmitFast := false } _ (fastUpd _) (fastUpd_fl _) _ rfl)

theorem fastRetransCheck_star (s : St) (cum : BitVec 32) (gaps : List (BitVec 16 × BitVec 16)) (htna : BitVec 32) (adv : Bool) :
    Star Flag s (fastRetransCheck s cum gaps htna adv).1 :=
  fastRetransCheck_rule (P := Star Flag s) htna
    (fun y _ _ h hq _ => h.tail (.flags y _ (Pt.set Fl.refl hq ⟨rfl, Or.inl⟩)))
    (fun y h hfr => h.tail (.enterFR y htna hfr)) (fun y h => h.tail (.fr y _ true _ _)) s cum gaps adv (.refl s)

theorem prStep_star (s : St) : Star Flag s (prStep s) := by
  obtain ⟨a, w, e⟩ := prStep_only s
  rw [e]; exact .one (.adv s a w)

theorem applyMarks_star (s : St) (marks : List (BitVec 32)) : Star Flag s (applyMarks s marks) :=
  .one (.flags s _ (applyMarks_fl s marks))

theorem t3_star (s : St) : Star Flag s (t3 s) := by
  obtain ⟨x, a, w, fr, wf, ep, pba, e, rfl⟩ := t3_shape s
  rw [e]
  exact (((Star.one (.t3cc s)).tail (.fr _ fr wf ep pba)).tail (.adv _ a w)).tail (.flags _ _ (markAll_fl _))

theorem iter_t3_star (n : Nat) (s : St) : Star Flag s (iter t3 n s) := by
  induction n generalizing s with
  | zero => exact .refl s
  | succ n ih => exact (t3_star s).trans (ih (t3 s))

theorem tick_star (s : St) (ms n : Nat) (marks : List (BitVec 32)) : Star Flag s (step s (.tick ms n marks)) :=
  ((Star.one (.clock s ms)).trans (iter_t3_star n _)).trans (applyMarks_star _ marks)

/-! ### the composite operations -/

/-- `handleSack`: nothing, or `processAcknowledgement` with the peer-window update, then bookkeeping only -/
theorem sack_star (s : St) (cum arwnd : BitVec 32) (gaps : List (BitVec 16 × BitVec 16)) (marks : List (BitVec 32)) :
    (sack s cum arwnd gaps marks).1 = s ∨ ∃ r, ackPhase s cum gaps = some r ∧ sna32GT s.cumAck cum = false ∧ validate s cum gaps = true ∧
      Star Flag (setPeerWindow r.1 arwnd) (sack s cum arwnd gaps marks).1 := by
  rcases sack_shape s cum arwnd gaps marks with e | ⟨r, ha, hst, hv, e⟩
  · exact .inl e
  · refine .inr ⟨r, ha, hst, hv, ?_⟩
    have h1 := fastRetransCheck_star (setPeerWindow r.1 arwnd) cum gaps r.2.1 r.2.2
    rcases e with e | e <;> rw [e]
    · exact h1
    · exact (h1.trans (prStep_star _)).trans (applyMarks_star _ marks)

theorem gatherNew_new {B : Type} (s : St) (allow : B → Int → Bool × B) (b : B) (sel : List Nat) : Star New s (gatherNew s allow b sel).1 := by
  unfold gatherNew
  split
  · refine probe_rule allow (fun x _ => Star New s x) (fun _ _ _ h => h) (fun x i c _ _ h hp _ h0 _ => h.tail (.admitProbe x i c hp h0)) _ _ _ ?_
    exact popLoop_rule allow (fun x _ => Star New s x) (fun x i c _ h hp hz => h.tail (.drop x i c hp hz)) (fun _ _ _ h => h)
      (fun x i c a _ _ h hp hz hd => h.tail (.admit x i c hp hz (popDecide_take x allow a c hd).1 (popDecide_take x allow a c hd).2))
      _ _ _ _ (.refl s)
  · exact .refl s

/-- `gatherOutbound`: bookkeeping, abandonment and new DATA only — no acknowledgement processing, no stream object, no
message counter -/
theorem gather_star (s : St) (orc : Oracle) (sel : List Nat) :
    Star (fun a b => Flag a b ∨ Abandon a b ∨ New a b) s (gather s orc sel).1 := by
  unfold gather
  split
  · exact .refl s
  · exact ((((gatherRtx_star s orc).mono (fun _ _ m => m.elim .inl (.inr ∘ .inl))).trans
      ((gatherNew_new _ orc.allow _ sel).mono (fun _ _ m => .inr (.inr m)))).trans
      ((gatherFast_star _ orc.allow _).mono (fun _ _ m => m.elim .inl (.inr ∘ .inl)))).tail (.inl (.adv _ _ false))

theorem write_api (s : St) (si : BitVec 16) (ppi : BitVec 32) (len : Nat) : Star Api s (write s si ppi len).1 := by
  rcases write_eq s si ppi len with ⟨e, _⟩ | ⟨st, hs, hlen, _, hmp, ⟨he, _, e⟩ | ⟨_, _, e⟩⟩ <;> rw [e]
  · exact .refl s
  · exact .one (.queue s si st ppi len hs hmp hlen he)
  · exact .one (.consume s _)

theorem step_star (s : St) (op : Op) : Star Atom s (step s op) := by
  cases op with
  | openS si u rt rv th => exact .one (.api (.stream s si _))
  | unreg si =>
    simp only [step, unregister]
    split
    · exact .refl s
    · exact .one (.api (.stream s si _))
  | setEstablished b => exact .one (.api (.est s b))
  | write si ppi len => exact (write_api s si ppi len).mono (fun _ _ => .api)
  | gather orc sel => exact (gather_star s orc sel).mono (fun _ _ m => m.elim .flag (·.elim .abandon .new))
  | sack cum arwnd gaps marks =>
    rcases sack_star s cum arwnd gaps marks with e | ⟨r, ha, hst, hv, h⟩
    · rw [step, e]; exact .refl s
    · exact (Star.one (.ack (.ack s cum arwnd gaps r hst hv ha))).trans (h.mono (fun _ _ => .flag))
  | t3 => exact (t3_star s).mono (fun _ _ => .flag)
  | tick ms n marks => exact (tick_star s ms n marks).mono (fun _ _ => .flag)

theorem run_star (s : St) (ops : List Op) : Star Atom s (run s ops) := by
  induction ops generalizing s with
  | nil => exact .refl s
  | cons op ops ih => exact (step_star s op).trans (ih (step s op))

/-- an invariant that every atomic change keeps holds along every run -/
theorem run_rule {P : St → Prop} (hP : ∀ a b, Atom a b → P a → P b) (s : St) (ops : List Op) (h : P s) : P (run s ops) :=
  (run_star s ops).rule hP h

end SenderProofs
