import SctpVerif.Proofs.Rack.Marks
import SctpVerif.Proofs.Sna
/-!
Shift invariance of the RACK / PTO / TLR model: adding a constant `k` to every TSN of the state and of the inputs
commutes with every function, and outputs (marked TSNs) are shifted by `k`. `tlrEndTSN` is a TSN only during an episode
(`tlrMaybeFinishLocked` resets it to the literal 0), so it is shifted only while `tlrActive`.
-/
namespace Rack
open Gen

def shC (k : BitVec 32) (c : Chunk) : Chunk := { c with tsn := c.tsn + k }

/-- `k` during a TLR episode, 0 otherwise (not an `if`: the case-splitting tactics below leave it alone) -/
def actK (b : Bool) (k : BitVec 32) : BitVec 32 := cond b k 0

@[simp] theorem actK_true (k : BitVec 32) : actK true k = k := rfl
@[simp] theorem actK_false (k : BitVec 32) : actK false k = 0 := rfl

def shSt (k : BitVec 32) (s : St) : St :=
  { s with q := s.q.map (shC k), cumAck := s.cumAck + k, myNextTSN := s.myNextTSN + k, minTSN2MeasureRTT := s.minTSN2MeasureRTT + k,
           list := s.list.map (· + k), hw := s.hw + k, tlrEndTSN := s.tlrEndTSN + actK s.tlrActive k }

@[simp] theorem shSt_cfg (k : BitVec 32) (s : St) : (shSt k s).cfg = s.cfg := rfl
@[simp] theorem shSt_now (k : BitVec 32) (s : St) : (shSt k s).now = s.now := rfl
@[simp] theorem shSt_q (k : BitVec 32) (s : St) : (shSt k s).q = s.q.map (shC k) := rfl
@[simp] theorem shSt_cumAck (k : BitVec 32) (s : St) : (shSt k s).cumAck = s.cumAck + k := rfl
@[simp] theorem shSt_myNextTSN (k : BitVec 32) (s : St) : (shSt k s).myNextTSN = s.myNextTSN + k := rfl
@[simp] theorem shSt_minTSN2MeasureRTT (k : BitVec 32) (s : St) : (shSt k s).minTSN2MeasureRTT = s.minTSN2MeasureRTT + k := rfl
@[simp] theorem shSt_list (k : BitVec 32) (s : St) : (shSt k s).list = s.list.map (· + k) := rfl
@[simp] theorem shSt_reoWnd (k : BitVec 32) (s : St) : (shSt k s).reoWnd = s.reoWnd := rfl
@[simp] theorem shSt_minRTT (k : BitVec 32) (s : St) : (shSt k s).minRTT = s.minRTT := rfl
@[simp] theorem shSt_minWnd (k : BitVec 32) (s : St) : (shSt k s).minWnd = s.minWnd := rfl
@[simp] theorem shSt_deliveredTime (k : BitVec 32) (s : St) : (shSt k s).deliveredTime = s.deliveredTime := rfl
@[simp] theorem shSt_hw (k : BitVec 32) (s : St) : (shSt k s).hw = s.hw + k := rfl
@[simp] theorem shSt_reorderingSeen (k : BitVec 32) (s : St) : (shSt k s).reorderingSeen = s.reorderingSeen := rfl
@[simp] theorem shSt_keepInflated (k : BitVec 32) (s : St) : (shSt k s).keepInflated = s.keepInflated := rfl
@[simp] theorem shSt_rackDeadline (k : BitVec 32) (s : St) : (shSt k s).rackDeadline = s.rackDeadline := rfl
@[simp] theorem shSt_ptoDeadline (k : BitVec 32) (s : St) : (shSt k s).ptoDeadline = s.ptoDeadline := rfl
@[simp] theorem shSt_tlrActive (k : BitVec 32) (s : St) : (shSt k s).tlrActive = s.tlrActive := rfl
@[simp] theorem shSt_tlrFirstRTT (k : BitVec 32) (s : St) : (shSt k s).tlrFirstRTT = s.tlrFirstRTT := rfl
@[simp] theorem shSt_tlrHadAdditionalLoss (k : BitVec 32) (s : St) : (shSt k s).tlrHadAdditionalLoss = s.tlrHadAdditionalLoss := rfl
@[simp] theorem shSt_tlrEndTSN (k : BitVec 32) (s : St) : (shSt k s).tlrEndTSN = s.tlrEndTSN + actK s.tlrActive k := rfl
@[simp] theorem shSt_tlrBurstFirst (k : BitVec 32) (s : St) : (shSt k s).tlrBurstFirst = s.tlrBurstFirst := rfl
@[simp] theorem shSt_tlrBurstLater (k : BitVec 32) (s : St) : (shSt k s).tlrBurstLater = s.tlrBurstLater := rfl
@[simp] theorem shSt_tlrGoodOps (k : BitVec 32) (s : St) : (shSt k s).tlrGoodOps = s.tlrGoodOps := rfl
@[simp] theorem shSt_tlrStartTime (k : BitVec 32) (s : St) : (shSt k s).tlrStartTime = s.tlrStartTime := rfl
@[simp] theorem shSt_hbProbes (k : BitVec 32) (s : St) : (shSt k s).hbProbes = s.hbProbes := rfl

@[simp] theorem shC_tsn (k : BitVec 32) (c : Chunk) : (shC k c).tsn = c.tsn + k := rfl
@[simp] theorem shC_since (k : BitVec 32) (c : Chunk) : (shC k c).since = c.since := rfl
@[simp] theorem shC_nSent (k : BitVec 32) (c : Chunk) : (shC k c).nSent = c.nSent := rfl
@[simp] theorem shC_acked (k : BitVec 32) (c : Chunk) : (shC k c).acked = c.acked := rfl
@[simp] theorem shC_abandoned (k : BitVec 32) (c : Chunk) : (shC k c).abandoned = c.abandoned := rfl
@[simp] theorem shC_retransmit (k : BitVec 32) (c : Chunk) : (shC k c).retransmit = c.retransmit := rfl

theorem add_right_inj' (a b k : BitVec 32) : a + k = b + k ↔ a = b := BitVec.add_left_inj k

theorem find_shift (k : BitVec 32) (q : List Chunk) (t : BitVec 32) :
    find (q.map (shC k)) (t + k) = (find q t).map (shC k) := by
  induction q with
  | nil => simp [find]
  | cons c q ih =>
    simp only [List.map_cons, find_cons, shC_tsn, Sna.beq_add_right]
    by_cases h : (c.tsn == t) = true
    · rw [if_pos h, if_pos h, Option.map_some]
    · rw [if_neg h, if_neg h]; exact ih

theorem modify_shift (k : BitVec 32) (q : List Chunk) (t : BitVec 32) (g : Chunk → Chunk)
    (hg : ∀ c, g (shC k c) = shC k (g c)) :
    modify (q.map (shC k)) (t + k) g = (modify q t g).map (shC k) := by
  simp only [modify, List.map_map]
  apply List.map_congr_left
  intro c _
  simp only [Function.comp, shC_tsn, Sna.beq_add_right]
  split
  · exact hg c
  · rfl

theorem get_shift (k : BitVec 32) (q : List Chunk) (t : BitVec 32) :
    get (q.map (shC k)) (t + k) = (get q t).map (shC k) := by
  cases q with
  | nil => simp [get]
  | cons f r =>
    simp only [get, List.map_cons, shC_tsn, Sna.sub_shift32, List.length_cons, List.length_map]
    split
    · rfl
    · rw [← List.map_cons, List.getElem?_map]

theorem scanFrom_shift (k : BitVec 32) (q : List Chunk) (t : BitVec 32) :
    scanFrom (q.map (shC k)) (t + k) = (scanFrom q t).map (shC k) := by
  cases q with
  | nil => simp [scanFrom]
  | cons f r =>
    simp only [scanFrom, List.map_cons, shC_tsn, Sna.sub_shift32]
    rw [← List.map_cons, List.map_drop]

theorem filter_ne_shift (k : BitVec 32) (l : List (BitVec 32)) (t : BitVec 32) :
    (l.map (· + k)).filter (· != t + k) = (l.filter (· != t)).map (· + k) := by
  rw [List.filter_map]
  congr 1
  apply List.filter_congr
  intro x _
  simp only [Function.comp, bne, Sna.beq_add_right]

/-- rewrite the projections of a shifted state -/
macro "shproj" : tactic => `(tactic| simp only [shSt_cfg, shSt_now, shSt_q, shSt_cumAck, shSt_myNextTSN, shSt_minTSN2MeasureRTT, shSt_list, shSt_reoWnd, shSt_minRTT, shSt_minWnd, shSt_deliveredTime, shSt_hw, shSt_reorderingSeen, shSt_keepInflated, shSt_rackDeadline, shSt_ptoDeadline, shSt_tlrActive, shSt_tlrFirstRTT, shSt_tlrHadAdditionalLoss, shSt_tlrEndTSN, shSt_tlrBurstFirst, shSt_tlrBurstLater, shSt_tlrGoodOps, shSt_tlrStartTime, shSt_hbProbes, List.length_map, List.isEmpty_map])

/-- `f (shSt k s) = shSt k (f s)` for a function that is conditionals over record updates and reads no TSN -/
macro "shcomm" k:term : tactic => `(tactic| (shproj; (try simp only [apply_ite (shSt $k)]); rfl))

theorem rackInsert_shift (k : BitVec 32) (s : St) (t : BitVec 32) :
    rackInsert (shSt k s) (t + k) = shSt k (rackInsert s t) := by
  unfold rackInsert
  simp only [shSt_list, Sna.contains_map_add_right]
  split
  · rfl
  · simp [shSt]

theorem rackRemove_shift (k : BitVec 32) (s : St) (t : BitVec 32) :
    rackRemove (shSt k s) (t + k) = shSt k (rackRemove s t) := by
  unfold rackRemove
  simp only [shSt_list, filter_ne_shift]
  simp [shSt]

theorem startRackTimer_shift (k : BitVec 32) (s : St) (d : Int) : startRackTimer (shSt k s) d = shSt k (startRackTimer s d) := by
  unfold startRackTimer; shcomm k
theorem stopRackTimer_shift (k : BitVec 32) (s : St) : stopRackTimer (shSt k s) = shSt k (stopRackTimer s) := rfl
theorem startPTOTimer_shift (k : BitVec 32) (s : St) (d : Int) : startPTOTimer (shSt k s) d = shSt k (startPTOTimer s d) := by
  unfold startPTOTimer; shcomm k
theorem stopPTOTimer_shift (k : BitVec 32) (s : St) : stopPTOTimer (shSt k s) = shSt k (stopPTOTimer s) := rfl

theorem tlrUpdatePhase_shift (k : BitVec 32) (s : St) (env : Env) (t : Int) :
    tlrUpdatePhase (shSt k s) env t = shSt k (tlrUpdatePhase s env t) := by
  unfold tlrUpdatePhase; shcomm k

theorem tlrApplyAdditionalLoss_shift (k : BitVec 32) (s : St) (env : Env) (t : Int) :
    tlrApplyAdditionalLoss (shSt k s) env t = shSt k (tlrApplyAdditionalLoss s env t) := by
  unfold tlrApplyAdditionalLoss
  rw [tlrUpdatePhase_shift]
  dsimp only
  simp only [apply_ite (shSt k)]
  rfl

theorem tlrBudgetScaled_shift (k : BitVec 32) (s : St) (env : Env) :
    tlrBudgetScaled (shSt k s) env = (shSt k (tlrBudgetScaled s env).1, (tlrBudgetScaled s env).2) := by
  unfold tlrBudgetScaled tlrCurrentBurstUnits
  rw [tlrUpdatePhase_shift]
  shproj
  by_cases h : s.tlrActive = true
  · simp only [h, Bool.not_true, Bool.false_eq_true, ↓reduceIte]; rfl
  · simp only [h, Bool.not_false, ↓reduceIte]

theorem schedulePTOAfterSend_shift (k : BitVec 32) (s : St) (env : Env) :
    schedulePTOAfterSend (shSt k s) env = shSt k (schedulePTOAfterSend s env) := by
  unfold schedulePTOAfterSend
  shproj
  split
  · rfl
  · exact startPTOTimer_shift _ _ _

theorem schedulePTOAfterSack_shift (k : BitVec 32) (s : St) (env : Env) :
    schedulePTOAfterSack (shSt k s) env = shSt k (schedulePTOAfterSack s env) := by
  unfold schedulePTOAfterSack
  shproj
  split
  · rfl
  · exact startPTOTimer_shift _ _ _

theorem reoMinRTT_shift (k : BitVec 32) (s : St) : reoMinRTT (shSt k s) = shSt k (reoMinRTT s) := rfl

theorem reoInit_shift (k : BitVec 32) (s : St) (env : Env) : reoInit (shSt k s) env = shSt k (reoInit s env) := by
  unfold reoInit reoBase; shcomm k

theorem reoInflate_shift (k : BitVec 32) (s : St) (nd : Int) : reoInflate (shSt k s) nd = shSt k (reoInflate s nd) := by
  unfold reoInflate; shcomm k

theorem reoKeep_shift (k : BitVec 32) (s : St) (env : Env) : reoKeep (shSt k s) env = shSt k (reoKeep s env) := by
  unfold reoKeep; dsimp only; shcomm k

theorem reoClamp_shift (k : BitVec 32) (s : St) (env : Env) : reoClamp (shSt k s) env = shSt k (reoClamp s env) := by
  unfold reoClamp; shcomm k

theorem rackReoWnd_shift (k : BitVec 32) (s : St) (env : Env) (nd : Int) :
    rackReoWnd (shSt k s) env nd = shSt k (rackReoWnd s env nd) := by
  unfold rackReoWnd
  rw [reoMinRTT_shift, reoInit_shift, reoInflate_shift, reoKeep_shift, reoClamp_shift]

theorem rackArm_shift (k : BitVec 32) (s : St) : rackArm (shSt k s) = shSt k (rackArm s) := by
  unfold rackArm
  shproj
  split
  · exact startRackTimer_shift _ _ _
  · rfl

theorem rackHw_shift (k : BitVec 32) (s : St) (t : BitVec 32) : rackHw (shSt k s) (t + k) = shSt k (rackHw s t) := by
  unfold rackHw rack_hwAdvances
  simp only [shSt_hw, Sna.lt32_shift, apply_ite (shSt k)]
  rfl

theorem rackNewer_shift (k : BitVec 32) (s : St) (nt : Int) : rackNewer (shSt k s) nt = shSt k (rackNewer s nt) := by
  unfold rackNewer; shcomm k

/-- the TSN argument is looked at only when something was found -/
theorem rackDelivered_shift (k : BitVec 32) (s : St) (f : Bool) (nt : Int) (t t' : BitVec 32) (h : f = true → t' = t + k) :
    rackDelivered (shSt k s) f nt t' = shSt k (rackDelivered s f nt t) := by
  cases f
  · rfl
  · rw [h rfl]
    unfold rackDelivered
    rw [rackHw_shift, rackNewer_shift]
    rfl

theorem tlr_scanTSN_shift (c i k : BitVec 32) : tlr_scanTSN (c + k) i = tlr_scanTSN c i + k := by
  unfold tlr_scanTSN; bv_omega

theorem pto_scanTSN_shift (c i k : BitVec 32) : pto_scanTSN (c + k) i = pto_scanTSN c i + k := by
  unfold pto_scanTSN; bv_omega

theorem tlrHighestOutstanding_shift (k : BitVec 32) (s : St) :
    tlrHighestOutstanding (shSt k s) = (tlrHighestOutstanding s).map (· + k) := by
  unfold tlrHighestOutstanding
  simp only [shSt_q, shSt_cumAck, tlr_scanTSN_shift, scanFrom_shift, List.length_map]
  split <;> simp

theorem tlrBegin_shift (k : BitVec 32) (s : St) : tlrBegin (shSt k s) = shSt k (tlrBegin s) := by
  unfold tlrBegin
  rw [tlrHighestOutstanding_shift]
  cases h : tlrHighestOutstanding s <;> simp [shSt]

theorem tlrLeaveFirst_shift (k : BitVec 32) (s : St) (p : Bool) : tlrLeaveFirst (shSt k s) p = shSt k (tlrLeaveFirst s p) := by
  unfold tlrLeaveFirst; shcomm k

theorem tlrScore_shift (k : BitVec 32) (s : St) : tlrScore (shSt k s) = shSt k (tlrScore s) := by
  unfold tlrScore; shcomm k

theorem tlrEnd_shift (k : BitVec 32) (s : St) : tlrEnd (shSt k s) = shSt k (tlrEnd s) := by
  unfold tlrEnd
  rw [tlrScore_shift]
  simp [shSt]

theorem tlrMaybeFinish_shift (k : BitVec 32) (s : St) (p : Bool) :
    tlrMaybeFinish (shSt k s) p = shSt k (tlrMaybeFinish s p) := by
  unfold tlrMaybeFinish tlrFinish_done
  rw [tlrLeaveFirst_shift, tlrEnd_shift]
  by_cases ha : s.tlrActive = true
  · simp only [shSt_tlrActive, ha, Bool.not_true, Bool.false_eq_true, ↓reduceIte, shSt_cumAck, shSt_tlrEndTSN, actK_true,
      Sna.gte32_shift, apply_ite (shSt k)]
  · have ha' : s.tlrActive = false := by simpa using ha
    simp [ha']

def shOut (k : BitVec 32) (r : WalkOut) : WalkOut :=
  { list := r.list.map (· + k), q := r.q.map (shC k), marks := r.marks.map (· + k) }

theorem walk_shift (f : WalkFns) (w d : Int) (k : BitVec 32) :
    ∀ (l : List (BitVec 32)) (q : List Chunk),
      walk f w d (l.map (· + k)) (q.map (shC k)) = shOut k (walk f w d l q) := by
  intro l
  induction l with
  | nil => intro q; simp [walk, shOut]
  | cons t rest ih =>
    intro q
    rw [List.map_cons, walk, walk, find_shift]
    cases hf : find q t with
    | none => simp only [Option.map_none]; exact ih q
    | some c =>
      simp only [Option.map_some, shC_acked, shC_abandoned, shC_retransmit, shC_nSent, shC_since]
      by_cases h1 : f.skipDead c.acked c.abandoned = true
      · simp only [h1, ↓reduceIte]; exact ih q
      · simp only [h1, Bool.false_eq_true, ↓reduceIte]
        by_cases h2 : f.skipResent c.retransmit c.nSent = true
        · simp only [h2, ↓reduceIte, ih q]; rfl
        · simp only [h2, Bool.false_eq_true, ↓reduceIte]
          by_cases h3 : f.tooNew c.since w d = true
          · simp only [h3, ↓reduceIte]; simp [shOut]
          · simp only [h3, Bool.false_eq_true, ↓reduceIte]
            rw [modify_shift k q t (fun c => { c with retransmit := true }) (fun _ => rfl), ih]
            rfl

theorem afterMarks_shift (k : BitVec 32) (s : St) (env : Env) (m : Bool) :
    afterMarks (shSt k s) env m = shSt k (afterMarks s env m) := by
  unfold afterMarks
  simp only [shSt_tlrActive, shSt_now, tlrApplyAdditionalLoss_shift, apply_ite (shSt k)]

theorem afterWalk_shift (k : BitVec 32) (s : St) (env : Env) (r : WalkOut) :
    afterWalk (shSt k s) env (shOut k r) = shSt k (afterWalk s env r) := by
  unfold afterWalk
  have e : ({ shSt k s with list := (shOut k r).list, q := (shOut k r).q } : St) = shSt k { s with list := r.list, q := r.q } := rfl
  rw [e, afterMarks_shift]
  simp [shOut]

theorem markWith_shift (f : WalkFns) (k : BitVec 32) (s : St) (env : Env) :
    markWith f (shSt k s) env = (shSt k (markWith f s env).1, (markWith f s env).2.map (· + k)) := by
  unfold markWith
  simp only [shSt_deliveredTime, shSt_reoWnd, shSt_list, shSt_q, walk_shift, afterWalk_shift]
  split <;> simp [shOut]

theorem onRackAfterSACK_shift (k : BitVec 32) (s : St) (env : Env) (f : Bool) (nt : Int) (t t' : BitVec 32) (nd : Int)
    (h : f = true → t' = t + k) :
    onRackAfterSACK (shSt k s) env f nt t' nd =
      (shSt k (onRackAfterSACK s env f nt t nd).1, (onRackAfterSACK s env f nt t nd).2.map (· + k)) := by
  unfold onRackAfterSACK
  simp only [rackDelivered_shift k s f nt t t' h, rackReoWnd_shift, rackMark_eq, markWith_shift, rackArm_shift, schedulePTOAfterSack_shift]

theorem ptoTlr_shift (k : BitVec 32) (s : St) (env : Env) : ptoTlr (shSt k s) env = shSt k (ptoTlr s env) := by
  unfold ptoTlr
  simp only [shSt_tlrActive, shSt_now, tlrBegin_shift, tlrApplyAdditionalLoss_shift, apply_ite (shSt k)]

theorem ptoLatest_shift (k : BitVec 32) (s : St) : ptoLatest (shSt k s) = (ptoLatest s).map (shC k) := by
  unfold ptoLatest
  simp only [shSt_q, shSt_cumAck, pto_scanTSN_shift, scanFrom_shift]
  rw [List.filter_map]
  have : ((fun c => !pto_skipDead c.acked c.abandoned) ∘ shC k) = (fun c => !pto_skipDead c.acked c.abandoned) := by
    funext c; rfl
  rw [this, List.getLast?_map]

theorem onPTOTimer_shift (k : BitVec 32) (s : St) (env : Env) :
    onPTOTimer (shSt k s) env = (shSt k (onPTOTimer s env).1, (onPTOTimer s env).2.map (· + k)) := by
  by_cases hq : s.q = []
  · simp [onPTOTimer, pto_idle, hq, shSt, stopPTOTimer]
  · have hq' : (shSt k s).q ≠ [] := by simpa using hq
    rw [onPTOTimer_eq _ env hq', onPTOTimer_eq s env hq, ptoLatest_shift, ptoTlr_shift]
    split
    · rfl
    · cases h : ptoLatest s with
      | none => rfl
      | some c =>
        simp only [Option.map_some, shC_retransmit, shC_tsn, shSt_q]
        by_cases hr : c.retransmit = true
        · simp only [hr, ↓reduceIte, List.map_nil]
        · simp only [hr, Bool.false_eq_true, ↓reduceIte]
          rw [modify_shift k s.q c.tsn setRtx (fun _ => rfl)]
          rfl

/-- `newestTSN` is a TSN only once something was found -/
def shAcc (k : BitVec 32) (a : AckAcc) : AckAcc := { a with newestTSN := a.newestTSN + actK a.found k }

theorem ackSample_shift (k : BitVec 32) (gap : Bool) (s : St) (a : AckAcc) (c : Chunk) :
    ackSample gap (shSt k s) (shAcc k a) (shC k c) = (shSt k (ackSample gap s a c).1, shAcc k (ackSample gap s a c).2) := by
  unfold ackSample psa_gapMeasurable psa_cumMeasurable
  simp only [shSt_minTSN2MeasureRTT, shC_tsn, Sna.gte32_shift, shC_nSent, shC_since, shSt_now, shSt_myNextTSN, shSt_cfg, shSt_minWnd]
  split <;> (split <;> rfl)

theorem ackNewest_shift (k : BitVec 32) (gap : Bool) (a : AckAcc) (c : Chunk) :
    ackNewest gap (shAcc k a) (shC k c) = shAcc k (ackNewest gap a c) := by
  unfold ackNewest
  simp only [shC_since, shC_tsn]
  have e : (shAcc k a).newestTime = a.newestTime := rfl
  rw [e]
  split <;> (split <;> simp [shAcc])

theorem ackOne_shift (k : BitVec 32) (gap : Bool) (s : St) (a : AckAcc) (c : Chunk) :
    ackOne gap (shSt k s) (shAcc k a) (shC k c) = (shSt k (ackOne gap s a c).1, shAcc k (ackOne gap s a c).2) := by
  unfold ackOne
  simp only [ackSample_shift, ackNewest_shift]

theorem popCum_shift (k : BitVec 32) :
    ∀ (q : List Chunk) (idx cum : BitVec 32) (s : St) (a : AckAcc),
      popCum (q.map (shC k)) (idx + k) (cum + k) (shSt k s) (shAcc k a) =
        (popCum q idx cum s a).map fun r => (r.1.map (shC k), shSt k r.2.1, shAcc k r.2.2) := by
  intro q
  induction q with
  | nil =>
    intro idx cum s a
    simp only [List.map_nil, popCum, Sna.lte32_shift]
    split <;> rfl
  | cons c q ih =>
    intro idx cum s a
    simp only [List.map_cons, popCum, Sna.lte32_shift, shC_tsn, Sna.beq_add_right, shC_acked]
    split
    · split
      · have e : idx + k + 1 = idx + 1 + k := by bv_omega
        rw [e, rackRemove_shift]
        by_cases ha : c.acked = true
        · simp only [ha, Bool.not_true, Bool.false_eq_true, ↓reduceIte]
          exact ih _ _ _ _
        · simp only [ha, Bool.not_false, ↓reduceIte, ackOne_shift]
          exact ih _ _ _ _
      · rfl
    · rfl

theorem gapOne_shift (k : BitVec 32) (q : List Chunk) (s : St) (a : AckAcc) (t : BitVec 32) :
    gapOne (q.map (shC k)) (shSt k s) (shAcc k a) (t + k) =
      (gapOne q s a t).map fun r => (r.1.map (shC k), shSt k r.2.1, shAcc k r.2.2) := by
  unfold gapOne
  rw [get_shift]
  cases get q t with
  | none => rfl
  | some c =>
    simp only [Option.map_some, shC_tsn, rackRemove_shift, shC_acked]
    by_cases ha : c.acked = true
    · simp only [ha, Bool.not_true, Bool.false_eq_true, ↓reduceIte, Option.map_some]
    · simp only [ha, Bool.not_false, ↓reduceIte, ackOne_shift, Option.map_some]
      rw [modify_shift k q c.tsn (fun c => { c with acked := true, retransmit := false }) (fun c => rfl)]

theorem gapAll_shift (k : BitVec 32) :
    ∀ (ts : List (BitVec 32)) (q : List Chunk) (s : St) (a : AckAcc),
      gapAll (ts.map (· + k)) (q.map (shC k)) (shSt k s) (shAcc k a) =
        (gapAll ts q s a).map fun r => (r.1.map (shC k), shSt k r.2.1, shAcc k r.2.2) := by
  intro ts
  induction ts with
  | nil => intro q s a; rfl
  | cons t ts ih =>
    intro q s a
    simp only [List.map_cons, gapAll, gapOne_shift]
    cases gapOne q s a t with
    | none => rfl
    | some r => simp only [Option.map_some]; exact ih _ _ _

theorem shAcc_default (k : BitVec 32) : shAcc k ({} : AckAcc) = {} := rfl

theorem ackFinish_shift (k : BitVec 32) (old cum : BitVec 32) (q : List Chunk) (s : St) :
    ackFinish (old + k) (cum + k) (q.map (shC k)) (shSt k s) = (shSt k (ackFinish old cum q s).1, (ackFinish old cum q s).2) := by
  unfold ackFinish
  simp only [Sna.lt32_shift, List.length_map]
  split
  · split <;> rfl
  · rfl

theorem ackPhase_shift (k : BitVec 32) (s : St) (cum : BitVec 32) (gaps : List (BitVec 32)) :
    ackPhase (shSt k s) (cum + k) (gaps.map (· + k)) =
      (ackPhase s cum gaps).map fun r => (shSt k r.1, shAcc k r.2.1, r.2.2) := by
  unfold ackPhase
  have e : (shSt k s).cumAck + 1 = s.cumAck + 1 + k := by simp only [shSt_cumAck]; bv_omega
  have hp := popCum_shift k s.q (s.cumAck + 1) cum s {}
  rw [shAcc_default] at hp
  rw [e, shSt_q, hp]
  cases popCum s.q (s.cumAck + 1) cum s {} with
  | none => rfl
  | some r1 =>
    simp only [Option.map_some, gapAll_shift]
    cases gapAll gaps r1.1 r1.2.1 r1.2.2 with
    | none => rfl
    | some r2 =>
      simp only [Option.map_some, shSt_cumAck, ackFinish_shift]

theorem iter_shift (k : BitVec 32) (f : St → St) (hf : ∀ s, f (shSt k s) = shSt k (f s)) :
    ∀ (n : Nat) (s : St), iter f n (shSt k s) = shSt k (iter f n s) := by
  intro n
  induction n with
  | zero => intro s; rfl
  | succ n ih => intro s; simp only [iter, hf, ih]

theorem afterAck_shift (k : BitVec 32) (s : St) (env : Env) (a : AckAcc) (adv : Bool) (nd : Int) (nm : Nat) :
    afterAck (shSt k s) env (shAcc k a) adv nd nm =
      (shSt k (afterAck s env a adv nd nm).1, (afterAck s env a adv nd nm).2.map (· + k)) := by
  unfold afterAck
  rw [iter_shift k _ (fun s => by simp only [shSt_tlrActive, shSt_now, tlrApplyAdditionalLoss_shift, apply_ite (shSt k)])]
  dsimp only
  rw [onRackAfterSACK_shift k _ env (shAcc k a).found (shAcc k a).newestTime a.newestTSN (shAcc k a).newestTSN nd
    (fun h => by have h' : a.found = true := h; simp only [shAcc, h', actK_true])]
  simp only [tlrMaybeFinish_shift, shAcc]

theorem sack_shift (k : BitVec 32) (s : St) (env : Env) (cum : BitVec 32) (gaps : List (BitVec 32)) (nd : Int) (nm : Nat) :
    sack (shSt k s) env (cum + k) (gaps.map (· + k)) nd nm =
      (sack s env cum gaps nd nm).map fun r => (shSt k r.1, r.2.map (· + k)) := by
  unfold sack
  rw [ackPhase_shift]
  cases ackPhase s cum gaps with
  | none => rfl
  | some r => simp only [Option.map_some, afterAck_shift]

theorem pushChunk_shift (k : BitVec 32) (s : St) : pushChunk (shSt k s) = shSt k (pushChunk s) := by
  unfold pushChunk
  have e : s.myNextTSN + k + 1 = s.myNextTSN + 1 + k := by bv_omega
  simp only [shSt_myNextTSN, shSt_q, shSt_now, e]
  simp [shSt, shC]

theorem send_shift (k : BitVec 32) (s : St) (p : Bool) : send (shSt k s) p = shSt k (send s p) := by
  unfold send
  simp only [shSt_myNextTSN, rackRemove_shift]
  cases p
  · simp only [Bool.false_eq_true, ↓reduceIte, pushChunk_shift, rackInsert_shift]
  · simp only [↓reduceIte, pushChunk_shift, rackInsert_shift]

theorem touch_shift (k : BitVec 32) (s : St) (t : BitVec 32) (c : Bool) : touch (shSt k s) (t + k) c = shSt k (touch s t c) := by
  unfold touch
  simp only [shSt_q, shSt_now]
  rw [modify_shift k s.q t (retx s.now c) (fun _ => rfl)]
  rfl

theorem resend_shift (k : BitVec 32) (s : St) (t : BitVec 32) (c p : Bool) :
    resend (shSt k s) (t + k) c p = shSt k (resend s t c p) := by
  unfold resend
  simp only [touch_shift, rackRemove_shift, rackInsert_shift, apply_ite (shSt k)]

/-- mapping the store with a function that commutes with the shift -/
theorem mapq_shift (k : BitVec 32) (s : St) {g g' : Chunk → Chunk} (h : ∀ c, g' (shC k c) = shC k (g c)) :
    ({ shSt k s with q := (shSt k s).q.map g' } : St) = shSt k { s with q := s.q.map g } := by
  show ({ shSt k s with q := (s.q.map (shC k)).map g' } : St) = { shSt k s with q := (s.q.map g).map (shC k) }
  rw [List.map_map, List.map_map, List.map_congr_left (f := g' ∘ shC k) (g := shC k ∘ g) fun c _ => h c]

theorem abandon_shift (k : BitVec 32) (s : St) (ts : List (BitVec 32)) :
    abandon (shSt k s) (ts.map (· + k)) = shSt k (abandon s ts) :=
  mapq_shift k s fun c => by
    simp only [shC_tsn, Sna.contains_map_add_right]
    split <;> rfl

theorem t3_shift (k : BitVec 32) (s : St) : t3 (shSt k s) = shSt k (t3 s) :=
  mapq_shift k s fun c => by
    simp only [shC_acked, shC_abandoned]
    by_cases h : (c.acked || c.abandoned) = true
    · simp only [h, ↓reduceIte]
    · simp only [h, Bool.false_eq_true, ↓reduceIte]; rfl

theorem timerFire_shift (k : BitVec 32) (s : St) (env : Env) :
    timerFire (shSt k s) env = (shSt k (timerFire s env).1, (timerFire s env).2.map (· + k)) := by
  unfold timerFire
  simp only [shSt_rackDeadline, shSt_ptoDeadline, shSt_now, stopRackTimer_shift]
  by_cases h1 : timerLoop_rackDue s.rackDeadline s.now = true <;> by_cases h2 : timerLoop_ptoDue s.ptoDeadline s.now = true <;>
    simp only [h1, h2, ↓reduceIte, Bool.false_eq_true, stopPTOTimer_shift, onRackTimeout_eq, markWith_shift, onPTOTimer_shift, List.map_append,
      List.map_nil, List.append_nil, List.nil_append]

/-- the operation with every TSN it carries shifted -/
def shOp (k : BitVec 32) : Op → Op
  | .resend t c p => .resend (t + k) c p
  | .abandon ts => .abandon (ts.map (· + k))
  | .sack env cum gaps nd nm => .sack env (cum + k) (gaps.map (· + k)) nd nm
  | op => op

theorem step_shift (k : BitVec 32) (s : St) (op : Op) : step (shSt k s) (shOp k op) = shSt k (step s op) := by
  cases op with
  | advance d => rfl
  | send p => exact send_shift k s p
  | resend t c p => exact resend_shift k s t c p
  | abandon ts => exact abandon_shift k s ts
  | ptoAfterSend env => exact schedulePTOAfterSend_shift k s env
  | budget env => simp only [shOp, step, tlrBudgetScaled_shift]
  | sack env cum gaps nd nm =>
    simp only [shOp, step, sack_shift]
    cases sack s env cum gaps nd nm <;> rfl
  | t3 => exact t3_shift k s
  | timerFire env => simp only [shOp, step, timerFire_shift]
  | rackTimeout env => simp only [shOp, step, onRackTimeout_eq, markWith_shift]
  | ptoTimeout env => simp only [shOp, step, onPTOTimer_shift]

theorem run_shift (k : BitVec 32) : ∀ (ops : List Op) (s : St), run (shSt k s) (ops.map (shOp k)) = shSt k (run s ops) := by
  intro ops
  induction ops with
  | nil => intro s; rfl
  | cons op ops ih => intro s; simp only [List.map_cons, run, step_shift, ih]

theorem init_shift (k : BitVec 32) (cfg : Cfg) (tsn : BitVec 32) (now : Int) :
    init cfg (tsn + k) now = shSt k (init cfg tsn now) := by
  unfold init init_rackHighWatermark
  have e2 : tsn + k - 1#32 = tsn - 1#32 + k := by bv_omega
  simp [shSt, e2]

end Rack
