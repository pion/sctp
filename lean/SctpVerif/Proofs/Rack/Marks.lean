import SctpVerif.Proofs.Rack.Walk
import SctpVerif.Proofs.Rack.Frame
/-!
What the three marking paths `onRackAfterSACK`, `onRackTimeoutLocked`, `onPTOTimerLocked` do to the chunk store: which
chunks they flag, and that nothing else changes (`flagged`, `Outstanding`). The first two are one function `markWith` up to
their copy of the loop tests (`rackMark_eq`, `onRackTimeout_eq`, `onRackAfterSACK_eq`); `onPTOTimer_eq` is the PTO callback
with data in flight, spelled out, and `onPTOTimer_rule` its proof rule by outcomes. (`timerLoop` firing both is not treated
here: its callers split on the two due flags.)
-/
namespace Rack
open Gen

/-- the store with the retransmit flag set on the chunks whose TSN is in `m` -/
def flagged (q : List Chunk) (m : List (BitVec 32)) : List Chunk := q.map fun c => if m.contains c.tsn then setRtx c else c

@[simp] theorem flagged_nil (q : List Chunk) : flagged q [] = q := by simp [flagged]

theorem flagged_length (q : List Chunk) (m : List (BitVec 32)) : (flagged q m).length = q.length := by simp [flagged]

theorem flagged_append (q : List Chunk) (m n : List (BitVec 32)) : flagged (flagged q m) n = flagged q (m ++ n) := by
  simp only [flagged, List.map_map]
  apply List.map_congr_left
  intro c _
  simp only [Function.comp, List.contains_eq_mem, List.mem_append, decide_eq_true_eq]
  by_cases h1 : c.tsn ∈ m <;> by_cases h2 : c.tsn ∈ n <;> simp [h1, h2, setRtx]

theorem modify_setRtx_eq_flagged (q : List Chunk) (t : BitVec 32) : modify q t setRtx = flagged q [t] := by
  unfold flagged modify
  apply List.map_congr_left
  intro x _
  simp

theorem find_flagged (q : List Chunk) (m : List (BitVec 32)) (t : BitVec 32) :
    find (flagged q m) t = (find q t).map fun c => if m.contains c.tsn then setRtx c else c := by
  apply find_map_pres
  intro c; split <;> rfl

/-- in the store `q`, TSN `t` names a chunk that is neither acknowledged nor abandoned -/
def Outstanding (q : List Chunk) (t : BitVec 32) : Prop := ∃ c, find q t = some c ∧ c.acked = false ∧ c.abandoned = false

theorem Cand.outstanding {f : WalkFns} (hf : StdFns f) {w d : Int} {q : List Chunk} {t : BitVec 32} (h : Cand f w d q t) :
    Outstanding q t := by
  obtain ⟨c, hc, hd, _, _⟩ := h
  rw [hf.dead] at hd
  exact ⟨c, hc, by simp_all, by simp_all⟩

theorem outstanding_flagged (q : List Chunk) (m : List (BitVec 32)) (t : BitVec 32) :
    Outstanding (flagged q m) t ↔ Outstanding q t := by
  unfold Outstanding
  rw [find_flagged]
  constructor
  · rintro ⟨c, hc, ha, hb⟩
    cases hq : find q t with
    | none => rw [hq] at hc; simp at hc
    | some c0 =>
      rw [hq] at hc
      simp only [Option.map_some, Option.some.injEq] at hc
      subst hc
      refine ⟨c0, rfl, ?_, ?_⟩ <;> (split at ha <;> split at hb <;> simp_all [setRtx])
  · rintro ⟨c, hc, ha, hb⟩
    refine ⟨_, by rw [hc]; rfl, ?_, ?_⟩ <;> (dsimp only; split <;> simp_all [setRtx])

/-- what `rackMark` (step 3 of `onRackAfterSACK`) and `onRackTimeoutLocked` both are, up to their copy `f` of the loop tests:
with a delivered time on record, the walk and its tail -/
def markWith (f : WalkFns) (s : St) (env : Env) : St × List (BitVec 32) :=
  if s.deliveredTime = 0 then (s, [])
  else (afterWalk s env (walk f s.reoWnd s.deliveredTime s.list s.q), (walk f s.reoWnd s.deliveredTime s.list s.q).marks)

theorem rackMark_eq (s : St) (env : Env) : rackMark s env = markWith sackWalk s env := by
  unfold rackMark markWith rack_haveDelivered
  by_cases h : s.deliveredTime = 0 <;> simp [h]

theorem onRackTimeout_eq (s : St) (env : Env) : onRackTimeout s env = markWith timeoutWalk s env := by
  unfold onRackTimeout markWith rackTimeout_noDelivered
  by_cases h : s.deliveredTime = 0 <;> simp [h]

theorem markWith_q (f : WalkFns) (s : St) (env : Env) : (markWith f s env).1.q = flagged s.q (markWith f s env).2 := by
  unfold markWith
  split
  · exact (flagged_nil s.q).symm
  · rw [afterWalk_q]; exact walk_q _ _ _ _ _

theorem markWith_marks {f : WalkFns} (hf : StdFns f) (s : St) (env : Env) (t : BitVec 32) (h : t ∈ (markWith f s env).2) :
    t ∈ s.list ∧ Cand f s.reoWnd s.deliveredTime s.q t ∧ s.deliveredTime ≠ 0 := by
  unfold markWith at h
  split at h
  · cases h
  · next hd => exact ⟨(walk_marks f hf _ _ _ _ _ h).1, (walk_marks f hf _ _ _ _ _ h).2, hd⟩

theorem markWith_list (f : WalkFns) (s : St) (env : Env) : (markWith f s env).1.list.Sublist s.list := by
  unfold markWith
  split
  · exact List.Sublist.refl _
  · rw [afterWalk_list]; exact walk_list_sublist _ _ _ _ _

/-- the marking step writes the list, the store and (through `tlrApplyAdditionalLoss`) TLR fields -/
theorem markWith_frame (f : WalkFns) (s : St) (env : Env) :
    (markWith f s env).1 =
      { s with list := (markWith f s env).1.list, q := (markWith f s env).1.q, tlrFirstRTT := (markWith f s env).1.tlrFirstRTT,
               tlrHadAdditionalLoss := (markWith f s env).1.tlrHadAdditionalLoss, tlrGoodOps := (markWith f s env).1.tlrGoodOps,
               tlrBurstFirst := (markWith f s env).1.tlrBurstFirst, tlrBurstLater := (markWith f s env).1.tlrBurstLater } := by
  unfold markWith
  split
  · rfl
  · dsimp only; rw [afterWalk_frame]

theorem onRackTimeout_q (s : St) (env : Env) : (onRackTimeout s env).1.q = flagged s.q (onRackTimeout s env).2 := by
  rw [onRackTimeout_eq]; exact markWith_q _ s env

theorem rackMark_now (s : St) (env : Env) : (rackMark s env).1.now = s.now := by
  rw [rackMark_eq, markWith_frame]

theorem onRackTimeout_list (s : St) (env : Env) : (onRackTimeout s env).1.list.Sublist s.list := by
  rw [onRackTimeout_eq]; exact markWith_list _ s env

theorem onRackAfterSACK_eq (s : St) (env : Env) (f : Bool) (nt : Int) (ntsn : BitVec 32) (nd : Int) :
    onRackAfterSACK s env f nt ntsn nd =
      (schedulePTOAfterSack (rackArm (markWith sackWalk (beforeMark s env f nt ntsn nd) env).1) env,
       (markWith sackWalk (beforeMark s env f nt ntsn nd) env).2) := by
  rw [← rackMark_eq]; rfl

theorem onRackAfterSACK_q (s : St) (env : Env) (f : Bool) (nt : Int) (ntsn : BitVec 32) (nd : Int) :
    (onRackAfterSACK s env f nt ntsn nd).1.q = flagged s.q (onRackAfterSACK s env f nt ntsn nd).2 := by
  rw [onRackAfterSACK_eq, rearm_frame]
  show (markWith sackWalk (beforeMark s env f nt ntsn nd) env).1.q = _
  rw [markWith_q, beforeMark_q]

theorem onRackAfterSACK_reoWnd (s : St) (env : Env) (f : Bool) (nt : Int) (ntsn : BitVec 32) (nd : Int) :
    (onRackAfterSACK s env f nt ntsn nd).1.reoWnd = (beforeMark s env f nt ntsn nd).reoWnd := by
  rw [onRackAfterSACK_eq, rearm_frame, markWith_frame]

theorem onRackAfterSACK_deliveredTime (s : St) (env : Env) (f : Bool) (nt : Int) (ntsn : BitVec 32) (nd : Int) :
    (onRackAfterSACK s env f nt ntsn nd).1.deliveredTime = (beforeMark s env f nt ntsn nd).deliveredTime := by
  rw [onRackAfterSACK_eq, rearm_frame, markWith_frame]

theorem onRackAfterSACK_marks (s : St) (env : Env) (f : Bool) (nt : Int) (ntsn : BitVec 32) (nd : Int) (t : BitVec 32)
    (h : t ∈ (onRackAfterSACK s env f nt ntsn nd).2) :
    t ∈ s.list ∧
    Cand sackWalk (onRackAfterSACK s env f nt ntsn nd).1.reoWnd (onRackAfterSACK s env f nt ntsn nd).1.deliveredTime s.q t ∧
    (onRackAfterSACK s env f nt ntsn nd).1.deliveredTime ≠ 0 := by
  rw [onRackAfterSACK_reoWnd, onRackAfterSACK_deliveredTime]
  rw [onRackAfterSACK_eq] at h
  have := markWith_marks sackWalk_std _ env t h
  rw [beforeMark_list, beforeMark_q] at this
  exact this

theorem onRackAfterSACK_list (s : St) (env : Env) (f : Bool) (nt : Int) (ntsn : BitVec 32) (nd : Int) :
    (onRackAfterSACK s env f nt ntsn nd).1.list.Sublist s.list := by
  rw [onRackAfterSACK_eq, rearm_frame]
  have := markWith_list sackWalk (beforeMark s env f nt ntsn nd) env
  rw [beforeMark_list] at this
  exact this

theorem scanFrom_sublist (q : List Chunk) (t : BitVec 32) : (scanFrom q t).Sublist q := by
  unfold scanFrom
  cases q with
  | nil => exact List.Sublist.refl _
  | cons f r => exact List.drop_sublist _ _

/-- the probe candidate is a chunk of the store that is neither acknowledged nor abandoned (that it is the LAST such chunk
of the scan is the definition of `ptoLatest`, not part of this lemma) -/
theorem ptoLatest_spec (s : St) (c : Chunk) (h : ptoLatest s = some c) :
    c ∈ s.q ∧ c.acked = false ∧ c.abandoned = false := by
  unfold ptoLatest at h
  have hm := List.mem_of_getLast? h
  rw [List.mem_filter] at hm
  refine ⟨(scanFrom_sublist _ _).subset hm.1, ?_, ?_⟩ <;>
    (have := hm.2; simp only [pto_skipDead, Bool.not_eq_true', Bool.or_eq_false_iff] at this; simp [this])

theorem ptoLatest_none (s : St) (h : ptoLatest s = none) :
    ∀ c ∈ scanFrom s.q (s.cumAck + 1), c.acked = true ∨ c.abandoned = true := by
  unfold ptoLatest at h
  have h0 : pto_scanTSN (a_cumulativeTSNAckPoint := s.cumAck) (i := 0) = s.cumAck + 1 := by unfold pto_scanTSN; bv_omega
  rw [h0] at h
  rw [List.getLast?_eq_none_iff] at h
  intro c hc
  have : c ∉ (scanFrom s.q (s.cumAck + 1)).filter fun c => !pto_skipDead (c_acked := c.acked) (c_abandoned := c.abandoned) := by
    rw [h]; simp
  rw [List.mem_filter] at this
  simp only [hc, true_and, pto_skipDead, Bool.not_eq_true', Bool.or_eq_false_iff, not_and, Bool.not_eq_false] at this
  cases ha : c.acked
  · right; exact this ha
  · left; rfl

/-- `onPTOTimerLocked` with data in flight, spelled out -/
theorem onPTOTimer_eq (s : St) (env : Env) (hq : s.q ≠ []) :
    onPTOTimer s env =
      if 0 < env.pendingSize then (ptoTlr s env, [])
      else match ptoLatest s with
        | none => (ptoTlr s env, [])
        | some c => if c.retransmit then (ptoTlr s env, []) else ({ ptoTlr s env with q := modify s.q c.tsn setRtx }, [c.tsn]) := by
  have hl : ptoLatest (ptoTlr s env) = ptoLatest s := by rw [ptoTlr_frame]; rfl
  have hidle : pto_idle (a_inflightQueue_size := (s.q.length : Int)) = false := by
    simp only [pto_idle, beq_eq_false_iff_ne, ne_eq]
    intro h; exact hq (List.length_eq_zero_iff.mp (by omega))
  unfold onPTOTimer
  simp only [hidle, Bool.false_eq_true, ↓reduceIte, pto_hasPending, hl, decide_eq_true_eq]
  by_cases hp : 0 < env.pendingSize
  · simp [hp]
  · simp only [hp, ↓reduceIte]
    cases ptoLatest s with
    | none => rfl
    | some c =>
      simp only [pto_marks, Bool.true_and, Bool.not_eq_eq_eq_not, Bool.not_true, ptoTlr_q]
      cases c.retransmit <;> simp
      rfl

theorem onPTOTimer_idle (s : St) (env : Env) (hq : s.q = []) :
    onPTOTimer s env = ({ stopPTOTimer s with hbProbes := s.hbProbes + 1 }, []) := by
  simp [onPTOTimer, pto_idle, hq]

/-- Proof rule for `onPTOTimerLocked`, by the three things it can do: nothing in flight — stop the timer and count a HEARTBEAT
probe; otherwise the TLR step, and either no mark (something pending, no outstanding chunk, or the last outstanding chunk already
flagged) or the flag on the last outstanding chunk. -/
theorem onPTOTimer_rule {s : St} {env : Env} {P : St × List (BitVec 32) → Prop}
    (idle : s.q = [] → P ({ stopPTOTimer s with hbProbes := s.hbProbes + 1 }, []))
    (noMark : s.q ≠ [] → (0 < env.pendingSize ∨ ptoLatest s = none ∨ ∃ c, ptoLatest s = some c ∧ c.retransmit = true) →
      P (ptoTlr s env, []))
    (mark : ∀ c, ptoLatest s = some c → c.retransmit = false → env.pendingSize ≤ 0 →
      P ({ ptoTlr s env with q := flagged s.q [c.tsn] }, [c.tsn])) : P (onPTOTimer s env) := by
  by_cases hq : s.q = []
  · rw [onPTOTimer_idle s env hq]; exact idle hq
  · rw [onPTOTimer_eq s env hq]
    split
    · next hp => exact noMark hq (.inl hp)
    · next hp =>
      split
      · next hl => exact noMark hq (.inr (.inl hl))
      · next c hl =>
        split
        · next hr => exact noMark hq (.inr (.inr ⟨c, hl, hr⟩))
        · next hr => rw [modify_setRtx_eq_flagged]; exact mark c hl (by simpa using hr) (by omega)

end Rack
