import SctpVerif.Model.Rack
import SctpVerif.Model.Sender
/-!
The TLR gate `tlrAllowSendLocked` (`Rack.tlrAllow`): its closed form (`tlrAllow_eq`), that it is the gate of the sender
model (`tlrAllow_sender`), and `admitted`, the positive estimates one gather gets through it, with the bound on their
sum (`admitted_consumed`, `admitted_fresh`). The bounds on the burst units are in `Units.lean`, the end of an episode
(`tlrMaybeFinish_tlrActive`) in `Frame.lean`.
-/
namespace Rack
open Gen

/-- `tlrAllowSendLocked`, spelled out (the proof unfolds the generated sites: a changed operator shows here) -/
theorem tlrAllow_eq (active : Bool) (b : Int × Bool) (est : Int) :
    tlrAllow active b est =
      if !active then (true, b)
      else if est ≤ 0 then (true, b)
      else if b.2 && decide (b.1 < est * 4) then (false, b)
      else (true, (if b.1 - est * 4 < 0 then 0 else b.1 - est * 4, true)) := by
  unfold tlrAllow tlrAllow_inactive tlrAllow_free tlrAllow_need tlrAllow_refuses tlrAllow_spent tlrAllow_clamps
  cases active
  · simp
  · by_cases h1 : est ≤ 0
    · simp [h1]
    · by_cases h2 : b.1 < est * 4 <;> by_cases h3 : b.1 - est * 4 < 0 <;> cases hb : b.2 <;> simp [h1, h2, h3]

/-- the model of C10 (`Sender.tlrAllow`, state `(active, budget, consumed)`) is this function -/
theorem tlrAllow_sender (active : Bool) (bud : Int) (con : Bool) (est : Int) :
    Sender.tlrAllow (active, bud, con) est =
      ((tlrAllow active (bud, con) est).1, (active, (tlrAllow active (bud, con) est).2.1, (tlrAllow active (bud, con) est).2.2)) := by
  rw [tlrAllow_eq]
  simp only [Sender.tlrAllow, tlrUnitsPerMTU, Int.cast_ofNat_Int]
  split
  · rfl
  · split
    · rfl
    · by_cases h : (con && decide (bud < est * 4)) = true
      · simp only [h, ↓reduceIte]; exact if_pos h
      · simp only [h]; exact if_neg h

/-- bytes (estimates) of the requests one gather got admitted: those with a positive estimate answered `true` -/
def admitted (active : Bool) : Int × Bool → List Int → List Int
  | _, [] => []
  | b, e :: es =>
    let r := tlrAllow active b e
    if r.1 && decide (0 < e) then e :: admitted active r.2 es else admitted active r.2 es

/-- the same list read off the answers of `tlrAllowRun` -/
theorem admitted_eq_run (active : Bool) : ∀ (b : Int × Bool) (es : List Int),
    admitted active b es = ((es.zip (tlrAllowRun active b es).1).filter (fun p => p.2 && decide (0 < p.1))).map (·.1) := by
  intro b es
  induction es generalizing b with
  | nil => simp [admitted, tlrAllowRun]
  | cons e es ih =>
    simp only [admitted, tlrAllowRun, List.zip_cons_cons, List.filter_cons]
    split
    · rw [List.map_cons, ih]
    · exact ih _

/-- once something was sent in this gather, everything admitted afterwards fits the remaining budget -/
theorem admitted_consumed (es : List Int) : ∀ (bud : Int), 0 ≤ bud →
    4 * (admitted true (bud, true) es).sum ≤ bud := by
  induction es with
  | nil => intro bud h; simp [admitted]; omega
  | cons e es ih =>
    intro bud h
    simp only [admitted, tlrAllow_eq]
    by_cases h1 : e ≤ 0
    · have : ¬ (0 < e) := by omega
      simp only [Bool.not_true, Bool.false_eq_true, ↓reduceIte, h1, this, decide_false, Bool.and_false]
      exact ih bud h
    · simp only [Bool.not_true, Bool.false_eq_true, ↓reduceIte, h1, Bool.true_and, decide_eq_true_eq]
      by_cases h2 : bud < e * 4
      · simp only [h2, ↓reduceIte, Bool.false_and, Bool.false_eq_true]
        exact ih bud h
      · have h3 : ¬ (bud - e * 4 < 0) := by omega
        have h4 : 0 < e := by omega
        simp only [h2, ↓reduceIte, h3, h4, decide_true, Bool.and_self, List.sum_cons]
        have := ih (bud - e * 4) (by omega)
        omega

/-- one gather under an active TLR episode: the admitted estimates add up to at most the burst budget, or to the first
admitted request alone when that one exceeds the budget (`consumed` lets the first send of a burst through) -/
theorem admitted_fresh (es : List Int) : ∀ (bud : Int), 0 ≤ bud →
    4 * (admitted true (bud, false) es).sum ≤ max bud (4 * (admitted true (bud, false) es).headD 0) := by
  induction es with
  | nil => intro bud h; simp [admitted]; omega
  | cons e es ih =>
    intro bud h
    simp only [admitted, tlrAllow_eq]
    by_cases h1 : e ≤ 0
    · have : ¬ (0 < e) := by omega
      simp only [Bool.not_true, Bool.false_eq_true, ↓reduceIte, h1, this, decide_false, Bool.and_false]
      exact ih bud h
    · have h4 : 0 < e := by omega
      simp only [Bool.not_true, Bool.false_eq_true, ↓reduceIte, h1, Bool.false_and, h4, decide_true, Bool.and_self,
        List.sum_cons, List.headD_cons]
      by_cases h3 : bud - e * 4 < 0
      · simp only [h3, ↓reduceIte]
        have := admitted_consumed es 0 (by omega)
        omega
      · simp only [h3, ↓reduceIte]
        have := admitted_consumed es (bud - e * 4) (by omega)
        omega

/-- a request that is not positive, and every request outside an episode, is admitted and costs nothing -/
theorem tlrAllow_free_cases (active : Bool) (b : Int × Bool) (est : Int) (h : active = false ∨ est ≤ 0) :
    tlrAllow active b est = (true, b) := by
  rw [tlrAllow_eq]
  rcases h with h | h
  · simp [h]
  · cases active <;> simp [h]

/-- the first request of a gather is never refused -/
theorem tlrAllow_first (active : Bool) (bud : Int) (est : Int) : (tlrAllow active (bud, false) est).1 = true := by
  rw [tlrAllow_eq]
  cases active <;> simp
  split <;> simp

end Rack
