import SctpVerif.Model.Rack
import SctpVerif.Proofs.ListAux
/-!
Lemmas about the chunk store (`find`, `modify`) and the marking walk over the RACK list (`Rack.walk`) shared by
`onRackAfterSACK` and `onRackTimeoutLocked`.
-/
namespace Rack
open Gen

/-- what the three tests of the marking loop are expected to be (`sackWalk_std` and `timeoutWalk_std` below are proved by
`rfl` against the generated sites: they are the place where a changed operator in the code shows) -/
structure StdFns (f : WalkFns) : Prop where
  dead : ∀ a b, f.skipDead a b = (a || b)
  resent : ∀ r n, f.skipResent r n = (r || decide (n > 1#32))
  tooNew : ∀ t w d, f.tooNew t w d = !decide (t + w < d)

theorem sackWalk_std : StdFns sackWalk :=
  ⟨fun _ _ => rfl, fun _ _ => rfl, fun _ _ _ => rfl⟩

theorem timeoutWalk_std : StdFns timeoutWalk :=
  ⟨fun _ _ => rfl, fun _ _ => rfl, fun _ _ _ => rfl⟩

theorem find_some_tsn {q : List Chunk} {t : BitVec 32} {c : Chunk} (h : find q t = some c) : c.tsn = t := by
  unfold find at h
  have := List.find?_some h
  simpa using this

theorem find_some_mem {q : List Chunk} {t : BitVec 32} {c : Chunk} (h : find q t = some c) : c ∈ q := by
  unfold find at h
  exact List.mem_of_find?_eq_some h

theorem find_none_iff {q : List Chunk} {t : BitVec 32} : find q t = none ↔ ∀ c ∈ q, c.tsn ≠ t := by
  unfold find
  simp [List.find?_eq_none]

theorem find_cons (c : Chunk) (q : List Chunk) (t : BitVec 32) :
    find (c :: q) t = if c.tsn == t then some c else find q t := by
  unfold find
  simp [List.find?_cons]
  split <;> simp_all

/-- with distinct TSNs `find` returns the chunk itself -/
theorem find_of_mem_nodup {c : Chunk} {q : List Chunk} (hn : (q.map (·.tsn)).Nodup) (hm : c ∈ q) : find q c.tsn = some c :=
  ListAux.find?_key_of_mem (f := fun c : Chunk => c.tsn) (List.pairwise_map.mp hn) hm

/-- `modify` with a function that keeps the TSN acts on `find` pointwise -/
theorem find_modify (q : List Chunk) (t u : BitVec 32) (g : Chunk → Chunk) (hg : ∀ c, (g c).tsn = c.tsn) :
    find (modify q u g) t = (find q t).map (fun c => if c.tsn == u then g c else c) := by
  induction q with
  | nil => simp [find, modify]
  | cons c q ih =>
    have ih' : find (List.map (fun c => if c.tsn == u then g c else c) q) t =
        (find q t).map (fun c => if c.tsn == u then g c else c) := ih
    simp only [modify, List.map_cons, find_cons]
    by_cases hc : (c.tsn == u) = true
    · rw [if_pos hc, hg]
      by_cases ht : (c.tsn == t) = true
      · rw [if_pos ht, if_pos ht, Option.map_some, if_pos hc]
      · rw [if_neg ht, if_neg ht]; exact ih'
    · rw [if_neg hc]
      by_cases ht : (c.tsn == t) = true
      · rw [if_pos ht, if_pos ht, Option.map_some, if_neg hc]
      · rw [if_neg ht, if_neg ht]; exact ih'

theorem modify_length (q : List Chunk) (u : BitVec 32) (g : Chunk → Chunk) : (modify q u g).length = q.length := by
  simp [modify]

theorem modify_map_tsn (q : List Chunk) (u : BitVec 32) (g : Chunk → Chunk) (hg : ∀ c, (g c).tsn = c.tsn) :
    (modify q u g).map (·.tsn) = q.map (·.tsn) := by
  simp only [modify, List.map_map]
  apply List.map_congr_left
  intro c _
  simp only [Function.comp]
  split <;> simp [hg]

def setRtx (c : Chunk) : Chunk := { c with retransmit := true }

@[simp] theorem setRtx_tsn (c : Chunk) : (setRtx c).tsn = c.tsn := rfl

/-- a chunk the walk would mark when it reaches it -/
def Cand (f : WalkFns) (w : Int) (d : Int) (q : List Chunk) (t : BitVec 32) : Prop :=
  ∃ c, find q t = some c ∧ f.skipDead c.acked c.abandoned = false ∧ f.skipResent c.retransmit c.nSent = false ∧
    f.tooNew c.since w d = false

/-- every marked TSN is in the list walked and is a candidate in the ORIGINAL store -/
theorem walk_marks (f : WalkFns) (hf : StdFns f) (w : Int) (d : Int) (l : List (BitVec 32)) (q : List Chunk) (t : BitVec 32) :
    t ∈ (walk f w d l q).marks → t ∈ l ∧ Cand f w d q t := by
  fun_induction walk f w d l q with
  | case1 q => exact fun h => nomatch h
  | case2 u rest q _ ih => exact fun h => ⟨List.mem_cons_of_mem _ (ih h).1, (ih h).2⟩
  | case3 u rest q c _ _ ih => exact fun h => ⟨List.mem_cons_of_mem _ (ih h).1, (ih h).2⟩
  | case4 u rest q c _ _ _ r ih => exact fun h => ⟨List.mem_cons_of_mem _ (ih h).1, (ih h).2⟩
  | case5 u rest q c _ _ _ _ => exact fun h => nomatch h
  | case6 u rest q c hfu h1 h2 h3 r ih =>
    intro h
    rcases List.mem_cons.mp h with rfl | h
    · exact ⟨List.mem_cons_self, c, hfu, by simpa using h1, by simpa using h2, by simpa using h3⟩
    · refine ⟨List.mem_cons_of_mem _ (ih h).1, ?_⟩
      obtain ⟨c', hc', hd, hr, hn⟩ := (ih h).2
      change find (modify q u setRtx) t = some c' at hc'
      rw [find_modify _ _ _ _ setRtx_tsn] at hc'
      cases hq : find q t with
      | none => rw [hq] at hc'; cases hc'
      | some c0 =>
        rw [hq] at hc'
        simp only [Option.map_some, Option.some.injEq] at hc'
        by_cases hu : c0.tsn == u
        · -- the chunk just flagged cannot be marked again
          simp only [hu, ↓reduceIte] at hc'
          subst hc'
          rw [hf.resent] at hr
          simp [setRtx] at hr
        · simp only [hu] at hc'
          subst hc'
          exact ⟨c0, hq, hd, hr, hn⟩

/-- the store after the walk: exactly the marked chunks got the retransmit flag -/
theorem walk_q (f : WalkFns) (w : Int) (d : Int) (l : List (BitVec 32)) (q : List Chunk) :
    (walk f w d l q).q = q.map (fun c => if (walk f w d l q).marks.contains c.tsn then setRtx c else c) := by
  fun_induction walk f w d l q with
  | case1 q => simp
  | case2 t rest q _ ih => exact ih
  | case3 t rest q c _ _ ih => exact ih
  | case4 t rest q c _ _ _ r ih => exact ih
  | case5 t rest q c _ _ _ _ => simp
  | case6 t rest q c _ _ _ _ r ih =>
    show r.q = q.map (fun x => if (t :: r.marks).contains x.tsn then setRtx x else x)
    rw [ih]
    simp only [modify, List.map_map]
    apply List.map_congr_left
    intro x _
    simp only [Function.comp, List.contains_cons]
    by_cases hx : x.tsn == t
    · have hx' : (x.tsn == t) = true := hx
      simp only [hx', ↓reduceIte, Bool.true_or]
      split <;> rfl
    · have hx' : (x.tsn == t) = false := by simpa using hx
      simp only [hx', Bool.false_or]
      simp [r, modify]

theorem walk_q_length (f : WalkFns) (w : Int) (d : Int) (l : List (BitVec 32)) (q : List Chunk) :
    (walk f w d l q).q.length = q.length := by
  rw [walk_q]; simp

theorem walk_list_sublist (f : WalkFns) (w : Int) (d : Int) (l : List (BitVec 32)) (q : List Chunk) :
    (walk f w d l q).list.Sublist l := by
  fun_induction walk f w d l q with
  | case1 q => exact List.Sublist.refl _
  | case2 t rest q _ ih => exact ih.cons _
  | case3 t rest q c _ _ ih => exact ih.cons _
  | case4 t rest q c _ _ _ r ih => exact ih.cons_cons _
  | case5 t rest q c _ _ _ _ => exact List.Sublist.refl _
  | case6 t rest q c _ _ _ _ r ih => exact ih.cons _

/-- mapping the store with a function that keeps the TSN acts on `find` pointwise -/
theorem find_map_pres (q : List Chunk) (t : BitVec 32) (g : Chunk → Chunk) (hg : ∀ c, (g c).tsn = c.tsn) :
    find (q.map g) t = (find q t).map g :=
  ListAux.find?_map_key (fun c : Chunk => c.tsn) g hg q t

/-- the send time recorded for a TSN (0 when the store has no such chunk) -/
def sinceOf (q : List Chunk) (t : BitVec 32) : Int :=
  match find q t with
  | some c => c.since
  | none => 0

/-- the store after the walk, chunk by chunk -/
theorem find_walk (f : WalkFns) (w : Int) (d : Int) (l : List (BitVec 32)) (q : List Chunk) (t : BitVec 32) :
    find (walk f w d l q).q t = (find q t).map (fun c => if (walk f w d l q).marks.contains c.tsn then setRtx c else c) := by
  rw [walk_q]
  apply find_map_pres
  intro c; split <;> rfl

theorem sinceOf_modify_setRtx (q : List Chunk) (u t : BitVec 32) : sinceOf (modify q u setRtx) t = sinceOf q t := by
  unfold sinceOf
  rw [find_modify _ _ _ _ setRtx_tsn]
  cases find q t with
  | none => rfl
  | some c => simp only [Option.map_some]; split <;> rfl

/-- no candidate in the list: the walk marks nothing and leaves the store alone -/
theorem walk_no_cand (f : WalkFns) (w : Int) (d : Int) (l : List (BitVec 32)) (q : List Chunk) :
    (∀ t ∈ l, ¬Cand f w d q t) → (walk f w d l q).marks = [] ∧ (walk f w d l q).q = q := by
  fun_induction walk f w d l q with
  | case1 q => exact fun _ => ⟨rfl, rfl⟩
  | case2 t rest q _ ih => exact fun h => ih fun u hu => h u (List.mem_cons_of_mem _ hu)
  | case3 t rest q c _ _ ih => exact fun h => ih fun u hu => h u (List.mem_cons_of_mem _ hu)
  | case4 t rest q c _ _ _ r ih => exact fun h => ih fun u hu => h u (List.mem_cons_of_mem _ hu)
  | case5 t rest q c _ _ _ _ => exact fun _ => ⟨rfl, rfl⟩
  | case6 t rest q c hf h1 h2 h3 r _ =>
    exact fun h => absurd ⟨c, hf, by simpa using h1, by simpa using h2, by simpa using h3⟩ (h t List.mem_cons_self)

/-- after the walk no entry of the remaining list is a candidate, PROVIDED the list was in send-time order:
the walk stops at the first chunk that is too new and relies on everything behind it being newer still -/
theorem walk_quiet (f : WalkFns) (hf : StdFns f) (w : Int) (d : Int) (l : List (BitVec 32)) (q : List Chunk) :
    l.Pairwise (fun t u => sinceOf q t ≤ sinceOf q u) →
      ∀ t ∈ (walk f w d l q).list, ¬Cand f w d (walk f w d l q).q t := by
  fun_induction walk f w d l q with
  | case1 q => exact fun _ t h => nomatch h
  | case2 u rest q _ ih => exact fun hs => ih (List.pairwise_cons.mp hs).2
  | case3 u rest q c _ _ ih => exact fun hs => ih (List.pairwise_cons.mp hs).2
  | case4 u rest q c hfu _ h2 r ih =>
    intro hs t ht
    rcases List.mem_cons.mp ht with rfl | ht
    · -- the skipped chunk is still "already flagged or retransmitted"
      rintro ⟨c', hc', _, hr, _⟩
      change find (walk f w d rest q).q t = some c' at hc'
      rw [find_walk, hfu] at hc'
      simp only [Option.map_some, Option.some.injEq] at hc'
      rw [hf.resent] at h2 hr
      subst hc'
      split at hr <;> simp_all [setRtx]
    · exact ih (List.pairwise_cons.mp hs).2 t ht
  | case5 u rest q c hfu _ _ h3 =>
    rintro hs t ht ⟨c', hc', _, _, hn⟩
    rcases List.mem_cons.mp ht with rfl | ht
    · rw [hfu] at hc'; cases hc'; rw [h3] at hn; cases hn
    · have hle := (List.pairwise_cons.mp hs).1 t ht
      unfold sinceOf at hle
      rw [hfu, hc'] at hle
      simp only at hle
      rw [hf.tooNew] at h3 hn
      simp only [Bool.not_eq_eq_eq_not, Bool.not_true, decide_eq_false_iff_not, Bool.not_false, decide_eq_true_eq] at h3 hn
      exact h3 (Int.lt_of_le_of_lt (Int.add_le_add_right hle w) hn)
  | case6 u rest q c _ _ _ _ r ih =>
    intro hs
    apply ih
    apply (List.pairwise_cons.mp hs).2.imp
    intro a b hab
    show sinceOf (modify q u setRtx) a ≤ sinceOf (modify q u setRtx) b
    rw [sinceOf_modify_setRtx, sinceOf_modify_setRtx]; exact hab

end Rack
