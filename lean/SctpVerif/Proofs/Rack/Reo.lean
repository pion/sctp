import SctpVerif.Proofs.Rack.Frame
/-!
The reordering window (`rackReoWnd`, step 2 of `onRackAfterSACK`): its bounds and its growth per SACK; what the model needs
of the SRTT reading (`EnvOK`, `envOK_ofRat` for the `Rat` twin of the generated conversion); the two deadlines in closed
form: the RACK timer after `rackArm` (`rackArm_deadline`) and the probe timeout (`ptoDeadline_eq`, stated for the
expression that `schedulePTOAfterSend` and `schedulePTOAfterSack` both unfold to).
-/
namespace Rack
open Gen

/-- what the model needs from the environment's SRTT reading: a valid reading is not negative -/
def EnvOK (env : Env) : Prop := env.srtt.rackValid = true → 0 ≤ env.srtt.rackDur

theorem gmax_ge_right (a b : Int) : b ≤ Gen.gmax a b := by
  unfold Gen.gmax; split <;> omega

theorem gmax_ge_left (a b : Int) : a ≤ Gen.gmax a b := by
  unfold Gen.gmax; split <;> omega

theorem reoBase_nonneg (s : St) (hf : 0 ≤ s.cfg.reoWndFloor) : 0 ≤ reoBase s := by
  unfold reoBase rack_reoBase
  split
  · exact Int.le_trans hf (gmax_ge_right _ _)
  · exact Int.le_refl 0

theorem reoInit_nonneg (s : St) (env : Env) (hf : 0 ≤ s.cfg.reoWndFloor) (h : 0 ≤ s.reoWnd) : 0 ≤ (reoInit s env).reoWnd := by
  unfold reoInit
  split
  · exact Int.le_refl 0
  · split
    · exact reoBase_nonneg s hf
    · exact h

theorem reoInflate_nonneg (s : St) (nd : Int) (hf : 0 ≤ s.cfg.reoWndFloor) (h : 0 ≤ s.reoWnd) : 0 ≤ (reoInflate s nd).reoWnd := by
  unfold reoInflate rack_reoInflated
  split
  · have := gmax_ge_right (Int.tdiv s.minRTT 4) s.cfg.reoWndFloor
    show 0 ≤ s.reoWnd + _
    omega
  · exact h

theorem reoKeep_nonneg (s : St) (env : Env) (h : 0 ≤ s.reoWnd) : 0 ≤ (reoKeep s env).reoWnd := by
  unfold reoKeep
  split
  · dsimp only
    split
    · next hk =>
      simp only [rack_keepExpired, Bool.and_eq_true, decide_eq_true_eq] at hk
      show 0 ≤ rack_reoAfterKeep s.minRTT
      unfold rack_reoAfterKeep
      exact Int.tdiv_nonneg (by omega) (by omega)
    · exact h
  · exact h

theorem reoClamp_bounds (s : St) (env : Env) (he : EnvOK env) (h : 0 ≤ s.reoWnd) :
    0 ≤ (reoClamp s env).reoWnd ∧ (env.srtt.rackValid = true → (reoClamp s env).reoWnd ≤ env.srtt.rackDur) := by
  unfold reoClamp
  split
  · next hv =>
    split
    · exact ⟨he hv, fun _ => Int.le_refl _⟩
    · next hc =>
      simp only [rack_reoAboveSrtt, decide_eq_true_eq] at hc
      exact ⟨h, fun _ => by omega⟩
  · next hv => exact ⟨h, fun h' => absurd h' hv⟩

/-- the reordering window after step 2 of `onRackAfterSACK`: never negative, never above a valid SRTT -/
theorem rackReoWnd_bounds (s : St) (env : Env) (nd : Int) (he : EnvOK env) (hf : 0 ≤ s.cfg.reoWndFloor) (h : 0 ≤ s.reoWnd) :
    0 ≤ (rackReoWnd s env nd).reoWnd ∧ (env.srtt.rackValid = true → (rackReoWnd s env nd).reoWnd ≤ env.srtt.rackDur) := by
  unfold rackReoWnd
  have hf1 : 0 ≤ (reoInit (reoMinRTT s) env).cfg.reoWndFloor := by rw [reoInit_frame]; exact hf
  exact reoClamp_bounds _ _ he (reoKeep_nonneg _ _ (reoInflate_nonneg _ _ hf1 (reoInit_nonneg (reoMinRTT s) env hf h)))

/-- how far one SACK can raise the window: from `max old base` by one inflation step -/
theorem rackReoWnd_growth (s : St) (env : Env) (nd : Int) (hf : 0 ≤ s.cfg.reoWndFloor) (h : 0 ≤ s.reoWnd) :
    (rackReoWnd s env nd).reoWnd ≤
      max s.reoWnd (reoBase (reoMinRTT s)) + Gen.gmax (Int.tdiv (reoMinRTT s).minRTT 4) s.cfg.reoWndFloor := by
  have hb := reoBase_nonneg (reoMinRTT s) hf
  have hg : 0 ≤ Gen.gmax (Int.tdiv (reoMinRTT s).minRTT 4) s.cfg.reoWndFloor := Int.le_trans hf (gmax_ge_right _ _)
  -- after initialisation
  have h1 : (reoInit (reoMinRTT s) env).reoWnd ≤ max s.reoWnd (reoBase (reoMinRTT s)) := by
    unfold reoInit
    split
    · show (0 : Int) ≤ _; omega
    · split
      · show reoBase (reoMinRTT s) ≤ _; omega
      · show s.reoWnd ≤ _; omega
  have h1' : 0 ≤ (reoInit (reoMinRTT s) env).reoWnd := reoInit_nonneg (reoMinRTT s) env hf h
  have em : (reoInit (reoMinRTT s) env).minRTT = (reoMinRTT s).minRTT := by rw [reoInit_frame]
  have ec : (reoInit (reoMinRTT s) env).cfg = s.cfg := by rw [reoInit_frame]; rfl
  -- after inflation
  have h2 : (reoInflate (reoInit (reoMinRTT s) env) nd).reoWnd ≤
      max s.reoWnd (reoBase (reoMinRTT s)) + Gen.gmax (Int.tdiv (reoMinRTT s).minRTT 4) s.cfg.reoWndFloor := by
    unfold reoInflate rack_reoInflated
    split
    · show (reoInit (reoMinRTT s) env).reoWnd + Gen.gmax (Int.tdiv (reoInit (reoMinRTT s) env).minRTT 4) (reoInit (reoMinRTT s) env).cfg.reoWndFloor ≤ _
      rw [em, ec]
      omega
    · omega
  -- keep counter: either unchanged or a quarter of the min-RTT, which is below the inflation step
  have h3 : (reoKeep (reoInflate (reoInit (reoMinRTT s) env) nd) env).reoWnd ≤
      max s.reoWnd (reoBase (reoMinRTT s)) + Gen.gmax (Int.tdiv (reoMinRTT s).minRTT 4) s.cfg.reoWndFloor := by
    unfold reoKeep
    split
    · dsimp only
      split
      · show rack_reoAfterKeep (reoInflate (reoInit (reoMinRTT s) env) nd).minRTT ≤ _
        rw [reoInflate_frame, rack_reoAfterKeep]
        show Int.tdiv (reoInit (reoMinRTT s) env).minRTT 4 ≤ _
        rw [em]
        have := gmax_ge_left (Int.tdiv (reoMinRTT s).minRTT 4) s.cfg.reoWndFloor
        omega
      · exact h2
    · exact h2
  unfold rackReoWnd reoClamp
  split
  · split
    · next hc =>
      simp only [rack_reoAboveSrtt, decide_eq_true_eq] at hc
      show env.srtt.rackDur ≤ _
      omega
    · exact h3
  · exact h3

/-- the window the marking loop of `onRackAfterSACK` works with -/
theorem beforeMark_bounds (s : St) (env : Env) (found : Bool) (nt : Int) (ntsn : BitVec 32) (nd : Int) (he : EnvOK env)
    (hf : 0 ≤ s.cfg.reoWndFloor) (h : 0 ≤ s.reoWnd) :
    0 ≤ (beforeMark s env found nt ntsn nd).reoWnd ∧
      (env.srtt.rackValid = true → (beforeMark s env found nt ntsn nd).reoWnd ≤ env.srtt.rackDur) :=
  rackReoWnd_bounds _ env nd he (by rw [rackDelivered_frame]; exact hf) (by rw [rackDelivered_frame]; exact h)

theorem beforeMark_growth (s : St) (env : Env) (found : Bool) (nt : Int) (ntsn : BitVec 32) (nd : Int)
    (hf : 0 ≤ s.cfg.reoWndFloor) (h : 0 ≤ s.reoWnd) :
    (beforeMark s env found nt ntsn nd).reoWnd ≤
      max s.reoWnd (reoBase (reoMinRTT s)) + Gen.gmax (Int.tdiv (reoMinRTT s).minRTT 4) s.cfg.reoWndFloor := by
  have hg := rackReoWnd_growth (rackDelivered s found nt ntsn) env nd
    (by rw [rackDelivered_frame]; exact hf) (by rw [rackDelivered_frame]; exact h)
  -- the bound reads no field that step 1 writes
  have e := congrArg (fun x : St => max x.reoWnd (reoBase (reoMinRTT x)) + Gen.gmax (Int.tdiv (reoMinRTT x).minRTT 4) x.cfg.reoWndFloor)
    (rackDelivered_frame s found nt ntsn)
  exact Int.le_trans hg (Int.le_of_eq e)

/-- the readings the code computes from an SRTT value satisfy `EnvOK` (over `Rat`, from the generated conversion sites) -/
theorem envOK_ofRat (x : Rat) (fr t3 : Bool) (p : Int) :
    EnvOK { srtt := SrttView.ofRat x, inFastRecovery := fr, t3Running := t3, pendingSize := p } := by
  intro hv
  simp only [SrttView.ofRat, rack_srttValid_Rat, decide_eq_true_eq] at hv
  simp only [SrttView.ofRat, rack_srttDur_Rat, Gen.truncR]
  apply Int.tdiv_nonneg
  · rw [Rat.num_nonneg]
    exact Rat.mul_nonneg (Rat.le_of_lt hv) (by decide)
  · exact Int.natCast_nonneg _

/-- the RACK timer after `onRackAfterSACK` -/
theorem rackArm_deadline (s : St) :
    (rackArm s).rackDeadline =
      if s.list ≠ [] ∧ s.deliveredTime ≠ 0 then
        (if max (s.now - s.deliveredTime) 0 + s.reoWnd ≤ 0 then 0 else s.now + (max (s.now - s.deliveredTime) 0 + s.reoWnd))
      else 0 := by
  unfold rackArm rack_armTimer rack_timerDur rack_rtt startRackTimer stopRackTimer rackTimer_disarms rackTimer_deadline
  have hg : Gen.gmax (s.now - s.deliveredTime) 0 = max (s.now - s.deliveredTime) 0 := by
    unfold Gen.gmax; split <;> omega
  rw [hg]
  by_cases hl : s.list = [] <;> by_cases hd : s.deliveredTime = 0 <;> simp [hl, hd]

/-- the probe timeout both `schedulePTOAfterSendLocked` and step 5 of `onRackAfterSACK` compute, with `n` chunks in flight -/
theorem ptoDeadline_eq (s : St) (n : Nat) (valid : Bool) (dur : Int) :
    (if ((n : Int) == 0) = true then stopPTOTimer s
      else startPTOTimer s (if valid then 2 * dur + (if ((n : Int) == 1) = true then s.cfg.wcDelAck else 2000000) else 1000000000)).ptoDeadline =
      if n = 0 then 0 else
        let pto := if valid then 2 * dur + (if n = 1 then s.cfg.wcDelAck else 2000000) else 1000000000
        if pto ≤ 0 then 0 else s.now + pto := by
  unfold startPTOTimer stopPTOTimer ptoTimer_disarms ptoTimer_deadline
  have e0 : (((n : Int) == 0) = true) = (n = 0) := by simp
  have e1 : (((n : Int) == 1) = true) = (n = 1) := by simp; omega
  simp only [e0, e1]
  split
  · rfl
  · simp only [decide_eq_true_eq]

end Rack
