import SctpVerif.Model.Rack
/-!
Frames of the functions of `Model/Rack.lean` that are conditionals over record updates of the state: per function an
equation `f s … = { s with a := (f s …).a, … }` naming the fields it may write (`f_frame`; the equation of a composite
function is obtained from those of its callees where they have one); every projection `(f s …).x = s.x` to another
field follows by rewriting with it (the two sides are then the same by reduction of the projection). Such projections are also stated as `@[simp]` lemmas
`f_x`; for a function that is a plain record update (`tlrBegin`, `abandon`, `t3`, `reoMinRTT`) they hold by `rfl`.

Also here:
* `ReoFrame`, the frame of the reordering-window computation as a relation that composes (`ReoFrame.trans`), from which
  `rackReoWnd_frame` is put together;
* `beforeMark` (steps 1 and 2 of `onRackAfterSACK`) with `beforeMark_frame`, and `rearm_frame` (steps 4 and 5);
* two facts about values rather than frames: `tlrMaybeFinish_tlrActive` (when an episode ends) and
  `rackDelivered_deliveredTime` (the delivered time after step 1);
* `iter_induction` (a property kept by `f` is kept by `iter f n`) and the inversions `sack_some`, `ackPhase_some`
  of a SACK that is processed;
* `AckRule`, the proof rule for the two loops of `processSelectiveAck` (`popCum_rule`, `gapAll_rule`), and `ackPhase_rule`
  for the whole acknowledgement phase: the invariant (`AckInv.rule`) and the frames (`AckFrame.rule`) are its instances.
-/
namespace Rack

theorem tlrUpdatePhase_frame (s : St) (env : Env) (t : Int) :
    tlrUpdatePhase s env t = { s with tlrFirstRTT := (tlrUpdatePhase s env t).tlrFirstRTT } := by
  unfold tlrUpdatePhase
  split
  · rfl
  · split
    · rfl
    · split <;> rfl

@[simp] theorem tlrBegin_myNextTSN (s : St) : (tlrBegin s).myNextTSN = s.myNextTSN := rfl

@[simp] theorem tlrBegin_minTSN2MeasureRTT (s : St) : (tlrBegin s).minTSN2MeasureRTT = s.minTSN2MeasureRTT := rfl

@[simp] theorem tlrBegin_minRTT (s : St) : (tlrBegin s).minRTT = s.minRTT := rfl

@[simp] theorem tlrBegin_minWnd (s : St) : (tlrBegin s).minWnd = s.minWnd := rfl

@[simp] theorem tlrBegin_hw (s : St) : (tlrBegin s).hw = s.hw := rfl

@[simp] theorem tlrBegin_reorderingSeen (s : St) : (tlrBegin s).reorderingSeen = s.reorderingSeen := rfl

@[simp] theorem tlrBegin_keepInflated (s : St) : (tlrBegin s).keepInflated = s.keepInflated := rfl

@[simp] theorem tlrBegin_rackDeadline (s : St) : (tlrBegin s).rackDeadline = s.rackDeadline := rfl

@[simp] theorem tlrBegin_ptoDeadline (s : St) : (tlrBegin s).ptoDeadline = s.ptoDeadline := rfl

@[simp] theorem tlrBegin_tlrGoodOps (s : St) : (tlrBegin s).tlrGoodOps = s.tlrGoodOps := rfl

@[simp] theorem tlrBegin_hbProbes (s : St) : (tlrBegin s).hbProbes = s.hbProbes := rfl

theorem tlrLeaveFirst_frame (s : St) (p : Bool) :
    tlrLeaveFirst s p = { s with tlrFirstRTT := (tlrLeaveFirst s p).tlrFirstRTT } := by
  unfold tlrLeaveFirst; split <;> rfl

theorem tlrScore_frame (s : St) :
    tlrScore s = { s with tlrBurstFirst := (tlrScore s).tlrBurstFirst, tlrBurstLater := (tlrScore s).tlrBurstLater,
                          tlrGoodOps := (tlrScore s).tlrGoodOps } := by
  unfold tlrScore
  split
  · split <;> rfl
  · rfl

theorem tlrMaybeFinish_frame (s : St) (p : Bool) :
    tlrMaybeFinish s p =
      { s with tlrActive := (tlrMaybeFinish s p).tlrActive, tlrFirstRTT := (tlrMaybeFinish s p).tlrFirstRTT,
               tlrHadAdditionalLoss := (tlrMaybeFinish s p).tlrHadAdditionalLoss, tlrEndTSN := (tlrMaybeFinish s p).tlrEndTSN,
               tlrBurstFirst := (tlrMaybeFinish s p).tlrBurstFirst, tlrBurstLater := (tlrMaybeFinish s p).tlrBurstLater,
               tlrGoodOps := (tlrMaybeFinish s p).tlrGoodOps } := by
  unfold tlrMaybeFinish
  split
  · rfl
  · split
    · unfold tlrEnd; rw [tlrScore_frame, tlrLeaveFirst_frame]
    · rw [tlrLeaveFirst_frame]

/-- an episode ends exactly when the cumulative ack point has reached its end TSN -/
theorem tlrMaybeFinish_tlrActive (s : St) (p : Bool) (ha : s.tlrActive = true) :
    (tlrMaybeFinish s p).tlrActive = !Gen.tlrFinish_done s.cumAck s.tlrEndTSN := by
  unfold tlrMaybeFinish
  rw [if_neg (by rw [ha]; decide)]
  split
  · next hd => rw [hd]; rfl
  · next hd => rw [Bool.not_eq_true] at hd; rw [hd, tlrLeaveFirst_frame]; exact ha

@[simp] theorem tlrMaybeFinish_q (s : St) (p : Bool) : (tlrMaybeFinish s p).q = s.q := by
  rw [tlrMaybeFinish_frame]

@[simp] theorem tlrMaybeFinish_cumAck (s : St) (p : Bool) : (tlrMaybeFinish s p).cumAck = s.cumAck := by
  rw [tlrMaybeFinish_frame]

@[simp] theorem tlrMaybeFinish_myNextTSN (s : St) (p : Bool) : (tlrMaybeFinish s p).myNextTSN = s.myNextTSN := by
  rw [tlrMaybeFinish_frame]

@[simp] theorem tlrMaybeFinish_minTSN2MeasureRTT (s : St) (p : Bool) : (tlrMaybeFinish s p).minTSN2MeasureRTT = s.minTSN2MeasureRTT := by
  rw [tlrMaybeFinish_frame]

@[simp] theorem tlrMaybeFinish_minRTT (s : St) (p : Bool) : (tlrMaybeFinish s p).minRTT = s.minRTT := by
  rw [tlrMaybeFinish_frame]

@[simp] theorem tlrMaybeFinish_minWnd (s : St) (p : Bool) : (tlrMaybeFinish s p).minWnd = s.minWnd := by
  rw [tlrMaybeFinish_frame]

@[simp] theorem tlrMaybeFinish_hw (s : St) (p : Bool) : (tlrMaybeFinish s p).hw = s.hw := by
  rw [tlrMaybeFinish_frame]

@[simp] theorem tlrMaybeFinish_reorderingSeen (s : St) (p : Bool) : (tlrMaybeFinish s p).reorderingSeen = s.reorderingSeen := by
  rw [tlrMaybeFinish_frame]

@[simp] theorem tlrMaybeFinish_keepInflated (s : St) (p : Bool) : (tlrMaybeFinish s p).keepInflated = s.keepInflated := by
  rw [tlrMaybeFinish_frame]

@[simp] theorem tlrMaybeFinish_rackDeadline (s : St) (p : Bool) : (tlrMaybeFinish s p).rackDeadline = s.rackDeadline := by
  rw [tlrMaybeFinish_frame]

@[simp] theorem tlrMaybeFinish_ptoDeadline (s : St) (p : Bool) : (tlrMaybeFinish s p).ptoDeadline = s.ptoDeadline := by
  rw [tlrMaybeFinish_frame]

@[simp] theorem tlrMaybeFinish_tlrStartTime (s : St) (p : Bool) : (tlrMaybeFinish s p).tlrStartTime = s.tlrStartTime := by
  rw [tlrMaybeFinish_frame]

@[simp] theorem tlrMaybeFinish_hbProbes (s : St) (p : Bool) : (tlrMaybeFinish s p).hbProbes = s.hbProbes := by
  rw [tlrMaybeFinish_frame]

theorem rackHw_frame (s : St) (t : BitVec 32) :
    rackHw s t = { s with hw := (rackHw s t).hw, reorderingSeen := (rackHw s t).reorderingSeen } := by
  unfold rackHw; split <;> rfl

theorem rackNewer_frame (s : St) (nt : Int) : rackNewer s nt = { s with deliveredTime := (rackNewer s nt).deliveredTime } := by
  unfold rackNewer; split <;> rfl

theorem rackDelivered_frame (s : St) (f : Bool) (nt : Int) (ntsn : BitVec 32) :
    rackDelivered s f nt ntsn =
      { s with hw := (rackDelivered s f nt ntsn).hw, reorderingSeen := (rackDelivered s f nt ntsn).reorderingSeen,
               deliveredTime := (rackDelivered s f nt ntsn).deliveredTime } := by
  unfold rackDelivered
  split
  · rw [rackNewer_frame, rackHw_frame]
  · rfl

@[simp] theorem reoMinRTT_keepInflated (s : St) : (reoMinRTT s).keepInflated = s.keepInflated := rfl

theorem reoInit_frame (s : St) (env : Env) : reoInit s env = { s with reoWnd := (reoInit s env).reoWnd } := by
  unfold reoInit
  split
  · rfl
  · split <;> rfl

@[simp] theorem reoInit_minWnd (s : St) (env : Env) : (reoInit s env).minWnd = s.minWnd := by
  rw [reoInit_frame]

@[simp] theorem reoInit_keepInflated (s : St) (env : Env) : (reoInit s env).keepInflated = s.keepInflated := by
  rw [reoInit_frame]

theorem reoInflate_frame (s : St) (nd : Int) :
    reoInflate s nd = { s with reoWnd := (reoInflate s nd).reoWnd, keepInflated := (reoInflate s nd).keepInflated } := by
  unfold reoInflate; split <;> rfl

@[simp] theorem reoInflate_minWnd (s : St) (nd : Int) : (reoInflate s nd).minWnd = s.minWnd := by
  rw [reoInflate_frame]

theorem reoKeep_frame (s : St) (env : Env) :
    reoKeep s env = { s with reoWnd := (reoKeep s env).reoWnd, keepInflated := (reoKeep s env).keepInflated } := by
  unfold reoKeep
  split
  · dsimp only; split <;> rfl
  · rfl

@[simp] theorem reoKeep_minRTT (s : St) (env : Env) : (reoKeep s env).minRTT = s.minRTT := by
  rw [reoKeep_frame]

@[simp] theorem reoKeep_minWnd (s : St) (env : Env) : (reoKeep s env).minWnd = s.minWnd := by
  rw [reoKeep_frame]

theorem reoClamp_frame (s : St) (env : Env) : reoClamp s env = { s with reoWnd := (reoClamp s env).reoWnd } := by
  unfold reoClamp
  split
  · split <;> rfl
  · rfl

@[simp] theorem reoClamp_minRTT (s : St) (env : Env) : (reoClamp s env).minRTT = s.minRTT := by
  rw [reoClamp_frame]

@[simp] theorem reoClamp_minWnd (s : St) (env : Env) : (reoClamp s env).minWnd = s.minWnd := by
  rw [reoClamp_frame]

@[simp] theorem reoClamp_keepInflated (s : St) (env : Env) : (reoClamp s env).keepInflated = s.keepInflated := by
  rw [reoClamp_frame]

theorem rackInsert_frame (s : St) (t : BitVec 32) : rackInsert s t = { s with list := (rackInsert s t).list } := by
  unfold rackInsert; split <;> rfl

@[simp] theorem rackInsert_cumAck (s : St) (t : BitVec 32) : (rackInsert s t).cumAck = s.cumAck := by
  rw [rackInsert_frame]

@[simp] theorem rackInsert_myNextTSN (s : St) (t : BitVec 32) : (rackInsert s t).myNextTSN = s.myNextTSN := by
  rw [rackInsert_frame]

@[simp] theorem rackInsert_minTSN2MeasureRTT (s : St) (t : BitVec 32) : (rackInsert s t).minTSN2MeasureRTT = s.minTSN2MeasureRTT := by
  rw [rackInsert_frame]

@[simp] theorem rackInsert_minRTT (s : St) (t : BitVec 32) : (rackInsert s t).minRTT = s.minRTT := by
  rw [rackInsert_frame]

@[simp] theorem rackInsert_minWnd (s : St) (t : BitVec 32) : (rackInsert s t).minWnd = s.minWnd := by
  rw [rackInsert_frame]

@[simp] theorem rackInsert_hw (s : St) (t : BitVec 32) : (rackInsert s t).hw = s.hw := by
  rw [rackInsert_frame]

@[simp] theorem rackInsert_reorderingSeen (s : St) (t : BitVec 32) : (rackInsert s t).reorderingSeen = s.reorderingSeen := by
  rw [rackInsert_frame]

@[simp] theorem rackInsert_keepInflated (s : St) (t : BitVec 32) : (rackInsert s t).keepInflated = s.keepInflated := by
  rw [rackInsert_frame]

@[simp] theorem rackInsert_rackDeadline (s : St) (t : BitVec 32) : (rackInsert s t).rackDeadline = s.rackDeadline := by
  rw [rackInsert_frame]

@[simp] theorem rackInsert_ptoDeadline (s : St) (t : BitVec 32) : (rackInsert s t).ptoDeadline = s.ptoDeadline := by
  rw [rackInsert_frame]

@[simp] theorem rackInsert_tlrActive (s : St) (t : BitVec 32) : (rackInsert s t).tlrActive = s.tlrActive := by
  rw [rackInsert_frame]

@[simp] theorem rackInsert_tlrFirstRTT (s : St) (t : BitVec 32) : (rackInsert s t).tlrFirstRTT = s.tlrFirstRTT := by
  rw [rackInsert_frame]

@[simp] theorem rackInsert_tlrHadAdditionalLoss (s : St) (t : BitVec 32) : (rackInsert s t).tlrHadAdditionalLoss = s.tlrHadAdditionalLoss := by
  rw [rackInsert_frame]

@[simp] theorem rackInsert_tlrEndTSN (s : St) (t : BitVec 32) : (rackInsert s t).tlrEndTSN = s.tlrEndTSN := by
  rw [rackInsert_frame]

@[simp] theorem rackInsert_tlrGoodOps (s : St) (t : BitVec 32) : (rackInsert s t).tlrGoodOps = s.tlrGoodOps := by
  rw [rackInsert_frame]

@[simp] theorem rackInsert_tlrStartTime (s : St) (t : BitVec 32) : (rackInsert s t).tlrStartTime = s.tlrStartTime := by
  rw [rackInsert_frame]

@[simp] theorem rackInsert_hbProbes (s : St) (t : BitVec 32) : (rackInsert s t).hbProbes = s.hbProbes := by
  rw [rackInsert_frame]

@[simp] theorem abandon_cfg (s : St) (ts : List (BitVec 32)) : (abandon s ts).cfg = s.cfg := rfl

@[simp] theorem abandon_now (s : St) (ts : List (BitVec 32)) : (abandon s ts).now = s.now := rfl

@[simp] theorem abandon_cumAck (s : St) (ts : List (BitVec 32)) : (abandon s ts).cumAck = s.cumAck := rfl

@[simp] theorem abandon_myNextTSN (s : St) (ts : List (BitVec 32)) : (abandon s ts).myNextTSN = s.myNextTSN := rfl

@[simp] theorem abandon_minTSN2MeasureRTT (s : St) (ts : List (BitVec 32)) : (abandon s ts).minTSN2MeasureRTT = s.minTSN2MeasureRTT := rfl

@[simp] theorem abandon_list (s : St) (ts : List (BitVec 32)) : (abandon s ts).list = s.list := rfl

@[simp] theorem abandon_reoWnd (s : St) (ts : List (BitVec 32)) : (abandon s ts).reoWnd = s.reoWnd := rfl

@[simp] theorem abandon_minRTT (s : St) (ts : List (BitVec 32)) : (abandon s ts).minRTT = s.minRTT := rfl

@[simp] theorem abandon_minWnd (s : St) (ts : List (BitVec 32)) : (abandon s ts).minWnd = s.minWnd := rfl

@[simp] theorem abandon_deliveredTime (s : St) (ts : List (BitVec 32)) : (abandon s ts).deliveredTime = s.deliveredTime := rfl

@[simp] theorem abandon_hw (s : St) (ts : List (BitVec 32)) : (abandon s ts).hw = s.hw := rfl

@[simp] theorem abandon_reorderingSeen (s : St) (ts : List (BitVec 32)) : (abandon s ts).reorderingSeen = s.reorderingSeen := rfl

@[simp] theorem abandon_keepInflated (s : St) (ts : List (BitVec 32)) : (abandon s ts).keepInflated = s.keepInflated := rfl

@[simp] theorem abandon_rackDeadline (s : St) (ts : List (BitVec 32)) : (abandon s ts).rackDeadline = s.rackDeadline := rfl

@[simp] theorem abandon_ptoDeadline (s : St) (ts : List (BitVec 32)) : (abandon s ts).ptoDeadline = s.ptoDeadline := rfl

@[simp] theorem abandon_tlrActive (s : St) (ts : List (BitVec 32)) : (abandon s ts).tlrActive = s.tlrActive := rfl

@[simp] theorem abandon_tlrFirstRTT (s : St) (ts : List (BitVec 32)) : (abandon s ts).tlrFirstRTT = s.tlrFirstRTT := rfl

@[simp] theorem abandon_tlrHadAdditionalLoss (s : St) (ts : List (BitVec 32)) : (abandon s ts).tlrHadAdditionalLoss = s.tlrHadAdditionalLoss := rfl

@[simp] theorem abandon_tlrEndTSN (s : St) (ts : List (BitVec 32)) : (abandon s ts).tlrEndTSN = s.tlrEndTSN := rfl

@[simp] theorem abandon_tlrBurstFirst (s : St) (ts : List (BitVec 32)) : (abandon s ts).tlrBurstFirst = s.tlrBurstFirst := rfl

@[simp] theorem abandon_tlrBurstLater (s : St) (ts : List (BitVec 32)) : (abandon s ts).tlrBurstLater = s.tlrBurstLater := rfl

@[simp] theorem abandon_tlrGoodOps (s : St) (ts : List (BitVec 32)) : (abandon s ts).tlrGoodOps = s.tlrGoodOps := rfl

@[simp] theorem abandon_tlrStartTime (s : St) (ts : List (BitVec 32)) : (abandon s ts).tlrStartTime = s.tlrStartTime := rfl

@[simp] theorem abandon_hbProbes (s : St) (ts : List (BitVec 32)) : (abandon s ts).hbProbes = s.hbProbes := rfl

@[simp] theorem t3_cfg (s : St) : (t3 s).cfg = s.cfg := rfl

@[simp] theorem t3_now (s : St) : (t3 s).now = s.now := rfl

@[simp] theorem t3_cumAck (s : St) : (t3 s).cumAck = s.cumAck := rfl

@[simp] theorem t3_myNextTSN (s : St) : (t3 s).myNextTSN = s.myNextTSN := rfl

@[simp] theorem t3_minTSN2MeasureRTT (s : St) : (t3 s).minTSN2MeasureRTT = s.minTSN2MeasureRTT := rfl

@[simp] theorem t3_list (s : St) : (t3 s).list = s.list := rfl

@[simp] theorem t3_reoWnd (s : St) : (t3 s).reoWnd = s.reoWnd := rfl

@[simp] theorem t3_minRTT (s : St) : (t3 s).minRTT = s.minRTT := rfl

@[simp] theorem t3_minWnd (s : St) : (t3 s).minWnd = s.minWnd := rfl

@[simp] theorem t3_deliveredTime (s : St) : (t3 s).deliveredTime = s.deliveredTime := rfl

@[simp] theorem t3_hw (s : St) : (t3 s).hw = s.hw := rfl

@[simp] theorem t3_reorderingSeen (s : St) : (t3 s).reorderingSeen = s.reorderingSeen := rfl

@[simp] theorem t3_keepInflated (s : St) : (t3 s).keepInflated = s.keepInflated := rfl

@[simp] theorem t3_rackDeadline (s : St) : (t3 s).rackDeadline = s.rackDeadline := rfl

@[simp] theorem t3_ptoDeadline (s : St) : (t3 s).ptoDeadline = s.ptoDeadline := rfl

@[simp] theorem t3_tlrActive (s : St) : (t3 s).tlrActive = s.tlrActive := rfl

@[simp] theorem t3_tlrFirstRTT (s : St) : (t3 s).tlrFirstRTT = s.tlrFirstRTT := rfl

@[simp] theorem t3_tlrHadAdditionalLoss (s : St) : (t3 s).tlrHadAdditionalLoss = s.tlrHadAdditionalLoss := rfl

@[simp] theorem t3_tlrEndTSN (s : St) : (t3 s).tlrEndTSN = s.tlrEndTSN := rfl

@[simp] theorem t3_tlrBurstFirst (s : St) : (t3 s).tlrBurstFirst = s.tlrBurstFirst := rfl

@[simp] theorem t3_tlrBurstLater (s : St) : (t3 s).tlrBurstLater = s.tlrBurstLater := rfl

@[simp] theorem t3_tlrGoodOps (s : St) : (t3 s).tlrGoodOps = s.tlrGoodOps := rfl

@[simp] theorem t3_tlrStartTime (s : St) : (t3 s).tlrStartTime = s.tlrStartTime := rfl

@[simp] theorem t3_hbProbes (s : St) : (t3 s).hbProbes = s.hbProbes := rfl

theorem tlrApplyAdditionalLoss_frame (s : St) (env : Env) (t : Int) :
    tlrApplyAdditionalLoss s env t =
      { s with tlrFirstRTT := (tlrApplyAdditionalLoss s env t).tlrFirstRTT,
               tlrHadAdditionalLoss := (tlrApplyAdditionalLoss s env t).tlrHadAdditionalLoss,
               tlrGoodOps := (tlrApplyAdditionalLoss s env t).tlrGoodOps,
               tlrBurstFirst := (tlrApplyAdditionalLoss s env t).tlrBurstFirst,
               tlrBurstLater := (tlrApplyAdditionalLoss s env t).tlrBurstLater } := by
  unfold tlrApplyAdditionalLoss
  split
  · rfl
  · dsimp only; rw [tlrUpdatePhase_frame]; split <;> rfl

theorem tlrBudgetScaled_frame (s : St) (env : Env) :
    (tlrBudgetScaled s env).1 = { s with tlrFirstRTT := (tlrBudgetScaled s env).1.tlrFirstRTT } := by
  unfold tlrBudgetScaled tlrCurrentBurstUnits
  split
  · rfl
  · exact tlrUpdatePhase_frame s env s.now

@[simp] theorem tlrBudgetScaled_cumAck (s : St) (env : Env) : ((tlrBudgetScaled s env).1).cumAck = s.cumAck := by
  rw [tlrBudgetScaled_frame]

@[simp] theorem tlrBudgetScaled_myNextTSN (s : St) (env : Env) : ((tlrBudgetScaled s env).1).myNextTSN = s.myNextTSN := by
  rw [tlrBudgetScaled_frame]

@[simp] theorem tlrBudgetScaled_minTSN2MeasureRTT (s : St) (env : Env) : ((tlrBudgetScaled s env).1).minTSN2MeasureRTT = s.minTSN2MeasureRTT := by
  rw [tlrBudgetScaled_frame]

@[simp] theorem tlrBudgetScaled_minRTT (s : St) (env : Env) : ((tlrBudgetScaled s env).1).minRTT = s.minRTT := by
  rw [tlrBudgetScaled_frame]

@[simp] theorem tlrBudgetScaled_minWnd (s : St) (env : Env) : ((tlrBudgetScaled s env).1).minWnd = s.minWnd := by
  rw [tlrBudgetScaled_frame]

@[simp] theorem tlrBudgetScaled_hw (s : St) (env : Env) : ((tlrBudgetScaled s env).1).hw = s.hw := by
  rw [tlrBudgetScaled_frame]

@[simp] theorem tlrBudgetScaled_reorderingSeen (s : St) (env : Env) : ((tlrBudgetScaled s env).1).reorderingSeen = s.reorderingSeen := by
  rw [tlrBudgetScaled_frame]

@[simp] theorem tlrBudgetScaled_keepInflated (s : St) (env : Env) : ((tlrBudgetScaled s env).1).keepInflated = s.keepInflated := by
  rw [tlrBudgetScaled_frame]

@[simp] theorem tlrBudgetScaled_rackDeadline (s : St) (env : Env) : ((tlrBudgetScaled s env).1).rackDeadline = s.rackDeadline := by
  rw [tlrBudgetScaled_frame]

@[simp] theorem tlrBudgetScaled_ptoDeadline (s : St) (env : Env) : ((tlrBudgetScaled s env).1).ptoDeadline = s.ptoDeadline := by
  rw [tlrBudgetScaled_frame]

@[simp] theorem tlrBudgetScaled_tlrActive (s : St) (env : Env) : ((tlrBudgetScaled s env).1).tlrActive = s.tlrActive := by
  rw [tlrBudgetScaled_frame]

@[simp] theorem tlrBudgetScaled_tlrHadAdditionalLoss (s : St) (env : Env) : ((tlrBudgetScaled s env).1).tlrHadAdditionalLoss = s.tlrHadAdditionalLoss := by
  rw [tlrBudgetScaled_frame]

@[simp] theorem tlrBudgetScaled_tlrEndTSN (s : St) (env : Env) : ((tlrBudgetScaled s env).1).tlrEndTSN = s.tlrEndTSN := by
  rw [tlrBudgetScaled_frame]

@[simp] theorem tlrBudgetScaled_tlrGoodOps (s : St) (env : Env) : ((tlrBudgetScaled s env).1).tlrGoodOps = s.tlrGoodOps := by
  rw [tlrBudgetScaled_frame]

@[simp] theorem tlrBudgetScaled_tlrStartTime (s : St) (env : Env) : ((tlrBudgetScaled s env).1).tlrStartTime = s.tlrStartTime := by
  rw [tlrBudgetScaled_frame]

@[simp] theorem tlrBudgetScaled_hbProbes (s : St) (env : Env) : ((tlrBudgetScaled s env).1).hbProbes = s.hbProbes := by
  rw [tlrBudgetScaled_frame]

theorem schedulePTOAfterSend_frame (s : St) (env : Env) :
    schedulePTOAfterSend s env = { s with ptoDeadline := (schedulePTOAfterSend s env).ptoDeadline } := by
  unfold schedulePTOAfterSend; split <;> rfl

@[simp] theorem schedulePTOAfterSend_cumAck (s : St) (env : Env) : (schedulePTOAfterSend s env).cumAck = s.cumAck := by
  rw [schedulePTOAfterSend_frame]

@[simp] theorem schedulePTOAfterSend_myNextTSN (s : St) (env : Env) : (schedulePTOAfterSend s env).myNextTSN = s.myNextTSN := by
  rw [schedulePTOAfterSend_frame]

@[simp] theorem schedulePTOAfterSend_minTSN2MeasureRTT (s : St) (env : Env) : (schedulePTOAfterSend s env).minTSN2MeasureRTT = s.minTSN2MeasureRTT := by
  rw [schedulePTOAfterSend_frame]

@[simp] theorem schedulePTOAfterSend_minRTT (s : St) (env : Env) : (schedulePTOAfterSend s env).minRTT = s.minRTT := by
  rw [schedulePTOAfterSend_frame]

@[simp] theorem schedulePTOAfterSend_minWnd (s : St) (env : Env) : (schedulePTOAfterSend s env).minWnd = s.minWnd := by
  rw [schedulePTOAfterSend_frame]

@[simp] theorem schedulePTOAfterSend_hw (s : St) (env : Env) : (schedulePTOAfterSend s env).hw = s.hw := by
  rw [schedulePTOAfterSend_frame]

@[simp] theorem schedulePTOAfterSend_reorderingSeen (s : St) (env : Env) : (schedulePTOAfterSend s env).reorderingSeen = s.reorderingSeen := by
  rw [schedulePTOAfterSend_frame]

@[simp] theorem schedulePTOAfterSend_keepInflated (s : St) (env : Env) : (schedulePTOAfterSend s env).keepInflated = s.keepInflated := by
  rw [schedulePTOAfterSend_frame]

@[simp] theorem schedulePTOAfterSend_rackDeadline (s : St) (env : Env) : (schedulePTOAfterSend s env).rackDeadline = s.rackDeadline := by
  rw [schedulePTOAfterSend_frame]

@[simp] theorem schedulePTOAfterSend_tlrActive (s : St) (env : Env) : (schedulePTOAfterSend s env).tlrActive = s.tlrActive := by
  rw [schedulePTOAfterSend_frame]

@[simp] theorem schedulePTOAfterSend_tlrFirstRTT (s : St) (env : Env) : (schedulePTOAfterSend s env).tlrFirstRTT = s.tlrFirstRTT := by
  rw [schedulePTOAfterSend_frame]

@[simp] theorem schedulePTOAfterSend_tlrHadAdditionalLoss (s : St) (env : Env) : (schedulePTOAfterSend s env).tlrHadAdditionalLoss = s.tlrHadAdditionalLoss := by
  rw [schedulePTOAfterSend_frame]

@[simp] theorem schedulePTOAfterSend_tlrEndTSN (s : St) (env : Env) : (schedulePTOAfterSend s env).tlrEndTSN = s.tlrEndTSN := by
  rw [schedulePTOAfterSend_frame]

@[simp] theorem schedulePTOAfterSend_tlrGoodOps (s : St) (env : Env) : (schedulePTOAfterSend s env).tlrGoodOps = s.tlrGoodOps := by
  rw [schedulePTOAfterSend_frame]

@[simp] theorem schedulePTOAfterSend_tlrStartTime (s : St) (env : Env) : (schedulePTOAfterSend s env).tlrStartTime = s.tlrStartTime := by
  rw [schedulePTOAfterSend_frame]

@[simp] theorem schedulePTOAfterSend_hbProbes (s : St) (env : Env) : (schedulePTOAfterSend s env).hbProbes = s.hbProbes := by
  rw [schedulePTOAfterSend_frame]

theorem schedulePTOAfterSack_frame (s : St) (env : Env) :
    schedulePTOAfterSack s env = { s with ptoDeadline := (schedulePTOAfterSack s env).ptoDeadline } := by
  unfold schedulePTOAfterSack; split <;> rfl

@[simp] theorem schedulePTOAfterSack_cumAck (s : St) (env : Env) : (schedulePTOAfterSack s env).cumAck = s.cumAck := by
  rw [schedulePTOAfterSack_frame]

@[simp] theorem schedulePTOAfterSack_myNextTSN (s : St) (env : Env) : (schedulePTOAfterSack s env).myNextTSN = s.myNextTSN := by
  rw [schedulePTOAfterSack_frame]

@[simp] theorem schedulePTOAfterSack_minTSN2MeasureRTT (s : St) (env : Env) : (schedulePTOAfterSack s env).minTSN2MeasureRTT = s.minTSN2MeasureRTT := by
  rw [schedulePTOAfterSack_frame]

@[simp] theorem schedulePTOAfterSack_minRTT (s : St) (env : Env) : (schedulePTOAfterSack s env).minRTT = s.minRTT := by
  rw [schedulePTOAfterSack_frame]

@[simp] theorem schedulePTOAfterSack_minWnd (s : St) (env : Env) : (schedulePTOAfterSack s env).minWnd = s.minWnd := by
  rw [schedulePTOAfterSack_frame]

@[simp] theorem schedulePTOAfterSack_hw (s : St) (env : Env) : (schedulePTOAfterSack s env).hw = s.hw := by
  rw [schedulePTOAfterSack_frame]

@[simp] theorem schedulePTOAfterSack_reorderingSeen (s : St) (env : Env) : (schedulePTOAfterSack s env).reorderingSeen = s.reorderingSeen := by
  rw [schedulePTOAfterSack_frame]

@[simp] theorem schedulePTOAfterSack_keepInflated (s : St) (env : Env) : (schedulePTOAfterSack s env).keepInflated = s.keepInflated := by
  rw [schedulePTOAfterSack_frame]

@[simp] theorem schedulePTOAfterSack_tlrActive (s : St) (env : Env) : (schedulePTOAfterSack s env).tlrActive = s.tlrActive := by
  rw [schedulePTOAfterSack_frame]

@[simp] theorem schedulePTOAfterSack_tlrFirstRTT (s : St) (env : Env) : (schedulePTOAfterSack s env).tlrFirstRTT = s.tlrFirstRTT := by
  rw [schedulePTOAfterSack_frame]

@[simp] theorem schedulePTOAfterSack_tlrHadAdditionalLoss (s : St) (env : Env) : (schedulePTOAfterSack s env).tlrHadAdditionalLoss = s.tlrHadAdditionalLoss := by
  rw [schedulePTOAfterSack_frame]

@[simp] theorem schedulePTOAfterSack_tlrEndTSN (s : St) (env : Env) : (schedulePTOAfterSack s env).tlrEndTSN = s.tlrEndTSN := by
  rw [schedulePTOAfterSack_frame]

@[simp] theorem schedulePTOAfterSack_tlrGoodOps (s : St) (env : Env) : (schedulePTOAfterSack s env).tlrGoodOps = s.tlrGoodOps := by
  rw [schedulePTOAfterSack_frame]

@[simp] theorem schedulePTOAfterSack_tlrStartTime (s : St) (env : Env) : (schedulePTOAfterSack s env).tlrStartTime = s.tlrStartTime := by
  rw [schedulePTOAfterSack_frame]

@[simp] theorem schedulePTOAfterSack_hbProbes (s : St) (env : Env) : (schedulePTOAfterSack s env).hbProbes = s.hbProbes := by
  rw [schedulePTOAfterSack_frame]

theorem rackArm_frame (s : St) : rackArm s = { s with rackDeadline := (rackArm s).rackDeadline } := by
  unfold rackArm; split <;> rfl

@[simp] theorem rackArm_cumAck (s : St) : (rackArm s).cumAck = s.cumAck := by
  rw [rackArm_frame]

@[simp] theorem rackArm_myNextTSN (s : St) : (rackArm s).myNextTSN = s.myNextTSN := by
  rw [rackArm_frame]

@[simp] theorem rackArm_minTSN2MeasureRTT (s : St) : (rackArm s).minTSN2MeasureRTT = s.minTSN2MeasureRTT := by
  rw [rackArm_frame]

@[simp] theorem rackArm_minRTT (s : St) : (rackArm s).minRTT = s.minRTT := by
  rw [rackArm_frame]

@[simp] theorem rackArm_minWnd (s : St) : (rackArm s).minWnd = s.minWnd := by
  rw [rackArm_frame]

@[simp] theorem rackArm_hw (s : St) : (rackArm s).hw = s.hw := by
  rw [rackArm_frame]

@[simp] theorem rackArm_reorderingSeen (s : St) : (rackArm s).reorderingSeen = s.reorderingSeen := by
  rw [rackArm_frame]

@[simp] theorem rackArm_keepInflated (s : St) : (rackArm s).keepInflated = s.keepInflated := by
  rw [rackArm_frame]

@[simp] theorem rackArm_ptoDeadline (s : St) : (rackArm s).ptoDeadline = s.ptoDeadline := by
  rw [rackArm_frame]

@[simp] theorem rackArm_tlrActive (s : St) : (rackArm s).tlrActive = s.tlrActive := by
  rw [rackArm_frame]

@[simp] theorem rackArm_tlrFirstRTT (s : St) : (rackArm s).tlrFirstRTT = s.tlrFirstRTT := by
  rw [rackArm_frame]

@[simp] theorem rackArm_tlrHadAdditionalLoss (s : St) : (rackArm s).tlrHadAdditionalLoss = s.tlrHadAdditionalLoss := by
  rw [rackArm_frame]

@[simp] theorem rackArm_tlrEndTSN (s : St) : (rackArm s).tlrEndTSN = s.tlrEndTSN := by
  rw [rackArm_frame]

@[simp] theorem rackArm_tlrGoodOps (s : St) : (rackArm s).tlrGoodOps = s.tlrGoodOps := by
  rw [rackArm_frame]

@[simp] theorem rackArm_tlrStartTime (s : St) : (rackArm s).tlrStartTime = s.tlrStartTime := by
  rw [rackArm_frame]

@[simp] theorem rackArm_hbProbes (s : St) : (rackArm s).hbProbes = s.hbProbes := by
  rw [rackArm_frame]

/-- `x` is `s` except for the four fields of the reordering-window computation. Unlike the frame equations this
relation composes, which is how the five steps of `rackReoWnd` are put together. -/
def ReoFrame (s x : St) : Prop :=
  x = { s with reoWnd := x.reoWnd, minRTT := x.minRTT, minWnd := x.minWnd, keepInflated := x.keepInflated }

theorem ReoFrame.trans {a b c : St} (h1 : ReoFrame a b) (h2 : ReoFrame b c) : ReoFrame a c := by
  unfold ReoFrame at *
  rw [h1] at h2
  exact h2

theorem reoMinRTT_reoFrame (s : St) : ReoFrame s (reoMinRTT s) := rfl

theorem reoInit_reoFrame (s : St) (env : Env) : ReoFrame s (reoInit s env) := by
  unfold ReoFrame; rw [reoInit_frame]

theorem reoInflate_reoFrame (s : St) (nd : Int) : ReoFrame s (reoInflate s nd) := by
  unfold ReoFrame; rw [reoInflate_frame]

theorem reoKeep_reoFrame (s : St) (env : Env) : ReoFrame s (reoKeep s env) := by
  unfold ReoFrame; rw [reoKeep_frame]

theorem reoClamp_reoFrame (s : St) (env : Env) : ReoFrame s (reoClamp s env) := by
  unfold ReoFrame; rw [reoClamp_frame]

theorem rackReoWnd_frame (s : St) (env : Env) (nd : Int) :
    rackReoWnd s env nd =
      { s with reoWnd := (rackReoWnd s env nd).reoWnd, minRTT := (rackReoWnd s env nd).minRTT,
               minWnd := (rackReoWnd s env nd).minWnd, keepInflated := (rackReoWnd s env nd).keepInflated } :=
  ((((reoMinRTT_reoFrame s).trans (reoInit_reoFrame _ env)).trans (reoInflate_reoFrame _ nd)).trans
    (reoKeep_reoFrame _ env)).trans (reoClamp_reoFrame _ env)

@[simp] theorem rackReoWnd_cumAck (s : St) (env : Env) (nd : Int) : (rackReoWnd s env nd).cumAck = s.cumAck := by
  rw [rackReoWnd_frame]

@[simp] theorem rackReoWnd_myNextTSN (s : St) (env : Env) (nd : Int) : (rackReoWnd s env nd).myNextTSN = s.myNextTSN := by
  rw [rackReoWnd_frame]

@[simp] theorem rackReoWnd_minTSN2MeasureRTT (s : St) (env : Env) (nd : Int) : (rackReoWnd s env nd).minTSN2MeasureRTT = s.minTSN2MeasureRTT := by
  rw [rackReoWnd_frame]

@[simp] theorem rackReoWnd_hw (s : St) (env : Env) (nd : Int) : (rackReoWnd s env nd).hw = s.hw := by
  rw [rackReoWnd_frame]

@[simp] theorem rackReoWnd_reorderingSeen (s : St) (env : Env) (nd : Int) : (rackReoWnd s env nd).reorderingSeen = s.reorderingSeen := by
  rw [rackReoWnd_frame]

@[simp] theorem rackReoWnd_rackDeadline (s : St) (env : Env) (nd : Int) : (rackReoWnd s env nd).rackDeadline = s.rackDeadline := by
  rw [rackReoWnd_frame]

@[simp] theorem rackReoWnd_ptoDeadline (s : St) (env : Env) (nd : Int) : (rackReoWnd s env nd).ptoDeadline = s.ptoDeadline := by
  rw [rackReoWnd_frame]

@[simp] theorem rackReoWnd_tlrActive (s : St) (env : Env) (nd : Int) : (rackReoWnd s env nd).tlrActive = s.tlrActive := by
  rw [rackReoWnd_frame]

@[simp] theorem rackReoWnd_tlrFirstRTT (s : St) (env : Env) (nd : Int) : (rackReoWnd s env nd).tlrFirstRTT = s.tlrFirstRTT := by
  rw [rackReoWnd_frame]

@[simp] theorem rackReoWnd_tlrHadAdditionalLoss (s : St) (env : Env) (nd : Int) : (rackReoWnd s env nd).tlrHadAdditionalLoss = s.tlrHadAdditionalLoss := by
  rw [rackReoWnd_frame]

@[simp] theorem rackReoWnd_tlrEndTSN (s : St) (env : Env) (nd : Int) : (rackReoWnd s env nd).tlrEndTSN = s.tlrEndTSN := by
  rw [rackReoWnd_frame]

@[simp] theorem rackReoWnd_tlrGoodOps (s : St) (env : Env) (nd : Int) : (rackReoWnd s env nd).tlrGoodOps = s.tlrGoodOps := by
  rw [rackReoWnd_frame]

@[simp] theorem rackReoWnd_tlrStartTime (s : St) (env : Env) (nd : Int) : (rackReoWnd s env nd).tlrStartTime = s.tlrStartTime := by
  rw [rackReoWnd_frame]

@[simp] theorem rackReoWnd_hbProbes (s : St) (env : Env) (nd : Int) : (rackReoWnd s env nd).hbProbes = s.hbProbes := by
  rw [rackReoWnd_frame]

theorem afterWalk_frame (s : St) (env : Env) (r : WalkOut) :
    afterWalk s env r =
      { s with list := r.list, q := r.q, tlrFirstRTT := (afterWalk s env r).tlrFirstRTT,
               tlrHadAdditionalLoss := (afterWalk s env r).tlrHadAdditionalLoss, tlrGoodOps := (afterWalk s env r).tlrGoodOps,
               tlrBurstFirst := (afterWalk s env r).tlrBurstFirst, tlrBurstLater := (afterWalk s env r).tlrBurstLater } := by
  unfold afterWalk afterMarks
  split
  · rw [tlrApplyAdditionalLoss_frame]
  · rfl

@[simp] theorem afterWalk_cumAck (s : St) (env : Env) (r : WalkOut) : (afterWalk s env r).cumAck = s.cumAck := by
  rw [afterWalk_frame]

@[simp] theorem afterWalk_myNextTSN (s : St) (env : Env) (r : WalkOut) : (afterWalk s env r).myNextTSN = s.myNextTSN := by
  rw [afterWalk_frame]

@[simp] theorem afterWalk_minTSN2MeasureRTT (s : St) (env : Env) (r : WalkOut) : (afterWalk s env r).minTSN2MeasureRTT = s.minTSN2MeasureRTT := by
  rw [afterWalk_frame]

@[simp] theorem afterWalk_minRTT (s : St) (env : Env) (r : WalkOut) : (afterWalk s env r).minRTT = s.minRTT := by
  rw [afterWalk_frame]

@[simp] theorem afterWalk_minWnd (s : St) (env : Env) (r : WalkOut) : (afterWalk s env r).minWnd = s.minWnd := by
  rw [afterWalk_frame]

@[simp] theorem afterWalk_hw (s : St) (env : Env) (r : WalkOut) : (afterWalk s env r).hw = s.hw := by
  rw [afterWalk_frame]

@[simp] theorem afterWalk_reorderingSeen (s : St) (env : Env) (r : WalkOut) : (afterWalk s env r).reorderingSeen = s.reorderingSeen := by
  rw [afterWalk_frame]

@[simp] theorem afterWalk_keepInflated (s : St) (env : Env) (r : WalkOut) : (afterWalk s env r).keepInflated = s.keepInflated := by
  rw [afterWalk_frame]

@[simp] theorem afterWalk_rackDeadline (s : St) (env : Env) (r : WalkOut) : (afterWalk s env r).rackDeadline = s.rackDeadline := by
  rw [afterWalk_frame]

@[simp] theorem afterWalk_ptoDeadline (s : St) (env : Env) (r : WalkOut) : (afterWalk s env r).ptoDeadline = s.ptoDeadline := by
  rw [afterWalk_frame]

@[simp] theorem afterWalk_tlrActive (s : St) (env : Env) (r : WalkOut) : (afterWalk s env r).tlrActive = s.tlrActive := by
  rw [afterWalk_frame]

@[simp] theorem afterWalk_tlrEndTSN (s : St) (env : Env) (r : WalkOut) : (afterWalk s env r).tlrEndTSN = s.tlrEndTSN := by
  rw [afterWalk_frame]

@[simp] theorem afterWalk_tlrStartTime (s : St) (env : Env) (r : WalkOut) : (afterWalk s env r).tlrStartTime = s.tlrStartTime := by
  rw [afterWalk_frame]

@[simp] theorem afterWalk_hbProbes (s : St) (env : Env) (r : WalkOut) : (afterWalk s env r).hbProbes = s.hbProbes := by
  rw [afterWalk_frame]

@[simp] theorem afterWalk_q (s : St) (env : Env) (r : WalkOut) : (afterWalk s env r).q = r.q := by
  rw [afterWalk_frame]

@[simp] theorem afterWalk_list (s : St) (env : Env) (r : WalkOut) : (afterWalk s env r).list = r.list := by
  rw [afterWalk_frame]

theorem send_frame (s : St) (p : Bool) :
    send s p =
      { s with myNextTSN := s.myNextTSN + 1, q := s.q ++ [{ tsn := s.myNextTSN, since := s.now, nSent := 1 }],
               list := (send s p).list } := by
  unfold send
  rw [rackInsert_frame]
  cases p <;> rfl

theorem resend_frame (s : St) (t : BitVec 32) (clearFlag prFires : Bool) :
    resend s t clearFlag prFires =
      { s with q := modify s.q t (retx s.now clearFlag), list := (resend s t clearFlag prFires).list } := by
  unfold resend
  rw [rackInsert_frame]
  cases prFires <;> rfl

/-- the RTT sample writes the measuring mark and the min-RTT window; the newest-delivered bookkeeping is in the accumulator -/
theorem ackOne_frame (gap : Bool) (s : St) (a : AckAcc) (c : Chunk) :
    (ackOne gap s a c).1 =
      { s with minTSN2MeasureRTT := (ackOne gap s a c).1.minTSN2MeasureRTT, minWnd := (ackOne gap s a c).1.minWnd } := by
  unfold ackOne ackSample
  dsimp only
  split <;> (split <;> rfl)

theorem iter_induction {P : St → Prop} {f : St → St} (hf : ∀ s, P s → P (f s)) : ∀ (n : Nat) (s : St), P s → P (iter f n s)
  | 0, _, h => h
  | n + 1, s, h => iter_induction hf n (f s) (hf s h)

/-- the state in which the marking loop of `onRackAfterSACK` runs: steps 1 and 2 done -/
def beforeMark (s : St) (env : Env) (found : Bool) (nt : Int) (ntsn : BitVec 32) (nd : Int) : St :=
  rackReoWnd (rackDelivered s found nt ntsn) env nd

/-- steps 1 and 2 write the delivered-time bookkeeping and the reordering window, nothing else -/
theorem beforeMark_frame (s : St) (env : Env) (f : Bool) (nt : Int) (ntsn : BitVec 32) (nd : Int) :
    beforeMark s env f nt ntsn nd =
      { s with hw := (beforeMark s env f nt ntsn nd).hw, reorderingSeen := (beforeMark s env f nt ntsn nd).reorderingSeen,
               deliveredTime := (beforeMark s env f nt ntsn nd).deliveredTime, reoWnd := (beforeMark s env f nt ntsn nd).reoWnd,
               minRTT := (beforeMark s env f nt ntsn nd).minRTT, minWnd := (beforeMark s env f nt ntsn nd).minWnd,
               keepInflated := (beforeMark s env f nt ntsn nd).keepInflated } := by
  unfold beforeMark
  rw [rackReoWnd_frame, rackDelivered_frame]

theorem beforeMark_q (s : St) (env : Env) (f : Bool) (nt : Int) (ntsn : BitVec 32) (nd : Int) :
    (beforeMark s env f nt ntsn nd).q = s.q := by rw [beforeMark_frame]

theorem beforeMark_list (s : St) (env : Env) (f : Bool) (nt : Int) (ntsn : BitVec 32) (nd : Int) :
    (beforeMark s env f nt ntsn nd).list = s.list := by rw [beforeMark_frame]

/-- step 1 moves the delivered time forward to the newest delivered send time, never back -/
theorem rackDelivered_deliveredTime (s : St) (found : Bool) (nt : Int) (ntsn : BitVec 32) :
    (rackDelivered s found nt ntsn).deliveredTime = if found = true ∧ s.deliveredTime < nt then nt else s.deliveredTime := by
  unfold rackDelivered
  cases found
  · simp
  · unfold rackNewer Gen.rack_newerDelivered
    rw [rackHw_frame]
    by_cases h : s.deliveredTime < nt <;> simp [h]

/-- steps 4 and 5 of `onRackAfterSACK` write the two deadlines -/
theorem rearm_frame (s : St) (env : Env) :
    schedulePTOAfterSack (rackArm s) env =
      { s with rackDeadline := (rackArm s).rackDeadline, ptoDeadline := (schedulePTOAfterSack (rackArm s) env).ptoDeadline } := by
  rw [schedulePTOAfterSack_frame, rackArm_frame]

/-- the TLR part of `onPTOTimerLocked` writes TLR fields only -/
theorem ptoTlr_frame (s : St) (env : Env) :
    ptoTlr s env =
      { s with tlrActive := (ptoTlr s env).tlrActive, tlrFirstRTT := (ptoTlr s env).tlrFirstRTT,
               tlrHadAdditionalLoss := (ptoTlr s env).tlrHadAdditionalLoss, tlrEndTSN := (ptoTlr s env).tlrEndTSN,
               tlrBurstFirst := (ptoTlr s env).tlrBurstFirst, tlrBurstLater := (ptoTlr s env).tlrBurstLater,
               tlrGoodOps := (ptoTlr s env).tlrGoodOps, tlrStartTime := (ptoTlr s env).tlrStartTime } := by
  unfold ptoTlr
  split
  · rfl
  · rw [tlrApplyAdditionalLoss_frame]

@[simp] theorem ptoTlr_q (s : St) (env : Env) : (ptoTlr s env).q = s.q := by rw [ptoTlr_frame]

/-- a SACK that is processed, taken apart -/
theorem sack_some {s : St} {env : Env} {cum : BitVec 32} {gaps : List (BitVec 32)} {nd : Int} {nm : Nat} {r : St × List (BitVec 32)}
    (h : sack s env cum gaps nd nm = some r) : ∃ p, ackPhase s cum gaps = some p ∧ r = afterAck p.1 env p.2.1 p.2.2 nd nm := by
  unfold sack at h
  split at h
  · cases h
  · next p hp => exact ⟨p, hp, (Option.some.inj h).symm⟩

theorem ackPhase_some {s : St} {cum : BitVec 32} {gaps : List (BitVec 32)} {r : St × AckAcc × Bool} (h : ackPhase s cum gaps = some r) :
    ∃ r1 r2, popCum s.q (s.cumAck + 1) cum s {} = some r1 ∧ gapAll gaps r1.1 r1.2.1 r1.2.2 = some r2 ∧
      r = ((ackFinish s.cumAck cum r2.1 r2.2.1).1, r2.2.2, (ackFinish s.cumAck cum r2.1 r2.2.1).2) := by
  unfold ackPhase at h
  split at h
  · cases h
  · next r1 h1 =>
    split at h
    · cases h
    · next r2 h2 => exact ⟨r1, r2, h1, h2, (Option.some.inj h).symm⟩

theorem ackFinish_frame (old cum : BitVec 32) (q : List Chunk) (s : St) :
    (ackFinish old cum q s).1 =
      { s with q := q, cumAck := (ackFinish old cum q s).1.cumAck, rackDeadline := (ackFinish old cum q s).1.rackDeadline,
               ptoDeadline := (ackFinish old cum q s).1.ptoDeadline } := by
  unfold ackFinish
  split
  · split <;> rfl
  · rfl

theorem get_mem {q : List Chunk} {t : BitVec 32} {c : Chunk} (h : get q t = some c) : c ∈ q := by
  unfold get at h
  cases q with
  | nil => cases h
  | cons f r =>
    simp only at h
    split at h
    · cases h
    · exact List.mem_of_getElem? h

theorem not_mem_rackRemove (s : St) (t : BitVec 32) : t ∉ (rackRemove s t).list := by
  simp [rackRemove, List.mem_filter]

/-- Proof rule for the two loops of `processSelectiveAck`: a property of the loop state (the store `q` carried beside the
state, the state, the accumulator) that is kept by the four things the loops do — unlink a TSN from the RACK list, take the
RTT sample / newest-delivered reading of a chunk of the store, drop the front chunk once it is unlinked, set the acked flag. -/
structure AckRule (P : List Chunk → St → AckAcc → Prop) : Prop where
  remove : ∀ {q s a} (t : BitVec 32), P q s a → P q (rackRemove s t) a
  sample : ∀ {q s a} (gap : Bool) (c : Chunk), c ∈ q → P q s a → P q (ackOne gap s a c).1 (ackOne gap s a c).2
  pop : ∀ {c q s a}, c.tsn ∉ s.list → P (c :: q) s a → P q s a
  mark : ∀ {q s a} (t : BitVec 32), P q s a → P (modify q t fun c => { c with acked := true, retransmit := false }) s a

theorem popCum_rule {P : List Chunk → St → AckAcc → Prop} (hP : AckRule P) (q : List Chunk) (idx cum : BitVec 32) (s : St) (a : AckAcc) :
    P q s a → ∀ r, popCum q idx cum s a = some r → P r.1 r.2.1 r.2.2 := by
  fun_induction popCum q idx cum s a with
  | case1 => exact fun _ _ hr => nomatch hr
  | case2 => rintro h _ ⟨⟩; exact h
  | case3 c rest idx cum s a _ _ s1 r ih =>
    intro h
    apply ih
    have h1 := hP.remove c.tsn h
    have hnot := not_mem_rackRemove s c.tsn
    show P rest (if (!c.acked) = true then ackOne false s1 a c else (s1, a)).1
      (if (!c.acked) = true then ackOne false s1 a c else (s1, a)).2
    split
    · exact hP.pop (by rw [ackOne_frame]; exact hnot) (hP.sample false c List.mem_cons_self h1)
    · exact hP.pop hnot h1
  | case4 => exact fun _ _ hr => nomatch hr
  | case5 => rintro h _ ⟨⟩; exact h

theorem gapOne_rule {P : List Chunk → St → AckAcc → Prop} (hP : AckRule P) (q : List Chunk) (s : St) (a : AckAcc) (t : BitVec 32)
    (h : P q s a) : ∀ r, gapOne q s a t = some r → P r.1 r.2.1 r.2.2 := by
  intro r hr
  unfold gapOne at hr
  split at hr
  · cases hr
  · next c hg =>
    split at hr
    · cases hr; exact hP.mark c.tsn (hP.sample true c (get_mem hg) (hP.remove c.tsn h))
    · cases hr; exact hP.remove c.tsn h

theorem gapAll_rule {P : List Chunk → St → AckAcc → Prop} (hP : AckRule P) (ts : List (BitVec 32)) (q : List Chunk) (s : St) (a : AckAcc) :
    P q s a → ∀ r, gapAll ts q s a = some r → P r.1 r.2.1 r.2.2 := by
  fun_induction gapAll ts q s a with
  | case1 => rintro h _ ⟨⟩; exact h
  | case2 => exact fun _ _ hr => nomatch hr
  | case3 t ts q s a r1 hg ih => exact fun h => ih (gapOne_rule hP q s a t h r1 hg)

/-- a SACK's acknowledgement phase: the loops keep `P`, and what is written afterwards is the store, the cumulative point and
(when everything in flight is acknowledged) the two deadlines -/
theorem ackPhase_rule {P : List Chunk → St → AckAcc → Prop} (hP : AckRule P) {s : St} {cum : BitVec 32} {gaps : List (BitVec 32)}
    {r : St × AckAcc × Bool} (h0 : P s.q s {}) (hr : ackPhase s cum gaps = some r) :
    ∃ q' s', P q' s' r.2.1 ∧
      r.1 = { s' with q := q', cumAck := r.1.cumAck, rackDeadline := r.1.rackDeadline, ptoDeadline := r.1.ptoDeadline } := by
  obtain ⟨r1, r2, hp, hg, rfl⟩ := ackPhase_some hr
  exact ⟨r2.1, r2.2.1, gapAll_rule hP _ _ _ _ (popCum_rule hP _ _ _ _ _ h0 r1 hp) r2 hg, ackFinish_frame _ _ _ _⟩

end Rack
