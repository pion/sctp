import SctpVerif.Proofs.Rack.Marks
/-!
The TLR burst units stay within the bounds the code intends, through every operation.
-/
namespace Rack
open Gen

/-- first-RTT burst within [min, default] = [8, 16] quarter-MTUs, later-RTT burst within [5, 8] -/
def UnitsOK (s : St) : Prop :=
  tlrLoss_firstMin ≤ s.tlrBurstFirst ∧ s.tlrBurstFirst ≤ tlrFinish_firstDefault ∧
  tlrLoss_laterMin ≤ s.tlrBurstLater ∧ s.tlrBurstLater ≤ tlrFinish_laterDefault

theorem UnitsOK.congr {s s' : St} (h : UnitsOK s) (h1 : s'.tlrBurstFirst = s.tlrBurstFirst) (h2 : s'.tlrBurstLater = s.tlrBurstLater) :
    UnitsOK s' := by
  unfold UnitsOK at *; rw [h1, h2]; exact h

/-- one loss step of the first-RTT burst: 4 quarter-MTUs down, not below the minimum -/
theorem firstStep_ok {u : Int} (h1 : tlrLoss_firstMin ≤ u) (h2 : u ≤ tlrFinish_firstDefault) :
    tlrLoss_firstMin ≤ (if tlrLoss_firstBelowMin (tlrLoss_firstStepped u) then tlrLoss_firstMin else tlrLoss_firstStepped u) ∧
    (if tlrLoss_firstBelowMin (tlrLoss_firstStepped u) then tlrLoss_firstMin else tlrLoss_firstStepped u) ≤ tlrFinish_firstDefault := by
  unfold tlrLoss_firstBelowMin tlrLoss_firstStepped tlrLoss_firstMin tlrFinish_firstDefault at *
  split
  · omega
  · next hb => rw [decide_eq_true_eq] at hb; omega

/-- one loss step of the later-RTT burst: 1 quarter-MTU down, not below the minimum -/
theorem laterStep_ok {u : Int} (h1 : tlrLoss_laterMin ≤ u) (h2 : u ≤ tlrFinish_laterDefault) :
    tlrLoss_laterMin ≤ (if tlrLoss_laterBelowMin (tlrLoss_laterStepped u) then tlrLoss_laterMin else tlrLoss_laterStepped u) ∧
    (if tlrLoss_laterBelowMin (tlrLoss_laterStepped u) then tlrLoss_laterMin else tlrLoss_laterStepped u) ≤ tlrFinish_laterDefault := by
  unfold tlrLoss_laterBelowMin tlrLoss_laterStepped tlrLoss_laterMin tlrFinish_laterDefault at *
  split
  · omega
  · next hb => rw [decide_eq_true_eq] at hb; omega

theorem UnitsOK.tlrApply {s : St} (h : UnitsOK s) (env : Env) (t : Int) : UnitsOK (tlrApplyAdditionalLoss s env t) := by
  unfold tlrApplyAdditionalLoss
  split
  · exact h
  · dsimp only
    rw [tlrUpdatePhase_frame]
    split
    · exact ⟨(firstStep_ok h.1 h.2.1).1, (firstStep_ok h.1 h.2.1).2, h.2.2⟩
    · exact ⟨h.1, h.2.1, laterStep_ok h.2.2.1 h.2.2.2⟩

theorem defaults_ok :
    tlrLoss_firstMin ≤ tlrFinish_firstDefault ∧ tlrFinish_firstDefault ≤ tlrFinish_firstDefault ∧
    tlrLoss_laterMin ≤ tlrFinish_laterDefault ∧ tlrFinish_laterDefault ≤ tlrFinish_laterDefault := by
  decide

/-- the end of an episode restores the default bursts or leaves them alone -/
theorem UnitsOK.tlrScore {s : St} (h : UnitsOK s) : UnitsOK (tlrScore s) := by
  unfold Rack.tlrScore
  split
  · split
    · exact defaults_ok
    · exact h
  · exact h

theorem UnitsOK.tlrMaybeFinish {s : St} (h : UnitsOK s) (p : Bool) : UnitsOK (tlrMaybeFinish s p) := by
  have hl : UnitsOK (tlrLeaveFirst s p) := by rw [tlrLeaveFirst_frame]; exact h
  unfold Rack.tlrMaybeFinish
  split
  · exact h
  · split
    · exact hl.tlrScore
    · exact hl

theorem UnitsOK.afterMarks {s : St} (h : UnitsOK s) (env : Env) (m : Bool) : UnitsOK (afterMarks s env m) := by
  unfold Rack.afterMarks; split
  · exact h.tlrApply env _
  · exact h

theorem UnitsOK.afterWalk {s : St} (h : UnitsOK s) (env : Env) (r : WalkOut) : UnitsOK (afterWalk s env r) := by
  unfold Rack.afterWalk
  have h' : UnitsOK { s with list := r.list, q := r.q } := h
  exact h'.afterMarks env _

theorem UnitsOK.ptoTlr {s : St} (h : UnitsOK s) (env : Env) : UnitsOK (ptoTlr s env) := by
  unfold Rack.ptoTlr; split
  · exact h
  · exact h.tlrApply env _

theorem UnitsOK.onPTOTimer {s : St} (h : UnitsOK s) (env : Env) : UnitsOK (onPTOTimer s env).1 :=
  onPTOTimer_rule (P := fun r => UnitsOK r.1) (fun _ => h) (fun _ _ => h.ptoTlr env) fun _ _ _ _ => (h.ptoTlr env).congr rfl rfl

theorem UnitsOK.markWith {s : St} (h : UnitsOK s) (f : WalkFns) (env : Env) : UnitsOK (markWith f s env).1 := by
  unfold Rack.markWith; split
  · exact h
  · exact h.afterWalk env _

theorem UnitsOK.onRackTimeout {s : St} (h : UnitsOK s) (env : Env) : UnitsOK (onRackTimeout s env).1 := by
  rw [onRackTimeout_eq]; exact h.markWith _ env

theorem UnitsOK.onRackAfterSACK {s : St} (h : UnitsOK s) (env : Env) (f : Bool) (nt : Int) (ntsn : BitVec 32) (nd : Int) :
    UnitsOK (onRackAfterSACK s env f nt ntsn nd).1 := by
  rw [onRackAfterSACK_eq]
  have h1 : UnitsOK (beforeMark s env f nt ntsn nd) := by rw [beforeMark_frame]; exact h
  rw [rearm_frame]
  exact h1.markWith _ env

/-- a projection of the state that the list bookkeeping and the RTT sampling leave alone -/
structure AckFrame {α : Type} (π : St → α) : Prop where
  remove : ∀ s t, π (rackRemove s t) = π s
  sample : ∀ gap s a c, π (ackOne gap s a c).1 = π s

/-- such a projection has, all through the loops of `processSelectiveAck`, the value it had in `s0` -/
theorem AckFrame.rule {α : Type} {π : St → α} (hπ : AckFrame π) (s0 : St) : AckRule fun _ s _ => π s = π s0 where
  remove t h := (hπ.remove _ t).trans h
  sample gap c _ h := (hπ.sample gap _ _ c).trans h
  pop _ h := h
  mark _ h := h

theorem ackFrame_units : AckFrame (fun s => (s.tlrBurstFirst, s.tlrBurstLater)) := by
  constructor
  · intro s t; rfl
  · intro gap s a c
    rw [ackOne_frame]

theorem ackPhase_units (s : St) (cum : BitVec 32) (gaps : List (BitVec 32)) (r : St × AckAcc × Bool)
    (hr : ackPhase s cum gaps = some r) : r.1.tlrBurstFirst = s.tlrBurstFirst ∧ r.1.tlrBurstLater = s.tlrBurstLater := by
  obtain ⟨q', s', h2, e⟩ := ackPhase_rule (ackFrame_units.rule s) rfl hr
  rw [e]
  exact Prod.mk.inj h2

theorem UnitsOK.missStep {s : St} (h : UnitsOK s) (env : Env) :
    UnitsOK (if s.tlrActive then tlrApplyAdditionalLoss s env s.now else s) := by
  split
  · exact h.tlrApply env _
  · exact h

theorem UnitsOK.sack {s : St} (h : UnitsOK s) (env : Env) (cum : BitVec 32) (gaps : List (BitVec 32)) (nd : Int) (nm : Nat)
    (r : St × List (BitVec 32)) (hr : sack s env cum gaps nd nm = some r) : UnitsOK r.1 := by
  obtain ⟨p, hp, rfl⟩ := sack_some hr
  obtain ⟨e1, e2⟩ := ackPhase_units s cum gaps p hp
  exact ((iter_induction (fun _ hx => hx.missStep env) nm _ (h.congr e1 e2)).onRackAfterSACK env _ _ _ _).tlrMaybeFinish _

theorem UnitsOK.timerFire {s : St} (h : UnitsOK s) (env : Env) : UnitsOK (timerFire s env).1 := by
  unfold Rack.timerFire
  by_cases h1 : timerLoop_rackDue s.rackDeadline s.now = true <;> by_cases h2 : timerLoop_ptoDue s.ptoDeadline s.now = true <;>
    simp only [h1, h2, ↓reduceIte, Bool.false_eq_true]
  · exact (UnitsOK.onRackTimeout (s := stopPTOTimer (stopRackTimer s)) h env).onPTOTimer env
  · exact UnitsOK.onRackTimeout (s := stopRackTimer s) h env
  · exact UnitsOK.onPTOTimer (s := stopPTOTimer s) h env
  · exact h

theorem UnitsOK.step {s : St} (h : UnitsOK s) (op : Op) : UnitsOK (step s op) := by
  cases op with
  | advance d => exact h
  | send p => show UnitsOK (send s p); rw [send_frame]; exact h
  | resend t c p => show UnitsOK (resend s t c p); rw [resend_frame]; exact h
  | abandon ts => exact h
  | ptoAfterSend env => show UnitsOK (schedulePTOAfterSend s env); rw [schedulePTOAfterSend_frame]; exact h
  | budget env => show UnitsOK (tlrBudgetScaled s env).1; rw [tlrBudgetScaled_frame]; exact h
  | sack env cum gaps nd nm =>
    simp only [Rack.step]
    cases hs : Rack.sack s env cum gaps nd nm with
    | none => exact h
    | some r => exact h.sack env cum gaps nd nm r hs
  | t3 => exact h
  | timerFire env => exact h.timerFire env
  | rackTimeout env => exact h.onRackTimeout env
  | ptoTimeout env => exact h.onPTOTimer env

theorem UnitsOK.run : ∀ (ops : List Op) {s : St}, UnitsOK s → UnitsOK (run s ops) := by
  intro ops
  induction ops with
  | nil => intro s h; exact h
  | cons op ops ih => intro s h; exact ih (h.step op)

theorem UnitsOK.init (cfg : Cfg) (tsn : BitVec 32) (now : Int) : UnitsOK (init cfg tsn now) := by
  show tlrLoss_firstMin ≤ init_tlrFirst ∧ init_tlrFirst ≤ tlrFinish_firstDefault ∧ tlrLoss_laterMin ≤ init_tlrLater ∧ init_tlrLater ≤ tlrFinish_laterDefault
  decide

end Rack
