import SctpVerif.Proofs.Rack.Reo
import SctpVerif.Proofs.Rack.Marks
/-!
The invariant of the reachable states of `Model/Rack.lean` and what follows from it: the RACK list is in send-time
order, and after every operation NO entry of the list satisfies the loss test (`Quiet`) — which is why the RACK timer
callback, which re-evaluates the very same test with the very same window and delivered time, never marks anything.
-/
namespace Rack
open Gen

/-- the loss test of the marking loops, spelled out: chunk `t` is in the store, not acked, not abandoned, not flagged,
an original transmission, and sent more than `w` before `d` -/
def CandX (w d : Int) (q : List Chunk) (t : BitVec 32) : Prop :=
  ∃ c, find q t = some c ∧ c.acked = false ∧ c.abandoned = false ∧ c.retransmit = false ∧ ¬ c.nSent > 1 ∧ c.since + w < d

theorem cand_iff {f : WalkFns} (hf : StdFns f) (w d : Int) (q : List Chunk) (t : BitVec 32) :
    Cand f w d q t ↔ CandX w d q t := by
  unfold Cand CandX
  constructor
  · rintro ⟨c, hc, h1, h2, h3⟩
    rw [hf.dead] at h1; rw [hf.resent] at h2; rw [hf.tooNew] at h3
    simp only [Bool.or_eq_false_iff, decide_eq_false_iff_not, Bool.not_eq_eq_eq_not, Bool.not_false, decide_eq_true_eq] at h1 h2 h3
    exact ⟨c, hc, h1.1, h1.2, h2.1, h2.2, h3⟩
  · rintro ⟨c, hc, h1, h2, h3, h4, h5⟩
    refine ⟨c, hc, ?_, ?_, ?_⟩
    · rw [hf.dead]; simp [h1, h2]
    · rw [hf.resent]; simp only [h3, Bool.false_or, decide_eq_false_iff_not]; exact h4
    · rw [hf.tooNew]; simp [h5]

/-- everything of the invariant except `Quiet` -/
structure Inv0 (s : St) : Prop where
  sorted : s.list.Pairwise (fun t u => sinceOf s.q t ≤ sinceOf s.q u)
  listSub : ∀ t ∈ s.list, ∃ c ∈ s.q, c.tsn = t
  sinceLe : ∀ c ∈ s.q, c.since ≤ s.now
  delivLe : s.deliveredTime ≤ s.now
  reoNonneg : 0 ≤ s.reoWnd
  floorNonneg : 0 ≤ s.cfg.reoWndFloor
  nowNonneg : 0 ≤ s.now

/-- no entry of the RACK list satisfies the loss test -/
def Quiet (s : St) : Prop := s.deliveredTime = 0 ∨ ∀ t ∈ s.list, ¬ CandX s.reoWnd s.deliveredTime s.q t

def Inv (s : St) : Prop := Inv0 s ∧ Quiet s

/-- the invariant only looks at these fields -/
theorem Inv0.congr {s s' : St} (h : Inv0 s) (hl : s'.list = s.list) (hq : s'.q = s.q) (hn : s'.now = s.now)
    (hd : s'.deliveredTime = s.deliveredTime) (hr : s'.reoWnd = s.reoWnd) (hc : s'.cfg = s.cfg) : Inv0 s' := by
  constructor
  · rw [hl, hq]; exact h.sorted
  · rw [hl, hq]; exact h.listSub
  · rw [hq, hn]; exact h.sinceLe
  · rw [hd, hn]; exact h.delivLe
  · rw [hr]; exact h.reoNonneg
  · rw [hc]; exact h.floorNonneg
  · rw [hn]; exact h.nowNonneg

theorem Quiet.congr {s s' : St} (h : Quiet s) (hl : s'.list = s.list) (hq : s'.q = s.q)
    (hd : s'.deliveredTime = s.deliveredTime) (hr : s'.reoWnd = s.reoWnd) : Quiet s' := by
  unfold Quiet at *
  rw [hl, hq, hd, hr]; exact h

theorem Inv.congr {s s' : St} (h : Inv s) (hl : s'.list = s.list) (hq : s'.q = s.q) (hn : s'.now = s.now)
    (hd : s'.deliveredTime = s.deliveredTime) (hr : s'.reoWnd = s.reoWnd) (hc : s'.cfg = s.cfg) : Inv s' :=
  ⟨h.1.congr hl hq hn hd hr hc, h.2.congr hl hq hd hr⟩

/-- `g` changes flags only, and only towards "not a candidate" -/
structure FlagOnly (g : Chunk → Chunk) : Prop where
  tsn : ∀ c, (g c).tsn = c.tsn
  since : ∀ c, (g c).since = c.since
  nSent : ∀ c, (g c).nSent = c.nSent
  acked : ∀ c, c.acked = true → (g c).acked = true
  abandoned : ∀ c, c.abandoned = true → (g c).abandoned = true
  retransmit : ∀ c, c.retransmit = true → (g c).retransmit = true ∨ (g c).acked = true

/-- a function that at every chunk either acts as `g` or does nothing -/
theorem FlagOnly.pointwise {g h : Chunk → Chunk} (hg : FlagOnly g) (hh : ∀ c, h c = g c ∨ h c = c) : FlagOnly h where
  tsn c := by rcases hh c with e | e <;> rw [e]; exact hg.tsn c
  since c := by rcases hh c with e | e <;> rw [e]; exact hg.since c
  nSent c := by rcases hh c with e | e <;> rw [e]; exact hg.nSent c
  acked c ha := by
    rcases hh c with e | e <;> rw [e]
    · exact hg.acked c ha
    · exact ha
  abandoned c ha := by
    rcases hh c with e | e <;> rw [e]
    · exact hg.abandoned c ha
    · exact ha
  retransmit c ha := by
    rcases hh c with e | e <;> rw [e]
    · exact hg.retransmit c ha
    · exact Or.inl ha

theorem FlagOnly.ite {g : Chunk → Chunk} (hg : FlagOnly g) (p : Chunk → Bool) : FlagOnly (fun c => if p c then g c else c) :=
  hg.pointwise fun c => by
    split
    · exact Or.inl rfl
    · exact Or.inr rfl

theorem FlagOnly.ite' {g : Chunk → Chunk} (hg : FlagOnly g) (p : Chunk → Bool) : FlagOnly (fun c => if p c then c else g c) :=
  hg.pointwise fun c => by
    split
    · exact Or.inr rfl
    · exact Or.inl rfl

theorem flagOnly_setRtx : FlagOnly setRtx :=
  ⟨fun _ => rfl, fun _ => rfl, fun _ => rfl, fun _ h => h, fun _ h => h, fun _ _ => Or.inl rfl⟩

theorem sinceOf_map {g : Chunk → Chunk} (hg : FlagOnly g) (q : List Chunk) (t : BitVec 32) :
    sinceOf (q.map g) t = sinceOf q t := by
  unfold sinceOf
  rw [find_map_pres q t g hg.tsn]
  cases find q t with
  | none => rfl
  | some c => simp [hg.since]

theorem candX_map {g : Chunk → Chunk} (hg : FlagOnly g) (w d : Int) (q : List Chunk) (t : BitVec 32)
    (h : CandX w d (q.map g) t) : CandX w d q t := by
  obtain ⟨c', hc', h1, h2, h3, h4, h5⟩ := h
  rw [find_map_pres q t g hg.tsn] at hc'
  cases hq : find q t with
  | none => rw [hq] at hc'; cases hc'
  | some c =>
    rw [hq] at hc'
    simp only [Option.map_some, Option.some.injEq] at hc'
    subst hc'
    refine ⟨c, hq, ?_, ?_, ?_, ?_, ?_⟩
    · cases ha : c.acked
      · rfl
      · rw [hg.acked c ha] at h1; cases h1
    · cases ha : c.abandoned
      · rfl
      · rw [hg.abandoned c ha] at h2; cases h2
    · cases ha : c.retransmit
      · rfl
      · rcases hg.retransmit c ha with h | h
        · rw [h] at h3; cases h3
        · rw [h] at h1; cases h1
    · rw [hg.nSent] at h4; exact h4
    · rw [hg.since] at h5; exact h5

/-- a flag-only change of the store keeps the invariant -/
theorem Inv0.map_q {s : St} (h : Inv0 s) {g : Chunk → Chunk} (hg : FlagOnly g) : Inv0 { s with q := s.q.map g } := by
  refine ⟨?_, ?_, ?_, h.delivLe, h.reoNonneg, h.floorNonneg, h.nowNonneg⟩
  · apply h.sorted.imp
    intro a b hab
    show sinceOf (s.q.map g) a ≤ sinceOf (s.q.map g) b
    rw [sinceOf_map hg, sinceOf_map hg]; exact hab
  · intro t ht
    obtain ⟨c, hc, hct⟩ := h.listSub t ht
    exact ⟨g c, List.mem_map_of_mem hc, by rw [hg.tsn]; exact hct⟩
  · intro c hc
    obtain ⟨c0, hc0, rfl⟩ := List.mem_map.mp hc
    show (g c0).since ≤ s.now
    rw [hg.since]; exact h.sinceLe c0 hc0

theorem Inv.map_q {s : St} (h : Inv s) {g : Chunk → Chunk} (hg : FlagOnly g) : Inv { s with q := s.q.map g } :=
  ⟨h.1.map_q hg, h.2.imp id fun hq t ht hcand => hq t ht (candX_map hg _ _ _ _ hcand)⟩

theorem Inv0.sublist {s : St} (h : Inv0 s) {l : List (BitVec 32)} (hl : l.Sublist s.list) : Inv0 { s with list := l } :=
  ⟨h.sorted.sublist hl, fun t ht => h.listSub t (hl.subset ht), h.sinceLe, h.delivLe, h.reoNonneg, h.floorNonneg, h.nowNonneg⟩

theorem Inv.sublist {s : St} (h : Inv s) {l : List (BitVec 32)} (hl : l.Sublist s.list) : Inv { s with list := l } :=
  ⟨h.1.sublist hl, h.2.imp id fun hq t ht => hq t (hl.subset ht)⟩

theorem Inv.advance {s : St} (h : Inv s) (d : Nat) : Inv { s with now := s.now + (d : Int) } := by
  refine ⟨⟨h.1.sorted, h.1.listSub, ?_, ?_, h.1.reoNonneg, h.1.floorNonneg, ?_⟩, h.2⟩
  · intro c hc; have := h.1.sinceLe c hc; show c.since ≤ s.now + (d : Int); omega
  · have := h.1.delivLe; show s.deliveredTime ≤ s.now + (d : Int); omega
  · have := h.1.nowNonneg; show 0 ≤ s.now + (d : Int); omega

theorem flagOnly_abandon (ts : List (BitVec 32)) :
    FlagOnly (fun c => if ts.contains c.tsn then { c with abandoned := true } else c) :=
  FlagOnly.ite (g := fun c => { c with abandoned := true })
    ⟨fun _ => rfl, fun _ => rfl, fun _ => rfl, fun _ h => h, fun _ _ => rfl, fun _ h => Or.inl h⟩ fun c => ts.contains c.tsn

theorem Inv.abandon {s : St} (h : Inv s) (ts : List (BitVec 32)) : Inv (abandon s ts) :=
  h.map_q (flagOnly_abandon ts)

theorem flagOnly_t3 : FlagOnly (fun c => if c.acked || c.abandoned then c else { c with retransmit := true }) :=
  flagOnly_setRtx.ite' fun c => c.acked || c.abandoned

theorem Inv.t3 {s : St} (h : Inv s) : Inv (t3 s) := h.map_q flagOnly_t3

theorem Inv.ptoAfterSend {s : St} (h : Inv s) (env : Env) : Inv (schedulePTOAfterSend s env) := by
  rw [schedulePTOAfterSend_frame]; exact h.congr rfl rfl rfl rfl rfl rfl

theorem Inv.budget {s : St} (h : Inv s) (env : Env) : Inv (tlrBudgetScaled s env).1 := by
  rw [tlrBudgetScaled_frame]; exact h.congr rfl rfl rfl rfl rfl rfl

theorem Inv.ptoTlr {s : St} (h : Inv s) (env : Env) : Inv (ptoTlr s env) := by
  rw [ptoTlr_frame]; exact h.congr rfl rfl rfl rfl rfl rfl

theorem Inv.onPTOTimer {s : St} (h : Inv s) (env : Env) : Inv (onPTOTimer s env).1 := by
  refine onPTOTimer_rule (P := fun r => Inv r.1) (fun _ => h.congr rfl rfl rfl rfl rfl rfl) (fun _ _ => h.ptoTlr env) fun c _ _ _ => ?_
  have e : ({ Rack.ptoTlr s env with q := flagged s.q [c.tsn] } : St) =
      { Rack.ptoTlr s env with q := (Rack.ptoTlr s env).q.map fun c' => if [c.tsn].contains c'.tsn then setRtx c' else c' } := by
    rw [ptoTlr_q]; rfl
  rw [e]; exact (h.ptoTlr env).map_q (flagOnly_setRtx.ite _)

/-- ✱ the RACK timer callback in a state that satisfies the invariant: it marks nothing and keeps the invariant -/
theorem Inv.onRackTimeout {s : St} (h : Inv s) (env : Env) :
    (onRackTimeout s env).2 = [] ∧ Inv (onRackTimeout s env).1 := by
  unfold Rack.onRackTimeout
  split
  · exact ⟨rfl, h⟩
  · next hd =>
    have hd' : s.deliveredTime ≠ 0 := by simpa [rackTimeout_noDelivered] using hd
    have hquiet : ∀ t ∈ s.list, ¬ Cand timeoutWalk s.reoWnd s.deliveredTime s.q t := by
      rcases h.2 with h0 | hq
      · exact absurd h0 hd'
      · intro t ht hc; exact hq t ht ((cand_iff timeoutWalk_std _ _ _ _).mp hc)
    have hw := walk_no_cand timeoutWalk s.reoWnd s.deliveredTime s.list s.q hquiet
    refine ⟨hw.1, ?_⟩
    have hsub := walk_list_sublist timeoutWalk s.reoWnd s.deliveredTime s.list s.q
    have e : afterWalk s env (walk timeoutWalk s.reoWnd s.deliveredTime s.list s.q) =
        { s with list := (walk timeoutWalk s.reoWnd s.deliveredTime s.list s.q).list } := by
      unfold afterWalk afterMarks
      rw [hw.1, hw.2]
      simp
    show Inv (afterWalk s env (walk timeoutWalk s.reoWnd s.deliveredTime s.list s.q))
    rw [e]
    exact h.sublist hsub

theorem Inv.timerFire {s : St} (h : Inv s) (env : Env) : Inv (timerFire s env).1 := by
  have hR : Inv (stopRackTimer s) := h.congr rfl rfl rfl rfl rfl rfl
  have hP : ∀ x : St, Inv x → Inv (stopPTOTimer x) := fun x hx => hx.congr rfl rfl rfl rfl rfl rfl
  unfold Rack.timerFire
  by_cases h1 : timerLoop_rackDue s.rackDeadline s.now = true <;> by_cases h2 : timerLoop_ptoDue s.ptoDeadline s.now = true <;>
    simp only [h1, h2, ↓reduceIte, Bool.false_eq_true]
  · exact ((hP _ hR).onRackTimeout env).2.onPTOTimer env
  · exact (hR.onRackTimeout env).2
  · exact (hP _ h).onPTOTimer env
  · exact h

theorem find_append_some {q l : List Chunk} {u : BitVec 32} {c : Chunk} (h : find q u = some c) : find (q ++ l) u = some c := by
  unfold find at *
  rw [List.find?_append, h]; rfl

theorem find_append_none {q : List Chunk} {u : BitVec 32} (n : Chunk) (h : find q u = none) :
    find (q ++ [n]) u = if n.tsn == u then some n else none := by
  unfold find at *
  rw [List.find?_append, h]
  simp [List.find?_cons]
  split <;> simp_all

theorem find_of_mem_tsn {q : List Chunk} {u : BitVec 32} (h : ∃ c ∈ q, c.tsn = u) : ∃ c, find q u = some c := by
  cases hf : find q u with
  | some c => exact ⟨c, rfl⟩
  | none =>
    obtain ⟨c, hc, hcu⟩ := h
    exact absurd hcu (find_none_iff.mp hf c hc)

/-- a chunk sent right now is not a candidate (the delivered time is never ahead of the clock, the window never negative) -/
theorem not_cand_now {s : St} (h : Inv0 s) (q : List Chunk) (t : BitVec 32) (hsince : ∀ c, find q t = some c → c.since = s.now) :
    ¬ CandX s.reoWnd s.deliveredTime q t := by
  rintro ⟨c, hc, _, _, _, _, h5⟩
  rw [hsince c hc] at h5
  have := h.delivLe; have := h.reoNonneg
  omega

/-- the list after `rackRemove t; rackInsert t` (or a first insert of a TSN not listed) -/
theorem list_remove_insert (s : St) (t : BitVec 32) : (rackInsert (rackRemove s t) t).list = s.list.filter (· != t) ++ [t] := by
  unfold rackInsert rackRemove
  have : ((s.list.filter (· != t)).contains t) = false := by
    simp [List.contains_eq_mem, List.mem_filter]
  simp

/-- another store in which every listed TSN names the same chunk as before -/
theorem Inv.store {s : St} (h : Inv s) (q' : List Chunk) (hfind : ∀ u ∈ s.list, find q' u = find s.q u)
    (hle : ∀ c ∈ q', c.since ≤ s.now) : Inv { s with q := q' } := by
  have hs : ∀ u ∈ s.list, sinceOf q' u = sinceOf s.q u := fun u hu => by unfold sinceOf; rw [hfind u hu]
  refine ⟨⟨?_, ?_, hle, h.1.delivLe, h.1.reoNonneg, h.1.floorNonneg, h.1.nowNonneg⟩, h.2.imp id fun hq t ht hc => hq t ht ?_⟩
  · refine h.1.sorted.imp_of_mem ?_
    intro a b ha hb hab
    show sinceOf q' a ≤ sinceOf q' b
    rw [hs a ha, hs b hb]; exact hab
  · intro t ht
    obtain ⟨c0, hc0⟩ := find_of_mem_tsn (h.1.listSub t ht)
    rw [← hfind t ht] at hc0
    exact ⟨c0, find_some_mem hc0, find_some_tsn hc0⟩
  · obtain ⟨c, hc, rest⟩ := hc
    exact ⟨c, (hfind t ht) ▸ hc, rest⟩

/-- a chunk sent right now goes to the end of the list -/
theorem Inv.snoc {s : St} (h : Inv s) (t : BitVec 32) (c : Chunk) (hc : find s.q t = some c) (hnow : c.since = s.now) :
    Inv { s with list := s.list ++ [t] } := by
  refine ⟨⟨?_, ?_, h.1.sinceLe, h.1.delivLe, h.1.reoNonneg, h.1.floorNonneg, h.1.nowNonneg⟩, h.2.imp id fun hq u hu => ?_⟩
  · show List.Pairwise _ (s.list ++ [t])
    rw [List.pairwise_append]
    refine ⟨h.1.sorted, List.pairwise_singleton _ _, fun a ha b hb => ?_⟩
    obtain ⟨c0, hc0⟩ := find_of_mem_tsn (h.1.listSub a ha)
    rw [List.mem_singleton.mp hb]
    unfold sinceOf
    rw [hc0, hc]
    show c0.since ≤ c.since
    rw [hnow]
    exact h.1.sinceLe c0 (find_some_mem hc0)
  · intro u hu
    rcases List.mem_append.mp hu with hu | hu
    · exact h.1.listSub u hu
    · rw [List.mem_singleton.mp hu]; exact ⟨c, find_some_mem hc, find_some_tsn hc⟩
  · rcases List.mem_append.mp hu with hu | hu
    · exact hq u hu
    · rw [List.mem_singleton.mp hu]
      exact not_cand_now h.1 s.q t fun c' hc' => by rw [hc] at hc'; cases hc'; exact hnow

/-- a new chunk enters the in-flight queue; `hfresh`: its TSN names no chunk in flight (TSNs are handed out consecutively) -/
theorem Inv.send {s : St} (h : Inv s) (p : Bool) (hfresh : ∀ c ∈ s.q, c.tsn ≠ s.myNextTSN) : Inv (send s p) := by
  have hnl : s.myNextTSN ∉ s.list := by
    intro hm
    obtain ⟨c, hc, hct⟩ := h.1.listSub _ hm
    exact hfresh c hc hct
  have hnone : find s.q s.myNextTSN = none := find_none_iff.mpr hfresh
  let n : Chunk := { tsn := s.myNextTSN, since := s.now, nSent := 1 }
  have h1 : Inv { s with q := s.q ++ [n] } := h.store _
    (fun u hu => by
      obtain ⟨c0, hc0⟩ := find_of_mem_tsn (h.1.listSub u hu)
      rw [hc0]; exact find_append_some hc0)
    (fun c hc => by
      rcases List.mem_append.mp hc with hc | hc
      · exact h.1.sinceLe c hc
      · rw [List.mem_singleton.mp hc]; exact Int.le_refl _)
  have h2 := h1.snoc s.myNextTSN n (by rw [find_append_none n hnone]; simp [n]) rfl
  have hlist : (Rack.send s p).list = s.list ++ [s.myNextTSN] := by
    unfold Rack.send
    cases p
    · simp only [Bool.false_eq_true, ↓reduceIte]
      unfold rackInsert pushChunk
      have : s.list.contains s.myNextTSN = false := by simpa using hnl
      simp only [this, Bool.false_eq_true, ↓reduceIte]
    · simp only [↓reduceIte]
      have e : (rackInsert (pushChunk (rackRemove s s.myNextTSN)) s.myNextTSN).list =
          (rackInsert (rackRemove s s.myNextTSN) s.myNextTSN).list := by
        unfold rackInsert pushChunk; simp only []; split <;> rfl
      rw [e, list_remove_insert, List.filter_bne_eq_self_of_not_mem hnl]
  rw [send_frame]
  exact h2.congr hlist rfl rfl rfl rfl rfl

theorem Inv.resend {s : St} (h : Inv s) (t : BitVec 32) (cf p : Bool) (hin : ∃ c ∈ s.q, c.tsn = t) : Inv (resend s t cf p) := by
  have hg : ∀ c, (retx s.now cf c).tsn = c.tsn := fun _ => rfl
  obtain ⟨c0, hc0⟩ := find_of_mem_tsn hin
  have h1 := (h.sublist (List.filter_sublist (p := (· != t)))).store (modify s.q t (retx s.now cf))
    (fun u hu => by
      have hut : u ≠ t := by simpa using (List.mem_filter.mp hu).2
      rw [find_modify _ _ _ _ hg]
      cases hf : find s.q u with
      | none => rfl
      | some c =>
        have : c.tsn ≠ t := by rw [find_some_tsn hf]; exact hut
        simp [this])
    (fun c hc => by
      simp only [modify, List.mem_map] at hc
      obtain ⟨c1, hc1, rfl⟩ := hc
      split
      · exact Int.le_refl _
      · exact h.1.sinceLe c1 hc1)
  have hlist : (Rack.resend s t cf p).list = if (!p) = true then s.list.filter (· != t) ++ [t] else s.list.filter (· != t) := by
    unfold Rack.resend
    have e : (touch s t cf).list = s.list := rfl
    cases p
    · simp only [Bool.false_eq_true, ↓reduceIte, Bool.not_false, list_remove_insert, e]
    · simp only [↓reduceIte, Bool.not_true, Bool.false_eq_true]
      show ((rackInsert (rackRemove (touch s t cf) t) t).list.filter (· != t)) = _
      rw [list_remove_insert, e, List.filter_append, List.filter_filter]
      simp
  rw [resend_frame, hlist]
  cases p
  · exact (h1.snoc t (retx s.now cf c0) (by rw [find_modify _ _ _ _ hg, hc0]; simp [find_some_tsn hc0]) rfl).congr
      rfl rfl rfl rfl rfl rfl
  · exact h1.congr rfl rfl rfl rfl rfl rfl

/-- what holds of the loop state `(q, s, a)` of `processSelectiveAck` (`s0` = the state the SACK started from) -/
structure AckInv (s0 : St) (q : List Chunk) (s : St) (a : AckAcc) : Prop where
  sorted : s.list.Pairwise (fun t u => sinceOf q t ≤ sinceOf q u)
  listSub : ∀ t ∈ s.list, ∃ c ∈ q, c.tsn = t
  sinceLe : ∀ c ∈ q, c.since ≤ s0.now
  newest : a.newestTime ≤ s0.now
  now : s.now = s0.now
  deliv : s.deliveredTime = s0.deliveredTime
  reo : s.reoWnd = s0.reoWnd
  cfg : s.cfg = s0.cfg

theorem ackOne_newest (gap : Bool) (s : St) (a : AckAcc) (c : Chunk) :
    (ackOne gap s a c).2.newestTime = a.newestTime ∨ (ackOne gap s a c).2.newestTime = c.since := by
  have e : (ackSample gap s a c).2.newestTime = a.newestTime := by
    unfold ackSample; dsimp only; split <;> (split <;> rfl)
  unfold ackOne ackNewest
  dsimp only
  split <;> split
  · exact Or.inr rfl
  · exact Or.inl e
  · exact Or.inr rfl
  · exact Or.inl e

theorem AckInv.ackOne {s0 : St} {q : List Chunk} {s : St} {a : AckAcc} (h : AckInv s0 q s a) (gap : Bool) (c : Chunk)
    (hc : c ∈ q) : AckInv s0 q (ackOne gap s a c).1 (ackOne gap s a c).2 := by
  have hn : (Rack.ackOne gap s a c).2.newestTime ≤ s0.now := by
    rcases ackOne_newest gap s a c with e | e
    · rw [e]; exact h.newest
    · rw [e]; exact h.sinceLe c hc
  rw [ackOne_frame]
  exact ⟨h.sorted, h.listSub, h.sinceLe, hn, h.now, h.deliv, h.reo, h.cfg⟩

theorem AckInv.remove {s0 : St} {q : List Chunk} {s : St} {a : AckAcc} (h : AckInv s0 q s a) (t : BitVec 32) :
    AckInv s0 q (rackRemove s t) a :=
  ⟨h.sorted.sublist List.filter_sublist, fun u hu => h.listSub u (List.filter_sublist.subset hu), h.sinceLe, h.newest,
   h.now, h.deliv, h.reo, h.cfg⟩

/-- dropping the front chunk of the store once its TSN has left the list -/
theorem AckInv.pop {s0 : St} {c : Chunk} {q : List Chunk} {s : St} {a : AckAcc} (h : AckInv s0 (c :: q) s a)
    (hnot : c.tsn ∉ s.list) : AckInv s0 q s a := by
  have hfind : ∀ u ∈ s.list, find (c :: q) u = find q u := by
    intro u hu
    rw [find_cons]
    have : c.tsn ≠ u := fun e => hnot (e ▸ hu)
    simp [this]
  refine ⟨?_, ?_, fun x hx => h.sinceLe x (List.mem_cons_of_mem _ hx), h.newest, h.now, h.deliv, h.reo, h.cfg⟩
  · refine h.sorted.imp_of_mem ?_
    intro a b ha hb hab
    unfold sinceOf at hab ⊢
    rw [hfind a ha, hfind b hb] at hab; exact hab
  · intro u hu
    obtain ⟨x, hx, hxu⟩ := h.listSub u hu
    rcases List.mem_cons.mp hx with rfl | hx
    · exact absurd (hxu ▸ hu) hnot
    · exact ⟨x, hx, hxu⟩

theorem flagOnly_ackAt (t : BitVec 32) :
    FlagOnly (fun c => if c.tsn == t then { c with acked := true, retransmit := false } else c) :=
  FlagOnly.ite (g := fun c => { c with acked := true, retransmit := false })
    ⟨fun _ => rfl, fun _ => rfl, fun _ => rfl, fun _ _ => rfl, fun _ h => h, fun _ _ => Or.inr rfl⟩ fun c => c.tsn == t

theorem AckInv.mapq {s0 : St} {q : List Chunk} {s : St} {a : AckAcc} (h : AckInv s0 q s a) {g : Chunk → Chunk} (hg : FlagOnly g) :
    AckInv s0 (q.map g) s a := by
  refine ⟨?_, ?_, ?_, h.newest, h.now, h.deliv, h.reo, h.cfg⟩
  · apply h.sorted.imp
    intro x y hxy
    rw [sinceOf_map hg, sinceOf_map hg]; exact hxy
  · intro t ht
    obtain ⟨c, hc, hct⟩ := h.listSub t ht
    exact ⟨g c, List.mem_map_of_mem hc, by rw [hg.tsn]; exact hct⟩
  · intro c hc
    obtain ⟨c0, hc0, rfl⟩ := List.mem_map.mp hc
    rw [hg.since]; exact h.sinceLe c0 hc0

theorem AckInv.rule (s0 : St) : AckRule (AckInv s0) where
  remove t h := h.remove t
  sample gap c hc h := h.ackOne gap c hc
  pop hnot h := h.pop hnot
  mark t h := h.mapq (flagOnly_ackAt t)

/-- after `processSelectiveAck` and the cumulative-point update: everything of the invariant but `Quiet`, and the
newest delivered send time is not ahead of the clock -/
theorem ackPhase_inv {s : St} (h : Inv0 s) (cum : BitVec 32) (gaps : List (BitVec 32)) (r : St × AckAcc × Bool)
    (hr : ackPhase s cum gaps = some r) : Inv0 r.1 ∧ r.2.1.newestTime ≤ r.1.now ∧ r.1.now = s.now ∧ r.1.cfg = s.cfg := by
  obtain ⟨q', s', h2, e⟩ := ackPhase_rule (AckInv.rule s) ⟨h.sorted, h.listSub, h.sinceLe, h.nowNonneg, rfl, rfl, rfl, rfl⟩ hr
  rw [e]
  exact ⟨⟨h2.sorted, h2.listSub, by rw [h2.now]; exact h2.sinceLe, by rw [h2.deliv, h2.now]; exact h.delivLe,
    by rw [h2.reo]; exact h.reoNonneg, by rw [h2.cfg]; exact h.floorNonneg, by rw [h2.now]; exact h.nowNonneg⟩,
    by rw [h2.now]; exact h2.newest, h2.now, h2.cfg⟩

theorem Inv0.missStep {s : St} (h : Inv0 s) (env : Env) :
    Inv0 (if s.tlrActive then tlrApplyAdditionalLoss s env s.now else s) := by
  split
  · rw [tlrApplyAdditionalLoss_frame]; exact h.congr rfl rfl rfl rfl rfl rfl
  · exact h

/-- the marking step of `onRackAfterSACK` establishes `Quiet` from the send-time order -/
theorem Inv0.markWith {s : St} (h : Inv0 s) {f : WalkFns} (hf : StdFns f) (env : Env) : Inv (markWith f s env).1 := by
  unfold Rack.markWith
  split
  · next hd => exact ⟨h, Or.inl hd⟩
  · have h1 := (h.map_q (flagOnly_setRtx.ite fun c => (walk f s.reoWnd s.deliveredTime s.list s.q).marks.contains c.tsn)).sublist
      (walk_list_sublist f s.reoWnd s.deliveredTime s.list s.q)
    rw [← walk_q] at h1
    rw [afterWalk_frame]
    exact ⟨h1.congr rfl rfl rfl rfl rfl rfl, Or.inr fun t ht hc =>
      walk_quiet f hf s.reoWnd s.deliveredTime s.list s.q h.sorted t ht ((cand_iff hf _ _ _ _).mpr hc)⟩

/-- `onRackAfterSACK` from a state with `Inv0`, a newest-delivered time not ahead of the clock and a sane SRTT reading -/
theorem Inv0.onRackAfterSACK {s : St} (h : Inv0 s) (env : Env) (he : EnvOK env) (found : Bool) (nt : Int) (ntsn : BitVec 32)
    (nd : Int) (hnt : nt ≤ s.now) : Inv (onRackAfterSACK s env found nt ntsn nd).1 := by
  rw [onRackAfterSACK_eq]
  have hb : Inv0 (beforeMark s env found nt ntsn nd) := by
    have hdt : (rackDelivered s found nt ntsn).deliveredTime ≤ s.now := by
      rw [rackDelivered_deliveredTime]
      split
      · exact hnt
      · exact h.delivLe
    have hbounds := beforeMark_bounds s env found nt ntsn nd he h.floorNonneg h.reoNonneg
    have hdt' : (beforeMark s env found nt ntsn nd).deliveredTime ≤ s.now := by
      unfold beforeMark; rw [rackReoWnd_frame]; exact hdt
    rw [beforeMark_frame]
    exact ⟨h.sorted, h.listSub, h.sinceLe, hdt', hbounds.1, h.floorNonneg, h.nowNonneg⟩
  rw [rearm_frame]
  exact (hb.markWith sackWalk_std env).congr rfl rfl rfl rfl rfl rfl

/-- ✱ a SACK keeps the invariant (it does not even need `Quiet` beforehand: the marking loop re-establishes it) -/
theorem Inv0.sack {s : St} (h : Inv0 s) (env : Env) (he : EnvOK env) (cum : BitVec 32) (gaps : List (BitVec 32)) (nd : Int) (nm : Nat)
    (r : St × List (BitVec 32)) (hr : sack s env cum gaps nd nm = some r) : Inv r.1 := by
  obtain ⟨p, hp, rfl⟩ := sack_some hr
  obtain ⟨h1, h2, _, _⟩ := ackPhase_inv h cum gaps p hp
  unfold afterAck
  dsimp only
  have h3 := iter_induction (P := fun x => Inv0 x ∧ x.now = p.1.now)
    (fun x hx => ⟨hx.1.missStep env, by
      rw [← hx.2]
      split
      · rw [tlrApplyAdditionalLoss_frame]
      · rfl⟩) nm p.1 ⟨h1, rfl⟩
  have h4 := h3.1.onRackAfterSACK env he p.2.1.found p.2.1.newestTime p.2.1.newestTSN nd (by rw [h3.2]; exact h2)
  rw [tlrMaybeFinish_frame]
  exact h4.congr rfl rfl rfl rfl rfl rfl

/-- what the environment guarantees about an operation -/
def OpOK (s : St) : Op → Prop
  | .send _ => ∀ c ∈ s.q, c.tsn ≠ s.myNextTSN            -- TSNs are handed out consecutively: the next one is not in flight
  | .resend t _ _ => ∃ c ∈ s.q, c.tsn = t                 -- only chunks in flight are retransmitted
  | .sack env _ _ _ _ => EnvOK env                         -- a valid SRTT reading is not negative
  | _ => True

theorem Inv.step {s : St} (h : Inv s) (op : Op) (hok : OpOK s op) : Inv (step s op) := by
  cases op with
  | advance d => exact h.advance d
  | send p => exact h.send p hok
  | resend t c p => exact h.resend t c p hok
  | abandon ts => exact h.abandon ts
  | ptoAfterSend env => exact h.ptoAfterSend env
  | budget env => exact h.budget env
  | sack env cum gaps nd nm =>
    simp only [Rack.step]
    cases hs : Rack.sack s env cum gaps nd nm with
    | none => exact h
    | some r => exact h.1.sack env hok cum gaps nd nm r hs
  | t3 => exact h.t3
  | timerFire env => exact h.timerFire env
  | rackTimeout env => exact (h.onRackTimeout env).2
  | ptoTimeout env => exact h.onPTOTimer env

def RunOK : St → List Op → Prop
  | _, [] => True
  | s, op :: ops => OpOK s op ∧ RunOK (Rack.step s op) ops

theorem Inv.run {s : St} (h : Inv s) : ∀ (ops : List Op), RunOK s ops → Inv (run s ops) := by
  intro ops
  induction ops generalizing s with
  | nil => intro _; exact h
  | cons op ops ih => intro hok; exact ih (h.step op hok.1) hok.2

theorem Inv.init (cfg : Cfg) (tsn : BitVec 32) (now : Int) (hn : 0 ≤ now) (hf : 0 ≤ cfg.reoWndFloor) : Inv (init cfg tsn now) := by
  refine ⟨⟨List.Pairwise.nil, ?_, ?_, hn, Int.le_refl 0, hf, hn⟩, Or.inl rfl⟩
  · intro t ht; cases ht
  · intro c hc; cases hc

end Rack
