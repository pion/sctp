import SctpVerif.Proofs.PendQWfq
/-!
WFQ fairness (C17) for ALL operation lists, stale selections included.

`eff w` is the virtual time the scheduler is already committed to: a cached selection will be served
next whatever is pushed meanwhile, and its tag becomes the virtual time. `lam w s` is how far the head
of stream `s` lies behind that ("lateness"; 0 along atomic runs). Two potentials bracket the
normalised service of a backlogged stream in every step:
  Δ(sigma + lam) ≤ service/weight ≤ Δ sigma
and `sigma + lam` lives within one chunk below `eff` (`potential_bounds`). Fairness follows by telescoping.
-/
namespace PendQ
namespace WFQ

/-- start tag of the head of stream `s` (0 if the stream is idle) -/
def sigma (w : WFQ Rat) (s : Nat) : Rat :=
  match (w.sq s).head? with
  | some (c, f) => f - (c.len : Rat) / wt w s
  | none => 0

def headTag (w : WFQ Rat) (s : Nat) : Rat :=
  match (w.sq s).head? with
  | some (_, f) => f
  | none => 0

/-- the virtual time after the pending (cached) selection is served -/
def eff (w : WFQ Rat) : Rat := if w.sel = true then max w.vtime (headTag w w.selStream) else w.vtime

/-- lateness of the head of stream `s` -/
def lam (w : WFQ Rat) (s : Nat) : Rat := max 0 (eff w - headTag w s)

section head
variable {w : WFQ Rat} {s : Nat} {c : Chunk} {f : Rat} {tl : List (Chunk × Rat)} (hq : w.sq s = (c, f) :: tl)
include hq

theorem sigma_cons : sigma w s = f - (c.len : Rat) / wt w s := by unfold sigma; rw [hq]; rfl
theorem headTag_cons : headTag w s = f := by unfold headTag; rw [hq]; rfl

end head

theorem eff_of_not_sel {w : WFQ Rat} (h : w.sel = false) : eff w = w.vtime := by unfold eff; rw [h]; rfl

theorem eff_of_sel {w : WFQ Rat} (h : w.sel = true) : eff w = max w.vtime (headTag w w.selStream) := if_pos h

theorem vtime_le_eff (w : WFQ Rat) : w.vtime ≤ eff w := by
  unfold eff; split
  · exact le_max_left _ _
  · exact le_refl _

theorem sel_head {w : WFQ Rat} (hwf : w.WF) (hsel : w.sel = true) : ∃ c f tl, w.sq w.selStream = (c, f) :: tl := by
  obtain ⟨l, hg⟩ := Option.isSome_iff_exists.mp (hwf.sel hsel)
  obtain ⟨⟨c, f⟩, tl, rfl⟩ := List.exists_cons_of_ne_nil (hwf.q.q1 _ l hg).1
  exact ⟨c, f, tl, by unfold sq; rw [hg]; rfl⟩

/-- along atomic runs no head is late -/
theorem lam_eq_zero {w : WFQ Rat} (h : AInv w) {s : Nat} (hne : w.sq s ≠ []) : lam w s = 0 := by
  obtain ⟨⟨c, f⟩, tl, hq⟩ := List.exists_cons_of_ne_nil hne
  have hv := h.b s c f tl hq
  unfold lam
  rw [headTag_cons hq]
  refine max_eq_left (sub_nonpos.mpr ?_)
  cases hsel : w.sel with
  | false => rw [eff_of_not_sel hsel]; exact hv
  | true =>
    obtain ⟨c0, f0, tl0, hq0, hm⟩ := h.m hsel
    rw [eff_of_sel hsel, headTag_cons hq0]
    exact max_le hv (hm s c f tl hq)

theorem potential_arith {e f d D v : Rat} (ha : f - d ≤ v) (hv : v ≤ e) (hd : 0 ≤ d) (hD : d ≤ D) :
    e - D ≤ f - d + max 0 (e - f) ∧ f - d + max 0 (e - f) ≤ e := by
  refine ⟨by linarith [le_max_right 0 (e - f)], ?_⟩
  rcases le_total (e - f) 0 with h | h
  · rw [max_eq_left h]; linarith
  · rw [max_eq_right h]; linarith

/-- the potential `sigma + lam` of a backlogged stream lies within one chunk (of at most `L` bytes) below `eff` -/
theorem potential_bounds {w : WFQ Rat} (h : GInv w) {s L : Nat} (hne : w.sq s ≠ []) (hL : ∀ x ∈ w.sq s, x.1.len ≤ L) :
    eff w - (L : Rat) / wt w s ≤ sigma w s + lam w s ∧ sigma w s + lam w s ≤ eff w := by
  obtain ⟨⟨c, f⟩, tl, hq⟩ := List.exists_cons_of_ne_nil hne
  have hc : c.len ≤ L := hL (c, f) (by rw [hq]; exact List.mem_cons_self)
  unfold lam
  rw [sigma_cons hq, headTag_cons hq]
  exact potential_arith (h.a s c f tl hq) (vtime_le_eff w) (div_wt_nonneg w c.len s)
    (div_le_div_of_nonneg_right (Nat.cast_le.mpr hc) (le_of_lt (wt_pos w s)))

theorem mem_sq_step {w w' : WFQ Rat} {o : Op} {po : List Chunk} (hs : WStep w o w' po) {s : Nat} {x : Chunk × Rat}
    (hx : x ∈ w'.sq s) : x ∈ w.sq s ∨ ∃ c, o = .push c ∧ s = c.sid ∧ x = (c, pushTag w c) := by
  rcases hs.cases with ⟨c, rfl, _, hsq, _⟩ | ⟨_, hsq, _⟩ | ⟨s0, c, f, tl, hq0, _, _, _, _, hsq, _⟩
  · rw [hsq] at hx
    by_cases hsc : s = c.sid
    · rw [if_pos hsc] at hx
      rcases List.mem_append.mp hx with h | h
      · exact Or.inl h
      · exact Or.inr ⟨c, rfl, hsc, List.mem_singleton.mp h⟩
    · rw [if_neg hsc] at hx; exact Or.inl hx
  · rw [hsq] at hx; exact Or.inl hx
  · rw [hsq] at hx
    by_cases hsc : s = s0
    · rw [if_pos hsc] at hx; rw [hsc, hq0]; exact Or.inl (List.mem_cons_of_mem _ hx)
    · rw [if_neg hsc] at hx; exact Or.inl hx

theorem Pushes.head {w w' : WFQ Rat} {c : Chunk} {po : List Chunk} (hs : Pushes w c w' po) {s : Nat}
    (hne : w.sq s ≠ []) : (w'.sq s).head? = (w.sq s).head? := by
  obtain ⟨hd, tl0, hq⟩ := List.exists_cons_of_ne_nil hne
  rw [hs.2.1 s]
  split
  · rw [hq]; rfl
  · rfl

theorem headTag_congr {w w' : WFQ Rat} {s : Nat} (h : (w'.sq s).head? = (w.sq s).head?) : headTag w' s = headTag w s := by
  unfold headTag; rw [h]

theorem Pushes.eff {w w' : WFQ Rat} {c : Chunk} {po : List Chunk} (hs : Pushes w c w' po) (hwf : w.WF) :
    eff w' = eff w := by
  have hh := fun s => hs.head (s := s)
  obtain ⟨_, _, _, hv, hsel, hss⟩ := hs
  cases hsl : w.sel with
  | false => rw [eff_of_not_sel hsl, eff_of_not_sel (hsel.trans hsl), hv]
  | true =>
    obtain ⟨c0, f0, tl0, hq0⟩ := sel_head hwf hsl
    rw [eff_of_sel hsl, eff_of_sel (hsel.trans hsl), hv, hss, headTag_congr (hh _ (by rw [hq0]; exact List.cons_ne_nil _ _))]

/-- `eff` moves up at most to the least head tag -/
theorem eff_step {w w' : WFQ Rat} {o : Op} {po : List Chunk} (hwf : w.WF) (hs : WStep w o w' po) {i : Nat} {ci : Chunk}
    {fi : Rat} {tli : List (Chunk × Rat)} (hqi : w.sq i = (ci, fi) :: tli) : eff w' ≤ max (eff w) fi := by
  rcases hs.cases with ⟨c, _, hp⟩ | ⟨_, hsq, _, hv, hsel⟩ | ⟨s0, c, f, tl, hq0, _, _, hselT, hselF, _, _, hv, hsel'⟩
  · rw [hp.eff hwf]; exact le_max_left _ _
  · have ht : ∀ s, headTag w' s = headTag w s := fun s => headTag_congr (by rw [hsq])
    rcases hsel with ⟨h1, h2, h3⟩ | ⟨h1, h2, _⟩ | ⟨h1, h2, c, f, tl, h4, h5⟩
    · rw [eff_of_sel h1, eff_of_sel h2, hv, h3, ht]; exact le_max_left _ _
    · rw [eff_of_not_sel h1, eff_of_not_sel h2, hv]; exact le_max_left _ _
    · rw [eff_of_not_sel h1, eff_of_sel h2, hv, ht, headTag_cons h4]
      exact max_le_max (le_refl _) (h5 i ci fi tli hqi).1
  · rw [eff_of_not_sel hsel', hv]
    cases hsl : w.sel with
    | true => rw [eff_of_sel hsl, ← hselT hsl, headTag_cons hq0]; exact le_max_left _ _
    | false => rw [eff_of_not_sel hsl]; exact max_le_max (le_refl _) (hselF hsl i ci fi tli hqi).1

/-- the head of `i` stays and `eff` does not overtake it: the lateness of `i` does not grow -/
theorem lam_le_of_head {w w' : WFQ Rat} {i : Nat} (hh : (w'.sq i).head? = (w.sq i).head?)
    (he : eff w' ≤ max (eff w) (headTag w i)) : lam w' i ≤ lam w i := by
  unfold lam
  rw [headTag_congr hh]
  refine max_le (le_max_left _ _) ?_
  rcases le_max_iff.mp he with h | h
  · exact le_max_of_le_right (sub_le_sub_right h _)
  · exact le_max_of_le_left (sub_nonpos.mpr h)

theorem sigma_congr {w w' : WFQ Rat} {i : Nat} (hh : (w'.sq i).head? = (w.sq i).head?) (hwt : wt w' i = wt w i) :
    sigma w' i = sigma w i := by
  unfold sigma; rw [hh, hwt]

/-- the served stream (tag `f`, size `d`): the next chunk (`f2`, `d2`) starts between `f` and `max v f` -/
theorem lag_arith {v e f f2 d d2 : Rat} (hd : 0 ≤ d2) (hcl : f ≤ f2 - d2) (hcu : f2 - d2 ≤ max v f) (he : v ≤ e) :
    f2 - d2 + max 0 (max v f - f2) ≤ f - d + max 0 (e - f) + d ∧ f - d + d ≤ f2 - d2 := by
  have h1 : max v f ≤ f + max 0 (e - f) :=
    max_le (by linarith [le_max_right 0 (e - f)]) (by linarith [le_max_left 0 (e - f)])
  refine ⟨?_, by rw [sub_add_cancel]; exact hcl⟩
  rcases le_total (max v f - f2) 0 with h | h
  · rw [max_eq_left h]; linarith
  · rw [max_eq_right h]; linarith

/-- one step, stream `i` backlogged before and after: its normalised service lies between the growth of
`sigma + lam` and the growth of `sigma` -/
theorem lag_step {w w' : WFQ Rat} {o : Op} {po : List Chunk} (h : GInv w) (hwf : w.WF) (hs : WStep w o w' po)
    (i : Nat) (hb : w.sq i ≠ []) (hb' : w'.sq i ≠ []) :
    sigma w' i + lam w' i ≤ sigma w i + lam w i + (lenSum (po.filter (·.sid == i)) : Rat) / wt w i ∧
    sigma w i + (lenSum (po.filter (·.sid == i)) : Rat) / wt w i ≤ sigma w' i := by
  have hwt : wt w' i = wt w i := wt_congr hs.1 i
  obtain ⟨⟨ci, fi⟩, tli, hqi⟩ := List.exists_cons_of_ne_nil hb
  have he := eff_step hwf hs hqi
  rw [← headTag_cons hqi] at he
  -- the head of `i` stays and nothing of `i` is served
  have same : (w'.sq i).head? = (w.sq i).head? → (lenSum (po.filter (·.sid == i)) : Rat) = 0 →
      sigma w' i + lam w' i ≤ sigma w i + lam w i + (lenSum (po.filter (·.sid == i)) : Rat) / wt w i ∧
      sigma w i + (lenSum (po.filter (·.sid == i)) : Rat) / wt w i ≤ sigma w' i := by
    intro hh hpo
    have hl := lam_le_of_head hh he
    rw [hpo, zero_div, sigma_congr hh hwt]
    exact ⟨by linarith, by linarith⟩
  rcases hs.cases with ⟨c, _, hp⟩ | ⟨hpo, hsq, _⟩ | ⟨s0, c, f, tl, hq0, hpo, hcs, _, _, hsq, _, hv, hsel'⟩
  · exact same (hp.head hb) (by rw [hp.1]; rfl)
  · exact same (by rw [hsq]) (by rw [hpo]; rfl)
  · by_cases hi : i = s0
    · subst hi
      have htl : w'.sq i = tl := by rw [hsq, if_pos rfl]
      obtain ⟨⟨c2, f2⟩, tl2, hq2⟩ := List.exists_cons_of_ne_nil hb'
      rw [htl] at hq2
      subst hq2
      rw [hqi] at hq0
      simp only [List.cons.injEq, Prod.mk.injEq] at hq0
      obtain ⟨⟨rfl, rfl⟩, rfl⟩ := hq0
      have hcl := (h.q i).cl [] ci fi c2 f2 tl2 hqi
      have hcu := (h.q i).cu [] ci fi c2 f2 tl2 hqi
      rw [max_comm] at hcu
      have hserved : (lenSum (po.filter (·.sid == i)) : Rat) = (ci.len : Rat) := by
        rw [hpo, List.filter_cons_of_pos (by rw [hcs]; exact beq_self_eq_true i)]; simp only [List.filter_nil, lenSum_cons, lenSum_nil, Nat.add_zero]
      unfold lam
      rw [hserved, sigma_cons hqi, sigma_cons htl, headTag_cons hqi, headTag_cons htl, hwt, eff_of_not_sel hsel', hv]
      exact lag_arith (div_wt_nonneg w c2.len i) hcl hcu (vtime_le_eff w)
    · have hne : (c.sid == i) = false := by rw [hcs]; exact beq_false_of_ne (fun e => hi e.symm)
      refine same (by rw [hsq, if_neg hi]) ?_
      rw [hpo, List.filter_cons_of_neg (by rw [hne]; exact Bool.false_ne_true)]; rfl

/-- the lateness of every head is bounded by the largest normalised chunk size `D` -/
structure LInv (w : WFQ Rat) (D : Rat) : Prop where
  qd : ∀ s, ∀ x ∈ w.sq s, (x.1.len : Rat) / wt w s ≤ D
  ld : ∀ s, w.sq s ≠ [] → lam w s ≤ D

theorem linv_new (ws : AMap Nat) (D : Rat) : LInv (WFQ.new ws : WFQ Rat) D :=
  ⟨fun s x hx => (by rw [sq_new] at hx; cases hx), fun s hne => absurd (sq_new ws s) hne⟩

/-- a cached selection is at most one chunk ahead of the virtual time -/
theorem eff_sub_vtime_le {w : WFQ Rat} {D : Rat} (hD : 0 ≤ D) (h : GInv w) (hwf : w.WF) (hl : LInv w D) :
    eff w - w.vtime ≤ D := by
  cases hsl : w.sel with
  | false => rw [eff_of_not_sel hsl, sub_self]; exact hD
  | true =>
    obtain ⟨c, f, tl, hq⟩ := sel_head hwf hsl
    have ha := h.a _ c f tl hq
    have hq' : (c.len : Rat) / wt w w.selStream ≤ D := hl.qd _ (c, f) (by rw [hq]; exact List.mem_cons_self)
    rw [eff_of_sel hsl, headTag_cons hq]
    exact sub_le_iff_le_add.mpr (max_le (by linarith) (by linarith))

theorem linv_step {w w' : WFQ Rat} {o : Op} {po : List Chunk} {D : Rat} (h : GInv w) (hwf : w.WF)
    (hl : LInv w D) (hs : WStep w o w' po) (hpush : ∀ c, o = .push c → (c.len : Rat) / wt w c.sid ≤ D) :
    LInv w' D := by
  refine ⟨fun s x hx => ?_, fun s hne' => ?_⟩
  · rw [wt_congr hs.1]
    rcases mem_sq_step hs hx with hx | ⟨c, rfl, rfl, rfl⟩
    · exact hl.qd s x hx
    · exact hpush c rfl
  · by_cases hne : w.sq s = []
    · -- a stream that becomes backlogged: its tag is at least the virtual time
      obtain ⟨⟨c, f⟩, tl, hq'⟩ := List.exists_cons_of_ne_nil hne'
      rcases mem_sq_step hs (show (c, f) ∈ w'.sq s by rw [hq']; exact List.mem_cons_self) with hx | ⟨c0, rfl, rfl, hx⟩
      · rw [hne] at hx; cases hx
      · cases hx
        have hd := div_wt_nonneg w c.len c.sid
        have hD := le_trans hd (hpush c rfl)
        have hm := le_max_left w.vtime (w.fin c.sid)
        have := eff_sub_vtime_le hD h hwf hl
        unfold lam
        rw [headTag_cons hq', Pushes.eff hs.2 hwf, pushTag_eq]
        exact max_le hD (by linarith)
    · -- heads of streams that were backlogged before: lateness does not grow
      obtain ⟨h1, h2⟩ := lag_step h hwf hs s hne hne'
      have := hl.ld s hne
      linarith

end WFQ

open WFQ in
theorem wfq_run_lag :
    ∀ (ops : List Op) (q : PQ Rat) (w : WFQ Rat), q.policy = .wfq w → GInv w → w.WF →
      (∀ o ∈ ops, o.basic = true) →
      ∃ w', (q.run ops).1.policy = .wfq w' ∧ GInv w' ∧ w'.WF ∧ w'.weights = w.weights ∧
        ∀ i, PQ.AllStates (fun q => q.backlogged i) q ops →
          sigma w' i + lam w' i ≤ sigma w i + lam w i + (served (q.run ops).2 i : Rat) / wt w i ∧
          sigma w i + (served (q.run ops).2 i : Rat) / wt w i ≤ sigma w' i := by
  intro ops
  induction ops with
  | nil =>
    intro q w hq hg hwf _
    exact ⟨w, hq, hg, hwf, rfl, fun i _ => by simp [PQ.run, served, popsOf]⟩
  | cons o os ih =>
    intro q w hq hg hwf hops
    obtain ⟨w1, hq1, hwf1, hstep, _⟩ := wfq_step_obs hq hwf o (hops o List.mem_cons_self)
    obtain ⟨w', hq', hg', hwf', hwt', htele⟩ := ih (q.step o).1 w1 hq1 (ginv_step hg hstep) hwf1
      (fun o' ho' => hops o' (List.mem_cons_of_mem _ ho'))
    refine ⟨w', by rw [PQ.run_cons]; exact hq', hg', hwf', by rw [hwt', hstep.1], ?_⟩
    intro i hall
    have hb : w.sq i ≠ [] := (backlogged_wfq hq i).mp hall.1
    have hb1 : w1.sq i ≠ [] := (backlogged_wfq hq1 i).mp (PQ.AllStates.head hall.2)
    obtain ⟨a1, a2⟩ := lag_step hg hwf hstep i hb hb1
    obtain ⟨b1, b2⟩ := htele i hall.2
    rw [wt_congr hstep.1 i] at b1 b2
    rw [PQ.run_cons, served_cons, Nat.cast_add, add_div]
    constructor
    · linarith
    · linarith

theorem abs_sub_le_of_bounds {a b e m n l : Rat} (ha1 : e - m ≤ a) (ha2 : a ≤ e + m + l) (hb1 : e - n ≤ b)
    (hb2 : b ≤ e + n + l) : |a - b| ≤ m + n + l :=
  abs_le.mpr ⟨by linarith, by linarith⟩

theorem service_arith {s s' l l' e e' S d : Rat} (i1 : s' + l' ≤ s + l + S) (i2 : s + S ≤ s') (p0 : e - d ≤ s + l)
    (q0 : s + l ≤ e) (p1 : e' - d ≤ s' + l') (q1 : s' + l' ≤ e') (n1 : 0 ≤ l') :
    e' - e - d ≤ S ∧ S ≤ e' - e + d + l :=
  ⟨by linarith, by linarith⟩

open WFQ in
/-- The normalised service of a stream that stays backlogged follows the advance of `eff` within one chunk
(of at most `L` bytes), plus the lateness the stream starts with. -/
theorem wfq_service_bounds {q : PQ Rat} {w : WFQ Rat} (hq : q.policy = .wfq w) (hg : GInv w) (hwf : w.WF)
    (mid : List Op) (hmid : ∀ o ∈ mid, o.basic = true) :
    ∃ w', (q.run mid).1.policy = .wfq w' ∧ w'.WF ∧ ∀ i L, PQ.AllStates (fun q => q.backlogged i) q mid →
      (∀ x ∈ w.sq i, x.1.len ≤ L) → (∀ x ∈ w'.sq i, x.1.len ≤ L) →
      eff w' - eff w - (L : Rat) / wt w i ≤ (served (q.run mid).2 i : Rat) / wt w i ∧
      (served (q.run mid).2 i : Rat) / wt w i ≤ eff w' - eff w + (L : Rat) / wt w i + lam w i := by
  obtain ⟨w', hq', hg', hwf', hwt', htele⟩ := wfq_run_lag mid q w hq hg hwf hmid
  refine ⟨w', hq', hwf', fun i L hall hL hL' => ?_⟩
  obtain ⟨i1, i2⟩ := htele i hall
  obtain ⟨p0, q0⟩ := potential_bounds hg ((backlogged_wfq hq i).mp (PQ.AllStates.head hall)) hL
  obtain ⟨p1, q1⟩ := potential_bounds hg' ((backlogged_wfq hq' i).mp (PQ.AllStates.last mid q hall)) hL'
  rw [wt_congr hwt' i] at p1
  exact service_arith i1 i2 p0 q0 p1 q1 (le_max_left _ _)

open WFQ in
/-- Fairness from a fresh queue in terms of bounds `Li`, `Lj` on the sizes of the chunks pushed on `i`, `j`:
the only other term is the lateness of the two heads in the state `w1` in which `mid` starts. It is 0 when
`pre` is atomic (`lam_eq_zero`) and at most `D` when `D` bounds every `len/weight` pushed (`wfq_lam_le_fresh`). -/
theorem wfq_fair_fresh (ws : AMap Nat) (pre mid : List Op) (hpre : ∀ o ∈ pre, o.basic = true)
    (hmid : ∀ o ∈ mid, o.basic = true) (i j Li Lj : Nat)
    (hLi : ∀ c ∈ pushesOf ((wfqFresh ws).run (pre ++ mid)).2, c.sid = i → c.len ≤ Li)
    (hLj : ∀ c ∈ pushesOf ((wfqFresh ws).run (pre ++ mid)).2, c.sid = j → c.len ≤ Lj)
    (hall : PQ.AllStates (fun q => q.backlogged i ∧ q.backlogged j) ((wfqFresh ws).run pre).1 mid)
    {w1 : WFQ Rat} (hq1 : ((wfqFresh ws).run pre).1.policy = .wfq w1) :
    |(served (((wfqFresh ws).run pre).1.run mid).2 i : Rat) / wt (WFQ.new ws : WFQ Rat) i -
        (served (((wfqFresh ws).run pre).1.run mid).2 j : Rat) / wt (WFQ.new ws : WFQ Rat) j| ≤
      (Li : Rat) / wt (WFQ.new ws : WFQ Rat) i + (Lj : Rat) / wt (WFQ.new ws : WFQ Rat) j +
        max (lam w1 i) (lam w1 j) := by
  obtain ⟨hg1, hwf1, hwt1⟩ := wfq_fresh_ginv ws pre hpre hq1
  obtain ⟨w2, hq2, _, hb⟩ := wfq_service_bounds hq1 hg1 hwf1 mid hmid
  obtain ⟨hr1, hr2⟩ := run_append (wfqFresh ws) pre mid
  rw [← hr1] at hq2
  -- what is queued at either end of `mid` was pushed during `pre ++ mid`
  have hlen : ∀ k L, (∀ c ∈ pushesOf ((wfqFresh ws).run (pre ++ mid)).2, c.sid = k → c.len ≤ L) →
      (∀ x ∈ w1.sq k, x.1.len ≤ L) ∧ ∀ x ∈ w2.sq k, x.1.len ≤ L := by
    refine fun k L hL => ⟨fun x hx => ?_, fun x hx => ?_⟩
    · obtain ⟨hm, hs⟩ := wfq_queued_mem_pushes ws pre hpre hq1 hx
      exact hL x.1 (by rw [hr2, pushesOf_append]; exact List.mem_append_left _ hm) hs
    · obtain ⟨hm, hs⟩ := wfq_queued_mem_pushes ws (pre ++ mid)
        (fun o ho => (List.mem_append.mp ho).elim (hpre o) (hmid o)) hq2 hx
      exact hL x.1 hm hs
  obtain ⟨i1, i2⟩ := hb i Li (hall.imp (fun _ h => h.1)) (hlen i Li hLi).1 (hlen i Li hLi).2
  obtain ⟨j1, j2⟩ := hb j Lj (hall.imp (fun _ h => h.2)) (hlen j Lj hLj).1 (hlen j Lj hLj).2
  rw [wt_congr hwt1 i] at i1 i2
  rw [wt_congr hwt1 j] at j1 j2
  exact abs_sub_le_of_bounds i1 (le_trans i2 (add_le_add (le_refl _) (le_max_left _ _))) j1
    (le_trans j2 (add_le_add (le_refl _) (le_max_right _ _)))

open WFQ in
theorem wfq_lam_le_fresh (ws : AMap Nat) (pre : List Op) (hpre : ∀ o ∈ pre, o.basic = true) (D : Rat)
    (hD : ∀ c ∈ pushesOf ((wfqFresh ws).run pre).2, (c.len : Rat) / wt (WFQ.new ws : WFQ Rat) c.sid ≤ D)
    {w1 : WFQ Rat} (hq1 : ((wfqFresh ws).run pre).1.policy = .wfq w1) {s : Nat} (hne : w1.sq s ≠ []) :
    lam w1 s ≤ D := by
  -- `LInv · D` holds along `pre`, the guard being that `D` bounds what is still to be pushed
  obtain ⟨w0, hq0, ⟨_, hl1, _⟩, _⟩ := wfq_run_inv
    (I := fun w => GInv w ∧ LInv w D ∧ w.weights = (WFQ.new ws : WFQ Rat).weights)
    (G := fun q ops => ∀ c ∈ pushesOf (q.run ops).2, (c.len : Rat) / wt (WFQ.new ws : WFQ Rat) c.sid ≤ D)
    (fun {q w o os w'} _ ⟨hg, hl, hw⟩ hwf hG hs => by
      simp only [PQ.run_cons, pushesOf_cons] at hG
      refine ⟨⟨ginv_step hg hs, linv_step hg hwf hl hs ?_, hs.1.trans hw⟩,
        fun c hc => hG c (List.mem_append_right _ hc)⟩
      intro c hc
      subst hc
      rw [wt_congr hw]
      exact hG c (List.mem_append_left _ List.mem_cons_self))
    pre (wfqFresh ws) _ (wfqFresh_policy ws) ⟨ginv_new ws, linv_new ws D, rfl⟩ (wf_new ws) hpre hD
  rw [hq1] at hq0
  cases hq0
  exact hl1.ld s hne

end PendQ
