import SctpVerif.Proofs.Reasm
/-!
C07, receiver reassembly under skips: what each of the four forward handlers of `reassemblyQueue` removes, keeps
and subtracts. The three set-dropping loops are characterised as list filters in `Proofs/Reasm.lean`
(`fwdOrderedLoop_eq`, `fwdOrderedMIDLoop_eq`, `fwdUnorderedMIDLoop_eq`); here the tests of the code get names
(`purgedO`, `purgedOM`, `purgedUM`), the kept list is restated with them (`…_keep`) and the counter is shown to drop
by the bytes of the dropped sets (`…_bytes`). `fwdUnorderedPrefix` (unordered DATA) is characterised here as
`takeWhile` / `dropWhile`, which are filters when the test is monotone along the slice.
-/
set_option linter.unusedVariables false
set_option linter.unusedSimpArgs false
namespace Reasm
open Gen

/-- once the predicate holds it holds for the rest of the list ⇒ dropping the leading run of
non-matching elements is the same as filtering. -/
theorem dropWhile_not_eq_filter {α} (p : α → Bool) (l : List α)
    (h : l.Pairwise (fun a b => p a = true → p b = true)) :
    l.dropWhile (fun x => !p x) = l.filter p := by
  induction l with
  | nil => rfl
  | cons x xs ih =>
    rw [List.pairwise_cons] at h
    cases hp : p x
    · simp only [List.dropWhile_cons, hp, Bool.not_false, ↓reduceIte, List.filter_cons, Bool.false_eq_true]
      exact ih h.2
    · simp only [List.dropWhile_cons, hp, Bool.not_true, Bool.false_eq_true, ↓reduceIte, List.filter_cons]
      congr 1
      symm
      rw [List.filter_eq_self]
      intro a ha
      exact h.1 a ha hp

theorem takeWhile_not_eq_filter {α} (p : α → Bool) (l : List α)
    (h : l.Pairwise (fun a b => p a = true → p b = true)) :
    l.takeWhile (fun x => !p x) = l.filter (fun x => !p x) := by
  induction l with
  | nil => rfl
  | cons x xs ih =>
    rw [List.pairwise_cons] at h
    cases hp : p x
    · simp only [List.takeWhile_cons, hp, Bool.not_false, ↓reduceIte, List.filter_cons]
      rw [ih h.2]
    · simp only [List.takeWhile_cons, hp, Bool.not_true, Bool.false_eq_true, ↓reduceIte, List.filter_cons]
      symm
      rw [List.filter_eq_nil_iff]
      intro a ha
      simp [h.1 a ha hp]

/-- a filter that drops exactly the sets at or below the skip point (`le`) that are not complete (`comp`): the order stays,
every complete set and every set above the point is kept, and a set that is gone was incomplete and at or below the point. -/
theorem purge_filter_spec {σ : Type} (le comp : σ → Bool) (l : List σ) :
    (l.filter fun s => !(le s && !comp s)).Sublist l ∧
    (∀ s ∈ l, comp s = true → s ∈ l.filter fun s => !(le s && !comp s)) ∧
    (∀ s ∈ l, le s = false → s ∈ l.filter fun s => !(le s && !comp s)) ∧
    (∀ s ∈ l, s ∉ (l.filter fun s => !(le s && !comp s)) → comp s = false ∧ le s = true) := by
  refine ⟨List.filter_sublist, fun s hs hc => ?_, fun s hs hle => ?_, fun s hs hnot => ?_⟩
  · exact List.mem_filter.mpr ⟨hs, by simp [hc]⟩
  · exact List.mem_filter.mpr ⟨hs, by simp [hle]⟩
  · have := fun h => hnot (List.mem_filter.mpr ⟨hs, h⟩)
    revert this
    cases comp s <;> cases le s <;> simp

/-- the counter after a set-dropping loop: it went down by exactly the bytes of the dropped sets. -/
theorem purge_bytes {σ : Type} (drop : σ → Bool) (chunks : σ → List Chunk) (l : List σ) (nb : BitVec 64)
    (h1 : (l.map fun s => bytesOf (chunks s)).sum ≤ nb.toNat) (h2 : nb.toNat < 2^63) :
    (subChunks nb ((l.filter drop).flatMap chunks)).toNat + ((l.filter drop).map fun s => bytesOf (chunks s)).sum
      = nb.toNat := by
  have := (purge_spec drop chunks l nb h1 h2).1
  have := ListAux.sum_map_filter_add (fun s => bytesOf (chunks s)) drop l
  omega

/-- the test of `forwardTSNForOrdered`: the set is dropped. -/
def purgedO (lastSSN : BitVec 16) (s : ChunkSet) : Bool := sna16LTE s.ssn lastSSN && !s.isComplete

theorem fwdOrderedLoop_keep (lastSSN : BitVec 16) (l : List ChunkSet) (nb : BitVec 64) :
    (fwdOrderedLoop lastSSN l nb).2 = l.filter (fun s => !purgedO lastSSN s) := by
  rw [fwdOrderedLoop_eq]; rfl

theorem fwdOrderedLoop_bytes (lastSSN : BitVec 16) (l : List ChunkSet) (nb : BitVec 64)
    (h1 : bytesOfSets l ≤ nb.toNat) (h2 : nb.toNat < 2^63) :
    (fwdOrderedLoop lastSSN l nb).1.toNat + bytesOfSets (l.filter (purgedO lastSSN)) = nb.toNat := by
  rw [fwdOrderedLoop_eq]; exact purge_bytes (purgedO lastSSN) (·.chunks) l nb h1 h2

def purgedOM (lastMID : BitVec 32) (s : ChunkSetMID) : Bool := sna32LTE s.mid lastMID && !s.isComplete

theorem fwdOrderedMIDLoop_keep (lastMID : BitVec 32) (l : List ChunkSetMID) (nb : BitVec 64) :
    (fwdOrderedMIDLoop lastMID l nb).2 = l.filter (fun s => !purgedOM lastMID s) := by
  rw [fwdOrderedMIDLoop_eq]; rfl

theorem fwdOrderedMIDLoop_bytes (lastMID : BitVec 32) (l : List ChunkSetMID) (nb : BitVec 64)
    (h1 : bytesOfMIDSets l ≤ nb.toNat) (h2 : nb.toNat < 2^63) :
    (fwdOrderedMIDLoop lastMID l nb).1.toNat + bytesOfMIDSets (l.filter (purgedOM lastMID)) = nb.toNat := by
  rw [fwdOrderedMIDLoop_eq]; exact purge_bytes (purgedOM lastMID) (·.chunks) l nb h1 h2

/-- unordered I-DATA: every set still in the map (all incomplete) at or below the skip point. -/
def purgedUM (lastMID : BitVec 32) (s : ChunkSetMID) : Bool := sna32LTE s.mid lastMID

theorem fwdUnorderedMIDLoop_keep (lastMID : BitVec 32) (l : List ChunkSetMID) (nb : BitVec 64) :
    (fwdUnorderedMIDLoop lastMID l nb).2 = l.filter (fun s => !purgedUM lastMID s) := by
  rw [fwdUnorderedMIDLoop_eq]; rfl

theorem fwdUnorderedMIDLoop_bytes (lastMID : BitVec 32) (l : List ChunkSetMID) (nb : BitVec 64)
    (h1 : bytesOfMIDSets l ≤ nb.toNat) (h2 : nb.toNat < 2^63) :
    (fwdUnorderedMIDLoop lastMID l nb).1.toNat + bytesOfMIDSets (l.filter (purgedUM lastMID)) = nb.toNat := by
  rw [fwdUnorderedMIDLoop_eq]; exact purge_bytes (purgedUM lastMID) (·.chunks) l nb h1 h2

/-! ### unordered DATA (TSN): the leading run of fragments at or below the new cumulative TSN -/

theorem fwdUnorderedPrefix_eq (t : BitVec 32) (l : List Chunk) :
    fwdUnorderedPrefix t l = (l.takeWhile (fun c => !sna32GT c.tsn t)).length := by
  induction l with
  | nil => rfl
  | cons c cs ih =>
    simp only [fwdUnorderedPrefix, List.takeWhile_cons]
    cases h : sna32GT c.tsn t
    · simp [ih]
    · simp

theorem take_fwdUnorderedPrefix (t : BitVec 32) (l : List Chunk) :
    l.take (fwdUnorderedPrefix t l) = l.takeWhile (fun c => !sna32GT c.tsn t) := by
  induction l with
  | nil => rfl
  | cons c cs ih =>
    simp only [fwdUnorderedPrefix, List.takeWhile_cons]
    cases h : sna32GT c.tsn t
    · simp [ih]
    · simp

theorem drop_fwdUnorderedPrefix (t : BitVec 32) (l : List Chunk) :
    l.drop (fwdUnorderedPrefix t l) = l.dropWhile (fun c => !sna32GT c.tsn t) := by
  induction l with
  | nil => rfl
  | cons c cs ih =>
    simp only [fwdUnorderedPrefix, List.dropWhile_cons]
    cases h : sna32GT c.tsn t
    · simp [ih]
    · simp

/-- the state after `forwardTSNForUnordered`, both branches of `if lastIdx >= 0` in one formula. -/
theorem forwardTSNForUnordered_eq (q : Q) (t : BitVec 32) :
    q.forwardTSNForUnordered t =
      { q with nBytes := subChunks q.nBytes (q.unorderedChunks.takeWhile (fun c => !sna32GT c.tsn t)),
               unorderedChunks := q.unorderedChunks.dropWhile (fun c => !sna32GT c.tsn t) } := by
  unfold Q.forwardTSNForUnordered
  simp only
  split
  · rw [take_fwdUnorderedPrefix, drop_fwdUnorderedPrefix]
  · rename_i h
    have h0 : fwdUnorderedPrefix t q.unorderedChunks = 0 := by omega
    have e1 := take_fwdUnorderedPrefix t q.unorderedChunks
    have e2 := drop_fwdUnorderedPrefix t q.unorderedChunks
    rw [h0] at e1 e2
    simp only [List.take_zero, List.drop_zero] at e1 e2
    rw [← e1, ← e2]
    rfl

end Reasm
