import SctpVerif.Proofs.NetSys.Count
import SctpVerif.Proofs.NetSys.IData
/-!
The universe of a run with streams of ANY reliability policy (ordered, never reset): every chunk on the sender's wire is a
fragment of `senderD`, at its position among the moves (`UFacts`, `ufacts`). The facts are stated on the SENDER run alone
(they do not depend on the network / receiver part of the composed state), so that `NetSys` (`netsys_prefix_data`: reliable
streams are a special case, `ordOnly_of_reliable`) and `NetSysPR` both use them; plus the TSN injectivity of moved fragments
(`UFacts.inj`) and the universe as the receiver theorems take it (`NetSysPR.univOf : Receiver.UnivS`).
-/
namespace NetSys
open SenderProofs SenderTsn Sender

/-- what the composition proofs need to know about the sender run, with `acc` = accepted writes, `mv` = moved chunks,
`W` = chunks written, `wr` = chunks ever put on the wire -/
structure UFacts (P : Params) (acc : List Write) (mv : List Chunk) (W : Nat) (wr : List Chunk) : Prop where
  ctx : DCtx P acc mv
  wlt : W < 2^31
  mvW : mv.length ≤ W
  hfr : ∀ a ∈ acc, 1 ≤ nfr P a ∧ nfr P a ≤ W ∧ 0 < P.cfg.maxPayload.toNat
  hchunk : ∀ c ∈ wr, ∃ (ws1 : List Write) (a : Write) (ws2 : List Write) (i : Nat),
      acc = ws1 ++ a :: ws2 ∧ c.msg = a.msg ∧ c.si = a.si ∧
      cntOf ws1 a.si < (senderD P acc mv a.si).msgs.length ∧ i < (senderD P acc mv a.si).nf (cntOf ws1 a.si) ∧
      toWire P c = (senderD P acc mv a.si).dataFrag (cntOf ws1 a.si) i ∧
      (senderD P acc mv a.si).base (cntOf ws1 a.si) + i = (mv.map Chunk.frag).idxOf (Chunk.frag c) ∧
      (mv.map Chunk.frag).idxOf (Chunk.frag c) < mv.length
  hidxAll : ∀ x k i, k < (senderD P acc mv x).msgs.length → i < (senderD P acc mv x).nf k →
      (senderD P acc mv x).base k + i < W
  /-- fragment count and base offset of message `k` of a stream: the position of its first fragment among the moves, or —
  when that fragment never moved (`idxOf` = length of the list) — an offset beyond every TSN in use -/
  hbase : ∀ x k, k < (senderD P acc mv x).msgs.length → ∀ ak, (acc.filter (·.si == x))[k]? = some ak →
      (senderD P acc mv x).nf k = nfr P ak ∧
      (senderD P acc mv x).base k = posOf P acc x k + ((mv.map Chunk.frag).idxOf (fragOf false ak k 0 (nfr P ak)) - posOf P acc x k)

theorem ufacts (P : Params) (ops : List Op) (hil : P.cfg.useInterleaving = false) (hrel : OrdOnly ops = true)
    (hsel : SelContig P ops = true) (hN : chunksWritten P ops < 2^31) :
    UFacts P (accepted (init P).snd (sndOps P (init P).snd ops)) (moved (init P).snd (sndOps P (init P).snd ops))
      (written (init P).snd (sndOps P (init P).snd ops)).length (wire (init P).snd (sndOps P (init P).snd ops)) := by
  have hs0 : (init P).snd = Sender.init P.cfg P.tsn P.peerRwnd := rfl
  have hlen := sndOps_lenOk P (init P).snd ops
  have hord := sndOps_ordOnly P (init P).snd ops hrel
  have hident := wire_ident P.cfg P.tsn P.peerRwnd (fun m => (P.pay m).length) (sndOps P (init P).snd ops) hord hlen
  have hmid := moved_ident P.cfg P.tsn P.peerRwnd (fun m => (P.pay m).length) (sndOps P (init P).snd ops) hord hlen
  obtain ⟨hal, hfr⟩ := accepted_le_written P.cfg P.tsn P.peerRwnd (fun m => (P.pay m).length) (sndOps P (init P).snd ops) hord hlen
  have hmv := moved_le_written P.cfg P.tsn P.peerRwnd (sndOps P (init P).snd ops)
  have hnd := moved_frag_nodup P.cfg P.tsn P.peerRwnd (sndOps P (init P).snd ops)
  have hsorted := accepted_sorted (init P).snd (sndOps P (init P).snd ops)
  obtain ⟨hgen, _⟩ := run_gen P.cfg.useInterleaving (fun m => (P.pay m).length) [] (init P).snd (sndOps P (init P).snd ops)
    (init_cinv _ P.cfg P.tsn P.peerRwnd) rfl hord hlen
  have hcnt := moved_count_le P.cfg P.tsn P.peerRwnd (sndOps P (init P).snd ops)
  rw [← hs0] at hident hal hfr hmv hmid hnd hcnt
  simp only [chunksWritten] at hN
  simp only [SelContig, Bool.and_eq_true] at hsel
  obtain ⟨hsel1, hsel2⟩ := hsel
  rw [hil] at hident hmid hgen
  generalize hacc : accepted (init P).snd (sndOps P (init P).snd ops) = acc at hident hal hfr hmid hsorted hsel2 hgen ⊢
  generalize hmvd : moved (init P).snd (sndOps P (init P).snd ops) = mv at hident hmv hmid hnd hsel1 hsel2 hcnt ⊢
  generalize hWl : written (init P).snd (sndOps P (init P).snd ops) = Wl at hN hal hfr hmv hgen hcnt ⊢
  have hcfg0 : (init P).snd.cfg = P.cfg := rfl
  rw [hcfg0] at hgen
  have hWsum : Wl.length = (acc.map (nfr P)).sum := by
    rw [hgen, gen_length_eq]; rfl
  have ctx : DCtx P acc mv :=
    { il := hil, sorted := hsorted,
      mvid := fun j m hj => by
        obtain ⟨_, ws1, a, ws2, i, e1, e2, e3⟩ := hmid j m hj
        exact ⟨ws1, a, ws2, i, e1, e2, e3⟩
      nd := hnd, contig := contigB_spec mv hsel1, fifo := fifoB_spec P acc mv hsel2,
      small := fun a ha => by have := (hfr a ha).2.1; simp only [nfr]; omega }
  have hchunk : ∀ c ∈ wire (init P).snd (sndOps P (init P).snd ops), ∃ (ws1 : List Write) (a : Write) (ws2 : List Write) (i : Nat),
      acc = ws1 ++ a :: ws2 ∧ c.msg = a.msg ∧ c.si = a.si ∧
      cntOf ws1 a.si < (senderD P acc mv a.si).msgs.length ∧ i < (senderD P acc mv a.si).nf (cntOf ws1 a.si) ∧
      toWire P c = (senderD P acc mv a.si).dataFrag (cntOf ws1 a.si) i ∧
      (senderD P acc mv a.si).base (cntOf ws1 a.si) + i = (mv.map Chunk.frag).idxOf (Chunk.frag c) ∧
      (mv.map Chunk.frag).idxOf (Chunk.frag c) < mv.length := by
    intro c hc
    obtain ⟨ws1, a, ws2, i, e1, e2, e3, e4, e5, e6⟩ := hident c hc
    obtain ⟨t1, t2, t3, t4⟩ := toWire_data P acc ws1 ws2 a mv ctx e1 c i e2 e3 e4 e5 e6
    exact ⟨ws1, a, ws2, i, e1, congrArg Frag.msg e3, congrArg Frag.si e3, t1, t2, t3, t4, e5⟩
  have hbase : ∀ x k, k < (senderD P acc mv x).msgs.length → ∀ ak, (acc.filter (·.si == x))[k]? = some ak →
      (senderD P acc mv x).nf k = nfr P ak ∧
      (senderD P acc mv x).base k = posOf P acc x k + ((mv.map Chunk.frag).idxOf (fragOf false ak k 0 (nfr P ak)) - posOf P acc x k) := by
    intro x k hk ak hak
    have hnfk : (senderD P acc mv x).nf k = nfr P ak := by
      have hmsg := senderI_msg P acc x k ak hak
      have : (senderD P acc mv x).msg k = (senderI P acc x).msg k := rfl
      simp only [Reasm.Sender.nf, this, hmsg, Reasm.Msg.nf, cut_length, nfr]
    have hidxk : idxOfFrag P acc mv x k 0 = (mv.map Chunk.frag).idxOf (fragOf false ak k 0 (nfr P ak)) := by
      simp only [idxOfFrag, hak, hil, nfr]
    have hb : (senderD P acc mv x).base k = posOf P acc x k + (idxOfFrag P acc mv x k 0 - posOf P acc x k) := rfl
    rw [hidxk] at hb
    exact ⟨hnfk, hb⟩
  have hidxAll : ∀ x k i, k < (senderD P acc mv x).msgs.length → i < (senderD P acc mv x).nf k →
      (senderD P acc mv x).base k + i < Wl.length := by
    intro x k i hk hi
    obtain ⟨u, ak, v, eu, cu, hsu, _, _⟩ := senderD_msg P hil acc mv x k hk
    obtain ⟨hnfk, hb⟩ := hbase x k hk ak (by rw [← cu, ← hsu]; exact (filter_split acc u v ak eu).1)
    have cW := gen_count_msg false P.cfg.maxPayload.toNat (fun m => (P.pay m).length) acc u v ak ctx.sorted eu
    rw [← hgen] at cW
    have cM := moved_count_msg ctx u v ak eu
    rw [hsu, cu] at cM
    have un := unmoved_ge Wl mv hcnt (msgIs ak.msg)
    have h1 : (mv.map Chunk.frag).idxOf (fragOf false ak k 0 (nfr P ak)) ≤ mv.length := by
      have := List.idxOf_le_length (l := mv.map Chunk.frag) (a := fragOf false ak k 0 (nfr P ak))
      simpa using this
    have h2 := posOf_le P acc x (k + 1)
    have h3 := posOf_succ P acc x k hk
    have h4 : (senderD P acc [] x).nf k = (senderD P acc mv x).nf k := rfl
    have hn : (fragSizes P.cfg.maxPayload.toNat (P.pay ak.msg).length).length = nfr P ak := rfl
    rw [hn] at cW
    generalize (mv.map Chunk.frag).idxOf (fragOf false ak k 0 (nfr P ak)) = J0 at cM h1 hb
    generalize ((mv.map Chunk.frag).countP (msgIs ak.msg)) = cm at cM un
    generalize ((Wl.map Chunk.frag).countP (msgIs ak.msg)) = cw at cW un
    omega
  exact ⟨ctx, hN, hmv, fun a ha => by have := hfr a ha; exact ⟨this.1, this.2.1, this.2.2⟩, hchunk, hidxAll, hbase⟩


/-!
TSN injectivity of moved fragments in the universe `senderD`: a chunk on the wire sits at ONE position among the moves; a
fragment `(k0, i0)` of stream `si` whose offset in the universe is that position IS that chunk's fragment
(the argument of the `hwin` case of `netsys_prefix_data`, `Proofs/NetSys/Data.lean`, without assuming the stream).
-/

theorem UFacts.inj {P : Params} {acc : List Write} {mv : List Chunk} {W : Nat} {wr : List Chunk} (h : UFacts P acc mv W wr)
    (c : Chunk) (ws1 : List Write) (a : Write) (ws2 : List Write)
    (a1 : acc = ws1 ++ a :: ws2) (a2 : c.msg = a.msg)
    (t5 : (mv.map Chunk.frag).idxOf (Chunk.frag c) < mv.length)
    (si : BitVec 16) (k0 i0 : Nat) (hk0 : k0 < (senderD P acc mv si).msgs.length) (hi0 : i0 < (senderD P acc mv si).nf k0)
    (hJ : (senderD P acc mv si).base k0 + i0 = (mv.map Chunk.frag).idxOf (Chunk.frag c)) :
    a.si = si ∧ cntOf ws1 a.si = k0 := by
  have ctx := h.ctx
  have hklen : k0 < (acc.filter (·.si == si)).length := by
    have : (senderD P acc mv si).msgs.length = (acc.filter (·.si == si)).length := by simp [senderD, msgsOf]
    omega
  have hak : (acc.filter (·.si == si))[k0]? = some (acc.filter (·.si == si))[k0] := List.getElem?_eq_getElem hklen
  obtain ⟨u, v, eu, cu, hsu⟩ := filter_get_split acc si k0 _ hak
  generalize (acc.filter (·.si == si))[k0] = ak at hak eu hsu
  obtain ⟨hnfk, hbs⟩ := h.hbase si k0 hk0 ak hak
  by_cases hJ0 : (mv.map Chunk.frag).idxOf (fragOf false ak k0 0 (nfr P ak)) < mv.length
  · -- the first fragment of message `k0` was moved: its fragments follow it without a gap
    have hJ0' : (mv.map Chunk.frag).idxOf (fragOf false ak (cntOf u ak.si) 0 (nfr P ak)) < mv.length := by
      rw [hsu, cu]; exact hJ0
    obtain ⟨_, hbase⟩ := ctx.first u v ak eu hJ0'
    rw [hsu, cu] at hbase
    obtain ⟨b, hb, hbf⟩ := idxOf_get _ mv hJ0
    have hb0 : b.fsn = 0 := congrArg Frag.fsn hbf
    have hbm : b.msg = ak.msg := congrArg Frag.msg hbf
    have hak' : ak ∈ acc := by rw [eu]; simp
    have hsm := ctx.small ak hak'
    have he : ∀ c' ∈ mv, c'.msg = b.msg → c'.efrag = (c'.fsn.toNat + 1 == nfr P ak) := by
      intro c' hc' hm'
      obtain ⟨j, hj⟩ := List.getElem?_of_mem hc'
      obtain ⟨i'', hi'', hf''⟩ := ctx.of_msg u v ak eu j c' hj (hm'.trans hbm)
      have g1 : c'.efrag = (i'' + 1 == nfr P ak) := congrArg Frag.efrag hf''
      have g2 : c'.fsn = BitVec.ofNat 32 i'' := congrArg Frag.fsn hf''
      rw [g1, g2, BitVec.toNat_ofNat, Nat.mod_eq_of_lt (by omega)]
    have hlt : (mv.map Chunk.frag).idxOf (fragOf false ak k0 0 (nfr P ak)) + i0 < mv.length := by
      rw [← hbase, hJ]; exact t5
    obtain ⟨y, hy, hym, _⟩ := ctx.contig.fwd _ b hb hb0 (nfr P ak) (by omega) he i0 (by rw [← hnfk]; exact hi0) hlt
    obtain ⟨m, hmJ, hmf⟩ := idxOf_get _ mv t5
    have hmm : m.msg = c.msg := congrArg Frag.msg hmf
    rw [← hbase, hJ] at hy
    have hym' : y = m := by rw [hy] at hmJ; exact Option.some.inj hmJ
    have hmsgeq : ak.msg = a.msg := by rw [← hbm, ← hym, hym', hmm, a2]
    obtain ⟨v1, v2, _⟩ := split_unique acc ctx.sorted u v ws1 ws2 ak a eu a1 hmsgeq
    rw [← v2, ← v1, hsu]
    exact ⟨rfl, cu⟩
  · -- the first fragment of message `k0` never moved: its offset is beyond every TSN in use
    exfalso
    have hle : (mv.map Chunk.frag).idxOf (fragOf false ak k0 0 (nfr P ak)) ≤ mv.length := by
      have := List.idxOf_le_length (l := mv.map Chunk.frag) (a := fragOf false ak k0 0 (nfr P ak))
      simpa using this
    omega

end NetSys

namespace NetSysPR
open NetSys (Params Op toWire sndOp sndOps senderD sendersD UFacts)
open SenderProofs SenderTsn

/-- the universe `sendersD` of a run as a `Receiver.UnivS` -/
def univOf {P : Params} {acc : List NetSys.Write} {mv : List Sender.Chunk} {W : Nat} {wr : List Sender.Chunk}
    (h : UFacts P acc mv W wr) (si0 : BitVec 16) : Receiver.UnivS :=
  { t := P.tsn, N := W, hN := h.wlt, senders := sendersD P acc mv si0,
    wf := by
      intro S hS'
      simp only [sendersD, List.mem_map] at hS'
      obtain ⟨x, _, rfl⟩ := hS'
      intro m hm
      simp only [senderD, NetSys.msgsOf, List.mem_map] at hm
      obtain ⟨a, ha, rfl⟩ := hm
      have ha' : a ∈ acc := (List.mem_filter.1 ha).1
      simp only [Reasm.Msg.nf, NetSys.cut_length]
      have := h.hfr a ha'
      have hw := h.wlt
      simp only [NetSys.nfr] at this
      omega,
    t0 := by
      intro S hS'
      simp only [sendersD, List.mem_map] at hS'
      obtain ⟨x, _, rfl⟩ := hS'
      rfl,
    idx := by
      intro S hS' k i hk hi
      simp only [sendersD, List.mem_map] at hS'
      obtain ⟨x, _, rfl⟩ := hS'
      exact h.hidxAll x k i hk hi,
    si := by
      intro S hS1 S' hS2 he
      simp only [sendersD, List.mem_map] at hS1 hS2
      obtain ⟨x, _, rfl⟩ := hS1
      obtain ⟨y, _, rfl⟩ := hS2
      have : y = x := he
      rw [this] }

theorem univOf_mem {P acc mv W wr} (h : UFacts P acc mv W wr) (si0 : BitVec 16) : senderD P acc mv si0 ∈ (univOf h si0).senders := by
  exact (NetSys.mem_senders (senderD P acc mv) acc si0).1

end NetSysPR
