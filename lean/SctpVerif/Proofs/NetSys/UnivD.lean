import SctpVerif.Proofs.NetSys.Univ
import SctpVerif.Proofs.Sender.MsgOrder
import SctpVerif.Proofs.ListAux
/-!
The DATA universe of a NetSys run and the selection hypothesis `SelContig`.

Without interleaving the receiver recognises a complete message by CONSECUTIVE TSNs, so the universe of
`C01_receiver_prefix` has fragment `(k, i)` of a stream at TSN offset `base k + i`, `base k` = the fragments of the
stream's earlier messages plus `skip k` (the TSNs other streams used before). For a NetSys run this is true exactly
when the order in which the pending queue hands out chunks (= TSN order, `moved`) keeps the fragments of a message
together and serves every stream first-in-first-out: `SelContig`, a decidable predicate on the run, stated on the
`moved` list in the terms of `Props/C17.lean` (`C17_contiguous`: once a non-final fragment is popped the next pop is the
next fragment of that message; `C17_fragment_order`: the pops of a stream are a prefix of its pushes). The selection is
an ORACLE of the Sender model; C17 proves exactly this of the real pending queue (model `PendQ`).
-/
namespace NetSys
open SenderProofs SenderTsn Sender

/-- number of fragments of an accepted write -/
def nfr (P : Params) (a : Write) : Nat := (fragSizes P.cfg.maxPayload.toNat (P.pay a.msg).length).length

/-- fragments of the first `k` messages of stream `si` -/
def posOf (P : Params) (acc : List Write) (si : BitVec 16) (k : Nat) : Nat := (((msgsOf P acc si).take k).map Reasm.Msg.nf).sum

/-- TSNs used by others before message `k` of stream `si`: position of its first fragment among the moved chunks
(`mv.length` if it never moved) minus the fragments of the stream's earlier messages -/
def skipOf (P : Params) (acc : List Write) (mv : List Chunk) (si : BitVec 16) (k : Nat) : Nat :=
  idxOfFrag P acc mv si k 0 - posOf P acc si k

def senderD (P : Params) (acc : List Write) (mv : List Chunk) (si : BitVec 16) : Reasm.Sender :=
  { si := si, t0 := P.tsn, msgs := msgsOf P acc si, skip := skipOf P acc mv si }

def sendersD (P : Params) (acc : List Write) (mv : List Chunk) (si0 : BitVec 16) : List Reasm.Sender :=
  (uniq (si0 :: acc.map (·.si))).map (senderD P acc mv)

/-! ### the selection hypothesis -/

/-- fragments of the messages accepted on stream `si` before message identity `m` -/
def earlierFrags (P : Params) (acc : List Write) (si : BitVec 16) (m : Nat) : Nat :=
  ((acc.filter (fun a => a.si == si && decide (a.msg < m))).map (nfr P)).sum

/-- `C17_contiguous` on the move order: the first moved chunk is a first fragment; after a last fragment comes a first
fragment; after any other fragment comes the next fragment of the same message -/
def contigB (mv : List Chunk) : Bool :=
  (match mv[0]? with | some c => c.bfrag | none => true) &&
  (List.range mv.length).all fun j =>
    match mv[j]?, mv[j + 1]? with
    | some x, some y => if x.efrag then y.bfrag else (y.msg == x.msg && y.fsn == x.fsn + 1)
    | _, _ => true

/-- `C17_fragment_order` on the move order (every stream first-in-first-out): when the first fragment of a message is
moved, the chunks of its stream moved before are as many as the fragments of the stream's earlier messages -/
def fifoB (P : Params) (acc : List Write) (mv : List Chunk) : Bool :=
  (List.range mv.length).all fun j =>
    match mv[j]? with
    | some c => !c.bfrag || ((mv.take j).countP (·.si == c.si) == earlierFrags P acc c.si c.msg)
    | none => true

/-- **the selection oracle of the run is message-contiguous and per-stream FIFO** (decidable) -/
def SelContig (P : Params) (ops : List Op) : Bool :=
  contigB (moved (init P).snd (sndOps P (init P).snd ops)) &&
  fifoB P (accepted (init P).snd (sndOps P (init P).snd ops)) (moved (init P).snd (sndOps P (init P).snd ops))

theorem contigB_spec (mv : List Chunk) (h : contigB mv = true) : Contig mv := by
  simp only [contigB, Bool.and_eq_true, List.all_eq_true, List.mem_range] at h
  obtain ⟨h1, h2⟩ := h
  refine ⟨fun c hc => by simpa [hc] using h1, fun j x y hx hy => ?_⟩
  have hj : j < mv.length := (List.getElem?_eq_some_iff.1 hx).1
  have := h2 j hj
  simp only [hx, hy] at this
  split
  · rename_i he; simpa [he] using this
  · rename_i he; simpa [he] using this

theorem fifoB_spec (P : Params) (acc : List Write) (mv : List Chunk) (h : fifoB P acc mv = true) :
    ∀ (j : Nat) (c : Chunk), mv[j]? = some c → c.bfrag = true → earlierFrags P acc c.si c.msg ≤ j := by
  intro j c hc hb
  simp only [fifoB, List.all_eq_true, List.mem_range] at h
  have hj : j < mv.length := (List.getElem?_eq_some_iff.1 hc).1
  have := h j hj
  simp only [hc, hb, Bool.not_true, Bool.false_or, beq_iff_eq] at this
  rw [← this]
  exact Nat.le_trans List.countP_le_length (List.length_take_le j mv)

theorem sum_take_le (l : List Nat) (k : Nat) : (l.take k).sum ≤ l.sum := by
  induction l generalizing k with
  | nil => simp
  | cons x r ih =>
    cases k with
    | zero => simp
    | succ n => simp only [List.take_succ_cons, List.sum_cons]; have := ih n; omega

theorem gen_length_eq (il : Bool) (mp : Nat) (lenOf : Nat → Nat) (pre ws : List Write) :
    (gen il mp lenOf pre ws).length = (ws.map fun a => (fragSizes mp (lenOf a.msg)).length).sum := by
  induction ws generalizing pre with
  | nil => rfl
  | cons a r ih => simp only [gen, List.length_append, grp_length, ih, List.map_cons, List.sum_cons]

theorem msgsOf_nf (P : Params) (acc : List Write) (si : BitVec 16) :
    (msgsOf P acc si).map Reasm.Msg.nf = (acc.filter (·.si == si)).map (nfr P) := by
  simp only [msgsOf, List.map_map]
  apply List.map_congr_left
  intro a _
  simp only [Function.comp, Reasm.Msg.nf, cut_length, nfr]

/-- the fragments of the first `k` messages of a stream are among the chunks written -/
theorem posOf_le (P : Params) (acc : List Write) (si : BitVec 16) (k : Nat) : posOf P acc si k ≤ (acc.map (nfr P)).sum := by
  simp only [posOf, List.map_take, msgsOf_nf]
  exact Nat.le_trans (sum_take_le _ k) (ListAux.sum_map_filter_le _ _ _)

theorem posOf_succ (P : Params) (acc : List Write) (si : BitVec 16) (k : Nat) (hk : k < (msgsOf P acc si).length) :
    posOf P acc si (k + 1) = posOf P acc si k + (senderD P acc [] si).nf k := by
  simp only [posOf, Reasm.Sender.nf, Reasm.Sender.msg, senderD, List.take_add_one, List.getElem?_eq_getElem hk, Option.toList,
    List.map_append, List.sum_append, List.map_cons, List.map_nil, List.sum_cons, List.sum_nil, Nat.add_zero,
    List.getD_eq_getElem?_getD, Option.getD_some]

/-! ### position of a message among the accepted writes -/

theorem filter_get_split (acc : List Write) (si : BitVec 16) (k : Nat) (a : Write) (h : (acc.filter (·.si == si))[k]? = some a) :
    ∃ u v, acc = u ++ a :: v ∧ cntOf u si = k ∧ a.si = si := by
  induction acc generalizing k with
  | nil => simp at h
  | cons x r ih =>
    simp only [List.filter_cons] at h
    by_cases hx : x.si = si
    · simp only [hx, beq_self_eq_true, if_true] at h
      cases k with
      | zero =>
        simp only [List.getElem?_cons_zero, Option.some.injEq] at h
        subst h
        exact ⟨[], r, rfl, by simp [cntOf], hx⟩
      | succ n =>
        simp only [List.getElem?_cons_succ] at h
        obtain ⟨u, v, e, c, hs⟩ := ih n h
        refine ⟨x :: u, v, by rw [e]; rfl, ?_, hs⟩
        simp only [cntOf, List.filter_cons, hx, beq_self_eq_true, if_true, List.length_cons] at c ⊢
        omega
    · have hx' : (x.si == si) = false := by simpa using hx
      simp only [hx', Bool.false_eq_true, if_false] at h
      obtain ⟨u, v, e, c, hs⟩ := ih k h
      refine ⟨x :: u, v, by rw [e]; rfl, ?_, hs⟩
      simp only [cntOf, List.filter_cons, hx', Bool.false_eq_true, if_false] at c ⊢
      exact c

/-- message `k` of stream `x` of the DATA universe: which accepted write it is, how many fragments it has, where its
first fragment sits among the moved chunks -/
theorem senderD_msg (P : Params) (hil : P.cfg.useInterleaving = false) (acc : List Write) (mv : List Chunk) (x : BitVec 16) (k : Nat)
    (hk : k < (senderD P acc mv x).msgs.length) :
    ∃ u ak v, acc = u ++ ak :: v ∧ cntOf u x = k ∧ ak.si = x ∧ (senderD P acc mv x).nf k = nfr P ak ∧
      idxOfFrag P acc mv x k 0 = (mv.map Chunk.frag).idxOf (fragOf false ak k 0 (nfr P ak)) := by
  have hklen : k < (acc.filter (·.si == x)).length := by
    have : (senderD P acc mv x).msgs.length = (acc.filter (·.si == x)).length := by simp [senderD, msgsOf]
    omega
  have hak : (acc.filter (·.si == x))[k]? = some (acc.filter (·.si == x))[k] := List.getElem?_eq_getElem hklen
  obtain ⟨u, v, eu, cu, hsu⟩ := filter_get_split acc x k _ hak
  refine ⟨u, _, v, eu, cu, hsu, ?_, ?_⟩
  · have hmsg := senderI_msg P acc x k _ hak
    have : (senderD P acc mv x).msg k = (senderI P acc x).msg k := rfl
    simp only [Reasm.Sender.nf, this, hmsg, Reasm.Msg.nf, cut_length, nfr]
  · simp only [idxOfFrag, hak, hil, nfr]

/-- with increasing message identities: the messages of the stream before `a` are the stream's messages in `ws1` -/
theorem earlier_eq_pos (P : Params) (acc ws1 ws2 : List Write) (a : Write) (hs : acc.Pairwise (fun a b => a.msg < b.msg))
    (h : acc = ws1 ++ a :: ws2) : earlierFrags P acc a.si a.msg = posOf P acc a.si (cntOf ws1 a.si) := by
  subst h
  rw [List.pairwise_append] at hs
  obtain ⟨_, hs2, hs3⟩ := hs
  rw [List.pairwise_cons] at hs2
  have hf : (ws1 ++ a :: ws2).filter (fun x => x.si == a.si && decide (x.msg < a.msg)) = ws1.filter (·.si == a.si) := by
    rw [List.filter_append]
    have h1 : ws1.filter (fun x => x.si == a.si && decide (x.msg < a.msg)) = ws1.filter (·.si == a.si) := by
      apply List.filter_congr
      intro x hx
      have := hs3 x hx a List.mem_cons_self
      simp [this]
    have h2 : (a :: ws2).filter (fun x => x.si == a.si && decide (x.msg < a.msg)) = [] := by
      rw [List.filter_eq_nil_iff]
      intro x hx
      rcases List.mem_cons.1 hx with rfl | hx
      · simp
      · have := hs2.1 x hx
        simp only [Bool.and_eq_true, decide_eq_true_eq, not_and]
        intro _; omega
    rw [h1, h2, List.append_nil]
  simp only [earlierFrags, hf, posOf, List.map_take, msgsOf_nf]
  congr 1
  rw [List.filter_append, cntOf]
  rw [List.map_append, List.take_left' (by simp)]

/-! ### the facts about the sender run the identification needs, bundled -/

structure DCtx (P : Params) (acc : List Write) (mv : List Chunk) : Prop where
  il : P.cfg.useInterleaving = false
  sorted : acc.Pairwise (fun a b => a.msg < b.msg)
  mvid : ∀ (j : Nat) (m : Chunk), mv[j]? = some m → ∃ (ws1 : List Write) (a : Write) (ws2 : List Write) (i : Nat),
    acc = ws1 ++ a :: ws2 ∧ i < nfr P a ∧ Chunk.frag m = fragOf false a (cntOf ws1 a.si) i (nfr P a)
  nd : (mv.map Chunk.frag).Nodup
  contig : Contig mv
  fifo : ∀ (j : Nat) (c : Chunk), mv[j]? = some c → c.bfrag = true → earlierFrags P acc c.si c.msg ≤ j
  small : ∀ a ∈ acc, nfr P a < 2^31

theorem DCtx.wf {P : Params} {acc : List Write} {mv : List Chunk} (h : DCtx P acc mv) :
    ∀ c ∈ mv, (c.bfrag = true ↔ c.fsn = 0) ∧ c.fsn.toNat + 1 < 2^32 := by
  intro c hc
  obtain ⟨j, hj⟩ := List.getElem?_of_mem hc
  obtain ⟨ws1, a, ws2, i, e, hi, hf⟩ := h.mvid j c hj
  have ha : a ∈ acc := by rw [e]; simp
  have hsm := h.small a ha
  have f5 : c.bfrag = (i == 0) := congrArg Frag.bfrag hf
  have f9 : c.fsn = BitVec.ofNat 32 i := congrArg Frag.fsn hf
  have hi32 : i < 2^32 := by omega
  refine ⟨?_, ?_⟩
  · rw [f5, f9]
    constructor
    · intro hb
      have : i = 0 := by simpa using hb
      subst this; rfl
    · intro h0
      have := congrArg BitVec.toNat h0
      simp only [BitVec.toNat_ofNat, Nat.mod_eq_of_lt hi32] at this
      simp at this
      simp [this]
  · rw [f9, BitVec.toNat_ofNat, Nat.mod_eq_of_lt hi32]; omega

/-- a moved chunk that carries message identity `a.msg` is a fragment of the write `a` -/
theorem DCtx.of_msg {P : Params} {acc : List Write} {mv : List Chunk} (h : DCtx P acc mv) (ws1 ws2 : List Write) (a : Write)
    (hacc : acc = ws1 ++ a :: ws2) (j : Nat) (m : Chunk) (hj : mv[j]? = some m) (hm : m.msg = a.msg) :
    ∃ i, i < nfr P a ∧ Chunk.frag m = fragOf false a (cntOf ws1 a.si) i (nfr P a) := by
  obtain ⟨ws1', a', ws2', i, e, hi, hf⟩ := h.mvid j m hj
  have hmsg : a'.msg = m.msg := (congrArg Frag.msg hf).symm
  obtain ⟨u1, u2, _⟩ := split_unique acc h.sorted ws1' ws2' ws1 ws2 a' a e hacc (hmsg.trans hm)
  subst u1; subst u2
  exact ⟨i, hi, hf⟩

/-- the first fragment of the message of a moved chunk was moved too, `fsn` positions before it -/
theorem DCtx.first_before {P : Params} {acc : List Write} {mv : List Chunk} (h : DCtx P acc mv) (ws1 ws2 : List Write) (a : Write)
    (hacc : acc = ws1 ++ a :: ws2) (j : Nat) (c : Chunk) (hj : mv[j]? = some c) (hm : c.msg = a.msg) :
    c.fsn.toNat ≤ j ∧ ∃ b, mv[j - c.fsn.toNat]? = some b ∧ Chunk.frag b = fragOf false a (cntOf ws1 a.si) 0 (nfr P a) := by
  obtain ⟨b1, b, b2, b3, b4⟩ := h.contig.back h.wf j c hj
  obtain ⟨ib, _, hfb⟩ := h.of_msg ws1 ws2 a hacc _ b b2 (b3.trans hm)
  have hib0 : ib = 0 := by
    have : b.bfrag = (ib == 0) := congrArg Frag.bfrag hfb
    rw [b4] at this
    simpa using this.symm
  subst hib0
  exact ⟨b1, b, b2, hfb⟩

theorem idxOf_get (f : Frag) (mv : List Chunk) (h : (mv.map Chunk.frag).idxOf f < mv.length) :
    ∃ m, mv[(mv.map Chunk.frag).idxOf f]? = some m ∧ Chunk.frag m = f := by
  have h' : (mv.map Chunk.frag).idxOf f < (mv.map Chunk.frag).length := by simpa using h
  have hget := List.getElem_idxOf h'
  rw [List.getElem_map] at hget
  exact ⟨_, List.getElem?_eq_getElem h, hget⟩

theorem idxOf_of_get (mv : List Chunk) (hnd : (mv.map Chunk.frag).Nodup) (j : Nat) (m : Chunk) (h : mv[j]? = some m) :
    (mv.map Chunk.frag).idxOf (Chunk.frag m) = j := by
  obtain ⟨hj, rfl⟩ := List.getElem?_eq_some_iff.1 h
  have := hnd.idxOf_getElem j (by simpa using hj)
  rwa [List.getElem_map] at this

/-- the first fragment of the `k`-th message of a stream, if it was moved at position `J0`, was moved after all the
fragments of the stream's earlier messages: `base k = J0` -/
theorem DCtx.first {P : Params} {acc : List Write} {mv : List Chunk} (h : DCtx P acc mv) (ws1 ws2 : List Write) (a : Write)
    (hacc : acc = ws1 ++ a :: ws2)
    (hJ : (mv.map Chunk.frag).idxOf (fragOf false a (cntOf ws1 a.si) 0 (nfr P a)) < mv.length) :
    posOf P acc a.si (cntOf ws1 a.si) ≤ (mv.map Chunk.frag).idxOf (fragOf false a (cntOf ws1 a.si) 0 (nfr P a)) ∧
    (senderD P acc mv a.si).base (cntOf ws1 a.si) = (mv.map Chunk.frag).idxOf (fragOf false a (cntOf ws1 a.si) 0 (nfr P a)) := by
  obtain ⟨b, hb, hbf⟩ := idxOf_get _ mv hJ
  have hidx : idxOfFrag P acc mv a.si (cntOf ws1 a.si) 0 = (mv.map Chunk.frag).idxOf (fragOf false a (cntOf ws1 a.si) 0 (nfr P a)) := by
    simp only [idxOfFrag, (filter_split acc ws1 ws2 a hacc).1, h.il, nfr]
  generalize (mv.map Chunk.frag).idxOf (fragOf false a (cntOf ws1 a.si) 0 (nfr P a)) = J0 at hJ hb hidx ⊢
  have g1 : b.si = a.si := congrArg Frag.si hbf
  have g2 : b.msg = a.msg := congrArg Frag.msg hbf
  have hf := h.fifo _ _ hb (congrArg Frag.bfrag hbf)
  rw [g1, g2, earlier_eq_pos P acc ws1 ws2 a h.sorted hacc] at hf
  refine ⟨hf, ?_⟩
  simp only [Reasm.Sender.base, senderD, skipOf, hidx]
  have hp : ((List.take (cntOf ws1 a.si) (msgsOf P acc a.si)).map Reasm.Msg.nf).sum = posOf P acc a.si (cntOf ws1 a.si) := rfl
  rw [hp]
  omega

/-- **A wire chunk decoded is the universe's DATA fragment**, at TSN offset `base k + i` = its position among the moves. -/
theorem toWire_data (P : Params) (acc ws1 ws2 : List Write) (a : Write) (mv : List Chunk) (h : DCtx P acc mv)
    (hacc : acc = ws1 ++ a :: ws2) (e : Chunk) (i : Nat) (hi : i < nfr P a)
    (hf : Chunk.frag e = fragOf false a (cntOf ws1 a.si) i (nfr P a))
    (hlen : (fragSizes P.cfg.maxPayload.toNat (P.pay a.msg).length)[i]? = some e.len)
    (hidx : (mv.map Chunk.frag).idxOf (Chunk.frag e) < mv.length)
    (htsn : e.tsn = P.tsn + BitVec.ofNat 32 ((mv.map Chunk.frag).idxOf (Chunk.frag e))) :
    cntOf ws1 a.si < (senderD P acc mv a.si).msgs.length ∧ i < (senderD P acc mv a.si).nf (cntOf ws1 a.si) ∧
    toWire P e = (senderD P acc mv a.si).dataFrag (cntOf ws1 a.si) i ∧
    (senderD P acc mv a.si).base (cntOf ws1 a.si) + i = (mv.map Chunk.frag).idxOf (Chunk.frag e) := by
  have ha : a ∈ acc := by rw [hacc]; simp
  have hi32 : i < 2^32 := by have := h.small a ha; omega
  obtain ⟨hget, hk⟩ := filter_split acc ws1 ws2 a hacc
  have hmsg : (senderD P acc mv a.si).msg (cntOf ws1 a.si) = { ppi := a.ppi, frags := cut P.cfg.maxPayload.toNat (P.pay a.msg) } :=
    senderI_msg P acc a.si _ a hget
  have hnf : (senderD P acc mv a.si).nf (cntOf ws1 a.si) = nfr P a := by
    simp only [Reasm.Sender.nf, hmsg, Reasm.Msg.nf, cut_length, nfr]
  -- the chunk at position J, its first fragment at J - i
  obtain ⟨m, hmJ, hmf⟩ := idxOf_get _ mv hidx
  generalize (mv.map Chunk.frag).idxOf (Chunk.frag e) = J at hidx htsn hmJ ⊢
  simp only [Chunk.frag, fragOf, Prod.mk.injEq] at hf
  obtain ⟨f1, f2, f3, f4, f5, f6, f7, f8, f9⟩ := hf
  have hfsnJ : m.fsn.toNat = i := by
    rw [show m.fsn = e.fsn from congrArg Frag.fsn hmf, f9, BitVec.toNat_ofNat, Nat.mod_eq_of_lt hi32]
  have hmsgJ : m.msg = a.msg := (congrArg Frag.msg hmf).trans f2
  obtain ⟨b1, b, b2, hfb⟩ := h.first_before ws1 ws2 a hacc _ m hmJ hmsgJ
  rw [hfsnJ] at b1 b2
  -- so the first fragment sits at J - i
  have hJ0 : (mv.map Chunk.frag).idxOf (fragOf false a (cntOf ws1 a.si) 0 (nfr P a)) = J - i := by
    rw [← hfb]; exact idxOf_of_get mv h.nd _ b b2
  obtain ⟨_, hbase⟩ := h.first ws1 ws2 a hacc (by rw [hJ0]; omega)
  have hbaseJ : (senderD P acc mv a.si).base (cntOf ws1 a.si) + i = J := by
    rw [hbase, hJ0]; omega
  have hud : ((senderD P acc mv a.si).msg (cntOf ws1 a.si)).frags.getD i [] =
      ((P.pay a.msg).drop (i * P.cfg.maxPayload.toNat)).take e.len := by
    rw [hmsg]
    simp only [List.getD_eq_getElem?_getD, cut_get _ _ _ _ hlen, Option.getD_some]
  have hfsn : e.fsn.toNat = i := by
    rw [f9, BitVec.toNat_ofNat]; exact Nat.mod_eq_of_lt hi32
  refine ⟨by simp only [senderD]; rw [msgsOf_length]; exact hk, by rw [hnf]; exact hi, ?_, hbaseJ⟩
  simp only [toWire, Reasm.Sender.dataFrag, h.il, Bool.false_eq_true, if_false, Bool.false_and, hbaseJ, hnf, hud,
    Reasm.Chunk.mk.injEq]
  refine ⟨htsn, f1, f7, trivial, trivial, f4, f5, f6, trivial, ?_, ?_⟩
  · rw [hmsg, f3]
  · rw [f2, hfsn]

end NetSys
