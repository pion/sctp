import SctpVerif.Proofs.NetSys.LiveGlue
/-!
`Honest ⇒ InSync` (`Props/C02net.lean`): along every NetSys run whose sender only processed SOUND SACKs (`soundSack`: the
cumulative TSN is not ahead of the receiver's cumulative point, every gap-acked TSN is at or below it or held), the sender's
cumulative ack point is not ahead of the receiver's cumulative point and every gap-acked in-flight chunk has really been
received (`HL`). `HL` is a predicate of the state, kept by every honest step from a linked state (`HL.step`, `HL.run`).
Receiver side: "accepted stays accepted" (`Got` is kept by every queue operation); sender side: only a processed SACK raises
`acked` flags, and only on chunks named by its blocks (`LiveAcked.lean`).
-/
namespace NetSysLive
open Gen NetSys RecvQ

/-- TSN `t` has been accepted by the receive queue: at or below the cumulative point, or held above it (offsets counted
from `t0`) -/
def Got (t0 : RecvQ.TSN) (q : Q) (t : RecvQ.TSN) : Prop :=
  (t - (t0 - 1)).toNat ≤ idx t0 q ∨ heldAt q ((t - (t0 - 1)).toNat - idx t0 q)

theorem Got.dups {t0 : RecvQ.TSN} {q : Q} {t : RecvQ.TSN} (h : Got t0 q t) (l : List RecvQ.TSN) : Got t0 { q with dups := l } t := h

theorem push_got {t0 : RecvQ.TSN} {M : Nat} {q : Q} (hq : QB t0 M q) (t' t : RecvQ.TSN) (h : Got t0 q t) : Got t0 (push q t').1 t := by
  cases hr : (push q t').2 with
  | false =>
    rcases push_reject t' hr with e | e
    · rw [e]; exact h
    · rw [e]; exact h.dups _
  | true =>
    have hi : idx t0 (push q t').1 = idx t0 q := by unfold idx; rw [push_cum]
    unfold Got at h ⊢
    rw [hi]
    rcases h with h | h
    · exact Or.inl h
    · exact Or.inr ((push_heldAt hq.inv t' hr _).mpr (Or.inl h))

theorem popLoopS_got {t0 : RecvQ.TSN} {M : Nat} (hM : M < 2^31) (t : RecvQ.TSN) (n : Nat) : ∀ (s : RecvQ.St), QB t0 M s.q →
    Got t0 s.q t → Got t0 (popLoopS n s).q t := by
  induction n with
  | zero => intro s _ h; exact h
  | succ n ih =>
    intro s hq h
    simp only [popLoopS]
    split
    · rename_i hok
      rw [pop_ok] at hok
      obtain ⟨hq', hh, hi, hb⟩ := sPop_qb hM hq hok
      rw [← hq'] at hb
      apply ih (sPop s false) hb
      rw [hq']
      unfold Got at h ⊢
      rw [hi]
      rcases h with h | h
      · left; omega
      · have hd1 := h.1
        by_cases hd : (t - (t0 - 1)).toNat - idx t0 s.q = 1
        · left; omega
        · right
          have e : (t - (t0 - 1)).toNat - (idx t0 s.q + 1) + 1 = (t - (t0 - 1)).toNat - idx t0 s.q := by omega
          apply (popped_heldAt hq.inv hh _ (by omega)).mpr
          rw [e]; exact h
    · exact h

theorem qrun_got {t0 : RecvQ.TSN} {M : Nat} (hM : M < 2^31) (t : RecvQ.TSN) (ops : List RecvQ.Op) : ∀ {q : Q}, QB t0 M q →
    OpsBelow t0 M ops → Got t0 q t → Got t0 (Receiver.qrun q ops) t := by
  induction ops with
  | nil => intro q _ _ h; exact h
  | cons op ops ih =>
    intro q hq ho h
    have e : op :: ops = [op] ++ ops := rfl
    rw [e, Receiver.qrun_append]
    have hq1 : QB t0 M (Receiver.qrun q [op]) := (qrun_qb hM [op] hq (fun o hoo => ho o (by simpa using Or.inl (List.mem_singleton.mp hoo)))).1
    apply ih hq1 (fun o hoo => ho o (List.mem_cons_of_mem _ hoo))
    rcases ho op (by simp) with ⟨t', st, rfl, hb⟩ | ⟨t', rfl, hb⟩ | rfl
    · rw [Receiver.qrun_data]
      unfold Receiver.popAllQ popAllS
      split
      · exact popLoopS_got hM t _ _ (push_qb hq hM t' hb) (push_got hq t' t h)
      · exact popLoopS_got hM t _ _ hq h
    · rw [Receiver.qrun_push]; exact push_got hq t' t h
    · rw [Receiver.qrun_single q ⟨0, 0, fun _ => False, fun _ => False⟩]; exact h.dups _

/-- ✱ accepted stays accepted: a NetSys step keeps `Got` -/
theorem Link.step_got {P : Params} {W mv : List Sender.Chunk} {s : NetSys.St} (l : Link P W mv s) (op : NetSys.Op) {M : Nat}
    (hM : M < 2^31) (hle : mv.length ≤ M) (hq : QB P.tsn M s.rcv.pq) (t : RecvQ.TSN) (h : Got P.tsn s.rcv.pq t) :
    Got P.tsn (step P s op).rcv.pq t := by
  refine step_rcv_cases P _ op (fun r => Got P.tsn r.pq t) h fun o hpk => ?_
  rw [Receiver.step_pq]
  refine qrun_got hM t _ hq (opTrace_below _ o fun cs hcs ch hch => ?_) h
  obtain ⟨c, hc, imm, rfl⟩ := hpk cs hcs ch hch
  exact ⟨toWire P c, imm, rfl, (l.wire c hc).mono hle⟩

theorem step_rcv_got (P : Params) (ops : List NetSys.Op) (op : NetSys.Op) (M : Nat) (hM : M < 2^31) (hle : tsnsUsed P ops ≤ M)
    (hq : QB P.tsn M (run P (init P) ops).rcv.pq) (t : RecvQ.TSN) (h : Got P.tsn (run P (init P) ops).rcv.pq t) :
    Got P.tsn (step P (run P (init P) ops) op).rcv.pq t :=
  (link_reach P ops).step_got op hM hle hq t h

open Sender SenderProofs in
/-- the acked chunks after the two loops of `processSelectiveAck`: acked before, or named by a gap block -/
theorem ackPhase_acked {s : Sender.St} {cum : BitVec 32} {gaps : List (BitVec 16 × BitVec 16)} {r : Sender.St × BitVec 32 × Bool}
    (hseq : Seq s) (h : ackPhase s cum gaps = some r) :
    ∀ c' ∈ r.1.inflight, c'.acked = true → (∃ c ∈ s.inflight, c.tsn = c'.tsn ∧ c.acked = true) ∨
      ∃ g ∈ gaps, ∃ j, g.1.toNat ≤ j ∧ j ≤ g.2.toNat ∧ c'.tsn = cum + BitVec.ofNat 32 j := by
  obtain ⟨q, a, g, hp, hg, rfl⟩ := ackPhase_eq h
  obtain ⟨k, _, hq⟩ := popCum_drop _ _ _ _ _ hp
  have hc : Contig q (s.cumAck + 1 + BitVec.ofNat 32 k) := by rw [hq]; exact contig_drop _ _ k hseq.1
  intro c' hc' ha
  rw [ackApply_inflight] at hc'
  rcases markGaps_acked _ cum gaps _ hc hg c' hc' ha with ⟨c, hcm, e, ac⟩ | hgap
  · left
    simp only at hcm
    rw [hq] at hcm
    exact ⟨c, List.mem_of_mem_drop hcm, e, ac⟩
  · exact Or.inr hgap

open Sender SenderProofs in
/-- a sender operation other than a SACK keeps the cumulative ack point and raises no `acked` flag -/
theorem step_nosack (s : Sender.St) (o : Sender.Op) (hno : ∀ a b c d, o ≠ .sack a b c d)
    (hp : ∀ c ∈ s.pending, c.acked = false) :
    (Sender.step s o).cumAck = s.cumAck ∧ AckedFrom s.inflight (Sender.step s o).inflight := by
  refine ⟨SenderPR.step_cumAck s o hno, ?_⟩
  cases o with
  | unreg si =>
    simp only [Sender.step, unregister]
    split <;> exact AckedFrom.refl _
  | write si ppi len =>
    obtain ⟨_, _, _, _, _, _, e⟩ := write_only s si ppi len
    rw [Sender.step, e]
    exact AckedFrom.refl _
  | gather orc sel => exact gather_ackedFrom s orc sel hp
  | sack a b c d => exact absurd rfl (hno a b c d)
  | t3 => exact AckedFrom.of_fl (t3_fl s)
  | tick ms n marks => exact AckedFrom.of_fl (tick_fl s ms n marks)
  | _ => exact AckedFrom.refl _

/-! ### the invariant of honest runs -/

/-- the sender's cumulative ack point is not ahead of the receiver's cumulative point, and every gap-acked in-flight chunk
has been accepted by the receiver -/
structure HL (P : Params) (s : NetSys.St) : Prop where
  le : (s.snd.cumAck - (P.tsn - 1)).toNat ≤ idx P.tsn s.rcv.pq
  acked : ∀ c ∈ s.snd.inflight, c.acked = true → Got P.tsn s.rcv.pq c.tsn

theorem honest_snoc (P : Params) (o1 : List NetSys.Op) (op : NetSys.Op) : ∀ s,
    Honest P s (o1 ++ [op]) = (Honest P s o1 && HonestOp (NetSys.run P s o1) op) := by
  induction o1 with
  | nil => intro s; simp [Honest, NetSys.run]
  | cons o o1 ih => intro s; simp only [List.cons_append, Honest, NetSys.run, ih, Bool.and_assoc]

theorem soundSack_iff (q : Q) (cum : BitVec 32) (gaps : List (BitVec 16 × BitVec 16)) (h : soundSack q cum gaps = true) :
    sna32LTE cum q.cum = true ∧ ∀ g ∈ gaps, ∀ j, g.1.toNat ≤ j → j ≤ g.2.toNat →
      (sna32LTE (cum + BitVec.ofNat 32 j) q.cum = true ∨ hasChunk q (cum + BitVec.ofNat 32 j) = true) := by
  simp only [soundSack, Bool.and_eq_true, List.all_eq_true, Bool.or_eq_true] at h
  refine ⟨h.1, ?_⟩
  intro g hg j j1 j2
  exact h.2 g hg j (List.mem_range'_1.mpr ⟨j1, by omega⟩)

/-- what `HL.step` needs of the sender -/
structure SndOk (s : Sender.St) : Prop where
  seq : SenderProofs.Seq s
  core : SenderProofs.Core s
  cfg : SenderProofs.CfgOk s.cfg

theorem SndOk.step {s : Sender.St} (h : SndOk s) (o : Sender.Op) : SndOk (Sender.step s o) :=
  ⟨SenderProofs.step_seq s o h.seq h.cfg, SenderProofs.step_core s o h.core h.cfg, by
    rw [SenderTsn.step_cfg_all]; exact h.cfg⟩

theorem SndOk.of_live {s : Sender.St} (h : SenderProofs.Live s) : SndOk s := ⟨h.seq, h.core, h.win.cfgOk⟩

theorem sndOk_reach (P : Params) (ops : List NetSys.Op) (hc : SenderProofs.CfgOk P.cfg) : SndOk (run P (init P) ops).snd := by
  have hw := SenderProofs.init_win P.cfg P.tsn P.peerRwnd hc
  rw [snd_run]
  exact ⟨SenderProofs.run_seq _ _ (SenderProofs.init_seq _ _ _) hw,
    SenderProofs.run_core _ _ (SenderProofs.init_books _ _ _).core hw, (SenderProofs.run_win _ _ hw).1.cfgOk⟩

open Sender SenderProofs in
/-- a processed SOUND SACK keeps `HL` (the receiver does not move) -/
theorem HL.sack {P : Params} {W mv : List Sender.Chunk} {σ : NetSys.St} (h : HL P σ) (l : Link P W mv σ) (hσ : SndOk σ.snd)
    (hN : mv.length < 2^31) (hsm : σ.snd.inflight.length < 2^31)
    (cum arwnd : BitVec 32) (gaps : List (BitVec 16 × BitVec 16)) (marks : List (BitVec 32))
    (hs : soundSack σ.rcv.pq cum gaps = true) :
    (((sack σ.snd cum arwnd gaps marks).1.cumAck - (P.tsn - 1)).toNat ≤ idx P.tsn σ.rcv.pq) ∧
    ∀ c ∈ (sack σ.snd cum arwnd gaps marks).1.inflight, c.acked = true → Got P.tsn σ.rcv.pq c.tsn := by
  have hseq := hσ.seq
  have hc := hσ.cfg
  have hqb := l.qb hN
  have hidx := l.idx hseq hN hsm
  obtain ⟨hlte, hgaps⟩ := soundSack_iff _ _ _ hs
  obtain ⟨hle0, hack0⟩ := h
  generalize σ.snd = x at *
  generalize σ.rcv.pq = q at *
  generalize mv.length = M at *
  rcases sack_cases x cum arwnd gaps marks hseq hsm with ⟨_, _, he, _⟩ | ⟨hok, hest, hst, hv, r, hr, hrs, hcumr, hfin⟩
  · rw [he]; exact ⟨hle0, hack0⟩
  · have hrcfg : r.1.cfg = x.cfg := (ackPhase_win hr).1
    have hm' : (setPeerWindow r.1 arwnd).cfg.mtu.toNat < 2^30 := by
      show r.1.cfg.mtu.toNat < 2^30; rw [hrcfg]; exact hc
    have f1 := fastRetransCheck_sameAcct (setPeerWindow r.1 arwnd) cum gaps r.2.1 r.2.2
    have p1 := (prStep_frame (fastRetransCheck (setPeerWindow r.1 arwnd) cum gaps r.2.1 r.2.2).1).1
    have m1 := (applyMarks_frame (prStep (fastRetransCheck (setPeerWindow r.1 arwnd) cum gaps r.2.1 r.2.2).1) marks).1
    have hsame := SameAcct.trans f1 (SameAcct.trans p1 m1)
    rw [← hfin] at hsame
    have hcore : (Sender.sack x cum arwnd gaps marks).1.inflight.map Chunk.core = r.1.inflight.map Chunk.core :=
      hsame.core
    obtain ⟨_, k, hk, hcumk, _, hca, _⟩ := sack_ok_shape x cum arwnd gaps marks hseq hsm hc hest hst hv
    have hA : (q.cum - (P.tsn - 1)).toNat ≤ M := hqb.cumle
    have hoc : (cum - (P.tsn - 1)).toNat = (x.cumAck - (P.tsn - 1)).toNat + k := by
      rw [hcumk]; exact Sna.off_add_ofNat _ _ _ (by omega)
    constructor
    · rw [hca]; exact (Sna.lte32_iff_off (P.tsn - 1) cum q.cum (by omega) (by omega)).mp hlte
    · intro c' hc' ha
      obtain ⟨c, hcm, et, ac⟩ := AckedFrom.of_core hcore c' hc' ha
      rcases ackPhase_acked hseq hr c hcm ac with ⟨c0, h0, e0, a0⟩ | ⟨g, hg, j, j1, j2, ej⟩
      · have := hack0 c0 h0 a0
        rw [e0, et] at this; exact this
      · -- the chunk is one of the sender's in-flight chunks: its TSN is among the TSNs assigned
        obtain ⟨_, hq⟩ := sack_qev x cum arwnd gaps marks
        obtain ⟨c1, hc1, ev⟩ := hq.mem hc'
        obtain ⟨i, hi, hci⟩ := List.mem_iff_getElem.mp hc1
        have htsn1 := contig_getElem hseq.1 (show x.inflight[i]? = some c1 by rw [List.getElem?_eq_getElem hi, hci])
        rw [← ev.tsn] at htsn1
        have hd : (c'.tsn - x.cumAck).toNat = i + 1 := by rw [htsn1]; exact Sna.off_succ_add_ofNat _ _ (by omega)
        have hkt := Sna.off_trans (P.tsn - 1) x.cumAck c'.tsn (by omega)
        rw [et] at ej
        unfold Got idx
        rcases hgaps g hg j j1 j2 with hl | hh
        · rw [← ej] at hl
          exact Or.inl ((Sna.lte32_iff_off (P.tsn - 1) _ _ (by omega) (by omega)).mp hl)
        · rw [← ej] at hh
          have hheld := (held_iff_heldAt _).mp ((hasChunk_iff hqb.inv _).mp hh)
          have hb : (q.cum - (P.tsn - 1)).toNat + (c'.tsn - q.cum).toNat ≤ M := hqb.held _ hheld
          rw [Sna.off_trans (P.tsn - 1) q.cum c'.tsn (by omega), Nat.add_sub_cancel_left]
          exact Or.inr hheld

open Sender SenderProofs in
theorem sack_hl (P : Params) (ops : List NetSys.Op) (hc : CfgOk P.cfg) (hN : tsnsUsed P ops < 2^31)
    (hsm : (NetSys.run P (init P) ops).snd.inflight.length < 2^31)
    (cum arwnd : BitVec 32) (gaps : List (BitVec 16 × BitVec 16)) (marks : List (BitVec 32))
    (hs : soundSack (NetSys.run P (init P) ops).rcv.pq cum gaps = true) (h : HL P (NetSys.run P (init P) ops)) :
    (((sack (NetSys.run P (init P) ops).snd cum arwnd gaps marks).1.cumAck - (P.tsn - 1)).toNat ≤ idx P.tsn (NetSys.run P (init P) ops).rcv.pq) ∧
    ∀ c ∈ (sack (NetSys.run P (init P) ops).snd cum arwnd gaps marks).1.inflight, c.acked = true →
      Got P.tsn (NetSys.run P (init P) ops).rcv.pq c.tsn :=
  h.sack (link_reach P ops) (sndOk_reach P ops hc) hN hsm cum arwnd gaps marks hs

/-- ✱ one honest step from a linked state keeps `HL` -/
theorem HL.step {P : Params} {W mv : List Sender.Chunk} {s : NetSys.St} (h : HL P s) (l : Link P W mv s) (hs : SndOk s.snd)
    (hN : mv.length < 2^31) (hsm : s.snd.inflight.length < 2^31) (op : NetSys.Op) (hop : HonestOp s op = true) :
    HL P (NetSys.step P s op) := by
  cases hso : sndOp P s.snd op with
  | none =>
    obtain ⟨e1, _⟩ := step_snd_none P _ op hso
    refine ⟨?_, ?_⟩
    · rw [e1]; exact Nat.le_trans h.le ((l.stepNone op hso).2 hN)
    · rw [e1]; intro c hcm ha
      exact l.step_got op hN (Nat.le_refl _) (l.qb hN) c.tsn (h.acked c hcm ha)
  | some o =>
    rw [step_snd_some P _ op o hso]
    by_cases hsk : ∃ a b c d, o = Sender.Op.sack a b c d
    · obtain ⟨a, b, c, d, rfl⟩ := hsk
      have hopeq := sndOp_sack hso
      subst hopeq
      obtain ⟨r1, r2⟩ := h.sack l hs hN hsm a b c d hop
      exact ⟨r1, r2⟩
    · obtain ⟨r1, r2⟩ := step_nosack s.snd o (fun a b c d e => hsk ⟨a, b, c, d, e⟩) (fun c hcm => (hs.core.penSmall c hcm).2)
      refine ⟨?_, ?_⟩
      · show ((Sender.step _ o).cumAck - _).toNat ≤ _
        rw [r1]; exact h.le
      · intro c' hc' ha
        obtain ⟨c, hcm, et, ac⟩ := r2 c' hc' ha
        have := h.acked c hcm ac
        rw [et] at this; exact this

open Sender SenderProofs in
/-- one step of an honest run keeps `HL` -/
theorem step_hl (P : Params) (o1 : List NetSys.Op) (op : NetSys.Op) (hc : CfgOk P.cfg) (hN : tsnsUsed P (o1 ++ [op]) < 2^31)
    (hsm : (NetSys.run P (init P) o1).snd.inflight.length < 2^31)
    (hop : HonestOp (NetSys.run P (init P) o1) op = true) (h : HL P (NetSys.run P (init P) o1)) :
    HL P (NetSys.run P (init P) (o1 ++ [op])) := by
  rw [NetSys.run_append]
  exact h.step (link_reach P o1) (sndOk_reach P o1 hc) (Nat.lt_of_le_of_lt (tsnsUsed_mono P o1 [op]) hN) hsm op hop

/-- ✱ `HL` and a pop-normalised receive queue give `InSync` -/
theorem HL.insync {P : Params} {W mv : List Sender.Chunk} {s : NetSys.St} (h : HL P s) (l : Link P W mv s)
    (hseq : SenderProofs.Seq s.snd) (hN : mv.length < 2^31) (hnorm : hasChunk s.rcv.pq (s.rcv.pq.cum + 1) = false) :
    InSync s = true := by
  have hqb := l.qb hN
  have hA := hqb.cumle
  simp only [InSync, Bool.and_eq_true, Bool.not_eq_true', Bool.or_eq_true, bne_iff_ne, ne_eq]
  refine ⟨Sna.gt32_false_of_off (P.tsn - 1) _ _ h.le (Nat.lt_of_le_of_lt hA hN), ?_⟩
  by_cases heq : s.snd.cumAck = s.rcv.pq.cum
  · right
    cases hq : s.snd.inflight with
    | nil => rfl
    | cons f rest =>
      simp only [List.head?_cons]
      cases hac : f.acked with
      | false => rfl
      | true =>
        exfalso
        have hf : f.tsn = s.snd.cumAck + 1 := by
          have := hseq.1; rw [hq] at this; exact this.1
        have hg := h.acked f (by rw [hq]; simp) hac
        have hn1 : ¬ heldAt s.rcv.pq 1 := (normalised_iff hqb.inv).mp hnorm
        unfold Got idx at hg
        unfold idx at hA
        rw [hf, heq] at hg
        rw [Sna.off_succ _ _ (by omega)] at hg
        rcases hg with hg | hg
        · omega
        · have e2 : (s.rcv.pq.cum - (P.tsn - 1)).toNat + 1 - (s.rcv.pq.cum - (P.tsn - 1)).toNat = 1 := by omega
          rw [e2] at hg
          exact hn1 hg
  · exact Or.inl heq

open Sender SenderProofs in
theorem insync_of_hl (P : Params) (ops : List NetSys.Op) (hc : CfgOk P.cfg) (hN : tsnsUsed P ops < 2^31)
    (h : HL P (NetSys.run P (init P) ops))
    (hnorm : hasChunk (NetSys.run P (init P) ops).rcv.pq ((NetSys.run P (init P) ops).rcv.pq.cum + 1) = false) :
    InSync (NetSys.run P (init P) ops) = true :=
  h.insync (link_reach P ops) (snd_seq P ops hc) hN hnorm

end NetSysLive

/-!
Honest runs stay honest along the healed rounds (`Props/C02net.lean`, `C02_netsys_drains_honest`): every operation of a
healed round is trivially honest except its last one, and that one carries the receiver's truthful SACK, which is sound
(`truthful_sound`); so a healed round keeps `HL` (`HL.healed`) and `InSync` follows at the start of every round whose
receive queue is pop-normalised (`Round.roundOkN`).
-/
namespace NetSysLive
open Gen NetSys

/-- the SACK `createSelectiveAckChunk` builds tells the truth about the receive queue it is built from -/
theorem truthful_sound (q : RecvQ.Q) (I : RecvQ.Inv q) (hmo : q.maxOff.toNat < 2^16) : soundSack q q.cum (RecvQ.gaps q) = true := by
  obtain ⟨g1, _, _, _⟩ := RecvQ.gaps_spec I hmo
  simp only [soundSack, Bool.and_eq_true, List.all_eq_true, Bool.or_eq_true]
  refine ⟨by simp [sna32LTE], ?_⟩
  intro g hg j hj
  obtain ⟨b1, b2, b3, b4⟩ := g1 g hg
  have hj' := List.mem_range'_1.mp hj
  have hh := b4 j hj'.1 (by omega)
  right
  exact (RecvQ.hasChunk_iff I _).mpr ((RecvQ.heldAt_iff I j).mp hh).2

theorem honest_of_plain (P : Params) (l : List Op) (h : ∀ op ∈ l, ∀ s, HonestOp s op = true) : ∀ s, Honest P s l = true := by
  induction l with
  | nil => intro s; rfl
  | cons op l ih =>
    intro s
    simp only [Honest, Bool.and_eq_true]
    exact ⟨h op (by simp) s, ih (fun o ho => h o (List.mem_cons_of_mem _ ho)) _⟩

theorem honest_roundOps (P : Params) (s0 s : St) : Honest P s (roundOps P s0) = true :=
  honest_of_plain P _ (fun op hop => (roundOps_plain P s0 op hop).2.2) s

/-- the healed round is an honest continuation from every linked state -/
theorem Link.honest_healedRound {P : Params} {W mv : List Sender.Chunk} {s : St} (l : Link P W mv s) :
    Honest P s (healedRound P s) = true := by
  unfold healedRound
  rw [honest_snoc, Bool.and_eq_true]
  refine ⟨honest_roundOps P _ _, ?_⟩
  have lx := (l.run_quiet (roundOps P s) (roundOps_noWrite P s)).1
  exact truthful_sound _ lx.qinv.1 lx.maxOff.2

theorem honest_healedRound (P : Params) (ops : List Op) :
    Honest P (run P (init P) ops) (healedRound P (run P (init P) ops)) = true :=
  (link_reach P ops).honest_healedRound

/-- ✱ `HL` along an honest continuation from a linked state -/
theorem HL.run {P : Params} (ops : List Op) : ∀ {W mv : List Sender.Chunk} {s : St}, HL P s → Link P W mv s → SndOk s.snd →
    (mv ++ SenderTsn.moved s.snd (sndOps P s.snd ops)).length < 2^31 → SenderProofs.TsnOk s.snd (sndOps P s.snd ops) →
    Honest P s ops = true → HL P (NetSys.run P s ops) := by
  induction ops with
  | nil => intro W mv s h _ _ _ _ _; exact h
  | cons op ops ih =>
    intro W mv s h l hs hN hts hh
    simp only [Honest, Bool.and_eq_true] at hh
    simp only [sndOps] at hN hts
    have hN1 : mv.length < 2^31 := by rw [List.length_append] at hN; omega
    cases hso : sndOp P s.snd op with
    | some o =>
      simp only [hso, SenderTsn.moved, SenderProofs.TsnOk, ← List.append_assoc] at hN hts
      have h1 := h.step l hs hN1 hts.1 op hh.1
      have hh2 := hh.2
      simp only [NetSys.run]
      rw [step_snd_some P s op o hso] at h1 hh2 ⊢
      exact ih h1 (l.sndStep o) (hs.step o) hN hts.2 hh2
    | none =>
      simp only [hso] at hN hts
      have h1 := h.step l hs hN1 hts.head op hh.1
      have l1 := (l.stepNone op hso).1
      have e1 := (step_snd_none P s op hso).1
      exact ih h1 l1 (by rw [e1]; exact hs) (by rw [e1]; exact hN) (by rw [e1]; exact hts) hh.2

/-- `HL` along an honest continuation -/
theorem hl_ext (P : Params) (ops : List Op) (hc : SenderProofs.CfgOk P.cfg) (l : List Op)
    (hN : tsnsUsed P (ops ++ l) < 2^31)
    (hts : SenderProofs.TsnOk (run P (init P) ops).snd (sndOps P (run P (init P) ops).snd l))
    (hh : Honest P (run P (init P) ops) l = true) (h : HL P (run P (init P) ops)) :
    HL P (run P (init P) (ops ++ l)) := by
  rw [NetSys.run_append]
  exact h.run l (link_reach P ops) (sndOk_reach P ops hc) (by rw [← tsnsUsed_append]; exact hN) hts hh

open Sender SenderProofs in
/-- ✱ **honest runs keep the two endpoints in step** -/
theorem run_hl (P : Params) (ops : List NetSys.Op) (hc : CfgOk P.cfg) (hN : tsnsUsed P ops < 2^31)
    (hts : TsnOk (Sender.init P.cfg P.tsn P.peerRwnd) (sndOps P (init P).snd ops))
    (hh : Honest P (init P) ops = true) : HL P (NetSys.run P (init P) ops) := by
  have h0 : HL P (NetSys.run P (init P) []) :=
    ⟨by show ((Sender.init P.cfg P.tsn P.peerRwnd).cumAck - (P.tsn - 1)).toNat ≤ _; simp [Sender.init],
     fun c hcm => by cases (show c ∈ (Sender.init P.cfg P.tsn P.peerRwnd).inflight from hcm)⟩
  exact hl_ext P [] hc ops hN hts hh h0

open Sender SenderProofs in
/-- fewer than 2^31 chunks in flight at every sender state of a healed round -/
theorem tsnOk_healedRound (P : Params) (s : NetSys.St) (hl : Live s.snd) :
    TsnOk s.snd (sndOps P s.snd (healedRound P s)) := by
  unfold healedRound
  rw [sndOps_append, sndOps_roundOps, run_sndPart]
  have hx := (live_sndPre hl).1
  have h3 : ∀ a b c d, TsnOk (sndPre s.snd) [.sack a b c d] := fun a b c d =>
    ⟨by have := hx.small; omega, by
      show (Sender.sack _ _ _ _ _).1.inflight.length < 2^31
      have := (live_sack hx a b c d).small
      omega⟩
  have h12 : TsnOk s.snd (sndPart s.snd) := by
    unfold sndPart
    by_cases he : s.snd.inflight.isEmpty = true
    · simp only [he, if_true, List.nil_append]
      refine ⟨by have := hl.small; omega, ?_⟩
      show (Sender.gather _ _ _).1.inflight.length < 2^31
      have := (live_gather hl Sender.freeOracle (fifoSel s.snd)).small
      omega
    · simp only [he, Bool.false_eq_true, if_false, List.singleton_append]
      refine ⟨by have := hl.small; omega, by show (Sender.t3 _).inflight.length < 2^31; have := (live_t3 hl).small; omega, ?_⟩
      show (Sender.gather (Sender.t3 s.snd) _ _).1.inflight.length < 2^31
      have := (live_gather (live_t3 hl) Sender.freeOracle (fifoSel (Sender.t3 s.snd))).small
      omega
  exact TsnOk.append h12 (by rw [run_sndPart]; exact h3 _ _ _ _)

/-- ✱ a healed round keeps `HL` -/
theorem HL.healed {P : Params} {W mv : List Sender.Chunk} {s : St} (h : HL P s) (r : Round P W mv s) : HL P (healed P s) :=
  h.run (healedRound P s) r.link (SndOk.of_live r.live)
    ((r.link.run_quiet _ (healedRound_noWrite P s)).1.mvSmall r.small) (tsnOk_healedRound P s r.live) r.link.honest_healedRound

theorem hl_healed (P : Params) (ops : List Op) (hc : SenderProofs.CfgOk P.cfg) (hN : chunksWritten P ops < 2^31)
    (hl : SenderProofs.Live (run P (init P) ops).snd) (h : HL P (run P (init P) ops)) :
    HL P (run P (init P) (ops ++ healedRound P (run P (init P) ops))) := by
  rw [← healed_run]
  exact h.healed (round_reach P ops hN hl)

/-- ✱ along the healed rounds from a state with `HL`, `RoundOkHN` gives `RoundOkN` -/
theorem Round.roundOkN {P : Params} {W mv : List Sender.Chunk} {s : St} (r : Round P W mv s) (h : HL P s) (n : Nat)
    (hok : alongN P (RoundOkH P) n s = true) : alongN P (RoundOk P) n s = true := by
  refine alongN_imp P (fun _ s => ∃ mv, Round P W mv s ∧ HL P s) _ _ ?_ ?_ n s ⟨mv, r, h⟩ hok
  · rintro _ s ⟨mv, r, h⟩
    obtain ⟨mv', r'⟩ := r.progress.1
    exact ⟨mv', r', h.healed r⟩
  · rintro _ s ⟨mv, r, h⟩ _ hr
    simp only [RoundOkH, Bool.and_eq_true, beq_iff_eq, Normal, Bool.not_eq_true'] at hr
    simp only [RoundOk, Bool.and_eq_true, beq_iff_eq]
    exact ⟨⟨hr.1.1, h.insync r.link r.live.seq (r.link.mvSmall r.small) hr.1.2⟩, hr.2⟩

theorem roundOkN_of_honest (P : Params) (hc : SenderProofs.CfgOk P.cfg) (n : Nat) : ∀ ops, chunksWritten P ops < 2^31 →
    SenderProofs.Live (run P (init P) ops).snd → HL P (run P (init P) ops) →
    RoundOkHN P n (run P (init P) ops) = true → RoundOkN P n (run P (init P) ops) = true :=
  fun ops hN hl h hok => by
    rw [roundOkN_eq]
    exact (round_reach P ops hN hl).roundOkN h n (by rw [← roundOkHN_eq]; exact hok)

end NetSysLive
