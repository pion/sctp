import SctpVerif.Proofs.NetSys.Proj
import SctpVerif.Proofs.NetSys.Cut
import SctpVerif.Proofs.Sender.MsgOrder
/-!
The universe of a NetSys run: one `Reasm.Sender` per stream, its messages = the accepted writes on that stream with
their payloads cut as `packetize` cuts them. I-DATA: fragment `(k, i)` travels with TSN `tsn + ν k i`, `ν k i` = its
position among the chunks moved to in flight (`nuOf`). Every chunk on the wire, decoded by `toWire`, IS the fragment
`idataFrag k i` of the universe for the right `(k, i)` (`toWire_idata`).
-/
namespace NetSys
open SenderProofs SenderTsn Sender

/-! ### a duplicate-free list of stream ids -/

def uniq : List (BitVec 16) → List (BitVec 16)
  | [] => []
  | x :: xs => if x ∈ uniq xs then uniq xs else x :: uniq xs

theorem uniq_mem (l : List (BitVec 16)) (x : BitVec 16) : x ∈ uniq l ↔ x ∈ l := by
  induction l with
  | nil => simp [uniq]
  | cons y ys ih =>
    simp only [uniq]
    split
    · rename_i h
      rw [ih, List.mem_cons]
      constructor
      · exact Or.inr
      · rintro (rfl | h')
        · exact (ih.1 h)
        · exact h'
    · rw [List.mem_cons, List.mem_cons, ih]

theorem uniq_nodup (l : List (BitVec 16)) : (uniq l).Nodup := by
  induction l with
  | nil => exact List.nodup_nil
  | cons y ys ih =>
    simp only [uniq]
    split
    · exact ih
    · rename_i h
      exact List.nodup_cons.2 ⟨h, ih⟩

/-! ### the universe -/

/-- the messages written on stream `si`: PPI and the payload cut into fragments -/
def msgsOf (P : Params) (acc : List Write) (si : BitVec 16) : List Reasm.Msg :=
  (acc.filter (·.si == si)).map fun a => { ppi := a.ppi, frags := cut P.cfg.maxPayload.toNat (P.pay a.msg) }

/-- position, among the moved chunks, of fragment `i` of the `k`-th accepted write on `si` (`mv.length` if it was never moved) -/
def idxOfFrag (P : Params) (acc : List Write) (mv : List Chunk) (si : BitVec 16) (k i : Nat) : Nat :=
  match (acc.filter (·.si == si))[k]? with
  | none => mv.length
  | some a => (mv.map Chunk.frag).idxOf
      (fragOf P.cfg.useInterleaving a k i (fragSizes P.cfg.maxPayload.toNat (P.pay a.msg).length).length)

/-- the TSN offset of fragment `(k, i)` of stream `si` (0 for a fragment that never got a TSN: it is never delivered) -/
def nuOf (P : Params) (acc : List Write) (mv : List Chunk) (si : BitVec 16) (k i : Nat) : Nat :=
  if idxOfFrag P acc mv si k i < mv.length then idxOfFrag P acc mv si k i else 0

def senderI (P : Params) (acc : List Write) (si : BitVec 16) : Reasm.Sender :=
  { si := si, t0 := P.tsn, msgs := msgsOf P acc si }

/-- one sender per stream with accepted writes, and `si0` -/
def sendersI (P : Params) (acc : List Write) (si0 : BitVec 16) : List Reasm.Sender :=
  (uniq (si0 :: acc.map (·.si))).map (senderI P acc)

theorem filter_split (acc ws1 ws2 : List Write) (a : Write) (h : acc = ws1 ++ a :: ws2) :
    (acc.filter (·.si == a.si))[cntOf ws1 a.si]? = some a ∧ cntOf ws1 a.si < cntOf acc a.si := by
  subst h
  simp only [cntOf, List.filter_append, List.length_append]
  have hf : (a :: ws2).filter (·.si == a.si) = a :: ws2.filter (·.si == a.si) := by simp [List.filter_cons]
  rw [hf]
  refine ⟨?_, by simp⟩
  rw [List.getElem?_append_right (Nat.le_refl _)]
  simp

theorem msgsOf_length (P : Params) (acc : List Write) (si : BitVec 16) : (msgsOf P acc si).length = cntOf acc si := by
  simp [msgsOf, cntOf]

theorem senderI_msg (P : Params) (acc : List Write) (si : BitVec 16) (k : Nat) (a : Write)
    (h : (acc.filter (·.si == si))[k]? = some a) :
    (senderI P acc si).msg k = { ppi := a.ppi, frags := cut P.cfg.maxPayload.toNat (P.pay a.msg) } := by
  simp only [Reasm.Sender.msg, senderI, msgsOf, List.getD_eq_getElem?_getD, List.getElem?_map, h, Option.map_some, Option.getD_some]

/-- **A wire chunk decoded is the universe's I-DATA fragment.** -/
theorem toWire_idata (P : Params) (hil : P.cfg.useInterleaving = true) (acc ws1 ws2 : List Write) (a : Write)
    (hacc : acc = ws1 ++ a :: ws2) (mv : List Chunk) (e : Chunk) (i : Nat)
    (hi : i < (fragSizes P.cfg.maxPayload.toNat (P.pay a.msg).length).length) (hi32 : i < 2^32)
    (hf : Chunk.frag e = fragOf P.cfg.useInterleaving a (cntOf ws1 a.si) i (fragSizes P.cfg.maxPayload.toNat (P.pay a.msg).length).length)
    (hlen : (fragSizes P.cfg.maxPayload.toNat (P.pay a.msg).length)[i]? = some e.len)
    (hidx : (mv.map Chunk.frag).idxOf (Chunk.frag e) < mv.length)
    (htsn : e.tsn = P.tsn + BitVec.ofNat 32 ((mv.map Chunk.frag).idxOf (Chunk.frag e))) :
    cntOf ws1 a.si < (senderI P acc a.si).msgs.length ∧ i < (senderI P acc a.si).nf (cntOf ws1 a.si) ∧
    toWire P e = (senderI P acc a.si).idataFrag (fun k i => P.tsn + BitVec.ofNat 32 (nuOf P acc mv a.si k i)) (cntOf ws1 a.si) i := by
  obtain ⟨hget, hk⟩ := filter_split acc ws1 ws2 a hacc
  have hmsg := senderI_msg P acc a.si _ a hget
  have hnf : (senderI P acc a.si).nf (cntOf ws1 a.si) = (fragSizes P.cfg.maxPayload.toNat (P.pay a.msg).length).length := by
    simp only [Reasm.Sender.nf, hmsg, Reasm.Msg.nf, cut_length]
  have hnu : nuOf P acc mv a.si (cntOf ws1 a.si) i = (mv.map Chunk.frag).idxOf (Chunk.frag e) := by
    simp only [nuOf, idxOfFrag, hget, ← hf, hidx, if_true]
  have hud : ((senderI P acc a.si).msg (cntOf ws1 a.si)).frags.getD i [] =
      ((P.pay a.msg).drop (i * P.cfg.maxPayload.toNat)).take e.len := by
    rw [hmsg]
    simp only [List.getD_eq_getElem?_getD, cut_get _ _ _ _ hlen, Option.getD_some]
  simp only [Chunk.frag, fragOf, hil, if_true, Prod.mk.injEq] at hf
  obtain ⟨f1, f2, f3, f4, f5, f6, f7, f8, f9⟩ := hf
  have hfsn : e.fsn.toNat = i := by
    rw [f9, BitVec.toNat_ofNat]; exact Nat.mod_eq_of_lt hi32
  refine ⟨by simp only [senderI]; rw [msgsOf_length]; exact hk, by rw [hnf]; exact hi, ?_⟩
  simp only [toWire, Reasm.Sender.idataFrag, hil, if_true, Bool.true_and, hnu, hnf, hud, Reasm.Chunk.mk.injEq]
  refine ⟨htsn, f1, ?_, f8, ?_, f4, f5, f6, trivial, ?_, ?_⟩
  · rw [f8, BitVec.setWidth_ofNat_of_le (by decide)]
  · rw [f5, f9]
    cases i with
    | zero => simp
    | succ n => simp
  · rw [f5, hmsg, f3]
    cases i with
    | zero => simp
    | succ n => simp
  · rw [f2, hfsn]

end NetSys
