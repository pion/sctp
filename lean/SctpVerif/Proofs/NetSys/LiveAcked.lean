import SctpVerif.Proofs.Sender
import SctpVerif.Proofs.Sna
/-!
Which in-flight chunks of the sender model carry the `acked` flag after a transition (`Props/C02net.lean`, `Honest` runs):
only a processed SACK raises the flag, and only on chunks whose TSN lies in one of its gap blocks; every other transition
keeps the flags of the chunks in flight and appends un-acked chunks only.
-/
namespace NetSysLive
open Gen Sender SenderProofs

/-- every acked chunk of `q'` is (by TSN) an acked chunk of `q` -/
def AckedFrom (q q' : List Chunk) : Prop := ∀ c' ∈ q', c'.acked = true → ∃ c ∈ q, c.tsn = c'.tsn ∧ c.acked = true

theorem AckedFrom.refl (q : List Chunk) : AckedFrom q q := fun c hc ha => ⟨c, hc, rfl, ha⟩

theorem AckedFrom.trans {a b c : List Chunk} (h1 : AckedFrom a b) (h2 : AckedFrom b c) : AckedFrom a c := by
  intro x hx ha
  obtain ⟨y, hy, e1, a1⟩ := h2 x hx ha
  obtain ⟨z, hz, e2, a2⟩ := h1 y hy a1
  exact ⟨z, hz, e2.trans e1, a2⟩

theorem AckedFrom.of_core {q q' : List Chunk} (h : q'.map Chunk.core = q.map Chunk.core) : AckedFrom q q' := by
  intro c' hc' ha
  have : Chunk.core c' ∈ q.map Chunk.core := h ▸ List.mem_map_of_mem hc'
  obtain ⟨c, hc, e⟩ := List.mem_map.mp this
  simp only [Chunk.core, Prod.mk.injEq] at e
  exact ⟨c, hc, e.1, e.2.2.2.1.trans ha⟩

theorem AckedFrom.of_fl {q q' : List Chunk} (h : Pt Fl q q') : AckedFrom q q' := by
  intro c' hc' ha
  obtain ⟨c, hc, e⟩ := h.mem hc'
  exact ⟨c, hc, e.tsn.symm, e.acked ▸ ha⟩

/-! ### new chunks are un-acked -/

theorem gather_admits_unacked (s : St) (orc : Oracle) (sel : List Nat) (hp : ∀ c ∈ s.pending, c.acked = false) :
    ∀ x ∈ (gather s orc sel).2.admits, x.chunk.acked = false := by
  unfold gather
  split
  · intro x hx; simp at hx
  · intro x hx
    obtain ⟨c, hc, _, ha, _⟩ := (gatherNew_wire orc.allow (gatherRtx s orc).2.2 (gatherRtx s orc).1 sel).2 x hx
    exact ha.trans (hp c hc)

theorem gather_ackedFrom (s : St) (orc : Oracle) (sel : List Nat) (hp : ∀ c ∈ s.pending, c.acked = false) :
    AckedFrom s.inflight (gather s orc sel).1.inflight := by
  intro c' hc' ha
  obtain ⟨c, hc, e⟩ := (gather_fl s orc sel).mem hc'
  rcases List.mem_append.1 hc with h1 | h1
  · exact ⟨c, h1, e.tsn.symm, e.acked ▸ ha⟩
  · obtain ⟨x, hx, rfl⟩ := List.mem_map.mp h1
    rw [e.acked, gather_admits_unacked s orc sel hp x hx] at ha
    cases ha

/-! ### the gap-ack loops -/

/-- the acked chunks after marking one TSN: acked before, or carrying that TSN -/
theorem markOne_acked (t : BitVec 32) (a : GapAcc) (tsn : BitVec 32) {a' : GapAcc} (hc : Contig a.q t) (h : markOne a tsn = some a') :
    Contig a'.q t ∧ ∀ c' ∈ a'.q, c'.acked = true → (∃ c ∈ a.q, c.tsn = c'.tsn ∧ c.acked = true) ∨ c'.tsn = tsn := by
  have hcon : Contig a'.q t := contig_of_tsns (markOne_pt a tsn h).tsns hc
  refine ⟨hcon, ?_⟩
  clear hcon
  unfold markOne at h
  cases hg : Sender.get a.q tsn with
  | none => simp [hg] at h
  | some oc =>
    obtain ⟨off, c0⟩ := oc
    simp only [hg, Option.some.injEq] at h
    subst h
    obtain ⟨o1, o2, _⟩ := get_off hc hg
    have hget : c0.tsn = tsn := by rw [contig_getElem hc o2, o1]; exact (Sna.eq_of_off rfl).symm
    simp only
    split
    · intro c' hc' ha
      rcases mem_set_cases hc' with h1 | h1
      · right; rw [h1]; exact hget
      · exact Or.inl ⟨c', h1, rfl, ha⟩
    · exact fun c' hc' ha => Or.inl ⟨c', hc', rfl, ha⟩

theorem markRange_acked (t cum : BitVec 32) (is : List Nat) (a : GapAcc) {a' : GapAcc} (hc : Contig a.q t)
    (h : markRange cum is a = some a') :
    Contig a'.q t ∧ ∀ c' ∈ a'.q, c'.acked = true →
      (∃ c ∈ a.q, c.tsn = c'.tsn ∧ c.acked = true) ∨ ∃ i ∈ is, c'.tsn = cum + BitVec.ofNat 32 i := by
  induction is generalizing a with
  | nil => simp [markRange] at h; subst h; exact ⟨hc, fun c' hc' ha => Or.inl ⟨c', hc', rfl, ha⟩⟩
  | cons i r ih =>
    simp only [markRange] at h
    cases h1 : markOne a (cum + BitVec.ofNat 32 i) with
    | none => simp [h1] at h
    | some a1 =>
      simp only [h1] at h
      obtain ⟨c1, m1⟩ := markOne_acked t a _ hc h1
      obtain ⟨c2, m2⟩ := ih a1 c1 h
      refine ⟨c2, ?_⟩
      intro c' hc' ha
      rcases m2 c' hc' ha with ⟨c, hcm, e, ac⟩ | ⟨j, hj, e⟩
      · rcases m1 c hcm ac with ⟨c0, h0, e0, a0⟩ | e0
        · exact Or.inl ⟨c0, h0, e0.trans e, a0⟩
        · exact Or.inr ⟨i, by simp, by rw [← e, e0]⟩
      · exact Or.inr ⟨j, List.mem_cons_of_mem _ hj, e⟩

theorem markGaps_acked (t cum : BitVec 32) (gaps : List (BitVec 16 × BitVec 16)) (a : GapAcc) {a' : GapAcc} (hc : Contig a.q t)
    (h : markGaps cum gaps a = some a') :
    ∀ c' ∈ a'.q, c'.acked = true → (∃ c ∈ a.q, c.tsn = c'.tsn ∧ c.acked = true) ∨
      ∃ g ∈ gaps, ∃ j, g.1.toNat ≤ j ∧ j ≤ g.2.toNat ∧ c'.tsn = cum + BitVec.ofNat 32 j := by
  induction gaps generalizing a with
  | nil => simp [markGaps] at h; subst h; exact fun c' hc' ha => Or.inl ⟨c', hc', rfl, ha⟩
  | cons g r ih =>
    obtain ⟨st, en⟩ := g
    simp only [markGaps] at h
    cases h1 : markRange cum (List.range' st.toNat (en.toNat + 1 - st.toNat)) a with
    | none => simp [h1] at h
    | some a1 =>
      simp only [h1] at h
      obtain ⟨c1, m1⟩ := markRange_acked t cum _ a hc h1
      intro c' hc' ha
      rcases ih a1 c1 h c' hc' ha with ⟨c, hcm, e, ac⟩ | ⟨g, hg, j, j1, j2, e⟩
      · rcases m1 c hcm ac with ⟨c0, h0, e0, a0⟩ | ⟨j, hj, e0⟩
        · exact Or.inl ⟨c0, h0, e0.trans e, a0⟩
        · right
          refine ⟨(st, en), by simp, j, ?_, ?_, by rw [← e, e0]⟩
          · have := (List.mem_range'_1.mp hj).1; exact this
          · have h1 := (List.mem_range'_1.mp hj).1; have h2 := (List.mem_range'_1.mp hj).2; simp only; omega
      · exact Or.inr ⟨g, List.mem_cons_of_mem _ hg, j, j1, j2, e⟩

end NetSysLive
