import SctpVerif.Proofs.Sender.Adv
import SctpVerif.Proofs.Sender.Moved
import SctpVerif.Proofs.Sender.Progress
import SctpVerif.Proofs.Sna
/-!
Sender half of the FORWARD-TSN composition (`Props/C07net.lean`): along every run the cumulative ack point is
`t0 − 1 + a` for a COUNT `a` of acknowledged TSNs with `a + |inflight| = |moved|` (no wrap-around ambiguity), a SACK is
the only operation that moves it, and a FORWARD-TSN a gather emits covers, above `a`, abandoned chunks only.
-/
namespace SenderPR
open Gen Sender SenderProofs SenderTsn

/-- everything the composition needs to know about a sender state; `mv` = the chunks moved to in flight so far (the
`j`-th has TSN `t0 + j`), `a` = how many of them are cumulatively acknowledged -/
structure SInv (t0 : BitVec 32) (s : St) (mv : List Chunk) (a : Nat) : Prop where
  seq : Seq s
  win : WinInv s
  adv : AdvInv s
  pr : s.cfg.prEnabled = true
  minv : ∃ W, MInv t0 W mv s
  small : mv.length < 2^31
  infl : s.inflight.length < 2^31
  cum : s.cumAck = t0 - 1 + BitVec.ofNat 32 a
  alen : a + s.inflight.length = mv.length

/-- the cumulative ack point, counted from `t0 − 1`, and the chunks in flight make up the TSNs assigned: the head of the
in-flight queue is a moved chunk (offset below `2^31`), and `myNextTSN` is both `cumAck + 1 + |inflight|` and `t0 + |mv|` -/
theorem off_cumAck {t0 : BitVec 32} {s : St} {W mv : List Chunk} (hs : Seq s) (hm : MInv t0 W mv s)
    (hmv : mv.length < 2^31) (hi : s.inflight.length < 2^31) :
    (s.cumAck - (t0 - 1)).toNat + s.inflight.length = mv.length := by
  have hb : s.cumAck - (t0 - 1) = s.cumAck + 1 - t0 := by bv_omega
  have hnext : s.cumAck + 1 + BitVec.ofNat 32 s.inflight.length = t0 + BitVec.ofNat 32 mv.length := hs.2.symm.trans hm.next
  have h0 : (s.cumAck + 1 - t0).toNat ≤ mv.length := by
    cases hq : s.inflight with
    | nil =>
      rw [hq] at hnext
      have hnext' : s.cumAck + 1 = t0 + BitVec.ofNat 32 mv.length := by simpa using hnext
      rw [Sna.off_of_eq (by omega) hnext']; exact Nat.le_refl _
    | cons f r =>
      obtain ⟨m, hmem, ht, _⟩ := hm.inf f (by rw [hq]; exact List.mem_cons_self)
      obtain ⟨j, hj, rfl⟩ := List.mem_iff_getElem.mp hmem
      have hf : f.tsn = s.cumAck + 1 := by have := hs.1; rw [hq] at this; exact this.1
      rw [← hf, ← ht, Sna.off_of_eq (by omega) (hm.tsn j _ (List.getElem?_eq_getElem hj))]; omega
  have := Sna.off_add_ofNat t0 (s.cumAck + 1) s.inflight.length (by omega)
  rw [hnext, Sna.off_of_eq (by omega) rfl] at this
  rw [hb]; omega

/-- the operations other than `sack` leave the cumulative ack point alone -/
theorem step_cumAck (s : St) (op : Op) (h : ∀ cum arwnd gaps marks, op ≠ .sack cum arwnd gaps marks) :
    (step s op).cumAck = s.cumAck := by
  cases op with
  | openS si u rt rv th => rfl
  | unreg si => simp only [step, unregister]; split <;> rfl
  | setEstablished b => rfl
  | write si ppi len =>
    obtain ⟨_, _, _, _, _, _, h⟩ := write_only s si ppi len
    show (write s si ppi len).1.cumAck = s.cumAck
    rw [h]
  | gather orc sel => exact (gather_grel s orc sel).2.2.2.1
  | sack cum arwnd gaps marks => exact absurd rfl (h cum arwnd gaps marks)
  | t3 => exact (t3_frame s).1.cumAck
  | tick ms n marks =>
    have h1 : SameAcct s { s with now := s.now + ms } := ⟨rfl, rfl, rfl, rfl, rfl, rfl, rfl, rfl, rfl, rfl, rfl, rfl, rfl, rfl⟩
    exact (SameAcct.trans h1 (SameAcct.trans (iter_t3_sameAcct n _) (applyMarks_frame _ marks).1)).cumAck

/-- a SACK either changes nothing or installs its cumulative TSN, which lies at most `|inflight|` beyond the old point -/
theorem sack_cumAck (s : St) (cum arwnd : BitVec 32) (gaps : List (BitVec 16 × BitVec 16)) (marks : List (BitVec 32))
    (hs : Seq s) (hsm : s.inflight.length < 2^31) (hm : CfgOk s.cfg) :
    (sack s cum arwnd gaps marks).1.cumAck = s.cumAck ∨
    ∃ k, k ≤ s.inflight.length ∧ cum = s.cumAck + BitVec.ofNat 32 k ∧ (sack s cum arwnd gaps marks).1.cumAck = cum := by
  rcases sack_cases s cum arwnd gaps marks hs hsm with ⟨_, _, he, _⟩ | ⟨_, hest, hst, hval, _⟩
  · left; rw [he]
  · obtain ⟨_, k, hk, hck, _, hc, _⟩ := sack_ok_shape s cum arwnd gaps marks hs hsm hm hest hst hval
    exact Or.inr ⟨k, hk, hck, hc⟩

/-- ✱ one sender operation keeps `SInv`; the count `a` grows only by a SACK, to the offset of its cumulative TSN -/
theorem SInv.step {t0 : BitVec 32} {s : St} {mv : List Chunk} {a : Nat} (h : SInv t0 s mv a) (op : Op)
    (hmv : (mv ++ movedBy s op).length < 2^31) (hinf : (Sender.step s op).inflight.length < 2^31) :
    ∃ a', SInv t0 (Sender.step s op) (mv ++ movedBy s op) a' ∧ a ≤ a' ∧
      (a' = a ∨ ∃ cum arwnd gaps marks, op = .sack cum arwnd gaps marks ∧ cum = t0 - 1 + BitVec.ofNat 32 a') := by
  obtain ⟨W, hW⟩ := h.minv
  obtain ⟨m1, m2, _⟩ := step_minv s op hW
  have hseq := step_seq s op h.seq h.win.cfgOk
  have hwin := (step_win s op h.win).1
  have hadv := step_adv s op h.seq h.infl h.pr h.adv
  have hpr : (Sender.step s op).cfg.prEnabled = true := by rw [m2]; exact h.pr
  have mk : ∀ a', a' < 2^31 → (Sender.step s op).cumAck = t0 - 1 + BitVec.ofNat 32 a' →
      SInv t0 (Sender.step s op) (mv ++ movedBy s op) a' := fun a' ha hc =>
    ⟨hseq, hwin, hadv, hpr, ⟨_, m1⟩, hmv, hinf, hc,
      by have := off_cumAck hseq m1 hmv hinf; rwa [Sna.off_of_eq (by omega) hc] at this⟩
  have ha : a + s.inflight.length < 2^31 := by rw [h.alen]; exact h.small
  have same : (Sender.step s op).cumAck = s.cumAck → ∃ a', SInv t0 (Sender.step s op) (mv ++ movedBy s op) a' ∧ a ≤ a' ∧
      (a' = a ∨ ∃ cum arwnd gaps marks, op = .sack cum arwnd gaps marks ∧ cum = t0 - 1 + BitVec.ofNat 32 a') := fun hc =>
    ⟨a, mk a (by omega) (hc.trans h.cum), Nat.le_refl _, Or.inl rfl⟩
  cases op with
  | sack cum arwnd gaps marks =>
    rcases sack_cumAck s cum arwnd gaps marks h.seq h.infl h.win.cfgOk with hc | ⟨k, hk, hck, hc⟩
    · exact same hc
    · have hcum : cum = t0 - 1 + BitVec.ofNat 32 (a + k) := by rw [hck, h.cum, BitVec.add_assoc, ← BitVec.ofNat_add]
      exact ⟨a + k, mk _ (by omega) (hc.trans hcum), by omega, Or.inr ⟨cum, arwnd, gaps, marks, rfl, hcum⟩⟩
  | _ => exact same (step_cumAck s _ (fun _ _ _ _ e => by cases e))

theorem SInv.init (cfg : Cfg) (t0 peerRwnd : BitVec 32) (hc : CfgOk cfg) (hpr : cfg.prEnabled = true) :
    SInv t0 (Sender.init cfg t0 peerRwnd) [] 0 :=
  ⟨init_seq cfg t0 peerRwnd, init_win cfg t0 peerRwnd hc, init_adv cfg t0 peerRwnd, hpr, ⟨[], init_minv cfg t0 peerRwnd⟩,
   by simp, by simp [Sender.init], by simp [Sender.init], by simp [Sender.init]⟩

/-- the chunk in flight at offset `i` has TSN `t0 + (a + i)` -/
theorem SInv.inflight_tsn {t0 : BitVec 32} {s : St} {mv : List Chunk} {a : Nat} (h : SInv t0 s mv a)
    {i : Nat} {x : Chunk} (hx : s.inflight[i]? = some x) : x.tsn = t0 + BitVec.ofNat 32 (a + i) := by
  rw [contig_getElem h.seq.1 hx, h.cum, BitVec.add_assoc, BitVec.add_assoc]
  show t0 - 1 + (BitVec.ofNat 32 a + (BitVec.ofNat 32 1 + BitVec.ofNat 32 i)) = _
  rw [← BitVec.ofNat_add, ← BitVec.ofNat_add, show a + (1 + i) = a + i + 1 by omega]
  exact Sna.pred_add_ofNat_succ t0 (a + i)

/-- the `j`-th moved chunk is the chunk in flight at offset `j − a`: same TSN, same fragment -/
theorem SInv.inflight_frag {t0 : BitVec 32} {s : St} {mv : List Chunk} {a : Nat} (h : SInv t0 s mv a)
    {i : Nat} {x m : Chunk} (hx : s.inflight[i]? = some x) (hm : mv[a + i]? = some m) :
    m.tsn = x.tsn ∧ Chunk.frag m = Chunk.frag x := by
  obtain ⟨W, hW⟩ := h.minv
  have hi := (List.getElem?_eq_some_iff.1 hx).1
  obtain ⟨m', hm', ht, hf⟩ := hW.inf x (List.mem_of_getElem? hx)
  obtain ⟨j, hj⟩ := List.getElem?_of_mem hm'
  have hjl := (List.getElem?_eq_some_iff.1 hj).1
  have hal := h.alen
  have hsm := h.small
  have e1 : (x.tsn - t0).toNat = j := Sna.off_of_eq (by omega) (ht.symm.trans (hW.tsn j m' hj))
  have e2 : (x.tsn - t0).toNat = a + i := Sna.off_of_eq (by omega) (h.inflight_tsn hx)
  rw [← e2, e1, hj] at hm
  cases hm
  exact ⟨ht, hf⟩

theorem SInv.inflight_msg {t0 : BitVec 32} {s : St} {mv : List Chunk} {a : Nat} (h : SInv t0 s mv a)
    {i : Nat} {x m : Chunk} (hx : s.inflight[i]? = some x) (hm : mv[a + i]? = some m) : x.msg = m.msg := by
  have := congrArg (fun f => f.2.1) (h.inflight_frag hx hm).2
  simpa [Chunk.frag] using this.symm

/-- ✱ what a FORWARD-TSN built in this state covers: its new cumulative TSN is `t0 + n` for a moved chunk `n`, and every
moved chunk up to `n` is abandoned or already cumulatively acknowledged (offset below `a`) -/
theorem SInv.covers {t0 : BitVec 32} {s : St} {mv : List Chunk} {a : Nat} (h : SInv t0 s mv a)
    (hgt : sna32GT s.advPeerAck s.cumAck = true) :
    ∃ n, s.advPeerAck = t0 + BitVec.ofNat 32 n ∧ n < mv.length ∧
      ∀ j m, j ≤ n → mv[j]? = some m → s.abandoned m = true ∨ j < a := by
  have hd := ((Sna.gt32_iff _ _).1 hgt).1
  have hle := h.adv.le
  have hal := h.alen
  have hsm := h.small
  generalize hdd : (s.advPeerAck - s.cumAck).toNat = d at hd hle
  obtain ⟨d, rfl⟩ : ∃ d', d = d' + 1 := ⟨d - 1, by omega⟩
  refine ⟨a + d, ?_, by omega, ?_⟩
  · rw [Sna.eq_of_off hdd, h.cum, BitVec.add_assoc, ← BitVec.ofNat_add, ← Nat.add_assoc]
    exact Sna.pred_add_ofNat_succ t0 (a + d)
  · intro j m hj hm
    rcases Nat.lt_or_ge j a with hlt | hge
    · exact Or.inr hlt
    · left
      have hx : s.inflight[j - a]? = some s.inflight[j - a] := List.getElem?_eq_getElem (by omega)
      have hab := h.adv.ab (j - a) _ (by omega) hx
      have hmsg := h.inflight_msg hx (by rw [show a + (j - a) = j by omega]; exact hm)
      exact (AbLe.refl s).abandoned hmsg.symm hab

/-- the chunks `createForwardTSN` / `createIForwardTSN` scan are moved chunks: abandoned, at or below the advanced point -/
theorem SInv.scanned {t0 : BitVec 32} {s : St} {mv : List Chunk} {a : Nat} (h : SInv t0 s mv a) :
    ∀ c ∈ fwdChunks s, ∃ m ∈ mv, s.abandoned m = true ∧ sna32LTE m.tsn s.advPeerAck = true ∧ Chunk.frag m = Chunk.frag c := by
  intro c hc
  obtain ⟨i, hi', hx⟩ := h.adv.fwd_mem h.seq h.infl hc
  have hle := h.adv.le
  have hal := h.alen
  have hin := h.infl
  have hm : mv[a + i]? = some mv[a + i] := List.getElem?_eq_getElem (by omega)
  obtain ⟨ht, hf⟩ := h.inflight_frag hx hm
  have hab := h.adv.ab i c hi' hx
  have hmsg := h.inflight_msg hx hm
  refine ⟨mv[a + i], List.getElem_mem _, (AbLe.refl s).abandoned hmsg.symm hab, ?_, hf⟩
  -- offsets from the cumulative ack point: the chunk sits at `1 + i`, the advanced point at more than `i`
  have ho : (c.tsn - s.cumAck).toNat = i + 1 := by
    rw [contig_getElem h.seq.1 hx, Sna.off_succ_add_ofNat _ _ (by omega)]
  rw [ht, Sna.lte32_iff_off s.cumAck _ _ (by omega) (by omega), ho]
  omega

end SenderPR
