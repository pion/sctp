import SctpVerif.Proofs.NetSys.Univ
/-!
Composition, I-DATA: the hypotheses of the receive-side prefix theorem (`Receiver.receiver_prefix` with `specIData`, the
statement of `C01_receiver_prefix_idata`) hold for the receiver run of every NetSys run over ordered streams, with the
universe built from the sender run (`sendersI`, `nuOf`). The first half of the file is what the DATA and partial-reliability
universes (`Data.lean`, `PRUniv.lean`) share with it: `chunksWritten`, `tsnsUsed`, `ordOnly_append`, `msgsOf_wf` /
`msgsOf_out`, `mem_senders` / `senders_si_inj`, `win_prefix`, `pkt_chunk_on_wire` / `pkt_chunk_prefix`.
-/
namespace NetSys
open SenderProofs SenderTsn Sender

/-- chunks created by the writes of the NetSys run (each needs one TSN) -/
def chunksWritten (P : Params) (ops : List Op) : Nat := (written (init P).snd (sndOps P (init P).snd ops)).length

/-- TSNs the NetSys run has assigned -/
def tsnsUsed (P : Params) (ops : List Op) : Nat := (moved (init P).snd (sndOps P (init P).snd ops)).length

theorem ordOnly_append (o1 o2 : List Op) (h : OrdOnly (o1 ++ o2) = true) : OrdOnly o1 = true ∧ OrdOnly o2 = true := by
  simpa [OrdOnly, List.all_append] using h

/-- the history at any moment of the run is part of the wire of the whole sender run -/
theorem wire_prefix_sub (P : Params) (o1 o2 : List Op) :
    ∀ c ∈ (run P (init P) o1).wire, c ∈ wire (init P).snd (sndOps P (init P).snd (o1 ++ o2)) := by
  intro c hc
  rw [(run_snd P (init P) o1).2] at hc
  rw [sndOps_append, wire_append]
  simpa [init] using List.mem_append_left _ (by simpa [init] using hc)

theorem accepted_prefix (P : Params) (o1 o2 : List Op) :
    ∃ r, accepted (init P).snd (sndOps P (init P).snd (o1 ++ o2)) = accepted (init P).snd (sndOps P (init P).snd o1) ++ r := by
  rw [sndOps_append, accepted_append]
  exact ⟨_, rfl⟩

theorem cntOf_append_le (a b : List Write) (si : BitVec 16) : cntOf a si ≤ cntOf (a ++ b) si := by
  simp [cntOf, List.filter_append]

theorem cntOf_le_length (a : List Write) (si : BitVec 16) : cntOf a si ≤ a.length := by
  simp only [cntOf]; exact List.length_filter_le _ _

/-! ### what the DATA and the I-DATA universe share: the messages, the stream ids, the window -/

/-- every message of the universe has at least one and fewer than `2^31` fragments -/
theorem msgsOf_wf (P : Params) (acc : List Write) (si : BitVec 16) (W : Nat) (hW : W < 2^31)
    (hfr : ∀ a ∈ acc, 1 ≤ (fragSizes P.cfg.maxPayload.toNat (P.pay a.msg).length).length ∧
      (fragSizes P.cfg.maxPayload.toNat (P.pay a.msg).length).length ≤ W ∧ 0 < P.cfg.maxPayload.toNat) :
    ∀ m ∈ msgsOf P acc si, 1 ≤ m.nf ∧ m.nf < 2^31 := by
  intro m hm
  obtain ⟨a, ha, rfl⟩ := List.mem_map.1 hm
  have := hfr a (List.mem_filter.1 ha).1
  simp only [Reasm.Msg.nf, cut_length]
  omega

/-- the messages of the universe, read back, are the accepted writes: cutting a payload and gluing the pieces is the identity -/
theorem msgsOf_out (P : Params) (ops : List Op) (si : BitVec 16)
    (hmp : ∀ a ∈ accepted (init P).snd (sndOps P (init P).snd ops), 0 < P.cfg.maxPayload.toNat) :
    (msgsOf P (accepted (init P).snd (sndOps P (init P).snd ops)) si).map Reasm.Msg.out = writesOn P si (init P) ops := by
  simp only [writesOn, writes_eq, msgsOf, List.map_map]
  apply List.map_congr_left
  intro a ha
  simp only [Function.comp, Reasm.Msg.out, Reasm.Msg.payload, cut_flatten _ _ (hmp a (List.mem_filter.1 ha).1)]

/-- one sender per stream id -/
theorem senders_si_inj (f : BitVec 16 → Reasm.Sender) (hf : ∀ x, (f x).si = x) (l : List (BitVec 16)) :
    ∀ S ∈ l.map f, ∀ S' ∈ l.map f, S'.si = S.si → S' = S := by
  intro S hS S' hS' he
  obtain ⟨x, _, rfl⟩ := List.mem_map.1 hS
  obtain ⟨y, _, rfl⟩ := List.mem_map.1 hS'
  rw [hf, hf] at he
  rw [he]

theorem mem_senders (f : BitVec 16 → Reasm.Sender) (acc : List Write) (si0 : BitVec 16) :
    f si0 ∈ (uniq (si0 :: acc.map (·.si))).map f ∧ ∀ a ∈ acc, f a.si ∈ (uniq (si0 :: acc.map (·.si))).map f :=
  ⟨List.mem_map.2 ⟨si0, (uniq_mem _ _).2 List.mem_cons_self, rfl⟩,
   fun a ha => List.mem_map.2 ⟨a.si, (uniq_mem _ _).2 (List.mem_cons_of_mem _ (List.mem_map.2 ⟨a, ha, rfl⟩)), rfl⟩⟩

/-- the window hypothesis of the run gives the window of the receiver theorems: a message accepted before the delivery -/
theorem win_prefix (P : Params) (ops : List Op) (si : BitVec 16) (W : Nat) (hwin : WinOk P si W (init P) ops = true)
    (o1 : List Op) (op : Op) (o2 : List Op) (e : ops = o1 ++ op :: o2) (k : Nat)
    (hk : k < cntOf (accepted (init P).snd (sndOps P (init P).snd o1)) si) :
    k < (Receiver.delivs si (Receiver.init P.maxBuf P.maxEntries P.cfg.useInterleaving P.useFwd P.useIFwd P.ackMode P.tsn)
      (rcvOps P (init P) o1)).length + W := by
  simp only [WinOk, List.all_eq_true, List.mem_range, decide_eq_true_eq] at hwin
  have hw := hwin o1.length (by rw [e]; simp; omega)
  have htake : ops.take o1.length = o1 := by rw [e]; simp
  have hwl : (writesOn P si (init P) o1).length = cntOf (accepted (init P).snd (sndOps P (init P).snd o1)) si := by
    simp [writesOn, writes_eq, cntOf]
  rw [htake, hwl, reads_eq] at hw
  exact Nat.lt_of_lt_of_le hk hw

/-- every chunk the receiver is handed is a chunk of the sender run's wire, decoded -/
theorem pkt_chunk_on_wire (P : Params) (ops : List Op) (cs : List Receiver.InChunk) (hcs : Receiver.Op.pkt cs ∈ rcvOps P (init P) ops) :
    ∀ ch ∈ cs, ∃ c ∈ wire (init P).snd (sndOps P (init P).snd ops), ∃ imm, ch = Receiver.InChunk.data (toWire P c) imm := by
  intro ch hch
  obtain ⟨r1, r2, hr⟩ := List.append_of_mem hcs
  obtain ⟨o1, op, o2, e, _, _, e3⟩ := rcvOps_split P (init P) ops r1 _ r2 hr
  obtain ⟨is, rfl⟩ := rcvOp_pkt P _ op cs e3
  obtain ⟨c, hc, imm, rfl⟩ := packetOf_mem P _ is ch hch
  exact ⟨c, by rw [e]; exact wire_prefix_sub P o1 (op :: o2) c hc, imm, rfl⟩

/-- a chunk inside a packet of the receiver run is, decoded, a chunk of the wire of the run BEFORE that delivery -/
theorem pkt_chunk_prefix (P : Params) (ops : List Op) (ops1 : List Receiver.Op) (cs1 : List Receiver.InChunk) (X : Reasm.Chunk)
    (imm : Bool) (cs2 : List Receiver.InChunk) (ops2 : List Receiver.Op)
    (hr : rcvOps P (init P) ops = ops1 ++ Receiver.Op.pkt (cs1 ++ Receiver.InChunk.data X imm :: cs2) :: ops2) :
    ∃ o1 op o2 c, ops = o1 ++ op :: o2 ∧ rcvOps P (init P) o1 = ops1 ∧
      c ∈ wire (init P).snd (sndOps P (init P).snd o1) ∧ toWire P c = X := by
  obtain ⟨o1, op, o2, e, e1, _, e3⟩ := rcvOps_split P (init P) ops ops1 _ ops2 hr
  obtain ⟨is, hpk⟩ := rcvOp_pkt P _ op _ e3
  obtain ⟨c, hc, imm', hceq⟩ := packetOf_mem P _ is (Receiver.InChunk.data X imm) (by rw [← hpk]; simp)
  rw [(run_snd P (init P) o1).2] at hc
  exact ⟨o1, op, o2, c, e, e1, by simpa [init] using hc, (Receiver.InChunk.data.inj hceq).1.symm⟩

/-- ordered streams of ANY reliability policy: NetSys never hands the receiver an I-FORWARD-TSN, so an abandoned message only
stalls its stream -/
theorem netsys_prefix_idata_ord (P : Params) (ops : List Op) (si : BitVec 16)
    (hil : P.cfg.useInterleaving = true) (hrel : OrdOnly ops = true)
    (hN : chunksWritten P ops < 2^31) (hwin : WinOk P si (2^31) (init P) ops = true) :
    readsOn P si (init P) ops <+: writesOn P si (init P) ops := by
  have hs0 : (init P).snd = Sender.init P.cfg P.tsn P.peerRwnd := rfl
  have hlen := sndOps_lenOk P (init P).snd ops
  have hord := sndOps_ordOnly P (init P).snd ops hrel
  have hident := wire_ident P.cfg P.tsn P.peerRwnd (fun m => (P.pay m).length) (sndOps P (init P).snd ops) hord hlen
  obtain ⟨hal, hfr⟩ := accepted_le_written P.cfg P.tsn P.peerRwnd (fun m => (P.pay m).length) (sndOps P (init P).snd ops) hord hlen
  have hmv := moved_le_written P.cfg P.tsn P.peerRwnd (sndOps P (init P).snd ops)
  rw [← hs0] at hident hal hfr hmv
  simp only [chunksWritten] at hN
  generalize hacc : accepted (init P).snd (sndOps P (init P).snd ops) = acc at hident hal hfr
  generalize hmvd : moved (init P).snd (sndOps P (init P).snd ops) = mv at hident hmv
  generalize hW : (written (init P).snd (sndOps P (init P).snd ops)).length = W at hN hal hfr hmv
  obtain ⟨hS, hSa⟩ := mem_senders (senderI P acc) acc si
  -- every chunk of the sender run's wire is a fragment of the universe
  have hchunk : ∀ c ∈ wire (init P).snd (sndOps P (init P).snd ops), ∃ S ∈ sendersI P acc si, ∃ k i, k < S.msgs.length ∧ i < S.nf k ∧
      toWire P c = S.idataFrag (fun k i => P.tsn + BitVec.ofNat 32 (nuOf P acc mv S.si k i)) k i := by
    intro c hc
    obtain ⟨ws1, a, ws2, i, e1, e2, e3, e4, e5, e6⟩ := hident c hc
    have ha : a ∈ acc := by rw [e1]; simp
    obtain ⟨t1, t2, t3⟩ := toWire_idata P hil acc ws1 ws2 a e1 mv c i e2 (by have := (hfr a ha).2.1; omega) e3 e4 e5 e6
    exact ⟨senderI P acc a.si, hSa a ha, cntOf ws1 a.si, i, t1, t2, t3⟩
  have key := Receiver.receiver_prefix (sendersI P acc si) P.tsn (max mv.length 1) (by omega) ?hWF
    (fun S h => Receiver.specIData S h P.tsn (nuOf P acc mv S.si))
    (fun S => S.idataFrag (fun k i => P.tsn + BitVec.ofNat 32 (nuOf P acc mv S.si k i))) (fun S => nuOf P acc mv S.si) (2^31)
    (fun _ _ => ⟨rfl, rfl, rfl, rfl⟩) ?htsn ?hsi P.maxBuf P.maxEntries P.cfg.useInterleaving P.useFwd P.useIFwd P.ackMode
    (rcvOps P (init P) ops) ?hgood (senderI P acc si) hS ?hwin
  · rw [reads_eq, ← msgsOf_out P ops si (fun a ha => (hfr a (hacc ▸ ha)).2.2), hacc]
    exact key
  case hWF =>
    intro S hS'
    obtain ⟨x, _, rfl⟩ := List.mem_map.1 hS'
    exact msgsOf_wf P acc x W hN hfr
  case htsn =>
    intro S _ k i _ _
    refine ⟨rfl, ?_⟩
    simp only [nuOf]
    split <;> omega
  case hsi => exact senders_si_inj (senderI P acc) (fun _ => rfl) _
  case hgood =>
    intro cs hcs ch hch
    obtain ⟨c, hc, imm, rfl⟩ := pkt_chunk_on_wire P ops cs hcs ch hch
    obtain ⟨S, hS', k, i, h1, h2, h3⟩ := hchunk c hc
    exact Or.inr ⟨S, hS', k, i, imm, h1, h2, by rw [h3]⟩
  case hwin =>
    intro ops1 cs1 k i imm cs2 ops2 hr hk _ _
    obtain ⟨o1, op, o2, c, e, e1, hc1, hceq⟩ := pkt_chunk_prefix P ops ops1 cs1 _ imm cs2 ops2 hr
    -- identify `c` in the PREFIX run
    have hrel1 : OrdOnly o1 = true := (ordOnly_append o1 (op :: o2) (by rw [← e]; exact hrel)).1
    have hid1 := wire_ident P.cfg P.tsn P.peerRwnd (fun m => (P.pay m).length) (sndOps P (init P).snd o1)
      (sndOps_ordOnly P (init P).snd o1 hrel1) (sndOps_lenOk P (init P).snd o1)
    rw [← hs0] at hid1
    obtain ⟨ws1, a, ws2, i', a1, _, a3, _, _, _⟩ := hid1 c hc1
    obtain ⟨rest, hrest⟩ := accepted_prefix P o1 (op :: o2)
    rw [← e, hacc] at hrest
    rw [hil] at a3
    have f1 : c.si = a.si := congrArg Frag.si a3
    have f8 : c.mid = BitVec.ofNat 32 (cntOf ws1 a.si) := congrArg Frag.mid a3
    have hsi : c.si = si := by
      have := congrArg (fun x => x.si) hceq
      simpa [toWire, Reasm.Sender.idataFrag, senderI] using this
    have hmid : c.mid = BitVec.ofNat 32 k := by
      have := congrArg (fun x => x.mid) hceq
      simpa [toWire, Reasm.Sender.idataFrag, hil] using this
    have hasi : a.si = si := by rw [← f1]; exact hsi
    have hk1 : cntOf ws1 a.si < cntOf (accepted (init P).snd (sndOps P (init P).snd o1)) a.si := (filter_split _ ws1 ws2 a a1).2
    rw [hasi] at hk1
    have hle1 : cntOf (accepted (init P).snd (sndOps P (init P).snd o1)) si ≤ cntOf acc si := by
      rw [hrest]; exact cntOf_append_le _ _ _
    have hle2 := cntOf_le_length acc si
    have hklen : k < cntOf acc si := by
      have : (senderI P acc si).msgs.length = cntOf acc si := msgsOf_length P acc si
      omega
    have hkk : cntOf ws1 si = k := by
      apply Sna.ofNat_inj_of_lt (w := 32) (by omega) (by omega)
      rw [← hmid, f8, hasi]
    rw [← e1]
    exact win_prefix P ops si _ hwin o1 op o2 e k (hkk ▸ hk1)

theorem netsys_prefix_idata (P : Params) (ops : List Op) (si : BitVec 16)
    (hil : P.cfg.useInterleaving = true) (hrel : Reliable ops = true)
    (hN : chunksWritten P ops < 2^31) (hwin : WinOk P si (2^31) (init P) ops = true) :
    readsOn P si (init P) ops <+: writesOn P si (init P) ops :=
  netsys_prefix_idata_ord P ops si hil (ordOnly_of_reliable hrel) hN hwin

end NetSys
