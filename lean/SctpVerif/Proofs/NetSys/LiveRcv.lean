import SctpVerif.Proofs.Receiver.Sack
import SctpVerif.Proofs.RecvQ
import SctpVerif.Proofs.Sna
/-!
Receive-queue half of the liveness composition (`Props/C02net.lean`): the invariant `QB t0 M q` — the cumulative point of
the receive queue `q` and every TSN it holds lie among the first `M` TSNs counted from `t0` — is kept by every operation
of the `Receiver` model whose DATA chunks carry TSNs `t0 + j`, `j < M`.
-/
namespace NetSysLive
open Gen RecvQ

/-- how many TSNs, counted from `t0`, the cumulative point covers -/
def idx (t0 : TSN) (q : Q) : Nat := (q.cum - (t0 - 1)).toNat

structure QB (t0 : TSN) (M : Nat) (q : Q) : Prop where
  inv : Inv q
  cumle : idx t0 q ≤ M
  held : ∀ d, heldAt q d → idx t0 q + d ≤ M

theorem QB.mono {t0 : TSN} {M M' : Nat} {q : Q} (h : QB t0 M q) (hm : M ≤ M') : QB t0 M' q :=
  ⟨h.inv, Nat.le_trans h.cumle hm, fun d hd => Nat.le_trans (h.held d hd) hm⟩

theorem QB.dups {t0 : TSN} {M : Nat} {q : Q} (h : QB t0 M q) (l : List TSN) : QB t0 M { q with dups := l } :=
  ⟨inv_dups h.inv l, h.cumle, fun d hd => h.held d hd⟩

/-- a TSN among the first `M` -/
def Below (t0 : TSN) (M : Nat) (t : TSN) : Prop := ∃ j, j < M ∧ t = t0 + BitVec.ofNat 32 j

theorem Below.mono {t0 : TSN} {M M' : Nat} {t : TSN} (h : Below t0 M t) (hm : M ≤ M') : Below t0 M' t := by
  obtain ⟨j, hj, e⟩ := h
  exact ⟨j, by omega, e⟩

theorem push_qb {t0 : TSN} {M : Nat} {q : Q} (h : QB t0 M q) (hM : M < 2^31) (t : TSN) (ht : Below t0 M t) :
    QB t0 M (push q t).1 := by
  cases hr : (push q t).2 with
  | false =>
    rcases push_reject t hr with e | e
    · rw [e]; exact h
    · rw [e]; exact h.dups _
  | true =>
    have hcum : (push q t).1.cum = q.cum := push_cum q t
    obtain ⟨⟨a1, a2, a3, a4⟩, _⟩ := (push_accept_iff h.inv t).mp hr
    refine ⟨push_inv h.inv t, by unfold idx; rw [hcum]; exact h.cumle, ?_⟩
    intro d hd
    have hi : idx t0 (push q t).1 = idx t0 q := by unfold idx; rw [hcum]
    rw [hi]
    rcases (push_heldAt h.inv t hr d).mp hd with h1 | h1
    · exact h.held d h1
    · -- the pushed TSN sits at offset `j + 1` from `t0 − 1`, which is where the cumulative point's offset plus `d` lands
      obtain ⟨j, hj, rfl⟩ := ht
      have hc : (q.cum - (t0 - 1)).toNat ≤ M := h.cumle
      subst h1
      have et : (t0 + BitVec.ofNat 32 j - (t0 - 1)).toNat = j + 1 :=
        Sna.off_of_eq (by omega) (Sna.pred_add_ofNat_succ t0 j).symm
      have := Sna.off_trans (t0 - 1) q.cum (t0 + BitVec.ofNat 32 j) (by omega)
      show (q.cum - (t0 - 1)).toNat + _ ≤ M
      omega

theorem popped_idx {t0 : TSN} {q : Q} (h : idx t0 q < 2^31) : idx t0 (popped q) = idx t0 q + 1 := by
  unfold idx at *
  rw [popped_cum]
  exact Sna.off_succ _ _ (by omega)

/-- one successful pop of the TSN right after the cumulative point: the point moves by one, the queue stays within `M` -/
theorem sPop_qb {t0 : TSN} {M : Nat} (hM : M < 2^31) {s : RecvQ.St} (h : QB t0 M s.q) (hok : hasChunk s.q (s.q.cum + 1) = true) :
    (sPop s false).q = popped s.q ∧ held s.q (s.q.cum + 1) ∧ idx t0 (popped s.q) = idx t0 s.q + 1 ∧ QB t0 M (popped s.q) := by
  have hh := (hasChunk_iff h.inv _).mp hok
  have h1 : heldAt s.q 1 := by
    have := (held_iff_heldAt (q := s.q) (s.q.cum + 1)).mp hh
    rwa [off_one] at this
  have hle := h.held 1 h1
  have hi : idx t0 (popped s.q) = idx t0 s.q + 1 := popped_idx (by omega)
  refine ⟨by show (pop s.q false).1 = _; rw [pop_state, hok]; rfl, hh, hi, popped_inv h.inv hh, by omega, fun d hd => ?_⟩
  have := h.held (d + 1) ((popped_heldAt h.inv hh d hd.1).mp hd)
  omega

theorem popLoopS_qb {t0 : TSN} {M : Nat} (hM : M < 2^31) (n : Nat) : ∀ (s : RecvQ.St), QB t0 M s.q →
    QB t0 M (popLoopS n s).q ∧ idx t0 s.q ≤ idx t0 (popLoopS n s).q := by
  induction n with
  | zero => intro s h; exact ⟨h, Nat.le_refl _⟩
  | succ n ih =>
    intro s h
    simp only [popLoopS]
    split
    · rename_i hok
      rw [pop_ok] at hok
      obtain ⟨hq, _, hi, hb⟩ := sPop_qb hM h hok
      obtain ⟨r1, r2⟩ := ih (sPop s false) (by rw [hq]; exact hb)
      refine ⟨r1, ?_⟩
      rw [hq] at r2
      omega
    · exact ⟨h, Nat.le_refl _⟩

theorem popAllQ_qb {t0 : TSN} {M : Nat} (hM : M < 2^31) {q : Q} (h : QB t0 M q) :
    QB t0 M (Receiver.popAllQ q) ∧ idx t0 q ≤ idx t0 (Receiver.popAllQ q) := by
  unfold Receiver.popAllQ popAllS
  exact popLoopS_qb hM _ _ h

/-- one association-level queue operation caused by a DATA chunk with TSN `t` -/
theorem qrun_data_qb {t0 : TSN} {M : Nat} (hM : M < 2^31) {q : Q} (h : QB t0 M q) (t : TSN) (ht : Below t0 M t) (st : Bool) :
    QB t0 M (Receiver.qrun q [.data t st]) ∧ idx t0 q ≤ idx t0 (Receiver.qrun q [.data t st]) := by
  rw [Receiver.qrun_data]
  split
  · have := popAllQ_qb hM (push_qb h hM t ht)
    refine ⟨this.1, ?_⟩
    have e : idx t0 (push q t).1 = idx t0 q := by unfold idx; rw [push_cum]
    rw [← e]; exact this.2
  · exact popAllQ_qb hM h

theorem qrun_push_qb {t0 : TSN} {M : Nat} (hM : M < 2^31) {q : Q} (h : QB t0 M q) (t : TSN) (ht : Below t0 M t) :
    QB t0 M (Receiver.qrun q [.push t]) ∧ idx t0 q ≤ idx t0 (Receiver.qrun q [.push t]) := by
  rw [Receiver.qrun_push]
  refine ⟨push_qb h hM t ht, ?_⟩
  unfold idx; rw [push_cum]; exact Nat.le_refl _

theorem qrun_sack_qb {t0 : TSN} {M : Nat} {q : Q} (h : QB t0 M q) :
    QB t0 M (Receiver.qrun q [.sack]) ∧ idx t0 q ≤ idx t0 (Receiver.qrun q [.sack]) := by
  rw [Receiver.qrun_single q ⟨0, 0, fun _ => False, fun _ => False⟩]
  exact ⟨h.dups _, Nat.le_refl _⟩

/-- a list of queue operations each of which is a `data` / bare `push` of a TSN among the first `M`, or `sack` -/
def OpsBelow (t0 : TSN) (M : Nat) (ops : List RecvQ.Op) : Prop :=
  ∀ op ∈ ops, (∃ t st, op = .data t st ∧ Below t0 M t) ∨ (∃ t, op = .push t ∧ Below t0 M t) ∨ op = .sack

theorem qrun_qb {t0 : TSN} {M : Nat} (hM : M < 2^31) (ops : List RecvQ.Op) : ∀ {q : Q}, QB t0 M q → OpsBelow t0 M ops →
    QB t0 M (Receiver.qrun q ops) ∧ idx t0 q ≤ idx t0 (Receiver.qrun q ops) := by
  induction ops with
  | nil => intro q h _; exact ⟨h, Nat.le_refl _⟩
  | cons op ops ih =>
    intro q h ho
    have e : op :: ops = [op] ++ ops := rfl
    rw [e, Receiver.qrun_append]
    have h1 : QB t0 M (Receiver.qrun q [op]) ∧ idx t0 q ≤ idx t0 (Receiver.qrun q [op]) := by
      rcases ho op (by simp) with ⟨t, st, rfl, hb⟩ | ⟨t, rfl, hb⟩ | rfl
      · exact qrun_data_qb hM h t hb st
      · exact qrun_push_qb hM h t hb
      · exact qrun_sack_qb h
    obtain ⟨r1, r2⟩ := ih h1.1 (fun o hoo => ho o (List.mem_cons_of_mem _ hoo))
    exact ⟨r1, Nat.le_trans h1.2 r2⟩

/-! ## the traces of the receiver's operations -/

/-- a packet of DATA chunks whose TSNs are among the first `M` -/
def PktBelow (t0 : TSN) (M : Nat) (cs : List Receiver.InChunk) : Prop :=
  ∀ ch ∈ cs, ∃ c imm, ch = Receiver.InChunk.data c imm ∧ Below t0 M c.tsn

theorem chunksTrace_below {t0 : TSN} {M : Nat} (cs : List Receiver.InChunk) : ∀ (s : Receiver.St), PktBelow t0 M cs →
    OpsBelow t0 M (Receiver.chunksTrace s cs) := by
  induction cs with
  | nil => intro s _ op hop; simp [Receiver.chunksTrace] at hop
  | cons ch cs ih =>
    intro s hp op hop
    simp only [Receiver.chunksTrace, List.mem_append] at hop
    rcases hop with hop | hop
    · obtain ⟨c, imm, rfl, hb⟩ := hp ch (by simp)
      simp only [Receiver.chunkTrace] at hop
      split at hop
      · cases hop
      · rcases Receiver.dataTrace_ops s c op hop with e | e
        · exact Or.inl ⟨_, _, e, hb⟩
        · exact Or.inr (Or.inl ⟨_, e, hb⟩)
    · exact ih _ (fun x hx => hp x (List.mem_cons_of_mem _ hx)) op hop

/-- the trace of a receiver operation that is not a packet -/
theorem opTrace_nopkt {t0 : TSN} {M : Nat} (s : Receiver.St) (op : Receiver.Op) (h : ∀ cs, op ≠ .pkt cs) :
    OpsBelow t0 M (Receiver.opTrace s op) := by
  intro o ho
  cases op with
  | pkt cs => exact absurd rfl (h cs)
  | gather =>
    simp only [Receiver.opTrace] at ho
    split at ho
    · simp at ho; exact Or.inr (Or.inr ho)
    · cases ho
  | read n b => simp [Receiver.opTrace] at ho
  | accept => simp [Receiver.opTrace] at ho
  | «open» si => simp [Receiver.opTrace] at ho
  | tick d => simp [Receiver.opTrace] at ho
  | setState st => simp [Receiver.opTrace] at ho

theorem opTrace_below {t0 : TSN} {M : Nat} (r : Receiver.St) (o : Receiver.Op)
    (hop : ∀ cs, o = .pkt cs → PktBelow t0 M cs) : OpsBelow t0 M (Receiver.opTrace r o) := by
  by_cases hp : ∃ cs, o = .pkt cs
  · obtain ⟨cs, rfl⟩ := hp
    exact chunksTrace_below cs _ (hop cs rfl)
  · exact opTrace_nopkt r o (fun cs e => hp ⟨cs, e⟩)

theorem step_qb {t0 : TSN} {M : Nat} (hM : M < 2^31) (s : Receiver.St) (op : Receiver.Op) (h : QB t0 M s.pq)
    (hop : ∀ cs, op = .pkt cs → PktBelow t0 M cs) :
    QB t0 M (Receiver.step s op).pq ∧ idx t0 s.pq ≤ idx t0 (Receiver.step s op).pq := by
  rw [Receiver.step_pq]
  exact qrun_qb hM _ h (opTrace_below s op hop)

end NetSysLive
