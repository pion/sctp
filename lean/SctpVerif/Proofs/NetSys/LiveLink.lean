import SctpVerif.Proofs.NetSys.LiveRcv
import SctpVerif.Proofs.NetSys.LiveDefs
import SctpVerif.Proofs.NetSys.IData
import SctpVerif.Proofs.NetSys.PRSnd
import SctpVerif.Proofs.Receiver.Bound
/-!
The invariant that links the two halves of NetSys (`Props/C02net.lean`), as a predicate `Link P W mv s` of the STATE with two
ghosts: `W` = the chunks written so far, `mv` = the chunks moved to in flight so far (the `j`-th carries TSN `P.tsn + j`).
Every step keeps it (`Link.sndStep`, `Link.rcvStep`, along operation lists `Link.run`), the initial state has it
(`link_init`), and what the healed round needs are its consequences: the receive queue of the receiver lies among the TSNs
the sender has assigned (field `qb`), the sender's cumulative ack point plus the length of its in-flight queue is the number
of TSNs assigned (`Link.idx`), hence the truthful SACK of the receiver state is never rejected by the sender's validation
(`Link.truthful_valid`). The statements about `run P (init P) ops` are these at `link_reach`.
-/
namespace NetSysLive
open Gen NetSys SenderProofs SenderTsn

/-- Only `qb` needs serial-number arithmetic, so only it is guarded by the bound: `Link.run` is unconditional, and whoever
projects `qb` supplies the bound. The sender's own invariants (`Seq`, `Core`, …) need `CfgOk` and are not part of it. -/
structure Link (P : Params) (W mv : List Sender.Chunk) (s : St) : Prop where
  minv : MInv P.tsn W mv s.snd
  wire : ∀ c ∈ s.wire, Below P.tsn mv.length c.tsn
  rcfg : s.rcv.cfg = (init P).rcv.cfg
  qinv : RecvQ.Inv s.rcv.pq ∧ s.rcv.pq.maxOff = (init P).rcv.pq.maxOff
  qb : mv.length < 2^31 → QB P.tsn mv.length s.rcv.pq

theorem below_of_moved {t0 : BitVec 32} {W mv : List Sender.Chunk} {s : Sender.St} (h : MInv t0 W mv s) {e : Sender.Chunk}
    (he : FromMoved mv e) : Below t0 mv.length e.tsn := by
  obtain ⟨m, hm, ht, _⟩ := he
  obtain ⟨j, hj, hjm⟩ := List.mem_iff_getElem.mp hm
  exact ⟨j, hj, by rw [← ht, h.tsn j m (by rw [List.getElem?_eq_getElem hj, hjm])]⟩

/-- a sender operation: the ghosts grow by what it writes / moves, the receiver is not touched -/
theorem Link.sndStep {P : Params} {W mv : List Sender.Chunk} {s : St} (h : Link P W mv s) (o : Sender.Op) :
    Link P (W ++ writtenBy s.snd o) (mv ++ movedBy s.snd o)
      { s with snd := Sender.step s.snd o, wire := s.wire ++ emits s.snd o } := by
  obtain ⟨m1, _, m3⟩ := step_minv s.snd o h.minv
  have hle : mv.length ≤ (mv ++ movedBy s.snd o).length := by rw [List.length_append]; omega
  refine ⟨m1, ?_, h.rcfg, h.qinv, fun hN => (h.qb (by omega)).mono hle⟩
  intro c hc
  rcases List.mem_append.mp hc with hc | hc
  · exact (h.wire c hc).mono hle
  · rw [emits_eq] at hc
    exact below_of_moved m1 (m3 c hc)

/-- a receiver operation whose packet (if it is one) is made of history chunks: the sender and the ghosts stay, the receive
queue stays among the assigned TSNs and its cumulative point does not move back -/
theorem Link.rcvStep {P : Params} {W mv : List Sender.Chunk} {s : St} (h : Link P W mv s) (o : Receiver.Op)
    (hpk : ∀ cs, o = .pkt cs → ∀ ch ∈ cs, ∃ c ∈ s.wire, ∃ imm, ch = Receiver.InChunk.data (toWire P c) imm) :
    Link P W mv { s with rcv := Receiver.step s.rcv o } ∧
    (mv.length < 2^31 → idx P.tsn s.rcv.pq ≤ idx P.tsn (Receiver.step s.rcv o).pq) := by
  have hq : ∀ hN : mv.length < 2^31, _ := fun hN => step_qb hN s.rcv o (h.qb hN) fun cs hcs ch hch => by
    obtain ⟨c, hc, imm, rfl⟩ := hpk cs hcs ch hch
    exact ⟨toWire P c, imm, rfl, h.wire c hc⟩
  refine ⟨⟨h.minv, h.wire, (Receiver.step_cfg s.rcv o).trans h.rcfg, ?_, fun hN => (hq hN).1⟩,
    fun hN => (hq hN).2⟩
  show RecvQ.Inv (Receiver.step s.rcv o).pq ∧ (Receiver.step s.rcv o).pq.maxOff = _
  rw [Receiver.step_pq]
  obtain ⟨i1, i2⟩ := Receiver.qrun_inv h.qinv.1 (Receiver.opTrace s.rcv o)
  exact ⟨i1, i2.trans h.qinv.2⟩

/-- a step that is not a sender operation -/
theorem Link.stepNone {P : Params} {W mv : List Sender.Chunk} {s : St} (h : Link P W mv s) (op : Op)
    (hs : sndOp P s.snd op = none) :
    Link P W mv (step P s op) ∧ (mv.length < 2^31 → idx P.tsn s.rcv.pq ≤ idx P.tsn (step P s op).rcv.pq) := by
  simp only [step, hs]
  cases hr : rcvOp P s.wire op with
  | none => exact ⟨h, fun _ => Nat.le_refl _⟩
  | some o =>
    refine h.rcvStep o fun cs hcs => ?_
    subst hcs
    obtain ⟨is, rfl⟩ := rcvOp_pkt P _ op _ hr
    exact packetOf_mem P _ is

/-- ✱ along any operation list from any linked state: the ghosts grow by what the sender operations of the list write and
move, and the receiver's cumulative point does not move back -/
theorem Link.run {P : Params} (ops : List Op) : ∀ {W mv : List Sender.Chunk} {s : St}, Link P W mv s →
    Link P (W ++ written s.snd (sndOps P s.snd ops)) (mv ++ moved s.snd (sndOps P s.snd ops)) (run P s ops) ∧
    ((mv ++ moved s.snd (sndOps P s.snd ops)).length < 2^31 → idx P.tsn s.rcv.pq ≤ idx P.tsn (run P s ops).rcv.pq) := by
  induction ops with
  | nil => intro W mv s h; exact ⟨by simpa [sndOps, written, moved, NetSys.run] using h, fun _ => Nat.le_refl _⟩
  | cons op ops ih =>
    intro W mv s h
    simp only [sndOps, NetSys.run]
    cases hs : sndOp P s.snd op with
    | some o =>
      have h1 := h.sndStep o
      rw [← step_snd_some P s op o hs] at h1
      obtain ⟨r1, r2⟩ := ih h1
      have e : (step P s op).snd = Sender.step s.snd o ∧ (step P s op).rcv = s.rcv := by
        rw [step_snd_some P s op o hs]; exact ⟨rfl, rfl⟩
      rw [e.1] at r1 r2
      rw [e.2] at r2
      simp only [written, moved, ← List.append_assoc]
      exact ⟨r1, r2⟩
    | none =>
      obtain ⟨e1, _⟩ := step_snd_none P s op hs
      obtain ⟨k1, k2⟩ := h.stepNone op hs
      obtain ⟨r1, r2⟩ := ih k1
      rw [e1] at r1 r2
      exact ⟨r1, fun hN => Nat.le_trans (k2 (by rw [List.length_append] at hN; omega)) (r2 hN)⟩

theorem link_init (P : Params) : Link P [] [] (init P) := by
  have I : RecvQ.Inv (init P).rcv.pq := RecvQ.init_inv (RecvQ.new_ring _) _
  refine ⟨init_minv _ _ _, fun c hc => (by cases hc), rfl, ⟨I, rfl⟩,
    fun _ => ⟨I, by simp [idx, init, Receiver.init, RecvQ.init], fun d hd => ?_⟩⟩
  exfalso
  have := I.size_zero_bits rfl (RecvQ.pos (init P).rcv.pq.W ((init P).rcv.pq.cum + BitVec.ofNat 32 d))
  rw [hd.2.2] at this
  exact Bool.noConfusion this

/-- every reachable state is linked, with the ghosts of the run -/
theorem link_reach (P : Params) (ops : List Op) :
    Link P (written (init P).snd (sndOps P (init P).snd ops)) (moved (init P).snd (sndOps P (init P).snd ops))
      (run P (init P) ops) := by
  simpa using (Link.run ops (link_init P)).1

/-! ## what a linked state satisfies -/

/-- the sender's cumulative ack point covers `assigned − in-flight` TSNs -/
theorem Link.idx {P : Params} {W mv : List Sender.Chunk} {s : St} (h : Link P W mv s) (hs : Seq s.snd) (hN : mv.length < 2^31)
    (hsm : s.snd.inflight.length < 2^31) : (s.snd.cumAck - (P.tsn - 1)).toNat + s.snd.inflight.length = mv.length :=
  SenderPR.off_cumAck hs h.minv hN hsm

theorem Link.budget {P : Params} {W mv : List Sender.Chunk} {s : St} (h : Link P W mv s) :
    s.snd.pending.length + mv.length ≤ W.length := by
  obtain ⟨D, c⟩ := h.minv.cnt
  have := c (fun _ => true)
  simp only [List.map_append, List.countP_append, List.countP_true, List.length_map] at this
  omega

theorem Link.mvSmall {P : Params} {W mv : List Sender.Chunk} {s : St} (h : Link P W mv s) (hW : W.length < 2^31) :
    mv.length < 2^31 := by
  have := h.budget; omega

theorem Link.maxOff {P : Params} {W mv : List Sender.Chunk} {s : St} (h : Link P W mv s) :
    1 ≤ s.rcv.pq.maxOff.toNat ∧ s.rcv.pq.maxOff.toNat < 2^16 := by
  rw [h.qinv.2]
  exact ⟨(Receiver.init_binv 0 P.maxBuf P.maxEntries P.cfg.useInterleaving P.useFwd P.useIFwd P.ackMode P.tsn
    (by have := P.maxBuf.isLt; omega)).mo, (RecvQ.assoc_window P.maxBuf).2⟩

/-- ✱ the truthful SACK of a linked state is stale or passes the sender's validation -/
theorem Link.truthful_valid {P : Params} {W mv : List Sender.Chunk} {σ : St} (h : Link P W mv σ) (hseq : Seq σ.snd)
    (hN : mv.length < 2^31) (hsm : σ.snd.inflight.length < 2^31) :
    sna32GT σ.snd.cumAck σ.rcv.pq.cum = true ∨ Sender.validate σ.snd σ.rcv.pq.cum (RecvQ.gaps σ.rcv.pq) = true := by
  have hqb := h.qb hN
  have hidx := h.idx hseq hN hsm
  have hmo := h.maxOff.2
  have hI := h.qinv.1
  generalize σ.snd = s at *
  generalize σ.rcv.pq = q at *
  generalize mv.length = M at *
  have hA : (q.cum - (P.tsn - 1)).toNat ≤ M := hqb.cumle
  rcases Nat.lt_or_ge (q.cum - (P.tsn - 1)).toNat (s.cumAck - (P.tsn - 1)).toNat with hlt | hge
  · exact Or.inl (Sna.gt32_of_off_lt (P.tsn - 1) _ _ hlt (by omega))
  · right
    -- a TSN beyond the sender's cumulative ack point and among the TSNs assigned is in flight
    have inF : ∀ d : BitVec 32, (s.cumAck - (P.tsn - 1)).toNat < (q.cum - (P.tsn - 1)).toNat + d.toNat →
        (q.cum - (P.tsn - 1)).toNat + d.toNat ≤ M → (Sender.get s.inflight (q.cum + d)).isSome = true := by
      intro d h1 h2
      have e1 := Sna.off_add (P.tsn - 1) q.cum d (by omega)
      have e2 := Sna.off_succ (P.tsn - 1) s.cumAck (by omega)
      rw [get_contig hseq.1, decide_eq_true_eq, RecvQ.off_rebase _ (P.tsn - 1) _ (by omega), e1, e2]
      omega
    obtain ⟨g1, _, _, _⟩ := RecvQ.gaps_spec hI hmo
    simp only [Sender.validate, Bool.and_eq_true, List.all_eq_true]
    constructor
    · split
      · rename_i hl
        have hl' := (Sna.lt32_iff_off (P.tsn - 1) _ _ (by omega) (by omega)).mp hl
        have h0 := inF 0#32 (by simpa using hl') (by simpa using hA)
        rw [BitVec.add_zero] at h0
        rw [Bool.and_eq_true, get_contig hseq.1, BitVec.sub_self, decide_eq_true_eq]
        exact ⟨by simp only [BitVec.toNat_zero]; omega, h0⟩
      · rfl
    · rintro ⟨st, en⟩ hb
      obtain ⟨b1, b2, _, b4⟩ := g1 _ hb
      have hh : (q.cum - (P.tsn - 1)).toNat + en.toNat ≤ M := hqb.held _ (b4 _ b2 (Nat.le_refl _))
      have e1 : (BitVec.setWidth 32 st).toNat = st.toNat := BitVec.toNat_setWidth_of_le (by decide)
      have e2 : (BitVec.setWidth 32 en).toNat = en.toNat := BitVec.toNat_setWidth_of_le (by decide)
      simp only at b1 b2 hh ⊢
      refine ⟨⟨⟨?_, ?_⟩, inF _ (by omega) (by omega)⟩, ?_⟩
      · rw [bne_iff_ne]; rintro rfl; simp at b1
      · rw [decide_eq_true_eq, BitVec.le_def]; exact b2
      · split
        · exact inF _ (by omega) (by omega)
        · rfl

/-! ## operation lists that write nothing -/

def NoWrite : Op → Prop
  | .write _ _ => False
  | _ => True

theorem written_noWrite (P : Params) (ops : List Op) (h : ∀ op ∈ ops, NoWrite op) : ∀ s, written s (sndOps P s ops) = [] := by
  induction ops with
  | nil => intro s; rfl
  | cons op ops ih =>
    intro s
    have ih' := ih fun o ho => h o (List.mem_cons_of_mem _ ho)
    simp only [sndOps]
    cases hs : sndOp P s op with
    | none => exact ih' s
    | some o =>
      rcases sndOp_eq_some.1 hs with ⟨si, ppi, rfl, _⟩ | ⟨rfl, hw⟩
      · exact absurd (h _ List.mem_cons_self) id
      · simp only [written, ih', List.append_nil]
        cases o with
        | write a b c => exact absurd rfl (hw a b c)
        | _ => rfl

/-- along operations that write nothing the ghost `W` stays, so `W.length < 2^31` bounds the TSNs assigned at every state on
the way (`Link.budget`): it is the only bound such a run needs -/
theorem Link.run_quiet {P : Params} {W mv : List Sender.Chunk} {s : St} (h : Link P W mv s) (ops : List Op)
    (hq : ∀ op ∈ ops, NoWrite op) :
    Link P W (mv ++ moved s.snd (sndOps P s.snd ops)) (NetSys.run P s ops) ∧
      (W.length < 2^31 → NetSysLive.idx P.tsn s.rcv.pq ≤ NetSysLive.idx P.tsn (NetSys.run P s ops).rcv.pq) := by
  obtain ⟨r1, r2⟩ := Link.run ops h
  rw [written_noWrite P ops hq, List.append_nil] at r1
  exact ⟨r1, fun hW => r2 (r1.mvSmall hW)⟩

/-! ## reachable states: `Link` at `link_reach`, the ghost lengths being `chunksWritten` and `tsnsUsed` -/

theorem moved_append (s : Sender.St) (o1 o2 : List Sender.Op) : moved s (o1 ++ o2) = moved s o1 ++ moved (Sender.run s o1) o2 := by
  induction o1 generalizing s with
  | nil => rfl
  | cons op o1 ih => simp only [List.cons_append, moved, Sender.run, ih, List.append_assoc]

theorem tsnsUsed_append (P : Params) (o1 o2 : List Op) :
    tsnsUsed P (o1 ++ o2) = (moved (init P).snd (sndOps P (init P).snd o1) ++
      moved (run P (init P) o1).snd (sndOps P (run P (init P) o1).snd o2)).length := by
  unfold tsnsUsed
  rw [sndOps_append, moved_append, (run_snd P (init P) o1).1]

theorem tsnsUsed_mono (P : Params) (o1 o2 : List Op) : tsnsUsed P o1 ≤ tsnsUsed P (o1 ++ o2) := by
  rw [tsnsUsed_append, List.length_append]; exact Nat.le_add_right _ _

theorem tsnsUsed_le (P : Params) (ops : List Op) : tsnsUsed P ops ≤ chunksWritten P ops :=
  moved_le_written P.cfg P.tsn P.peerRwnd _

/-- every chunk of the history carries one of the TSNs assigned so far -/
theorem wire_below (P : Params) (ops : List Op) : ∀ c ∈ (run P (init P) ops).wire, Below P.tsn (tsnsUsed P ops) c.tsn :=
  (link_reach P ops).wire

theorem init_qb (P : Params) : QB P.tsn 0 (init P).rcv.pq :=
  (link_init P).qb (by decide)

theorem step_rcv_qb (P : Params) (ops : List Op) (op : Op) (M : Nat) (hM : M < 2^31) (hle : tsnsUsed P ops ≤ M)
    (h : QB P.tsn M (run P (init P) ops).rcv.pq) :
    QB P.tsn M (step P (run P (init P) ops) op).rcv.pq ∧
    idx P.tsn (run P (init P) ops).rcv.pq ≤ idx P.tsn (step P (run P (init P) ops) op).rcv.pq := by
  refine step_rcv_cases P _ op (fun r => QB P.tsn M r.pq ∧ idx P.tsn (run P (init P) ops).rcv.pq ≤ idx P.tsn r.pq)
    ⟨h, Nat.le_refl _⟩ fun o hpk => step_qb hM _ o h fun cs hcs ch hch => ?_
  obtain ⟨c, hc, imm, rfl⟩ := hpk cs hcs ch hch
  exact ⟨toWire P c, imm, rfl, (wire_below P ops c hc).mono hle⟩

/-- ✱ **every TSN the receiver accepted was assigned by the sender**: in every reachable state the receive queue lies among
the first `tsnsUsed` TSNs -/
theorem run_qb (P : Params) (ops : List Op) (hN : tsnsUsed P ops < 2^31) :
    QB P.tsn (tsnsUsed P ops) (run P (init P) ops).rcv.pq :=
  (link_reach P ops).qb hN

theorem run_pq_maxOff (P : Params) (ops : List Op) :
    (run P (init P) ops).rcv.pq.maxOff.toNat < 2^16 ∧ RecvQ.Inv (run P (init P) ops).rcv.pq :=
  ⟨(link_reach P ops).maxOff.2, (link_reach P ops).qinv.1⟩

theorem run_rcv_cfg (P : Params) (ops : List Op) :
    (run P (init P) ops).rcv.scp = false ∧ (run P (init P) ops).rcv.il = P.cfg.useInterleaving ∧
    1 ≤ (run P (init P) ops).rcv.pq.maxOff.toNat :=
  have h := link_reach P ops
  ⟨congrArg Receiver.Cfg.scp h.rcfg, congrArg Receiver.Cfg.il h.rcfg, h.maxOff.1⟩

/-- the receiver's cumulative point never moves backwards along a run -/
theorem run_idx_mono (P : Params) (ops l : List Op) (hN : tsnsUsed P (ops ++ l) < 2^31) :
    idx P.tsn (run P (init P) ops).rcv.pq ≤ idx P.tsn (run P (init P) (ops ++ l)).rcv.pq := by
  rw [NetSys.run_append]
  exact (Link.run l (link_reach P ops)).2 (by rw [← tsnsUsed_append]; exact hN)

theorem snd_run (P : Params) (ops : List Op) :
    (run P (init P) ops).snd = Sender.run (Sender.init P.cfg P.tsn P.peerRwnd) (sndOps P (init P).snd ops) :=
  (run_snd P (init P) ops).1

theorem snd_seq (P : Params) (ops : List Op) (hc : CfgOk P.cfg) : Seq (run P (init P) ops).snd := by
  rw [snd_run]
  exact run_seq _ _ (init_seq _ _ _) (init_win _ _ _ hc)

/-- the sender's cumulative ack point covers `tsnsUsed − in-flight` TSNs -/
theorem snd_idx (P : Params) (ops : List Op) (hc : CfgOk P.cfg) (hN : tsnsUsed P ops < 2^31)
    (hsm : (run P (init P) ops).snd.inflight.length < 2^31) :
    ((run P (init P) ops).snd.cumAck - (P.tsn - 1)).toNat + (run P (init P) ops).snd.inflight.length = tsnsUsed P ops :=
  (link_reach P ops).idx (snd_seq P ops hc) hN hsm

/-- ✱ the truthful SACK of the current receiver state is stale or passes the sender's validation -/
theorem truthful_valid (P : Params) (ops : List Op) (hc : CfgOk P.cfg) (hN : tsnsUsed P ops < 2^31)
    (hsm : (run P (init P) ops).snd.inflight.length < 2^31) :
    sna32GT (run P (init P) ops).snd.cumAck (run P (init P) ops).rcv.pq.cum = true ∨
    Sender.validate (run P (init P) ops).snd (run P (init P) ops).rcv.pq.cum (RecvQ.gaps (run P (init P) ops).rcv.pq) = true :=
  (link_reach P ops).truthful_valid (snd_seq P ops hc) hN hsm

end NetSysLive
