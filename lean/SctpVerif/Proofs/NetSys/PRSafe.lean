import SctpVerif.Model.NetSysPR
import SctpVerif.Proofs.NetSys.PRSnd
import SctpVerif.Proofs.Receiver.Dedup
import SctpVerif.Proofs.NetSys.Proj
/-!
The composed invariant of `NetSysPR` (sender + history network with FORWARD-TSN items + receiver) behind
`C07_netsys_skip_is_safe`: with SOUND SACKs, the sender's cumulative ack point never runs ahead of the receiver's; every
FORWARD-TSN in the history covers, above the receiver's cumulative point, abandoned chunks only; every TSN at or below
the receiver's cumulative point was handed to a reassembly queue or is abandoned.
-/
namespace NetSysPR
open NetSys (Params Op toWire sndOp)
open SenderProofs SenderTsn

/-- the TSNs of the DATA chunks of a packet that `handleData` hands to `pushPayloadDataToStream` (`Receiver.pushes`) -/
def pushedIn (P : Params) : Receiver.St → List (Item × Bool) → List (BitVec 32)
  | _, [] => []
  | r, x :: rest =>
    (match x.1 with
     | .data c => if Receiver.pushes r (toWire P c) then [c.tsn] else []
     | .fwd _ => []) ++ pushedIn P (Receiver.handleChunk r (inChunk P x.1 x.2)) rest

def pushedBy (P : Params) (s : St) : Op → List (BitVec 32)
  | .deliver is => pushedIn P (Receiver.chunksStart s.rcv) (pick s.wire is)
  | _ => []

/-- every TSN the receiver handed to a reassembly queue along the run, in order -/
def pushed (P : Params) : St → List Op → List (BitVec 32)
  | _, [] => []
  | s, op :: ops => pushedBy P s op ++ pushed P (step P s op) ops

def movedBy (P : Params) (s : St) (op : Op) : List Sender.Chunk :=
  match sndOp P s.snd op with
  | some o => SenderTsn.movedBy s.snd o
  | none => []

/-- every chunk the sender moved to in flight along the run, in TSN order -/
def moved (P : Params) : St → List Op → List Sender.Chunk
  | _, [] => []
  | s, op :: ops => movedBy P s op ++ moved P (step P s op) ops

/-- the `j`-th moved chunk is abandoned -/
def Ab (s : Sender.St) (mv : List Sender.Chunk) (j : Nat) : Prop := ∀ m, mv[j]? = some m → s.abandoned m = true

/-- the FORWARD-TSN with new cumulative TSN `nc` covers, at or above offset `A`, abandoned chunks only -/
def Cov (t0 : BitVec 32) (s : Sender.St) (mv : List Sender.Chunk) (A : Nat) (nc : BitVec 32) : Prop :=
  ∃ n, nc = t0 + BitVec.ofNat 32 n ∧ n < mv.length ∧ ∀ j, j ≤ n → Ab s mv j ∨ j < A

/-- every entry of a FORWARD-TSN / I-FORWARD-TSN names an abandoned moved chunk at or below its new cumulative TSN
(FORWARD-TSN: an ORDERED chunk, by stream and SSN; I-FORWARD-TSN: by stream, U flag and MID) -/
def Ent (s : Sender.St) (mv : List Sender.Chunk) : Sender.Fwd → Prop
  | .fwd nc es => ∀ e ∈ es, ∃ m ∈ mv, s.abandoned m = true ∧ Gen.sna32LTE m.tsn nc = true ∧
      m.unordered = false ∧ m.si = e.1 ∧ m.ssn = e.2
  | .ifwd nc es => ∀ e ∈ es, ∃ m ∈ mv, s.abandoned m = true ∧ Gen.sna32LTE m.tsn nc = true ∧
      (m.si, m.unordered) = e.1 ∧ m.mid = e.2

structure Inv (P : Params) (σ : St) (mv : List Sender.Chunk) (G : List (BitVec 32)) (a : Nat) (R : RecvQ.St) : Prop where
  snd : SenderPR.SInv P.tsn σ.snd mv a
  rcv : ReceiverPR.RInv P.tsn σ.rcv R mv.length (Ab σ.snd mv) G
  ale : a ≤ R.h.A
  wdata : ∀ c, Item.data c ∈ σ.wire → FromMoved mv c
  wfwd : ∀ f, Item.fwd f ∈ σ.wire → Cov P.tsn σ.snd mv R.h.A (fwdCum f)
  went : ∀ f, Item.fwd f ∈ σ.wire → Ent σ.snd mv f

theorem Ent.mono {s s' : Sender.St} {mv mv' : List Sender.Chunk} {f : Sender.Fwd}
    (hab : AbLe s s') (hmv : ∃ x, mv' = mv ++ x) (h : Ent s mv f) : Ent s' mv' f := by
  obtain ⟨x, rfl⟩ := hmv
  cases f with
  | fwd nc es =>
    intro e he
    obtain ⟨m, hm, h1, h2⟩ := h e he
    exact ⟨m, List.mem_append_left _ hm, hab.abandoned rfl h1, h2⟩
  | ifwd nc es =>
    intro e he
    obtain ⟨m, hm, h1, h2⟩ := h e he
    exact ⟨m, List.mem_append_left _ hm, hab.abandoned rfl h1, h2⟩

theorem Ab.mono {s s' : Sender.St} {mv mv' : List Sender.Chunk} (hab : AbLe s s') (hmv : ∃ x, mv' = mv ++ x) {j : Nat}
    (hj : j < mv.length) (h : Ab s mv j) : Ab s' mv' j := by
  obtain ⟨x, rfl⟩ := hmv
  intro m hm
  rw [List.getElem?_append_left hj] at hm
  exact hab.abandoned rfl (h m hm)

theorem Cov.mono {t0 : BitVec 32} {s s' : Sender.St} {mv mv' : List Sender.Chunk} {A A' : Nat} {nc : BitVec 32}
    (hab : AbLe s s') (hmv : ∃ x, mv' = mv ++ x) (hA : A ≤ A') (h : Cov t0 s mv A nc) : Cov t0 s' mv' A' nc := by
  obtain ⟨n, h1, h2, h3⟩ := h
  refine ⟨n, h1, ?_, ?_⟩
  · obtain ⟨x, rfl⟩ := hmv; rw [List.length_append]; omega
  · intro j hj
    rcases h3 j hj with h | h
    · exact Or.inl (Ab.mono hab hmv (by omega) h)
    · exact Or.inr (by omega)

theorem sndOp_not_deliver {P : Params} {s : Sender.St} {op : Op} {o : Sender.Op} (h : sndOp P s op = some o) :
    ∀ σ : St, pushedBy P σ op = [] := by
  intro σ
  cases op with
  | deliver is => simp [sndOp] at h
  | _ => rfl

theorem emits_data (s : Sender.St) (o : Sender.Op) (c : Sender.Chunk) (h : Item.data c ∈ emits s o) : c ∈ emittedBy s o := by
  cases o with
  | gather orc sel =>
    simp only [emits, List.mem_append, List.mem_map] at h
    rcases h with ⟨c', hc', he⟩ | h
    · cases he; exact hc'
    · split at h <;> simp at h
  | _ => simp [emits] at h

theorem emits_fwd (s : Sender.St) (o : Sender.Op) (f : Sender.Fwd) (h : Item.fwd f ∈ emits s o) :
    ∃ orc sel, o = .gather orc sel ∧ (Sender.gather s orc sel).2.fwd = some f := by
  cases o with
  | gather orc sel =>
    refine ⟨orc, sel, rfl, ?_⟩
    simp only [emits, List.mem_append, List.mem_map] at h
    rcases h with ⟨c', _, he⟩ | h
    · cases he
    · split at h
      · rename_i f' hf'
        simp only [List.mem_singleton, Item.fwd.injEq] at h
        rw [hf', h]
      · simp at h
  | _ => simp [emits] at h

/-- only an established sender emits a FORWARD-TSN -/
theorem gather_fwd_est {s : Sender.St} {orc : Sender.Oracle} {sel : List Nat} {f : Sender.Fwd}
    (h : (Sender.gather s orc sel).2.fwd = some f) : s.established = true := by
  cases he : s.established with
  | true => rfl
  | false =>
    have : (Sender.gather s orc sel).2.fwd = none := by unfold Sender.gather; simp [he]
    rw [this] at h; cases h

theorem Inv.sndStep {P : Params} {σ : St} {mv : List Sender.Chunk} {G : List (BitVec 32)} {a : Nat} {R : RecvQ.St}
    (h : Inv P σ mv G a R) (op : Op) (o : Sender.Op) (ho : sndOp P σ.snd op = some o)
    (hsound : sackSoundOp σ op = true)
    (hmv : (mv ++ SenderTsn.movedBy σ.snd o).length < 2^31) (hinf : (Sender.step σ.snd o).inflight.length < 2^31) :
    ∃ a', Inv P { σ with snd := Sender.step σ.snd o, wire := σ.wire ++ emits σ.snd o } (mv ++ SenderTsn.movedBy σ.snd o) G a' R := by
  obtain ⟨a', hs', hle, hcase⟩ := h.snd.step o hmv hinf
  have habLe : AbLe σ.snd (Sender.step σ.snd o) := step_abLe σ.snd o
  have hpre : ∃ x, mv ++ SenderTsn.movedBy σ.snd o = mv ++ x := ⟨_, rfl⟩
  have hN := h.snd.small
  have hA := h.rcv.A_le
  have hale' : a' ≤ R.h.A := by
    rcases hcase with rfl | ⟨cum, arwnd, gaps, marks, rfl, hcum⟩
    · exact h.ale
    · have hop := NetSys.sndOp_sack ho
      subst hop
      have ha' : a' < 2^31 := by have := hs'.alen; have := hs'.small; omega
      have ec : (cum - (P.tsn - 1)).toNat = a' := Sna.off_of_eq (by omega) hcum
      have eq : (σ.rcv.pq.cum - (P.tsn - 1)).toNat = R.h.A := by rw [h.rcv.pq]; exact Sna.off_of_eq (by omega) h.rcv.cum
      have := (Sna.lte32_iff_off (P.tsn - 1) cum σ.rcv.pq.cum (by omega) (by omega)).mp hsound
      omega
  obtain ⟨W, hW⟩ := h.snd.minv
  obtain ⟨_, _, hem⟩ := step_minv σ.snd o hW
  refine ⟨a', hs', ?_, hale', ?_, ?_, ?_⟩
  · exact h.rcv.mono (by rw [List.length_append]; omega) (fun j hj hab => Ab.mono habLe hpre hj hab) (fun x hx => hx)
  · intro c hc
    rcases List.mem_append.1 hc with hc | hc
    · exact (h.wdata c hc).mono (fun m hm => List.mem_append_left _ hm)
    · exact hem c (emits_data σ.snd o c hc)
  · intro f hf
    rcases List.mem_append.1 hf with hf | hf
    · exact (h.wfwd f hf).mono habLe hpre (Nat.le_refl _)
    · obtain ⟨orc, sel, rfl, hfw⟩ := emits_fwd σ.snd o f hf
      have hest := gather_fwd_est hfw
      obtain ⟨g1, g2⟩ := gather_fwd σ.snd orc sel hest
      have hsome : (Sender.gather σ.snd orc sel).2.fwd.isSome = true := by rw [hfw]; rfl
      have hgt := (g1.1 hsome).2.1
      have hfe := g2 f hfw
      obtain ⟨_, _, r3, r4, _⟩ := gather_grel σ.snd orc sel
      have hcum : fwdCum f = (Sender.step σ.snd (.gather orc sel)).advPeerAck := by
        show _ = (Sender.gather σ.snd orc sel).1.advPeerAck
        rw [r3, hfe]; split <;> rfl
      have hgt' : Gen.sna32GT (Sender.step σ.snd (.gather orc sel)).advPeerAck (Sender.step σ.snd (.gather orc sel)).cumAck = true := by
        show Gen.sna32GT (Sender.gather σ.snd orc sel).1.advPeerAck (Sender.gather σ.snd orc sel).1.cumAck = true
        rw [r3, r4]; exact hgt
      obtain ⟨n, c1, c2, c3⟩ := hs'.covers hgt'
      refine ⟨n, by rw [hcum]; exact c1, c2, fun j hj => ?_⟩
      rcases Nat.lt_or_ge j a' with hlt | hge
      · exact Or.inr (by omega)
      · left; intro m hm
        rcases c3 j m hj hm with h' | h'
        · exact h'
        · omega
  · intro f hf
    rcases List.mem_append.1 hf with hf | hf
    · exact (h.went f hf).mono habLe hpre
    · obtain ⟨orc, sel, rfl, hfw⟩ := emits_fwd σ.snd o f hf
      have hest := gather_fwd_est hfw
      have hfe := (gather_fwd σ.snd orc sel hest).2 f hfw
      obtain ⟨_, _, r3, _, _⟩ := gather_grel σ.snd orc sel
      have hsc := hs'.scanned
      have hadv : (Sender.step σ.snd (.gather orc sel)).advPeerAck = σ.snd.advPeerAck := r3
      rw [hadv] at hsc
      rw [hfe]
      split
      · intro e he
        obtain ⟨c, hc, c1, c2⟩ := (ifwdStreams_spec _).2.1 e he
        obtain ⟨m, hm, m1, m2, m3⟩ := hsc c hc
        have f1 : m.si = c.si := congrArg Frag.si m3
        have f2 : m.unordered = c.unordered := congrArg Frag.unordered m3
        have f3 : m.mid = c.mid := congrArg Frag.mid m3
        exact ⟨m, hm, m1, m2, by rw [f1, f2]; exact c1, by rw [f3]; exact c2⟩
      · intro e he
        obtain ⟨c, hc, c1, c2, c3⟩ := (fwdStreams_spec _).2.1 e he
        obtain ⟨m, hm, m1, m2, m3⟩ := hsc c hc
        have f1 : m.si = c.si := congrArg Frag.si m3
        have f2 : m.unordered = c.unordered := congrArg Frag.unordered m3
        have f3 : m.ssn = c.ssn := congrArg Frag.ssn m3
        exact ⟨m, hm, m1, m2, by rw [f2]; exact c1, by rw [f1]; exact c2, by rw [f3]; exact c3⟩

/-- the FORWARD-TSN / I-FORWARD-TSN a history item decodes to: its trace is empty or moves the point to `fwdCum` -/
theorem inFwd_cases (r : Receiver.St) (f : Sender.Fwd) :
    (Receiver.chunkTrace r (inFwd f) = [] ∨ Receiver.chunkTrace r (inFwd f) = [.fwd (fwdCum f)]) ∧
    (Receiver.chunkTrace r (inFwd f) = [.fwd (fwdCum f)] → Gen.sna32LTE (fwdCum f) r.pq.cum = false) := by
  cases f with
  | fwd nc es => exact Receiver.fwdTrace_cases r nc _
  | ifwd nc es => exact Receiver.ifwdTrace_cases r nc _

theorem chunk_A_mono (r : Receiver.St) (ch : Receiver.InChunk) {R : RecvQ.St} (g : RecvQ.GInv R) :
    R.h.A ≤ (RecvQ.run R (Receiver.chunkTrace r ch)).h.A := by
  rcases Receiver.chunkTrace_short r ch with h | ⟨op, h, hn⟩
  · rw [h]; exact Nat.le_refl _
  · rw [h, Receiver.run_single]
    exact (RecvQ.step_fwd g op (fun c hc => by rw [hc] at hn; exact hn)).mono

def pushedOne (P : Params) (r : Receiver.St) (x : Item × Bool) : List (BitVec 32) :=
  match x.1 with
  | .data c => if Receiver.pushes r (toWire P c) then [c.tsn] else []
  | .fwd _ => []

/-- ✱ one history item reaches the receiver -/
theorem Inv.itemStep {P : Params} {σ : St} {mv : List Sender.Chunk} {G : List (BitVec 32)} {a : Nat} {R : RecvQ.St}
    (h : Inv P σ mv G a R) (x : Item × Bool) (hx : x.1 ∈ σ.wire) :
    Inv P { σ with rcv := Receiver.handleChunk σ.rcv (inChunk P x.1 x.2) } mv (G ++ pushedOne P σ.rcv x) a
      (RecvQ.run R (Receiver.chunkTrace σ.rcv (inChunk P x.1 x.2))) := by
  have hN := h.snd.small
  have hmono := chunk_A_mono σ.rcv (inChunk P x.1 x.2) h.rcv.ginv
  obtain ⟨W, hW⟩ := h.snd.minv
  have hrcv : ReceiverPR.RInv P.tsn (Receiver.handleChunk σ.rcv (inChunk P x.1 x.2))
      (RecvQ.run R (Receiver.chunkTrace σ.rcv (inChunk P x.1 x.2))) mv.length (Ab σ.snd mv) (G ++ pushedOne P σ.rcv x) := by
    obtain ⟨it, imm⟩ := x
    cases it with
    | data c =>
      obtain ⟨m, hm, ht, _⟩ := h.wdata c hx
      obtain ⟨j, hj⟩ := List.getElem?_of_mem hm
      have hjl : j < mv.length := (List.getElem?_eq_some_iff.1 hj).1
      have htsn : (toWire P c).tsn = P.tsn + BitVec.ofNat 32 j := by
        show c.tsn = _
        rw [← ht]; exact hW.tsn j m hj
      exact h.rcv.data hN (toWire P c) imm j hjl htsn
    | fwd f =>
      obtain ⟨n, c1, c2, c3⟩ := h.wfwd f hx
      have hc := inFwd_cases σ.rcv f
      have := h.rcv.fwdStep hN (inFwd f) (fwdCum f) hc.1 hc.2 n c2 c1 c3
      simpa [pushedOne, inChunk] using this
  refine ⟨h.snd, hrcv, by have := h.ale; omega, h.wdata, fun f hf => (h.wfwd f hf).mono (AbLe.refl _) ⟨[], by simp⟩ hmono, h.went⟩

theorem pick_mem (w : List Item) (is : List (Nat × Bool)) : ∀ x ∈ pick w is, x.1 ∈ w := by
  intro x hx
  simp only [pick, List.mem_filterMap] at hx
  obtain ⟨y, _, hy⟩ := hx
  cases hw : w[y.1]? with
  | none => simp [hw] at hy
  | some it =>
    simp only [hw, Option.map_some, Option.some.injEq] at hy
    rw [← hy]; exact List.mem_of_getElem? hw

/-- the ghost receive queue after the items `xs` -/
def ghostItems (P : Params) : Receiver.St → RecvQ.St → List (Item × Bool) → RecvQ.St
  | _, R, [] => R
  | r, R, x :: xs => ghostItems P (Receiver.handleChunk r (inChunk P x.1 x.2))
      (RecvQ.run R (Receiver.chunkTrace r (inChunk P x.1 x.2))) xs

theorem Inv.itemsStep {P : Params} (xs : List (Item × Bool)) :
    ∀ {σ : St} {mv : List Sender.Chunk} {G : List (BitVec 32)} {a : Nat} {R : RecvQ.St},
    Inv P σ mv G a R → (∀ x ∈ xs, x.1 ∈ σ.wire) →
    Inv P { σ with rcv := (xs.map fun x => inChunk P x.1 x.2).foldl Receiver.handleChunk σ.rcv } mv (G ++ pushedIn P σ.rcv xs) a
      (ghostItems P σ.rcv R xs) := by
  induction xs with
  | nil => intro σ mv G a R h _; simpa [pushedIn, ghostItems] using h
  | cons x xs ih =>
    intro σ mv G a R h hx
    have h1 := h.itemStep x (hx x List.mem_cons_self)
    have h2 := ih h1 (fun y hy => hx y (List.mem_cons_of_mem _ hy))
    simp only [List.map_cons, List.foldl_cons, pushedIn, ghostItems]
    rw [← List.append_assoc]
    exact h2

theorem Inv.setRcv {P : Params} {σ : St} {mv : List Sender.Chunk} {G : List (BitVec 32)} {a : Nat} {R : RecvQ.St}
    (h : Inv P σ mv G a R) (r : Receiver.St) (hpq : r.pq = σ.rcv.pq) : Inv P { σ with rcv := r } mv G a R :=
  ⟨h.snd, h.rcv.same_pq r hpq, h.ale, h.wdata, h.wfwd, h.went⟩

theorem Inv.otherStep {P : Params} {σ : St} {mv : List Sender.Chunk} {G : List (BitVec 32)} {a : Nat} {R : RecvQ.St}
    (h : Inv P σ mv G a R) (ro : Receiver.Op) (hop : ∀ cs, ro ≠ .pkt cs) :
    ∃ a' R', Inv P { σ with rcv := Receiver.step σ.rcv ro } mv G a' R' := by
  refine ⟨a, _, h.snd, (h.rcv.other ro hop).1, ?_, h.wdata, ?_, h.went⟩
  · rw [(h.rcv.other ro hop).2]; exact h.ale
  · rw [(h.rcv.other ro hop).2]; exact h.wfwd

/-- ✱ one operation of NetSysPR keeps the invariant -/
theorem Inv.opStep {P : Params} {σ : St} {mv : List Sender.Chunk} {G : List (BitVec 32)} {a : Nat} {R : RecvQ.St}
    (h : Inv P σ mv G a R) (op : Op) (hsound : sackSoundOp σ op = true)
    (hmv : (mv ++ movedBy P σ op).length < 2^31) (hinf : (step P σ op).snd.inflight.length < 2^31) :
    ∃ a' R', Inv P (step P σ op) (mv ++ movedBy P σ op) (G ++ pushedBy P σ op) a' R' := by
  unfold NetSysPR.step NetSysPR.movedBy at *
  cases ho : sndOp P σ.snd op with
  | some o =>
    simp only [ho] at hmv hinf ⊢
    obtain ⟨a', h'⟩ := h.sndStep op o ho hsound hmv hinf
    rw [sndOp_not_deliver ho σ, List.append_nil]
    exact ⟨a', R, h'⟩
  | none =>
    simp only [ho, List.append_nil] at hmv hinf ⊢
    cases op with
    | write si ppi => simp [sndOp] at ho
    | snd so =>
      simp only [rcvOp, pushedBy, List.append_nil]
      exact ⟨a, R, h⟩
    | deliver is =>
      simp only [rcvOp, pushedBy, Receiver.step, Receiver.packet]
      have h0 := h.setRcv (Receiver.chunksStart σ.rcv) rfl
      have h1 := Inv.itemsStep (pick σ.wire is) h0 (pick_mem σ.wire is)
      have h2 := h1.setRcv (Receiver.chunksEnd (((pick σ.wire is).map fun x => inChunk P x.1 x.2).foldl Receiver.handleChunk (Receiver.chunksStart σ.rcv)))
        (Receiver.chunksEnd_pq _)
      exact ⟨a, _, h2⟩
    | rcv ro =>
      cases ro with
      | pkt cs => simp only [rcvOp, pushedBy, List.append_nil]; exact ⟨a, R, h⟩
      | _ => simp only [rcvOp, pushedBy, List.append_nil]; exact h.otherStep _ (fun cs hc => by cases hc)

theorem init_inv (P : Params) (hc : CfgOk P.cfg) (hpr : P.cfg.prEnabled = true) :
    Inv P (init P) [] [] 0 (RecvQ.start (Gen.getMaxTSNOffset P.maxBuf) (P.tsn - 1)) :=
  ⟨SenderPR.SInv.init P.cfg P.tsn P.peerRwnd hc hpr, ReceiverPR.RInv.init P.tsn P.maxBuf P.maxEntries _ _ _ _ _ _,
   Nat.zero_le _, fun c hc => by simp [init] at hc, fun f hf => by simp [init] at hf, fun f hf => by simp [init] at hf⟩

theorem InflightOk_head (P : Params) (σ : St) (ops : List Op) (h : InflightOk P σ ops = true) : σ.snd.inflight.length < 2^31 := by
  cases ops with
  | nil => simpa [InflightOk] using h
  | cons op ops => simp only [InflightOk, Bool.and_eq_true, decide_eq_true_eq] at h; exact h.1

theorem Inv.runOps {P : Params} (ops : List Op) :
    ∀ {σ : St} {mv : List Sender.Chunk} {G : List (BitVec 32)} {a : Nat} {R : RecvQ.St},
    Inv P σ mv G a R → SackSound P σ ops = true → InflightOk P σ ops = true → (mv ++ moved P σ ops).length < 2^31 →
    ∃ a' R', Inv P (run P σ ops) (mv ++ moved P σ ops) (G ++ pushed P σ ops) a' R' := by
  induction ops with
  | nil => intro σ mv G a R h _ _ _; exact ⟨a, R, by simpa [run, moved, pushed] using h⟩
  | cons op ops ih =>
    intro σ mv G a R h hs hi hN
    simp only [SackSound, Bool.and_eq_true] at hs
    simp only [InflightOk, Bool.and_eq_true, decide_eq_true_eq] at hi
    simp only [moved, ← List.append_assoc] at hN
    obtain ⟨a1, R1, h1⟩ := h.opStep op hs.1 (by rw [List.length_append] at hN; omega) (InflightOk_head P _ ops hi.2)
    obtain ⟨a2, R2, h2⟩ := ih h1 hs.2 hi.2 hN
    simp only [run, moved, pushed, ← List.append_assoc]
    exact ⟨a2, R2, h2⟩

theorem run_append (P : Params) (s : St) (o1 o2 : List Op) : run P s (o1 ++ o2) = run P (run P s o1) o2 := by
  induction o1 generalizing s with
  | nil => rfl
  | cons op o1 ih => simp only [List.cons_append, run]; exact ih _

theorem moved_append (P : Params) (s : St) (o1 o2 : List Op) : moved P s (o1 ++ o2) = moved P s o1 ++ moved P (run P s o1) o2 := by
  induction o1 generalizing s with
  | nil => rfl
  | cons op o1 ih => simp only [List.cons_append, moved, run, ih, List.append_assoc]

theorem pushed_append (P : Params) (s : St) (o1 o2 : List Op) : pushed P s (o1 ++ o2) = pushed P s o1 ++ pushed P (run P s o1) o2 := by
  induction o1 generalizing s with
  | nil => rfl
  | cons op o1 ih => simp only [List.cons_append, pushed, run, ih, List.append_assoc]

theorem SackSound_append (P : Params) (s : St) (o1 o2 : List Op) :
    SackSound P s (o1 ++ o2) = (SackSound P s o1 && SackSound P (run P s o1) o2) := by
  induction o1 generalizing s with
  | nil => simp [SackSound, run]
  | cons op o1 ih => simp only [List.cons_append, SackSound, run, ih, Bool.and_assoc]

theorem InflightOk_take (P : Params) (s : St) (o1 o2 : List Op) (h : InflightOk P s (o1 ++ o2) = true) :
    InflightOk P s o1 = true ∧ InflightOk P (run P s o1) o2 = true := by
  induction o1 generalizing s with
  | nil => exact ⟨by simpa [InflightOk] using InflightOk_head P s o2 h, h⟩
  | cons op o1 ih =>
    simp only [List.cons_append, InflightOk, Bool.and_eq_true, decide_eq_true_eq] at h ⊢
    exact ⟨⟨h.1, (ih _ h.2).1⟩, (ih _ h.2).2⟩


/-!
What the invariant says at the moment a FORWARD-TSN of the history reaches the receiver.
-/

/-- the hypotheses on the run, bundled -/
structure RunOk (P : Params) (ops : List Op) : Prop where
  cfg : CfgOk P.cfg
  pr : P.cfg.prEnabled = true
  sound : SackSound P (init P) ops = true
  infl : InflightOk P (init P) ops = true
  small : (moved P (init P) ops).length < 2^31

theorem RunOk.take {P : Params} {o1 o2 : List Op} (h : RunOk P (o1 ++ o2)) : RunOk P o1 := by
  refine ⟨h.cfg, h.pr, ?_, (InflightOk_take P _ o1 o2 h.infl).1, ?_⟩
  · have := h.sound; rw [SackSound_append, Bool.and_eq_true] at this; exact this.1
  · have := h.small; rw [moved_append, List.length_append] at this; omega

/-- ✱ index form: in every reachable state, after any part `pre` of a packet, for every FORWARD-TSN `f` of the history:
its new cumulative TSN is the TSN of a moved chunk `n`, and every moved chunk up to `n` is abandoned by the sender or
was handed to a reassembly queue; every entry of `f` names an abandoned moved chunk at or below `n` -/
theorem skip_safe_idx (P : Params) (ops : List Op) (hok : RunOk P ops)
    (pre : List (Item × Bool)) (hpre : ∀ x ∈ pre, x.1 ∈ (run P (init P) ops).wire)
    (f : Sender.Fwd) (hf : Item.fwd f ∈ (run P (init P) ops).wire) :
    (∀ j m, (moved P (init P) ops)[j]? = some m → m.tsn = P.tsn + BitVec.ofNat 32 j) ∧
    ∃ n, fwdCum f = P.tsn + BitVec.ofNat 32 n ∧ n < (moved P (init P) ops).length ∧
      (∀ j m, j ≤ n → (moved P (init P) ops)[j]? = some m →
        (run P (init P) ops).snd.abandoned m = true ∨
        m.tsn ∈ pushed P (init P) ops ++ pushedIn P (Receiver.chunksStart (run P (init P) ops).rcv) pre) ∧
      Ent (run P (init P) ops).snd (moved P (init P) ops) f := by
  obtain ⟨a, R, h⟩ := (init_inv P hok.cfg hok.pr).runOps ops hok.sound hok.infl (by simpa using hok.small)
  simp only [List.nil_append] at h
  have h0 := h.setRcv (Receiver.chunksStart (run P (init P) ops).rcv) rfl
  have h1 := Inv.itemsStep pre h0 hpre
  obtain ⟨W, hW⟩ := h.snd.minv
  obtain ⟨n, c1, c2, c3⟩ := h1.wfwd f hf
  have htake := h1.rcv.take n c3
  refine ⟨hW.tsn, n, c1, c2, ?_, h1.went f hf⟩
  intro j m hj hm
  rcases htake j hj with hg | hab
  · right; rw [hW.tsn j m hm]; exact hg
  · left; exact hab m hm

/-- `skip_safe_idx` with "position `≤ n` among the moves" replaced by "TSN serially at or below the new cumulative TSN of `f`" -/
theorem skip_safe (P : Params) (ops : List Op) (hok : RunOk P ops)
    (pre : List (Item × Bool)) (hpre : ∀ x ∈ pre, x.1 ∈ (run P (init P) ops).wire)
    (f : Sender.Fwd) (hf : Item.fwd f ∈ (run P (init P) ops).wire) :
    (∀ m ∈ moved P (init P) ops, Gen.sna32LTE m.tsn (fwdCum f) = true →
      (run P (init P) ops).snd.abandoned m = true ∨
      m.tsn ∈ pushed P (init P) ops ++ pushedIn P (Receiver.chunksStart (run P (init P) ops).rcv) pre) ∧
    Ent (run P (init P) ops).snd (moved P (init P) ops) f := by
  obtain ⟨htsn, n, c1, c2, c3, c4⟩ := skip_safe_idx P ops hok pre hpre f hf
  refine ⟨?_, c4⟩
  intro m hm hle
  obtain ⟨j, hj⟩ := List.getElem?_of_mem hm
  have hjl : j < (moved P (init P) ops).length := (List.getElem?_eq_some_iff.1 hj).1
  have hsm := hok.small
  refine c3 j m ?_ hj
  rw [htsn j m hj, c1] at hle
  exact Sna.le_of_lte32_ofNat P.tsn (by omega) (by omega) hle

end NetSysPR
