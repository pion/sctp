import SctpVerif.Proofs.Sender.Recover
import SctpVerif.Proofs.NetSys.LiveLink
/-!
The healed round (`Props/C02net.lean`) from any state that is linked (`Link`, `LiveLink.lean`) and whose sender is `Live`
(`Round`): its sender half is "T3 (if something is in flight); gather", everything else leaves the sender alone; it writes
nothing, so the state in which the SACK arrives is linked with the same ghost `W` (`Link.run_quiet`) and the truthful SACK is
valid there (`Link.truthful_valid`); if it is ahead of the cumulative ack point the sender releases at least one chunk
(`SenderProofs.sack_ack_progress`): `Round.progress`. The state after the round is again a `Round`, so the argument iterates
(`Round.drains`); the per-round premises `TakenN` / `RoundOkN` / `RoundOkHN` / `RoundOkEN` have one shape, `alongN`, and one
rule to pass from one to the next (`alongN_imp`). Reachable states are `Round`s (`round_reach`).
-/
namespace NetSysLive
open Gen NetSys

/-- operations that do not touch the sender -/
def RcvOnly : Op → Prop
  | .rcv _ => True
  | .deliver _ => True
  | _ => False

theorem sndOps_rcvOnly (P : Params) (l : List Op) (h : ∀ op ∈ l, RcvOnly op) : ∀ s, sndOps P s l = [] := by
  induction l with
  | nil => intro s; rfl
  | cons op l ih =>
    intro s
    have h1 := h op (by simp)
    have : sndOp P s op = none := by
      cases op with
      | write a b => exact absurd h1 (by simp [RcvOnly])
      | snd o => exact absurd h1 (by simp [RcvOnly])
      | deliver is => rfl
      | rcv o => rfl
    simp only [sndOps, this]
    exact ih (fun o ho => h o (List.mem_cons_of_mem _ ho)) s

theorem acceptAll_rcvOnly (r : Receiver.St) : ∀ op ∈ acceptAll r, RcvOnly op := by
  intro op hop
  simp only [acceptAll, List.mem_replicate] at hop
  rw [hop.2]; trivial

theorem readAll_rcvOnly (n : Nat) : ∀ (r : Receiver.St), ∀ op ∈ readAll n r, RcvOnly op := by
  induction n with
  | zero => intro r op hop; simp [readAll] at hop
  | succ n ih =>
    intro r op hop
    simp only [readAll] at hop
    split at hop
    · cases hop
    · rcases List.mem_cons.1 hop with rfl | hop
      · trivial
      · exact ih _ op hop

theorem recvOps_rcvOnly (r : Receiver.St) : ∀ op ∈ recvOps r, RcvOnly op := by
  intro op hop
  simp only [recvOps, List.mem_append, List.mem_cons, List.mem_nil_iff, or_false] at hop
  rcases hop with (h | h) | h | h
  · exact acceptAll_rcvOnly r op h
  · exact readAll_rcvOnly _ r op h
  · rw [h]; trivial
  · rw [h]; trivial

theorem deliverOps_rcvOnly (a b : Nat) : ∀ op ∈ deliverOps a b, RcvOnly op := by
  intro op hop
  simp only [deliverOps, List.mem_map] at hop
  obtain ⟨i, _, rfl⟩ := hop
  trivial

/-- an operation that writes nothing, opens or resets no stream, and hands the sender no SACK -/
def Plain (op : Op) : Prop := NoWrite op ∧ ReliableOp op = true ∧ ∀ s, HonestOp s op = true

theorem rcvOnly_plain {op : Op} (h : RcvOnly op) : Plain op := by
  cases op with
  | write a b => exact False.elim h
  | snd o => exact False.elim h
  | deliver is => exact ⟨trivial, rfl, fun _ => rfl⟩
  | rcv o => exact ⟨trivial, rfl, fun _ => rfl⟩

/-- ✱ every operation of a healed round but its closing SACK is plain: receiver-only, or the sender's T3 / gather -/
theorem roundOps_plain (P : Params) (s : St) : ∀ op ∈ roundOps P s, Plain op := by
  intro op hop
  simp only [roundOps, List.mem_append] at hop
  rcases hop with ((h | h) | h) | h
  · exact rcvOnly_plain (acceptAll_rcvOnly _ op h)
  · unfold sendOps at h
    split at h <;> simp at h <;> rcases h with rfl | rfl <;> exact ⟨trivial, rfl, fun _ => rfl⟩
  · exact rcvOnly_plain (deliverOps_rcvOnly _ _ op h)
  · exact rcvOnly_plain (recvOps_rcvOnly _ op h)

/-- the sender operations of a round -/
def sndPart (s : Sender.St) : List Sender.Op :=
  (if s.inflight.isEmpty then [] else [Sender.Op.t3]) ++
    [.gather Sender.freeOracle (fifoSel (if s.inflight.isEmpty then s else Sender.t3 s))]

theorem sndOps_sendOps (P : Params) (s : Sender.St) : sndOps P s (sendOps s) = sndPart s := by
  unfold sendOps sndPart
  by_cases h : s.inflight.isEmpty = true
  · simp [h, sndOps, sndOp]
  · simp [h, sndOps, sndOp]

theorem sndOps_roundOps (P : Params) (s : St) : sndOps P s.snd (roundOps P s) = sndPart s.snd := by
  unfold roundOps
  simp only
  rw [sndOps_append, sndOps_append, sndOps_append]
  rw [sndOps_rcvOnly P _ (acceptAll_rcvOnly _), sndOps_rcvOnly P _ (deliverOps_rcvOnly _ _), sndOps_rcvOnly P _ (recvOps_rcvOnly _)]
  simp only [List.nil_append, List.append_nil, Sender.run]
  exact sndOps_sendOps P s.snd

/-- the sender state in which the SACK arrives -/
def sndPre (s : Sender.St) : Sender.St :=
  (Sender.gather (if s.inflight.isEmpty then s else Sender.t3 s) Sender.freeOracle
    (fifoSel (if s.inflight.isEmpty then s else Sender.t3 s))).1

theorem run_sndPart (s : Sender.St) : Sender.run s (sndPart s) = sndPre s := by
  unfold sndPart sndPre
  by_cases h : s.inflight.isEmpty = true
  · simp [h, Sender.run, Sender.step]
  · simp [h, Sender.run, Sender.step]

theorem preSack_snd (P : Params) (s : St) : (preSack P s).snd = sndPre s.snd := by
  unfold preSack
  rw [(run_snd P s _).1, sndOps_roundOps, run_sndPart]

theorem healed_eq (P : Params) (s : St) : healed P s = step P (preSack P s) (sackOp (preSack P s).rcv) := by
  unfold healed healedRound preSack
  rw [NetSys.run_append]; rfl

theorem healed_snd (P : Params) (s : St) :
    (healed P s).snd = (Sender.sack (preSack P s).snd (preSack P s).rcv.pq.cum (Receiver.credit (preSack P s).rcv)
      (RecvQ.gaps (preSack P s).rcv.pq) []).1 ∧ (healed P s).rcv = (preSack P s).rcv := by
  rw [healed_eq]
  constructor <;> rfl

theorem live_sndPre {s : Sender.St} (h : SenderProofs.Live s) :
    SenderProofs.Live (sndPre s) ∧ (sndPre s).inflight.length + (sndPre s).pending.length ≤ s.inflight.length + s.pending.length := by
  unfold sndPre
  by_cases he : s.inflight.isEmpty = true
  · simp only [he, if_true]
    exact ⟨SenderProofs.live_gather h _ _, (SenderProofs.gather_prel s _ _).1⟩
  · simp only [he, Bool.false_eq_true, if_false]
    refine ⟨SenderProofs.live_gather (SenderProofs.live_t3 h) _ _, ?_⟩
    have g := (SenderProofs.gather_prel (Sender.t3 s) Sender.freeOracle (fifoSel (Sender.t3 s))).1
    obtain ⟨t1, t2⟩ := SenderProofs.t3_lengths s
    rw [t1, t2] at g
    exact g

/-! ### a healed round writes nothing -/

theorem roundOps_noWrite (P : Params) (s : St) : ∀ op ∈ roundOps P s, NoWrite op :=
  fun op hop => (roundOps_plain P s op hop).1

theorem healedRound_noWrite (P : Params) (s : St) : ∀ op ∈ healedRound P s, NoWrite op := by
  intro op hop
  rcases List.mem_append.mp hop with h | h
  · exact roundOps_noWrite P s op h
  · rw [List.mem_singleton.mp h]; trivial

theorem chunksWritten_quiet (P : Params) (ops l : List Op) (h : ∀ op ∈ l, NoWrite op) :
    chunksWritten P (ops ++ l) = chunksWritten P ops := by
  unfold chunksWritten
  rw [sndOps_append, written_append, written_noWrite P l h, List.append_nil]

theorem chunksWritten_roundOps (P : Params) (ops : List Op) :
    chunksWritten P (ops ++ roundOps P (run P (init P) ops)) = chunksWritten P ops :=
  chunksWritten_quiet P ops _ (roundOps_noWrite P _)

theorem chunksWritten_healedRound (P : Params) (ops : List Op) :
    chunksWritten P (ops ++ healedRound P (run P (init P) ops)) = chunksWritten P ops :=
  chunksWritten_quiet P ops _ (healedRound_noWrite P _)

/-! ### one healed round -/

/-- the state at the start of a healed round: linked, sender `Live`, fewer than 2^31 chunks written -/
structure Round (P : Params) (W mv : List Sender.Chunk) (s : St) : Prop where
  link : Link P W mv s
  live : SenderProofs.Live s.snd
  small : W.length < 2^31

/-- ✱ one healed round: the state it leads to starts the next round (same `W`), nothing is added to the sender's queues, and
if the receiver's cumulative point is ahead of the sender's when the SACK is built, at least one chunk leaves them -/
theorem Round.progress {P : Params} {W mv : List Sender.Chunk} {s : St} (h : Round P W mv s) :
    (∃ mv', Round P W mv' (healed P s)) ∧ outstanding (healed P s) ≤ outstanding s ∧
    (Taken P s = true → outstanding (healed P s) < outstanding s ∧ (healed P s).snd.cumAck = (healed P s).rcv.pq.cum) := by
  obtain ⟨mv', hx'⟩ : ∃ mv', Link P W mv' (preSack P s) := ⟨_, (h.link.run_quiet (roundOps P s) (roundOps_noWrite P s)).1⟩
  obtain ⟨hx, hle⟩ := live_sndPre h.live
  rw [← preSack_snd P] at hx hle
  have hxsm : (preSack P s).snd.inflight.length < 2^31 := by have := hx.small; omega
  have hv := hx'.truthful_valid hx.seq (hx'.mvSmall h.small) hxsm
  have hlink : Link P W mv' (healed P s) := by
    have := hx'.sndStep (.sack (truthfulSack (preSack P s).rcv).1 (truthfulSack (preSack P s).rcv).2.1
      (truthfulSack (preSack P s).rcv).2.2 [])
    simp only [SenderProofs.writtenBy, SenderTsn.movedBy, List.append_nil] at this
    rw [healed_eq]; exact this
  obtain ⟨e1, e2⟩ := healed_snd P s
  unfold Taken
  generalize preSack P s = x at *
  unfold outstanding
  have hlive : SenderProofs.Live (healed P s).snd := by rw [e1]; exact SenderProofs.live_sack hx _ _ _ _
  refine ⟨⟨mv', hlink, hlive, h.small⟩, ?_⟩
  rw [e1, e2]
  have l1 := SenderProofs.sack_len_le x.snd x.rcv.pq.cum (Receiver.credit x.rcv) (RecvQ.gaps x.rcv.pq) []
  have hp := SenderProofs.sack_pending x.snd x.rcv.pq.cum (Receiver.credit x.rcv) (RecvQ.gaps x.rcv.pq) []
  refine ⟨by rw [hp]; omega, ?_⟩
  intro ht
  have hng := Sna.gt32_false_of_lt32 ht
  rcases hv with hv | hv
  · rw [hng] at hv; cases hv
  · obtain ⟨_, k, hk, hlen, _, _⟩ := SenderProofs.sack_ack_progress x.snd x.rcv.pq.cum (Receiver.credit x.rcv) (RecvQ.gaps x.rcv.pq) []
      hx.seq hxsm hx.win.cfgOk hx.core hx.est ht hv
    obtain ⟨_, _, _, _, _, hca, _, _⟩ := SenderProofs.sack_ok_shape x.snd x.rcv.pq.cum (Receiver.credit x.rcv) (RecvQ.gaps x.rcv.pq) []
      hx.seq hxsm hx.win.cfgOk hx.est hng hv
    exact ⟨by rw [hp]; omega, hca⟩

/-! ### the rounds, iterated -/

/-- `X` at the start of each of the next `n` rounds that start with something outstanding: the shape of `TakenN`, `RoundOkN`,
`RoundOkHN`, `RoundOkEN` -/
def alongN (P : Params) (X : St → Bool) : Nat → St → Bool
  | 0, _ => true
  | n+1, s => (outstanding s == 0 || X s) && alongN P X n (healed P s)

theorem takenN_eq (P : Params) : ∀ n s, TakenN P n s = alongN P (Taken P) n s
  | 0, _ => rfl
  | n+1, s => by simp only [TakenN, alongN, takenN_eq P n]

theorem roundOkN_eq (P : Params) : ∀ n s, RoundOkN P n s = alongN P (RoundOk P) n s
  | 0, _ => rfl
  | n+1, s => by simp only [RoundOkN, alongN, roundOkN_eq P n]

theorem roundOkHN_eq (P : Params) : ∀ n s, RoundOkHN P n s = alongN P (RoundOkH P) n s
  | 0, _ => rfl
  | n+1, s => by simp only [RoundOkHN, alongN, roundOkHN_eq P n]

theorem roundOkEN_eq (P : Params) : ∀ n s, RoundOkEN P n s = alongN P RoundOkE n s
  | 0, _ => rfl
  | n+1, s => by simp only [RoundOkEN, alongN, roundOkEN_eq P n]

/-- ✱ a premise of the rounds is replaced by another: `I` (which may speak of the number of rounds to come) is kept by a
healed round, and in a state with `I` and something outstanding `X` gives `Y` -/
theorem alongN_imp (P : Params) (I : Nat → St → Prop) (X Y : St → Bool) (hI : ∀ n s, I (n+1) s → I n (healed P s))
    (hXY : ∀ n s, I (n+1) s → 0 < outstanding s → X s = true → Y s = true) :
    ∀ n s, I n s → alongN P X n s = true → alongN P Y n s = true := by
  intro n
  induction n with
  | zero => intro _ _ _; rfl
  | succ n ih =>
    intro s hs hx
    simp only [alongN, Bool.and_eq_true, Bool.or_eq_true, beq_iff_eq] at hx ⊢
    refine ⟨?_, ih _ (hI n s hs) hx.2⟩
    rcases Nat.eq_zero_or_pos (outstanding s) with h0 | hpos
    · exact Or.inl h0
    · exact hx.1.imp id (hXY n s hs hpos)

/-- ✱ `n ≥ outstanding` healed rounds, each of which finds the receiver ahead, drain both sender queues -/
theorem Round.drains {P : Params} {W : List Sender.Chunk} (n : Nat) : ∀ {mv : List Sender.Chunk} {s : St}, Round P W mv s →
    alongN P (Taken P) n s = true → outstanding s ≤ n →
    SenderProofs.Live (healedN P n s).snd ∧ outstanding (healedN P n s) = 0 := by
  induction n with
  | zero => intro mv s h _ ho; exact ⟨h.live, by simpa [healedN] using ho⟩
  | succ n ih =>
    intro mv s h ht ho
    simp only [alongN, Bool.and_eq_true, Bool.or_eq_true, beq_iff_eq] at ht
    obtain ⟨⟨mv', p1⟩, p2, p3⟩ := h.progress
    refine ih p1 ht.2 ?_
    rcases ht.1 with h0 | h1
    · omega
    · have := (p3 h1).1; omega

/-! ### reachable states -/

theorem round_reach (P : Params) (ops : List Op) (hN : chunksWritten P ops < 2^31)
    (hl : SenderProofs.Live (run P (init P) ops).snd) :
    Round P (SenderProofs.written (init P).snd (sndOps P (init P).snd ops))
      (SenderTsn.moved (init P).snd (sndOps P (init P).snd ops)) (run P (init P) ops) :=
  ⟨link_reach P ops, hl, hN⟩

/-- ✱ one healed round from a reachable state: nothing is added to the sender's queues, and if the receiver's cumulative
point is ahead of the sender's when the SACK is built, at least one chunk leaves them -/
theorem healed_progress (P : Params) (ops : List Op) (hc : SenderProofs.CfgOk P.cfg) (hN : chunksWritten P ops < 2^31)
    (hl : SenderProofs.Live (run P (init P) ops).snd) :
    SenderProofs.Live (healed P (run P (init P) ops)).snd ∧
    NetSys.outstanding (healed P (run P (init P) ops)) ≤ NetSys.outstanding (run P (init P) ops) ∧
    (Taken P (run P (init P) ops) = true →
      NetSys.outstanding (healed P (run P (init P) ops)) < NetSys.outstanding (run P (init P) ops) ∧
      (healed P (run P (init P) ops)).snd.cumAck = (healed P (run P (init P) ops)).rcv.pq.cum) :=
  have ⟨⟨_, p1⟩, p2⟩ := (round_reach P ops hN hl).progress
  ⟨p1.live, p2⟩

theorem run_healedRounds (P : Params) (n : Nat) : ∀ s, run P s (healedRounds P n s) = healedN P n s := by
  induction n with
  | zero => intro s; rfl
  | succ n ih =>
    intro s
    simp only [healedRounds, healedN, NetSys.run_append]
    exact ih _

theorem healed_run (P : Params) (ops : List Op) :
    healed P (run P (init P) ops) = run P (init P) (ops ++ healedRound P (run P (init P) ops)) := by
  unfold healed; rw [NetSys.run_append]

theorem healedRounds_noWrite (P : Params) (n : Nat) : ∀ s, ∀ op ∈ healedRounds P n s, NoWrite op := by
  induction n with
  | zero => intro s op hop; cases hop
  | succ n ih =>
    intro s op hop
    rcases List.mem_append.mp hop with h | h
    · exact healedRound_noWrite P s op h
    · exact ih _ op h

theorem chunksWritten_healedRounds (P : Params) (n : Nat) : ∀ ops,
    chunksWritten P (ops ++ healedRounds P n (run P (init P) ops)) = chunksWritten P ops :=
  fun ops => chunksWritten_quiet P ops _ (healedRounds_noWrite P n _)

/-- ✱ `n ≥ outstanding` healed rounds, each of which finds the receiver ahead (`TakenN`), drain both sender queues -/
theorem healedN_drains (P : Params) (hc : SenderProofs.CfgOk P.cfg) (n : Nat) : ∀ ops, chunksWritten P ops < 2^31 →
    SenderProofs.Live (run P (init P) ops).snd → TakenN P n (run P (init P) ops) = true →
    NetSys.outstanding (run P (init P) ops) ≤ n →
    SenderProofs.Live (healedN P n (run P (init P) ops)).snd ∧ NetSys.outstanding (healedN P n (run P (init P) ops)) = 0 :=
  fun ops hN hl ht ho => (round_reach P ops hN hl).drains n (by rw [← takenN_eq]; exact ht) ho

/-- when both queues are empty the association's `BufferedAmount()` is 0 -/
theorem drained_buffered {s : Sender.St} (hl : SenderProofs.Live s) (h0 : s.pending.length + s.inflight.length = 0) :
    s.inflight = [] ∧ s.pending = [] ∧ s.penBytes + s.infBytes = 0 := by
  have h1 : s.inflight = [] := List.eq_nil_of_length_eq_zero (by omega)
  have h2 : s.pending = [] := List.eq_nil_of_length_eq_zero (by omega)
  exact ⟨h1, h2, hl.core.drained h1 h2⟩

/-- … and, under C15's D9 premise on the sender operations of the run, so is every stream's `BufferedAmount()` -/
theorem drained_streams (P : Params) (hc : SenderProofs.CfgOk P.cfg) (ops : List Op)
    (hok : SenderProofs.RunOk (Sender.init P.cfg P.tsn P.peerRwnd) (sndOps P (init P).snd ops))
    (hwb : (run P (init P) ops).snd.wrapBuf = false)
    (h1 : (run P (init P) ops).snd.inflight = []) (h2 : (run P (init P) ops).snd.pending = []) :
    ∀ si, SenderProofs.bufOf (run P (init P) ops).snd si = 0 := by
  intro si
  rw [snd_run] at hwb h1 h2 ⊢
  have hb := (SenderProofs.run_books _ _ (fun _ => SenderProofs.init_books P.cfg P.tsn P.peerRwnd)
    (SenderProofs.init_win P.cfg P.tsn P.peerRwnd hc) hok).1 hwb
  rw [hb.streams si, SenderProofs.outstanding, h1, h2]
  simp [Sender.bytesOf]

/-- the sender state of a reachable NetSys state is `Live` when it is established and fewer than 2^31 chunks are queued -/
theorem snd_live (P : Params) (ops : List Op) (hc : SenderProofs.CfgOk P.cfg) (hf : SenderProofs.CfgFit P.cfg)
    (hest : (run P (init P) ops).snd.established = true)
    (hsm : (run P (init P) ops).snd.inflight.length + (run P (init P) ops).snd.pending.length < 2^31) :
    SenderProofs.Live (run P (init P) ops).snd := by
  rw [snd_run] at hest hsm ⊢
  exact SenderProofs.run_live _ _ _ hc hf _ hest hsm

/-- … and `InfFit` when fewer than 2^31 chunks were in flight at every step (`TsnOk`) -/
theorem snd_inffit (P : Params) (ops : List Op) (hc : SenderProofs.CfgOk P.cfg)
    (hts : SenderProofs.TsnOk (Sender.init P.cfg P.tsn P.peerRwnd) (sndOps P (init P).snd ops)) :
    SenderProofs.InfFit (run P (init P) ops).snd := by
  rw [snd_run]
  exact SenderProofs.run_inffit _ _ (SenderProofs.init_inffit _ _ _)

end NetSysLive

/-!
Sender half of the `Taken` argument (`Props/C02net.lean`), restated for the healed round: after "T3 (if something is in
flight); gather (free burst budget, FIFO selection)" the LOWEST outstanding chunk — the head of the in-flight queue, TSN =
cumulative ack point + 1 — is gap-acked or is the FIRST chunk the gather put on the wire, whatever cwnd / rwnd are: it is
`SenderProofs.gather_head_first` (the step `SenderProofs.roundF_progress` takes too) without the abandoned case.
-/
namespace NetSysLive
open Gen NetSys Sender SenderProofs

/-- the sender state the round's gather starts from -/
def sndT3 (s : Sender.St) : Sender.St := if s.inflight.isEmpty then s else Sender.t3 s

theorem sndPre_eq (s : Sender.St) : sndPre s = (gather (sndT3 s) freeOracle (fifoSel (sndT3 s))).1 := rfl

theorem live_sndT3 {s : Sender.St} (h : Live s) : Live (sndT3 s) := by
  unfold sndT3; split
  · exact h
  · exact live_t3 h

theorem sndT3_frame (s : Sender.St) : (sndT3 s).cumAck = s.cumAck ∧ (sndT3 s).pending = s.pending ∧
    (sndT3 s).inflight.length = s.inflight.length ∧ (sndT3 s).cfg = s.cfg := by
  unfold sndT3; split
  · exact ⟨rfl, rfl, rfl, rfl⟩
  · have f := (t3_frame s).1
    exact ⟨f.cumAck, f.pending, (t3_lengths s).1, f.cfg⟩

theorem sndPre_cumAck (s : Sender.St) : (sndPre s).cumAck = s.cumAck := by
  rw [sndPre_eq, (gather_grel _ _ _).2.2.2.1, (sndT3_frame s).1]

/-- the chunks a gather puts on the wire: the retransmissions, then the new chunks, then the fast retransmissions -/
theorem gather_flat (s : Sender.St) (orc : Oracle) (sel : List Nat) (he : s.established = true) :
    (gatherRtx s orc).2.1 ++ (gather s orc sel).2.admits.map (·.chunk) <+: (gather s orc sel).2.packets.flatten :=
  SenderProofs.gather_flat s orc sel he

/-- ✱ the lowest outstanding chunk is gap-acked or first on the wire -/
theorem head_on_wire (s : Sender.St) (h : Live s) (hfit : InfFit s)
    (hnab : ∀ c ∈ (sndT3 s).inflight, (sndT3 s).abandoned c = false)
    (hpos : 0 < s.inflight.length + s.pending.length) :
    ∃ c0 r, (sndPre s).inflight = c0 :: r ∧ c0.tsn = s.cumAck + 1 ∧
      (c0.acked = true ∨ ∃ e rest, (gather (sndT3 s) freeOracle (fifoSel (sndT3 s))).2.packets.flatten = e :: rest ∧ e.tsn = c0.tsn) := by
  obtain ⟨_, fp, fl, _⟩ := sndT3_frame s
  have hx : Live (sndPre s) := by rw [sndPre_eq]; exact live_gather (live_sndT3 h) _ _
  have hfit1 : InfFit (sndT3 s) ∧ ((sndT3 s).inflight ≠ [] → Flagged (sndT3 s)) := by
    unfold sndT3
    split
    · rename_i he
      exact ⟨hfit, fun hne => absurd (List.isEmpty_iff.mp he) hne⟩
    · exact ⟨t3_inffit s hfit, fun _ => t3_flagged s⟩
  obtain ⟨c0, r, e1, hc0⟩ := gather_head_first (sndT3 s) (live_sndT3 h) hfit1.1 hfit1.2 (fifoSel (sndT3 s)) (pickHead_ok (sndT3 s))
    (by rw [fl, fp]; exact hpos)
  refine ⟨c0, r, e1, ?_, ?_⟩
  · have := hx.seq.1
    rw [sndPre_eq, e1, ← sndPre_eq, sndPre_cumAck] at this
    exact this.1
  · rcases hc0 with hacked | ⟨f, rest, hq, hab⟩ | hw
    · exact Or.inl hacked
    · rw [hnab f (by rw [hq]; simp)] at hab; cases hab
    · exact Or.inr hw

end NetSysLive
