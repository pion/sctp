import SctpVerif.Proofs.NetSys.PRSafe
import SctpVerif.Proofs.Receiver.PrefixSkipRun
import SctpVerif.Proofs.Receiver.PrefixSkipDec
/-!
The receiver projection of a NetSysPR run (as `Proofs/NetSys/Proj.lean` for NetSys): the receiver operations the run
performs, what the reading application sees, and the ghost list of TSNs handed to reassembly queues.
-/
namespace NetSysPR
open NetSys (Params Op toWire sndOp)

/-- the receiver operations of a NetSysPR run -/
def rcvOps (P : Params) : St → List Op → List Receiver.Op
  | _, [] => []
  | s, op :: ops =>
    match sndOp P s.snd op with
    | some _ => rcvOps P (step P s op) ops
    | none =>
      match rcvOp P s.wire op with
      | some o => o :: rcvOps P (step P s op) ops
      | none => rcvOps P (step P s op) ops

theorem step_rcv (P : Params) (s : St) (op : Op) :
    (step P s op).rcv = match sndOp P s.snd op with
      | some _ => s.rcv
      | none => match rcvOp P s.wire op with
        | some o => Receiver.step s.rcv o
        | none => s.rcv := by
  simp only [step]
  cases sndOp P s.snd op with
  | some o => rfl
  | none => cases rcvOp P s.wire op <;> rfl

theorem run_rcv (P : Params) (s : St) (ops : List Op) : (run P s ops).rcv = Receiver.run s.rcv (rcvOps P s ops) := by
  induction ops generalizing s with
  | nil => rfl
  | cons op ops ih =>
    simp only [run, rcvOps]
    rw [ih (step P s op), step_rcv]
    cases sndOp P s.snd op with
    | some o => rfl
    | none => cases rcvOp P s.wire op <;> rfl

theorem reads_eq (P : Params) (si : BitVec 16) (s : St) (ops : List Op) :
    readsOn P si s ops = Receiver.delivs si s.rcv (rcvOps P s ops) := by
  induction ops generalizing s with
  | nil => rfl
  | cons op ops ih =>
    simp only [readsOn, rcvOps]
    rw [ih (step P s op), step_rcv]
    cases op with
    | write a b => rfl
    | snd so => cases so <;> rfl
    | deliver is => rfl
    | rcv ro =>
      cases ro with
      | read nm n =>
        simp only [sndOp, rcvOp, readOut, Receiver.delivs, Receiver.readOut]
        cases (Receiver.read s.rcv nm n).2 <;> rfl
      | _ => rfl

theorem pushedIn_eq (P : Params) (r : Receiver.St) (xs : List (Item × Bool)) :
    pushedIn P r xs = Receiver.pushedC r (xs.map fun x => inChunk P x.1 x.2) := by
  induction xs generalizing r with
  | nil => rfl
  | cons x xs ih =>
    obtain ⟨it, imm⟩ := x
    simp only [pushedIn, List.map_cons, Receiver.pushedC, ih]
    cases it with
    | data c => rfl
    | fwd f => cases f <;> rfl

/-- the ghost `pushed` of the composed run is the ghost `pushedT` of its receiver projection -/
theorem pushed_eq (P : Params) (s : St) (ops : List Op) : pushed P s ops = Receiver.pushedT s.rcv (rcvOps P s ops) := by
  induction ops generalizing s with
  | nil => rfl
  | cons op ops ih =>
    simp only [pushed, rcvOps]
    rw [ih (step P s op), step_rcv]
    cases op with
    | write a b => rfl
    | snd so => cases so <;> rfl
    | deliver is => simp only [sndOp, rcvOp, pushedBy, Receiver.pushedT, Receiver.pushedO, pushedIn_eq, packetOf]
    | rcv ro => cases ro <;> rfl

theorem rcvOps_split (P : Params) (s : St) (ops : List Op) (r1 : List Receiver.Op) (x : Receiver.Op) (r2 : List Receiver.Op)
    (h : rcvOps P s ops = r1 ++ x :: r2) :
    ∃ o1 op o2, ops = o1 ++ op :: o2 ∧ rcvOps P s o1 = r1 ∧ rcvOp P (run P s o1).wire op = some x := by
  induction ops generalizing s r1 with
  | nil => simp [rcvOps] at h
  | cons op ops ih =>
    simp only [rcvOps] at h
    cases hs : sndOp P s.snd op with
    | some o =>
      simp only [hs] at h
      obtain ⟨o1, op', o2, e, e1, e3⟩ := ih (step P s op) r1 h
      refine ⟨op :: o1, op', o2, by rw [e]; rfl, ?_, e3⟩
      simp only [rcvOps, hs]; exact e1
    | none =>
      simp only [hs] at h
      cases hr : rcvOp P s.wire op with
      | none =>
        simp only [hr] at h
        obtain ⟨o1, op', o2, e, e1, e3⟩ := ih (step P s op) r1 h
        refine ⟨op :: o1, op', o2, by rw [e]; rfl, ?_, e3⟩
        simp only [rcvOps, hs, hr]; exact e1
      | some o =>
        simp only [hr] at h
        cases r1 with
        | nil =>
          simp only [List.nil_append, List.cons.injEq] at h
          exact ⟨[], op, ops, rfl, rfl, by show rcvOp P s.wire op = some x; rw [hr, h.1]⟩
        | cons y r1' =>
          simp only [List.cons_append, List.cons.injEq] at h
          obtain ⟨o1, op', o2, e, e1, e3⟩ := ih (step P s op) r1' h.2
          refine ⟨op :: o1, op', o2, by rw [e]; rfl, ?_, e3⟩
          simp only [rcvOps, hs, hr, e1, h.1]

/-- every packet of the receiver projection was built by a `deliver` from history items -/
theorem rcvOps_pkt (P : Params) (s : St) (ops : List Op) (cs : List Receiver.InChunk) (h : Receiver.Op.pkt cs ∈ rcvOps P s ops) :
    ∃ o1 is o2, ops = o1 ++ Op.deliver is :: o2 ∧ cs = packetOf P (run P s o1).wire is := by
  obtain ⟨r1, r2, hr⟩ := List.append_of_mem h
  obtain ⟨o1, op, o2, e, _, e3⟩ := rcvOps_split P s ops r1 _ r2 hr
  cases op with
  | deliver is => exact ⟨o1, is, o2, e, Receiver.Op.pkt.inj (Option.some.inj e3).symm⟩
  | rcv r => cases r <;> cases e3
  | _ => cases e3


/-!
Executable form of the universe-link premise `hgood` of `C07_netsys_nothing_lost_partial`, and its soundness.
-/

/-- every history item every `deliver` of the run hands over decodes to a chunk that passes `Receiver.GoodD` -/
def goodRunD (P : Params) (U : Receiver.UnivS) (S : Reasm.Sender) : St → List Op → Bool
  | _, [] => true
  | s, op :: ops =>
    (match op with
     | .deliver is => (pick s.wire is).all fun x => Receiver.GoodD U S (inChunk P x.1 x.2)
     | _ => true) && goodRunD P U S (step P s op) ops

theorem goodRunD.sound {P : Params} {U : Receiver.UnivS} {S : Reasm.Sender} (hS : S ∈ U.senders) (ops : List Op) :
    ∀ (s : St), goodRunD P U S s ops = true →
    ∀ o1 is o2, ops = o1 ++ Op.deliver is :: o2 → ∀ x ∈ pick (run P s o1).wire is, Receiver.GoodChunkS U S (inChunk P x.1 x.2) := by
  induction ops with
  | nil => intro s _ o1 is o2 he; simp at he
  | cons op ops ih =>
    intro s h o1 is o2 he x hx
    simp only [goodRunD, Bool.and_eq_true] at h
    cases o1 with
    | nil =>
      simp only [List.nil_append, List.cons.injEq] at he
      obtain ⟨rfl, _⟩ := he
      exact Receiver.GoodD.sound hS (List.all_eq_true.1 h.1 x hx)
    | cons o o1' =>
      simp only [List.cons_append, List.cons.injEq] at he
      obtain ⟨rfl, he'⟩ := he
      exact ih _ h.2 o1' is o2 he' x hx

end NetSysPR
