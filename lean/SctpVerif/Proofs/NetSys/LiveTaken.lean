import SctpVerif.Proofs.NetSys.LiveRcv
import SctpVerif.Proofs.NetSys.LiveDefs
import SctpVerif.Proofs.Receiver.Credit
import SctpVerif.Proofs.Receiver.Streams
import SctpVerif.Proofs.NetSys.LiveRound
import SctpVerif.Proofs.NetSys.LiveAcked
import SctpVerif.Proofs.Receiver.Cfg
/-!
Receiver half of the `Taken` argument (`Props/C02net.lean`): an established receiver that is handed the DATA chunk with
TSN = cumulative point + 1 moves its cumulative point forward — it stores the chunk when it has credit, and at a FULL
buffer when something is held above the cumulative point (the chunk then lies below the highest TSN received: the
zero-window admission rule of `acceptPayloadData`, `C11_zero_window_admission`) — unless the reassembly queue refuses the
chunk, in which case the ABORT flag or the panic flag is up afterwards. `Room r` is exactly "credit, or something held above".
-/
namespace NetSysLive
open Gen RecvQ Receiver NetSys

/-- popping everything poppable moves the cumulative point by at least one when offset 1 is held -/
theorem popAllQ_pops {t0 : RecvQ.TSN} {M : Nat} (hM : M < 2^31) {q : Q} (h : QB t0 M q) (h1 : heldAt q 1) :
    idx t0 q + 1 ≤ idx t0 (popAllQ q) := by
  unfold popAllQ popAllS
  have hs : q.size ≠ 0 := heldAt_size h.inv h1
  have hn := h.inv.size_nonneg
  obtain ⟨n, hn'⟩ : ∃ n, q.size.toNat = n + 1 := ⟨q.size.toNat - 1, by omega⟩
  show idx t0 q + 1 ≤ idx t0 (popLoopS q.size.toNat ⟨q, _⟩).q
  rw [hn']
  simp only [popLoopS]
  have hok' : hasChunk q (q.cum + 1) = true := (hasChunk_iff h.inv _).mpr (by rw [held_iff_heldAt, off_one]; exact h1)
  have hok : (pop q false).2 = true := by rw [pop_ok]; exact hok'
  simp only [hok, if_true]
  obtain ⟨hq, _, hi, hb⟩ := sPop_qb hM (s := ⟨q, ⟨0, 0, fun _ => False, fun _ => False⟩⟩) h hok'
  dsimp only at hq hi hb
  have := (popLoopS_qb hM n _ (by rw [hq]; exact hb)).2
  rw [hq] at this
  omega

theorem pushToStream_false (s : Receiver.St) (c : Reasm.Chunk) (x : Receiver.Stream) (hx : getS s.streams c.si = some x)
    (h : (pushToStream s c).2 = false) : (pushToStream s c).1.willSendAbort = true ∨ (pushToStream s c).1.panicked = true := by
  unfold pushToStream at h ⊢
  simp only [hx] at h ⊢
  split at h
  · cases h
  · right; simp_all
  · left; simp_all [abortPV]

/-- if `acceptPayloadData` was to store the chunk (`stores`) and reports failure, the ABORT or the panic flag is up -/
theorem accept_false (s : Receiver.St) (c : Reasm.Chunk) (hst : stores s c = true) (h : (acceptPayloadData s c).2 = false) :
    (acceptPayloadData s c).1.willSendAbort = true ∨ (acceptPayloadData s c).1.panicked = true := by
  unfold stores at hst
  unfold acceptPayloadData at h ⊢
  rcases hgo : getOrCreateStream s c.si true with ⟨s', o⟩
  rw [hgo] at hst
  cases o with
  | none => simp at hst
  | some x =>
    obtain ⟨y, hy⟩ := getOrCreateStream_some s c.si true x (by rw [hgo])
    rw [hgo] at hy
    simp only [hgo] at h ⊢
    simp only at hst hy
    by_cases hc : accept_hasCredit (credit s') = true
    · simp only [hc, if_true] at h ⊢
      exact pushToStream_false s' c y hy h
    · have hc' : accept_hasCredit (credit s') = false := by simpa using hc
      simp only [hc', Bool.false_eq_true, if_false, Bool.false_or, Bool.not_eq_true'] at h hst ⊢
      simp only [hst, Bool.false_eq_true, if_false] at h ⊢
      exact pushToStream_false s' c y hy h

/-- ✱ **the receiver takes the chunk right after its cumulative point** -/
theorem handleData_takes {t0 : RecvQ.TSN} {M : Nat} (hM : M < 2^31) (r : Receiver.St) (c : Reasm.Chunk) (imm : Bool)
    (hq : QB t0 M r.pq) (hb : Below t0 M c.tsn)
    (hst : r.state = 3#32) (hscp : r.scp = false) (hkind : c.iData = r.il)
    (htsn : c.tsn = r.pq.cum + 1) (hmo : 1 ≤ r.pq.maxOff.toNat) (hmo2 : r.pq.maxOff.toNat < 2^16)
    (hstream : (getOrCreateStream r c.si true).2.isSome = true) (hroom : Room r = true) :
    (handleData r c imm).willSendAbort = true ∨ (handleData r c imm).panicked = true ∨
      idx t0 r.pq + 1 ≤ idx t0 (handleData r c imm).pq := by
  have I := hq.inv
  have hcan : data_canHandle r.scp r.state = true := by rw [hscp, hst]; rfl
  have hwk : data_wrongKind c.iData r.il = false := by simp [data_wrongKind, hkind]
  by_cases hh : hasChunk r.pq (r.pq.cum + 1) = true
  · -- already held (not yet popped): the pop loop of this chunk's handling takes it
    right; right
    have h1 : heldAt r.pq 1 := by
      have := (hasChunk_iff I _).mp hh
      rwa [held_iff_heldAt, off_one] at this
    have hcp : canPush r.pq c.tsn = false := by
      unfold canPush; rw [htsn, hh]; rfl
    rw [handleData_pq]
    have htr : dataTrace r c = [.data c.tsn false] := by
      simp [dataTrace, hcan, hwk, hcp]
    rw [htr, qrun_data]
    simp only [Bool.and_false, Bool.false_eq_true, if_false]
    exact popAllQ_pops hM hq h1
  · have hh' : hasChunk r.pq (r.pq.cum + 1) = false := by simpa using hh
    have hnh : ¬ held r.pq (r.pq.cum + 1) := by
      intro hx; rw [(hasChunk_iff I _).mpr hx] at hh'; cases hh'
    have hadm : admissible r.pq c.tsn := by
      rw [htsn, admissible_small (by omega), off_one]; omega
    have hcp : canPush r.pq c.tsn = true := by
      rw [canPush_iff I]; exact ⟨hadm, by rw [htsn]; exact hnh⟩
    -- it is stored: credit, or something held above (then it lies below the highest TSN received)
    have hsto : stores r c = true := by
      rw [stores_iff]
      refine ⟨hstream, ?_⟩
      simp only [Room, Bool.or_eq_true, decide_eq_true_eq] at hroom
      rcases hroom with hc | hs
      · left
        simp only [accept_hasCredit, decide_eq_true_eq] at hc
        exact BitVec.lt_def.mp hc
      · right
        refine ⟨r.pq.tail, by simp [lastTSN, hs], ?_⟩
        have hd1 := I.dtail_pos hs
        have hd2 := I.hb.2
        have hne : dtail r.pq ≠ 1 := by
          intro h1
          apply hnh
          have ht : r.pq.tail = r.pq.cum + 1 := by
            unfold dtail at h1; bv_omega
          refine ⟨by rw [off_one]; omega, by rw [off_one]; omega, ?_⟩
          rw [← ht]; exact I.ht1 hs
        unfold dtail at hd1 hd2 hne
        rw [htsn]
        simp only [sna32LT, Bool.or_eq_true, Bool.and_eq_true, decide_eq_true_eq]
        bv_omega
    by_cases hcont : (acceptPayloadData r c).2 = true
    · right; right
      rw [handleData_pq]
      have htr : dataTrace r c = [.data c.tsn true] := by
        simp [dataTrace, hcan, hwk, hcp, hsto, hcont]
      rw [htr, qrun_data]
      simp only [hcp, Bool.and_self, if_true]
      have hpush : (push r.pq c.tsn).2 = true := by rw [← canPush_eq_push]; exact hcp
      have hqb := push_qb hq hM c.tsn hb
      have h1 : heldAt (push r.pq c.tsn).1 1 := by
        rw [push_heldAt I c.tsn hpush]
        right; rw [htsn, off_one]
      have := popAllQ_pops hM hqb h1
      have e : idx t0 (push r.pq c.tsn).1 = idx t0 r.pq := by unfold idx; rw [push_cum]
      omega
    · have hcont' : (acceptPayloadData r c).2 = false := by simpa using hcont
      have hfl := accept_false r c hsto hcont'
      have he : handleData r c imm = (acceptPayloadData r c).1 := by
        have hcan3 : data_canHandle r.scp (3#32) = true := by rw [← hst]; exact hcan
        unfold handleData
        simp [hcan3, hwk, hcp, hcont', hst]
      rw [he]
      rcases hfl with h | h
      · exact Or.inl h
      · exact Or.inr (Or.inl h)

end NetSysLive

/-!
The receiver half of `Taken` on reachable NetSys states (`Props/C02net.lean`): `receiver_takes` = `handleData_takes` in the
receiver state of a run (`run_qb`), and what `accept` leaves alone. The sender half is `head_on_wire` (`LiveRound.lean`), the glue `taken_of_roundOk` (`LiveGlue.lean`).
-/
namespace NetSysLive
open Gen NetSys

/-! ### the accepts at the head of the round -/

theorem accept_fst (r : Receiver.St) : (Receiver.accept r).1 = { r with acceptQ := r.acceptQ.drop 1 } := by
  unfold Receiver.accept
  cases h : r.acceptQ with
  | nil => simp only [List.drop_nil]; rw [← h]
  | cons n rest => simp

theorem run_accepts (n : Nat) : ∀ r : Receiver.St,
    Receiver.run r (List.replicate n .accept) = { r with acceptQ := r.acceptQ.drop n } := by
  induction n with
  | zero => intro r; simp [Receiver.run]
  | succ n ih =>
    intro r
    rw [List.replicate_succ, Receiver.run, List.foldl_cons, ← Receiver.run]
    show Receiver.run (Receiver.accept r).1 _ = _
    rw [ih, accept_fst]
    simp [List.drop_drop, Nat.add_comm]

theorem run_rcvOnly_accepts (P : Params) (n : Nat) : ∀ s : St,
    run P s (List.replicate n (.rcv .accept)) = { s with rcv := Receiver.run s.rcv (List.replicate n .accept) } := by
  induction n with
  | zero => intro s; rfl
  | succ n ih =>
    intro s
    rw [List.replicate_succ, List.replicate_succ]
    simp only [run]
    rw [ih]
    simp [step, sndOp, rcvOp, Receiver.run]

theorem run_acceptAll (P : Params) (s : St) :
    run P s (acceptAll s.rcv) = { s with rcv := { s.rcv with acceptQ := [] } } := by
  unfold acceptAll
  rw [run_rcvOnly_accepts, run_accepts]
  simp

/-- ✱ receiver half on reachable NetSys states -/
theorem receiver_takes (P : Params) (ops : List Op) (hN : chunksWritten P ops < 2^31) (c : Sender.Chunk) (imm : Bool)
    (hc : c ∈ (run P (init P) ops).wire) (hst : (run P (init P) ops).rcv.state = 3#32)
    (htsn : c.tsn = (run P (init P) ops).rcv.pq.cum + 1)
    (hstream : (Receiver.getOrCreateStream (run P (init P) ops).rcv c.si true).2.isSome = true)
    (hroom : Room (run P (init P) ops).rcv = true) :
    (Receiver.handleData (run P (init P) ops).rcv (toWire P c) imm).willSendAbort = true ∨
    (Receiver.handleData (run P (init P) ops).rcv (toWire P c) imm).panicked = true ∨
    idx P.tsn (run P (init P) ops).rcv.pq + 1 ≤ idx P.tsn (Receiver.handleData (run P (init P) ops).rcv (toWire P c) imm).pq := by
  have hM : tsnsUsed P ops < 2^31 := Nat.lt_of_le_of_lt (tsnsUsed_le P ops) hN
  obtain ⟨c1, c2, c3⟩ := run_rcv_cfg P ops
  exact handleData_takes hM _ (toWire P c) imm (run_qb P ops hM) (wire_below P ops c hc) hst c1
    (by rw [c2]; rfl) htsn c3 (run_pq_maxOff P ops).1 hstream hroom

end NetSysLive
