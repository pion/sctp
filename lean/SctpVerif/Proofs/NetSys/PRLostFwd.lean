import SctpVerif.Proofs.NetSys.PRUnivGood
import SctpVerif.Proofs.NetSys.PRSafe
/-!
`hgood` of `C07_netsys_nothing_lost_partial` derived from decidable run predicates (`hgood_of_run`), and the writes of a
NetSysPR run as the message lists of its universe; then, below, the premise `hfw` (`KOf`, `FifoU`, `entok_of_run`, `fwdok_of_run`).
-/
namespace NetSysPR
open NetSys (Params Op toWire sndOp sndOps senderD sendersD UFacts)
open SenderProofs SenderTsn

theorem writes_eq (P : Params) (s : St) (ops : List Op) : writes P s ops = accepted s.snd (sndOps P s.snd ops) := by
  induction ops generalizing s with
  | nil => rfl
  | cons op ops ih =>
    simp only [writes, sndOps]
    rw [ih (step P s op)]
    cases h : sndOp P s.snd op with
    | some o =>
      have hst : (step P s op).snd = Sender.step s.snd o := by simp only [step, h]
      rw [hst]
      simp only [accepted]
      congr 1
      cases op with
      | write si ppi =>
        simp only [sndOp, Option.some.injEq] at h
        subst h
        rfl
      | snd so =>
        cases so with
        | write a b c => simp [sndOp] at h
        | _ => simp only [sndOp, Option.some.injEq] at h; subst h; rfl
      | deliver is => simp [sndOp] at h
      | rcv ro => simp [sndOp] at h
    | none =>
      have hst : (step P s op).snd = s.snd := by
        simp only [step, h]
        cases rcvOp P s.wire op <;> rfl
      rw [hst]
      cases op with
      | write si ppi => simp [sndOp] at h
      | _ => rfl

/-- the message list of the universe's stream `si` IS what the application wrote on `si` -/
theorem univ_writes {P : Params} {ops : List Op} {W : Nat} {wr : List Sender.Chunk}
    (h : UFacts P (accepted (init P).snd (sndOps P (init P).snd ops)) (SenderTsn.moved (init P).snd (sndOps P (init P).snd ops)) W wr) (si : BitVec 16) :
    (senderD P (accepted (init P).snd (sndOps P (init P).snd ops)) (SenderTsn.moved (init P).snd (sndOps P (init P).snd ops)) si).msgs.map Reasm.Msg.out =
      writesOn P si (init P) ops := by
  simp only [writesOn, writes_eq, senderD, NetSys.msgsOf, List.map_map]
  apply List.map_congr_left
  intro a ha
  have ha' := (List.mem_filter.1 ha).1
  simp only [Function.comp, Reasm.Msg.out, Reasm.Msg.payload, NetSys.cut_flatten _ _ (h.hfr a ha').2.2]

theorem univ_msgs_length {P : Params} {ops : List Op} {W : Nat} {wr : List Sender.Chunk}
    (h : UFacts P (accepted (init P).snd (sndOps P (init P).snd ops)) (SenderTsn.moved (init P).snd (sndOps P (init P).snd ops)) W wr) (si : BitVec 16) :
    (senderD P (accepted (init P).snd (sndOps P (init P).snd ops)) (SenderTsn.moved (init P).snd (sndOps P (init P).snd ops)) si).msgs.length =
      (writesOn P si (init P) ops).length := by
  simpa using congrArg List.length (univ_writes h si)

/-- ✱ `hgood`, derived: every history item any `deliver` of the run hands over is `GoodChunkS` for the universe of the run -/
theorem hgood_of_run (P : Params) (ops : List Op) (hifw : P.cfg.useIForwardTSN = false) (hok : RunOk P ops)
    {W : Nat} (h : UFacts P (accepted (init P).snd (sndOps P (init P).snd ops)) (SenderTsn.moved (init P).snd (sndOps P (init P).snd ops)) W
      (wire (init P).snd (sndOps P (init P).snd ops))) (si : BitVec 16) :
    ∀ o1 is o2, ops = o1 ++ Op.deliver is :: o2 → ∀ x ∈ pick (run P (init P) o1).wire is,
      Receiver.GoodChunkS (univOf h si) (senderD P (accepted (init P).snd (sndOps P (init P).snd ops)) (SenderTsn.moved (init P).snd (sndOps P (init P).snd ops)) si) (inChunk P x.1 x.2) := by
  intro o1 is o2 he x hx
  have hmem := pick_mem _ _ x hx
  obtain ⟨it, imm⟩ := x
  cases it with
  | data c =>
    have hc := wire_prefix_sub P o1 (Op.deliver is :: o2) c hmem
    rw [← he] at hc
    exact good_data h si c hc imm
  | fwd f =>
    have hok1 : RunOk P o1 := by rw [he] at hok; exact hok.take
    obtain ⟨_, n, c1, c2, _, _⟩ := skip_safe_idx P o1 hok1 [] (by simp) f hmem
    have hn : n < W := by
      have h1 : (moved P (init P) o1).length ≤ (moved P (init P) ops).length := by
        rw [he, moved_append, List.length_append]; omega
      have h2 := h.mvW
      have h3 : (moved P (init P) ops).length = (SenderTsn.moved (init P).snd (sndOps P (init P).snd ops)).length := by rw [moved_eq]
      omega
    rcases (run_snd P (init P) o1).2.2 f hmem with h0 | h0 | ⟨nc, es, rfl⟩
    · simp [init] at h0
    · rw [(run_snd P (init P) o1).1, run_cfg_all] at h0
      have : (init P).snd.cfg = P.cfg := rfl
      rw [this, hifw] at h0; cases h0
    · right
      exact ⟨nc, es, n, rfl, hn, c1⟩


/-!
`FwdOk` (premise `hfw` of the nothing-lost theorems) derived for NetSysPR runs from `skip_safe_idx` (the composed invariant),
the universe link, abandonment monotonicity and a decidable per-stream FIFO predicate in the universe's vocabulary.
-/

/-- message `k` of stream `si` is abandoned by the sender at the END of the run -/
def KOf (P : Params) (ops : List Op) (si : BitVec 16) : Nat → Bool := fun k =>
  match ((accepted (init P).snd (sndOps P (init P).snd ops)).filter (·.si == si))[k]? with
  | some ak => (run P (init P) ops).snd.abandoned { msg := ak.msg }
  | none => false

/-- per-stream FIFO of the TSN assignment, in the universe's vocabulary (decidable): when a chunk of stream `si` with SSN `L`
gets TSN offset `j`, every fragment of the stream's messages `k < L` has a smaller TSN offset -/
def FifoU (P : Params) (ops : List Op) (si : BitVec 16) : Bool :=
  (List.range (SenderTsn.moved (init P).snd (sndOps P (init P).snd ops)).length).all fun j =>
    match (SenderTsn.moved (init P).snd (sndOps P (init P).snd ops))[j]? with
    | some m => !(m.si == si) || (List.range m.ssn.toNat).all fun k =>
        (List.range ((senderD P (accepted (init P).snd (sndOps P (init P).snd ops)) (SenderTsn.moved (init P).snd (sndOps P (init P).snd ops)) si).nf k)).all fun i =>
          decide ((senderD P (accepted (init P).snd (sndOps P (init P).snd ops)) (SenderTsn.moved (init P).snd (sndOps P (init P).snd ops)) si).base k + i < j)
    | none => true

theorem FifoU.spec {P : Params} {ops : List Op} {si : BitVec 16} (h : FifoU P ops si = true) (j : Nat) (m : Sender.Chunk)
    (hj : (SenderTsn.moved (init P).snd (sndOps P (init P).snd ops))[j]? = some m) (hsi : m.si = si) (k : Nat) (hk : k < m.ssn.toNat)
    (i : Nat) (hi : i < (senderD P (accepted (init P).snd (sndOps P (init P).snd ops)) (SenderTsn.moved (init P).snd (sndOps P (init P).snd ops)) si).nf k) :
    (senderD P (accepted (init P).snd (sndOps P (init P).snd ops)) (SenderTsn.moved (init P).snd (sndOps P (init P).snd ops)) si).base k + i < j := by
  have hjl : j < (SenderTsn.moved (init P).snd (sndOps P (init P).snd ops)).length := (List.getElem?_eq_some_iff.1 hj).1
  have h1 := List.all_eq_true.1 h j (List.mem_range.2 hjl)
  rw [hj] at h1
  simp only [Bool.or_eq_true, Bool.not_eq_true', beq_eq_false_iff_ne, ne_eq] at h1
  rcases h1 with h1 | h1
  · exact absurd hsi h1
  · have := List.all_eq_true.1 (List.all_eq_true.1 h1 k (List.mem_range.2 hk)) i (List.mem_range.2 hi)
    simpa using this

/-- ✱ the honest-sender premise of a FORWARD-TSN of the history, in the universe's vocabulary, at any moment of the run -/
theorem entok_of_run (P : Params) (ops o1 o2 : List Op) (he : ops = o1 ++ o2) (hok : RunOk P ops) {W : Nat}
    (h : UFacts P (accepted (init P).snd (sndOps P (init P).snd ops)) (SenderTsn.moved (init P).snd (sndOps P (init P).snd ops)) W
      (wire (init P).snd (sndOps P (init P).snd ops))) (si : BitVec 16)
    (hlen15 : (senderD P (accepted (init P).snd (sndOps P (init P).snd ops)) (SenderTsn.moved (init P).snd (sndOps P (init P).snd ops)) si).msgs.length < 2^15)
    (hfifo : FifoU P ops si = true)
    (pre : List (Item × Bool)) (hpre : ∀ x ∈ pre, x.1 ∈ (run P (init P) o1).wire)
    (nc : BitVec 32) (es : List (BitVec 16 × BitVec 16)) (hf : Item.fwd (.fwd nc es) ∈ (run P (init P) o1).wire) :
    Receiver.EntOk (senderD P (accepted (init P).snd (sndOps P (init P).snd ops)) (SenderTsn.moved (init P).snd (sndOps P (init P).snd ops)) si)
      (KOf P ops si) (pushed P (init P) o1 ++ pushedIn P (Receiver.chunksStart (run P (init P) o1).rcv) pre) es := by
  have hok1 : RunOk P o1 := by rw [he] at hok; exact hok.take
  obtain ⟨htsn, n, c1, c2, c3, c4⟩ := skip_safe_idx P o1 hok1 pre hpre (.fwd nc es) hf
  have hsm := hok1.small
  have habLe : AbLe (run P (init P) o1).snd (run P (init P) ops).snd := by
    rw [he, run_append, (run_snd P (run P (init P) o1) o2).1]
    exact run_abLe _ _
  intro e hee hsi
  obtain ⟨m, hm, a1, a2, _, a4, a5⟩ := c4 e hee
  obtain ⟨j, hj⟩ := List.getElem?_of_mem hm
  have hjl : j < (moved P (init P) o1).length := (List.getElem?_eq_some_iff.1 hj).1
  have hjn : j ≤ n := by
    have c1' : nc = P.tsn + BitVec.ofNat 32 n := c1
    rw [htsn j m hj, c1'] at a2
    exact Sna.le_of_lte32_ofNat P.tsn (by omega) (by omega) a2
  have hpref : ∀ (j0 : Nat) (m0 : Sender.Chunk), (moved P (init P) o1)[j0]? = some m0 →
      (SenderTsn.moved (init P).snd (sndOps P (init P).snd ops))[j0]? = some m0 := by
    intro j0 m0 h0
    have hl : j0 < (moved P (init P) o1).length := (List.getElem?_eq_some_iff.1 h0).1
    rw [← moved_eq, he, moved_append, List.getElem?_append_left hl]; exact h0
  have hfull := hpref j m hj
  obtain ⟨ws1, a, ws2, i, e1, _, e3⟩ := h.ctx.mvid j m hfull
  have hmsi : m.si = a.si := congrArg Frag.si e3
  have hmmsg : m.msg = a.msg := congrArg Frag.msg e3
  have hmssn : m.ssn = BitVec.ofNat 16 (cntOf ws1 a.si) := congrArg Frag.ssn e3
  have hasi : a.si = si := hmsi.symm.trans (a4.trans hsi)
  obtain ⟨hget, hcnt⟩ := NetSys.filter_split _ ws1 ws2 a e1
  rw [hasi] at hget hcnt hmssn
  have hlenS : (senderD P (accepted (init P).snd (sndOps P (init P).snd ops)) (SenderTsn.moved (init P).snd (sndOps P (init P).snd ops)) si).msgs.length =
      cntOf (accepted (init P).snd (sndOps P (init P).snd ops)) si := by simp [senderD, NetSys.msgsOf, cntOf]
  generalize hL : cntOf ws1 si = L at hget hcnt hmssn
  refine ⟨L, by omega, by rw [← a5, hmssn], ?_⟩
  intro k hk hK i0 hi0
  have hLt : (BitVec.ofNat 16 L).toNat = L := by simp; omega
  rcases Nat.lt_or_ge k L with hkL | hkL
  · have hoff := FifoU.spec hfifo j m hfull (hmsi.trans hasi) k (by rw [hmssn, hLt]; exact hkL) i0 hi0
    generalize hj' : (senderD P (accepted (init P).snd (sndOps P (init P).snd ops)) (SenderTsn.moved (init P).snd (sndOps P (init P).snd ops)) si).base k + i0 = j' at hoff
    have hj'l : j' < (moved P (init P) o1).length := by omega
    have hm' : (moved P (init P) o1)[j']? = some (moved P (init P) o1)[j'] := List.getElem?_eq_getElem hj'l
    generalize (moved P (init P) o1)[j'] = m' at hm'
    rcases c3 j' m' (by omega) hm' with hab | hin
    · exfalso
      have hfull' := hpref j' m' hm'
      obtain ⟨w1, a', w2, i', f1, _, f3⟩ := h.ctx.mvid j' m' hfull'
      have hmsg' : m'.msg = a'.msg := congrArg Frag.msg f3
      have hidx := NetSys.idxOf_of_get _ h.ctx.nd j' m' hfull'
      have hj'full : j' < (SenderTsn.moved (init P).snd (sndOps P (init P).snd ops)).length := by
        rcases Nat.lt_or_ge j' (SenderTsn.moved (init P).snd (sndOps P (init P).snd ops)).length with h' | h'
        · exact h'
        · rw [List.getElem?_eq_none h'] at hfull'; cases hfull'
      obtain ⟨r1, r2⟩ := h.inj m' w1 a' w2 f1 hmsg' (by rw [hidx]; exact hj'full) si k i0 (by omega) hi0 (by rw [hidx]; exact hj')
      obtain ⟨g1, _⟩ := NetSys.filter_split _ w1 w2 a' f1
      rw [r1] at g1 r2
      rw [r2] at g1
      have hKk : KOf P ops si k = true := by
        simp only [KOf]
        rw [g1]
        exact habLe.abandoned (by show a'.msg = m'.msg; exact hmsg'.symm) hab
      rw [hKk] at hK; cases hK
    · have ht : ((senderD P (accepted (init P).snd (sndOps P (init P).snd ops)) (SenderTsn.moved (init P).snd (sndOps P (init P).snd ops)) si).dataFrag k i0).tsn = m'.tsn := by
        rw [htsn j' m' hm', ← hj']; rfl
      rw [ht]; exact hin
  · exfalso
    have hkeq : k = L := by omega
    have hKk : KOf P ops si k = true := by
      simp only [KOf]
      rw [hkeq, hget]
      exact habLe.abandoned (by show a.msg = m.msg; exact hmmsg.symm) a1
    rw [hKk] at hK; cases hK

/-- ✱ `FwdOk`, derived: every FORWARD-TSN the receiver takes in a NetSysPR run satisfies the honest-sender premise for the
stream, with `K` = "abandoned at the end of the run" -/
theorem fwdok_of_run (P : Params) (ops : List Op) (hok : RunOk P ops) {W : Nat}
    (h : UFacts P (accepted (init P).snd (sndOps P (init P).snd ops)) (SenderTsn.moved (init P).snd (sndOps P (init P).snd ops)) W
      (wire (init P).snd (sndOps P (init P).snd ops))) (si : BitVec 16)
    (hlen15 : (senderD P (accepted (init P).snd (sndOps P (init P).snd ops)) (SenderTsn.moved (init P).snd (sndOps P (init P).snd ops)) si).msgs.length < 2^15)
    (hfifo : FifoU P ops si = true) :
    Receiver.FwdOk (senderD P (accepted (init P).snd (sndOps P (init P).snd ops)) (SenderTsn.moved (init P).snd (sndOps P (init P).snd ops)) si)
      (KOf P ops si) (init P).rcv [] (rcvOps P (init P) ops) := by
  intro ops1 cs1 nc es cs2 ops2 hdec _
  obtain ⟨o1, op, o2, e, e1, e3⟩ := rcvOps_split P (init P) ops ops1 _ ops2 hdec
  have hpk : ∃ is, op = Op.deliver is ∧ packetOf P (run P (init P) o1).wire is = cs1 ++ Receiver.InChunk.fwd nc es :: cs2 := by
    cases op with
    | write a b => simp [rcvOp] at e3
    | snd so => simp [rcvOp] at e3
    | deliver is => simp only [rcvOp, Option.some.injEq, Receiver.Op.pkt.injEq] at e3; exact ⟨is, rfl, e3⟩
    | rcv ro => cases ro <;> simp [rcvOp] at e3
  obtain ⟨is, rfl, hp⟩ := hpk
  simp only [packetOf] at hp
  obtain ⟨l1, l2, hl, hm1, hm2⟩ := List.map_eq_append_iff.1 hp
  obtain ⟨x, l3, rfl, hx, _⟩ := List.map_eq_cons_iff.1 hm2
  have hxm : x ∈ pick (run P (init P) o1).wire is := by rw [hl]; simp
  have hxw := pick_mem _ _ x hxm
  have hx1 : x.1 = Item.fwd (.fwd nc es) := by
    obtain ⟨it, imm⟩ := x
    cases it with
    | data c => simp [inChunk] at hx
    | fwd f =>
      cases f with
      | fwd nc' es' => simp only [inChunk, inFwd, Receiver.InChunk.fwd.injEq] at hx; rw [hx.1, hx.2]
      | ifwd nc' es' => simp [inChunk, inFwd] at hx
  rw [hx1] at hxw
  have hpre : ∀ y ∈ l1, y.1 ∈ (run P (init P) o1).wire := fun y hy => pick_mem _ _ y (by rw [hl]; exact List.mem_append_left _ hy)
  have := entok_of_run P ops o1 (Op.deliver is :: o2) e hok h si hlen15 hfifo l1 hpre nc es hxw
  have g1 : Receiver.pushedT (init P).rcv ops1 = pushed P (init P) o1 := by rw [pushed_eq, e1]
  have g2 : Receiver.run (init P).rcv ops1 = (run P (init P) o1).rcv := by rw [run_rcv, e1]
  have g3 : Receiver.pushedC (Receiver.chunksStart (run P (init P) o1).rcv) cs1 = pushedIn P (Receiver.chunksStart (run P (init P) o1).rcv) l1 := by
    rw [pushedIn_eq, hm1]
  rw [List.nil_append, g1, g2, g3]
  exact this

end NetSysPR
