import SctpVerif.Proofs.NetSys.LiveTaken
import SctpVerif.Proofs.Receiver.Total
import SctpVerif.Proofs.ListAux
/-!
Reassembly entry cap off (`maxReassemblyQueueEntries = 0`, the default): along every NetSys run every reassembly queue of
the receiver has `maxEntries = 0` (`run_z`, by the lifting `Receiver.Acts.allQ`, which asks `new` only at the entry limit of the
association: `z_pres`), hence `pushWithError` never returns a limit error (`pushWithError_z`) and — no panic either (`C03_recv_total`) — a chunk that
`acceptPayloadData` decides to store IS stored (`accept_stored`).
-/
namespace NetSysLive
open Gen NetSys Receiver

def Z (q : Reasm.Q) : Prop := q.maxEntries = 0

theorem Z_step (q : Reasm.Q) (op : Reasm.Op) (h : Z q) : Z (q.step op) := by
  unfold Z at *; rw [Reasm.step_maxEntries]; exact h

theorem z_pres : GPres 0 (fun _ => Z) := ⟨fun _ => rfl, fun _ _ _ _ h => h, fun _ q op h => Z_step q op h⟩

theorem createStream_z {s : Receiver.St} (hme : s.maxEntries = 0) (h : AllQ Z s) (si : BitVec 16) (a : Bool) :
    AllQ Z (createStream s si a).1 :=
  createStream_allQ si a (congrArg Reasm.Q.maxEntries (congrArg (Reasm.new si) hme)) h

theorem getOrCreateStream_z {s : Receiver.St} (hme : s.maxEntries = 0) (h : AllQ Z s) (si : BitVec 16) (a : Bool) :
    AllQ Z (getOrCreateStream s si a).1 :=
  (getOrCreateStream_acts s si a).allQ (b := 0) (hme ▸ z_pres) h

theorem handleData_z {s : Receiver.St} (hme : s.maxEntries = 0) (h : AllQ Z s) (c : Reasm.Chunk) (imm : Bool) :
    AllQ Z (handleData s c imm) :=
  (handleData_acts s c imm).allQ (b := 0) (hme ▸ z_pres) h

/-- a packet made of DATA chunks only (every packet NetSys delivers) -/
def DataOnly (cs : List InChunk) : Prop := ∀ ch ∈ cs, ∃ c imm, ch = InChunk.data c imm

theorem step_z {s : Receiver.St} (hme : s.maxEntries = 0) (h : AllQ Z s) (op : Receiver.Op) (hd : ∀ cs, op = .pkt cs → DataOnly cs) :
    AllQ Z (Receiver.step s op) :=
  (step_acts s op).allQ (b := 0) (hme ▸ z_pres) h

/-- ✱ with the entry cap off every reassembly queue of every reachable state has `maxEntries = 0` -/
theorem run_z (P : Params) (h0 : P.maxEntries = 0) (ops : List NetSys.Op) :
    (run P (init P) ops).rcv.maxEntries = 0 ∧ AllQ Z (run P (init P) ops).rcv := by
  rw [run_rcv]
  have hme : (init P).rcv.maxEntries = 0 := h0
  exact ⟨(Receiver.run_maxEntries _ _).trans hme, (run_acts _ _).allQ (b := 0) (hme ▸ z_pres) (init_allQ _ _ _ _ _ _ _ _)⟩

/-! ### no limit error, hence a chunk that is to be stored is stored -/

open Reasm in
theorem lim0 (n : Int) : isReassemblyQueueLimitReached 0#32 n = false := by
  simp [isReassemblyQueueLimitReached]

open Reasm in
theorem pushOrderedIData_z (q : Q) (c : Chunk) (hz : q.maxEntries = 0) :
    (q.pushOrderedIData c).2.2 = .none := by
  unfold Q.pushOrderedIData
  simp only [Q.isMIDLimitReached, hz, lim0]
  repeat' split
  all_goals simp_all [lim0]

open Reasm in
theorem pushUnorderedIData_z (q : Q) (c : Chunk) (hz : q.maxEntries = 0) :
    (q.pushUnorderedIData c).2.2 = .none := by
  unfold Q.pushUnorderedIData
  simp only [Q.isMIDLimitReached, hz, lim0]
  repeat' split
  all_goals simp_all [lim0]

open Reasm in
theorem pushWithError_z (q : Q) (c : Chunk) (hz : q.maxEntries = 0) :
    (q.pushWithError c).2.2 = .none ∨ (q.pushWithError c).2.2 = .panic := by
  unfold Q.pushWithError
  split
  · left
    unfold Q.pushIData
    repeat' split
    · rfl
    · exact pushUnorderedIData_z _ c hz
    · exact pushOrderedIData_z _ c hz
  · have hl : q.hasDataLimit = false := by unfold Q.hasDataLimit; rw [hz]; rfl
    simp only [hl, Bool.false_and, Bool.false_eq_true, if_false]
    repeat' split
    all_goals first | exact Or.inl rfl | exact Or.inr rfl

theorem pushToStream_true (s : Receiver.St) (c : Reasm.Chunk) (x : Receiver.Stream) (hx : getS s.streams c.si = some x)
    (hz : Z x.q) (hne : Reasm.NoEmpty x.q) : (pushToStream s c).2 = true := by
  have h1 := pushWithError_z x.q c hz
  have h2 := Reasm.pushWithError_no_panic x.q c hne
  have h3 : (x.q.pushWithError c).2.2 = .none := by
    rcases h1 with h | h
    · exact h
    · exact absurd h h2
  unfold pushToStream
  simp only [hx, h3]

/-- ✱ with the entry cap off, a chunk that `acceptPayloadData` decides to store IS stored: it reports success -/
theorem accept_stored (s : Receiver.St) (c : Reasm.Chunk) (hme : s.maxEntries = 0) (hz : AllQ Z s) (hnp : NoPanic s)
    (hst : stores s c = true) : (acceptPayloadData s c).2 = true := by
  have hz' := getOrCreateStream_z hme hz c.si true
  have hn' := getOrCreateStream_allQ noEmpty_pres hnp.2 c.si true
  unfold stores at hst
  unfold acceptPayloadData
  rcases hgo : getOrCreateStream s c.si true with ⟨s', o⟩
  rw [hgo] at hst hz' hn'
  cases o with
  | none => simp at hst
  | some x =>
    obtain ⟨y, hy⟩ := getOrCreateStream_some s c.si true x (by rw [hgo])
    rw [hgo] at hy
    simp only at hst hy hz' hn' ⊢
    have hym := (getS_mem hy).1
    by_cases hc : accept_hasCredit (credit s') = true
    · simp only [hc, if_true]
      exact pushToStream_true s' c y hy (hz'.1 y hym) (hn'.1 y hym)
    · have hc' : accept_hasCredit (credit s') = false := by simpa using hc
      simp only [hc', Bool.false_eq_true, if_false, Bool.false_or, Bool.not_eq_true'] at hst ⊢
      simp only [hst, Bool.false_eq_true, if_false]
      exact pushToStream_true s' c y hy (hz'.1 y hym) (hn'.1 y hym)


/-!
`Normal` as a run invariant (`Props/C02net.lean`): with the reassembly entry cap off the receive queue is pop-normalised in
every reachable NetSys state — a chunk `acceptPayloadData` decides to store is stored (`accept_stored`), so the queue
trace of `handleData` is never a bare `push`, and after a `data` operation the pop loop has run to completion. It travels
along runs as a field of the receiver-state invariant `NB` (`step_nb`, lifted to NetSys runs by `NetSys.run_rcv_inv`: `run_nb`).
-/

/-- the TSN right after the cumulative point is not held (the predicate `RecvQ.Normalised` of `Proofs/RecvQ/Mono.lean`) -/
def NormalQ (q : RecvQ.Q) : Prop := RecvQ.hasChunk q (q.cum + 1) = false

theorem popAllQ_normal {q : RecvQ.Q} (I : RecvQ.Inv q) : NormalQ (popAllQ q) := by
  unfold NormalQ popAllQ
  exact RecvQ.popAllS_done (s := ⟨q, ⟨0, 0, fun _ => False, fun _ => False⟩⟩) I

/-- what is carried through the chunks of a packet -/
structure NB (r : Receiver.St) : Prop where
  me : r.maxEntries = 0
  z : AllQ Z r
  np : NoPanic r
  inv : RecvQ.Inv r.pq
  nrm : NormalQ r.pq

theorem handleData_normal {r : Receiver.St} (h : NB r) (c : Reasm.Chunk) (imm : Bool) : NormalQ (handleData r c imm).pq := by
  rw [handleData_pq]
  unfold dataTrace
  dsimp only
  split
  · exact h.nrm
  · split
    · exact h.nrm
    · split
      · rename_i hcp
        by_cases hA : ((acceptPayloadData r c).2 || r.state == 7#32) = true
        · rw [if_pos hA, qrun_data]
          split
          · exact popAllQ_normal (RecvQ.push_inv h.inv _)
          · exact popAllQ_normal h.inv
        · rw [if_neg hA]
          by_cases hB : (RecvQ.canPush r.pq c.tsn && stores r c) = true
          · exfalso
            simp only [Bool.and_eq_true] at hB
            have hs := accept_stored r c h.me h.z h.np hB.2
            rw [hs] at hA
            exact hA (by simp)
          · rw [if_neg hB]; exact h.nrm
      · simp only [Bool.true_or, if_true]
        rw [qrun_data]
        split
        · exact popAllQ_normal (RecvQ.push_inv h.inv _)
        · exact popAllQ_normal h.inv

theorem handleChunk_nb {r : Receiver.St} (h : NB r) (c : Reasm.Chunk) (imm : Bool) : NB (handleChunk r (.data c imm)) := by
  refine ⟨?_, ?_, handleChunk_noPanic h.np _, ?_, ?_⟩
  · simp only [handleChunk]; split
    · exact h.me
    · rw [handleData_maxEntries]; exact h.me
  · simp only [handleChunk]; split
    · exact h.z
    · exact handleData_z h.me h.z c imm
  · rw [handleChunk_pq]; exact (qrun_inv h.inv _).1
  · simp only [handleChunk]; split
    · exact h.nrm
    · exact handleData_normal h c imm

theorem foldl_nb (cs : List InChunk) (hd : DataOnly cs) : ∀ {r : Receiver.St}, NB r → NB (cs.foldl handleChunk r) :=
  fun h => ListAux.foldl_inv (P := NB) cs h fun r ch hch h => by
    obtain ⟨c, imm, rfl⟩ := hd ch hch
    exact handleChunk_nb h c imm

theorem step_normal {r : Receiver.St} (h : NB r) (op : Receiver.Op) (hd : ∀ cs, op = .pkt cs → DataOnly cs) :
    NormalQ (Receiver.step r op).pq := by
  cases op with
  | pkt cs =>
    show NormalQ (packet r cs).pq
    unfold packet
    rw [chunksEnd_pq]
    exact (foldl_nb cs (hd cs rfl) (r := chunksStart r) ⟨h.me, h.z, h.np, h.inv, h.nrm⟩).nrm
  | gather =>
    rw [step_pq]
    simp only [opTrace]
    split
    · rw [qrun_single _ ⟨0, 0, fun _ => False, fun _ => False⟩]; exact h.nrm
    · exact h.nrm
  | read n k => rw [step_pq]; exact h.nrm
  | accept => rw [step_pq]; exact h.nrm
  | «open» si => rw [step_pq]; exact h.nrm
  | tick d => rw [step_pq]; exact h.nrm
  | setState st => exact h.nrm

theorem step_nb {r : Receiver.St} (h : NB r) (o : Receiver.Op) (hd : ∀ cs, o = .pkt cs → DataOnly cs) : NB (Receiver.step r o) :=
  ⟨(congrArg Receiver.Cfg.maxEntries (Receiver.step_cfg r o)).trans h.me, step_z h.me h.z o hd, step_noPanic h.np o,
    by rw [step_pq]; exact (qrun_inv h.inv _).1, step_normal h o hd⟩

theorem init_nb (P : Params) (h0 : P.maxEntries = 0) : NB (init P).rcv :=
  ⟨h0, init_allQ _ _ _ _ _ _ _ _, init_noPanic _ _ _ _ _ _ _, (init_qb P).inv, by
    show RecvQ.hasChunk (init P).rcv.pq _ = false
    have : (init P).rcv.pq.size = 0 := rfl
    simp [RecvQ.hasChunk, this]⟩

end NetSysLive

namespace NetSys

theorem run_wire_mem (P : Params) (s : St) (ops : List Op) : ∀ c ∈ s.wire, c ∈ (run P s ops).wire := by
  intro c hc
  rw [(run_snd P s ops).2]
  exact List.mem_append_left _ hc

/-- ✱ lifting a receiver invariant to NetSys runs, from any state: `C` is kept by every receiver operation whose packet (if it
is one) is made of decoded chunks satisfying `G`, and every chunk of the FINAL history satisfies `G` (the history only grows) -/
theorem run_rcv_inv (P : Params) (G : Sender.Chunk → Prop) (C : Receiver.St → Prop)
    (hstep : ∀ r o, C r → (∀ cs, o = .pkt cs → ∀ ch ∈ cs, ∃ c, G c ∧ ∃ imm, ch = Receiver.InChunk.data (toWire P c) imm) →
      C (Receiver.step r o)) (ops : List Op) :
    ∀ s : St, C s.rcv → (∀ c ∈ (run P s ops).wire, G c) → C (run P s ops).rcv := by
  induction ops with
  | nil => intro s h _; exact h
  | cons op ops ih =>
    intro s h hw
    refine ih (step P s op) (step_rcv_cases P s op C h fun o hpk => hstep _ o h fun cs hcs ch hch => ?_) hw
    obtain ⟨c, hc, imm, e⟩ := hpk cs hcs ch hch
    exact ⟨c, hw c (run_wire_mem P s (op :: ops) c hc), imm, e⟩

end NetSys

namespace NetSysLive
open Gen NetSys Receiver

/-- ✱ entry cap off: `NB` in every reachable state -/
theorem run_nb (P : Params) (h0 : P.maxEntries = 0) (ops : List NetSys.Op) : NB (run P (init P) ops).rcv :=
  run_rcv_inv P (fun _ => True) NB (fun r o h hpk => step_nb h o fun cs hcs ch hch => by
    obtain ⟨c, _, imm, e⟩ := hpk cs hcs ch hch
    exact ⟨_, _, e⟩) ops (init P) (init_nb P h0) (fun _ _ => trivial)

/-- the invariants every reachable receiver state has when the entry cap is off -/
theorem run_nb0 (P : Params) (h0 : P.maxEntries = 0) (ops : List NetSys.Op) :
    (run P (init P) ops).rcv.maxEntries = 0 ∧ AllQ Z (run P (init P) ops).rcv ∧ NoPanic (run P (init P) ops).rcv ∧
    RecvQ.Inv (run P (init P) ops).rcv.pq :=
  have h := run_nb P h0 ops
  ⟨h.me, h.z, h.np, h.inv⟩

/-- ✱ with the entry cap off the receive queue is pop-normalised in every reachable state -/
theorem run_normal (P : Params) (h0 : P.maxEntries = 0) (ops : List NetSys.Op) : NormalQ (run P (init P) ops).rcv.pq :=
  (run_nb P h0 ops).nrm


/-!
`willSendAbort` frames of the receive-half handlers and the invariant `NoCap` (`NB`, `willSendAbort = false`) of NetSys runs
with the reassembly entry cap off whose history chunks all decode to non-empty user data (`Props/C02net.lean`, `HeadOk`). The
flag is part of the view `St.kept`, so the stream-table, reset and application handlers keep it by their `_kept` lemmas.
-/

theorem wsa_of_kept {s t : Receiver.St} (h : t.kept = s.kept) : t.willSendAbort = s.willSendAbort :=
  congrArg Kept.willSendAbort h

theorem getOrCreateStream_wsa (s : Receiver.St) (si : BitVec 16) (a : Bool) : ((getOrCreateStream s si a).1).willSendAbort = s.willSendAbort :=
  wsa_of_kept (getOrCreateStream_kept s si a)

@[simp] theorem handleResetReq_wsa (s : Receiver.St) (r : ResetReq) : (handleResetReq s r).willSendAbort = s.willSendAbort :=
  wsa_of_kept (handleResetReq_kept s r)

@[simp] theorem ackStep_wsa (s : Receiver.St) (b : Bool) : (ackStep s b).willSendAbort = s.willSendAbort :=
  ackStep_view Kept.willSendAbort (fun _ _ => rfl) (fun _ _ => rfl) s b

@[simp] theorem chunksStart_wsa (s : Receiver.St) : (chunksStart s).willSendAbort = s.willSendAbort := by
  rfl

theorem chunksEnd_wsa (s : Receiver.St) : (chunksEnd s).willSendAbort = s.willSendAbort := by
  unfold chunksEnd; repeat' split
  all_goals rfl

theorem tick_wsa (s : Receiver.St) (d : Nat) : (tick s d).willSendAbort = s.willSendAbort := by
  unfold tick; dsimp only; repeat' split
  all_goals first | rfl | simp [ackTimeout]

/-! ### the handlers that may raise the flag, under the invariants `NB` -/

theorem pushToStream_wsa_ok (s : Receiver.St) (c : Reasm.Chunk) (h : (pushToStream s c).2 = true) :
    (pushToStream s c).1.willSendAbort = s.willSendAbort := by
  unfold pushToStream at h ⊢
  dsimp only at h ⊢
  split
  · rfl
  · rename_i x hx
    simp only [hx] at h
    split
    · rfl
    · rename_i he; simp [he] at h
    · rename_i he1 he2
      split at h
      · exact absurd ‹_› he1
      · exact absurd ‹_› he2
      · cases h

theorem accept_wsa {s : Receiver.St} (h : NB s) (c : Reasm.Chunk) :
    (acceptPayloadData s c).1.willSendAbort = s.willSendAbort := by
  have hz' := getOrCreateStream_z h.me h.z c.si true
  have hn' := getOrCreateStream_allQ noEmpty_pres h.np.2 c.si true
  have hw := getOrCreateStream_wsa s c.si true
  unfold acceptPayloadData
  rcases hgo : getOrCreateStream s c.si true with ⟨s', o⟩
  rw [hgo] at hz' hn' hw
  cases o with
  | none => exact hw
  | some x =>
    obtain ⟨y, hy⟩ := getOrCreateStream_some s c.si true x (by rw [hgo])
    rw [hgo] at hy
    simp only at hy hz' hn' hw ⊢
    have hym := (getS_mem hy).1
    have hp := pushToStream_true s' c y hy (hz'.1 y hym) (hn'.1 y hym)
    split
    · rw [pushToStream_wsa_ok s' c hp]; exact hw
    · split
      · exact hw
      · rw [pushToStream_wsa_ok s' c hp]; exact hw

theorem handleData_wsa {r : Receiver.St} (h : NB r) (c : Reasm.Chunk) (imm : Bool) (hk : c.iData = r.il) :
    (handleData r c imm).willSendAbort = r.willSendAbort := by
  have ha := accept_wsa h c
  unfold handleData
  dsimp only
  split
  · rfl
  · split
    · rename_i hw; simp [data_wrongKind, hk] at hw
    · repeat' split
      all_goals simp [ha]

/-- a packet of DATA chunks of the negotiated kind with non-empty user data -/
def GoodPkt (il : Bool) (cs : List InChunk) : Prop :=
  ∀ ch ∈ cs, ∃ c imm, ch = InChunk.data c imm ∧ c.userData ≠ [] ∧ c.iData = il

theorem foldl_wsa (cs : List InChunk) (il : Bool) (hg : GoodPkt il cs) : ∀ {r : Receiver.St}, NB r → r.il = il →
    (cs.foldl handleChunk r).willSendAbort = r.willSendAbort :=
  fun {r} h hil => (ListAux.foldl_inv (P := fun x => NB x ∧ x.il = il ∧ x.willSendAbort = r.willSendAbort) cs ⟨h, hil, rfl⟩
    fun x ch hch ⟨hx, hxil, hw⟩ => by
      obtain ⟨c, imm, rfl, hne, hk⟩ := hg ch hch
      have hemp : c.userData.isEmpty = false := by simpa using hne
      have e : handleChunk x (.data c imm) = handleData x c imm := by simp [handleChunk, hemp]
      exact ⟨handleChunk_nb hx c imm, by rw [e, handleData_il]; exact hxil,
        by rw [e, handleData_wsa hx c imm (by rw [hk, hxil])]; exact hw⟩).2.2

theorem gather_wsa_false (s : Receiver.St) (h : s.willSendAbort = false) : (Receiver.gather s).1.willSendAbort = false := by
  unfold Receiver.gather
  simp only [h, Bool.false_eq_true, if_false]
  split
  · simp [createSack]
  · rfl

theorem step_wsa {r : Receiver.St} (h : NB r) (hw : r.willSendAbort = false) (op : Receiver.Op)
    (hd : ∀ cs, op = .pkt cs → GoodPkt r.il cs) : (Receiver.step r op).willSendAbort = false := by
  cases op with
  | pkt cs =>
    show (packet r cs).willSendAbort = false
    unfold packet
    rw [chunksEnd_wsa, foldl_wsa cs r.il (hd cs rfl) (r := chunksStart r) ⟨h.me, h.z, h.np, h.inv, h.nrm⟩ rfl]
    exact hw
  | gather => exact gather_wsa_false r hw
  | read n k => exact (wsa_of_kept (read_kept r n k)).trans hw
  | accept => exact (wsa_of_kept (accept_kept r)).trans hw
  | «open» si => exact (wsa_of_kept (openStream_kept r si)).trans hw
  | tick d => show (tick r d).willSendAbort = false; rw [tick_wsa]; exact hw
  | setState st => exact hw

/-- every chunk of the history decodes to non-empty user data -/
def WireData (P : Params) (w : List Sender.Chunk) : Prop := ∀ c ∈ w, (toWire P c).userData ≠ []

/-- the receiver invariant of runs with the entry cap off whose history chunks all carry user data -/
structure NoCap (P : Params) (r : Receiver.St) : Prop where
  nb : NB r
  wsa : r.willSendAbort = false
  il : r.il = P.cfg.useInterleaving

theorem NoCap.run (P : Params) (ops : List NetSys.Op) : ∀ s : NetSys.St, NoCap P s.rcv → WireData P (NetSys.run P s ops).wire →
    NoCap P (NetSys.run P s ops).rcv :=
  run_rcv_inv P (fun c => (toWire P c).userData ≠ []) (NoCap P) (fun r o h hpk =>
    have hg : ∀ cs, o = .pkt cs → GoodPkt r.il cs := fun cs hcs ch hch => by
      obtain ⟨c, hc, imm, e⟩ := hpk cs hcs ch hch
      exact ⟨_, _, e, hc, by rw [h.il]; rfl⟩
    ⟨step_nb h.nb o fun cs hcs ch hch => by obtain ⟨c, imm, e, _⟩ := hg cs hcs ch hch; exact ⟨c, imm, e⟩,
      step_wsa h.nb h.wsa o hg, (congrArg Receiver.Cfg.il (Receiver.step_cfg r o)).trans h.il⟩) ops

/-- ✱ entry cap off and non-empty user data: the receiver never raises the ABORT flag -/
theorem run_noabort (P : Params) (h0 : P.maxEntries = 0) (ops : List NetSys.Op)
    (hw : WireData P (run P (init P) ops).wire) : (run P (init P) ops).rcv.willSendAbort = false :=
  (NoCap.run P ops (init P) ⟨init_nb P h0, rfl, rfl⟩ hw).wsa

end NetSysLive

/-!
`Normal` and `HeadOk` discharged (`Props/C02net.lean`, `C02_netsys_drains_honest_nocap`): with the reassembly entry cap off and
every chunk of the history decoding to non-empty user data, `RoundOkEN` (receiver established, `Room`) gives `RoundOkHN`.
-/
namespace NetSysLive
open Gen NetSys

theorem wireData_of_B (P : Params) (w : List Sender.Chunk) (h : WireDataB P w = true) : WireData P w := by
  intro c hc
  simp only [WireDataB, List.all_eq_true, Bool.not_eq_true'] at h
  have := h c hc
  intro he; rw [he] at this; simp at this

/-- the history after the round's first delivery is part of the history when the round's SACK is built -/
theorem firstOps_wire_sub (P : Params) (s : St) : ∀ c ∈ (run P s (firstOps s)).wire, c ∈ (preSack P s).wire := by
  intro c hc
  have e1 : (run P s (firstOps s)).wire = (run P s (acceptAll s.rcv ++ sendOps s.snd)).wire := by
    unfold firstOps
    rw [NetSys.run_append (o2 := [_])]
    exact (step_snd_none P _ _ rfl).2
  obtain ⟨rest, e2⟩ : ∃ rest, roundOps P s = (acceptAll s.rcv ++ sendOps s.snd) ++ rest :=
    ⟨_, List.append_assoc _ _ _⟩
  rw [e1] at hc
  unfold preSack
  rw [e2, NetSys.run_append]
  exact run_wire_mem P _ rest c hc

/-- `HeadOk` in every `NoCap` state whose round stays inside a history with non-empty user data -/
theorem NoCap.headOk {P : Params} {s : St} (h : NoCap P s.rcv) (hw : WireData P (preSack P s).wire) : HeadOk P s = true := by
  have hf := NoCap.run P (firstOps s) s h fun c hc => hw c (firstOps_wire_sub P s c hc)
  simp only [HeadOk, Bool.and_eq_true, Bool.not_eq_true']
  exact ⟨hf.wsa, hf.nb.np.1⟩

theorem headOk_nocap (P : Params) (h0 : P.maxEntries = 0) (ops : List Op)
    (hw : WireData P (run P (init P) (ops ++ roundOps P (run P (init P) ops))).wire) :
    HeadOk P (run P (init P) ops) = true := by
  rw [NetSys.run_append] at hw
  have hs : WireData P (run P (init P) ops).wire := fun c hc => hw c (run_wire_mem P _ _ c hc)
  exact (NoCap.run P ops (init P) ⟨init_nb P h0, rfl, rfl⟩ hs).headOk hw

/-- ✱ from a `NoCap` state, inside a history with non-empty user data: `RoundOkEN` gives `RoundOkHN` -/
theorem NoCap.roundOkHN {P : Params} (n : Nat) {s : St} (h : NoCap P s.rcv) (hw : WireData P (healedN P n s).wire)
    (hok : alongN P RoundOkE n s = true) : alongN P (RoundOkH P) n s = true := by
  -- the histories of a round: when the SACK is built ⊆ after the round ⊆ after the rounds to come
  have sub : ∀ n s, WireData P (healedN P (n+1) s).wire → WireData P (healed P s).wire ∧ WireData P (preSack P s).wire := by
    intro n s hw
    have h1 : WireData P (healed P s).wire := fun c hc => hw c (by
      show c ∈ (healedN P n (healed P s)).wire
      rw [← run_healedRounds]; exact run_wire_mem P _ _ c hc)
    exact ⟨h1, fun c hc => h1 c (by rw [healed_eq]; exact run_wire_mem P _ [_] c hc)⟩
  refine alongN_imp P (fun n s => NoCap P s.rcv ∧ WireData P (healedN P n s).wire) _ _ ?_ ?_ n s ⟨h, hw⟩ hok
  · rintro n s ⟨h, hw⟩
    exact ⟨NoCap.run P (healedRound P s) s h (sub n s hw).1, hw⟩
  · rintro n s ⟨h, hw⟩ _ hr
    simp only [RoundOkE, Bool.and_eq_true, beq_iff_eq] at hr
    simp only [RoundOkH, Bool.and_eq_true, beq_iff_eq, Normal, Bool.not_eq_true']
    exact ⟨⟨hr, h.nb.nrm⟩, h.headOk (sub n s hw).2⟩

theorem roundOkHN_of_nocap (P : Params) (h0 : P.maxEntries = 0) (n : Nat) : ∀ ops,
    WireData P (run P (init P) (ops ++ healedRounds P n (run P (init P) ops))).wire →
    RoundOkEN P n (run P (init P) ops) = true → RoundOkHN P n (run P (init P) ops) = true := by
  intro ops hw hok
  rw [NetSys.run_append, run_healedRounds] at hw
  have hs : WireData P (run P (init P) ops).wire := fun c hc => hw c (by
    rw [← run_healedRounds]; exact run_wire_mem P _ _ c hc)
  rw [roundOkHN_eq]
  exact (NoCap.run P ops (init P) ⟨init_nb P h0, rfl, rfl⟩ hs).roundOkHN n hw (by rw [← roundOkEN_eq]; exact hok)

end NetSysLive
