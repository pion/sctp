import SctpVerif.Proofs.NetSys.SelQ
/-!
NetSysQ over reliable ordered streams never raises its queue-error flag: no `pendingQueue.pop` fails.

`messagePendingQueuePolicy.pop` fails with `ErrUnexpectedQState` when no message is selected and the chunk is not a first
fragment. `Shape sel l` reads the B / E flags of the ordered queue as an automaton: if a message is selected the queue
starts with the rest of that message (non-B fragments up to an E), then come whole messages (B … E). `write` appends whole
messages (`mkChunks_shape`), a successful pop moves the automaton on (`pop_ok`: `selected' = !c.e`). The queue runs
parallel to the sender's pending list (`ids.length = pending.length`), so a gather that takes `k` chunks finds `k` chunks.
-/
namespace NetSysQ
open NetSys SenderProofs SenderTsn Sender PendQ Gen

def be (c : PendQ.Chunk) : Bool × Bool := (c.b, c.e)
def sbe (c : Sender.Chunk) : Bool × Bool := (c.bfrag, c.efrag)

/-- B / E flags of a queue that holds (if `sel`) the rest of the selected message, then whole messages -/
def Shape : Bool → List (Bool × Bool) → Prop
  | false, [] => True
  | true, [] => False
  | sel, (b, e) :: t => b = !sel ∧ Shape (!e) t

theorem shape_append {sel : Bool} {l l2 : List (Bool × Bool)} (h1 : Shape sel l) (h2 : Shape false l2) : Shape sel (l ++ l2) := by
  induction l generalizing sel with
  | nil =>
    cases sel with
    | false => simpa using h2
    | true => exact absurd h1 (by simp [Shape])
  | cons x t ih =>
    obtain ⟨b, e⟩ := x
    simp only [List.cons_append, Shape] at h1 ⊢
    exact ⟨h1.1, ih h1.2⟩

theorem mkChunks_shape (si : BitVec 16) (msg : Nat) (ppi : BitVec 32) (u : Bool) (ssn : BitVec 16) (mid : BitVec 32)
    (fs : List Nat) (fsn : BitVec 32) (first : Bool) (hne : fs ≠ []) :
    Shape (!first) ((mkChunks si msg ppi u ssn mid fs fsn first).map sbe) := by
  induction fs generalizing fsn first with
  | nil => exact absurd rfl hne
  | cons f rest ih =>
    simp only [mkChunks, List.map_cons, sbe, Shape, Bool.not_not, true_and]
    cases rest with
    | nil => simp [mkChunks, Shape]
    | cons g r =>
      have := ih (fsn + 1) false (List.cons_ne_nil _ _)
      simpa using this

theorem writeChunks_shape (s : Sender.St) (si : BitVec 16) (ppi : BitVec 32) (len : Nat) :
    Shape false ((writeChunks s si ppi len).map sbe) := by
  unfold writeChunks
  cases hs : s.streams si with
  | none => simp [Shape]
  | some st =>
    simp only
    split
    · simp [Shape]
    · split
      · simp [Shape]
      · rename_i hlen
        split
        · simp [Shape]
        · rename_i hmp
          split
          · simp only [packetize]
            have hmp' : s.cfg.maxPayload.toNat ≠ 0 := fun h0 => hmp (BitVec.eq_of_toNat_eq (by simpa using h0))
            exact mkChunks_shape (first := true) _ _ _ _ _ _ _ _ (fragSizes_ne_nil _ _ hlen hmp')
          · simp [Shape]

/-- what `pushAll` does to the policy when every chunk is ordered -/
theorem pushAll_ord (q : Q) (cs : List Sender.Chunk) (hcs : ∀ c ∈ cs, c.unordered = false) :
    (pushAll q cs).pol.ord.map be = q.pol.ord.map be ++ cs.map sbe ∧ (pushAll q cs).pol.selected = q.pol.selected ∧
    (pushAll q cs).ids.length = q.ids.length + cs.length ∧ (pushAll q cs).err = q.err := by
  induction cs generalizing q with
  | nil => simp [pushAll]
  | cons c r ih =>
    have hcu : c.unordered = false := hcs c List.mem_cons_self
    obtain ⟨i1, i2, i3, i4⟩ := ih { q with pol := q.pol.push (view q.nextId c), ids := q.ids ++ [q.nextId], nextId := q.nextId + 1 }
      (fun x hx => hcs x (List.mem_cons_of_mem _ hx))
    simp only [pushAll]
    refine ⟨?_, ?_, ?_, i4⟩
    · rw [i1]; simp [MsgPol.push, view, hcu, be, sbe]
    · rw [i2]; simp [MsgPol.push, view, hcu]
    · rw [i3]; simp; omega

/-- under `QI` and `Shape` the pop of the head succeeds -/
theorem pop_ok {m : MsgPol} {ids : List Nat} (h : QI m ids) (hs : Shape m.selected (m.ord.map be)) {c : PendQ.Chunk}
    {t : List PendQ.Chunk} (ho : m.ord = c :: t) :
    (m.pop c).2 = .ok ∧ (m.pop c).1.ord = t ∧ (m.pop c).1.selected = !c.e := by
  have hcu : c.unordered = false := h.ord c (by rw [ho]; exact List.mem_cons_self)
  rw [ho] at hs
  simp only [List.map_cons, be, Shape] at hs
  obtain ⟨hb, _⟩ := hs
  unfold MsgPol.pop
  cases hsel : m.selected with
  | true =>
    have hus := h.us hsel
    cases he : c.e <;> simp [MsgPol.popSelected, hus, ho, he, hsel]
  | false =>
    rw [hsel] at hb
    have hb' : c.b = true := by simpa using hb
    cases he : c.e <;> simp [hb', MsgPol.popNewSelection, hcu, ho, he, hsel]

theorem advance_noerr (k : Nat) (q : Q) (he : q.err = false) (h : QI q.pol q.ids) (hs : Shape q.pol.selected (q.pol.ord.map be))
    (hk : k ≤ q.ids.length) :
    (advance k q).err = false ∧ Shape (advance k q).pol.selected ((advance k q).pol.ord.map be) ∧
    (advance k q).ids.length = q.ids.length - k := by
  induction k generalizing q with
  | zero => exact ⟨he, hs, rfl⟩
  | succ k ih =>
    obtain ⟨pol, ids, nextId, err⟩ := q
    simp only at he h hs hk
    subst he
    simp only [advance, Bool.false_eq_true, if_false]
    rw [h.peek]
    cases ho : pol.ord with
    | nil =>
      have : ids.length = 0 := by rw [← h.par, ho]; rfl
      omega
    | cons c t =>
      obtain ⟨i0, il, ie⟩ := h.idx ho
      obtain ⟨p1, p2, p3⟩ := pop_ok h hs ho
      simp only [List.head?_cons, i0, il, if_true]
      generalize hp : pol.pop c = pp at p1 p2 p3
      obtain ⟨m', r⟩ := pp
      simp only at p1 p2 p3
      subst p1
      simp only
      have hq' : QI m' (ids.eraseIdx 0) := by rw [ie]; exact h.pop ho hp
      have hs' : Shape m'.selected (m'.ord.map be) := by
        rw [p2, p3]
        rw [ho] at hs
        simp only [List.map_cons, be, Shape] at hs
        exact hs.2
      have hlen : (ids.eraseIdx 0).length = ids.length - 1 := by rw [List.length_eraseIdx]; simp [il]
      obtain ⟨j1, j2, j3⟩ := ih { pol := m', ids := ids.eraseIdx 0, nextId := nextId, err := false } rfl hq' hs' (by simp only; omega)
      refine ⟨j1, j2, ?_⟩
      rw [j3]
      simp only
      omega

structure RInv2 (s : St) : Prop where
  r : RInv s
  ne : s.q.err = false
  sh : Shape s.q.pol.selected (s.q.pol.ord.map be)
  len : s.q.ids.length = s.sys.snd.pending.length

theorem init_rinv2 (P : Params) : RInv2 (init P) := ⟨init_rinv P, rfl, by simp [init, Shape], rfl⟩

theorem gather_pending_le (s : Sender.St) (orc : Oracle) (sel : List Nat) :
    (Sender.gather s orc sel).1.pending.length ≤ s.pending.length := by
  unfold Sender.gather
  split
  · exact Nat.le_refl _
  · obtain ⟨q1, _⟩ := gatherRtx_still s orc
    have m2 := gatherNew_moves orc.allow (gatherRtx s orc).2.2 (gatherRtx s orc).1 sel
    obtain ⟨q3, _⟩ := gatherFast_still (gatherNew (gatherRtx s orc).1 orc.allow (gatherRtx s orc).2.2 sel).1 orc.allow
      (gatherNew (gatherRtx s orc).1 orc.allow (gatherRtx s orc).2.2 sel).2.b
    show (gatherFast _ _ _).1.pending.length ≤ s.pending.length
    rw [q3.q.pen, ← q1.q.pen]
    obtain ⟨D, c⟩ := m2.cnt
    have := c (fun _ => true)
    simp only [List.countP_true, List.length_map, List.length_append] at this
    omega

theorem step_pending (s : Sender.St) (o : Sender.Op) (h : ∀ orc sel, o ≠ .gather orc sel) (hw : ∀ si ppi len, o ≠ .write si ppi len) :
    (Sender.step s o).pending = s.pending := by
  cases o with
  | openS si u rt rv th => rfl
  | unreg si => simp only [Sender.step, unregister]; split <;> rfl
  | setEstablished b => rfl
  | write si ppi len => exact absurd rfl (hw si ppi len)
  | gather orc sel => exact absurd rfl (h orc sel)
  | sack cum arwnd gaps marks => exact (sack_still s cum arwnd gaps marks).q.pen
  | t3 => exact (t3_still s).q.pen
  | tick ms n marks => exact (tick_still s ms n marks).q.pen

theorem step_rinv2_aux (P : Params) (s : St) (op : NetSys.Op) (h : RInv2 s) :
    (step P s op).1.q.err = false ∧ Shape (step P s op).1.q.pol.selected ((step P s op).1.q.pol.ord.map be) ∧
    (step P s op).1.q.ids.length = (step P s op).1.sys.snd.pending.length := by
  simp only [step]
  generalize resolveOp s.q op = op'
  cases hso : sndOp P s.sys.snd op' with
  | none =>
    obtain ⟨e1, _⟩ := step_snd_none P s.sys op' hso
    rw [e1]
    cases op' with
    | write si ppi => simp [sndOp] at hso
    | snd so =>
      cases so with
      | gather orc sel => simp [sndOp] at hso
      | _ => exact ⟨h.ne, h.sh, h.len⟩
    | deliver is => exact ⟨h.ne, h.sh, h.len⟩
    | rcv ro => exact ⟨h.ne, h.sh, h.len⟩
  | some o =>
    rw [step_snd_some P s.sys op' o hso]
    rcases sndOp_eq_some.1 hso with ⟨si, ppi, rfl, rfl⟩ | ⟨rfl, hw⟩
    · simp only [qStep, Sender.step, (write_queues _ _ _ _).2, List.drop_left]
      obtain ⟨a1, a2, a3, a4⟩ := pushAll_ord s.q (writeChunks s.sys.snd si ppi (P.pay s.sys.snd.nextMsg).length)
        (writeChunks_ordered _ h.r.os _ _ _)
      refine ⟨by rw [a4]; exact h.ne, ?_, ?_⟩
      · rw [a1, a2]; exact shape_append h.sh (writeChunks_shape _ _ _ _)
      · rw [a3, h.len, List.length_append]
    · cases o with
      | gather orc sel =>
        simp only [qStep, Sender.step]
        have hle := gather_pending_le s.sys.snd orc sel
        obtain ⟨j1, j2, j3⟩ := advance_noerr (s.sys.snd.pending.length - (Sender.gather s.sys.snd orc sel).1.pending.length) s.q h.ne
          (h.r.qi h.ne) h.sh (by rw [h.len]; omega)
        refine ⟨j1, j2, ?_⟩
        rw [j3, h.len]; omega
      | write a b c => exact absurd rfl (hw a b c)
      | _ =>
        refine ⟨h.ne, h.sh, ?_⟩
        show s.q.ids.length = (Sender.step s.sys.snd _).pending.length
        rw [step_pending _ _ (fun _ _ hc => by cases hc) (fun _ _ _ hc => by cases hc)]
        exact h.len

theorem step_rinv2 (P : Params) (s : St) (op : NetSys.Op) (h : RInv2 s) (hr : ReliableOp op = true) : RInv2 (step P s op).1 :=
  ⟨step_rinv P s op h.r hr, (step_rinv2_aux P s op h).1, (step_rinv2_aux P s op h).2.1, (step_rinv2_aux P s op h).2.2⟩

/-- **no queue error over reliable ordered streams** -/
theorem run_noerr (P : Params) (s : St) (ops : List NetSys.Op) (h : RInv2 s) (hr : Reliable ops = true) :
    (run P s ops).q.err = false := by
  induction ops generalizing s with
  | nil => exact h.ne
  | cons op ops ih =>
    simp only [Reliable, List.all_cons, Bool.and_eq_true] at hr
    exact ih (step P s op).1 (step_rinv2 P s op h hr.1) hr.2

end NetSysQ
