import SctpVerif.Model.NetSys
import SctpVerif.Proofs.Sender.WireId
import SctpVerif.Proofs.Receiver.Prefix
/-!
The two projections of a NetSys run: the sender operations it performs (`sndOps`, a run of the `Sender` model) and
the receiver operations it performs (`rcvOps`, a run of the `Receiver` model whose packets are built from the wire
history of the sender run so far). What the applications see (`writes`, `readsOn`) are the `accepted` writes of the
sender run and the `delivs` of the receiver run.
-/
namespace SenderTsn

/-! The components of a fragment identity by name. From `h : Chunk.frag c = fragOf il a k i n` (or `h : Chunk.frag c =
Chunk.frag c'`) one field is read off by `congrArg Frag.msg h : c.msg = a.msg`: both sides unfold to the field. -/
def Frag.si (f : Frag) : BitVec 16 := f.1
def Frag.msg (f : Frag) : Nat := f.2.1
def Frag.unordered (f : Frag) : Bool := f.2.2.2.1
def Frag.bfrag (f : Frag) : Bool := f.2.2.2.2.1
def Frag.efrag (f : Frag) : Bool := f.2.2.2.2.2.1
def Frag.ssn (f : Frag) : BitVec 16 := f.2.2.2.2.2.2.1
def Frag.mid (f : Frag) : BitVec 32 := f.2.2.2.2.2.2.2.1
def Frag.fsn (f : Frag) : BitVec 32 := f.2.2.2.2.2.2.2.2

end SenderTsn

namespace NetSys
open SenderProofs SenderTsn

/-- the sender operations of a NetSys run (depends on the sender state only) -/
def sndOps (P : Params) : Sender.St → List Op → List Sender.Op
  | _, [] => []
  | s, op :: ops =>
    match sndOp P s op with
    | some o => o :: sndOps P (Sender.step s o) ops
    | none => sndOps P s ops

/-- the receiver operations of a NetSys run -/
def rcvOps (P : Params) : St → List Op → List Receiver.Op
  | _, [] => []
  | s, op :: ops =>
    match sndOp P s.snd op with
    | some _ => rcvOps P (step P s op) ops
    | none =>
      match rcvOp P s.wire op with
      | some o => o :: rcvOps P (step P s op) ops
      | none => rcvOps P (step P s op) ops

theorem emits_eq (s : Sender.St) (o : Sender.Op) : emits s o = emittedBy s o := by
  cases o <;> rfl

/-- an operation is a sender operation in two ways: an application write (the length comes from the payload ghost), or
any sender operation but a write, passed through -/
theorem sndOp_eq_some {P : Params} {s : Sender.St} {op : Op} {o : Sender.Op} :
    sndOp P s op = some o ↔
      (∃ si ppi, op = .write si ppi ∧ o = .write si ppi (P.pay s.nextMsg).length) ∨
      (op = .snd o ∧ ∀ a b c, o ≠ .write a b c) := by
  constructor
  · intro h
    cases op with
    | write si ppi => exact Or.inl ⟨si, ppi, rfl, (Option.some.inj h).symm⟩
    | snd so =>
      cases so with
      | write a b c => cases h
      | _ => cases h; exact Or.inr ⟨rfl, fun _ _ _ e => by cases e⟩
    | deliver is => cases h
    | rcv ro => cases h
  · rintro (⟨si, ppi, rfl, rfl⟩ | ⟨rfl, hw⟩)
    · rfl
    · cases o with
      | write a b c => exact absurd rfl (hw a b c)
      | _ => rfl

theorem sndOp_sack {P : Params} {s : Sender.St} {op : Op} {cum arwnd : BitVec 32} {gaps : List (BitVec 16 × BitVec 16)}
    {marks : List (BitVec 32)} (h : sndOp P s op = some (.sack cum arwnd gaps marks)) : op = .snd (.sack cum arwnd gaps marks) := by
  rcases sndOp_eq_some.1 h with ⟨_, _, _, e⟩ | ⟨e, _⟩
  · cases e
  · exact e

/-- a receiver operation that is a packet was built by `deliver` -/
theorem rcvOp_pkt (P : Params) (w : List Sender.Chunk) (op : Op) (cs : List Receiver.InChunk) (h : rcvOp P w op = some (.pkt cs)) :
    ∃ is, cs = packetOf P w is := by
  cases op with
  | deliver is => exact ⟨is, Receiver.Op.pkt.inj (Option.some.inj h).symm⟩
  | rcv ro => cases ro <;> cases h
  | _ => cases h

theorem step_snd_some (P : Params) (s : St) (op : Op) (o : Sender.Op) (h : sndOp P s.snd op = some o) :
    step P s op = { s with snd := Sender.step s.snd o, wire := s.wire ++ emits s.snd o } := by
  simp only [step, h]

theorem step_snd_none (P : Params) (s : St) (op : Op) (h : sndOp P s.snd op = none) :
    (step P s op).snd = s.snd ∧ (step P s op).wire = s.wire := by
  simp only [step, h]
  cases rcvOp P s.wire op <;> exact ⟨rfl, rfl⟩

theorem run_snd (P : Params) (s : St) (ops : List Op) :
    (run P s ops).snd = Sender.run s.snd (sndOps P s.snd ops) ∧
    (run P s ops).wire = s.wire ++ wire s.snd (sndOps P s.snd ops) := by
  induction ops generalizing s with
  | nil => simp [run, sndOps, Sender.run, wire]
  | cons op ops ih =>
    simp only [run, sndOps]
    obtain ⟨i1, i2⟩ := ih (step P s op)
    cases h : sndOp P s.snd op with
    | some o =>
      rw [step_snd_some P s op o h] at i1 i2 ⊢
      exact ⟨i1, by rw [i2, emits_eq, List.append_assoc]; rfl⟩
    | none =>
      obtain ⟨e1, e2⟩ := step_snd_none P s op h
      rw [e1] at i1 i2
      rw [e2] at i2
      exact ⟨i1, i2⟩

theorem step_rcv (P : Params) (s : St) (op : Op) :
    (step P s op).rcv = match sndOp P s.snd op with
      | some _ => s.rcv
      | none => match rcvOp P s.wire op with
        | some o => Receiver.step s.rcv o
        | none => s.rcv := by
  simp only [step]
  cases sndOp P s.snd op with
  | some o => rfl
  | none => cases rcvOp P s.wire op <;> rfl

theorem run_rcv (P : Params) (s : St) (ops : List Op) : (run P s ops).rcv = Receiver.run s.rcv (rcvOps P s ops) := by
  induction ops generalizing s with
  | nil => rfl
  | cons op ops ih =>
    simp only [run, rcvOps]
    rw [ih (step P s op), step_rcv]
    cases sndOp P s.snd op with
    | some o => rfl
    | none => cases rcvOp P s.wire op <;> rfl

/-! ## what the applications see -/

theorem writes_eq (P : Params) (s : St) (ops : List Op) : writes P s ops = accepted s.snd (sndOps P s.snd ops) := by
  induction ops generalizing s with
  | nil => rfl
  | cons op ops ih =>
    simp only [writes, sndOps]
    rw [ih (step P s op)]
    cases h : sndOp P s.snd op with
    | some o =>
      rw [step_snd_some P s op o h]
      rcases sndOp_eq_some.1 h with ⟨si, ppi, rfl, rfl⟩ | ⟨rfl, hw⟩
      · rfl
      · cases o with
        | write a b c => exact absurd rfl (hw a b c)
        | _ => rfl
    | none =>
      rw [(step_snd_none P s op h).1]
      cases op with
      | write si ppi => cases h
      | _ => rfl

theorem reads_eq (P : Params) (si : BitVec 16) (s : St) (ops : List Op) :
    readsOn P si s ops = Receiver.delivs si s.rcv (rcvOps P s ops) := by
  induction ops generalizing s with
  | nil => rfl
  | cons op ops ih =>
    simp only [readsOn, rcvOps]
    rw [ih (step P s op), step_rcv]
    cases op with
    | write a b => rfl
    | snd so => cases so <;> rfl
    | deliver is => rfl
    | rcv ro =>
      cases ro with
      | read nm n =>
        simp only [sndOp, rcvOp, readOut, Receiver.delivs, Receiver.readOut]
        cases (Receiver.read s.rcv nm n).2 <;> rfl
      | _ => rfl

/-! ## the sender run a NetSys run performs satisfies the hypotheses of `wire_ident` -/

theorem sndOps_lenOk (P : Params) (s : Sender.St) (ops : List Op) :
    LenOk (fun m => (P.pay m).length) s (sndOps P s ops) := by
  induction ops generalizing s with
  | nil => trivial
  | cons op ops ih =>
    simp only [sndOps]
    cases h : sndOp P s op with
    | some o =>
      refine ⟨?_, ih _⟩
      rcases sndOp_eq_some.1 h with ⟨si, ppi, rfl, rfl⟩ | ⟨rfl, hw⟩
      · rfl
      · cases o with
        | write a b c => exact absurd rfl (hw a b c)
        | _ => trivial
    | none => exact ih s

/-- a property of every sender operation of a run, from a per-operation predicate of the run -/
theorem sndOps_forall (P : Params) (Q : Sender.Op → Prop) (R : Op → Bool)
    (hQ : ∀ s op o, R op = true → sndOp P s op = some o → Q o) (s : Sender.St) (ops : List Op) (h : ops.all R = true) :
    ∀ o ∈ sndOps P s ops, Q o := by
  induction ops generalizing s with
  | nil => intro o ho; cases ho
  | cons op ops ih =>
    simp only [List.all_cons, Bool.and_eq_true] at h
    simp only [sndOps]
    cases hs : sndOp P s op with
    | some o =>
      intro o' ho'
      rcases List.mem_cons.1 ho' with rfl | ho'
      · exact hQ s op o' h.1 hs
      · exact ih _ h.2 o' ho'
    | none => exact ih s h.2

theorem ordOp_of_reliable {P : Params} {s : Sender.St} {op : Op} {o : Sender.Op} (hr : ReliableOp op = true)
    (h : sndOp P s op = some o) : OrdOp o := by
  rcases sndOp_eq_some.1 h with ⟨si, ppi, rfl, rfl⟩ | ⟨rfl, _⟩
  · trivial
  · cases o with
    | openS a u rt d e =>
      simp only [ReliableOp, Bool.and_eq_true, Bool.not_eq_true'] at hr
      exact hr.1
    | unreg a => cases hr
    | _ => trivial

/-- ordered streams only and no stream reset; ANY reliability policy -/
def OrdOnlyOp : Op → Bool
  | .snd (.openS _ unordered _ _ _) => !unordered
  | .snd (.unreg _) => false
  | _ => true

def OrdOnly (ops : List Op) : Bool := ops.all OrdOnlyOp

theorem sndOps_ordOnly (P : Params) (s : Sender.St) (ops : List Op) (hr : OrdOnly ops = true) :
    ∀ o ∈ sndOps P s ops, OrdOp o := by
  refine sndOps_forall P OrdOp OrdOnlyOp (fun s op o hr h => ?_) s ops hr
  rcases sndOp_eq_some.1 h with ⟨si, ppi, rfl, rfl⟩ | ⟨rfl, _⟩
  · trivial
  · cases o with
    | openS a u rt d e => simpa [OrdOnlyOp, OrdOp] using hr
    | unreg a => cases hr
    | _ => trivial

theorem ordOnly_of_reliable {ops : List Op} (h : Reliable ops = true) : OrdOnly ops = true := by
  simp only [Reliable, OrdOnly, List.all_eq_true] at h ⊢
  intro op hop
  have := h op hop
  cases op with
  | snd so =>
    cases so with
    | openS a u rt d e => simp only [ReliableOp, Bool.and_eq_true] at this; exact this.1
    | _ => exact this
  | _ => rfl

theorem sndOps_ord (P : Params) (s : Sender.St) (ops : List Op) (hr : Reliable ops = true) :
    ∀ o ∈ sndOps P s ops, OrdOp o :=
  sndOps_ordOnly P s ops (ordOnly_of_reliable hr)

/-- every chunk of a packet `deliver` builds is `toWire` of a chunk of the history -/
theorem packetOf_mem (P : Params) (w : List Sender.Chunk) (is : List (Nat × Bool)) :
    ∀ ch ∈ packetOf P w is, ∃ c ∈ w, ∃ imm, ch = Receiver.InChunk.data (toWire P c) imm := by
  intro ch hch
  simp only [packetOf, List.mem_filterMap] at hch
  obtain ⟨x, _, hx⟩ := hch
  cases hw : w[x.1]? with
  | none => simp [hw] at hx
  | some c =>
    simp only [hw, Option.map_some, Option.some.injEq] at hx
    exact ⟨c, List.mem_of_getElem? hw, x.2, hx.symm⟩

/-- what one step does to the receiver: nothing, or one receiver operation whose packet (if it is one) is made of chunks
of the history -/
theorem step_rcv_cases (P : Params) (s : St) (op : Op) (C : Receiver.St → Prop) (hsame : C s.rcv)
    (hstep : ∀ o, (∀ cs, o = .pkt cs → ∀ ch ∈ cs, ∃ c ∈ s.wire, ∃ imm, ch = Receiver.InChunk.data (toWire P c) imm) →
      C (Receiver.step s.rcv o)) : C (step P s op).rcv := by
  rw [step_rcv]
  cases sndOp P s.snd op with
  | some o => exact hsame
  | none =>
    cases hr : rcvOp P s.wire op with
    | none => exact hsame
    | some o =>
      refine hstep o fun cs hcs => ?_
      subst hcs
      obtain ⟨is, rfl⟩ := rcvOp_pkt P _ op _ hr
      exact packetOf_mem P _ is

/-- every receiver operation of the run that is a packet was built by a `deliver` from the history at that time -/
theorem rcvOps_split (P : Params) (s : St) (ops : List Op) (r1 : List Receiver.Op) (x : Receiver.Op) (r2 : List Receiver.Op)
    (h : rcvOps P s ops = r1 ++ x :: r2) :
    ∃ o1 op o2, ops = o1 ++ op :: o2 ∧ rcvOps P s o1 = r1 ∧ sndOp P (run P s o1).snd op = none ∧
      rcvOp P (run P s o1).wire op = some x := by
  induction ops generalizing s r1 with
  | nil => simp [rcvOps] at h
  | cons op ops ih =>
    simp only [rcvOps] at h
    cases hs : sndOp P s.snd op with
    | some o =>
      simp only [hs] at h
      obtain ⟨o1, op', o2, e, e1, e2, e3⟩ := ih (step P s op) r1 h
      refine ⟨op :: o1, op', o2, by rw [e]; rfl, ?_, e2, e3⟩
      simp only [rcvOps, hs]; exact e1
    | none =>
      simp only [hs] at h
      cases hr : rcvOp P s.wire op with
      | none =>
        simp only [hr] at h
        obtain ⟨o1, op', o2, e, e1, e2, e3⟩ := ih (step P s op) r1 h
        refine ⟨op :: o1, op', o2, by rw [e]; rfl, ?_, e2, e3⟩
        simp only [rcvOps, hs, hr]; exact e1
      | some o =>
        simp only [hr] at h
        cases r1 with
        | nil =>
          simp only [List.nil_append, List.cons.injEq] at h
          exact ⟨[], op, ops, rfl, rfl, hs, by show rcvOp P s.wire op = some x; rw [hr, h.1]⟩
        | cons y r1' =>
          simp only [List.cons_append, List.cons.injEq] at h
          obtain ⟨o1, op', o2, e, e1, e2, e3⟩ := ih (step P s op) r1' h.2
          refine ⟨op :: o1, op', o2, by rw [e]; rfl, ?_, e2, e3⟩
          simp only [rcvOps, hs, hr, e1, h.1]

theorem run_append (P : Params) (s : St) (o1 o2 : List Op) : run P s (o1 ++ o2) = run P (run P s o1) o2 := by
  induction o1 generalizing s with
  | nil => rfl
  | cons op o1 ih => simp only [List.cons_append, run]; exact ih _

theorem sndOps_append (P : Params) (s : Sender.St) (o1 o2 : List Op) :
    sndOps P s (o1 ++ o2) = sndOps P s o1 ++ sndOps P (Sender.run s (sndOps P s o1)) o2 := by
  induction o1 generalizing s with
  | nil => rfl
  | cons op o1 ih =>
    simp only [List.cons_append, sndOps]
    cases h : sndOp P s op with
    | some o => simp only [List.cons_append, Sender.run]; rw [ih]
    | none => exact ih s

theorem wire_append (s : Sender.St) (o1 o2 : List Sender.Op) : wire s (o1 ++ o2) = wire s o1 ++ wire (Sender.run s o1) o2 := by
  induction o1 generalizing s with
  | nil => rfl
  | cons op o1 ih => simp only [List.cons_append, wire, Sender.run, ih, List.append_assoc]

theorem accepted_append (s : Sender.St) (o1 o2 : List Sender.Op) :
    accepted s (o1 ++ o2) = accepted s o1 ++ accepted (Sender.run s o1) o2 := by
  induction o1 generalizing s with
  | nil => rfl
  | cons op o1 ih => simp only [List.cons_append, accepted, Sender.run, ih, List.append_assoc]

theorem written_append (s : Sender.St) (o1 o2 : List Sender.Op) :
    written s (o1 ++ o2) = written s o1 ++ written (Sender.run s o1) o2 := by
  induction o1 generalizing s with
  | nil => rfl
  | cons op o1 ih => simp only [List.cons_append, written, Sender.run, ih, List.append_assoc]

end NetSys
