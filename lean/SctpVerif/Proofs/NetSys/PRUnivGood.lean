import SctpVerif.Proofs.NetSys.PRUniv
import SctpVerif.Proofs.NetSys.Data
import SctpVerif.Proofs.NetSys.PRLost
/-!
The universe link over `NetSysPR`: the sender projection of a NetSysPR run and `GoodChunkS` for every DATA item of the
history (`good_data`), with the universe `univOf` (`PRUniv.lean`) of the run's own writes. The FORWARD-TSN items and the premise
`hgood` of `C07_netsys_nothing_lost_partial` itself (`hgood_of_run`) are in `PRLostFwd.lean`.
-/
namespace NetSysPR
open NetSys (Params Op toWire sndOp sndOps senderD sendersD UFacts)
open SenderProofs SenderTsn

theorem run_snd (P : Params) (s : St) (ops : List Op) :
    (run P s ops).snd = Sender.run s.snd (sndOps P s.snd ops) ∧
    (∀ c, Item.data c ∈ (run P s ops).wire → Item.data c ∈ s.wire ∨ c ∈ wire s.snd (sndOps P s.snd ops)) ∧
    (∀ f, Item.fwd f ∈ (run P s ops).wire → Item.fwd f ∈ s.wire ∨ (run P s ops).snd.cfg.useIForwardTSN = true ∨ ∃ nc es, f = .fwd nc es) := by
  induction ops generalizing s with
  | nil => exact ⟨rfl, fun c h => Or.inl h, fun f h => Or.inl h⟩
  | cons op ops ih =>
    obtain ⟨i1, i2, i3⟩ := ih (step P s op)
    simp only [run, sndOps]
    cases h : sndOp P s.snd op with
    | some o =>
      have hst : step P s op = { s with snd := Sender.step s.snd o, wire := s.wire ++ emits s.snd o } := by
        simp only [step, h]
      rw [hst] at i1 i2 i3 ⊢
      refine ⟨by simpa [Sender.run] using i1, ?_, ?_⟩
      · intro c hc
        rcases i2 c hc with hc | hc
        · rcases List.mem_append.1 hc with hc | hc
          · exact Or.inl hc
          · right; simp only [wire]; exact List.mem_append_left _ (emits_data s.snd o c hc)
        · right; simp only [wire]; exact List.mem_append_right _ hc
      · intro f hf
        rcases i3 f hf with hf | hf
        · rcases List.mem_append.1 hf with hf | hf
          · exact Or.inl hf
          · right
            obtain ⟨orc, sel, rfl, hfw⟩ := emits_fwd s.snd o f hf
            have hest := gather_fwd_est hfw
            have hfe := (gather_fwd s.snd orc sel hest).2 f hfw
            have hcfg : (run P { s with snd := Sender.step s.snd (.gather orc sel), wire := s.wire ++ emits s.snd (.gather orc sel) } ops).snd.cfg = s.snd.cfg := by
              rw [i1, run_cfg_all, step_cfg_all]
            rw [hcfg]
            cases hu : s.snd.cfg.useIForwardTSN with
            | true => exact Or.inl rfl
            | false => right; rw [hfe, hu]; exact ⟨_, _, rfl⟩
        · exact Or.inr hf
    | none =>
      have hst : (step P s op).snd = s.snd ∧ (step P s op).wire = s.wire := by
        simp only [step, h]
        cases rcvOp P s.wire op <;> exact ⟨rfl, rfl⟩
      rw [hst.1] at i1 i2
      rw [hst.2] at i2 i3
      exact ⟨i1, i2, i3⟩

theorem moved_eq (P : Params) (s : St) (ops : List Op) : moved P s ops = SenderTsn.moved s.snd (sndOps P s.snd ops) := by
  induction ops generalizing s with
  | nil => rfl
  | cons op ops ih =>
    simp only [moved, sndOps, movedBy]
    rw [ih]
    cases h : sndOp P s.snd op with
    | some o =>
      have hst : (step P s op).snd = Sender.step s.snd o := by simp only [step, h]
      rw [hst]; rfl
    | none =>
      have hst : (step P s op).snd = s.snd := by
        simp only [step, h]
        cases rcvOp P s.wire op <;> rfl
      rw [hst]; rfl

/-- the data items of the history at any moment are chunks of the wire of the whole sender run -/
theorem wire_prefix_sub (P : Params) (o1 o2 : List Op) (c : Sender.Chunk) (hc : Item.data c ∈ (run P (init P) o1).wire) :
    c ∈ wire (init P).snd (sndOps P (init P).snd (o1 ++ o2)) := by
  rcases (run_snd P (init P) o1).2.1 c hc with h | h
  · simp [init] at h
  · rw [NetSys.sndOps_append, NetSys.wire_append]
    exact List.mem_append_left _ h

/-- ✱ a DATA chunk of the sender's wire is `GoodChunkS` for the universe of the run and any stream under study -/
theorem good_data {P acc mv W wr} (h : UFacts P acc mv W wr) (si0 : BitVec 16) (c : Sender.Chunk) (hc : c ∈ wr) (imm : Bool) :
    Receiver.GoodChunkS (univOf h si0) (senderD P acc mv si0) (.data (toWire P c) imm) := by
  obtain ⟨ws1, a, ws2, i, e1, e2, e3, t1, t2, t3, t4, t5⟩ := h.hchunk c hc
  have ha : a ∈ acc := by rw [e1]; simp
  left
  refine ⟨senderD P acc mv a.si, (NetSys.mem_senders (senderD P acc mv) acc si0).2 a ha, cntOf ws1 a.si, i, imm, t1, t2, by rw [t3], ?_⟩
  · intro k0 i0 hk0 hi0 ht
    have hb1 := h.hidxAll si0 k0 i0 hk0 hi0
    have hb2 := h.hidxAll a.si (cntOf ws1 a.si) i t1 t2
    have hw := h.wlt
    simp only [Reasm.Sender.dataFrag] at ht
    have hoff := NetSys.ofNat32_add_inj _ (by omega) (by omega) ht
    have hJ : (senderD P acc mv si0).base k0 + i0 = (mv.map Chunk.frag).idxOf (Chunk.frag c) := by omega
    obtain ⟨r1, r2⟩ := h.inj c ws1 a ws2 e1 e2 t5 si0 k0 i0 hk0 hi0 hJ
    refine ⟨by rw [r1], r2, ?_⟩
    rw [r1] at hoff r2
    rw [r2] at hoff
    omega

end NetSysPR
