import SctpVerif.Model.NetSysQ
import SctpVerif.Proofs.NetSys.SelFifo
/-!
NetSysQ over reliable ordered streams resolves every gather to a selection list of zeros.

`QI m ids`: only the ordered queue of the message policy is in use, it runs parallel to `ids` (= to the sender's pending
list), and `unorderedIsSelected` is false whenever a message is selected. Under `QI` `peek` is the head of the ordered
queue, its identity is the head of `ids` (index 0), and a successful `pop` keeps `QI` for the tails — `drain` yields
zeros and `advance` keeps `QI` unless it raises `err`. The writes of a run whose streams are all opened ordered push
ordered chunks only (`OrdStreams`).
-/
namespace NetSysQ
open NetSys SenderProofs SenderTsn Sender PendQ

structure QI (m : MsgPol) (ids : List Nat) : Prop where
  un : m.unord = []
  par : m.ord.map (·.id) = ids
  ord : ∀ c ∈ m.ord, c.unordered = false
  us : m.selected = true → m.unordSel = false

theorem QI.peek {m : MsgPol} {ids : List Nat} (h : QI m ids) : m.peek = m.ord.head? := by
  unfold MsgPol.peek
  rw [h.un]
  cases hs : m.selected with
  | false => simp
  | true => simp [h.us hs]

/-- a successful pop of the head of the ordered queue keeps `QI` for the tails -/
theorem QI.pop {m : MsgPol} {ids : List Nat} (h : QI m ids) {c : PendQ.Chunk} {t : List PendQ.Chunk} (ho : m.ord = c :: t)
    {m' : MsgPol} (hp : m.pop c = (m', .ok)) : QI m' ids.tail := by
  have hcu : c.unordered = false := h.ord c (by rw [ho]; exact List.mem_cons_self)
  have hids : ids.tail = t.map (·.id) := by rw [← h.par, ho]; rfl
  have hmem : ∀ x ∈ t, x.unordered = false := fun x hx => h.ord x (by rw [ho]; exact List.mem_cons_of_mem _ hx)
  unfold MsgPol.pop at hp
  cases hs : m.selected with
  | true =>
    have hus := h.us hs
    simp only [hs, if_true, MsgPol.popSelected, hus, Bool.false_eq_true, if_false, ho, List.head?_cons, ne_eq,
      not_true_eq_false, List.tail_cons] at hp
    cases he : c.e with
    | true =>
      simp only [he, if_true, Prod.mk.injEq, and_true] at hp
      subst hp
      exact ⟨h.un, by rw [hids], hmem, fun hc => by cases hc⟩
    | false =>
      simp only [he, Bool.false_eq_true, if_false, Prod.mk.injEq, and_true] at hp
      subst hp
      exact ⟨h.un, by rw [hids], hmem, fun _ => rfl⟩
  | false =>
    simp only [hs, Bool.false_eq_true, if_false] at hp
    cases hb : c.b with
    | false => simp [hb] at hp
    | true =>
      simp only [hb, Bool.not_true, Bool.false_eq_true, if_false, MsgPol.popNewSelection, hcu, ho, List.head?_cons, ne_eq,
        not_true_eq_false, List.tail_cons] at hp
      cases he : c.e with
      | true =>
        simp only [he, Bool.not_true, Bool.false_eq_true, if_false, Prod.mk.injEq, and_true] at hp
        subst hp
        exact ⟨h.un, by rw [hids], hmem, fun hc => by rw [hs] at hc; cases hc⟩
      | false =>
        simp only [he, Bool.not_false, if_true, Prod.mk.injEq, and_true] at hp
        subst hp
        exact ⟨h.un, by rw [hids], hmem, fun _ => rfl⟩

/-- under `QI` the head of the queue is the head of the pending list: index 0 -/
theorem QI.idx {m : MsgPol} {ids : List Nat} (h : QI m ids) {c : PendQ.Chunk} {t : List PendQ.Chunk} (ho : m.ord = c :: t) :
    ids.idxOf c.id = 0 ∧ 0 < ids.length ∧ ids.eraseIdx 0 = ids.tail := by
  have : ids = c.id :: t.map (·.id) := by rw [← h.par, ho]; rfl
  rw [this]
  exact ⟨List.idxOf_cons_self, by simp, rfl⟩

theorem drain_zero (fuel : Nat) (m : MsgPol) (ids : List Nat) (h : QI m ids) : allZero (drain fuel m ids) = true := by
  induction fuel generalizing m ids with
  | zero => rfl
  | succ fuel ih =>
    simp only [drain]
    rw [h.peek]
    cases ho : m.ord with
    | nil => rfl
    | cons c t =>
      obtain ⟨i0, il, ie⟩ := h.idx ho
      simp only [List.head?_cons, i0, il, if_true]
      generalize hp : m.pop c = pp
      obtain ⟨m', r⟩ := pp
      cases r with
      | ok =>
        simp only
        rw [ie]
        have := ih m' ids.tail (h.pop ho hp)
        simpa [allZero] using this
      | err e => rfl
      | panic => rfl

theorem selOf_zero (q : Q) (h : q.err = false → QI q.pol q.ids) : allZero (selOf q) = true := by
  unfold selOf
  cases he : q.err with
  | true => rfl
  | false => simpa using drain_zero _ _ _ (h he)

theorem advance_qi (k : Nat) (q : Q) (h : q.err = false → QI q.pol q.ids) :
    (advance k q).err = false → QI (advance k q).pol (advance k q).ids := by
  induction k generalizing q with
  | zero => exact h
  | succ k ih =>
    simp only [advance]
    cases he : q.err with
    | true => simp only [if_true]; intro hc; rw [he] at hc; cases hc
    | false =>
      have hq := h he
      simp only [Bool.false_eq_true, if_false]
      rw [hq.peek]
      cases ho : q.pol.ord with
      | nil => simp only [List.head?_nil]; intro hc; cases hc
      | cons c t =>
        obtain ⟨i0, il, ie⟩ := hq.idx ho
        simp only [List.head?_cons, i0, il, if_true]
        generalize hp : q.pol.pop c = pp
        obtain ⟨m', r⟩ := pp
        cases r with
        | ok =>
          simp only
          apply ih
          intro _
          rw [ie]
          exact hq.pop ho hp
        | err e => simp only; intro hc; cases hc
        | panic => simp only; intro hc; cases hc

theorem pushAll_qi (q : Q) (cs : List Sender.Chunk) (h : q.err = false → QI q.pol q.ids) (hcs : ∀ c ∈ cs, c.unordered = false) :
    (pushAll q cs).err = false → QI (pushAll q cs).pol (pushAll q cs).ids := by
  induction cs generalizing q with
  | nil => exact h
  | cons c r ih =>
    simp only [pushAll]
    apply ih _ _ (fun x hx => hcs x (List.mem_cons_of_mem _ hx))
    intro he
    have hq := h he
    have hcu : c.unordered = false := hcs c List.mem_cons_self
    simp only [MsgPol.push, view, hcu, Bool.false_eq_true, if_false]
    refine ⟨hq.un, by simp [hq.par], ?_, hq.us⟩
    intro x hx
    rcases List.mem_append.1 hx with hx | hx
    · exact hq.ord x hx
    · simp only [List.mem_singleton] at hx; subst hx; rfl

/-! ## the sender's streams stay ordered -/

/-- every stream object of the sender is ordered -/
def OrdStreams (s : Sender.St) : Prop := ∀ si st, s.streams si = some st → st.unordered = false

theorem OrdStreams.of_sk {s s' : Sender.St} (h : OrdStreams s)
    (hs : ∀ si, (s'.streams si).map Stream.sk = (s.streams si).map Stream.sk) : OrdStreams s' := by
  intro si st' hst'
  have := hs si
  rw [hst'] at this
  cases hss : s.streams si with
  | none => rw [hss] at this; simp at this
  | some st =>
    rw [hss] at this
    simp only [Option.map_some, Option.some.injEq, Stream.sk, Prod.mk.injEq] at this
    rw [this.2.1]
    exact h si st hss

theorem writeChunks_ordered (s : Sender.St) (h : OrdStreams s) (si : BitVec 16) (ppi : BitVec 32) (len : Nat) :
    ∀ c ∈ writeChunks s si ppi len, c.unordered = false := by
  intro c hc
  unfold writeChunks at hc
  cases hs : s.streams si with
  | none => rw [hs] at hc; cases hc
  | some st =>
    rw [hs] at hc
    simp only at hc
    split at hc
    · cases hc
    · split at hc
      · cases hc
      · split at hc
        · cases hc
        · split at hc
          · simp only [packetize, h si st hs, Bool.and_false] at hc
            obtain ⟨i, hi⟩ := List.getElem?_of_mem hc
            exact (mkChunks_get _ _ _ _ _ _ _ _ _ i c hi).2.2.2.1
          · cases hc

theorem write_ordStreams (s : Sender.St) (h : OrdStreams s) (si : BitVec 16) (ppi : BitVec 32) (len : Nat) :
    OrdStreams (Sender.write s si ppi len).1 := by
  cases hacc : NetSys.accepts s si ppi len with
  | false =>
    rw [OrdStreams, (write_rejected s si ppi len hacc).2]
    exact h
  | true =>
    obtain ⟨st, hs, _, _, _, _, w2⟩ := write_accepted s si ppi len hacc
    intro k st' hk
    rw [w2] at hk
    by_cases hks : k = si
    · subst hks
      simp only [if_true, Option.some.injEq] at hk
      subst hk
      have := h k st hs
      simp only [packetize]
      split <;> (try split) <;> (try split) <;> exact this
    · simp only [hks, if_false] at hk
      exact h k st' hk

theorem step_ordStreams (s : Sender.St) (o : Sender.Op) (h : OrdStreams s) (ho : OrdOp o) : OrdStreams (Sender.step s o) := by
  cases o with
  | openS si u rt rv th =>
    simp only [OrdOp] at ho
    subst ho
    intro k st' hk
    simp only [Sender.step, openStream, setStream] at hk
    by_cases hks : k = si
    · simp only [hks, if_true, Option.some.injEq] at hk
      subst hk
      rfl
    · simp only [hks, if_false] at hk
      exact h k st' hk
  | unreg si => exact absurd ho (by simp [OrdOp])
  | setEstablished b => exact h
  | write si ppi len => exact write_ordStreams s h si ppi len
  | gather orc sel =>
    simp only [Sender.step]
    exact h.of_sk (fun si => by rw [gather_str])
  | sack cum arwnd gaps marks => exact h.of_sk (sack_still s cum arwnd gaps marks).q.str
  | t3 => exact h.of_sk (t3_still s).q.str
  | tick ms n marks => exact h.of_sk (tick_still s ms n marks).q.str

structure RInv (s : St) : Prop where
  qi : s.q.err = false → QI s.q.pol s.q.ids
  os : OrdStreams s.sys.snd

theorem init_rinv (P : Params) : RInv (init P) :=
  ⟨fun _ => ⟨rfl, rfl, (fun c hc => by cases hc), (fun hc => by cases hc)⟩, fun si st h => by simp [init, NetSys.init, Sender.init] at h⟩

theorem resolveOp_reliable (q : Q) (op : NetSys.Op) : ReliableOp (resolveOp q op) = ReliableOp op := by
  cases op with
  | snd so => cases so <;> rfl
  | _ => rfl

theorem resolveOp_fifo (q : Q) (op : NetSys.Op) (h : q.err = false → QI q.pol q.ids) : SelFifoOp (resolveOp q op) = true := by
  cases op with
  | snd so =>
    cases so with
    | gather orc sel => exact selOf_zero q h
    | _ => rfl
  | _ => rfl

theorem step_rinv (P : Params) (s : St) (op : NetSys.Op) (h : RInv s) (hr : ReliableOp op = true) : RInv (step P s op).1 := by
  have hr' : ReliableOp (resolveOp s.q op) = true := by rw [resolveOp_reliable]; exact hr
  simp only [step]
  generalize resolveOp s.q op = op' at hr'
  cases hso : sndOp P s.sys.snd op' with
  | none =>
    obtain ⟨e1, _⟩ := step_snd_none P s.sys op' hso
    refine ⟨?_, by rw [e1]; exact h.os⟩
    simp only
    rw [e1]
    cases op' with
    | write si ppi => simp [sndOp] at hso
    | snd so =>
      cases so with
      | gather orc sel => simp [sndOp] at hso
      | _ => exact h.qi
    | deliver is => exact h.qi
    | rcv ro => exact h.qi
  | some o =>
    have hord := ordOp_of_reliable hr' hso
    have hstep := step_snd_some P s.sys op' o hso
    refine ⟨?_, by rw [hstep]; exact step_ordStreams _ o h.os hord⟩
    simp only
    rw [hstep]
    cases op' with
    | write si ppi =>
      simp only [sndOp, Option.some.injEq] at hso
      subst hso
      simp only [qStep, Sender.step, (write_queues _ _ _ _).2, List.drop_left]
      exact pushAll_qi _ _ h.qi (writeChunks_ordered _ h.os _ _ _)
    | snd so =>
      cases so with
      | gather orc sel => exact advance_qi _ _ h.qi
      | _ => exact h.qi
    | deliver is => exact h.qi
    | rcv ro => exact h.qi

/-- the resolved operation list of a run over reliable ordered streams is reliable, and all its gathers select index 0 -/
theorem resolve_fifo (P : Params) (s : St) (ops : List NetSys.Op) (h : RInv s) (hr : Reliable ops = true) :
    SelFifo (resolve P s ops) = true ∧ Reliable (resolve P s ops) = true := by
  induction ops generalizing s with
  | nil => exact ⟨rfl, rfl⟩
  | cons op ops ih =>
    simp only [Reliable, List.all_cons, Bool.and_eq_true] at hr
    obtain ⟨hr1, hr2⟩ := hr
    obtain ⟨i1, i2⟩ := ih (step P s op).1 (step_rinv P s op h hr1) hr2
    simp only [resolve, SelFifo, Reliable, List.all_cons, Bool.and_eq_true]
    refine ⟨⟨?_, i1⟩, ⟨?_, i2⟩⟩
    · exact resolveOp_fifo s.q op h.qi
    · show ReliableOp (resolveOp s.q op) = true
      rw [resolveOp_reliable]; exact hr1

theorem run_sys (P : Params) (s : St) (ops : List NetSys.Op) : (run P s ops).sys = NetSys.run P s.sys (resolve P s ops) := by
  induction ops generalizing s with
  | nil => rfl
  | cons op ops ih => simp only [run, resolve, NetSys.run]; rw [ih]; rfl

end NetSysQ
