import SctpVerif.Model.NetSys
/-!
# The healed round of NetSys (definitions for `Props/C02net.lean`; core-only, executable)

* `truthfulSack r` — what `createSelectiveAckChunk` (`Receiver.createSack`) puts into a SACK for the receiver state `r`:
  cumulative TSN `payloadQueue.cumulativeTSN`, a_rwnd `getMyReceiverWindowCredit()`, gap blocks `getGapAckBlocks`.
* `healedRound P s` — ONE explicit fair schedule step of the healed network, computed from the state:
  the receiving application accepts every stream waiting in the accept backlog; the sender's T3 expires (only if
  something is in flight); the sender gathers (free burst budget, FIFO selection); every chunk that gather put on the
  wire is delivered, one packet per chunk, in wire order, no I-bit; the application accepts the new streams and reads
  every stream until nothing is readable; the delayed-ack timer interval passes and the receiver gathers (emits its
  SACK); the truthful SACK of the receiver state is handed to the sender (RACK / PTO marks empty).
* `soundSack q cum gaps` / `Honest` — the SACKs the sender processed so far told the truth about the receiver AT THE
  TIME THEY WERE PROCESSED: the cumulative TSN is not ahead of the receiver's, every gap-acked TSN is at or below the
  receiver's cumulative point or held in its receive queue. A SACK the receiver built is sound when it is built
  (`truthful_sound`, `LiveHonest.lean`); that delayed or duplicated copies stay sound is not a lemma. The window a SACK
  advertises and the loss marks are free.
* The premises of one round, all decidable: `Taken` / `TakenN` (the receiver's cumulative point is ahead of the sender's when
  the SACK is built), `Room`, `HeadOk`, `InSync`, `RoundOk` / `RoundOkN`, `Normal`, `RoundOkH` / `RoundOkHN`, `RoundOkE` /
  `RoundOkEN`, `WireDataB`; `outstanding` = pending + in flight; `preSack`, `healed`, `healedRounds`, `healedN` = the states
  and operation lists of one and of `n` rounds.
-/
namespace NetSys
open Gen

/-- cumulative TSN, a_rwnd, gap blocks of the SACK `createSelectiveAckChunk` builds in this receiver state -/
def truthfulSack (r : Receiver.St) : BitVec 32 × BitVec 32 × List (BitVec 16 × BitVec 16) :=
  match (Receiver.createSack r).2 with
  | .sack cum arwnd gaps _ => (cum, arwnd, gaps)
  | _ => (r.pq.cum, 0, [])

theorem truthfulSack_eq (r : Receiver.St) : truthfulSack r = (r.pq.cum, Receiver.credit r, RecvQ.gaps r.pq) := rfl

/-- the sender operation that hands the receiver's truthful SACK to the sender -/
def sackOp (r : Receiver.St) : Op :=
  .snd (.sack (truthfulSack r).1 (truthfulSack r).2.1 (truthfulSack r).2.2 [])

/-- the application drains the accept backlog -/
def acceptAll (r : Receiver.St) : List Op := List.replicate r.acceptQ.length (.rcv .accept)

/-- the application reads: as long as some registered stream is readable, one `ReadSCTP` with a buffer that holds
everything queued on it (`fuel` bounds the number of reads) -/
def readAll : Nat → Receiver.St → List Op
  | 0, _ => []
  | fuel+1, r =>
    match r.streams.find? (fun x => x.q.isReadable) with
    | none => []
    | some x =>
      let n := x.q.getNumBytes.toNat + 1
      .rcv (.read (x.si, x.inc) n) :: readAll fuel (Receiver.read r (x.si, x.inc) n).1

/-- the fuel `healedRound` gives `readAll`: one more than the number of reassembly entries, per stream (that this suffices to
read everything readable is not a lemma) -/
def readFuel (r : Receiver.St) : Nat :=
  (r.streams.map fun x => x.q.orderedDataEntryCount + x.q.unorderedDataEntryCount + x.q.unorderedMIDEntryCount + 1).sum

/-- FIFO selection for a gather: `peek` = the oldest pending chunk, every time -/
def fifoSel (s : Sender.St) : List Nat := List.replicate s.pending.length 0

/-- the sender half of a round: T3 expires if something is in flight, then one gather -/
def sendOps (s : Sender.St) : List Op :=
  let t3s : List Op := if s.inflight.isEmpty then [] else [.snd .t3]
  let s1 := if s.inflight.isEmpty then s else Sender.t3 s
  t3s ++ [.snd (.gather Sender.freeOracle (fifoSel s1))]

/-- one packet per chunk for the history indices `[lo, hi)` -/
def deliverOps (lo hi : Nat) : List Op := (List.range' lo (hi - lo)).map fun i => .deliver [(i, false)]

/-- the receiving application after the deliveries, the ack timer interval, the receiver's gather -/
def recvOps (r : Receiver.St) : List Op :=
  acceptAll r ++ readAll (readFuel r) r ++ [.rcv (.tick ackInterval), .rcv .gather]

/-- the round up to (not including) the SACK: accepts, T3 / gather, deliveries, accepts, reads, ack timer, receiver gather -/
def roundOps (P : Params) (s : St) : List Op :=
  let o1 := acceptAll s.rcv ++ sendOps s.snd
  let s1 := run P s o1
  let o2 := deliverOps s.wire.length s1.wire.length
  let s2 := run P s1 o2
  o1 ++ o2 ++ recvOps s2.rcv

/-- the state in which the receiver's SACK reaches the sender -/
def preSack (P : Params) (s : St) : St := run P s (roundOps P s)

/-- **the healed round**, as an explicit operation list computed from the state -/
def healedRound (P : Params) (s : St) : List Op := roundOps P s ++ [sackOp (preSack P s).rcv]

/-- the state after one healed round -/
def healed (P : Params) (s : St) : St := run P s (healedRound P s)

/-- `n` healed rounds as one operation list -/
def healedRounds (P : Params) : Nat → St → List Op
  | 0, _ => []
  | n+1, s => healedRound P s ++ healedRounds P n (healed P s)

def healedN (P : Params) : Nat → St → St
  | 0, s => s
  | n+1, s => healedN P n (healed P s)

/-! ## honest SACK history -/

/-- the SACK `(cum, gaps)` tells the truth about the receive queue `q`: `cum` is not ahead of the receiver's cumulative
point, every gap-acked TSN is at or below it or held -/
def soundSack (q : RecvQ.Q) (cum : BitVec 32) (gaps : List (BitVec 16 × BitVec 16)) : Bool :=
  sna32LTE cum q.cum &&
  gaps.all fun g => (List.range' g.1.toNat (g.2.toNat + 1 - g.1.toNat)).all fun j =>
    sna32LTE (cum + BitVec.ofNat 32 j) q.cum || RecvQ.hasChunk q (cum + BitVec.ofNat 32 j)

def HonestOp (s : St) : Op → Bool
  | .snd (.sack cum _ gaps _) => soundSack s.rcv.pq cum gaps
  | _ => true

/-- every SACK the sender processes along the run is sound for the receiver state at that moment -/
def Honest (P : Params) : St → List Op → Bool
  | _, [] => true
  | s, op :: ops => HonestOp s op && Honest P (step P s op) ops

/-- the receiver stays in a state that handles DATA (`setState` ops only to such states; 3 = established) and the
sender stays established -/
def StaysUpOp : Op → Bool
  | .rcv (.setState st) => st == 3#32
  | .snd (.setEstablished b) => b
  | _ => true

def StaysUp (ops : List Op) : Bool := ops.all StaysUpOp

/-- the measure of the progress theorem: chunks pending + chunks in flight -/
def outstanding (s : St) : Nat := s.snd.pending.length + s.snd.inflight.length

/-- in this round the receiver's cumulative point gets ahead of the sender's cumulative ack point: the receiver HAS the
lowest outstanding chunk when its SACK is built (it took this round's copy, or an earlier one whose SACK was lost) -/
def Taken (P : Params) (s : St) : Bool := sna32LT (preSack P s).snd.cumAck (preSack P s).rcv.pq.cum

/-- `Taken` in each of the next `n` rounds that start with something outstanding -/
def TakenN (P : Params) : Nat → St → Bool
  | 0, _ => true
  | n+1, s => (outstanding s == 0 || Taken P s) && TakenN P n (healed P s)

/-- the receiver does not refuse the lowest outstanding chunk for want of buffer: it has credit, or something above
the cumulative point is held (the "fills a gap below the highest TSN" exception of `acceptPayloadData`) -/
def Room (r : Receiver.St) : Bool :=
  accept_hasCredit (a_getMyReceiverWindowCredit := Receiver.credit r) || decide (r.pq.size ≠ 0)

/-- the round up to and including its FIRST delivery -/
def firstOps (s : St) : List Op := acceptAll s.rcv ++ sendOps s.snd ++ [.deliver [(s.wire.length, false)]]

/-- the receiver does not answer the first chunk delivered in this round with an ABORT (reassembly queue refusing the
chunk: entry cap, zero-length data) or a panic -/
def HeadOk (P : Params) (s : St) : Bool :=
  !(run P s (firstOps s)).rcv.willSendAbort && !(run P s (firstOps s)).rcv.panicked

/-- the sender's cumulative ack point is not ahead of the receiver's cumulative point, and when they coincide the lowest
outstanding chunk is not gap-acked (what a SOUND SACK history guarantees: `soundSack` / `Honest`) -/
def InSync (s : St) : Bool :=
  !sna32GT s.snd.cumAck s.rcv.pq.cum &&
  (s.snd.cumAck != s.rcv.pq.cum || match s.snd.inflight.head? with | some c => !c.acked | none => true)

/-- the receiver-side premises of one healed round -/
def RoundOk (P : Params) (s : St) : Bool := s.rcv.state == 3#32 && Room s.rcv && InSync s && HeadOk P s

/-- `RoundOk` at the start of each of the next `n` rounds that start with something outstanding -/
def RoundOkN (P : Params) : Nat → St → Bool
  | 0, _ => true
  | n+1, s => (outstanding s == 0 || RoundOk P s) && RoundOkN P n (healed P s)

/-- the receive queue is pop-normalised: the TSN right after the cumulative point is not held (true after every
`handleData` that did not end in a reassembly error) -/
def Normal (r : Receiver.St) : Bool := !RecvQ.hasChunk r.pq (r.pq.cum + 1)

/-- the receiver-side premises of one healed round of an HONEST run: `RoundOk` without `InSync` -/
def RoundOkH (P : Params) (s : St) : Bool := s.rcv.state == 3#32 && Room s.rcv && Normal s.rcv && HeadOk P s

def RoundOkHN (P : Params) : Nat → St → Bool
  | 0, _ => true
  | n+1, s => (outstanding s == 0 || RoundOkH P s) && RoundOkHN P n (healed P s)

/-- the per-round premises that remain with the reassembly entry cap off: receiver established, `Room` -/
def RoundOkE (s : St) : Bool := s.rcv.state == 3#32 && Room s.rcv

def RoundOkEN (P : Params) : Nat → St → Bool
  | 0, _ => true
  | n+1, s => (outstanding s == 0 || RoundOkE s) && RoundOkEN P n (healed P s)

/-- every chunk of the history decodes to non-empty user data (every written fragment carries at least one byte) -/
def WireDataB (P : Params) (w : List Sender.Chunk) : Bool := w.all fun c => !(toWire P c).userData.isEmpty

end NetSys
