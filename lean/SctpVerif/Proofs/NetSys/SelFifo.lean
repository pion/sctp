import SctpVerif.Proofs.NetSys.SelRun
import SctpVerif.Proofs.NetSys.SelGen
/-!
`SelFifo` — the selection the code makes for ordered traffic without interleaving — implies `SelContig`.

`pendingQueue` with interleaving off uses `messagePendingQueuePolicy`: two FIFO queues (ordered, unordered), a flag
`selected` with `unorderedIsSelected`; `peek` returns the head of the selected queue while a message is being sent,
otherwise the head of the unordered queue if there is one, else the head of the ordered queue. On RELIABLE ORDERED
streams (`Reliable`: every `openS` ordered) every chunk `packetize` makes is ordered, only the ordered queue is used, and
`peek` is its head: the OLDEST queued chunk (`C17.C17_ordered_only_fifo`, in the PendQ model of pending_queue.go).
In the Sender model the pending queue is the list `pending` in push order and `sel` lists the indices `peek` returned,
each index counted AFTER the earlier pops (`popPend` erases the index): the oldest queued chunk is index 0 every time.

`SelFifo ops`: every `gather` of the run carries a selection list of zeros. (Entries the gather does not consume — it
stops on a full window, the budget, an empty queue — are irrelevant; the harness logs the consumed indices followed by
the index of the chunk at the head afterwards, all of them 0 in an all-ordered run: predicate `[C01,C17]` of
`Driver/Assoc.lean`.)
-/
namespace NetSys
open SenderProofs SenderTsn Sender

def SelFifoOp : Op → Bool
  | .snd (.gather _ sel) => sel.all (· == 0)
  | _ => true

/-- **every gather of the run selects the oldest pending chunk, every time** (decidable; plain FIFO over `Sender.St.pending`) -/
def SelFifo (ops : List Op) : Bool := ops.all SelFifoOp

theorem sndOps_fifo (P : Params) (s : Sender.St) (ops : List Op) (hf : SelFifo ops = true) :
    ∀ o ∈ sndOps P s ops, FifoOp o = true := by
  refine sndOps_forall P (FifoOp · = true) SelFifoOp (fun s op o hr h => ?_) s ops hf
  rcases sndOp_eq_some.1 h with ⟨si, ppi, rfl, rfl⟩ | ⟨rfl, _⟩
  · rfl
  · cases o with
    | gather orc sel => exact hr
    | _ => rfl

theorem frag_fields {w c : Chunk} (h : Chunk.frag w = Chunk.frag c) :
    w.si = c.si ∧ w.msg = c.msg ∧ w.bfrag = c.bfrag ∧ w.efrag = c.efrag ∧ w.fsn = c.fsn := by
  simp only [Chunk.frag, Prod.mk.injEq] at h
  obtain ⟨h1, h2, _, _, h5, h6, _, _, h9⟩ := h
  exact ⟨h1, h2, h5, h6, h9⟩

/-- with increasing message identities: the fragments of the stream's messages before `a` are those of the stream's
writes before `a` -/
theorem earlier_eq_filter (P : Params) (acc ws1 ws2 : List Write) (a : Write) (hs : acc.Pairwise (fun a b => a.msg < b.msg))
    (h : acc = ws1 ++ a :: ws2) : earlierFrags P acc a.si a.msg = ((ws1.filter (·.si == a.si)).map (nfr P)).sum := by
  subst h
  rw [List.pairwise_append] at hs
  obtain ⟨_, hs2, hs3⟩ := hs
  rw [List.pairwise_cons] at hs2
  have hf : (ws1 ++ a :: ws2).filter (fun x => x.si == a.si && decide (x.msg < a.msg)) = ws1.filter (·.si == a.si) := by
    rw [List.filter_append]
    have h1 : ws1.filter (fun x => x.si == a.si && decide (x.msg < a.msg)) = ws1.filter (·.si == a.si) := by
      apply List.filter_congr
      intro x hx
      have := hs3 x hx a List.mem_cons_self
      simp [this]
    have h2 : (a :: ws2).filter (fun x => x.si == a.si && decide (x.msg < a.msg)) = [] := by
      rw [List.filter_eq_nil_iff]
      intro x hx
      rcases List.mem_cons.1 hx with rfl | hx
      · simp
      · have := hs2.1 x hx
        simp only [Bool.and_eq_true, decide_eq_true_eq, not_and]
        intro _; omega
    rw [h1, h2, List.append_nil]
  simp only [earlierFrags, hf]

/-- a list that carries, position by position, the fragment identities of a prefix of `gen` is message-contiguous -/
theorem contigB_of_prefix (il : Bool) (mp : Nat) (lenOf : Nat → Nat) (acc : List Write) (mv : List Chunk) (rest : List Frag)
    (h : (gen il mp lenOf [] acc).map Chunk.frag = mv.map Chunk.frag ++ rest) : contigB mv = true := by
  simp only [contigB, Bool.and_eq_true, List.all_eq_true, List.mem_range]
  refine ⟨?_, fun j _ => ?_⟩
  · cases h0 : mv[0]? with
    | none => rfl
    | some c =>
      obtain ⟨w, hw, hf⟩ := frag_get_of_prefix h 0 c h0
      have := gen_head il mp lenOf [] acc w hw
      rw [(frag_fields hf).2.2.1] at this
      exact this
  · cases hx : mv[j]? with
    | none => rfl
    | some x =>
      cases hy : mv[j + 1]? with
      | none => rfl
      | some y =>
        obtain ⟨wx, hwx, hfx⟩ := frag_get_of_prefix h j x hx
        obtain ⟨wy, hwy, hfy⟩ := frag_get_of_prefix h (j + 1) y hy
        have hn := gen_next il mp lenOf [] acc j wx wy hwx hwy
        obtain ⟨_, x2, _, x4, x5⟩ := frag_fields hfx
        obtain ⟨_, y2, y3, _, y5⟩ := frag_fields hfy
        rw [x4, y3, y2, x2, y5, x5] at hn
        simp only
        split
        · rename_i he; simpa [he] using hn
        · rename_i he; simpa [he] using hn

/-- a list that carries, position by position, the fragment identities of a prefix of `gen` serves every stream first-in-first-out -/
theorem fifoB_of_prefix (P : Params) (il : Bool) (acc : List Write) (mv : List Chunk) (rest : List Frag)
    (hs : acc.Pairwise (fun a b => a.msg < b.msg))
    (h : (gen il P.cfg.maxPayload.toNat (fun m => (P.pay m).length) [] acc).map Chunk.frag = mv.map Chunk.frag ++ rest) :
    fifoB P acc mv = true := by
  simp only [fifoB, List.all_eq_true, List.mem_range]
  intro j hj
  rw [List.getElem?_eq_getElem hj]
  simp only
  generalize hc : mv[j] = c
  have hcj : mv[j]? = some c := by rw [List.getElem?_eq_getElem hj, hc]
  cases hb : c.bfrag with
  | false => rfl
  | true =>
    simp only [Bool.not_true, Bool.false_or, beq_iff_eq]
    obtain ⟨w, hw, hf⟩ := frag_get_of_prefix h j c hcj
    obtain ⟨f1, f2, f3, _, _⟩ := frag_fields hf
    obtain ⟨ws1, a, ws2, e, g1, g2, g3⟩ := gen_first il _ _ [] acc j w hw (by rw [f3]; exact hb)
    rw [countP_si_take_of_prefix h j (Nat.le_of_lt hj), ← f1, ← f2, g1, g2, g3, earlier_eq_filter P acc ws1 ws2 a hs e]
    rfl

/-- over reliable ordered streams every chunk the writes queue is ordered (`packetize`: `unordered = ppi != DCEP && s.unordered`) -/
theorem reliable_written_ordered (P : Params) (ops : List Op) (hrel : Reliable ops = true) :
    ∀ c ∈ written (init P).snd (sndOps P (init P).snd ops), c.unordered = false := by
  intro c hc
  obtain ⟨hgen, _⟩ := run_gen P.cfg.useInterleaving (fun m => (P.pay m).length) [] (init P).snd (sndOps P (init P).snd ops)
    (init_cinv _ P.cfg P.tsn P.peerRwnd) rfl (sndOps_ord P (init P).snd ops hrel) (sndOps_lenOk P (init P).snd ops)
  rw [hgen] at hc
  obtain ⟨ws1, a, ws2, i, _, hi⟩ := gen_mem _ _ _ _ _ c hc
  exact (grp_get _ _ _ _ _ _ _ hi).2.2.2.1

/-- the moved chunks are, position by position, a prefix of `gen` of the accepted writes -/
theorem gen_prefix (P : Params) (ops : List Op) (hf : SelFifo ops = true) (hrel : OrdOnly ops = true) :
    ∃ rest, (gen P.cfg.useInterleaving P.cfg.maxPayload.toNat (fun m => (P.pay m).length) []
        (accepted (init P).snd (sndOps P (init P).snd ops))).map Chunk.frag =
      (moved (init P).snd (sndOps P (init P).snd ops)).map Chunk.frag ++ rest := by
  have hs0 : (init P).snd = Sender.init P.cfg P.tsn P.peerRwnd := rfl
  have hlen := sndOps_lenOk P (init P).snd ops
  have hord := sndOps_ordOnly P (init P).snd ops hrel
  obtain ⟨hgen, _⟩ := run_gen P.cfg.useInterleaving (fun m => (P.pay m).length) [] (init P).snd (sndOps P (init P).snd ops)
    (init_cinv _ P.cfg P.tsn P.peerRwnd) rfl hord hlen
  have hpre := moved_prefix_written P.cfg P.tsn P.peerRwnd (sndOps P (init P).snd ops) (sndOps_fifo P (init P).snd ops hf)
  rw [← hs0, hgen] at hpre
  have hcfg0 : (init P).snd.cfg = P.cfg := rfl
  rw [hcfg0] at hpre
  exact ⟨_, hpre⟩

/-- ✱ `SelContig` from FIFO selection, ordered streams of any policy -/
theorem selFifo_selContig_ord (P : Params) (ops : List Op) (hf : SelFifo ops = true) (hrel : OrdOnly ops = true) :
    SelContig P ops = true := by
  obtain ⟨rest, hpre⟩ := gen_prefix P ops hf hrel
  have hsorted := accepted_sorted (init P).snd (sndOps P (init P).snd ops)
  simp only [SelContig, Bool.and_eq_true]
  exact ⟨contigB_of_prefix _ _ _ _ _ _ hpre, fifoB_of_prefix P _ _ _ _ hsorted hpre⟩

/-- **FIFO selection is message-contiguous and per-stream FIFO**: over reliable ordered streams, a run whose gathers
always select the oldest pending chunk moves the chunks in the order the writes created them — message after message,
the fragments of each adjacent and in order (`C01_write_fragments`, `C01_ssn_assignment`). -/
theorem selFifo_selContig (P : Params) (ops : List Op) (hf : SelFifo ops = true) (hrel : Reliable ops = true) :
    SelContig P ops = true :=
  selFifo_selContig_ord P ops hf (ordOnly_of_reliable hrel)

end NetSys
