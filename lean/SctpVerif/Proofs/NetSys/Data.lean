import SctpVerif.Proofs.NetSys.PRUniv
/-!
Composition, DATA (no interleaving): the hypotheses of the receive-side prefix theorem (`Receiver.prefix_data`, the
statement of `C01_receiver_prefix`) hold for the receiver run of every NetSys run over ordered streams whose selection oracle
is message-contiguous and per-stream FIFO (`SelContig`), with the universe `univOf` built from the sender run.
-/
namespace NetSys
open SenderProofs SenderTsn Sender

theorem idxOfFrag_le (P : Params) (acc : List Write) (mv : List Chunk) (si : BitVec 16) (k i : Nat) :
    idxOfFrag P acc mv si k i ≤ mv.length := by
  simp only [idxOfFrag]
  split
  · exact Nat.le_refl _
  · have := List.idxOf_le_length (l := mv.map Chunk.frag)
      (a := fragOf P.cfg.useInterleaving ‹Write› k i (fragSizes P.cfg.maxPayload.toNat (P.pay (‹Write›).msg).length).length)
    simpa using this

theorem ofNat32_add_inj (t : BitVec 32) {a b : Nat} (ha : a < 2^32) (hb : b < 2^32)
    (h : t + BitVec.ofNat 32 a = t + BitVec.ofNat 32 b) : a = b :=
  Sna.add_ofNat_inj t ha hb h

/-- ordered streams of ANY reliability policy: NetSys never hands the receiver a FORWARD-TSN, so an abandoned message only
stalls its stream -/
theorem netsys_prefix_data_ord (P : Params) (ops : List Op) (si : BitVec 16)
    (hil : P.cfg.useInterleaving = false) (hrel : OrdOnly ops = true) (hsel : SelContig P ops = true)
    (hN : chunksWritten P ops < 2^31) (hwin : WinOk P si (2^15) (init P) ops = true) :
    readsOn P si (init P) ops <+: writesOn P si (init P) ops := by
  have hs0 : (init P).snd = Sender.init P.cfg P.tsn P.peerRwnd := rfl
  have hu := ufacts P ops hil hrel hsel hN
  simp only [chunksWritten] at hN
  generalize hacc : accepted (init P).snd (sndOps P (init P).snd ops) = acc at hu
  generalize hmvd : moved (init P).snd (sndOps P (init P).snd ops) = mv at hu
  generalize hW : (written (init P).snd (sndOps P (init P).snd ops)).length = W at hN hu
  obtain ⟨ctx, _, _, hfr, hchunk, hidxAll, _⟩ := id hu
  obtain ⟨hS, hSa⟩ := mem_senders (senderD P acc mv) acc si
  have key := Receiver.prefix_data (NetSysPR.univOf hu si) P.maxBuf P.maxEntries P.cfg.useInterleaving P.useFwd P.useIFwd
    P.ackMode (rcvOps P (init P) ops) ?hgood (senderD P acc mv si) hS ?hwin
  · rw [reads_eq, ← msgsOf_out P ops si (fun a ha => (hfr a (hacc ▸ ha)).2.2), hacc]
    exact key
  case hgood =>
    intro cs hcs ch hch
    obtain ⟨c, hc, imm, rfl⟩ := pkt_chunk_on_wire P ops cs hcs ch hch
    obtain ⟨ws1, a, ws2, i, e1, _, _, t1, t2, t3, _, _⟩ := hchunk c hc
    exact Or.inr ⟨senderD P acc mv a.si, hSa a (by rw [e1]; simp), cntOf ws1 a.si, i, imm, t1, t2, by rw [t3]⟩
  case hwin =>
    intro ops1 cs1 k i imm cs2 ops2 hr hk hi _
    obtain ⟨o1, op, o2, c, e, e1, hc1, hceq⟩ := pkt_chunk_prefix P ops ops1 cs1 _ imm cs2 ops2 hr
    -- `c` in the whole run
    have hcf : c ∈ wire (init P).snd (sndOps P (init P).snd ops) := by
      rw [e, sndOps_append, wire_append]; exact List.mem_append_left _ hc1
    obtain ⟨ws1, a, ws2, i', a1, a2, a3, t1, t2, t3, t4, t5⟩ := hchunk c hcf
    -- `c` in the PREFIX run: its message was accepted before
    have hrel1 : OrdOnly o1 = true := (ordOnly_append o1 (op :: o2) (by rw [← e]; exact hrel)).1
    have hid1 := wire_ident P.cfg P.tsn P.peerRwnd (fun m => (P.pay m).length) (sndOps P (init P).snd o1)
      (sndOps_ordOnly P (init P).snd o1 hrel1) (sndOps_lenOk P (init P).snd o1)
    rw [← hs0] at hid1
    obtain ⟨w1, b1, w2, j1, p1, _, p3, _, _, _⟩ := hid1 c hc1
    obtain ⟨rest, hrest⟩ := accepted_prefix P o1 (op :: o2)
    rw [← e, hacc] at hrest
    have hb1m : c.msg = b1.msg := congrArg Frag.msg p3
    have hsplit2 : acc = w1 ++ b1 :: (w2 ++ rest) := by rw [hrest, p1]; simp
    obtain ⟨u1, u2, _⟩ := split_unique acc ctx.sorted w1 (w2 ++ rest) ws1 ws2 b1 a hsplit2 a1 (hb1m.symm.trans a2)
    -- the stream
    have hsi : c.si = si := by
      have := congrArg (fun x => x.si) hceq
      simpa [toWire, Reasm.Sender.dataFrag, senderD] using this
    have hasi : a.si = si := a3.symm.trans hsi
    have hk1 : cntOf w1 b1.si < cntOf (accepted (init P).snd (sndOps P (init P).snd o1)) b1.si := (filter_split _ w1 w2 b1 p1).2
    rw [u1, u2, hasi] at hk1
    -- the TSN offsets agree
    rw [hasi] at t1 t2 t3 t4
    have hJ : (senderD P acc mv si).base k + i = (mv.map Chunk.frag).idxOf (Chunk.frag c) := by
      have htsn := congrArg (fun x => x.tsn) (hceq.symm.trans t3)
      simp only [Reasm.Sender.dataFrag] at htsn
      have hb1 := hidxAll si k i hk hi
      have hb2 := hidxAll si (cntOf ws1 si) i' t1 t2
      have := ofNat32_add_inj _ (by omega) (by omega) htsn
      omega
    -- a TSN offset of the universe names one fragment
    have hkk : cntOf ws1 si = k := hasi ▸ (hu.inj c ws1 a ws2 a1 a2 t5 si k i hk hi hJ).2
    rw [← e1]
    exact win_prefix P ops si _ hwin o1 op o2 e k (hkk ▸ hk1)

theorem netsys_prefix_data (P : Params) (ops : List Op) (si : BitVec 16)
    (hil : P.cfg.useInterleaving = false) (hrel : Reliable ops = true) (hsel : SelContig P ops = true)
    (hN : chunksWritten P ops < 2^31) (hwin : WinOk P si (2^15) (init P) ops = true) :
    readsOn P si (init P) ops <+: writesOn P si (init P) ops :=
  netsys_prefix_data_ord P ops si hil (ordOnly_of_reliable hrel) hsel hN hwin

end NetSys
