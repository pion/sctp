import SctpVerif.Proofs.NetSys.PRLostFwd
import SctpVerif.Proofs.NetSys.SelFifo
import SctpVerif.Proofs.Sender.MsgOrder
/-!
FIFO selection (`SelFifo`: every gather takes the oldest pending chunk) over ordered streams of ANY reliability policy implies
`SelContig` (the argument of `selFifo_selContig` does not use the policy) and `FifoU` (the per-stream FIFO of the TSN
assignment in the universe's vocabulary): the written chunks, as fragment identities, are the moved chunks followed by the
pending ones (`moved_prefix_written`), and `gen` lists the fragments message after message.
-/
namespace NetSys
open SenderProofs SenderTsn Sender

/-- the element of `gen` at the position of fragment `i` of a write -/
theorem gen_at (il : Bool) (mp : Nat) (lenOf : Nat → Nat) (pre u : List Write) (ak : Write) (v : List Write) (i : Nat)
    (hi : i < (grp il mp (lenOf ak.msg) (cntOf (pre ++ u) ak.si) ak).length) :
    (gen il mp lenOf pre (u ++ ak :: v))[(gen il mp lenOf pre u).length + i]? =
      (grp il mp (lenOf ak.msg) (cntOf (pre ++ u) ak.si) ak)[i]? := by
  rw [gen_append, List.getElem?_append_right (by omega)]
  simp only [Nat.add_sub_cancel_left, gen]
  rw [List.getElem?_append_left hi]

/-- ✱ `FifoU` from FIFO selection, ordered streams of any policy -/
theorem fifoU_of_selFifo (P : Params) (ops : List Op) (si : BitVec 16) (hil : P.cfg.useInterleaving = false)
    (hf : SelFifo ops = true) (hrel : OrdOnly ops = true) (hN : chunksWritten P ops < 2^31) :
    NetSysPR.FifoU P ops si = true := by
  have hu := ufacts P ops hil hrel (selFifo_selContig_ord P ops hf hrel) hN
  obtain ⟨rest, hpre⟩ := gen_prefix P ops hf hrel
  rw [hil] at hpre
  have hs0 : (NetSysPR.init P).snd = (init P).snd := rfl
  simp only [NetSysPR.FifoU, hs0]
  generalize hacc : accepted (init P).snd (sndOps P (init P).snd ops) = acc at hu hpre ⊢
  generalize hmvd : moved (init P).snd (sndOps P (init P).snd ops) = mv at hu hpre ⊢
  rw [List.all_eq_true]
  intro j hjr
  have hjl : j < mv.length := List.mem_range.1 hjr
  rw [List.getElem?_eq_getElem hjl]
  simp only
  generalize hm : mv[j] = m
  have hj : mv[j]? = some m := by rw [List.getElem?_eq_getElem hjl, hm]
  by_cases hsi : m.si = si
  · rw [Bool.or_eq_true]; right
    rw [List.all_eq_true]
    intro k hkr
    rw [List.all_eq_true]
    intro i hir
    have hk : k < m.ssn.toNat := List.mem_range.1 hkr
    have hi := List.mem_range.1 hir
    rw [decide_eq_true_eq]
    -- where `m` sits in `gen`
    obtain ⟨w, hw, hfw⟩ := frag_get_of_prefix hpre j m hj
    obtain ⟨ws1, a, ws2, im, e, ej, hgi⟩ := gen_get false _ _ [] acc j w hw
    obtain ⟨g1, _, _, _, g5, _⟩ := grp_get _ _ _ _ _ _ _ hgi
    have hwsi : w.si = m.si := congrArg Frag.si hfw
    have hwssn : w.ssn = m.ssn := congrArg Frag.ssn hfw
    have hasi : a.si = si := by rw [← g1, hwsi, hsi]
    simp only [Bool.false_eq_true, if_false, List.nil_append] at g5
    rw [hasi] at g5
    have hkL : k < cntOf ws1 si := by
      rw [← hwssn, g5] at hk
      have : (BitVec.ofNat 16 (cntOf ws1 si)).toNat ≤ cntOf ws1 si := by
        simp only [BitVec.toNat_ofNat]; exact Nat.mod_le _ _
      omega
    -- message `k` of the stream is a write in `ws1`
    have hak1 : (ws1.filter (·.si == si))[k]? = some (ws1.filter (·.si == si))[k] := List.getElem?_eq_getElem hkL
    obtain ⟨u, v, eu, cu, hsu⟩ := filter_get_split ws1 si k _ hak1
    generalize (ws1.filter (·.si == si))[k] = ak at hak1 eu hsu
    have eacc : acc = u ++ ak :: (v ++ a :: ws2) := by rw [e, eu]; simp
    obtain ⟨hgetk, hcntk⟩ := filter_split acc u (v ++ a :: ws2) ak eacc
    rw [hsu, cu] at hgetk hcntk
    have hkS : k < (senderD P acc mv si).msgs.length := by
      have : (senderD P acc mv si).msgs.length = cntOf acc si := by simp [senderD, msgsOf, cntOf]
      omega
    obtain ⟨hnfk, _⟩ := hu.hbase si k hkS ak hgetk
    rw [hnfk] at hi
    -- positions in `gen`
    have hglen : (grp false P.cfg.maxPayload.toNat (P.pay ak.msg).length (cntOf ([] ++ u) ak.si) ak).length = nfr P ak := by
      rw [grp_length]; rfl
    have hws1len : (gen false P.cfg.maxPayload.toNat (fun m => (P.pay m).length) [] u).length + nfr P ak ≤
        (gen false P.cfg.maxPayload.toNat (fun m => (P.pay m).length) [] ws1).length := by
      rw [eu, gen_append]
      simp only [gen, List.length_append, hglen]
      omega
    generalize hp0 : (gen false P.cfg.maxPayload.toNat (fun m => (P.pay m).length) [] u).length = p0 at hws1len
    have hnpos := (hu.hfr ak (by rw [eacc]; simp)).1
    -- the first fragment of message `k` sits at `p0` among the moves
    have hp0l : p0 < mv.length := by omega
    have hx : mv[p0]? = some mv[p0] := List.getElem?_eq_getElem hp0l
    generalize mv[p0] = x at hx
    obtain ⟨w0, hw0, hfw0⟩ := frag_get_of_prefix hpre p0 x hx
    have hat := gen_at false P.cfg.maxPayload.toNat (fun m => (P.pay m).length) [] u ak (v ++ a :: ws2) 0 (by rw [hglen]; omega)
    rw [← eacc, hp0, Nat.add_zero, hw0] at hat
    obtain ⟨q1, q2, q3, q4, q5, q6, q7, q8, q9, _⟩ := grp_get _ _ _ _ _ _ _ hat.symm
    simp only [Bool.false_eq_true, if_false, List.nil_append] at q5 q6
    rw [hsu, cu] at q5
    have hfx : Chunk.frag x = fragOf false ak k 0 (nfr P ak) := by
      rw [← hfw0]
      simp only [Chunk.frag, fragOf, q1, q2, q3, q4, q5, q6, q7, q8, q9, Bool.false_eq_true, if_false]
      rfl
    have hidx := idxOf_of_get mv hu.ctx.nd p0 x hx
    rw [hfx] at hidx
    have hfirst := hu.ctx.first u (v ++ a :: ws2) ak eacc (by rw [hsu, cu, hidx]; exact hp0l)
    rw [hsu, cu, hidx] at hfirst
    rw [hfirst.2]
    omega
  · have : (m.si == si) = false := by simpa using hsi
    simp [this]

end NetSys
