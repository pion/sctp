import SctpVerif.Proofs.Sender.MsgOrder
/-!
The order in which the writes of a run create chunks (`gen` of the accepted writes: message after message, the
fragments of a message adjacent and in order — `C01_write_fragments` per write, `C01_ssn_assignment` per run) is
message-contiguous and per-stream first-in-first-out; so is every list of chunks that carries, position by position, the
fragment identities of a PREFIX of it. Positions are by index (`gen_get`), counts per stream by `gen_countP_si`.
-/
namespace SenderTsn
open SenderProofs
open Gen Sender
open NetSys (Write)

/-- position of a chunk of `gen`: behind the chunks of the earlier writes, at its fragment index in its own group -/
theorem gen_get (il : Bool) (mp : Nat) (lenOf : Nat → Nat) (pre ws : List Write) (j : Nat) (c : Chunk)
    (h : (gen il mp lenOf pre ws)[j]? = some c) :
    ∃ (ws1 : List Write) (a : Write) (ws2 : List Write) (i : Nat), ws = ws1 ++ a :: ws2 ∧
      j = (gen il mp lenOf pre ws1).length + i ∧ (grp il mp (lenOf a.msg) (cntOf (pre ++ ws1) a.si) a)[i]? = some c := by
  induction ws generalizing pre j with
  | nil => simp [gen] at h
  | cons a r ih =>
    simp only [gen] at h
    by_cases hj : j < (grp il mp (lenOf a.msg) (cntOf pre a.si) a).length
    · rw [List.getElem?_append_left hj] at h
      exact ⟨[], a, r, j, rfl, by simp [gen], by simpa using h⟩
    · rw [List.getElem?_append_right (by omega)] at h
      obtain ⟨ws1, b, ws2, i, e, ej, hi⟩ := ih (pre ++ [a]) _ h
      refine ⟨a :: ws1, b, ws2, i, by rw [e]; rfl, ?_, ?_⟩
      · simp only [gen, List.length_append]; omega
      · simpa [List.append_assoc] using hi

/-- the first chunk of `gen` is a first fragment -/
theorem gen_head (il : Bool) (mp : Nat) (lenOf : Nat → Nat) (pre ws : List Write) (c : Chunk)
    (h : (gen il mp lenOf pre ws)[0]? = some c) : c.bfrag = true := by
  obtain ⟨ws1, a, ws2, i, _, ej, hi⟩ := gen_get il mp lenOf pre ws 0 c h
  have hi0 : i = 0 := by omega
  subst hi0
  have := (grp_get _ _ _ _ _ _ _ hi).2.2.2.2.2.2.2.1
  simpa using this

/-- in `gen`: after a last fragment comes a first fragment, after any other fragment the next one of the same message -/
theorem gen_next (il : Bool) (mp : Nat) (lenOf : Nat → Nat) (pre ws : List Write) (j : Nat) (x y : Chunk)
    (hx : (gen il mp lenOf pre ws)[j]? = some x) (hy : (gen il mp lenOf pre ws)[j + 1]? = some y) :
    if x.efrag then y.bfrag = true else (y.msg = x.msg ∧ y.fsn = x.fsn + 1) := by
  obtain ⟨ws1, a, ws2, i, e, ej, hi⟩ := gen_get il mp lenOf pre ws j x hx
  subst e
  rw [gen_append] at hy
  simp only [gen] at hy
  rw [ej, Nat.add_assoc, List.getElem?_append_right (by omega)] at hy
  have hsub : (gen il mp lenOf pre ws1).length + (i + 1) - (gen il mp lenOf pre ws1).length = i + 1 := by omega
  rw [hsub] at hy
  obtain ⟨_, x2, _, _, _, _, x7, _, x9, _⟩ := grp_get _ _ _ _ _ _ _ hi
  have hil : i < (grp il mp (lenOf a.msg) (cntOf (pre ++ ws1) a.si) a).length := (List.getElem?_eq_some_iff.1 hi).1
  have hgl := grp_length il mp (lenOf a.msg) (cntOf (pre ++ ws1) a.si) a
  by_cases hlt : i + 1 < (grp il mp (lenOf a.msg) (cntOf (pre ++ ws1) a.si) a).length
  · rw [List.getElem?_append_left hlt] at hy
    obtain ⟨_, y2, _, _, _, _, y7, _, _, _⟩ := grp_get _ _ _ _ _ _ _ hy
    have hxe : x.efrag = false := by rw [x9]; simp; omega
    simp only [hxe, Bool.false_eq_true, if_false]
    refine ⟨y2.trans x2.symm, ?_⟩
    rw [y7, x7]
    show _ = BitVec.ofNat 32 i + BitVec.ofNat 32 1
    rw [← BitVec.ofNat_add]
  · rw [List.getElem?_append_right (by omega)] at hy
    have h0 : i + 1 - (grp il mp (lenOf a.msg) (cntOf (pre ++ ws1) a.si) a).length = 0 := by omega
    rw [h0] at hy
    have hxe : x.efrag = true := by rw [x9]; simp; omega
    simp only [hxe, if_true]
    exact gen_head il mp lenOf _ ws2 y hy

theorem grp_si (il : Bool) (mp len k : Nat) (a : Write) : ∀ c ∈ grp il mp len k a, c.si = a.si :=
  fun c hc => ((mkChunks_spec _ _ _ _ _ _ _ _ _).2.2.2 c hc).2.2

theorem grp_countP_si (il : Bool) (mp len k : Nat) (a : Write) (si : BitVec 16) :
    (grp il mp len k a).countP (·.si == si) = if a.si = si then (fragSizes mp len).length else 0 := by
  by_cases ha : a.si = si
  · rw [if_pos ha, ← grp_length il mp len k a, List.countP_eq_length]
    intro c hc
    simp [grp_si _ _ _ _ _ c hc, ha]
  · rw [if_neg ha, List.countP_eq_zero]
    intro c hc
    simp [grp_si _ _ _ _ _ c hc, ha]

/-- chunks of stream `si` in `gen`: the fragments of the writes on `si` -/
theorem gen_countP_si (il : Bool) (mp : Nat) (lenOf : Nat → Nat) (pre ws : List Write) (si : BitVec 16) :
    (gen il mp lenOf pre ws).countP (·.si == si) =
      ((ws.filter (·.si == si)).map fun a => (fragSizes mp (lenOf a.msg)).length).sum := by
  induction ws generalizing pre with
  | nil => simp [gen]
  | cons a r ih =>
    simp only [gen, List.countP_append, ih, List.filter_cons, grp_countP_si]
    by_cases ha : a.si = si
    · simp [ha]
    · simp [ha]

/-- a first fragment in `gen` sits at a message boundary: the chunks of its stream before it are the fragments of the
writes on that stream before its own write -/
theorem gen_first (il : Bool) (mp : Nat) (lenOf : Nat → Nat) (pre ws : List Write) (j : Nat) (c : Chunk)
    (h : (gen il mp lenOf pre ws)[j]? = some c) (hb : c.bfrag = true) :
    ∃ (ws1 : List Write) (a : Write) (ws2 : List Write), ws = ws1 ++ a :: ws2 ∧ c.si = a.si ∧ c.msg = a.msg ∧
      ((gen il mp lenOf pre ws).take j).countP (·.si == a.si) =
        ((ws1.filter (·.si == a.si)).map fun x => (fragSizes mp (lenOf x.msg)).length).sum := by
  obtain ⟨ws1, a, ws2, i, e, ej, hi⟩ := gen_get il mp lenOf pre ws j c h
  obtain ⟨g1, g2, _, _, _, _, _, g8, _, _⟩ := grp_get _ _ _ _ _ _ _ hi
  have hi0 : i = 0 := by rw [hb] at g8; simpa using g8.symm
  subst hi0
  refine ⟨ws1, a, ws2, e, g1, g2, ?_⟩
  subst e
  rw [gen_append, ej, Nat.add_zero, List.take_left' rfl]
  exact gen_countP_si il mp lenOf pre ws1 a.si

/-! ## transfer to a list that carries the fragment identities of a prefix -/

theorem frag_get_of_prefix {G mv : List Chunk} {rest : List Frag} (h : G.map Chunk.frag = mv.map Chunk.frag ++ rest)
    (j : Nat) (c : Chunk) (hc : mv[j]? = some c) : ∃ w, G[j]? = some w ∧ Chunk.frag w = Chunk.frag c := by
  have hj : j < mv.length := (List.getElem?_eq_some_iff.1 hc).1
  have h1 : (G.map Chunk.frag)[j]? = some (Chunk.frag c) := by
    rw [h, List.getElem?_append_left (by simpa using hj), List.getElem?_map, hc]; rfl
  rw [List.getElem?_map] at h1
  cases hg : G[j]? with
  | none => rw [hg] at h1; cases h1
  | some w => rw [hg] at h1; exact ⟨w, rfl, by simpa using h1⟩

theorem countP_si_take_of_prefix {G mv : List Chunk} {rest : List Frag} (h : G.map Chunk.frag = mv.map Chunk.frag ++ rest)
    (j : Nat) (hj : j ≤ mv.length) (si : BitVec 16) :
    (mv.take j).countP (·.si == si) = (G.take j).countP (·.si == si) := by
  have e1 : ∀ l : List Chunk, l.countP (·.si == si) = (l.map Chunk.frag).countP (fun f => f.1 == si) := by
    intro l; rw [List.countP_map]; rfl
  rw [e1, e1, List.map_take, List.map_take, h, List.take_append_of_le_length (by simpa using hj)]

end SenderTsn
