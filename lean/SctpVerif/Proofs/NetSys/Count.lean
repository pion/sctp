import SctpVerif.Proofs.NetSys.UnivD
/-!
Counting, to bound the TSN offsets of the DATA universe by the number of chunks WRITTEN: the
written chunks that carry one message identity are exactly the fragments of that message; the moved chunks that carry
it sit at or behind the position of its first fragment; and the chunks never moved are at least the fragments of the
message that were never moved.
-/
namespace NetSys
open SenderProofs SenderTsn Sender

/-- the fragment identity carries message identity `m` -/
def msgIs (m : Nat) : Frag → Bool := fun f => f.2.1 == m

theorem gen_msgs (il : Bool) (mp : Nat) (lenOf : Nat → Nat) (pre ws : List Write) :
    ∀ w ∈ gen il mp lenOf pre ws, ∃ a ∈ ws, w.msg = a.msg := by
  intro w hw
  obtain ⟨ws1, a, ws2, i, e, hi⟩ := gen_mem il mp lenOf pre ws w hw
  exact ⟨a, by rw [e]; simp, (grp_get _ _ _ _ _ i w hi).2.1⟩

theorem grp_msgs (il : Bool) (mp len k : Nat) (a : Write) : ∀ w ∈ grp il mp len k a, w.msg = a.msg := by
  intro w hw
  obtain ⟨i, hi⟩ := List.getElem?_of_mem hw
  exact (grp_get _ _ _ _ _ i w hi).2.1

/-- among the written chunks, those that carry the identity of the accepted write `ak` are its fragments -/
theorem gen_count_msg (il : Bool) (mp : Nat) (lenOf : Nat → Nat) (acc u v : List Write) (ak : Write)
    (hs : acc.Pairwise (fun a b => a.msg < b.msg)) (h : acc = u ++ ak :: v) :
    ((gen il mp lenOf [] acc).map Chunk.frag).countP (msgIs ak.msg) = (fragSizes mp (lenOf ak.msg)).length := by
  subst h
  rw [List.pairwise_append] at hs
  obtain ⟨_, hs2, hs3⟩ := hs
  rw [List.pairwise_cons] at hs2
  rw [gen_append]
  simp only [gen, List.map_append, List.countP_append, List.countP_map, List.nil_append]
  have h1 : (gen il mp lenOf [] u).countP ((msgIs ak.msg) ∘ Chunk.frag) = 0 := by
    rw [List.countP_eq_zero]
    intro w hw
    obtain ⟨a, ha, hm⟩ := gen_msgs il mp lenOf [] u w hw
    have := hs3 a ha ak List.mem_cons_self
    simp only [Function.comp, Chunk.frag, msgIs, beq_iff_eq]
    omega
  have h2 : (gen il mp lenOf (u ++ [ak]) v).countP ((msgIs ak.msg) ∘ Chunk.frag) = 0 := by
    rw [List.countP_eq_zero]
    intro w hw
    obtain ⟨a, ha, hm⟩ := gen_msgs il mp lenOf _ v w hw
    have := hs2.1 a ha
    simp only [Function.comp, Chunk.frag, msgIs, beq_iff_eq]
    omega
  have h3 : (grp il mp (lenOf ak.msg) (cntOf u ak.si) ak).countP ((msgIs ak.msg) ∘ Chunk.frag) =
      (fragSizes mp (lenOf ak.msg)).length := by
    rw [← grp_length il mp (lenOf ak.msg) (cntOf u ak.si) ak, List.countP_eq_length]
    intro w hw
    simp only [Function.comp, Chunk.frag, msgIs, beq_iff_eq]
    exact grp_msgs _ _ _ _ _ w hw
  rw [h1, h2, h3]
  omega

/-- the moved chunks that carry the identity of `ak` sit at or behind the position `J0` of its first fragment
(`J0 = mv.length` if the first fragment never moved: then none of its fragments moved) -/
theorem moved_count_msg {P : Params} {acc : List Write} {mv : List Chunk} (h : DCtx P acc mv) (u v : List Write) (ak : Write)
    (hacc : acc = u ++ ak :: v) :
    (mv.map Chunk.frag).countP (msgIs ak.msg) ≤
      mv.length - (mv.map Chunk.frag).idxOf (fragOf false ak (cntOf u ak.si) 0 (nfr P ak)) := by
  generalize hJ : (mv.map Chunk.frag).idxOf (fragOf false ak (cntOf u ak.si) 0 (nfr P ak)) = J0
  -- every moved chunk of the message sits at a position ≥ J0
  have hpos : ∀ (p : Nat) (c : Chunk), mv[p]? = some c → c.msg = ak.msg → J0 ≤ p := by
    intro p c hp hm
    obtain ⟨b1, b, b2, hfb⟩ := h.first_before u v ak hacc p c hp hm
    have := idxOf_of_get mv h.nd _ b b2
    rw [hfb, hJ] at this
    omega
  have hsplit : mv = mv.take J0 ++ mv.drop J0 := (List.take_append_drop J0 mv).symm
  have h1 : ((mv.take J0).map Chunk.frag).countP (msgIs ak.msg) = 0 := by
    rw [List.countP_eq_zero]
    intro f hf
    obtain ⟨c, hc, rfl⟩ := List.mem_map.1 hf
    obtain ⟨p, hp⟩ := List.getElem?_of_mem hc
    have hpl : p < J0 := by
      rcases Nat.lt_or_ge p J0 with h' | h'
      · exact h'
      · have : (mv.take J0).length ≤ p := Nat.le_trans (List.length_take_le _ _) h'
        rw [List.getElem?_eq_none this] at hp; cases hp
    rw [List.getElem?_take_of_lt hpl] at hp
    intro hm
    have hm' : c.msg = ak.msg := by simpa [Chunk.frag, msgIs] using hm
    have := hpos p c hp hm'
    omega
  have h2 : ((mv.drop J0).map Chunk.frag).countP (msgIs ak.msg) ≤ mv.length - J0 := by
    have := List.countP_le_length (p := msgIs ak.msg) (l := (mv.drop J0).map Chunk.frag)
    simpa using this
  have h3 : (mv.map Chunk.frag).countP (msgIs ak.msg) =
      ((mv.take J0).map Chunk.frag).countP (msgIs ak.msg) + ((mv.drop J0).map Chunk.frag).countP (msgIs ak.msg) := by
    conv => lhs; rw [hsplit]
    rw [List.map_append, List.countP_append]
  omega

/-- if no fragment identity is moved more often than written, the chunks never moved are at least the fragments of
any one message that were never moved -/
theorem unmoved_ge (Wl mv : List Chunk) (hc : ∀ q : Frag → Bool, (mv.map Chunk.frag).countP q ≤ (Wl.map Chunk.frag).countP q)
    (q : Frag → Bool) : (Wl.map Chunk.frag).countP q + mv.length ≤ Wl.length + (mv.map Chunk.frag).countP q := by
  have h1 := List.length_eq_countP_add_countP q (l := Wl.map Chunk.frag)
  have h2 := List.length_eq_countP_add_countP q (l := mv.map Chunk.frag)
  have h3 := hc (fun a => decide ¬q a = true)
  simp only [List.length_map] at h1 h2
  omega

end NetSys
