import SctpVerif.Proofs.NetSys.LiveGlue
/-!
`TakenN` from the readable per-round premises `RoundOkN` (`Props/C02net.lean`): a healed round keeps the sender `InfFit` and
keeps `NoAbandon` — every stream reliable, no queued chunk of an abandoned message, so no chunk is or will be abandoned — and in a
`Round` with both `Round.taken` applies; `alongN_imp` carries this over the rounds. Runs over reliable ordered streams reach
`NoAbandon` states (`noAbandon_reach`).
-/
namespace NetSysLive
open Gen NetSys

/-! ### reliable runs abandon nothing -/

theorem keepsRel_of_reliableOp {P : Params} {s : Sender.St} {op : Op} {o : Sender.Op} (si : BitVec 16)
    (hr : ReliableOp op = true) (h : sndOp P s op = some o) : SenderProofs.KeepsRel si o := by
  rcases sndOp_eq_some.1 h with ⟨_, _, rfl, rfl⟩ | ⟨rfl, _⟩
  · trivial
  · cases o with
    | openS k u rt d e =>
      simp only [ReliableOp, Bool.and_eq_true, Bool.not_eq_true', beq_iff_eq] at hr
      intro _
      rw [hr.2]
      exact ⟨by decide, by decide⟩
    | unreg a => cases hr
    | _ => trivial

theorem sndOps_keepsRel (P : Params) (ops : List Op) (hr : Reliable ops = true) (si : BitVec 16) (s : Sender.St) :
    ∀ o ∈ sndOps P s ops, SenderProofs.KeepsRel si o :=
  sndOps_forall P (SenderProofs.KeepsRel si) ReliableOp (fun _ _ _ => keepsRel_of_reliableOp si) s ops hr

/-- nothing is abandoned and nothing will be: the message bookkeeping is consistent, and on every stream no queued chunk
belongs to a message flagged abandoned and the policy is reliable -/
def NoAbandon (s : Sender.St) : Prop :=
  SenderProofs.MsgInv s ∧ ∀ si, SenderProofs.NoAb (SenderProofs.QStream si) s ∧ SenderProofs.StreamRel si s

theorem NoAbandon.run {s : Sender.St} (h : NoAbandon s) (hw : SenderProofs.WinInv s) (ops : List Sender.Op)
    (hk : ∀ si, ∀ o ∈ ops, SenderProofs.KeepsRel si o) : NoAbandon (Sender.run s ops) :=
  ⟨SenderProofs.run_msginv s ops h.1,
    fun si => SenderProofs.run_noab_stream si s ops hw h.1 (h.2 si).2 (h.2 si).1 (hk si)⟩

theorem NoAbandon.noab {s : Sender.St} (h : NoAbandon s) : ∀ c ∈ s.inflight, s.abandoned c = false :=
  fun c hc => (h.2 c.si).1.abandoned (List.mem_append_left _ hc) rfl

theorem NoAbandon.sndT3 {s : Sender.St} (h : NoAbandon s) (hw : SenderProofs.WinInv s) : NoAbandon (sndT3 s) := by
  unfold NetSysLive.sndT3; split
  · exact h
  · exact h.run hw [.t3] fun _ o ho => by rw [List.mem_singleton.mp ho]; trivial

theorem noAbandon_reach (P : Params) (ops : List Op) (hc : SenderProofs.CfgOk P.cfg) (hr : Reliable ops = true) :
    NoAbandon (run P (init P) ops).snd ∧ SenderProofs.WinInv (run P (init P) ops).snd := by
  have hw := SenderProofs.init_win P.cfg P.tsn P.peerRwnd hc
  rw [snd_run]
  refine ⟨NoAbandon.run ⟨SenderProofs.init_msginv P.cfg P.tsn P.peerRwnd, fun si => ⟨?_, ?_⟩⟩ hw _
    fun si => sndOps_keepsRel P ops hr si _, (SenderProofs.run_win _ _ hw).1⟩
  · intro x hx; simp [SenderProofs.chunksOf, Sender.init] at hx
  · intro st hst; simp [Sender.init] at hst

/-- over reliable ordered streams no in-flight chunk is abandoned when the round's gather starts -/
theorem noab_of_reliable (P : Params) (ops : List Op) (hc : SenderProofs.CfgOk P.cfg) (hr : Reliable ops = true) :
    ∀ c ∈ (sndT3 (run P (init P) ops).snd).inflight, (sndT3 (run P (init P) ops).snd).abandoned c = false :=
  ((noAbandon_reach P ops hc hr).1.sndT3 (noAbandon_reach P ops hc hr).2).noab

/-! ### the healed round keeps `NoAbandon` and the sender `InfFit` -/

theorem reliable_healedRound (P : Params) (s : St) : Reliable (healedRound P s) = true := by
  unfold Reliable healedRound
  simp only [List.all_append, Bool.and_eq_true, List.all_eq_true]
  exact ⟨fun op hop => (roundOps_plain P s op hop).2.1, by intro op hop; simp at hop; subst hop; rfl⟩

theorem inffit_sndPre {x : Sender.St} (h : SenderProofs.InfFit x) : SenderProofs.InfFit (sndPre x) := by
  rw [sndPre_eq]
  apply SenderProofs.gather_inffit
  unfold sndT3; split
  · exact h
  · exact SenderProofs.t3_inffit x h

theorem inffit_healed (P : Params) (s : St) (hl : SenderProofs.Live s.snd) (h : SenderProofs.InfFit s.snd) :
    SenderProofs.InfFit (healed P s).snd := by
  rw [(healed_snd P s).1, preSack_snd]
  exact SenderProofs.sack_inffit _ _ _ _ _ (inffit_sndPre h)

theorem NoAbandon.healed {s : St} (P : Params) (h : NoAbandon s.snd) (hl : SenderProofs.Live s.snd) : NoAbandon (healed P s).snd := by
  unfold NetSys.healed
  rw [(run_snd P s _).1]
  exact h.run hl.win _ fun si => sndOps_keepsRel P _ (reliable_healedRound P s) si _

/-! ### `RoundOkN` gives `TakenN` -/

/-- ✱ from any state at the start of a round whose sender is `InfFit` and `NoAbandon` -/
theorem Round.takenN {P : Params} {W mv : List Sender.Chunk} {s : St} (h : Round P W mv s) (hfit : SenderProofs.InfFit s.snd)
    (hrel : NoAbandon s.snd) (n : Nat) (hok : alongN P (RoundOk P) n s = true) : alongN P (Taken P) n s = true := by
  refine alongN_imp P (fun _ s => ∃ mv, Round P W mv s ∧ SenderProofs.InfFit s.snd ∧ NoAbandon s.snd) _ _ ?_ ?_ n s
    ⟨mv, h, hfit, hrel⟩ hok
  · rintro _ s ⟨mv, h, hfit, hrel⟩
    obtain ⟨mv', h'⟩ := h.progress.1
    exact ⟨mv', h', inffit_healed P s h.live hfit, hrel.healed P h.live⟩
  · rintro _ s ⟨mv, h, hfit, hrel⟩ hpos hr
    exact h.taken hfit (hrel.sndT3 h.live.win).noab hr hpos

theorem takenN_of_roundOkN (P : Params) (hc : SenderProofs.CfgOk P.cfg) (n : Nat) : ∀ ops, chunksWritten P ops < 2^31 →
    SenderProofs.Live (run P (init P) ops).snd → SenderProofs.InfFit (run P (init P) ops).snd → Reliable ops = true →
    RoundOkN P n (run P (init P) ops) = true → TakenN P n (run P (init P) ops) = true :=
  fun ops hN hl hfit hrel hok => by
    rw [takenN_eq]
    exact (round_reach P ops hN hl).takenN hfit (noAbandon_reach P ops hc hrel).1 n (by rw [← roundOkN_eq]; exact hok)

end NetSysLive
