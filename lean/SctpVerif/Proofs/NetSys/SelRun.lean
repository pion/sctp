import SctpVerif.Proofs.NetSys.UnivD
/-!
FIFO selection, sender half. When every `gather` of a run of the Sender model is given a selection list of zeros
(`peek` names index 0 = the OLDEST pending chunk every time — what the message policy of `pendingQueue` does when only
ordered chunks are queued, `C17_ordered_only_fifo`), the pending queue is a plain first-in-first-out buffer between the
writes and the moves:

  fragment identities of the chunks written so far  =  those of the chunks moved so far  ++  those still pending

(`FInv`, `run_finv`). The only way a chunk leaves the pending queue without being moved is the "no user data" branch of
`popPendingDataChunksToSend` (stream-reset markers); chunks created by `write` never take it (`writeChunks_nz`: every
fragment has between 1 and `maxPayloadSize < 2^32` bytes), which is the second half of the invariant.
-/
namespace SenderTsn
open SenderProofs
open Gen Sender

/-- the selection list of a gather names index 0 every time -/
def allZero (sel : List Nat) : Bool := sel.all (· == 0)

/-- every gather of the run selects the oldest pending chunk -/
def FifoOp : Op → Bool
  | .gather _ sel => allZero sel
  | _ => true

/-- no chunk of the list is a "no user data" marker for `popPendingDataChunksToSend` (`uint32(len(userData)) != 0`) -/
def NZ (l : List Chunk) : Prop := ∀ c ∈ l, (BitVec.ofNat 32 c.len == 0) = false

theorem allZero_tail {sel : List Nat} (h : allZero sel = true) : allZero sel.tail = true := by
  cases sel with
  | nil => rfl
  | cons i r => simp only [allZero, List.all_cons, Bool.and_eq_true] at h; exact h.2

/-- with an all-zero selection `peek` returns the head of the pending list -/
theorem peek_zero {s : St} {sel : List Nat} {i : Nat} {c : Chunk} (hz : allZero sel = true) (hp : peek s sel = some (i, c)) :
    i = 0 ∧ ∃ t, s.pending = c :: t := by
  cases sel with
  | nil => simp [peek] at hp
  | cons j r =>
    simp only [allZero, List.all_cons, Bool.and_eq_true, beq_iff_eq] at hz
    obtain ⟨hj, _⟩ := hz
    subst hj
    simp only [peek, Option.map_eq_some_iff, Prod.mk.injEq] at hp
    obtain ⟨x, hx, e1, e2⟩ := hp
    subst e1; subst e2
    cases hpen : s.pending with
    | nil => rw [hpen] at hx; simp at hx
    | cons y t =>
      rw [hpen] at hx
      simp only [List.getElem?_cons_zero, Option.some.injEq] at hx
      subst hx
      exact ⟨rfl, t, rfl⟩

theorem NZ.tail {c : Chunk} {t : List Chunk} (h : NZ (c :: t)) : NZ t := fun x hx => h x (List.mem_cons_of_mem _ hx)

theorem popLoop_fifo {B : Type} (allow : B → Int → Bool × B) (fuel : Nat) (s : St) (sel : List Nat) (a : PopAcc B)
    (hz : allZero sel = true) (hnz : NZ s.pending) :
    ∃ A, s.pending.map Chunk.frag = A.map Chunk.frag ++ (popLoop allow fuel s sel a).1.pending.map Chunk.frag ∧
      NZ (popLoop allow fuel s sel a).1.pending ∧ allZero (popLoop allow fuel s sel a).2.1 = true ∧
      (popLoop allow fuel s sel a).2.2.admits.map (·.chunk) = a.admits.map (·.chunk) ++ A := by
  induction fuel generalizing s sel a with
  | zero => exact ⟨[], by simp [popLoop], hnz, hz, by simp [popLoop]⟩
  | succ fuel ih =>
    simp only [popLoop]
    cases hp : peek s sel with
    | none => exact ⟨[], by simp, hnz, hz, by simp⟩
    | some ic =>
      obtain ⟨i, c⟩ := ic
      obtain ⟨hi, t, hpen⟩ := peek_zero hz hp
      subst hi
      have hc : (BitVec.ofNat 32 c.len == 0) = false := hnz c (by rw [hpen]; exact List.mem_cons_self)
      simp only [hc, Bool.false_eq_true, if_false]
      cases hd : popDecide s allow a c with
      | skip => exact ⟨[], by simp, hnz, hz, by simp⟩
      | stop b => exact ⟨[], by simp, hnz, hz, by simp⟩
      | take b bip =>
        simp only
        have hpen' : (admitChunk s 0 c).1.pending = t := by
          show s.pending.eraseIdx 0 = t
          rw [hpen]; rfl
        have hfr : Chunk.frag (admitChunk s 0 c).2 = Chunk.frag c := rfl
        obtain ⟨A, h1, h2, h3, h4⟩ := ih (admitChunk s 0 c).1 sel.tail
          { a with b := b, bip := bip, admits := a.admits ++ [mkAdmit s (admitChunk s 0 c).2 false] }
          (allZero_tail hz) (by rw [hpen']; rw [hpen] at hnz; exact hnz.tail)
        refine ⟨(admitChunk s 0 c).2 :: A, ?_, h2, h3, ?_⟩
        · rw [hpen'] at h1
          rw [hpen, List.map_cons, List.map_cons, hfr, h1]; rfl
        · rw [h4]; simp [mkAdmit]

theorem probe_fifo {B : Type} (allow : B → Int → Bool × B) (s : St) (sel : List Nat) (a : PopAcc B)
    (hz : allZero sel = true) (hnz : NZ s.pending) :
    ∃ A, s.pending.map Chunk.frag = A.map Chunk.frag ++ (probe allow s sel a).1.pending.map Chunk.frag ∧
      NZ (probe allow s sel a).1.pending ∧
      (probe allow s sel a).2.2.admits.map (·.chunk) = a.admits.map (·.chunk) ++ A := by
  unfold probe
  split
  · cases hp : peek s sel with
    | none => exact ⟨[], by simp, hnz, by simp⟩
    | some ic =>
      obtain ⟨i, c⟩ := ic
      obtain ⟨hi, t, hpen⟩ := peek_zero hz hp
      subst hi
      simp only
      split
      · split
        · split
          · have hpen' : (admitProbe s 0 c).1.pending = t := by
              show s.pending.eraseIdx 0 = t
              rw [hpen]; rfl
            have hfr : Chunk.frag (admitProbe s 0 c).2 = Chunk.frag c := rfl
            refine ⟨[(admitProbe s 0 c).2], ?_, ?_, by simp [mkAdmit]⟩
            · show s.pending.map Chunk.frag = _ ++ (admitProbe s 0 c).1.pending.map Chunk.frag
              rw [hpen', hpen, List.map_cons, List.map_cons, hfr]; rfl
            · show NZ (admitProbe s 0 c).1.pending
              rw [hpen']; rw [hpen] at hnz; exact hnz.tail
          · exact ⟨[], by simp, hnz, by simp⟩
        · exact ⟨[], by simp, hnz, by simp⟩
      · exact ⟨[], by simp, hnz, by simp⟩
  · exact ⟨[], by simp, hnz, by simp⟩

theorem gatherNew_fifo {B : Type} (allow : B → Int → Bool × B) (b : B) (s : St) (sel : List Nat)
    (hz : allZero sel = true) (hnz : NZ s.pending) :
    s.pending.map Chunk.frag =
      ((gatherNew s allow b sel).2.admits.map (·.chunk)).map Chunk.frag ++ (gatherNew s allow b sel).1.pending.map Chunk.frag ∧
    NZ (gatherNew s allow b sel).1.pending := by
  unfold gatherNew
  split
  · obtain ⟨A1, h1, n1, z1, e1⟩ := popLoop_fifo allow (s.pending.length + 1) s sel { b := b } hz hnz
    obtain ⟨A2, h2, n2, e2⟩ := probe_fifo allow (popLoop allow (s.pending.length + 1) s sel { b := b }).1
      (popLoop allow (s.pending.length + 1) s sel { b := b }).2.1 (popLoop allow (s.pending.length + 1) s sel { b := b }).2.2 z1 n1
    simp only
    refine ⟨?_, n2⟩
    rw [e2, e1, h1, h2]
    simp
  · exact ⟨by simp, hnz⟩

/-- one gather with an all-zero selection: the chunks it moves are the oldest pending ones, in order -/
theorem gather_fifo (s : St) (orc : Oracle) (sel : List Nat) (hz : allZero sel = true) (hnz : NZ s.pending) :
    s.pending.map Chunk.frag =
      ((gather s orc sel).2.admits.map (·.chunk)).map Chunk.frag ++ (gather s orc sel).1.pending.map Chunk.frag ∧
    NZ (gather s orc sel).1.pending := by
  unfold gather
  split
  · exact ⟨by simp, hnz⟩
  · obtain ⟨q1, _⟩ := gatherRtx_still s orc
    have hnz1 : NZ (gatherRtx s orc).1.pending := by rw [q1.q.pen]; exact hnz
    obtain ⟨g1, g2⟩ := gatherNew_fifo orc.allow (gatherRtx s orc).2.2 (gatherRtx s orc).1 sel hz hnz1
    obtain ⟨q3, _⟩ := gatherFast_still (gatherNew (gatherRtx s orc).1 orc.allow (gatherRtx s orc).2.2 sel).1 orc.allow
      (gatherNew (gatherRtx s orc).1 orc.allow (gatherRtx s orc).2.2 sel).2.b
    refine ⟨?_, ?_⟩
    · show s.pending.map Chunk.frag = _ ++ (gatherFast _ _ _).1.pending.map Chunk.frag
      rw [q3.q.pen, ← q1.q.pen]
      exact g1
    · show NZ (gatherFast _ _ _).1.pending
      rw [q3.q.pen]
      exact g2

/-! ## what `write` queues -/

theorem fragSizes_mem (mp len f : Nat) (hmp : 0 < mp) (h : f ∈ fragSizes mp len) : 0 < f ∧ f ≤ mp :=
  (fragAux_spec mp hmp len len (Nat.le_refl _)).2 f h

/-- every chunk a `write` queues carries between 1 and `maxPayloadSize` bytes -/
theorem writeChunks_nz (s : St) (si : BitVec 16) (ppi : BitVec 32) (len : Nat) : NZ (writeChunks s si ppi len) := by
  unfold writeChunks
  cases hs : s.streams si with
  | none => intro c hc; cases hc
  | some st =>
    simp only
    split
    · intro c hc; cases hc
    · split
      · intro c hc; cases hc
      · split
        · intro c hc; cases hc
        · rename_i hmp
          split
          · intro c hc
            simp only [packetize] at hc
            have hlen := ((mkChunks_spec _ _ _ _ _ _ _ _ _).2.2.2 c hc).1
            have hpos : 0 < s.cfg.maxPayload.toNat := by
              rcases Nat.eq_zero_or_pos s.cfg.maxPayload.toNat with h0 | h0
              · exact absurd (BitVec.eq_of_toNat_eq (by simpa using h0)) hmp
              · exact h0
            obtain ⟨f1, f2⟩ := fragSizes_mem _ _ _ hpos hlen
            have hlt : c.len < 2^32 := Nat.lt_of_le_of_lt f2 s.cfg.maxPayload.isLt
            have hne : BitVec.ofNat 32 c.len ≠ 0#32 := by
              intro h0
              have := congrArg BitVec.toNat h0
              simp only [BitVec.toNat_ofNat, Nat.mod_eq_of_lt hlt] at this
              simp at this
              omega
            simpa using hne
          · intro c hc; cases hc

/-- the pending queue is a first-in-first-out buffer between the chunks written `W` and the chunks moved `mv` -/
structure FInv (W mv : List Chunk) (s : St) : Prop where
  ord : W.map Chunk.frag = mv.map Chunk.frag ++ s.pending.map Chunk.frag
  nz : NZ s.pending

theorem step_finv {W mv : List Chunk} (s : St) (op : Op) (h : FInv W mv s) (ho : FifoOp op = true) :
    FInv (W ++ writtenBy s op) (mv ++ movedBy s op) (step s op) := by
  -- only `write` and `gather` touch the pending queue
  have same : writtenBy s op = [] → movedBy s op = [] → (step s op).pending = s.pending →
      FInv (W ++ writtenBy s op) (mv ++ movedBy s op) (step s op) := fun hw hm hp => by
    rw [hw, hm, List.append_nil, List.append_nil]
    exact ⟨by rw [hp]; exact h.ord, by rw [hp]; exact h.nz⟩
  cases op with
  | write si ppi len =>
    simp only [writtenBy, movedBy, List.append_nil, step]
    obtain ⟨_, w2⟩ := write_queues s si ppi len
    refine ⟨?_, ?_⟩
    · rw [w2, List.map_append, List.map_append, h.ord, List.append_assoc]
    · rw [w2]
      intro c hc
      rcases List.mem_append.1 hc with hc | hc
      · exact h.nz c hc
      · exact writeChunks_nz s si ppi len c hc
  | gather orc sel =>
    simp only [writtenBy, movedBy, List.append_nil, step]
    obtain ⟨g1, g2⟩ := gather_fifo s orc sel ho h.nz
    refine ⟨?_, g2⟩
    rw [h.ord, g1, List.map_append, List.append_assoc]
  | unreg si => exact same rfl rfl (by simp only [step, unregister]; split <;> rfl)
  | sack cum arwnd gaps marks => exact same rfl rfl (sack_still s cum arwnd gaps marks).q.pen
  | t3 => exact same rfl rfl (t3_still s).q.pen
  | tick ms n marks => exact same rfl rfl (tick_still s ms n marks).q.pen
  | _ => exact same rfl rfl rfl

theorem run_finv {W mv : List Chunk} (s : St) (ops : List Op) (h : FInv W mv s) (ho : ∀ op ∈ ops, FifoOp op = true) :
    FInv (W ++ written s ops) (mv ++ moved s ops) (run s ops) := by
  induction ops generalizing W mv s with
  | nil => simpa only [written, moved, List.append_nil, run] using h
  | cons op ops ih =>
    have h1 := step_finv s op h (ho op List.mem_cons_self)
    have i1 := ih (step s op) h1 (fun o ho' => ho o (List.mem_cons_of_mem _ ho'))
    simp only [written, moved, run]
    rw [← List.append_assoc, ← List.append_assoc]
    exact i1

/-- **FIFO selection: the moved chunks are the written chunks, in write order, as far as the moves go.** -/
theorem moved_prefix_written (cfg : Cfg) (tsn peerRwnd : BitVec 32) (ops : List Op) (ho : ∀ op ∈ ops, FifoOp op = true) :
    (written (init cfg tsn peerRwnd) ops).map Chunk.frag =
      (moved (init cfg tsn peerRwnd) ops).map Chunk.frag ++ (run (init cfg tsn peerRwnd) ops).pending.map Chunk.frag := by
  have h0 : FInv [] [] (init cfg tsn peerRwnd) := ⟨by simp [init], fun c hc => by simp [init] at hc⟩
  have := (run_finv (init cfg tsn peerRwnd) ops h0 ho).ord
  simpa using this

end SenderTsn
