import SctpVerif.Proofs.NetSys.LiveTaken
import SctpVerif.Proofs.NetSys.LiveRound
/-!
The glue between the two halves of a healed round (`Props/C02net.lean`): `RoundOk P s → 0 < outstanding s → Taken P s`.
The first `deliver` of the round carries the chunk of `head_on_wire` (sender half) into the receiver state of
`handleData_takes` (receiver half); afterwards the receiver's cumulative point only moves forward (`Link.run_quiet`) and the
sender's cumulative ack point stays where it was (`sndPre_cumAck`).
-/
namespace NetSysLive
open Gen NetSys

theorem chunksEnd_flags (r : Receiver.St) :
    (Receiver.chunksEnd r).willSendAbort = r.willSendAbort ∧ (Receiver.chunksEnd r).panicked = r.panicked := by
  unfold Receiver.chunksEnd; repeat' split
  all_goals exact ⟨rfl, rfl⟩

/-- with an empty accept backlog a stream object is always available -/
theorem stream_available (r : Receiver.St) (si : BitVec 16) (h : r.acceptQ = []) :
    (Receiver.getOrCreateStream r si true).2.isSome = true := by
  unfold Receiver.getOrCreateStream
  split
  · rfl
  · unfold Receiver.createStream
    simp [h, acceptChSize]

/-- operations of the sender only leave the receiver alone -/
theorem run_sendOps_rcv (P : Params) (s : St) (x : Sender.St) : (run P s (sendOps x)).rcv = s.rcv := by
  unfold sendOps
  by_cases h : x.inflight.isEmpty = true
  · simp [h, run, step, sndOp]
  · simp [h, run, step, sndOp]

/-- the sender operations of the first part of the round -/
theorem sndOps_o1 (P : Params) (s : St) : sndOps P s.snd (acceptAll s.rcv ++ sendOps s.snd) = sndPart s.snd := by
  rw [sndOps_append, sndOps_rcvOnly P _ (acceptAll_rcvOnly _)]
  simp only [List.nil_append, Sender.run]
  exact sndOps_sendOps P s.snd

theorem wire_sndPart (x : Sender.St) :
    SenderProofs.wire x (sndPart x) = (Sender.gather (sndT3 x) Sender.freeOracle (fifoSel (sndT3 x))).2.packets.flatten := by
  unfold sndPart sndT3
  by_cases h : x.inflight.isEmpty = true
  · simp [h, SenderProofs.wire, SenderProofs.emittedBy]
  · simp [h, SenderProofs.wire, SenderProofs.emittedBy, Sender.run, Sender.step]

/-- the state after the accepts and the sender's T3 / gather -/
theorem run_o1 (P : Params) (s : St) :
    (run P s (acceptAll s.rcv ++ sendOps s.snd)).rcv = { s.rcv with acceptQ := [] } ∧
    (run P s (acceptAll s.rcv ++ sendOps s.snd)).wire =
      s.wire ++ (Sender.gather (sndT3 s.snd) Sender.freeOracle (fifoSel (sndT3 s.snd))).2.packets.flatten := by
  constructor
  · rw [NetSys.run_append, run_sendOps_rcv, run_acceptAll]
  · rw [(run_snd P s _).2, sndOps_o1, wire_sndPart]

theorem deliverOps_cons (lo hi : Nat) (h : lo < hi) :
    deliverOps lo hi = .deliver [(lo, false)] :: deliverOps (lo + 1) hi := by
  unfold deliverOps
  obtain ⟨n, hn⟩ : ∃ n, hi - lo = n + 1 := ⟨hi - lo - 1, by omega⟩
  have : hi - (lo + 1) = n := by omega
  rw [hn, this, List.range'_succ]
  rfl

/-- the round starts with `firstOps` when the gather put something on the wire -/
theorem roundOps_split (P : Params) (s : St)
    (h : (Sender.gather (sndT3 s.snd) Sender.freeOracle (fifoSel (sndT3 s.snd))).2.packets.flatten ≠ []) :
    ∃ tail, roundOps P s = firstOps s ++ tail := by
  unfold roundOps firstOps
  simp only
  have hw := (run_o1 P s).2
  have hlt : s.wire.length < (run P s (acceptAll s.rcv ++ sendOps s.snd)).wire.length := by
    rw [hw, List.length_append]
    have := List.length_pos_iff.mpr h
    omega
  rw [deliverOps_cons _ _ hlt]
  generalize recvOps _ = R
  exact ⟨deliverOps (s.wire.length + 1) (run P s (acceptAll s.rcv ++ sendOps s.snd)).wire.length ++ R, by simp [List.append_assoc]⟩

/-! ### the head of the queue after the round's sender operations -/

theorem sndT3_ackedFrom (x : Sender.St) : AckedFrom x.inflight (sndT3 x).inflight := by
  unfold sndT3; split
  · exact AckedFrom.refl _
  · exact AckedFrom.of_fl (SenderProofs.t3_fl x)

/-- if the head of the queue is acked after "T3; gather", the head of the queue was acked before -/
theorem sndPre_head_acked (x : Sender.St) (h : SenderProofs.Live x) (c0 : Sender.Chunk) (r : List Sender.Chunk)
    (e : (sndPre x).inflight = c0 :: r) (ht : c0.tsn = x.cumAck + 1) (ha : c0.acked = true) :
    ∃ f, x.inflight.head? = some f ∧ f.acked = true := by
  have h1 := live_sndT3 h
  have hp : ∀ c ∈ (sndT3 x).pending, c.acked = false := fun c hc => (h1.core.penSmall c hc).2
  have hfrom := (sndT3_ackedFrom x).trans (gather_ackedFrom (sndT3 x) Sender.freeOracle (fifoSel (sndT3 x)) hp)
  rw [← sndPre_eq] at hfrom
  obtain ⟨c, hc, et, ac⟩ := hfrom c0 (by rw [e]; simp) ha
  obtain ⟨i, hi, hci⟩ := List.mem_iff_getElem.mp hc
  have hget : x.inflight[i]? = some c := by rw [List.getElem?_eq_getElem hi, hci]
  have htsn := SenderProofs.contig_getElem h.seq.1 hget
  have hsm := h.small
  have hi0 : i = 0 := by
    have := Sna.off_succ_add_ofNat x.cumAck i (by omega)
    rw [← htsn, et, ht, RecvQ.off_one] at this
    omega
  subst hi0
  refine ⟨c, ?_, ac⟩
  cases hq : x.inflight with
  | nil => rw [hq] at hget; simp at hget
  | cons f rest => rw [hq] at hget; simpa using hget

/-! ### the first delivery of the round -/

theorem packet_single (r : Receiver.St) (ch : Receiver.InChunk) :
    Receiver.packet r [ch] = Receiver.chunksEnd (Receiver.handleChunk (Receiver.chunksStart r) ch) := rfl

theorem first_delivery (P : Params) (s : St) (e : Sender.Chunk) (rest : List Sender.Chunk)
    (hflat : (Sender.gather (sndT3 s.snd) Sender.freeOracle (fifoSel (sndT3 s.snd))).2.packets.flatten = e :: rest) :
    (run P s (firstOps s)).rcv = Receiver.packet { s.rcv with acceptQ := [] } [.data (toWire P e) false] := by
  obtain ⟨h1, h2⟩ := run_o1 P s
  rw [hflat] at h2
  unfold firstOps
  rw [NetSys.run_append]
  generalize run P s (acceptAll s.rcv ++ sendOps s.snd) = s1 at h1 h2
  have hp : packetOf P s1.wire [(s.wire.length, false)] = [.data (toWire P e) false] := by
    simp [packetOf, h2]
  simp only [run, step, sndOp, rcvOp, hp, Receiver.step, h1]

/-- ✱ the premises of a round give `Taken`, in any state at the start of a round -/
theorem Round.taken {P : Params} {W mv : List Sender.Chunk} {s : St} (h : Round P W mv s) (hfit : SenderProofs.InfFit s.snd)
    (hnab : ∀ c ∈ (sndT3 s.snd).inflight, (sndT3 s.snd).abandoned c = false)
    (hok : RoundOk P s = true) (hpos : 0 < outstanding s) : Taken P s = true := by
  simp only [RoundOk, Bool.and_eq_true, beq_iff_eq] at hok
  obtain ⟨⟨⟨hst, hroom⟩, hsync⟩, hhead⟩ := hok
  simp only [InSync, Bool.and_eq_true, Bool.not_eq_true', Bool.or_eq_true, bne_iff_ne, ne_eq] at hsync
  obtain ⟨hng, hhd⟩ := hsync
  simp only [HeadOk, Bool.and_eq_true, Bool.not_eq_true'] at hhead
  obtain ⟨hab, hpan⟩ := hhead
  -- the start state
  have hl := h.live
  have hW := h.small
  have hM := h.link.mvSmall hW
  have hsm : s.snd.inflight.length < 2^31 := by have := hl.small; omega
  have hqb := h.link.qb hM
  have hidx := h.link.idx hl.seq hM hsm
  have c1 : s.rcv.scp = false := congrArg Receiver.Cfg.scp h.link.rcfg
  have c2 : s.rcv.il = P.cfg.useInterleaving := congrArg Receiver.Cfg.il h.link.rcfg
  obtain ⟨c3, hmo⟩ := h.link.maxOff
  -- the state in which the SACK is built: linked with the same `W`, the cumulative point not behind
  have hq := roundOps_noWrite P s
  obtain ⟨hX, hmono⟩ := h.link.run_quiet (roundOps P s) hq
  have hMX := hX.mvSmall hW
  have hAX := (hX.qb hMX).cumle
  replace hmono := hmono hW
  have hcum : (preSack P s).snd.cumAck = s.snd.cumAck := by rw [preSack_snd, sndPre_cumAck]
  unfold Taken
  rw [hcum]
  show sna32LT s.snd.cumAck (run P s (roundOps P s)).rcv.pq.cum = true
  have hA := hqb.cumle
  unfold idx at hmono hAX hA
  have ha : (s.snd.cumAck - (P.tsn - 1)).toNat ≤ (s.rcv.pq.cum - (P.tsn - 1)).toNat :=
    Nat.le_of_not_lt fun hlt => by rw [Sna.gt32_of_off_lt (P.tsn - 1) _ _ hlt (by omega)] at hng; cases hng
  by_cases hlt : (s.snd.cumAck - (P.tsn - 1)).toNat < (s.rcv.pq.cum - (P.tsn - 1)).toNat
  · exact (Sna.lt32_iff_off (P.tsn - 1) _ _ (by omega) (by omega)).mpr (by omega)
  · -- the cumulative points coincide: the lowest outstanding chunk is not gap-acked, goes out first, and is taken
    have heq : s.snd.cumAck = s.rcv.pq.cum := RecvQ.off_eq (P.tsn - 1) (by omega)
    have hpos' : 0 < s.snd.inflight.length + s.snd.pending.length := by unfold outstanding at hpos; omega
    obtain ⟨c0, r, e1, e2, alt⟩ := head_on_wire _ hl hfit hnab hpos'
    have hna : c0.acked = false := by
      cases hac : c0.acked with
      | false => rfl
      | true =>
        exfalso
        obtain ⟨f, hf1, hf2⟩ := sndPre_head_acked _ hl c0 r e1 e2 hac
        rcases hhd with h | h
        · exact h heq
        · rw [hf1] at h; simp [hf2] at h
    rcases alt with hac | ⟨e, rest, hflat, etsn⟩
    · rw [hna] at hac; cases hac
    · obtain ⟨tail, hsplit⟩ := roundOps_split P s (by rw [hflat]; simp)
      have hfd := first_delivery P s e rest hflat
      rw [hfd] at hab hpan
      rw [packet_single] at hab hpan hfd
      rw [(chunksEnd_flags _).1] at hab
      rw [(chunksEnd_flags _).2] at hpan
      -- the state after the accepts and the sender's operations
      have hqF : ∀ op ∈ firstOps s, NoWrite op := fun op hop => hq op (by rw [hsplit]; exact List.mem_append_left _ hop)
      obtain ⟨h1, _⟩ := h.link.run_quiet (acceptAll s.rcv ++ sendOps s.snd)
        fun op hop => hqF op (by unfold firstOps; exact List.mem_append_left _ hop)
      have hbel := h1.wire e (by rw [(run_o1 P s).2, hflat]; simp)
      have hqb1 := h1.qb (h1.mvSmall hW)
      rw [(run_o1 P s).1] at hqb1
      -- the receiver handles the chunk
      simp only [Receiver.handleChunk] at hab hpan hfd
      by_cases hemp : (toWire P e).userData.isEmpty = true
      · simp only [hemp, if_true] at hab
        simp [Receiver.abortPV] at hab
      · simp only [hemp, Bool.false_eq_true, if_false] at hab hpan hfd
        have htk := handleData_takes (t0 := P.tsn) (h1.mvSmall hW)
          (Receiver.chunksStart { s.rcv with acceptQ := [] }) (toWire P e) false hqb1 hbel hst c1
          (by show (toWire P e).iData = s.rcv.il; rw [c2]; rfl)
          (by show e.tsn = s.rcv.pq.cum + 1; rw [etsn, e2, heq]) c3 hmo (stream_available _ _ rfl) hroom
        rcases htk with h' | h' | h'
        · rw [hab] at h'; cases h'
        · rw [hpan] at h'; cases h'
        · -- from the first delivery to the SACK the cumulative point only moves forward
          obtain ⟨hF, _⟩ := h.link.run_quiet (firstOps s) hqF
          obtain ⟨_, hmono2⟩ := hF.run_quiet tail fun op hop => hq op (by rw [hsplit]; exact List.mem_append_right _ hop)
          replace hmono2 := hmono2 hW
          have hy : (run P s (firstOps s)).rcv.pq =
              (Receiver.handleData (Receiver.chunksStart { s.rcv with acceptQ := [] }) (toWire P e) false).pq := by
            rw [hfd, Receiver.chunksEnd_pq]
          rw [← NetSys.run_append, ← hsplit, hy] at hmono2
          unfold idx at h' hmono2
          have h'' : (s.rcv.pq.cum - (P.tsn - 1)).toNat + 1 ≤
              ((Receiver.handleData (Receiver.chunksStart { s.rcv with acceptQ := [] }) (toWire P e) false).pq.cum - (P.tsn - 1)).toNat := h'
          exact (Sna.lt32_iff_off (P.tsn - 1) _ _ (by omega) (by omega)).mpr (by omega)

theorem taken_of_roundOk (P : Params) (ops : List Op) (hc : SenderProofs.CfgOk P.cfg)
    (hN : chunksWritten P ops < 2^31) (hl : SenderProofs.Live (run P (init P) ops).snd)
    (hfit : SenderProofs.InfFit (run P (init P) ops).snd)
    (hnab : ∀ c ∈ (sndT3 (run P (init P) ops).snd).inflight, (sndT3 (run P (init P) ops).snd).abandoned c = false)
    (hok : RoundOk P (run P (init P) ops) = true) (hpos : 0 < outstanding (run P (init P) ops)) :
    Taken P (run P (init P) ops) = true :=
  (round_reach P ops hN hl).taken hfit hnab hok hpos

end NetSysLive
