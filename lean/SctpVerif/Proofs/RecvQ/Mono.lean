import SctpVerif.Proofs.RecvQ.Gaps
/-!
Movement of the cumulative point along a run: `Fwd s s' b` (origin kept, `A` does not decrease and grows by at
most `b`) for one step (`step_fwd`); the pop loop runs to completion (`popAllS_done`), so runs of `init` / `data` /
`fwd` / `sack` stay pop-normalised (`Normalised`, `run_normalised`), and in a pop-normalised queue every gap block
starts at offset 2 or later (`gapsNat_start`); along a run `maxOff` is constant and the ghost sets grow
until the next `init`; `AcceptedTSN` / `SkippedTSN` read the ghost sets as TSNs.
-/
namespace RecvQ
open Gen Sna

/-! ## movement of the cumulative point (S3) and the pop loop -/

/-- what one step does to the ghost clock: the origin stays, the clock never runs backwards -/
structure Fwd (s s' : St) (bound : Nat) : Prop where
  c0   : s'.h.c0 = s.h.c0
  mono : s.h.A ≤ s'.h.A
  bnd  : s'.h.A - s.h.A ≤ bound

theorem Fwd.refl (s : St) : Fwd s s 0 := ⟨rfl, Nat.le_refl _, by omega⟩

theorem Fwd.trans {s s' s'' : St} {b b' : Nat} (h : Fwd s s' b) (h' : Fwd s' s'' b') : Fwd s s'' (b + b') :=
  ⟨h'.c0.trans h.c0, Nat.le_trans h.mono h'.mono,
   by have := h.bnd; have := h'.bnd; have := h.mono; have := h'.mono; omega⟩

theorem Fwd.weaken {s s' : St} {b b' : Nat} (h : Fwd s s' b) (hb : b ≤ b') : Fwd s s' b' :=
  ⟨h.c0, h.mono, Nat.le_trans h.bnd hb⟩

theorem sPush_fwd (s : St) (t : TSN) : Fwd s (sPush s t) 0 := ⟨rfl, Nat.le_refl _, by simp [sPush]⟩

theorem pop_delta (q : Q) (f : Bool) : ((pop q f).1.cum - q.cum).toNat ≤ 1 := by
  rw [pop_state]; split
  · rw [popped_cum, off_one]; omega
  · split
    · rw [forced_cum, off_one]; omega
    · rw [off_self]; omega

theorem sPop_fwd (s : St) (f : Bool) : Fwd s (sPop s f) 1 :=
  ⟨rfl, by simp [sPop], by have := pop_delta s.q f; simp only [sPop]; omega⟩

theorem advance_delta (q : Q) (c : TSN) : ((advance q c).cum - q.cum).toNat < 2^31 := by
  rw [advance_cum]
  cases hl : sna32LT q.cum c
  · rw [if_neg Bool.false_ne_true, off_self]; omega
  · exact ((lt32_iff _ _).mp hl).2

/-- a point less than 2^31 ahead is later in serial-number order, and not earlier -/
theorem fwd_order {a b : TSN} (h : (b - a).toNat < 2^31) : sna32LTE a b = true ∧ sna32LT b a = false := by
  refine ⟨(lte32_iff a b).mpr h, ?_⟩
  rw [← Bool.not_eq_true, lt32_iff]; bv_omega

theorem sAdv_exact (s : St) (c : TSN) : Fwd s (sAdv s c) ((advance s.q c).cum - s.q.cum).toNat :=
  ⟨rfl, by simp [sAdv], by simp [sAdv]⟩

/-- each successful pop moves the clock by one and the tail distance by minus one, so the loop
moves the clock by at most the tail distance -/
theorem popAllS_fwd {s : St} (I : Inv s.q) : Fwd s (popAllS s) (dtail s.q) := by
  unfold popAllS
  obtain ⟨_, hc, hm, he⟩ := popLoopS_inv
    (P := fun s' => Inv s'.q ∧ s'.h.c0 = s.h.c0 ∧ s.h.A ≤ s'.h.A ∧ s'.h.A + dtail s'.q = s.h.A + dtail s.q)
    (fun s' ⟨I', hc, hm, he⟩ hok => by
      have R := pop_rebase I' false (Or.inl hok)
      have hd1 : 1 ≤ dtail s'.q := ((pop_ok_iff I' false).mp hok).2.1
      have hA : (sPop s' false).h.A = s'.h.A + 1 := by simp only [sPop, R.off_cum]
      have hd : dtail (sPop s' false).q = dtail s'.q - 1 := R.dt
      exact ⟨R.inv I', hc, by omega, by omega⟩) s.q.size.toNat ⟨I, rfl, Nat.le_refl _, rfl⟩
  exact ⟨hc, hm, by omega⟩

theorem advance_dtail {q : Q} (I : Inv q) (c : TSN) :
    dtail (advance q c) + ((advance q c).cum - q.cum).toNat ≤ max (2^31 - 1) (dtail q) := by
  cases hl : sna32LT q.cum c
  · rw [advance_noop hl, off_self]; omega
  · have R := advance_rebase I c hl
    rw [R.dt, R.off_cum]; have := R.lt; omega

/-- S3 for one step: any op other than `init` keeps the origin and moves the clock forward by at
most `max (2^31-1) maxOff`. (The bounds for the bare operations alone are `pop_delta`: at most 1, and
`advance_delta`: less than 2^31.) -/
theorem step_fwd {s : St} (g : GInv s) (op : Op) (hop : ∀ c, op ≠ .init c) :
    Fwd s (step s op) (max (2^31 - 1) s.q.maxOff.toNat) := by
  have hb := g.inv.hb.1
  cases op with
  | init c => exact absurd rfl (hop c)
  | push t => exact (sPush_fwd s t).weaken (by omega)
  | pop f => exact (sPop_fwd s f).weaken (by omega)
  | adv c => exact (sAdv_exact s c).weaken (by have := advance_delta s.q c; omega)
  | data t st =>
    simp only [step, sData]
    split
    · have I1 : Inv (push s.q t).1 := push_inv g.inv t
      have f2 : Fwd _ _ (dtail (push s.q t).1) := popAllS_fwd (s := sPush s t) I1
      have := I1.hb.1
      rw [push_maxOff] at this
      exact ((sPush_fwd s t).trans f2).weaken (by omega)
    · exact (popAllS_fwd g.inv).weaken (by omega)
  | fwd c =>
    simp only [step, sFwd]
    split
    · exact (Fwd.refl s).weaken (by omega)
    · -- the clock moves by the advance and then by at most what is left of the window
      have f2 : Fwd _ _ (dtail (advance s.q c)) := popAllS_fwd (s := sAdv s c) (advance_inv g.inv c)
      have := advance_dtail g.inv c
      exact ((sAdv_exact s c).trans f2).weaken (by omega)
  | sack => exact ⟨rfl, Nat.le_refl _, by simp [step]⟩

/-- the pop loop really runs to completion: afterwards `pop(false)` fails, i.e. the state is
"pop-normalised" — the TSN right after the cumulative point is not held. -/
theorem popLoopS_done (n : Nat) : ∀ {s : St}, Inv s.q → s.q.size ≤ n →
    hasChunk (popLoopS n s).q ((popLoopS n s).q.cum + 1) = false := by
  induction n with
  | zero =>
    intro s I hn
    have h0 : s.q.size = 0 := by have := I.size_nonneg; omega
    simp [popLoopS, hasChunk, h0]
  | succ n ih =>
    intro s I hn
    simp only [popLoopS]
    split
    · rename_i hok
      rw [pop_ok] at hok
      have hh := (hasChunk_iff I _).mp hok
      have hst : (sPop s false).q = popped s.q := by
        show (pop s.q false).1 = _; rw [pop_state, hok]; rfl
      apply ih (by rw [hst]; exact popped_inv I hh)
      rw [hst, popped_size]; omega
    · rename_i hok
      rw [pop_ok] at hok
      exact Bool.eq_false_iff.mpr hok

theorem popAllS_done {s : St} (I : Inv s.q) :
    hasChunk (popAllS s).q ((popAllS s).q.cum + 1) = false :=
  popLoopS_done _ I (by have := I.size_nonneg; omega)

/-- pop-normalised states: offset 1 is not held … -/
theorem normalised_iff {q : Q} (I : Inv q) : hasChunk q (q.cum + 1) = false ↔ ¬ heldAt q 1 := by
  rw [← Bool.not_eq_true, hasChunk_iff I, held_iff_heldAt, off_one]

/-- … and then every gap block starts at offset 2 or later -/
theorem gapsNat_start {q : Q} (I : Inv q) (hn : ¬ heldAt q 1) : ∀ p ∈ gapsNat q, 2 ≤ p.1 := by
  intro p hp
  obtain ⟨h1, h2, _, h4⟩ := (gapsNat_spec I).1 p hp
  have hh := h4 p.1 (Nat.le_refl _) h2
  apply Classical.byContradiction; intro hlt
  have : p.1 = 1 := by omega
  rw [this] at hh; exact hn hh

/-! ## along a run: `maxOff` is constant, the ghost sets grow, association-level runs stay pop-normalised -/

theorem run_append (s : St) (ops ops' : List Op) : run s (ops ++ ops') = run (run s ops) ops' := by
  simp [run, List.foldl_append]

theorem popLoopS_maxOff (n : Nat) (s : St) : (popLoopS n s).q.maxOff = s.q.maxOff :=
  popLoopS_inv (P := fun s' => s'.q.maxOff = s.q.maxOff) (fun _ h _ => (pop_maxOff _ _).trans h) n rfl

theorem step_maxOff (s : St) (op : Op) : (step s op).q.maxOff = s.q.maxOff :=
  step_inv (P := fun s' => s'.q.maxOff = s.q.maxOff) (fun _ _ h => (push_maxOff _ _).trans h)
    (fun _ _ h => (pop_maxOff _ _).trans h) (fun _ _ h => (advance_maxOff _ _).trans h) (fun _ h => h)
    rfl op (fun _ _ => rfl)

theorem run_maxOff (s : St) (ops : List Op) : (run s ops).q.maxOff = s.q.maxOff :=
  ListAux.foldl_view (v := fun s => s.q.maxOff) step_maxOff ops s

theorem start_maxOff (m c : TSN) : (start m c).q.maxOff = (new m).maxOff := rfl

theorem run_start_maxOff (m c : TSN) (ops : List Op) : (run (start m c) ops).q.maxOff = (new m).maxOff :=
  run_maxOff _ ops

theorem popLoopS_sets (n : Nat) (s : St) : (popLoopS n s).h.acc = s.h.acc ∧
    ∀ k, s.h.skp k → (popLoopS n s).h.skp k :=
  popLoopS_inv (P := fun s' => s'.h.acc = s.h.acc ∧ ∀ k, s.h.skp k → s'.h.skp k)
    (fun _ h _ => ⟨h.1, fun k a => Or.inl (h.2 k a)⟩) n ⟨rfl, fun _ a => a⟩

/-- the ghost sets only grow (until the next `init`) -/
theorem step_sets_mono (s : St) (op : Op) (hop : ∀ c, op ≠ .init c) :
    (∀ k, s.h.acc k → (step s op).h.acc k) ∧ (∀ k, s.h.skp k → (step s op).h.skp k) :=
  step_inv (P := fun s' => (∀ k, s.h.acc k → s'.h.acc k) ∧ (∀ k, s.h.skp k → s'.h.skp k))
    (fun _ _ h => ⟨fun k a => Or.inl (h.1 k a), h.2⟩) (fun _ _ h => ⟨h.1, fun k a => Or.inl (h.2 k a)⟩)
    (fun _ _ h => ⟨h.1, fun k a => Or.inl (h.2 k a)⟩) (fun _ h => h)
    ⟨fun _ a => a, fun _ a => a⟩ op (fun c hc => absurd hc (hop c))

/-- TSN-level reading of the ghost sets (coarser than the index-level one once the 32-bit
space has wrapped completely) -/
def AcceptedTSN (s : St) (t : TSN) : Prop := ∃ k, s.h.acc k ∧ t = s.h.c0 + BitVec.ofNat 32 k
def SkippedTSN (s : St) (t : TSN) : Prop := ∃ k, s.h.skp k ∧ t = s.h.c0 + BitVec.ofNat 32 k

/-- the association-level ops `init`, `data`, `fwd`, `sack`: each keeps the queue pop-normalised
(`step_normalised`), `data` and `fwd` by running the pop loop. `Proofs/Receiver/Sack.lean` traces every
association step to a list of these, plus a bare `push` on the path that ends in an ABORT for an exceeded
reassembly limit; that `push` is NOT an `assocOp`. -/
def assocOp : Op → Prop
  | .init _ | .data _ _ | .fwd _ | .sack => True
  | _ => False

/-- pop-normalised: `pop(false)` would fail -/
def Normalised (q : Q) : Prop := hasChunk q (q.cum + 1) = false

theorem step_normalised {s : St} (g : GInv s) (hn : Normalised s.q) (op : Op) (ha : assocOp op) :
    Normalised (step s op).q := by
  cases op with
  | init c => simp [Normalised, step, sInit, init, hasChunk]
  | push t => exact absurd ha (by simp [assocOp])
  | pop f => exact absurd ha (by simp [assocOp])
  | adv c => exact absurd ha (by simp [assocOp])
  | data t st =>
    simp only [step, sData]
    split
    · exact popAllS_done (sPush_ginv g t).inv
    · exact popAllS_done g.inv
  | fwd c =>
    simp only [step, sFwd]
    split
    · exact hn
    · exact popAllS_done (sAdv_ginv g c).inv
  | sack => exact hn

theorem run_normalised {s : St} (g : GInv s) (hn : Normalised s.q) (ops : List Op)
    (ha : ∀ op ∈ ops, assocOp op) : Normalised (run s ops).q :=
  (ListAux.foldl_inv (P := fun s => GInv s ∧ Normalised s.q) ops ⟨g, hn⟩
    fun _ op ho h => ⟨step_ginv h.1 op, step_normalised h.1 h.2 op (ha op ho)⟩).2

theorem start_normalised (m c : TSN) : Normalised (start m c).q := by
  simp [Normalised, start, sInit, init, hasChunk]

end RecvQ
