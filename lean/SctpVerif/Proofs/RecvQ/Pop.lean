import SctpVerif.Proofs.RecvQ.Basic
/-!
`pop`, the forced `pop` and `advance` of the L0 receive queue. Their post-states (`popped`, `forced`,
`advancedT`, `advancedP`) are each shown to be a `Rebase` of the state before; the invariant (`Rebase.inv`) and
the new held set (`Rebase.heldAt`, in `History.lean`) are proved once for `Rebase`. Also here: the bit-level lemmas on
`clearRange`.
-/
namespace RecvQ
open Gen Sna

/-! ## moving the cumulative point

`pop`, the forced `pop` and `advanceCumulativeTSN` all do the same thing to the abstract state: the
cumulative point moves forward by some `e ≥ 1`, the TSNs at offsets `1 … e` leave the bitmap and
every other held TSN keeps its bit. `Rebase q q' e` says exactly that; the invariant and the new
held set are derived from it once. -/

theorem getBit_clear (b : Array Bool) (p j : Nat) :
    getBit (setBit b p false) j = true ↔ (getBit b j = true ∧ p ≠ j) := by
  rw [getBit_setBit]
  constructor
  · intro h
    split at h
    · exact Bool.noConfusion h
    · rename_i hn
      refine ⟨h, fun hp => hn ⟨hp, ?_⟩⟩
      rw [hp]; exact getBit_lt h
  · intro ⟨h, hp⟩
    simp [hp, h]

structure Rebase (q q' : Q) (e : Nat) : Prop where
  bsz  : q'.bits.size = q.bits.size
  mo   : q'.maxOff = q.maxOff
  ge1  : 1 ≤ e
  lt   : e < 2^31
  cum  : q'.cum = q.cum + BitVec.ofNat 32 e
  dt   : dtail q' = dtail q - e
  size : q'.size = (cnt q'.bits : Int)
  bits : ∀ j, getBit q'.bits j = true ↔
           (getBit q.bits j = true ∧ ∀ t : TSN, 1 ≤ (t - q.cum).toNat → (t - q.cum).toNat ≤ e → pos q.W t ≠ j)

namespace Rebase
variable {q q' : Q} {e : Nat}

theorem W (R : Rebase q q' e) : q'.W = q.W := by simp [Q.W, R.bsz]

theorem off_cum (R : Rebase q q' e) : (q'.cum - q.cum).toNat = e :=
  off_of_eq (by have := R.lt; omega) R.cum

theorem off (R : Rebase q q' e) {t : TSN} (h : e ≤ (t - q.cum).toNat) :
    (t - q'.cum).toNat = (t - q.cum).toNat - e := by
  rw [off_rebase t q.cum q'.cum (by rw [R.off_cum]; exact h), R.off_cum]

theorem keeps (R : Rebase q q' e) (I : Inv q) {t : TSN} (ht : held q t) (he : e < (t - q.cum).toNat) :
    getBit q'.bits (pos q.W t) = true := by
  have := I.dtail_le
  have := ht.2.1
  refine (R.bits _).mpr ⟨ht.2.2, fun u h1 h2 => ?_⟩
  exact I.toRing.pos_sep h1 ht.1 (by omega) (by omega) (by omega)

theorem tail (R : Rebase q q' e) (he : e ≤ dtail q) : q'.tail = q.tail :=
  off_eq q'.cum (by rw [R.off he]; exact R.dt)

theorem inv (R : Rebase q q' e) (I : Inv q) : Inv q' := by
  have hW := R.W
  -- what is left in the bitmap lies beyond `e`
  have hleft : ∀ j, getBit q'.bits j = true →
      ∃ t, e < (t - q.cum).toNat ∧ (t - q.cum).toNat ≤ dtail q ∧ pos q.W t = j := by
    intro j hj
    obtain ⟨ho, hall⟩ := (R.bits j).mp hj
    obtain ⟨t, h1, h2, h3⟩ := I.hwin j ho
    exact ⟨t, Nat.lt_of_not_le (fun hle => hall t h1 hle h3), h2, h3⟩
  -- and if the old tail lies beyond `e`, it is still there
  have htail : e < dtail q → getBit q'.bits (pos q.W q'.tail) = true := by
    intro he
    rw [R.tail (Nat.le_of_lt he)]
    exact R.keeps I ⟨by simp only [dtail] at he; omega, Nat.le_refl _,
      I.ht1 (I.size_ne_zero (by omega))⟩ he
  refine { toRing := I.toRing.of_eq R.bsz R.mo, hcnt := R.size, hwin := ?_, ht0 := ?_, ht1 := ?_, hb := ?_ }
  · intro j hj
    obtain ⟨t, h1, h2, h3⟩ := hleft j hj
    exact ⟨t, by rw [R.off (Nat.le_of_lt h1)]; omega, by rw [R.off (Nat.le_of_lt h1), R.dt]; omega, hW ▸ h3⟩
  · intro hs
    rcases Nat.lt_or_ge e (dtail q) with he | he
    · have := cnt_pos_of_getBit (htail he); have := R.size; omega
    · exact off_eq q'.cum (by rw [off_self]; have := R.dt; simp only [dtail] at *; omega)
  · intro hs
    have hc : cnt q'.bits ≠ 0 := by have := R.size; omega
    rw [Ne, cnt_eq_zero_iff, Classical.not_forall] at hc
    obtain ⟨j, hj⟩ := hc
    obtain ⟨t, h1, h2, _⟩ := hleft j (by simpa using hj)
    rw [hW]; exact htail (by omega)
  · have := I.hb; rw [R.dt, R.mo]; omega

end Rebase

/-! ### pop -/

/-- state after a successful pop -/
def popped (q : Q) : Q :=
  { q with bits := setBit q.bits (pos q.W (q.cum + 1)) false, size := q.size - 1, cum := q.cum + 1 }

/-- state after a forced pop that found nothing -/
def forced (q : Q) : Q :=
  { q with cum := q.cum + 1, tail := if q.size == 0 then q.cum + 1 else q.tail }

@[simp] theorem popped_W (q : Q) : (popped q).W = q.W := by simp [popped, Q.W]
@[simp] theorem popped_cum (q : Q) : (popped q).cum = q.cum + 1 := rfl
@[simp] theorem popped_bits (q : Q) : (popped q).bits = setBit q.bits (pos q.W (q.cum + 1)) false := rfl
@[simp] theorem popped_size (q : Q) : (popped q).size = q.size - 1 := rfl
@[simp] theorem popped_tail (q : Q) : (popped q).tail = q.tail := rfl

@[simp] theorem forced_W (q : Q) : (forced q).W = q.W := rfl
@[simp] theorem forced_cum (q : Q) : (forced q).cum = q.cum + 1 := rfl
@[simp] theorem forced_maxOff (q : Q) : (forced q).maxOff = q.maxOff := rfl
@[simp] theorem forced_bits (q : Q) : (forced q).bits = q.bits := rfl
@[simp] theorem forced_size (q : Q) : (forced q).size = q.size := rfl
@[simp] theorem forced_tail (q : Q) :
    (forced q).tail = if q.size == 0 then q.cum + 1 else q.tail := rfl

theorem pop_ok (q : Q) (f : Bool) : (pop q f).2 = hasChunk q (q.cum + 1) := by
  simp only [pop]
  cases hasChunk q (q.cum + 1) <;> cases f <;> simp

theorem pop_state (q : Q) (f : Bool) :
    (pop q f).1 = if hasChunk q (q.cum + 1) then popped q else if f then forced q else q := by
  simp only [pop, popped, forced]
  cases hasChunk q (q.cum + 1) <;> cases f <;> simp

theorem pop_maxOff (q : Q) (f : Bool) : (pop q f).1.maxOff = q.maxOff := by
  rw [pop_state]; split
  · rfl
  · split <;> rfl

theorem dtail_popped {q : Q} (h : 1 ≤ dtail q) : dtail (popped q) = dtail q - 1 := by
  simp only [dtail, popped_tail, popped_cum] at *; exact off_succ_base _ _ h

theorem off_le_one {t c : TSN} (h1 : 1 ≤ (t - c).toNat) (h2 : (t - c).toNat ≤ 1) : t = c + 1 :=
  off_eq c (by rw [off_one]; omega)

theorem popped_rebase {q : Q} (I : Inv q) (h : held q (q.cum + 1)) : Rebase q (popped q) 1 where
  bsz := by simp
  mo := rfl
  ge1 := Nat.le_refl _
  lt := by omega
  cum := rfl
  dt := dtail_popped (by have := h.2.1; rwa [off_one] at this)
  size := by
    have := cnt_clear q.bits (pos q.W (q.cum + 1))
    rw [h.2.2] at this
    rw [popped_size, popped_bits, I.hcnt]; simp only [ite_true] at this; omega
  bits := by
    intro j
    rw [popped_bits, getBit_clear]
    refine and_congr_right fun _ => ⟨fun hp t h1 h2 => off_le_one h1 h2 ▸ hp, fun hall => hall _ ?_ ?_⟩ <;>
      rw [off_one] <;> omega

theorem forced_rebase {q : Q} (I : Inv q) (h : ¬ held q (q.cum + 1)) : Rebase q (forced q) 1 where
  bsz := rfl
  mo := rfl
  ge1 := Nat.le_refl _
  lt := by omega
  cum := rfl
  dt := by
    by_cases hs : q.size = 0
    · simp [dtail, hs, I.ht0 hs]
    · have htl : (forced q).tail = q.tail := by simp [hs]
      simp only [dtail, htl, forced_cum]; exact off_succ_base _ _ (I.dtail_pos hs)
  size := I.hcnt
  bits := by
    intro j
    refine ⟨fun hj => ⟨hj, fun t h1 h2 hp => h ?_⟩, fun hj => hj.1⟩
    -- a set bit at offset 1 would make `cum + 1` held
    obtain ⟨t', h1', h2', h3'⟩ := I.hwin j hj
    rw [← off_le_one h1 h2]
    exact ⟨h1, by omega, by rw [forced_bits] at hj; rw [hp]; exact hj⟩

theorem popped_inv {q : Q} (I : Inv q) (h : held q (q.cum + 1)) : Inv (popped q) :=
  (popped_rebase I h).inv I

theorem forced_inv {q : Q} (I : Inv q) (h : ¬ held q (q.cum + 1)) : Inv (forced q) :=
  (forced_rebase I h).inv I

theorem pop_inv {q : Q} (I : Inv q) (f : Bool) : Inv (pop q f).1 := by
  rw [pop_state]
  by_cases hc : hasChunk q (q.cum + 1) = true
  · simp only [hc, ite_true]; exact popped_inv I ((hasChunk_iff I _).mp hc)
  · have hnh := mt (hasChunk_iff I _).mpr hc
    simp only [hc, Bool.false_eq_true, ite_false]
    cases f
    · exact I
    · exact forced_inv I hnh

/-! ### clearTSNRange / advanceCumulativeTSN -/

theorem clearRange_size (W : Nat) (n : Nat) : ∀ (b : Array Bool) (s : Int) (st : TSN),
    (clearRange W b s st n).1.size = b.size := by
  induction n with
  | zero => intro b s st; rfl
  | succ n ih => intro b s st; simp only [clearRange]; rw [ih]; simp

/-- the offsets `1 … n+1` from `c` are offset 1 and the offsets `1 … n` from `c + 1` -/
theorem off_range_succ (t c : TSN) (n : Nat) (hn : n + 1 < 2^32) :
    (1 ≤ (t - c).toNat ∧ (t - c).toNat ≤ n + 1) ↔
      (t = c + 1 ∨ (1 ≤ (t - (c + 1)).toNat ∧ (t - (c + 1)).toNat ≤ n)) := by
  constructor
  · intro ⟨h1, h2⟩
    by_cases h : (t - c).toNat = 1
    · exact Or.inl (off_le_one h1 (by omega))
    · right; rw [off_succ_base _ _ h1]; omega
  · rintro (rfl | ⟨h1, h2⟩)
    · rw [off_one]; omega
    · bv_omega

/-- the bits that survive `clearRange` from `c + 1` on are those of TSNs outside offsets `1 … n` -/
theorem clearRange_bits (W : Nat) (n : Nat) (hn : n < 2^32) : ∀ (b : Array Bool) (s : Int) (c : TSN) (j : Nat),
    getBit (clearRange W b s (c + 1) n).1 j = true ↔
      (getBit b j = true ∧ ∀ t : TSN, 1 ≤ (t - c).toNat → (t - c).toNat ≤ n → pos W t ≠ j) := by
  induction n with
  | zero =>
    intro b s c j
    exact ⟨fun h => ⟨h, fun t h1 h2 => absurd h1 (by omega)⟩, fun h => h.1⟩
  | succ n ih =>
    intro b s c j
    simp only [clearRange]
    rw [ih (by omega), getBit_clear, and_assoc]
    refine and_congr_right fun _ => ⟨fun ⟨hp, hall⟩ t h1 h2 => ?_, fun hall => ⟨?_, fun t h1 h2 => ?_⟩⟩
    · rcases (off_range_succ t c n hn).mp ⟨h1, h2⟩ with rfl | ⟨g1, g2⟩
      · exact hp
      · exact hall t g1 g2
    · have := (off_range_succ (c + 1) c n hn).mpr (Or.inl rfl); exact hall _ this.1 this.2
    · have := (off_range_succ t c n hn).mpr (Or.inr ⟨h1, h2⟩); exact hall _ this.1 this.2

/-- `clearRange` keeps `size - (number of set bits)` unchanged -/
theorem clearRange_cnt (W : Nat) (n : Nat) : ∀ (b : Array Bool) (s : Int) (st : TSN),
    (clearRange W b s st n).2 - (cnt (clearRange W b s st n).1 : Int) = s - (cnt b : Int) := by
  induction n with
  | zero => intro b s st; rfl
  | succ n ih =>
    intro b s st
    simp only [clearRange]
    rw [ih]
    have := cnt_clear b (pos W st)
    cases hb : getBit b (pos W st) <;> rw [hb] at this
    · simp only [Bool.false_eq_true, ite_false] at this ⊢; omega
    · simp only [ite_true] at this ⊢; omega

/-- state after a partial advance -/
def advancedP (q : Q) (c : TSN) : Q :=
  let r := clearRange q.W q.bits q.size (q.cum + 1) (c - (q.cum + 1) + 1).toNat
  { q with bits := r.1, size := r.2, cum := c, tail := if r.2 == 0 then c else q.tail }

/-- state after a total advance (everything dropped) -/
def advancedT (q : Q) (c : TSN) : Q :=
  { q with bits := Array.replicate q.bits.size false, size := 0, cum := c, tail := c }

theorem advance_state (q : Q) (c : TSN) :
    advance q c = if sna32LT q.cum c then
                    (if q.size == 0 || sna32LTE q.tail c then advancedT q c else advancedP q c)
                  else q := by
  simp only [advance, advancedP, advancedT]
  cases sna32LT q.cum c <;> simp

theorem advance_maxOff (q : Q) (c : TSN) : (advance q c).maxOff = q.maxOff := by
  rw [advance_state]; split
  · split <;> rfl
  · rfl

theorem advance_cum (q : Q) (c : TSN) :
    (advance q c).cum = if sna32LT q.cum c then c else q.cum := by
  rw [advance_state]
  cases sna32LT q.cum c
  · rfl
  · simp only [ite_true]; split <;> rfl

theorem advance_noop {q : Q} {c : TSN} (hl : sna32LT q.cum c = false) : advance q c = q := by
  rw [advance_state, hl]; rfl

theorem clear_len (c cum : TSN) : (c - (cum + 1) + 1).toNat = (c - cum).toNat := by bv_omega

@[simp] theorem advancedP_cum (q : Q) (c : TSN) : (advancedP q c).cum = c := rfl
@[simp] theorem advancedP_W (q : Q) (c : TSN) : (advancedP q c).W = q.W := by
  simp [advancedP, Q.W, clearRange_size]

/-- everything is dropped when the queue is empty or the new point is at or beyond the tail -/
theorem advancedT_rebase {q : Q} (I : Inv q) (c : TSN) (h1 : 1 ≤ (c - q.cum).toNat)
    (h2 : (c - q.cum).toNat < 2^31) (hd : dtail q ≤ (c - q.cum).toNat) :
    Rebase q (advancedT q c) (c - q.cum).toNat where
  bsz := by simp [advancedT]
  mo := rfl
  ge1 := h1
  lt := h2
  cum := (add_off c q.cum).symm
  dt := by simp only [dtail, advancedT, off_self]; simp only [dtail] at hd; omega
  size := by simp [advancedT]
  bits := by
    intro j
    simp only [advancedT, getBit_replicate, Bool.false_eq_true, false_iff, not_and]
    intro hj hall
    obtain ⟨t, t1, t2, t3⟩ := I.hwin j hj
    exact hall t t1 (by omega) t3

theorem advancedP_rebase {q : Q} (I : Inv q) (c : TSN) (h1 : 1 ≤ (c - q.cum).toNat)
    (h2 : (c - q.cum).toNat < 2^31) (hd : (c - q.cum).toNat < dtail q) :
    Rebase q (advancedP q c) (c - q.cum).toNat := by
  have hbits : ∀ j, getBit (advancedP q c).bits j = true ↔ (getBit q.bits j = true ∧
      ∀ t : TSN, 1 ≤ (t - q.cum).toNat → (t - q.cum).toNat ≤ (c - q.cum).toNat → pos q.W t ≠ j) := by
    intro j; simp only [advancedP, clear_len]; exact clearRange_bits _ _ (by omega) _ _ _ _
  have hcnt : (advancedP q c).size = (cnt (advancedP q c).bits : Int) := by
    have := clearRange_cnt q.W (c - (q.cum + 1) + 1).toNat q.bits q.size (q.cum + 1)
    have := I.hcnt
    simp only [advancedP]; omega
  -- the old tail lies beyond `c`, keeps its bit, so the queue does not become empty
  have hsn : ((advancedP q c).size == 0) = false := by
    have hs := I.size_ne_zero (by omega)
    have := I.dtail_le
    have : getBit (advancedP q c).bits (pos q.W q.tail) = true :=
      (hbits _).mpr ⟨I.ht1 hs, fun t t1 t2 => I.toRing.pos_sep t1 (I.dtail_pos hs)
        (by omega) this (by simp only [dtail] at hd; omega)⟩
    have := cnt_pos_of_getBit this
    rw [beq_eq_false_iff_ne, hcnt]; omega
  have htl : (advancedP q c).tail = q.tail := by
    simp only [advancedP] at hsn ⊢; rw [hsn]; rfl
  exact { bsz := by simp [advancedP, clearRange_size], mo := rfl, ge1 := h1, lt := h2,
          cum := (add_off c q.cum).symm,
          dt := by
            simp only [dtail, htl, advancedP_cum] at hd ⊢
            exact off_rebase _ _ _ (Nat.le_of_lt hd),
          size := hcnt, bits := hbits }

/-- `advance` to a point ahead of the cumulative point re-bases the queue by the distance -/
theorem advance_rebase {q : Q} (I : Inv q) (c : TSN) (hl : sna32LT q.cum c = true) :
    Rebase q (advance q c) (c - q.cum).toNat := by
  obtain ⟨hp, hlt⟩ := (lt32_iff _ _).mp hl
  have htl := (window32 q.cum q.tail c I.hb.2 hlt).2
  rw [advance_state, hl, if_pos rfl]
  split
  · rename_i hcond
    refine advancedT_rebase I c hp hlt ?_
    rcases Bool.or_eq_true_iff.mp hcond with hs | hle
    · rw [dtail, I.ht0 (by simpa using hs), off_self]; omega
    · exact htl.mp hle
  · rename_i hcond
    rw [Bool.or_eq_true_iff, not_or] at hcond
    exact advancedP_rebase I c hp hlt (Nat.lt_of_not_le (mt htl.mpr hcond.2))

theorem advance_inv {q : Q} (I : Inv q) (c : TSN) : Inv (advance q c) := by
  cases hl : sna32LT q.cum c
  · rw [advance_noop hl]; exact I
  · exact (advance_rebase I c hl).inv I

end RecvQ
