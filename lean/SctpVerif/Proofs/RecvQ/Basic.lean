import SctpVerif.Model.RecvQ
import SctpVerif.Proofs.Sna
/-!
Lemmas about the L0 model of `receivePayloadQueue` (Model/RecvQ.lean): bit-array algebra,
the ring index `pos`, offsets from the cumulative point, the sizing function `Gen.tsnBitmaskWords`,
the representation invariant `Inv`, and `hasChunk` / `canPush` / `push` in terms of the set of held
offsets. `pop` and `advance` follow in `Pop`.
-/
namespace RecvQ
open Gen Sna

/-! ## bit arrays -/

/-- number of set bits -/
def cnt (b : Array Bool) : Nat := b.count true

theorem getBit_setBit (b : Array Bool) (i j : Nat) (v : Bool) :
    getBit (setBit b i v) j = if i = j ∧ i < b.size then v else getBit b j := by
  simp only [getBit, setBit, Array.getD_eq_getD_getElem?, Array.getElem?_setIfInBounds]
  by_cases hij : i = j
  · subst hij
    by_cases hi : i < b.size
    · simp [hi]
    · simp [hi]
  · simp [hij]

@[simp] theorem size_setBit (b : Array Bool) (i : Nat) (v : Bool) : (setBit b i v).size = b.size := by
  simp [setBit]

@[simp] theorem getBit_replicate (n j : Nat) : getBit (Array.replicate n false) j = false := by
  simp only [getBit, Array.getD_eq_getD_getElem?, Array.getElem?_replicate]
  split <;> rfl

theorem getBit_lt {b : Array Bool} {i : Nat} (h : getBit b i = true) : i < b.size := by
  apply Classical.byContradiction; intro hn
  simp [getBit, Array.getD_eq_getD_getElem?, Array.getElem?_eq_none (Nat.le_of_not_lt hn)] at h

theorem getBit_eq_getElem {b : Array Bool} {i : Nat} (h : i < b.size) : getBit b i = b[i] := by
  simp [getBit, h]

@[simp] theorem cnt_replicate (n : Nat) : cnt (Array.replicate n false) = 0 := by
  simp [cnt, Array.count_replicate]

/-- clearing a bit lowers the count by one exactly when the bit was set (also out of bounds,
where both sides do nothing) -/
theorem cnt_clear (b : Array Bool) (i : Nat) :
    cnt (setBit b i false) + (if getBit b i then 1 else 0) = cnt b := by
  by_cases hi : i < b.size
  · have hle := Array.boole_getElem_le_count (xs := b) (a := true) hi
    simp only [cnt, setBit, Array.setIfInBounds_def, hi, dite_true, Array.count_set, getBit_eq_getElem hi]
    cases h : b[i]
    · simp
    · simp only [h, beq_self_eq_true, ite_true] at hle
      simp
      omega
  · have : getBit b i = false := by
      cases h : getBit b i
      · rfl
      · exact absurd (getBit_lt h) hi
    simp [setBit, Array.setIfInBounds_eq_of_size_le (Nat.le_of_not_lt hi), this]

theorem cnt_set {b : Array Bool} {i : Nat} (hi : i < b.size) (h : getBit b i = false) :
    cnt (setBit b i true) = cnt b + 1 := by
  rw [getBit_eq_getElem hi] at h
  simp [cnt, setBit, Array.setIfInBounds_def, hi, Array.count_set, h]

theorem cnt_eq_zero_iff (b : Array Bool) : cnt b = 0 ↔ ∀ i, getBit b i = false := by
  simp only [cnt, Array.count_eq_zero]
  constructor
  · intro h i
    cases hb : getBit b i
    · rfl
    · have hi := getBit_lt hb
      rw [getBit_eq_getElem hi] at hb
      exact absurd (hb ▸ Array.getElem_mem hi) h
  · intro h hm
    obtain ⟨i, hi, hb⟩ := Array.mem_iff_getElem.mp hm
    have := h i
    rw [getBit_eq_getElem hi, hb] at this
    exact Bool.noConfusion this

theorem cnt_pos_of_getBit {b : Array Bool} {i : Nat} (h : getBit b i = true) : 0 < cnt b := by
  apply Nat.pos_of_ne_zero; intro h0
  have := (cnt_eq_zero_iff b).mp h0 i
  rw [h] at this; exact Bool.noConfusion this

/-! ## the ring index -/

/-- Appendix C `ring_idx`: the Go index expression is `t mod 64·W`. -/
theorem pos_eq (W : Nat) (t : TSN) : pos W t = t.toNat % (64 * W) := by
  simp only [pos]
  rw [Nat.mod_mul, Nat.add_comm, Nat.mul_comm]

theorem pos_lt {W : Nat} (hW : 0 < W) (t : TSN) : pos W t < 64 * W := by
  rw [pos_eq]; exact Nat.mod_lt _ (by omega)

/-- window injectivity on naturals: `N` consecutive numbers have distinct residues mod `N` -/
theorem mod_window_inj {N c d1 d2 : Nat} (h1 : d1 < N) (h2 : d2 < N)
    (h : (c + d1) % N = (c + d2) % N) : d1 = d2 := by
  -- the larger minus the smaller is a multiple of `N` below `N`
  have key : ∀ {a b : Nat}, a ≤ b → b < N → (c + a) % N = (c + b) % N → a = b := by
    intro a b hab hb h
    have h0 : ((c + b) - (c + a)) % N = 0 := Nat.sub_mod_eq_zero_of_mod_eq h.symm
    rw [show (c + b) - (c + a) = b - a by omega] at h0
    have := Nat.eq_zero_of_dvd_of_lt (Nat.dvd_of_mod_eq_zero h0) (by omega : b - a < N)
    omega
  rcases Nat.le_total d1 d2 with hle | hle
  · exact key hle h2 h
  · exact (key hle h1 h.symm).symm

/-- when `64·W` divides `2^32`, `pos` of `c + d` is computed without the 2^32 wrap. -/
theorem pos_add {W : Nat} (hd : 64 * W ∣ 2^32) (c d : TSN) :
    pos W (c + d) = (c.toNat + d.toNat) % (64 * W) := by
  rw [pos_eq, BitVec.toNat_add, Nat.mod_mod_of_dvd _ hd]

/-- **ring injectivity** — any window of `64·W` consecutive TSNs (also one that straddles the
2^32 wrap) is mapped injectively into the bitmap when `64·W ∣ 2^32`. -/
theorem pos_inj_off {W : Nat} (hd : 64 * W ∣ 2^32) (c d1 d2 : TSN)
    (h1 : d1.toNat < 64 * W) (h2 : d2.toNat < 64 * W)
    (h : pos W (c + d1) = pos W (c + d2)) : d1 = d2 := by
  rw [pos_add hd, pos_add hd] at h
  exact BitVec.eq_of_toNat_eq (mod_window_inj h1 h2 h)

/-- the same, for two TSNs given by their distance from a common base `c`; the window may be
`[c, c+N)` or `(c, c+N]`. -/
theorem pos_inj {W : Nat} (hd : 64 * W ∣ 2^32) (c t1 t2 : TSN)
    (h1 : (t1 - c).toNat ≤ 64 * W) (h2 : (t2 - c).toNat ≤ 64 * W)
    (h1' : 1 ≤ (t1 - c).toNat) (h2' : 1 ≤ (t2 - c).toNat)
    (h : pos W t1 = pos W t2) : t1 = t2 := by
  have e : ∀ t : TSN, c + (t - c) = t := fun t => by bv_omega
  rw [← e t1, ← e t2, pos_add hd, pos_add hd] at h
  have := mod_window_inj (N := 64 * W) (c := c.toNat + 1) (d1 := (t1 - c).toNat - 1) (d2 := (t2 - c).toNat - 1)
    (by omega) (by omega) (by
      rw [show c.toNat + 1 + ((t1 - c).toNat - 1) = c.toNat + (t1 - c).toNat by omega,
        show c.toNat + 1 + ((t2 - c).toNat - 1) = c.toNat + (t2 - c).toNat by omega]
      exact h)
  rw [← e t1, ← e t2, BitVec.eq_of_toNat_eq (show (t1 - c).toNat = (t2 - c).toNat by omega)]

/-! ## offsets from a base (standalone BitVec facts, so that the big proofs stay in `Nat`) -/

theorem off_self (c : TSN) : (c - c).toNat = 0 := by bv_omega
theorem off_one (c : TSN) : ((c + 1) - c).toNat = 1 := by bv_omega
theorem off_rebase (t c c' : TSN) (h : (c' - c).toNat ≤ (t - c).toNat) :
    (t - c').toNat = (t - c).toNat - (c' - c).toNat := by bv_omega
theorem off_succ_base (t c : TSN) (h : 1 ≤ (t - c).toNat) : (t - (c + 1)).toNat = (t - c).toNat - 1 := by
  rw [off_rebase t c (c + 1) (by rw [off_one]; exact h), off_one]
theorem off_eq {t t' : TSN} (c : TSN) (h : (t - c).toNat = (t' - c).toNat) : t = t' :=
  (eq_of_off h).trans (eq_of_off rfl).symm
theorem add_off (t c : TSN) : c + BitVec.ofNat 32 (t - c).toNat = t := (eq_of_off rfl).symm

/-! ## the sizing function `Gen.tsnBitmaskWords` (translator-generated) -/

/-- `tsnBitmaskWords` of a multiple of 64 is a power of two `2^k`, `k ≤ 26`, that covers it. -/
theorem words_pow2 (m : TSN) (hm : m.toNat % 64 = 0) :
    ∃ k, k ≤ 26 ∧ tsnBitmaskWords m = ((2^k : Nat) : Int) ∧ m.toNat ≤ 64 * 2^k := by
  simp only [tsnBitmaskWords]
  have hw : ((m + 63#32) / 64#32).toNat = m.toNat / 64 := by
    rw [BitVec.toNat_udiv]
    simp only [BitVec.toNat_add, BitVec.toNat_ofNat, Nat.reducePow, Nat.reduceMod]
    have := m.isLt; omega
  split
  · rename_i h
    refine ⟨0, by omega, by simp, ?_⟩
    have h' : ((m + 63#32) / 64#32).toNat ≤ 1 := by simpa [BitVec.le_def] using h
    omega
  · rename_i h
    have h' : ¬ ((m + 63#32) / 64#32).toNat ≤ 1 := by simpa [BitVec.le_def] using h
    rw [hw] at h'
    have hv : (((m + 63#32) / 64#32) - 1#32).toNat = m.toNat / 64 - 1 := by
      rw [BitVec.toNat_sub]
      simp only [hw, BitVec.toNat_ofNat, Nat.reducePow, Nat.reduceMod]
      have := m.isLt; omega
    simp only [len32, hv]
    have hne : m.toNat / 64 - 1 ≠ 0 := by omega
    simp only [hne, ite_false]
    refine ⟨Nat.log2 (m.toNat / 64 - 1) + 1, ?_, ?_, ?_⟩
    · have : Nat.log2 (m.toNat / 64 - 1) < 26 := (Nat.log2_lt hne).mpr (by have := m.isLt; omega)
      omega
    · simp only [Int.toNat_natCast, Int.one_mul]
      norm_cast
    · have := Nat.lt_log2_self (n := m.toNat / 64 - 1)
      omega

theorem pow2_dvd {k : Nat} (hk : k ≤ 26) : 64 * 2^k ∣ 2^32 := by
  have : 64 * 2^k = 2^(6+k) := by rw [Nat.pow_add]
  rw [this]; exact Nat.pow_dvd_pow 2 (by omega)

/-! ## the representation invariant -/

/-- distance of the tail from the cumulative point -/
def dtail (q : Q) : Nat := (q.tail - q.cum).toNat

/-- static part: geometry of the bitmap (never changes after `new`). -/
structure Ring (q : Q) : Prop where
  hsz  : q.bits.size = 64 * q.W
  hW   : 0 < q.W
  hdvd : 64 * q.W ∣ 2^32
  hmax : q.maxOff.toNat ≤ 64 * q.W

/-- offset `d = t - cum` is currently held (received, accepted, not yet covered). -/
def held (q : Q) (t : TSN) : Prop :=
  1 ≤ (t - q.cum).toNat ∧ (t - q.cum).toNat ≤ dtail q ∧ getBit q.bits (pos q.W t) = true

structure Inv (q : Q) : Prop extends Ring q where
  hcnt : q.size = (cnt q.bits : Int)
  hwin : ∀ i, getBit q.bits i = true →
           ∃ t, 1 ≤ (t - q.cum).toNat ∧ (t - q.cum).toNat ≤ dtail q ∧ pos q.W t = i
  ht0  : q.size = 0 → q.tail = q.cum
  ht1  : q.size ≠ 0 → getBit q.bits (pos q.W q.tail) = true
  hb   : dtail q ≤ q.maxOff.toNat ∧ dtail q ≤ 2^31

theorem Ring.of_eq {q q' : Q} (r : Ring q) (hb : q'.bits.size = q.bits.size)
    (hm : q'.maxOff = q.maxOff) : Ring q' := by
  have hW : q'.W = q.W := by simp [Q.W, hb]
  exact ⟨by rw [hb, hW]; exact r.hsz, hW ▸ r.hW, hW ▸ r.hdvd, by rw [hm, hW]; exact r.hmax⟩

theorem new_geom (m0 : TSN) :
    ∃ k, k ≤ 26 ∧ (new m0).W = 2^k ∧ (new m0).bits.size = 64 * 2^k ∧ (new m0).maxOff.toNat ≤ 64 * 2^k := by
  have hm : (((m0 + 63#32) / 64#32) * 64#32).toNat % 64 = 0 := by
    rw [BitVec.toNat_mul, BitVec.toNat_udiv]
    simp only [BitVec.toNat_add, BitVec.toNat_ofNat, Nat.reducePow, Nat.reduceMod]
    omega
  obtain ⟨k, hk, hw, hle⟩ := words_pow2 _ hm
  refine ⟨k, hk, ?_, ?_, hle⟩
  · simp only [Q.W, new, Array.size_replicate, hw, Int.toNat_natCast]; omega
  · simp only [new, Array.size_replicate, hw, Int.toNat_natCast]

theorem new_ring (m0 : TSN) : Ring (new m0) := by
  obtain ⟨k, hk, hW, hsz, hle⟩ := new_geom m0
  exact ⟨hW ▸ hsz, hW ▸ Nat.pow_pos (by omega), hW ▸ pow2_dvd hk, hW ▸ hle⟩

/-- the rounding in `new` and the association's sizing (`getMaxTSNOffset ≤ 40000`) -/
theorem round_le (o : BitVec 32) (h : o.toNat ≤ 40000) :
    (((o + 63#32) / 64#32) * 64#32).toNat ≤ 40000 := by
  rw [BitVec.toNat_mul, BitVec.toNat_udiv, BitVec.toNat_add]
  simp only [BitVec.toNat_ofNat, Nat.reducePow, Nat.reduceMod]
  omega

theorem getMaxTSNOffset_le (rb : BitVec 32) : (getMaxTSNOffset rb).toNat ≤ 40000 := by
  simp only [getMaxTSNOffset, gmin]
  split
  · rename_i h; exact h
  · decide

/-- the association's sizing, `newReceivePayloadQueue(getMaxTSNOffset(maxReceiveBufferSize))`: the window is at most 40000,
so gap blocks fit the 16-bit wire fields -/
theorem assoc_window (rb : BitVec 32) :
    (new (getMaxTSNOffset rb)).maxOff.toNat ≤ 40000 ∧ (new (getMaxTSNOffset rb)).maxOff.toNat < 2^16 := by
  have := round_le _ (getMaxTSNOffset_le rb)
  exact ⟨this, Nat.lt_of_le_of_lt this (by decide +kernel)⟩

theorem inv_empty {q : Q} (r : Ring q) (hs : q.size = 0) (ht : q.tail = q.cum)
    (hbits : ∀ i, getBit q.bits i = false) : Inv q where
  toRing := r
  hcnt := by rw [hs, (cnt_eq_zero_iff _).mpr hbits]; rfl
  hwin := by intro i h; rw [hbits] at h; exact Bool.noConfusion h
  ht0 := fun _ => ht
  ht1 := fun h => absurd hs h
  hb := by simp [dtail, ht]

theorem new_inv (m0 : TSN) : Inv (new m0) :=
  inv_empty (new_ring m0) rfl rfl (by intro i; simp [new])

theorem init_ring {q : Q} (r : Ring q) (c : TSN) : Ring (init q c) :=
  r.of_eq (by simp [init]) rfl

theorem init_inv {q : Q} (r : Ring q) (c : TSN) : Inv (init q c) :=
  inv_empty (init_ring r c) rfl rfl (by intro i; simp [init])

theorem Ring.pos_sep {q : Q} (r : Ring q) {t u : TSN} (ht : 1 ≤ (t - q.cum).toNat)
    (hu : 1 ≤ (u - q.cum).toNat) (ht' : (t - q.cum).toNat ≤ 64 * q.W) (hu' : (u - q.cum).toNat ≤ 64 * q.W)
    (hne : (t - q.cum).toNat ≠ (u - q.cum).toNat) : pos q.W t ≠ pos q.W u :=
  fun h => hne (pos_inj r.hdvd q.cum t u ht' hu' ht hu h ▸ rfl)

theorem Inv.dtail_le {q : Q} (I : Inv q) : dtail q ≤ 64 * q.W := Nat.le_trans I.hb.1 I.hmax

/-- every set bit belongs to exactly one TSN of the window `(cum, tail]` -/
theorem Inv.bit_window {q : Q} (I : Inv q) {t : TSN} (h1 : 1 ≤ (t - q.cum).toNat)
    (hN : (t - q.cum).toNat ≤ 64 * q.W) (hb : getBit q.bits (pos q.W t) = true) :
    (t - q.cum).toNat ≤ dtail q := by
  obtain ⟨t', h1', h2', hp⟩ := I.hwin _ hb
  have := I.dtail_le
  rw [← pos_inj I.hdvd q.cum t' t (by omega) hN h1' h1 hp]; exact h2'

theorem Inv.size_nonneg {q : Q} (I : Inv q) : 0 ≤ q.size := by rw [I.hcnt]; omega

theorem Inv.size_zero_bits {q : Q} (I : Inv q) (h : q.size = 0) (i : Nat) : getBit q.bits i = false := by
  have : cnt q.bits = 0 := by have := I.hcnt; omega
  exact (cnt_eq_zero_iff _).mp this i

theorem Inv.dtail_pos {q : Q} (I : Inv q) (h : q.size ≠ 0) : 1 ≤ dtail q := by
  obtain ⟨t, h1, h2, _⟩ := I.hwin _ (I.ht1 h)
  omega

theorem Inv.size_ne_zero {q : Q} (I : Inv q) (h : 1 ≤ dtail q) : q.size ≠ 0 := by
  intro h0; rw [dtail, I.ht0 h0, off_self] at h; omega

theorem in_window_iff (cum tail t : TSN) (h1 : 1 ≤ (tail - cum).toNat) (h2 : (tail - cum).toNat ≤ 2^31) :
    (sna32LTE t cum || sna32GT t tail) = false ↔
      (1 ≤ (t - cum).toNat ∧ (t - cum).toNat ≤ (tail - cum).toNat) := by
  rw [Bool.or_eq_false_iff, ← Bool.not_eq_true, ← Bool.not_eq_true, lte32_iff, gt32_iff]
  bv_omega

/-- `hasChunk` is membership in the held set -/
theorem hasChunk_iff {q : Q} (I : Inv q) (t : TSN) : hasChunk q t = true ↔ held q t := by
  by_cases hs : q.size = 0
  · simp [hasChunk, held, hs, I.size_zero_bits hs]
  · have hw := in_window_iff q.cum q.tail t (I.dtail_pos hs) I.hb.2
    have h0 : (q.size == 0) = false := by simp [hs]
    simp only [hasChunk, held, dtail, h0, Bool.false_or]
    cases hc : (sna32LTE t q.cum || sna32GT t q.tail)
    · simp only [Bool.false_eq_true, ite_false]
      exact ⟨fun h => ⟨(hw.mp hc).1, (hw.mp hc).2, h⟩, fun h => h.2.2⟩
    · have : ¬ (1 ≤ (t - q.cum).toNat ∧ (t - q.cum).toNat ≤ (q.tail - q.cum).toNat) :=
        fun h => by rw [hw.mpr h] at hc; exact Bool.noConfusion hc
      simp only [ite_true, Bool.false_eq_true, false_iff]
      exact fun h => this ⟨h.1, h.2.1⟩

/-! ## push / canPush -/

/-- the admission condition of `push`/`canPush` in terms of the offset `d = t - cum`:
`1 ≤ d ≤ maxOff` (and, for absurdly large windows only, `d ≤ 2^31`, `maxOff - d < 2^31`). -/
def admissible (q : Q) (t : TSN) : Prop :=
  1 ≤ (t - q.cum).toNat ∧ (t - q.cum).toNat ≤ q.maxOff.toNat ∧
  (t - q.cum).toNat ≤ 2^31 ∧ q.maxOff.toNat < (t - q.cum).toNat + 2^31

theorem admissible_iff (q : Q) (t : TSN) :
    (sna32GT t (q.cum + q.maxOff) = false ∧ sna32LTE t q.cum = false) ↔ admissible q t := by
  simp only [admissible, ← Bool.not_eq_true, lte32_iff, gt32_iff]
  bv_omega

/-- for windows below 2^31 (every real configuration) admissibility is just `1 ≤ d ≤ maxOff` -/
theorem admissible_small {q : Q} (hm : q.maxOff.toNat < 2^31) (t : TSN) :
    admissible q t ↔ (1 ≤ (t - q.cum).toNat ∧ (t - q.cum).toNat ≤ q.maxOff.toNat) := by
  simp only [admissible]; omega

theorem push_accept_iff {q : Q} (I : Inv q) (t : TSN) :
    (push q t).2 = true ↔ (admissible q t ∧ ¬ held q t) := by
  rw [← admissible_iff, ← hasChunk_iff I]
  simp only [push]
  cases sna32GT t (q.cum + q.maxOff) <;> cases sna32LTE t q.cum <;> cases hasChunk q t <;> simp

theorem canPush_eq_push {q : Q} (t : TSN) : canPush q t = (push q t).2 := by
  simp only [push, canPush]
  cases sna32GT t (q.cum + q.maxOff) <;> cases sna32LTE t q.cum <;> cases hasChunk q t <;> simp

theorem canPush_iff {q : Q} (I : Inv q) (t : TSN) :
    canPush q t = true ↔ (admissible q t ∧ ¬ held q t) := by
  rw [canPush_eq_push, push_accept_iff I]

theorem push_reject {q : Q} (t : TSN) (h : (push q t).2 = false) :
    (push q t).1 = q ∨ (push q t).1 = { q with dups := q.dups ++ [t] } := by
  simp only [push] at *
  split
  · exact Or.inl rfl
  · split
    · exact Or.inr rfl
    · rename_i h1 h2; simp [h1, h2] at h

/-- state after an accepted push -/
def pushed (q : Q) (t : TSN) : Q :=
  { q with bits := setBit q.bits (pos q.W t) true, size := q.size + 1,
           tail := if sna32GT t q.tail then t else q.tail }

@[simp] theorem pushed_W (q : Q) (t : TSN) : (pushed q t).W = q.W := by simp [pushed, Q.W]
@[simp] theorem pushed_cum (q : Q) (t : TSN) : (pushed q t).cum = q.cum := rfl
@[simp] theorem pushed_maxOff (q : Q) (t : TSN) : (pushed q t).maxOff = q.maxOff := rfl
@[simp] theorem pushed_bits (q : Q) (t : TSN) : (pushed q t).bits = setBit q.bits (pos q.W t) true := rfl
@[simp] theorem pushed_size (q : Q) (t : TSN) : (pushed q t).size = q.size + 1 := rfl
@[simp] theorem pushed_tail (q : Q) (t : TSN) :
    (pushed q t).tail = if sna32GT t q.tail then t else q.tail := rfl

theorem push_accept_state {q : Q} (t : TSN) (h : (push q t).2 = true) :
    (push q t).1 = pushed q t := by
  simp only [push, pushed] at *
  split
  · rename_i h1; simp [h1] at h
  · split
    · rename_i h1 h2; simp [h1, h2] at h
    · rfl

theorem push_maxOff (q : Q) (t : TSN) : (push q t).1.maxOff = q.maxOff := by
  simp only [push]; split
  · rfl
  · split <;> rfl

theorem push_cum (q : Q) (t : TSN) : (push q t).1.cum = q.cum := by
  simp only [push]; split
  · rfl
  · split <;> rfl

theorem inv_dups {q : Q} (I : Inv q) (l : List TSN) : Inv { q with dups := l } :=
  { toRing := I.toRing.of_eq rfl rfl, hcnt := I.hcnt, hwin := I.hwin, ht0 := I.ht0, ht1 := I.ht1, hb := I.hb }

theorem max_tail (cum tail t : TSN) (h1 : (tail - cum).toNat ≤ 2^31) (h0 : 1 ≤ (t - cum).toNat)
    (h2 : (t - cum).toNat ≤ 2^31) :
    ((if sna32GT t tail then t else tail) - cum).toNat = max (tail - cum).toNat (t - cum).toNat := by
  by_cases hg : sna32GT t tail = true
  · rw [if_pos hg]; rw [gt32_iff] at hg; bv_omega
  · rw [if_neg hg]; rw [gt32_iff] at hg; bv_omega

theorem dtail_pushed {q : Q} (I : Inv q) {t : TSN} (ha : admissible q t) :
    dtail (pushed q t) = max (dtail q) (t - q.cum).toNat :=
  max_tail q.cum q.tail t I.hb.2 ha.1 ha.2.2.1

/-- the facts about an accepted push that the invariant and the abstraction lemma share: the
slot of `t` is inside the bitmap and free -/
theorem push_slot {q : Q} (I : Inv q) {t : TSN} (ha : admissible q t) (hnh : ¬ held q t) :
    pos q.W t < q.bits.size ∧ getBit q.bits (pos q.W t) = false := by
  refine ⟨by rw [I.hsz]; exact pos_lt I.hW t, ?_⟩
  cases hb : getBit q.bits (pos q.W t)
  · rfl
  · exact absurd ⟨ha.1, I.bit_window ha.1 (Nat.le_trans ha.2.1 I.hmax) hb, hb⟩ hnh

theorem pushed_inv {q : Q} (I : Inv q) {t : TSN} (ha : admissible q t) (hnh : ¬ held q t) :
    Inv (pushed q t) := by
  obtain ⟨hlt, hclr⟩ := push_slot I ha hnh
  have hdt := dtail_pushed I ha
  obtain ⟨a1, a2, a3, _⟩ := ha
  obtain ⟨hb1, hb2⟩ := I.hb
  refine { toRing := I.toRing.of_eq (by simp) rfl, hcnt := ?_, hwin := ?_, ht0 := ?_, ht1 := ?_, hb := ?_ }
  · rw [pushed_size, pushed_bits, cnt_set hlt hclr, I.hcnt]; omega
  · intro i hi
    rw [hdt, pushed_cum, pushed_W]
    rw [pushed_bits, getBit_setBit] at hi
    by_cases hp : pos q.W t = i
    · exact ⟨t, a1, by omega, hp⟩
    · simp only [hp, false_and, ite_false] at hi
      obtain ⟨t', h1, h2, h3⟩ := I.hwin i hi
      exact ⟨t', h1, by omega, h3⟩
  · intro h
    have := I.size_nonneg
    rw [pushed_size] at h
    omega
  · intro _
    rw [pushed_bits, pushed_W, getBit_setBit]
    split
    · rfl
    · rename_i hne
      -- the tail is not `t`, so it is the old tail, and the queue was not empty
      have htl : (pushed q t).tail = q.tail := by
        rw [pushed_tail]; split
        · rename_i hg; rw [pushed_tail, if_pos hg] at hne; exact absurd ⟨rfl, hlt⟩ hne
        · rfl
      rw [htl]
      apply I.ht1
      intro hs
      have h0 : dtail (pushed q t) = 0 := by rw [dtail, htl, pushed_cum, I.ht0 hs, off_self]
      omega
  · rw [hdt, pushed_maxOff]; omega

theorem push_inv {q : Q} (I : Inv q) (t : TSN) : Inv (push q t).1 := by
  cases hr : (push q t).2
  · rcases push_reject t hr with h | h <;> rw [h]
    · exact I
    · exact inv_dups I _
  · rw [push_accept_state t hr]
    obtain ⟨ha, hnh⟩ := (push_accept_iff I t).mp hr
    exact pushed_inv I ha hnh

end RecvQ
