import SctpVerif.Proofs.RecvQ.History
/-!
`getGapAckBlocks`: the model's `gapScan` is `scan` over the bit predicate `bitAt q`, truncated to 16 bits
(`gapScan_eq`, `gaps_eq`); `scan_ok` shows that `scan` yields the maximal runs of set positions (`ScanOK`);
`gapsNat_spec` / `gaps_spec` say so for the held offsets of a queue satisfying `Inv`.
-/
namespace RecvQ
open Gen Sna

/-! ## getGapAckBlocks -/

/-- the scan of `gapScan`, over an abstract bit predicate and without the 16-bit truncation -/
def scan (B : Nat → Bool) (last : Nat) : Nat → Nat → Option Nat → List (Nat × Nat)
  | 0, _, _ => []
  | n+1, d, run =>
    match run, B d with
    | none, false => scan B last n (d+1) none
    | none, true => if d == last then [(d, d)] else scan B last n (d+1) (some d)
    | some s, true => if d == last then [(s, d)] else scan B last n (d+1) (some s)
    | some s, false => (s, d-1) :: scan B last n (d+1) none

def bitAt (q : Q) (d : Nat) : Bool := getBit q.bits (pos q.W (q.cum + BitVec.ofNat 32 d))

def trunc16 (p : Nat × Nat) : BitVec 16 × BitVec 16 := (BitVec.ofNat 16 p.1, BitVec.ofNat 16 p.2)

theorem gapScan_eq (q : Q) (last : Nat) (n : Nat) : ∀ (d : Nat) (run : Option Nat),
    gapScan q last n d run = (scan (bitAt q) last n d run).map trunc16 := by
  induction n with
  | zero => intro d run; rfl
  | succ n ih =>
    intro d run
    simp only [gapScan, scan, bitAt]
    cases run <;> cases getBit q.bits (pos q.W (q.cum + BitVec.ofNat 32 d)) <;> simp only
    · exact ih _ _
    · split
      · rfl
      · exact ih _ _
    · rw [List.map_cons, ← ih]; rfl
    · split
      · rfl
      · exact ih _ _

/-- what a correct list of gap blocks is, relative to the bit predicate `B` on `[lo, last]` -/
structure ScanOK (B : Nat → Bool) (last lo : Nat) (bl : List (Nat × Nat)) : Prop where
  snd : ∀ p ∈ bl, lo ≤ p.1 ∧ p.1 ≤ p.2 ∧ p.2 ≤ last ∧ ∀ j, p.1 ≤ j → j ≤ p.2 → B j = true
  cmp : ∀ j, lo ≤ j → j ≤ last → B j = true → ∃ p ∈ bl, p.1 ≤ j ∧ j ≤ p.2
  pw  : bl.Pairwise (fun a b => a.2 + 1 < b.1)
  mx  : ∀ p ∈ bl, (p.1 = lo ∨ B (p.1 - 1) = false) ∧ (p.2 = last ∨ B (p.2 + 1) = false)

theorem scanOK_single {B : Nat → Bool} {last s : Nat} (hs : s ≤ last)
    (hB : ∀ j, s ≤ j → j ≤ last → B j = true) : ScanOK B last s [(s, last)] where
  snd := by intro p hp; simp only [List.mem_singleton] at hp; subst hp; exact ⟨Nat.le_refl _, hs, Nat.le_refl _, hB⟩
  cmp := by intro j h1 h2 _; exact ⟨(s, last), by simp, h1, h2⟩
  pw := List.pairwise_singleton _ _
  mx := by intro p hp; simp only [List.mem_singleton] at hp; subst hp; exact ⟨Or.inl rfl, Or.inl rfl⟩

/-- a clear position in front of the blocks may be added to the range -/
theorem ScanOK.skip {B : Nat → Bool} {last d : Nat} {bl : List (Nat × Nat)} (hb : B d = false)
    (r : ScanOK B last (d + 1) bl) : ScanOK B last d bl where
  snd := fun p hp => by obtain ⟨h1, h2⟩ := r.snd p hp; exact ⟨by omega, h2⟩
  cmp := fun j h1 h2 h3 => by
    have : j ≠ d := by rintro rfl; rw [hb] at h3; exact Bool.noConfusion h3
    exact r.cmp j (by omega) h2 h3
  pw := r.pw
  mx := fun p hp => by
    obtain ⟨h1, h2⟩ := r.mx p hp
    refine ⟨Or.inr ?_, h2⟩
    rcases h1 with h | h
    · rw [h]; simpa using hb
    · exact h

/-- a closed run `[s, e]`, followed by a clear position, in front of the blocks from `e + 2` on -/
theorem ScanOK.cons {B : Nat → Bool} {last s e : Nat} {bl : List (Nat × Nat)} (hse : s ≤ e) (he : e ≤ last)
    (hrun : ∀ j, s ≤ j → j ≤ e → B j = true) (hb : B (e + 1) = false)
    (r : ScanOK B last (e + 2) bl) : ScanOK B last s ((s, e) :: bl) where
  snd := fun p hp => by
    rcases List.mem_cons.mp hp with rfl | hp
    · exact ⟨Nat.le_refl _, hse, he, hrun⟩
    · obtain ⟨h1, h2⟩ := r.snd p hp; exact ⟨by omega, h2⟩
  cmp := fun j h1 h2 h3 => by
    have : j ≠ e + 1 := by rintro rfl; rw [hb] at h3; exact Bool.noConfusion h3
    by_cases hj : j ≤ e
    · exact ⟨(s, e), List.mem_cons_self, h1, hj⟩
    · obtain ⟨p, hp, hp'⟩ := r.cmp j (by omega) h2 h3
      exact ⟨p, List.mem_cons_of_mem _ hp, hp'⟩
  pw := List.pairwise_cons.mpr ⟨fun p hp => by have := (r.snd p hp).1; simp only; omega, r.pw⟩
  mx := fun p hp => by
    rcases List.mem_cons.mp hp with rfl | hp
    · exact ⟨Or.inl rfl, Or.inr hb⟩
    · obtain ⟨h1, h2⟩ := r.mx p hp
      refine ⟨Or.inr ?_, h2⟩
      rcases h1 with h | h
      · rw [h]; exact hb
      · exact h

theorem scan_true {B : Nat → Bool} {d : Nat} (hb : B d = true) (last n : Nat) (run : Option Nat) :
    scan B last (n + 1) d run =
      if d == last then [(run.getD d, d)] else scan B last n (d + 1) (some (run.getD d)) := by
  cases run <;> simp only [scan, hb, Option.getD]

theorem scan_false_none {B : Nat → Bool} {d : Nat} (hb : B d = false) (last n : Nat) :
    scan B last (n + 1) d none = scan B last n (d + 1) none := by
  simp only [scan, hb]

theorem scan_false_some {B : Nat → Bool} {d : Nat} (hb : B d = false) (last n s : Nat) :
    scan B last (n + 1) d (some s) = (s, d - 1) :: scan B last n (d + 1) none := by
  simp only [scan, hb]

/-- `scan` at position `d` with `n` positions to go up to `last` (a set position), the open run (if
any) reaching from its start to `d - 1`: the result is correct from the start of the open run on. -/
theorem scan_ok (B : Nat → Bool) (last : Nat) (hl : B last = true) (n : Nat) :
    ∀ (d : Nat) (run : Option Nat), d + n = last + 1 → 1 ≤ n →
      (∀ s, run = some s → s < d ∧ ∀ j, s ≤ j → j < d → B j = true) →
      ScanOK B last (run.getD d) (scan B last n d run) := by
  induction n with
  | zero => intro d run _ h1; omega
  | succ n ih =>
    intro d run hdn _ hrun
    cases hb : B d with
    | true =>
      -- the run that is open after `d` starts at `run.getD d`
      have hlo : run.getD d ≤ d ∧ ∀ j, run.getD d ≤ j → j < d + 1 → B j = true := by
        cases run with
        | none => exact ⟨Nat.le_refl _, fun j h1 h2 => (show j = d by simp only [Option.getD_none] at h1; omega) ▸ hb⟩
        | some s =>
          obtain ⟨hsd, hopen⟩ := hrun s rfl
          refine ⟨Nat.le_of_lt hsd, fun j h1 h2 => ?_⟩
          by_cases hj : j < d
          · exact hopen j h1 hj
          · exact (show j = d by omega) ▸ hb
      rw [scan_true hb]
      split
      · rename_i he
        have he : d = last := by simpa using he
        subst he
        exact scanOK_single hlo.1 fun j h1 h2 => hlo.2 j h1 (by omega)
      · rename_i he
        have he : d ≠ last := by simpa using he
        exact ih (d + 1) (some (run.getD d)) (by omega) (by omega)
          (fun s hs => by cases hs; exact ⟨by omega, hlo.2⟩)
    | false =>
      have hne : d ≠ last := by rintro rfl; rw [hl] at hb; exact Bool.noConfusion hb
      have r := ih (d + 1) none (by omega) (by omega) (by intro s hs; cases hs)
      cases run with
      | none => rw [scan_false_none hb]; exact r.skip hb
      | some s =>
        obtain ⟨hsd, hopen⟩ := hrun s rfl
        rw [scan_false_some hb]
        have e : d - 1 + 1 = d := by omega
        show ScanOK B last s _
        exact ScanOK.cons (by omega) (by omega) (fun j h1 h2 => hopen j h1 (by omega)) (e ▸ hb)
          (show d - 1 + 2 = d + 1 by omega ▸ r)

/-- the gap blocks as untruncated offsets -/
def gapsNat (q : Q) : List (Nat × Nat) :=
  if q.size == 0 then [] else scan (bitAt q) (dtail q) (dtail q) 1 none

theorem lte_succ_tail (cum tail : TSN) (h1 : 1 ≤ (tail - cum).toNat) (h2 : (tail - cum).toNat ≤ 2^31) :
    sna32LTE (cum + 1) tail = true := by
  rw [lte32_iff]; bv_omega

theorem gaps_eq {q : Q} (I : Inv q) : gaps q = (gapsNat q).map trunc16 := by
  simp only [gaps, gapsNat]
  by_cases hs : q.size = 0
  · simp [hs]
  · have h1 := I.dtail_pos hs
    have : (q.size == 0) = false := by simp [hs]
    simp only [this, Bool.false_eq_true, ite_false]
    rw [lte_succ_tail q.cum q.tail h1 I.hb.2]
    simp only [ite_true]
    exact gapScan_eq q _ _ _ _

theorem heldAt_bit {q : Q} (d : Nat) : heldAt q d ↔ (1 ≤ d ∧ d ≤ dtail q ∧ bitAt q d = true) := Iff.rfl

theorem heldAt_size {q : Q} (I : Inv q) {d : Nat} (h : heldAt q d) : q.size ≠ 0 := by
  intro hs; have := I.size_zero_bits hs (pos q.W (q.cum + BitVec.ofNat 32 d))
  rw [h.2.2] at this; exact Bool.noConfusion this

/-- **the blocks are exactly the maximal runs of the held offsets** -/
theorem gapsNat_spec {q : Q} (I : Inv q) :
    -- every block lies in [1, tail-cum] and contains only held offsets
    (∀ p ∈ gapsNat q, 1 ≤ p.1 ∧ p.1 ≤ p.2 ∧ p.2 ≤ dtail q ∧ ∀ j, p.1 ≤ j → j ≤ p.2 → heldAt q j) ∧
    -- every held offset is in a block
    (∀ j, heldAt q j → ∃ p ∈ gapsNat q, p.1 ≤ j ∧ j ≤ p.2) ∧
    -- sorted, disjoint, non-adjacent
    (gapsNat q).Pairwise (fun a b => a.2 + 1 < b.1) ∧
    -- maximal on both sides
    (∀ p ∈ gapsNat q, ¬ heldAt q (p.1 - 1) ∧ ¬ heldAt q (p.2 + 1)) := by
  by_cases hs : q.size = 0
  · have hnil : gapsNat q = [] := by simp [gapsNat, hs]
    rw [hnil]
    refine ⟨by simp, ?_, List.Pairwise.nil, by simp⟩
    intro j hj; exact absurd hs (heldAt_size I hj)
  · have h1 := I.dtail_pos hs
    have hlast : bitAt q (dtail q) = true := by
      simp only [bitAt, dtail, add_off]; exact I.ht1 hs
    have hg : gapsNat q = scan (bitAt q) (dtail q) (dtail q) 1 none := by
      have : (q.size == 0) = false := by simp [hs]
      simp [gapsNat, this]
    have r := scan_ok (bitAt q) (dtail q) hlast (dtail q) 1 none (by omega) h1
      (by intro s hs; cases hs)
    rw [← hg] at r
    simp only [Option.getD_none] at r
    refine ⟨?_, ?_, r.pw, ?_⟩
    · intro p hp
      obtain ⟨a, b, c, d⟩ := r.snd p hp
      exact ⟨a, b, c, fun j j1 j2 => ⟨by omega, by omega, d j j1 j2⟩⟩
    · intro j ⟨j1, j2, j3⟩
      exact r.cmp j j1 j2 j3
    · intro p hp
      obtain ⟨a, b, c, d⟩ := r.snd p hp
      obtain ⟨m1, m2⟩ := r.mx p hp
      constructor
      · rintro ⟨k1, k2, k3⟩
        rcases m1 with h | h
        · omega
        · exact Bool.false_ne_true (h.symm.trans k3)
      · rintro ⟨k1, k2, k3⟩
        rcases m2 with h | h
        · omega
        · exact Bool.false_ne_true (h.symm.trans k3)

theorem trunc16_toNat {p : Nat × Nat} (h1 : p.1 < 2^16) (h2 : p.2 < 2^16) :
    (trunc16 p).1.toNat = p.1 ∧ (trunc16 p).2.toNat = p.2 := by
  simp only [trunc16, BitVec.toNat_ofNat]
  exact ⟨Nat.mod_eq_of_lt h1, Nat.mod_eq_of_lt h2⟩

/-- when the admission window fits the 16-bit wire fields (`maxOff < 2^16`; the association never
configures more than 40000), reading the emitted blocks back gives the untruncated ones -/
theorem gaps_toNat {q : Q} (I : Inv q) (hm : q.maxOff.toNat < 2^16) :
    (gaps q).map (fun b => (b.1.toNat, b.2.toNat)) = gapsNat q := by
  rw [gaps_eq I, List.map_map]
  refine (List.map_congr_left fun p hp => ?_).trans (List.map_id _)
  obtain ⟨_, _, c, _⟩ := (gapsNat_spec I).1 p hp
  have := I.hb.1
  obtain ⟨e1, e2⟩ := trunc16_toNat (p := p) (by omega) (by omega)
  exact Prod.ext e1 e2

/-- hence a statement about all blocks, about some block, or about consecutive blocks of `gapsNat` is that statement about
the emitted blocks read back -/
theorem gaps_forall {q : Q} (I : Inv q) (hm : q.maxOff.toNat < 2^16) {P : Nat × Nat → Prop} :
    (∀ p ∈ gapsNat q, P p) ↔ ∀ b ∈ gaps q, P (b.1.toNat, b.2.toNat) := by
  rw [← gaps_toNat I hm]; exact List.forall_mem_map

theorem gaps_exists {q : Q} (I : Inv q) (hm : q.maxOff.toNat < 2^16) {P : Nat × Nat → Prop} :
    (∃ p ∈ gapsNat q, P p) ↔ ∃ b ∈ gaps q, P (b.1.toNat, b.2.toNat) := by
  rw [← gaps_toNat I hm]
  constructor
  · rintro ⟨p, hp, h⟩; obtain ⟨b, hb, rfl⟩ := List.mem_map.mp hp; exact ⟨b, hb, h⟩
  · rintro ⟨b, hb, h⟩; exact ⟨_, List.mem_map_of_mem hb, h⟩

theorem gaps_pairwise {q : Q} (I : Inv q) (hm : q.maxOff.toNat < 2^16) {R : Nat × Nat → Nat × Nat → Prop} :
    (gapsNat q).Pairwise R ↔ (gaps q).Pairwise (fun a b => R (a.1.toNat, a.2.toNat) (b.1.toNat, b.2.toNat)) := by
  rw [← gaps_toNat I hm]; exact List.pairwise_map

theorem gaps_spec {q : Q} (I : Inv q) (hm : q.maxOff.toNat < 2^16) :
    (∀ b ∈ gaps q, 1 ≤ b.1.toNat ∧ b.1.toNat ≤ b.2.toNat ∧ b.2.toNat ≤ dtail q ∧
        ∀ j, b.1.toNat ≤ j → j ≤ b.2.toNat → heldAt q j) ∧
    (∀ j, heldAt q j → ∃ b ∈ gaps q, b.1.toNat ≤ j ∧ j ≤ b.2.toNat) ∧
    (gaps q).Pairwise (fun a b => a.2.toNat + 1 < b.1.toNat) ∧
    (∀ b ∈ gaps q, ¬ heldAt q (b.1.toNat - 1) ∧ ¬ heldAt q (b.2.toNat + 1)) := by
  obtain ⟨s1, s2, s3, s4⟩ := gapsNat_spec I
  exact ⟨(gaps_forall I hm).mp s1, fun j hj => (gaps_exists I hm).mp (s2 j hj), (gaps_pairwise I hm).mp s3,
    (gaps_forall I hm).mp s4⟩

/-- the blocks against the ghost history: they name only accepted TSNs (S2), every accepted TSN above the cumulative point
lies in one (S4), they are sorted, disjoint and non-adjacent, and maximal on both sides -/
theorem GInv.gapsNat_acc {s : St} (g : GInv s) :
    (∀ p ∈ gapsNat s.q, 1 ≤ p.1 ∧ p.1 ≤ p.2 ∧ ∀ j, p.1 ≤ j → j ≤ p.2 → s.h.acc (s.h.A + j)) ∧
    (∀ k, s.h.acc k → k ≤ s.h.A ∨ ∃ p ∈ gapsNat s.q, p.1 ≤ k - s.h.A ∧ k - s.h.A ≤ p.2) ∧
    (gapsNat s.q).Pairwise (fun a b => a.2 + 1 < b.1) ∧
    (∀ p ∈ gapsNat s.q, (2 ≤ p.1 → ¬ s.h.acc (s.h.A + (p.1 - 1))) ∧ ¬ s.h.acc (s.h.A + (p.2 + 1))) := by
  obtain ⟨n1, n2, n3, n4⟩ := gapsNat_spec g.inv
  refine ⟨fun p hp => ?_, fun k hk => ?_, n3, fun p hp => ?_⟩
  · obtain ⟨a, b, _, d⟩ := n1 p hp
    exact ⟨a, b, fun j j1 j2 => (g.hacc j (by omega)).mpr (d j j1 j2)⟩
  · by_cases hle : k ≤ s.h.A
    · exact Or.inl hle
    · exact Or.inr (n2 _ ((g.hacc (k - s.h.A) (by omega)).mp (by rw [show s.h.A + (k - s.h.A) = k by omega]; exact hk)))
  · obtain ⟨a, b⟩ := n4 p hp
    exact ⟨fun h2 h => a ((g.hacc _ (by omega)).mp h), fun h => b ((g.hacc _ (by omega)).mp h)⟩

theorem GInv.gaps_acc {s : St} (g : GInv s) (hm : s.q.maxOff.toNat < 2^16) :
    (∀ b ∈ gaps s.q, 1 ≤ b.1.toNat ∧ b.1.toNat ≤ b.2.toNat ∧ ∀ j, b.1.toNat ≤ j → j ≤ b.2.toNat → s.h.acc (s.h.A + j)) ∧
    (∀ k, s.h.acc k → k ≤ s.h.A ∨ ∃ b ∈ gaps s.q, b.1.toNat ≤ k - s.h.A ∧ k - s.h.A ≤ b.2.toNat) ∧
    (gaps s.q).Pairwise (fun a b => a.2.toNat + 1 < b.1.toNat) ∧
    (∀ b ∈ gaps s.q, (2 ≤ b.1.toNat → ¬ s.h.acc (s.h.A + (b.1.toNat - 1))) ∧ ¬ s.h.acc (s.h.A + (b.2.toNat + 1))) := by
  obtain ⟨a1, a2, a3, a4⟩ := g.gapsNat_acc
  exact ⟨(gaps_forall g.inv hm).mp a1, fun k hk => (a2 k hk).imp id (gaps_exists g.inv hm).mp,
    (gaps_pairwise g.inv hm).mp a3, (gaps_forall g.inv hm).mp a4⟩

end RecvQ
