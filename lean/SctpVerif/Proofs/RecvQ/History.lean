import SctpVerif.Proofs.RecvQ.Pop
import SctpVerif.Proofs.ListAux
/-!
The held set indexed by natural offsets (`heldAt`), and the vocabulary of the C05 statements: runs of queue
operations (`Op`, `step`, `run`, `start`) over a state `St` that pairs the queue with a ghost history `Hist`
(origin `c0`, total forward movement `A`, accepted / skipped indices). `GInv` couples queue and history and holds
along every run (`run_ginv`); `popLoopS_inv` and `step_inv` are the induction principles for per-step facts.
-/
namespace RecvQ
open Gen Sna

/-! ## offsets as naturals -/

/-- offset `d` (a natural number, as `getGapAckBlocks` counts them) is held -/
def heldAt (q : Q) (d : Nat) : Prop :=
  1 ≤ d ∧ d ≤ dtail q ∧ getBit q.bits (pos q.W (q.cum + BitVec.ofNat 32 d)) = true

theorem heldAt_iff {q : Q} (I : Inv q) (d : Nat) :
    heldAt q d ↔ (d ≤ 2^31 ∧ held q (q.cum + BitVec.ofNat 32 d)) := by
  have hb2 := I.hb.2
  simp only [heldAt, held]
  constructor
  · intro ⟨h1, h2, h3⟩
    rw [off_of_eq (by omega) rfl]
    exact ⟨by omega, h1, h2, h3⟩
  · intro ⟨h0, h1, h2, h3⟩
    rw [off_of_eq (by omega) rfl] at h1 h2
    exact ⟨h1, h2, h3⟩

theorem held_iff_heldAt {q : Q} (t : TSN) : held q t ↔ heldAt q (t - q.cum).toNat := by
  simp only [heldAt, held, add_off]

theorem heldAt_le {q : Q} (I : Inv q) {d : Nat} (h : heldAt q d) : d ≤ q.maxOff.toNat ∧ d ≤ 2^31 := by
  have := I.hb; obtain ⟨_, h2, _⟩ := h; omega

/-- set bits and held offsets are in bijection -/
theorem bit_iff_heldAt {q : Q} (I : Inv q) (i : Nat) :
    getBit q.bits i = true ↔ ∃ d, heldAt q d ∧ pos q.W (q.cum + BitVec.ofNat 32 d) = i := by
  constructor
  · intro h
    obtain ⟨t, h1, h2, h3⟩ := I.hwin i h
    refine ⟨(t - q.cum).toNat, ⟨h1, h2, ?_⟩, ?_⟩
    · rw [add_off, h3]; exact h
    · rw [add_off]; exact h3
  · rintro ⟨d, ⟨_, _, hb⟩, rfl⟩; exact hb

theorem heldAt_inj {q : Q} (I : Inv q) {d d' : Nat} (h : heldAt q d) (h' : heldAt q d')
    (hp : pos q.W (q.cum + BitVec.ofNat 32 d) = pos q.W (q.cum + BitVec.ofNat 32 d')) : d = d' := by
  obtain ⟨hb1, hb2⟩ := I.hb
  have hN := I.hmax
  obtain ⟨a1, a2, _⟩ := h
  obtain ⟨b1, b2, _⟩ := h'
  have e1 := off_of_eq (b := q.cum) (k := d) (by omega) rfl
  have e2 := off_of_eq (b := q.cum) (k := d') (by omega) rfl
  have := pos_inj I.hdvd q.cum _ _ (by omega) (by omega) (by omega) (by omega) hp
  rw [← e1, ← e2, this]

theorem heldAt_tail {q : Q} (I : Inv q) (hs : q.size ≠ 0) : heldAt q (dtail q) :=
  ⟨I.dtail_pos hs, Nat.le_refl _, by simp only [dtail, add_off]; exact I.ht1 hs⟩

/-- re-basing: the held set loses the offsets `≤ e`, and the new offset `d` is the old offset `d + e` -/
theorem Rebase.heldAt {q q' : Q} {e : Nat} (R : Rebase q q' e) (I : Inv q) (d : Nat) (hd : 1 ≤ d) :
    heldAt q' d ↔ heldAt q (d + e) := by
  have hb2 := I.hb.2
  simp only [RecvQ.heldAt, R.W, R.dt, R.cum, BitVec.add_assoc, ← BitVec.ofNat_add, Nat.add_comm e d]
  constructor
  · intro ⟨_, a2, a3⟩
    exact ⟨by omega, by omega, ((R.bits _).mp a3).1⟩
  · intro ⟨_, h2, h3⟩
    have e1 : (q.cum + BitVec.ofNat 32 (d + e) - q.cum).toNat = d + e := off_of_eq (by omega) rfl
    exact ⟨hd, by omega, R.keeps I ⟨by omega, by omega, h3⟩ (by omega)⟩

theorem popped_heldAt {q : Q} (I : Inv q) (h : held q (q.cum + 1)) (d : Nat) (hd : 1 ≤ d) :
    heldAt (popped q) d ↔ heldAt q (d + 1) :=
  (popped_rebase I h).heldAt I d hd

theorem forced_heldAt {q : Q} (I : Inv q) (h : ¬ held q (q.cum + 1)) (d : Nat) (hd : 1 ≤ d) :
    heldAt (forced q) d ↔ heldAt q (d + 1) :=
  (forced_rebase I h).heldAt I d hd

theorem advance_heldAt {q : Q} (I : Inv q) (c : TSN) (hl : sna32LT q.cum c = true) (d : Nat) (hd : 1 ≤ d) :
    heldAt (advance q c) d ↔ heldAt q (d + (c - q.cum).toNat) :=
  (advance_rebase I c hl).heldAt I d hd

theorem pop_ok_iff {q : Q} (I : Inv q) (f : Bool) : (pop q f).2 = true ↔ heldAt q 1 := by
  rw [pop_ok, hasChunk_iff I, held_iff_heldAt, off_one]

theorem pop_rebase {q : Q} (I : Inv q) (f : Bool) (h : (pop q f).2 = true ∨ f = true) :
    Rebase q (pop q f).1 1 := by
  rw [pop_ok] at h
  rw [pop_state]
  cases hc : hasChunk q (q.cum + 1)
  · rw [hc] at h
    rw [if_neg Bool.false_ne_true, if_pos (h.resolve_left Bool.false_ne_true)]
    exact forced_rebase I (fun hh => by rw [(hasChunk_iff I _).mpr hh] at hc; exact Bool.noConfusion hc)
  · exact popped_rebase I ((hasChunk_iff I _).mp hc)

theorem pop_noop {q : Q} (h : (pop q false).2 = false) : (pop q false).1 = q := by
  rw [pop_ok] at h; rw [pop_state, h]; rfl

/-- abstract effect of an accepted push: the held set gains exactly the offset of `t` -/
theorem push_heldAt {q : Q} (I : Inv q) (t : TSN) (hr : (push q t).2 = true) (d : Nat) :
    heldAt (push q t).1 d ↔ (heldAt q d ∨ d = (t - q.cum).toNat) := by
  rw [push_accept_state t hr]
  obtain ⟨ha, hnh⟩ := (push_accept_iff I t).mp hr
  obtain ⟨hlt, _⟩ := push_slot I ha hnh
  have hdt := dtail_pushed I ha
  obtain ⟨a1, a2, _, _⟩ := ha
  have hb := I.hb
  have hN := I.hmax
  simp only [heldAt, hdt, pushed_cum, pushed_W, pushed_bits]
  rw [getBit_setBit]
  constructor
  · intro ⟨h1, h2, h3⟩
    have e1 : (q.cum + BitVec.ofNat 32 d - q.cum).toNat = d := off_of_eq (by omega) rfl
    by_cases hp : pos q.W t = pos q.W (q.cum + BitVec.ofNat 32 d)
    · right
      rw [pos_inj I.hdvd q.cum t _ (by omega) (by omega) a1 (by omega) hp, e1]
    · left
      simp only [hp, false_and, ite_false] at h3
      exact ⟨h1, e1 ▸ I.bit_window (t := q.cum + BitVec.ofNat 32 d) (by omega) (by omega) h3, h3⟩
  · rintro (⟨h1, h2, h3⟩ | rfl)
    · refine ⟨h1, by omega, ?_⟩
      split
      · rfl
      · exact h3
    · exact ⟨a1, by omega, by rw [add_off]; simp [hlt]⟩

theorem heldAt_push {q : Q} (I : Inv q) (t : TSN) (d : Nat) :
    heldAt (push q t).1 d ↔ (heldAt q d ∨ ((push q t).2 = true ∧ d = (t - q.cum).toNat)) := by
  cases hr : (push q t).2
  · simp only [Bool.false_eq_true, false_and, or_false]
    rcases push_reject t hr with h | h <;> rw [h] <;> exact Iff.rfl
  · simp only [true_and]; exact push_heldAt I t hr d

/-! ## runs with ghost history -/

/-- ghost history since the last `init`. TSNs are identified by their absolute index `k`
(the TSN is `c0 + k`), so that nothing is lost when the 32-bit space wraps, even many times. -/
structure Hist where
  c0  : TSN          -- cumulative point installed by the last `init`
  A   : Nat          -- total forward movement of the cumulative point since then
  acc : Nat → Prop   -- indices whose DATA was accepted (`push` returned true)
  skp : Nat → Prop   -- indices the peer explicitly told us to skip (FORWARD-TSN, forced pop)

structure St where
  q : Q
  h : Hist

inductive Op
  | init (c : TSN)                 -- receivePayloadQueue.init
  | push (t : TSN)                 -- bare push
  | pop (force : Bool)             -- bare pop
  | adv (c : TSN)                  -- bare advanceCumulativeTSN
  | data (t : TSN) (store : Bool)  -- Association.handleData (store = acceptPayloadData stored it)
  | fwd (c : TSN)                  -- Association.handleForwardTSN / handleIForwardTSN
  | sack                           -- createSelectiveAckChunk: popDuplicates + getGapAckBlocks

def sInit (s : St) (c : TSN) : St :=
  { q := init s.q c, h := { c0 := c, A := 0, acc := fun _ => False, skp := fun _ => False } }

def sPush (s : St) (t : TSN) : St :=
  { q := (push s.q t).1,
    h := { s.h with acc := fun k => s.h.acc k ∨ ((push s.q t).2 = true ∧ k = s.h.A + (t - s.q.cum).toNat) } }

def sPop (s : St) (f : Bool) : St :=
  { q := (pop s.q f).1,
    h := { s.h with A := s.h.A + ((pop s.q f).1.cum - s.q.cum).toNat,
                    skp := fun k => s.h.skp k ∨ (f = true ∧ k = s.h.A + 1) } }

def sAdv (s : St) (c : TSN) : St :=
  { q := advance s.q c,
    h := { s.h with A := s.h.A + ((advance s.q c).cum - s.q.cum).toNat,
                    skp := fun k => s.h.skp k ∨
                      (sna32LT s.q.cum c = true ∧ s.h.A < k ∧ k ≤ s.h.A + (c - s.q.cum).toNat) } }

/-- Go: `for { if !q.pop(false) { break } }` in `handlePeerLastTSNAndAcknowledgement`; `n` is fuel -/
def popLoopS : Nat → St → St
  | 0, s => s
  | n+1, s => if (pop s.q false).2 then popLoopS n (sPop s false) else s

/-- fuel: a successful pop decrements `size`, so `size` iterations suffice (`popAllS_done`) -/
def popAllS (s : St) : St := popLoopS s.q.size.toNat s

def sData (s : St) (t : TSN) (store : Bool) : St :=
  popAllS (if canPush s.q t && store then sPush s t else s)

def sFwd (s : St) (c : TSN) : St :=
  if sna32LTE c s.q.cum then s else popAllS (sAdv s c)

def step (s : St) : Op → St
  | .init c => sInit s c
  | .push t => sPush s t
  | .pop f => sPop s f
  | .adv c => sAdv s c
  | .data t st => sData s t st
  | .fwd c => sFwd s c
  | .sack => { s with q := (popDuplicates s.q).1 }

def run (s : St) (ops : List Op) : St := ops.foldl step s

/-- a fresh association: `newReceivePayloadQueue(m)` followed by `init(c)` -/
def start (m c : TSN) : St := sInit { q := new m, h := ⟨0, 0, fun _ => False, fun _ => False⟩ } c

/-- whatever every successful `pop(false)` preserves, the pop loop preserves -/
theorem popLoopS_inv {P : St → Prop} (hpop : ∀ s, P s → (pop s.q false).2 = true → P (sPop s false))
    (n : Nat) : ∀ {s : St}, P s → P (popLoopS n s) := by
  induction n with
  | zero => exact fun h => h
  | succ n ih =>
    intro s h
    simp only [popLoopS]
    split
    · rename_i hok; exact ih (hpop s h hok)
    · exact h

/-- a step is a composition of the bare queue operations: what they all preserve, it preserves -/
theorem step_inv {P : St → Prop} (hpush : ∀ s t, P s → P (sPush s t)) (hpop : ∀ s f, P s → P (sPop s f))
    (hadv : ∀ s c, P s → P (sAdv s c)) (hsack : ∀ s, P s → P { s with q := (popDuplicates s.q).1 })
    {s : St} (h : P s) (op : Op) (hinit : ∀ c, op = .init c → P (sInit s c)) : P (step s op) := by
  have hloop : ∀ {s}, P s → P (popAllS s) := popLoopS_inv (fun s h _ => hpop s false h) _
  cases op with
  | init c => exact hinit c rfl
  | push t => exact hpush s t h
  | pop f => exact hpop s f h
  | adv c => exact hadv s c h
  | data t st =>
    simp only [step, sData]; split
    · exact hloop (hpush s t h)
    · exact hloop h
  | fwd c =>
    simp only [step, sFwd]; split
    · exact h
    · exact hloop (hadv s c h)
  | sack => exact hsack s h

/-- invariant coupling the queue with the ghost history -/
structure GInv (s : St) : Prop where
  inv  : Inv s.q
  hcum : s.q.cum = s.h.c0 + BitVec.ofNat 32 s.h.A
  hacc : ∀ d, 1 ≤ d → (s.h.acc (s.h.A + d) ↔ heldAt s.q d)
  hS1  : ∀ k, 1 ≤ k → k ≤ s.h.A → s.h.acc k ∨ s.h.skp k

theorem sInit_ginv {s : St} (r : Ring s.q) (c : TSN) : GInv (sInit s c) where
  inv := init_inv r c
  hcum := by simp [sInit, init]
  hacc := by
    intro d hd
    simp only [sInit, heldAt, init, getBit_replicate]
    simp
  hS1 := by intro k h1 h2; simp only [sInit] at h2; omega

theorem sPush_ginv {s : St} (g : GInv s) (t : TSN) : GInv (sPush s t) where
  inv := push_inv g.inv t
  hcum := (push_cum _ _).trans g.hcum
  hacc := fun d hd => by
    rw [show (sPush s t).q = (push s.q t).1 from rfl, heldAt_push g.inv]
    exact or_congr (g.hacc d hd) (and_congr_right fun _ => by simp only [sPush]; omega)
  hS1 := fun k h1 h2 => (g.hS1 k h1 h2).imp Or.inl id

theorem off_add_one (c : TSN) : ((c + 1) - c).toNat = 1 := off_one c

/-- The queue's cumulative point moved forward by `e` (possibly 0), offsets were re-based
accordingly, the accepted set is the same and the skipped set grew: then the coupling survives,
provided the indices the cumulative point moved over are accounted for. -/
theorem GInv.move {s s' : St} (g : GInv s) (e : Nat) (I' : Inv s'.q)
    (hc0 : s'.h.c0 = s.h.c0) (hA : s'.h.A = s.h.A + e) (hacc : s'.h.acc = s.h.acc)
    (hcum : s'.q.cum = s.q.cum + BitVec.ofNat 32 e)
    (hh : ∀ d, 1 ≤ d → (heldAt s'.q d ↔ heldAt s.q (d + e)))
    (hskp : ∀ k, s.h.skp k → s'.h.skp k)
    (hnew : ∀ k, s.h.A < k → k ≤ s.h.A + e → s.h.acc k ∨ s'.h.skp k) : GInv s' where
  inv := I'
  hcum := by rw [hcum, g.hcum, hc0, hA, BitVec.add_assoc, ← BitVec.ofNat_add]
  hacc := fun d hd => by
    rw [hacc, hA, hh d hd, ← g.hacc (d + e) (by omega), show s.h.A + e + d = s.h.A + (d + e) by omega]
  hS1 := fun k k1 k2 => by
    rw [hacc]
    by_cases hk : k ≤ s.h.A
    · exact (g.hS1 k k1 hk).imp id (hskp k)
    · exact hnew k (by omega) (hA ▸ k2)

theorem GInv.stay {s s' : St} (g : GInv s) (hq : s'.q = s.q) (hc0 : s'.h.c0 = s.h.c0) (hA : s'.h.A = s.h.A)
    (hacc : s'.h.acc = s.h.acc) (hskp : ∀ k, s.h.skp k → s'.h.skp k) : GInv s' :=
  g.move 0 (hq ▸ g.inv) hc0 hA hacc (by rw [hq]; exact (BitVec.add_zero _).symm)
    (fun d _ => by rw [hq]; exact Iff.rfl) hskp (fun k h1 h2 => absurd h2 (by omega))

theorem sPop_ginv {s : St} (g : GInv s) (f : Bool) : GInv (sPop s f) := by
  have I := g.inv
  by_cases h : (pop s.q f).2 = true ∨ f = true
  · have R := pop_rebase I f h
    have hA : (sPop s f).h.A = s.h.A + 1 := by simp only [sPop, R.off_cum]
    refine g.move 1 (R.inv I) rfl hA rfl R.cum (R.heldAt I) (fun k => Or.inl) fun k k1 k2 => ?_
    have hk : k = s.h.A + 1 := by omega
    rcases h with h | h
    · exact Or.inl (hk ▸ (g.hacc 1 (Nat.le_refl _)).mpr ((pop_ok_iff I f).mp h))
    · exact Or.inr (Or.inr ⟨h, hk⟩)
  · rw [not_or, Bool.not_eq_true, Bool.not_eq_true] at h
    obtain ⟨h, rfl⟩ := h
    have hq : (sPop s false).q = s.q := pop_noop h
    exact g.stay hq rfl (by simp only [sPop, pop_noop h, off_self, Nat.add_zero]) rfl (fun k => Or.inl)

theorem sAdv_ginv {s : St} (g : GInv s) (c : TSN) : GInv (sAdv s c) := by
  have I := g.inv
  cases hl : sna32LT s.q.cum c
  · have hq : (sAdv s c).q = s.q := advance_noop hl
    exact g.stay hq rfl (by simp only [sAdv, advance_noop hl, off_self, Nat.add_zero]) rfl (fun k => Or.inl)
  · have R := advance_rebase I c hl
    have hA : (sAdv s c).h.A = s.h.A + (c - s.q.cum).toNat := by simp only [sAdv, R.off_cum]
    exact g.move _ (R.inv I) rfl hA rfl R.cum (R.heldAt I) (fun k => Or.inl)
      fun k k1 k2 => Or.inr (Or.inr ⟨hl, k1, k2⟩)

theorem step_ginv {s : St} (g : GInv s) (op : Op) : GInv (step s op) :=
  step_inv (P := GInv) (fun _ t g => sPush_ginv g t) (fun _ f g => sPop_ginv g f) (fun _ c g => sAdv_ginv g c)
    (fun _ g => ⟨inv_dups g.inv [], g.hcum, g.hacc, g.hS1⟩) g op (fun c _ => sInit_ginv g.inv.toRing c)

theorem start_ginv (m c : TSN) : GInv (start m c) := sInit_ginv (new_ring m) c

theorem run_ginv {s : St} (g : GInv s) (ops : List Op) : GInv (run s ops) :=
  ListAux.foldl_inv (P := GInv) ops g fun _ op _ g => step_ginv g op

end RecvQ
