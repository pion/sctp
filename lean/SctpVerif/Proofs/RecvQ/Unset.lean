import SctpVerif.Proofs.RecvQ.History
/-!
The number of UNSET slots of the receive queue — offsets `1 … tail−cum` above the cumulative point whose TSN has
not been received. It is the potential behind the memory bound (C11): at zero credit the association stores a
chunk only into such a slot, and no operation other than storing a chunk above the highest TSN received makes
their number grow.
-/
namespace RecvQ
open Gen Sna

instance (q : Q) (d : Nat) : Decidable (heldAt q d) := by unfold heldAt; infer_instance

/-! ### counting over an initial segment of the naturals -/

def cntRange (p : Nat → Bool) (n : Nat) : Nat := (List.range n).countP p

theorem cntRange_zero (p : Nat → Bool) : cntRange p 0 = 0 := rfl

theorem cntRange_succ (p : Nat → Bool) (n : Nat) : cntRange p (n + 1) = cntRange p n + (if p n then 1 else 0) := by
  simp [cntRange, List.range_succ, List.countP_append, List.countP_cons]

theorem cntRange_le (p : Nat → Bool) (n : Nat) : cntRange p n ≤ n := by
  induction n with
  | zero => simp [cntRange_zero]
  | succ n ih => rw [cntRange_succ]; split <;> omega

theorem cntRange_congr (p p' : Nat → Bool) (n : Nat) (h : ∀ d, d < n → p d = p' d) : cntRange p n = cntRange p' n := by
  induction n with
  | zero => rfl
  | succ n ih =>
    rw [cntRange_succ, cntRange_succ, ih (fun d hd => h d (by omega)), h n (by omega)]

/-- counting over `[0, e + m)` splits at `e` -/
theorem cntRange_add (p : Nat → Bool) (e m : Nat) :
    cntRange p (e + m) = cntRange p e + cntRange (fun d => p (d + e)) m := by
  induction m with
  | zero => rfl
  | succ m ih => rw [← Nat.add_assoc, cntRange_succ, cntRange_succ, ih, Nat.add_comm m e, Nat.add_assoc]

theorem cntRange_flip (p p' : Nat → Bool) (n j : Nat) (hj : j < n) (hp : p j = true) (hp' : p' j = false)
    (h : ∀ d, d < n → d ≠ j → p' d = p d) : cntRange p' n + 1 = cntRange p n := by
  induction n with
  | zero => omega
  | succ n ih =>
    rw [cntRange_succ, cntRange_succ]
    rcases Nat.lt_or_ge j n with hlt | hge
    · have := ih hlt (fun d hd hne => h d (by omega) hne)
      rw [h n (by omega) (by omega)]
      omega
    · have hjn : j = n := by omega
      subst hjn
      rw [hp, hp', cntRange_congr p' p j (fun d hd => h d (by omega) (by omega))]
      simp

theorem cntRange_lt (p : Nat → Bool) (n j : Nat) (hj : j < n) (hp : p j = false) : cntRange p n + 1 ≤ n := by
  induction n with
  | zero => omega
  | succ n ih =>
    rw [cntRange_succ]
    rcases Nat.lt_or_ge j n with hlt | hge
    · have := ih hlt; split <;> omega
    · have hjn : j = n := by omega
      subst hjn
      rw [hp]; have := cntRange_le p j; simp; omega

/-! ### unset slots -/

/-- number of offsets `1 … tail−cum` that are not held -/
def unset (q : Q) : Nat := cntRange (fun d => decide (¬ heldAt q (d + 1))) (dtail q)

theorem unset_le (q : Q) : unset q ≤ dtail q := cntRange_le _ _

/-- the highest slot is held, so at most `tail−cum−1` slots are unset -/
theorem unset_lt {q : Q} (I : Inv q) (hs : q.size ≠ 0) : unset q + 1 ≤ dtail q := by
  have hp := I.dtail_pos hs
  have ht := heldAt_tail I hs
  apply cntRange_lt _ _ (dtail q - 1) (by omega)
  rw [show dtail q - 1 + 1 = dtail q by omega]
  simp [ht]

theorem unset_empty {q : Q} (I : Inv q) (hs : q.size = 0) : unset q = 0 := by
  have : dtail q = 0 := by simp [dtail, I.ht0 hs]
  simp [unset, this, cntRange_zero]

theorem unset_bound {q : Q} (I : Inv q) (hm : 1 ≤ q.maxOff.toNat) : unset q + 1 ≤ q.maxOff.toNat := by
  by_cases hs : q.size = 0
  · rw [unset_empty I hs]; omega
  · have := unset_lt I hs; have := I.hb.1; omega

/-- a chunk stored into a gap (at or below the highest TSN received) uses up one unset slot -/
theorem unset_push_gap {q : Q} (I : Inv q) (t : TSN) (hr : (push q t).2 = true) (hle : (t - q.cum).toNat ≤ dtail q) :
    unset (push q t).1 + 1 = unset q := by
  obtain ⟨ha, hnh⟩ := (push_accept_iff I t).mp hr
  have a1 := ha.1
  have hnh' : ¬ heldAt q (t - q.cum).toNat := fun h => hnh ((held_iff_heldAt t).mpr h)
  have hd : dtail (push q t).1 = dtail q := by rw [push_accept_state t hr, dtail_pushed I ha]; omega
  unfold unset
  rw [hd]
  apply cntRange_flip _ _ (dtail q) ((t - q.cum).toNat - 1) (by omega)
  · show decide (¬ heldAt q ((t - q.cum).toNat - 1 + 1)) = true
    rw [show (t - q.cum).toNat - 1 + 1 = (t - q.cum).toNat by omega]
    exact decide_eq_true hnh'
  · show decide (¬ heldAt (push q t).1 ((t - q.cum).toNat - 1 + 1)) = false
    rw [show (t - q.cum).toNat - 1 + 1 = (t - q.cum).toNat by omega]
    exact decide_eq_false (fun hn => hn ((push_heldAt I t hr _).mpr (Or.inr rfl)))
  · intro d _ hne
    have : d + 1 ≠ (t - q.cum).toNat := by omega
    simp only [push_heldAt I t hr, this, or_false]

/-- after any accepted push the unset slots are fewer than the tracking window -/
theorem unset_push_any {q : Q} (I : Inv q) (t : TSN) (hr : (push q t).2 = true) :
    unset (push q t).1 + 1 ≤ q.maxOff.toNat := by
  have I' := push_inv I t
  have hs : (push q t).1.size ≠ 0 := by
    rw [push_accept_state t hr, pushed_size]; have := I.size_nonneg; omega
  have := unset_lt I' hs
  have := I'.hb.1
  rw [push_maxOff] at this
  omega

/-- when the cumulative point moves forward by `e` within the window, the slots `1 … e` leave the
count and the others are re-based -/
theorem Rebase.unset_add {q q' : Q} {e : Nat} (R : Rebase q q' e) (I : Inv q) (he : e ≤ dtail q) :
    unset q = cntRange (fun d => decide (¬ RecvQ.heldAt q (d + 1))) e + unset q' := by
  unfold unset
  rw [R.dt, show dtail q = e + (dtail q - e) by omega, cntRange_add, Nat.add_sub_cancel_left]
  congr 1
  apply cntRange_congr
  intro d _
  simp only [R.heldAt I (d + 1) (by omega), show d + e + 1 = d + 1 + e by omega]

theorem Rebase.unset_le {q q' : Q} {e : Nat} (R : Rebase q q' e) (I : Inv q) : unset q' ≤ unset q := by
  rcases Nat.le_total e (dtail q) with he | he
  · have := R.unset_add I he; omega
  · have : dtail q' = 0 := by have := R.dt; omega
    simp [unset, this, cntRange_zero]

/-- a successful pop keeps the number of unset slots -/
theorem unset_pop {q : Q} (I : Inv q) (hok : (pop q false).2 = true) : unset (pop q false).1 = unset q := by
  have h1 : heldAt q 1 := (pop_ok_iff I false).mp hok
  have := (pop_rebase I false (Or.inl hok)).unset_add I h1.2.1
  rw [cntRange_succ, cntRange_zero] at this
  simp only [h1, not_true_eq_false, decide_false, Bool.false_eq_true, ite_false] at this
  omega

theorem unset_popLoop (n : Nat) : ∀ {s : St}, Inv s.q → unset (popLoopS n s).q = unset s.q := fun {s} I =>
  (popLoopS_inv (P := fun s' => Inv s'.q ∧ unset s'.q = unset s.q)
    (fun _ h hok => ⟨pop_inv h.1 false, (unset_pop h.1 hok).trans h.2⟩) n ⟨I, rfl⟩).2

/-- `advance` (FORWARD-TSN) never adds unset slots -/
theorem unset_advance {q : Q} (I : Inv q) (c : TSN) : unset (advance q c) ≤ unset q := by
  cases hl : sna32LT q.cum c
  · rw [advance_noop hl]; exact Nat.le_refl _
  · exact (advance_rebase I c hl).unset_le I

/-- `popDuplicates` does not touch the bitmap -/
theorem unset_popDuplicates (q : Q) : unset (popDuplicates q).1 = unset q := rfl

end RecvQ
