import SctpVerif.Proofs.RecvQ.History
/-!
Shift invariance: `Shift k q q'` (`q'` is `q` with every TSN moved by `k`) is kept by every queue operation and
hence by runs with shifted ops (`shift_run`); related queues give the same booleans from `hasChunk`, `canPush`,
`push`, `pop` and the same `gaps`.
-/
namespace RecvQ
open Gen Sna

/-! ## shift invariance (C16 for this component) -/


/-- shifting two TSNs by the same amount preserves whether they share a bit -/
theorem pos_shift_iff {W : Nat} (hW : 0 < W) (hd : 64 * W ∣ 2^32) (t u k : TSN) :
    pos W (t + k) = pos W (u + k) ↔ pos W t = pos W u := by
  rw [pos_add hd, pos_add hd, pos_eq, pos_eq]
  have hN : 0 < 64 * W := by omega
  constructor
  · intro h
    rw [Nat.add_comm t.toNat, Nat.add_comm u.toNat, Nat.add_mod k.toNat t.toNat, Nat.add_mod k.toNat u.toNat] at h
    have h' := Nat.mod_lt t.toNat hN
    have h'' := Nat.mod_lt u.toNat hN
    -- (k%N + t%N) % N = (k%N + u%N) % N with both residues < N
    exact mod_window_inj h' h'' h
  · intro h
    rw [Nat.add_mod, h, ← Nat.add_mod]

/-- `q'` is `q` with every TSN shifted by `k` (the bitmap is the same ring, rotated) -/
structure Shift (k : TSN) (q q' : Q) : Prop where
  cum  : q'.cum = q.cum + k
  tail : q'.tail = q.tail + k
  size : q'.size = q.size
  mo   : q'.maxOff = q.maxOff
  bsz  : q'.bits.size = q.bits.size
  dups : q'.dups = q.dups.map (· + k)
  bits : ∀ t, getBit q'.bits (pos q.W (t + k)) = getBit q.bits (pos q.W t)

theorem Shift.W {k : TSN} {q q' : Q} (h : Shift k q q') : q'.W = q.W := by simp [Q.W, h.bsz]

theorem shift_hasChunk {k : TSN} {q q' : Q} (h : Shift k q q') (t : TSN) :
    hasChunk q' (t + k) = hasChunk q t := by
  simp only [hasChunk, h.cum, h.tail, h.size, h.W, lte32_shift, gt32_shift, h.bits]

theorem add_shift_comm (a b k : TSN) : a + k + b = a + b + k := by
  rw [BitVec.add_assoc, BitVec.add_comm k, ← BitVec.add_assoc]

theorem shift_canPush {k : TSN} {q q' : Q} (h : Shift k q q') (t : TSN) :
    canPush q' (t + k) = canPush q t := by
  simp only [canPush, shift_hasChunk h, h.cum, h.mo, lte32_shift, add_shift_comm q.cum q.maxOff k, gt32_shift]

/-- bit relation is preserved by writing the corresponding bits -/
theorem shift_setBit {k : TSN} {W : Nat} (hW : 0 < W) (hd : 64 * W ∣ 2^32) {b b' : Array Bool}
    (hs : b'.size = b.size) (hsz : b.size = 64 * W)
    (hb : ∀ t, getBit b' (pos W (t + k)) = getBit b (pos W t)) (u : TSN) (v : Bool) :
    ∀ t, getBit (setBit b' (pos W (u + k)) v) (pos W (t + k)) = getBit (setBit b (pos W u) v) (pos W t) := by
  intro t
  rw [getBit_setBit, getBit_setBit, hb t, hs, hsz]
  have l1 := pos_lt hW (u + k)
  have l2 := pos_lt hW u
  have hiff := pos_shift_iff hW hd u t k
  by_cases hp : pos W u = pos W t
  · rw [if_pos ⟨hiff.mpr hp, l1⟩, if_pos ⟨hp, l2⟩]
  · rw [if_neg (fun h => hp (hiff.mp h.1)), if_neg (fun h => hp h.1)]

theorem shift_push {k : TSN} {q q' : Q} (r : Ring q) (h : Shift k q q') (t : TSN) :
    (push q' (t + k)).2 = (push q t).2 ∧ Shift k (push q t).1 (push q' (t + k)).1 := by
  have e1 : sna32GT (t + k) (q'.cum + q'.maxOff) = sna32GT t (q.cum + q.maxOff) := by
    rw [h.cum, h.mo, add_shift_comm, gt32_shift]
  have e2 : sna32LTE (t + k) q'.cum = sna32LTE t q.cum := by rw [h.cum, lte32_shift]
  have e3 := shift_hasChunk h t
  have e4 : sna32GT (t + k) q'.tail = sna32GT t q.tail := by rw [h.tail, gt32_shift]
  simp only [push, e1, e2, e3, e4]
  by_cases c1 : sna32GT t (q.cum + q.maxOff) = true
  · simp only [c1, ite_true]; exact ⟨by trivial, h⟩
  · by_cases c2 : (sna32LTE t q.cum || hasChunk q t) = true
    · simp only [c1, c2, ite_true, Bool.false_eq_true, ite_false]
      exact ⟨by trivial, ⟨h.cum, h.tail, h.size, h.mo, h.bsz, by simp [h.dups], h.bits⟩⟩
    · simp only [c1, c2, Bool.false_eq_true, ite_false]
      refine ⟨by trivial, ⟨h.cum, ?_, by simp [h.size], h.mo, by simp [h.bsz], h.dups, ?_⟩⟩
      · simp only [h.tail]; split <;> rfl
      · have hW' : Q.W { q with bits := setBit q.bits (pos q.W t) true, size := q.size + 1,
                                tail := if sna32GT t q.tail then t else q.tail } = q.W := by simp [Q.W]
        simp only [hW', h.W]
        exact shift_setBit r.hW r.hdvd h.bsz r.hsz h.bits t true

theorem shift_pop {k : TSN} {q q' : Q} (r : Ring q) (h : Shift k q q') (f : Bool) :
    (pop q' f).2 = (pop q f).2 ∧ Shift k (pop q f).1 (pop q' f).1 := by
  have hcum1 : q'.cum + 1 = q.cum + 1 + k := by rw [h.cum, add_shift_comm]
  have hc : hasChunk q' (q'.cum + 1) = hasChunk q (q.cum + 1) := by
    rw [hcum1, shift_hasChunk h]
  refine ⟨by rw [pop_ok, pop_ok, hc], ?_⟩
  rw [pop_state, pop_state, hc]
  split
  · refine ⟨hcum1, h.tail, by rw [popped_size, popped_size, h.size], h.mo, by simp [h.bsz], h.dups, ?_⟩
    rw [popped_W, popped_bits, popped_bits, h.W, hcum1]
    exact shift_setBit r.hW r.hdvd h.bsz r.hsz h.bits _ false
  · split
    · refine ⟨hcum1, ?_, h.size, h.mo, h.bsz, h.dups, h.bits⟩
      rw [forced_tail, forced_tail, h.size, hcum1, h.tail]; split <;> rfl
    · exact h

theorem shift_clearRange {k : TSN} {W : Nat} (hW : 0 < W) (hd : 64 * W ∣ 2^32) (n : Nat) :
    ∀ (b b' : Array Bool) (s : Int) (st : TSN), b'.size = b.size → b.size = 64 * W →
      (∀ t, getBit b' (pos W (t + k)) = getBit b (pos W t)) →
      (clearRange W b' s (st + k) n).2 = (clearRange W b s st n).2 ∧
      (∀ t, getBit (clearRange W b' s (st + k) n).1 (pos W (t + k)) = getBit (clearRange W b s st n).1 (pos W t)) := by
  induction n with
  | zero => intro b b' s st _ _ hb; exact ⟨rfl, hb⟩
  | succ n ih =>
    intro b b' s st hs hsz hb
    simp only [clearRange, hb st]
    rw [add_shift_comm st 1 k]
    exact ih _ _ _ _ (by simp [hs]) (by simp [hsz]) (shift_setBit hW hd hs hsz hb st false)

theorem shift_advance {k : TSN} {q q' : Q} (r : Ring q) (h : Shift k q q') (c : TSN) :
    Shift k (advance q c) (advance q' (c + k)) := by
  rw [advance_state, advance_state, h.cum, h.tail, h.size, lt32_shift, lte32_shift]
  split
  · split
    · exact ⟨rfl, rfl, rfl, h.mo, by simp [advancedT, h.bsz], h.dups, by intro t; simp [advancedT]⟩
    · have hn : (c + k - (q.cum + k + 1) + 1) = (c - (q.cum + 1) + 1) := by rw [add_shift_comm, sub_shift32]
      obtain ⟨e1, e2⟩ := shift_clearRange (k := k) r.hW r.hdvd (c - (q.cum + 1) + 1).toNat q.bits q'.bits
        q.size (q.cum + 1) h.bsz r.hsz h.bits
      rw [← add_shift_comm q.cum 1 k] at e1 e2
      refine ⟨rfl, ?_, ?_, h.mo, ?_, h.dups, ?_⟩
      · simp only [advancedP, h.W, h.size, h.cum, h.tail, hn, e1]; split <;> rfl
      · simp only [advancedP, h.W, h.size, h.cum, hn, e1]
      · simp only [advancedP, clearRange_size, h.bsz]
      · simp only [advancedP, h.W, h.size, h.cum, hn]
        have : (advancedP q c).W = q.W := advancedP_W q c
        simp only [advancedP] at this
        rw [this]; exact e2
  · exact h

theorem shift_init {k : TSN} {q q' : Q} (h : Shift k q q') (c : TSN) :
    Shift k (init q c) (init q' (c + k)) :=
  ⟨rfl, rfl, rfl, h.mo, by simp [init, h.bsz], rfl, by intro t; simp [init]⟩

theorem shift_gapScan {k : TSN} {q q' : Q} (h : Shift k q q') (last n : Nat) : ∀ (d : Nat) (run : Option Nat),
    gapScan q' last n d run = gapScan q last n d run := by
  induction n with
  | zero => intro d run; rfl
  | succ n ih =>
    intro d run
    simp only [gapScan, h.W, h.cum]
    rw [add_shift_comm q.cum (BitVec.ofNat 32 d) k, h.bits]
    simp only [ih]

theorem shift_gaps {k : TSN} {q q' : Q} (h : Shift k q q') : gaps q' = gaps q := by
  have e1 : q.tail + k - (q.cum + k) = q.tail - q.cum := sub_shift32 _ _ _
  simp only [gaps, h.size, h.cum, h.tail, e1, add_shift_comm q.cum 1 k, lte32_shift, shift_gapScan h]

/-- every TSN argument of the op moved by `k`; `pop` and `sack` carry none -/
def shiftOp (k : TSN) : Op → Op
  | .init c => .init (c + k)
  | .push t => .push (t + k)
  | .pop f => .pop f
  | .adv c => .adv (c + k)
  | .data t st => .data (t + k) st
  | .fwd c => .fwd (c + k)
  | .sack => .sack

/-! The geometry of the bitmap is all the simulation needs, and every operation keeps it. -/

theorem push_ring {q : Q} (r : Ring q) (t : TSN) : Ring (push q t).1 :=
  r.of_eq (by
    simp only [push]; split
    · rfl
    · split
      · rfl
      · simp) (push_maxOff _ _)

theorem pop_ring {q : Q} (r : Ring q) (f : Bool) : Ring (pop q f).1 :=
  r.of_eq (by
    rw [pop_state]; split
    · simp
    · split <;> rfl) (pop_maxOff _ _)

theorem advance_ring {q : Q} (r : Ring q) (c : TSN) : Ring (advance q c) :=
  r.of_eq (by
    rw [advance_state]; split
    · split
      · simp [advancedT]
      · simp [advancedP, clearRange_size]
    · rfl) (advance_maxOff _ _)

theorem step_ring {s : St} (r : Ring s.q) (op : Op) : Ring (step s op).q :=
  step_inv (P := fun s => Ring s.q) (fun _ t r => push_ring r t) (fun _ f r => pop_ring r f)
    (fun _ c r => advance_ring r c) (fun _ r => r.of_eq rfl rfl) r op (fun c _ => init_ring r c)

theorem shift_popLoopS {k : TSN} (n : Nat) : ∀ {s s' : St}, Ring s.q → Shift k s.q s'.q →
    Shift k (popLoopS n s).q (popLoopS n s').q := by
  induction n with
  | zero => intro s s' _ h; exact h
  | succ n ih =>
    intro s s' r h
    obtain ⟨e, h'⟩ := shift_pop r h false
    simp only [popLoopS, e]
    split
    · exact ih (pop_ring r false) h'
    · exact h

theorem shift_step {k : TSN} {s s' : St} (r : Ring s.q) (h : Shift k s.q s'.q) (op : Op) :
    Shift k (step s op).q (step s' (shiftOp k op)).q := by
  cases op with
  | init c => exact shift_init h c
  | push t => exact (shift_push r h t).2
  | pop f => exact (shift_pop r h f).2
  | adv c => exact shift_advance r h c
  | data t st =>
    simp only [step, shiftOp, sData, popAllS, shift_canPush h]
    split
    · have h1 : Shift k (sPush s t).q (sPush s' (t + k)).q := (shift_push r h t).2
      rw [h1.size]; exact shift_popLoopS _ (push_ring r t) h1
    · rw [h.size]; exact shift_popLoopS _ r h
  | fwd c =>
    simp only [step, shiftOp, sFwd, popAllS, h.cum, lte32_shift]
    split
    · exact h
    · have h1 : Shift k (sAdv s c).q (sAdv s' (c + k)).q := shift_advance r h c
      rw [h1.size]; exact shift_popLoopS _ (advance_ring r c) h1
  | sack => exact ⟨h.cum, h.tail, h.size, h.mo, h.bsz, rfl, h.bits⟩

theorem shift_start (m c k : TSN) : Shift k (start m c).q (start m (c + k)).q :=
  ⟨rfl, rfl, rfl, rfl, rfl, rfl, by intro t; simp [start, sInit, init]⟩

/-- shift invariance of runs, from any two states related by the shift whose bitmap is a ring -/
theorem shift_run {k : TSN} (ops : List Op) : ∀ {s s' : St}, Ring s.q → Shift k s.q s'.q →
    Shift k (run s ops).q (run s' (ops.map (shiftOp k))).q := by
  induction ops with
  | nil => intro s s' _ h; exact h
  | cons op ops ih => intro s s' r h; exact ih (step_ring r op) (shift_step r h op)

end RecvQ
