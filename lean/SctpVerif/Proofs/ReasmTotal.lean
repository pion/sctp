import SctpVerif.Proofs.Reasm
/-!
The two places where `reassemblyQueue.pushWithError` would index an empty slice (`set.chunks[0]` in the
search for a fragmented set, `chunks[0]` of the run found by `findCompleteUnorderedChunkSet`) are
unreachable from a queue in which no ordered set is empty (`NoEmpty`): `pushWithError_no_panic`. Here are the
base case (`NoEmpty_new`) and the step (`step_noEmpty`: every operation keeps `NoEmpty`); they are put together as
`noEmpty_pres` in `Proofs/Receiver/Total.lean`. This file has no statement over `Q.run`.
-/
namespace Reasm
open Gen

/-- no `chunkSet` in `ordered` is empty -/
def NoEmpty (q : Q) : Prop := ∀ s ∈ q.ordered, s.chunks ≠ []

theorem NoEmpty_new (si : BitVec 16) (me : BitVec 32) : NoEmpty (new si me) := by
  intro s hs; simp [new] at hs

/-- the scan reports a non-empty run that lies inside the slice -/
theorem scanUnordered_bounds (cs : List Chunk) (i : Nat) (start : Option Nat) (n : Nat) (last : BitVec 32)
    (hst : ∀ s0, start = some s0 → s0 + n = i) (s k : Nat)
    (h : scanUnordered cs i start n last = some (s, k)) : s + k ≤ i + cs.length ∧ 1 ≤ k := by
  induction cs generalizing i start n last with
  | nil => simp [scanUnordered] at h
  | cons c cs ih =>
    simp only [scanUnordered] at h
    split at h
    · split at h
      · simp only [Option.some.injEq, Prod.mk.injEq] at h
        obtain ⟨rfl, rfl⟩ := h
        simp
      · have := ih (i + 1) (some i) 1 c.tsn (by intro s0 hs0; cases hs0; rfl) h
        simp only [List.length_cons]; omega
    · cases start with
      | none =>
        have := ih (i + 1) none n last (by intro s0 hs0; cases hs0) h
        simp only [List.length_cons]; omega
      | some s0 =>
        have hs0 := hst s0 rfl
        simp only at h
        split at h
        · have := ih (i + 1) none n last (by intro s0 hs0; cases hs0) h
          simp only [List.length_cons]; omega
        · split at h
          · simp only [Option.some.injEq, Prod.mk.injEq] at h
            obtain ⟨rfl, rfl⟩ := h
            simp only [List.length_cons]; omega
          · have := ih (i + 1) (some s0) (n + 1) c.tsn (by intro s1 hs1; cases hs1; omega) h
            simp only [List.length_cons]; omega

theorem findCompleteUnordered_no_panic (uc : List Chunk) : findCompleteUnorderedChunkSet uc ≠ .panic := by
  unfold findCompleteUnorderedChunkSet
  split
  · exact nofun
  · rename_i start n hsc
    have hb := scanUnordered_bounds uc 0 none 0 0 (by intro s0 hs0; cases hs0) start n hsc
    dsimp only
    split
    · rename_i hnil
      have hlen : ((uc.drop start).take n).length = 0 := by rw [hnil]; rfl
      simp only [List.length_take, List.length_drop] at hlen
      omega
    · exact nofun

theorem FindO.cons_panic (s : ChunkSet) (r : FindO) : (FindO.cons s r = .panic) ↔ r = .panic := by
  cases r <;> simp [FindO.cons]

theorem findFragSet_no_panic (ssn : BitVec 16) (l : List ChunkSet) (h : ∀ s ∈ l, s.chunks ≠ []) :
    findFragSet ssn l ≠ .panic := by
  induction l with
  | nil => simp [findFragSet]
  | cons s rest ih =>
    have ih' := ih (fun x hx => h x (List.mem_cons_of_mem _ hx))
    simp only [findFragSet]
    split
    · split
      · rename_i hc; exact absurd hc (h s List.mem_cons_self)
      · split
        · simp
        · rw [Ne, FindO.cons_panic]; exact ih'
    · rw [Ne, FindO.cons_panic]; exact ih'

/-- ✱ `pushWithError` never takes a panic branch from a queue without empty ordered sets -/
theorem pushWithError_no_panic (q : Q) (c : Chunk) (h : NoEmpty q) : (q.pushWithError c).2.2 ≠ .panic :=
  fun hp => ((pushWithError_pushed q c).pan hp).elim (findFragSet_no_panic c.ssn q.ordered h)
    (findCompleteUnordered_no_panic _)

/-! ### every operation keeps `NoEmpty` -/

theorem pushWithError_noEmpty (q : Q) (c : Chunk) (h : NoEmpty q) : NoEmpty (q.pushWithError c).1 :=
  fun s hs => ((pushWithError_effect q c).ord s hs).elim (h s) id

theorem read_noEmpty (q : Q) (n : Nat) (h : NoEmpty q) : NoEmpty (q.read n).1 := by
  rcases read_effect q n with e | ⟨_, _, _, _, _, _, _, _, ho⟩
  · rw [e]; exact h
  · exact fun s hs => h s (ho s hs)

theorem step_noEmpty (q : Q) (op : Op) (h : NoEmpty q) : NoEmpty (q.step op) := by
  cases op with
  | push c => exact pushWithError_noEmpty q c h
  | read n => exact read_noEmpty q n h
  | fwdO s =>
    intro x hx
    simp only [Q.step, Q.forwardTSNForOrdered] at hx
    rw [fwdOrderedLoop_eq] at hx
    exact h x (List.mem_filter.1 hx).1
  | fwdU t =>
    intro x hx
    simp only [Q.step, Q.forwardTSNForUnordered] at hx
    split at hx <;> exact h x hx
  | fwdOM m => intro x hx; simp only [Q.step, Q.forwardTSNForOrderedMID] at hx; exact h x hx
  | fwdUM m => intro x hx; simp only [Q.step, Q.forwardTSNForUnorderedMID] at hx; exact h x hx

end Reasm
