import SctpVerif.Model.Handshake
import SctpVerif.Proofs.ListAux
/-!
Invariants of the handshake / negotiation model `Hs` over every operation list
(every loss / duplication / reordering pattern, both start orders, all 16 option combinations).

`Handled` lists the outcomes of the four chunk handlers; an invariant is a family of endpoint predicates kept by
every endpoint action (`Kept`), which `Kept.run` lifts to the two-endpoint system and its packet histories.
-/
namespace Hs

def Seen (e : Ep) : Prop := e.hasCookie = true ∨ e.st = stCookieEchoed ∨ e.st = stEstablished

def Derived (e : Ep) : Prop :=
  e.uil = (e.il && e.pil) ∧ e.uifwd = (e.il && e.pil && e.pifwd) ∧ e.ufwd = (!(e.il && e.pil) && e.pfwd)

def MsgFrom (il zc : Bool) : Msg → Prop
  | .init t z => t = extTypes il ∧ z = zcParam zc
  | .initAck t z _ => t = extTypes il ∧ z = zcParam zc
  | _ => True

def PktFrom (il zc pzc : Bool) (p : Pkt) : Prop :=
  MsgFrom il zc p.msg ∧ (p.zeroCk = true → pzc = true ∧ (match p.msg with | .init .. => False | .cookieEcho .. => False | _ => True))

structure EpInv (e : Ep) (il zc : Bool) (id : Nat) (pil pzc : Bool) : Prop where
  cfg : e.il = il ∧ e.zc = zc ∧ e.id = id
  derived : Derived e
  zero : e.sendZero = true → pzc = true
  seen : Seen e → e.pil = pil ∧ e.pfwd = true ∧ e.pifwd = pil
  unseen : ¬ Seen e → e.pil = false ∧ e.pfwd = false ∧ e.pifwd = false ∧ e.sendZero = false
  states : e.st = stClosed ∨ e.st = stCookieWait ∨ e.st = stCookieEchoed ∨ e.st = stEstablished
  queued : ∀ m ∈ e.queue, MsgFrom il zc m

/-- `Handled e m r`: endpoint `e` ignores chunk `m`, or the guard of its handler holds and `r` is the new state with the reply -/
inductive Handled (e : Ep) : Msg → Ep × List Msg → Prop
  | ignore {m : Msg} : Handled e m (e, [])
  | init {t : List Nat} {z : Option Nat} : e.st ≠ stEstablished →
      Handled e (.init t z)
        ({ updateIl (learnPeer e t z) with hasCookie := true }, [.initAck (extTypes e.il) (zcParam e.zc) e.id])
  | initAck {t : List Nat} {z : Option Nat} {c : Nat} : e.st = stCookieWait →
      Handled e (.initAck t z c)
        ({ updateIl (learnPeer e t z) with
            storedInit := false, storedCookie := some c, st := stCookieEchoed, t1i := false, t1c := true },
         [.cookieEcho c])
  | dupEcho : e.st = stEstablished → Handled e (.cookieEcho e.id) (e, [.cookieAck])
  | echo : e.hasCookie = true → e.st ≠ stEstablished →
      Handled e (.cookieEcho e.id)
        (establish { e with storedInit := false, storedCookie := none, t1i := false, t1c := false }, [.cookieAck])
  | ack : e.st = stCookieEchoed →
      Handled e .cookieAck (establish { e with storedCookie := none, t1c := false }, [])

theorem handleInit_cases (e : Ep) (t : List Nat) (z : Option Nat) : Handled e (.init t z) (handleInit e t z) := by
  unfold handleInit
  split
  · exact .ignore
  · next h => exact .init fun he => h (by rw [he]; rfl)

theorem handleInitAck_cases (e : Ep) (t : List Nat) (z : Option Nat) (c : Nat) :
    Handled e (.initAck t z c) (handleInitAck e t z c) := by
  unfold handleInitAck
  split
  · exact .ignore
  · next h => exact .initAck (by simpa using h)

theorem handleCookieEcho_cases (e : Ep) (c : Nat) : Handled e (.cookieEcho c) (handleCookieEcho e c) := by
  unfold handleCookieEcho
  by_cases hid : (c != e.id) = true
  · -- a cookie that is not its own is ignored in every state
    simp only [if_pos hid, ite_self]
    exact .ignore
  rw [if_neg hid, if_neg hid, show c = e.id by simpa using hid]
  by_cases hc : (!e.hasCookie) = true
  · rw [if_pos hc]
    exact .ignore
  by_cases he : (e.st == stEstablished) = true
  · rw [if_neg hc, if_pos he]
    exact .dupEcho (by simpa using he)
  by_cases hs : (e.st == stClosed || e.st == stCookieWait || e.st == stCookieEchoed) = true
  · rw [if_neg hc, if_neg he, if_pos hs]
    exact .echo (by simpa using hc) (by simpa using he)
  · rw [if_neg hc, if_neg he, if_neg hs]
    exact .ignore

theorem handleCookieAck_cases (e : Ep) : Handled e .cookieAck (handleCookieAck e) := by
  unfold handleCookieAck
  split
  · exact .ignore
  · next h => exact .ack (by simpa using h)

theorem handle_cases (e : Ep) (p : Pkt) : Handled e p.msg (handle e p) := by
  unfold handle
  split
  · exact .ignore
  · cases p.msg with
    | init t z => exact handleInit_cases e t z
    | initAck t z c => exact handleInitAck_cases e t z c
    | cookieEcho c => exact handleCookieEcho_cases e c
    | cookieAck => exact handleCookieAck_cases e

theorem t1Init_fst (e : Ep) : (t1Init e).1 = e := by
  unfold t1Init
  split <;> rfl

theorem t1Cookie_fst (e : Ep) : (t1Cookie e).1 = e := by
  unfold t1Cookie
  split <;> rfl

def Out (I : Ep → Prop) (M : Msg → Prop) (r : Ep × List Msg) : Prop := I r.1 ∧ ∀ q ∈ r.2, M q

section
variable {I : Ep → Prop} {M : Msg → Prop} {e : Ep}

theorem Out.nil (h : I e) : Out I M (e, []) := ⟨h, List.forall_mem_nil _⟩

theorem Out.one {m : Msg} (h : I e) (hm : M m) : Out I M (e, [m]) := ⟨h, List.forall_mem_singleton.2 hm⟩

theorem Out.of_true {r : Ep × List Msg} (h : I r.1) : Out I (fun _ => True) r := ⟨h, fun _ _ => trivial⟩

end

/-- Endpoint predicates `I x`, with `M x` for the chunks endpoint `x` queues and `H x` for the packets it sends,
that every endpoint action keeps. `x` is the side as in `Op`: a packet sent by `x` is handled by `!x`. -/
structure Kept (I : Bool → Ep → Prop) (M : Bool → Msg → Prop) (H : Bool → Pkt → Prop) : Prop where
  start : ∀ x e, I x e → e.st = stClosed → Out (I x) (M x) (start e)
  handle : ∀ x e p, I (!x) e → H x p → Out (I (!x)) (M (!x)) (handle e p)
  t1Init : ∀ x e, I x e → ∀ q ∈ (t1Init e).2, M x q
  t1Cookie : ∀ x e, I x e → ∀ q ∈ (t1Cookie e).2, M x q
  flush : ∀ x r, Out (I x) (M x) r → I x (flush r.1 r.2).1 ∧ ∀ q ∈ (flush r.1 r.2).2, H x q
  enqueue : ∀ x r, Out (I x) (M x) r → I x { r.1 with queue := r.1.queue ++ r.2 }

def Holds (I : Bool → Ep → Prop) (H : Bool → Pkt → Prop) (s : Sys) : Prop :=
  ∀ x, I x (s.ep x) ∧ ∀ p ∈ (s.hist x).toList, H x p

section
variable {I : Bool → Ep → Prop} {M : Bool → Msg → Prop} {H : Bool → Pkt → Prop} {s : Sys}

theorem Holds.put (h : Holds I H s) (x : Bool) {e : Ep} {o : List Pkt} (he : I x e) (ho : ∀ q ∈ o, H x q) :
    Holds I H (s.put x e o) := by
  have hist : ∀ p ∈ ((s.hist x) ++ o.toArray).toList, H x p := fun p hp => by
    rw [Array.toList_append, List.mem_append] at hp
    exact hp.elim ((h x).2 p) (ho p)
  intro y
  cases x <;> cases y
  · exact ⟨he, hist⟩
  · exact h true
  · exact h false
  · exact ⟨he, hist⟩

namespace Kept
variable (K : Kept I M H) (h : Holds I H s)
include K h

theorem flushPut (x : Bool) {r : Ep × List Msg} (hr : Out (I x) (M x) r) :
    Holds I H (s.put x (Hs.flush r.1 r.2).1 (Hs.flush r.1 r.2).2) :=
  h.put x (K.flush x r hr).1 (K.flush x r hr).2

theorem out_t1Init (x : Bool) : Out (I x) (M x) (Hs.t1Init (s.ep x)) :=
  ⟨(t1Init_fst _).symm ▸ (h x).1, K.t1Init x _ (h x).1⟩

theorem out_t1Cookie (x : Bool) : Out (I x) (M x) (Hs.t1Cookie (s.ep x)) :=
  ⟨(t1Cookie_fst _).symm ▸ (h x).1, K.t1Cookie x _ (h x).1⟩

theorem step (op : Op) : Holds I H (s.step op) := by
  cases op with
  | start x =>
    simp only [Sys.step]
    split
    · next hc => exact K.flushPut h x (K.start x _ (h x).1 (beq_iff_eq.1 hc))
    · exact h
  | deliver x i =>
    simp only [Sys.step]
    split
    · exact h
    · next p hp =>
      exact K.flushPut h (!x) (K.handle x _ p (h (!x)).1 ((h x).2 p (Array.mem_toList_iff.2 (Array.mem_of_getElem? hp))))
  | t1Init x => exact K.flushPut h x (K.out_t1Init h x)
  | t1Cookie x => exact K.flushPut h x (K.out_t1Cookie h x)
  | t1Queue x cookie =>
    have hr : Out (I x) (M x) (if cookie then Hs.t1Cookie (s.ep x) else Hs.t1Init (s.ep x)) := by
      cases cookie
      · exact K.out_t1Init h x
      · exact K.out_t1Cookie h x
    exact h.put x (K.enqueue x _ hr) (List.forall_mem_nil _)
  | gather x => exact K.flushPut h x (r := (s.ep x, [])) (.nil (h x).1)

theorem run (ops : List Op) : Holds I H (s.run ops) :=
  ListAux.foldl_inv (P := Holds I H) ops h fun _ op _ h => K.step h op

end Kept
end

/-- what `learnPeer` reads off the extension list of a peer configured with `pil` -/
theorem learn_ext (pil : Bool) :
    hasType (extTypes pil) Gen.ctIData = pil ∧ hasType (extTypes pil) Gen.ctForwardTSN = true ∧
    hasType (extTypes pil) Gen.ctIForwardTSN = pil := by
  cases pil <;> decide

section
variable {e : Ep} {il zc : Bool} {id : Nat} {pil pzc : Bool}

theorem mkPkt_from {m : Msg} (hm : MsgFrom il zc m) (hz : e.sendZero = true → pzc = true) :
    PktFrom il zc pzc (mkPkt e m) := by
  unfold mkPkt PktFrom
  refine ⟨hm, ?_⟩
  cases m <;> simp <;> exact hz

/-- INIT and INIT-ACK: the peer's flags are learnt from parameters that say what the peer is configured to, and from
then on the peer has been seen (`hasCookie`, or COOKIE-ECHOED) -/
theorem learn_inv (hI : EpInv e il zc id pil pzc) {t : List Nat} {z : Option Nat}
    (hp : t = extTypes pil ∧ z = zcParam pzc) (hc : Bool) (st : Nat) (si : Bool) (sc : Option Nat) (ti tc : Bool)
    (hs : hc = true ∨ st = stCookieEchoed)
    (hst : st = stClosed ∨ st = stCookieWait ∨ st = stCookieEchoed ∨ st = stEstablished) :
    EpInv { updateIl (learnPeer e t z) with
      hasCookie := hc, st := st, storedInit := si, storedCookie := sc, t1i := ti, t1c := tc } il zc id pil pzc := by
  have ht := hp.1 ▸ learn_ext pil
  have hz : zcLearn e.sendZero z = true → pzc = true := by
    rw [hp.2]
    cases pzc
    · exact hI.zero
    · exact fun _ => rfl
  unfold updateIl learnPeer
  exact ⟨hI.cfg, ⟨rfl, rfl, rfl⟩, hz, fun _ => ht, fun h => absurd (hs.imp_right .inl) h, hst, hI.queued⟩

/-- COOKIE-ECHO and COOKIE-ACK establish after dropping the stored chunks and stopping the timers, which the invariant
does not read -/
theorem establish_inv (hI : EpInv e il zc id pil pzc) (hs : Seen e) (si : Bool) (sc : Option Nat) (ti tc : Bool) :
    EpInv (establish { e with storedInit := si, storedCookie := sc, t1i := ti, t1c := tc }) il zc id pil pzc := by
  unfold establish updateIl
  exact ⟨hI.cfg, ⟨rfl, rfl, rfl⟩, hI.zero, fun _ => hI.seen hs, fun h => absurd (.inr (.inr rfl)) h,
    .inr (.inr (.inr rfl)), hI.queued⟩

theorem EpInv.own (hI : EpInv e il zc id pil pzc) : extTypes e.il = extTypes il ∧ zcParam e.zc = zcParam zc :=
  ⟨hI.cfg.1 ▸ rfl, hI.cfg.2.1 ▸ rfl⟩

/-- one inbound chunk from the (consistently configured) peer preserves the endpoint invariant,
and every chunk queued in reply is consistent with the endpoint's own configuration -/
theorem Handled.inv {m : Msg} {r : Ep × List Msg} (h : Handled e m r) (hI : EpInv e il zc id pil pzc)
    (hp : MsgFrom pil pzc m) : Out (EpInv · il zc id pil pzc) (MsgFrom il zc) r := by
  cases h with
  | ignore => exact .nil hI
  | init => exact .one (learn_inv hI hp true e.st _ _ _ _ (.inl rfl) hI.states) hI.own
  | initAck => exact .one (learn_inv hI hp e.hasCookie _ _ _ _ _ (.inr rfl) (.inr (.inr (.inl rfl)))) trivial
  | dupEcho => exact .one hI trivial
  | echo hc => exact .one (establish_inv hI (.inl hc) ..) trivial
  | ack hs => exact .nil (establish_inv hI (.inr (.inl hs)) ..)

end

/-- the system invariant: both endpoint invariants, and both packet histories consistent with
the configuration of the side that sent them -/
structure SysInv (s : Sys) (ilA zcA ilB zcB : Bool) : Prop where
  a : EpInv s.a ilA zcA 0 ilB zcB
  b : EpInv s.b ilB zcB 1 ilA zcA
  ha : ∀ p ∈ s.ha.toList, PktFrom ilA zcA zcB p
  hb : ∀ p ∈ s.hb.toList, PktFrom ilB zcB zcA p

/-- with `il x`, `zc x`, `id x` the configuration of side `x`: the `Kept` form of `SysInv` -/
theorem kept_inv (il zc : Bool → Bool) (id : Bool → Nat) :
    Kept (fun x e => EpInv e (il x) (zc x) (id x) (il !x) (zc !x)) (fun x => MsgFrom (il x) (zc x))
      (fun x => PktFrom (il x) (zc x) (zc !x)) where
  start _ e hI hc := by
    have hs : Seen (start e).1 ↔ Seen e := by
      simp [Seen, start, hc, stClosed, stCookieWait, stCookieEchoed, stEstablished]
    exact .one ⟨hI.cfg, hI.derived, hI.zero, fun h => hI.seen (hs.1 h), fun h => hI.unseen (mt hs.2 h),
      .inr (.inl rfl), hI.queued⟩ hI.own
  handle x _ p hI hp := by cases x <;> exact (handle_cases _ p).inv hI hp.1
  t1Init _ e hI := by
    unfold t1Init
    split
    · exact List.forall_mem_singleton.2 hI.own
    · exact List.forall_mem_nil _
  t1Cookie _ e _ := by
    unfold t1Cookie
    split
    · exact List.forall_mem_singleton.2 trivial
    · exact List.forall_mem_nil _
  -- the write loop marshals everything queued with the CURRENT flags: zero checksum only if the peer accepts it,
  -- never on INIT / COOKIE-ECHO
  flush _ _ := fun ⟨hI, hm⟩ =>
    ⟨⟨hI.cfg, hI.derived, hI.zero, hI.seen, hI.unseen, hI.states, List.forall_mem_nil _⟩, fun q hq => by
      obtain ⟨m, hm', rfl⟩ := List.mem_map.1 hq
      exact mkPkt_from ((List.mem_append.1 hm').elim (hI.queued m) (hm m)) hI.zero⟩
  enqueue _ _ := fun ⟨hI, hm⟩ =>
    ⟨hI.cfg, hI.derived, hI.zero, hI.seen, hI.unseen, hI.states,
      fun m h => (List.mem_append.1 h).elim (hI.queued m) (hm m)⟩

theorem fresh_inv (il zc : Bool) (id : Nat) (pil pzc : Bool) : EpInv { id := id, il := il, zc := zc } il zc id pil pzc :=
  ⟨⟨rfl, rfl, rfl⟩, by cases il <;> exact ⟨rfl, rfl, rfl⟩, nofun, nofun,
    fun _ => ⟨rfl, rfl, rfl, rfl⟩, .inl rfl, List.forall_mem_nil _⟩

theorem run_inv (ilA zcA ilB zcB : Bool) (ops : List Op) :
    SysInv ((Sys.init ilA zcA ilB zcB).run ops) ilA zcA ilB zcB := by
  have h := (kept_inv (cond · ilB ilA) (cond · zcB zcA) (cond · 1 0)).run (s := Sys.init ilA zcA ilB zcB)
    (fun x => by cases x <;> exact ⟨fresh_inv .., List.forall_mem_nil _⟩) ops
  exact ⟨(h false).1, (h true).1, (h false).2, (h true).2⟩

/-- what an established endpoint has negotiated, from its invariant -/
theorem established_flags (e : Ep) (il zc : Bool) (id : Nat) (pil pzc : Bool)
    (hI : EpInv e il zc id pil pzc) (he : e.st = stEstablished) :
    e.uil = (il && pil) ∧ e.uifwd = (il && pil) ∧ e.ufwd = !(il && pil) ∧ (e.sendZero = true → pzc = true) := by
  obtain ⟨s1, s2, s3⟩ := hI.seen (.inr (.inr he))
  have d := hI.derived
  rw [Derived, hI.cfg.1, s1, s2, s3, Bool.and_assoc, Bool.and_self, Bool.and_true] at d
  exact ⟨d.1, d.2.1, d.2.2, hI.zero⟩

/-- T1-init runs only in COOKIE-WAIT, T1-cookie only in COOKIE-ECHOED -/
def TInv (e : Ep) : Prop := (e.t1i = true → e.st = stCookieWait) ∧ (e.t1c = true → e.st = stCookieEchoed)

theorem updateIl_t (e : Ep) : (updateIl e).t1i = e.t1i ∧ (updateIl e).t1c = e.t1c ∧ (updateIl e).st = e.st := ⟨rfl, rfl, rfl⟩
theorem learnPeer_t (e : Ep) (ts : List Nat) (z : Option Nat) :
    (learnPeer e ts z).t1i = e.t1i ∧ (learnPeer e ts z).t1c = e.t1c ∧ (learnPeer e ts z).st = e.st := ⟨rfl, rfl, rfl⟩

theorem Handled.tinv {e : Ep} {m : Msg} {r : Ep × List Msg} (h : Handled e m r) (ht : TInv e) : TInv r.1 := by
  cases h with
  | ignore | init | dupEcho => exact ht
  | initAck => exact ⟨nofun, fun _ => rfl⟩
  | echo => exact ⟨nofun, nofun⟩
  | ack hs => exact ⟨fun h => absurd ((ht.1 h).symm.trans hs) (by decide), nofun⟩

theorem kept_tinv : Kept (fun _ => TInv) (fun _ _ => True) (fun _ _ => True) where
  start _ _ h hc := .of_true ⟨fun _ => rfl, fun ht => absurd ((h.2 ht).symm.trans hc) (by decide)⟩
  handle _ _ p h _ := .of_true ((handle_cases _ p).tinv h)
  t1Init _ _ _ _ _ := trivial
  t1Cookie _ _ _ _ _ := trivial
  flush _ _ hr := ⟨hr.1, fun _ _ => trivial⟩
  enqueue _ _ hr := hr.1

theorem tinv_of_init_run (ilA zcA ilB zcB : Bool) (ops : List Op) (x : Bool) :
    TInv (((Sys.init ilA zcA ilB zcB).run ops).ep x) :=
  (kept_tinv.run (fun x => ⟨by cases x <;> exact ⟨nofun, nofun⟩, fun _ _ => trivial⟩) ops x).1

/-- an established endpoint ignores every handshake chunk, except that it answers a COOKIE-ECHO carrying its own cookie -/
theorem Handled.established {e : Ep} {m : Msg} {r : Ep × List Msg} (h : Handled e m r) (he : e.st = stEstablished) :
    r.1 = e ∧ (r.2 = [] ∨ (∃ c, m = .cookieEcho c ∧ c = e.id ∧ r.2 = [.cookieAck])) := by
  cases h with
  | ignore => exact ⟨rfl, .inl rfl⟩
  | dupEcho => exact ⟨rfl, .inr ⟨_, rfl, rfl, rfl⟩⟩
  | init hs | echo _ hs => exact absurd he hs
  | initAck hs | ack hs => exact absurd (he.symm.trans hs) (by decide)

/-- with `k x` the state of side `x` at some moment: if it is established then, nothing but its control queue differs
from it later. The two states are compared with their queues emptied, so that `flush` and `enqueue` keep the
predicate by unfolding. -/
theorem kept_established (k : Bool → Ep) :
    Kept (fun x e => (k x).st = stEstablished → { e with queue := [] } = { k x with queue := [] })
      (fun _ _ => True) (fun _ _ => True) where
  start _ _ hI hc := .of_true fun hk => absurd (hc.symm.trans ((congrArg Ep.st (hI hk)).trans hk)) (by decide)
  handle _ e p hI _ := .of_true fun hk => by
    rw [((handle_cases e p).established ((congrArg Ep.st (hI hk)).trans hk)).1]
    exact hI hk
  t1Init _ _ _ _ _ := trivial
  t1Cookie _ _ _ _ _ := trivial
  flush _ _ hr := ⟨hr.1, fun _ _ => trivial⟩
  enqueue _ _ hr := hr.1

theorem established_absorbing (s : Sys) (ops : List Op) (x : Bool) (he : (s.ep x).st = stEstablished) :
    (s.run ops).ep x = { s.ep x with queue := ((s.run ops).ep x).queue } :=
  congrArg ({ · with queue := ((s.run ops).ep x).queue })
    (((kept_established s.ep).run (fun _ => ⟨fun _ => rfl, fun _ _ => trivial⟩) ops x).1 he)

end Hs
