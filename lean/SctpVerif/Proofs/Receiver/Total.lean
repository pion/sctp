import SctpVerif.Proofs.Receiver.Lift
/-!
Totality of the receive-half model (C03): the model's explicit panic outcome (`panicked`, set where Go would
index an empty slice inside `reassemblyQueue.pushWithError`) is unreachable. The invariant is `NoPanic`: no panic so far, and
`Reasm.NoEmpty` for the queue of every stream object (lifted by `noEmpty_pres`). Of the atomic writes only `store` can raise
the flag, and `pushWithError` does not panic on a `NoEmpty` queue (`act_noPanic`).
-/
namespace Receiver
open Gen

theorem noEmpty_pres : QPres Reasm.NoEmpty := ⟨Reasm.NoEmpty_new, Reasm.step_noEmpty⟩

@[simp] theorem abortPV_panicked (s : St) : (abortPV s).panicked = s.panicked := by
  rfl

@[simp] theorem staleFwd_panicked (s : St) : (staleFwd s).panicked = s.panicked := by
  rfl

/-- no panic so far, and no reassembly queue is in a state from which `pushWithError` could panic -/
def NoPanic (s : St) : Prop := s.panicked = false ∧ AllQ Reasm.NoEmpty s

theorem act_noPanic {s t : St} {n : Nat} (a : Act s n t) (h : NoPanic s) : NoPanic t := by
  refine ⟨?_, act_allQ (b := 0) (noEmpty_pres.graded _) a h.2⟩
  cases a with
  | pop | adv | dups | reasm | fwdU | read | readGone => exact h.1
  | create si a x => exact (panicked_of_kept (createStream_kept s si a)).trans h.1
  | unreg id => exact (panicked_of_kept (unregister_kept s id)).trans h.1
  | store c x pn ab hx _ _ hpn =>
    cases pn with
    | false => exact h.1
    | true => exact absurd (hpn rfl) (Reasm.pushWithError_no_panic x.q c (h.2.1 x (getS_mem hx).1))
  | other t _ _ _ _ hp => exact hp.trans h.1

theorem Acts.noPanic {s t : St} {n : Nat} (a : Acts s n t) (h : NoPanic s) : NoPanic t := Acts.inv0 act_noPanic a h

theorem handleChunk_noPanic {s : St} (h : NoPanic s) (c : InChunk) : NoPanic (handleChunk s c) := (handleChunk_acts s c).noPanic h

theorem step_noPanic {s : St} (h : NoPanic s) (op : Op) : NoPanic (step s op) := (step_acts s op).noPanic h

theorem run_noPanic (ops : List Op) {s : St} (h : NoPanic s) : NoPanic (run s ops) := (run_acts ops s).noPanic h

theorem init_noPanic (a b : BitVec 32) (c d e : Bool) (f : Int) (t : TSN) : NoPanic (init a b c d e f t) :=
  ⟨rfl, init_allQ _ a b c d e f t⟩

end Receiver
