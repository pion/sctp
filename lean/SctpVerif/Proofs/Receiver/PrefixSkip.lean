import SctpVerif.Proofs.Receiver.PrefixSkipQ
/-!
The receive-side simulation WITH skips, for ordered DATA (the one without skips is `Proofs/Receiver/Prefix.lean`): the
association next to the ghost receive queue (accepted / skipped TSN indices, `ReceiverPR.RInv`) and, for the stream under
study, the refinement `Reasm.SkipInv` of its reassembly queue (table of messages held, fragments handed over `P`, messages
delivered `D`). Inbound chunks: DATA fragments of the universe and FORWARD-TSN chunks.
Window: fewer than 2^15 messages on the stream in all (the table is anchored at floor 0).

Second of four files (`PrefixSkipQ` → this → `PrefixSkipRun` → `PrefixSkipDec`). Here: the ghosts `pushedC` / `pushedO` /
`pushedT`, the premises `GoodChunkS` and `EntOk` (the universe is `UnivS` of `Prefix.lean`), the invariant `PS`, and its two chunk steps
`PS.dataStep` and `PS.fwdStep`. Reads, the other ops, packets, runs, `FwdOk` and `skip_receiver` are in `PrefixSkipRun`.
`PS` is the `Frame` of `Prefix.lean` (with everything skippable: `Ab = True`), the queue of the stream as `Reasm.SkipQ`, and
two links between the ghost lists (`PS.of`); each step is the frame's step, the queue's step, and the links.
-/
namespace Receiver
open Gen

/-! ### ghosts of a receiver run: the TSNs `handleData` hands to `pushPayloadDataToStream` -/

def pushedC : St → List InChunk → List TSN
  | _, [] => []
  | s, ch :: cs => (match ch with | .data c _ => if pushes s c then [c.tsn] else [] | _ => []) ++ pushedC (handleChunk s ch) cs

def pushedO (s : St) : Op → List TSN
  | .pkt cs => pushedC (chunksStart s) cs
  | _ => []

def pushedT : St → List Op → List TSN
  | _, [] => []
  | s, op :: ops => pushedO s op ++ pushedT (step s op) ops

/-- a DATA fragment of the universe whose TSN names no other fragment of the stream under study, or a FORWARD-TSN whose
new cumulative TSN is one of the universe's -/
def GoodChunkS (U : UnivS) (S : Reasm.Sender) (ch : InChunk) : Prop :=
  (∃ S' ∈ U.senders, ∃ k i imm, k < S'.msgs.length ∧ i < S'.nf k ∧ ch = .data (S'.dataFrag k i) imm ∧
    ∀ k0 i0, k0 < S.msgs.length → i0 < S.nf k0 → (S.dataFrag k0 i0).tsn = (S'.dataFrag k i).tsn → S' = S ∧ k = k0 ∧ i = i0) ∨
  (∃ nc es n, ch = .fwd nc es ∧ n < U.N ∧ nc = U.t + BitVec.ofNat 32 n)

/-- the honest-sender premise of a FORWARD-TSN, seen from stream `S`: every entry naming the stream is the SSN of a message
`L` of the stream, and every message up to `L` that is not abandoned (`K`) has had all its fragments handed over (`G`) -/
def EntOk (S : Reasm.Sender) (K : Nat → Bool) (G : List TSN) (es : List (BitVec 16 × BitVec 16)) : Prop :=
  ∀ e ∈ es, e.1 = S.si → ∃ L, L < S.msgs.length ∧ e.2 = BitVec.ofNat 16 L ∧
    ∀ k, k < L + 1 → K k = false → ∀ i, i < S.nf k → (S.dataFrag k i).tsn ∈ G

structure PS (U : UnivS) (S : Reasm.Sender) (K : Nat → Bool) (s : St) (R : RecvQ.St) (G : List TSN)
    (c : Nat) (A : Reasm.Tab) (P : List (Nat × Nat)) (D : List Nat) : Prop where
  nr : NoReset s
  tb : TblOK s
  rinv : ReceiverPR.RInv U.t s R U.N (fun _ => True) G
  gacc : ∀ x ∈ G, ∃ k, R.h.acc k ∧ x = U.t + BitVec.ofNat 32 (k - 1)
  sk : Reasm.SkipInv S K (qOf s S.si) 0 c A P D
  qne : Reasm.NoEmpty (qOf s S.si)
  qme : (qOf s S.si).maxEntries = 0
  pg : ∀ k i, k < S.msgs.length → i < S.nf k → ((k, i) ∈ P ↔ (S.dataFrag k i).tsn ∈ G)
  cl : c ≤ S.msgs.length

theorem PS.frame {U : UnivS} {S : Reasm.Sender} {K s R G c A P D} (h : PS U S K s R G c A P D) :
    Frame U.t U.N (fun _ => True) s R G := ⟨h.nr, h.tb, h.rinv⟩

theorem PS.q {U : UnivS} {S : Reasm.Sender} {K s R G c A P D} (h : PS U S K s R G c A P D) :
    Reasm.SkipQ S K (qOf s S.si) c A P D := ⟨h.sk, h.qne, h.qme, h.cl⟩

/-- `PS` from its parts: the frame, the queue of the stream, and the two ghost links — `G` lists accepted TSNs, `P` is the
part of `G` on the stream -/
theorem PS.of {U : UnivS} {S : Reasm.Sender} {K s R G c A P D} (f : Frame U.t U.N (fun _ => True) s R G)
    (gacc : ∀ x ∈ G, ∃ k, R.h.acc k ∧ x = U.t + BitVec.ofNat 32 (k - 1)) (q : Reasm.SkipQ S K (qOf s S.si) c A P D)
    (pg : ∀ k i, k < S.msgs.length → i < S.nf k → ((k, i) ∈ P ↔ (S.dataFrag k i).tsn ∈ G)) : PS U S K s R G c A P D :=
  ⟨f.nr, f.tb, f.rinv, gacc, q.sk, q.ne, q.me, pg, q.cl⟩

theorem gacc_chunk {t : TSN} {G : List TSN} {R : RecvQ.St} (h : ∀ x ∈ G, ∃ k, R.h.acc k ∧ x = t + BitVec.ofNat 32 (k - 1))
    (s : St) (ch : InChunk) : ∀ x ∈ G, ∃ k, (RecvQ.run R (chunkTrace s ch)).h.acc k ∧ x = t + BitVec.ofNat 32 (k - 1) :=
  fun x hx => let ⟨k, a1, a2⟩ := h x hx; ⟨k, chunk_acc_mono s ch R k a1, a2⟩

/-- ✱ a DATA fragment of the universe whose TSN names no other fragment of the stream keeps `PS`: its TSN joins the ghost
list `G` exactly when `handleData` hands it to its stream (`pushes`), which happens at most once per fragment (`Frame.data`),
so the push step of `SkipInv` applies; `c` and the delivered list `D` do not change -/
theorem PS.dataStep {U : UnivS} {S : Reasm.Sender} {K s R G c A P D} (h : PS U S K s R G c A P D) (hS : S ∈ U.senders)
    (hlen : S.msgs.length < 2^15)
    (S' : Reasm.Sender) (hS' : S' ∈ U.senders) (k i : Nat) (imm : Bool) (hk : k < S'.msgs.length) (hi : i < S'.nf k)
    (hinj : ∀ k0 i0, k0 < S.msgs.length → i0 < S.nf k0 → (S.dataFrag k0 i0).tsn = (S'.dataFrag k i).tsn → S' = S ∧ k = k0 ∧ i = i0) :
    ∃ A' P', PS U S K (handleChunk s (.data (S'.dataFrag k i) imm)) (RecvQ.run R (chunkTrace s (.data (S'.dataFrag k i) imm)))
      (G ++ (if pushes s (S'.dataFrag k i) then [(S'.dataFrag k i).tsn] else [])) c A' P' D := by
  have hN := U.hN
  have hj := U.idx S' hS' k i hk hi
  have htsn := dataFrag_tsn U hS' k i
  obtain ⟨hfr, hq, hpush⟩ := h.frame.data hN (S'.dataFrag k i) imm hj htsn S.si
  have hgmono := gacc_chunk h.gacc s (.data (S'.dataFrag k i) imm)
  generalize hcd : S'.dataFrag k i = cd at *
  by_cases hp : pushes s cd = true
  · -- handed to its stream
    obtain ⟨hacc', hfresh⟩ := hpush hp
    rw [hp] at hfr ⊢
    simp only [if_true] at hfr ⊢
    have hgacc : ∀ x ∈ G ++ [cd.tsn], ∃ k', (RecvQ.run R (chunkTrace s (.data cd imm))).h.acc k' ∧ x = U.t + BitVec.ofNat 32 (k' - 1) := by
      intro x hx
      rcases List.mem_append.1 hx with hx | hx
      · exact hgmono x hx
      · simp only [List.mem_singleton] at hx
        exact ⟨S'.base k + i + 1, hacc', by rw [hx, htsn]; simp⟩
    by_cases hsi : S.si = cd.si
    · have hTT : S' = S := by
        apply U.si S hS S' hS'
        rw [← hcd] at hsi; exact hsi.symm
      subst hTT
      have hnotin : (k, i) ∉ P := by
        intro hmem
        have hg := (h.pg k i hk hi).1 hmem
        rw [hcd] at hg
        obtain ⟨k', a1, a2⟩ := h.gacc _ hg
        obtain ⟨b1, b2, _⟩ := h.rinv.acc k' a1
        rw [htsn] at a2
        have := Sna.add_ofNat_inj U.t (by omega) (by omega) a2
        have hk' : k' = S'.base k + i + 1 := by omega
        rw [hk'] at a1
        exact hfresh a1
      obtain ⟨A', hq'⟩ := h.q.push (U.wf S' hS) hlen hk hi hnotin
      refine ⟨A', (k, i) :: P, PS.of hfr hgacc (by rw [hq, if_pos ⟨hp, hsi⟩, ← hsi, ← hcd]; exact hq') ?_⟩
      intro k0 i0 hk0 hi0
      constructor
      · intro hm
        rcases List.mem_cons.1 hm with e | hm
        · cases e; rw [hcd]; exact List.mem_append_right _ (by simp)
        · exact List.mem_append_left _ ((h.pg k0 i0 hk0 hi0).1 hm)
      · intro hm
        rcases List.mem_append.1 hm with hm | hm
        · exact List.mem_cons_of_mem _ ((h.pg k0 i0 hk0 hi0).2 hm)
        · simp only [List.mem_singleton] at hm
          obtain ⟨_, e1', e2'⟩ := hinj k0 i0 hk0 hi0 hm
          rw [e1', e2']; exact List.mem_cons_self
    · refine ⟨A, P, PS.of hfr hgacc (by rw [hq, if_neg (fun hc' => hsi hc'.2)]; exact h.q) ?_⟩
      intro k0 i0 hk0 hi0
      rw [h.pg k0 i0 hk0 hi0]
      constructor
      · intro hm; exact List.mem_append_left _ hm
      · intro hm
        rcases List.mem_append.1 hm with hm | hm
        · exact hm
        · simp only [List.mem_singleton] at hm
          obtain ⟨e0, _, _⟩ := hinj k0 i0 hk0 hi0 hm
          exfalso; apply hsi; rw [← hcd, e0]; rfl
  · -- nothing reaches a stream
    have hp' : pushes s cd = false := by simpa using hp
    rw [hp'] at hfr ⊢
    simp only [Bool.false_eq_true, if_false, List.append_nil] at hfr ⊢
    exact ⟨A, P, PS.of hfr hgmono (by rw [hq, if_neg (fun hc' => hp hc'.1)]; exact h.q) h.pg⟩

/-- ✱ a FORWARD-TSN whose new cumulative TSN is one of the universe's keeps `PS`, provided that — if the receiver takes
it — its entries satisfy `EntOk`: not taken, no queue changes; taken, the ordered skips of the entries naming the stream are
`SkipInv.skip` steps (`SkipQ.skips`) and the unordered skip is `SkipInv.fwdU` (`Frame.fwd`). `G`, `P`, `D` do not change -/
theorem PS.fwdStep {U : UnivS} {S : Reasm.Sender} {K s R G c A P D} (h : PS U S K s R G c A P D) (hS : S ∈ U.senders)
    (hlen : S.msgs.length < 2^15) (nc : TSN) (es : List (BitVec 16 × BitVec 16)) (n : Nat) (hn : n < U.N)
    (hnc : nc = U.t + BitVec.ofNat 32 n)
    (hent : chunkTrace s (.fwd nc es) = [.fwd nc] → EntOk S K G es) :
    ∃ c' A', PS U S K (handleChunk s (.fwd nc es)) (RecvQ.run R (chunkTrace s (.fwd nc es))) G c' A' P D := by
  obtain ⟨hfr, hq | ⟨htr, b, hq⟩⟩ := h.frame.fwd U.hN nc es hn hnc (fun _ _ => Or.inl trivial) S.si
  all_goals have hgacc := gacc_chunk h.gacc s (.fwd nc es)
  · exact ⟨c, A, PS.of hfr hgacc (by rw [hq]; exact h.q) h.pg⟩
  · have hl : ∀ e ∈ es.filter (fun e => e.1 == S.si), ∃ L, L < S.msgs.length ∧ e.2 = BitVec.ofNat 16 L ∧
        ∀ k, k < L + 1 → K k = false → ∀ i, i < S.nf k → (k, i) ∈ P := by
      intro e he
      obtain ⟨he1, he2⟩ := List.mem_filter.1 he
      obtain ⟨L, hL, heq, hall⟩ := hent htr e he1 (by simpa using he2)
      exact ⟨L, hL, heq, fun k hk hK i hi => (h.pg k i (by omega) hi).2 (hall k hk hK i hi)⟩
    obtain ⟨c', A', hq'⟩ := Reasm.SkipQ.skips (U.wf S hS) hlen _ hl h.q
    refine ⟨c', A', PS.of hfr hgacc ?_ h.pg⟩
    rw [hq]
    cases b
    · exact hq'
    · exact hq'.fwdU nc

end Receiver
