import SctpVerif.Proofs.Receiver.Dedup
import SctpVerif.Proofs.ReasmOrd
import SctpVerif.Proofs.ListAux
/-!
The simulation behind the receive-side system theorem (C01), for ANY arrival history of DATA chunks drawn from the
fragment universe `Univ` of a message list per stream (plus HEARTBEATs; no FORWARD-TSN, no reset).

Every receive-side simulation has the same `Frame`: the stream table has one entry per stream id and was never reset, and
the association runs next to the ghost-instrumented receive queue (`ReceiverPR.RInv`, `Proofs/Receiver/Dedup.lean`). Its
steps say what an operation does to the frame AND to the reassembly queue of one stream: `Frame.data` (the chunk is pushed
iff `pushes`, and then its absolute index is accepted for the first time), `Frame.nonpkt` (nothing, or one successful
`read`), `Frame.sameTbl` (`handleChunksStart` / `handleChunksEnd` around the chunks of a packet); `Frame.fwd` is in
`PrefixSkipQ.lean`. Here the frame carries `PInv` (nothing ever skipped; for the stream under study a reassembly-queue
refinement given abstractly as `SSpec`): "accepted for the first time" is the "not pushed before" premise of
`SSpec.inv_push`. `prefix_main`: the successful reads on the stream are a prefix of its messages; `receiver_prefix` states it
for a list of senders and a family of refinements, instantiated with `OrdInv` (`specData`, `prefix_data`) and `MidInv`
(`specIData`). Also here: `ReadSCTP` on a table with one entry per stream id (`read_table`), and `pushes_chunksStart`.
-/
namespace Receiver
open Gen

/-- what the per-stream refinement proofs of `Proofs/ReasmOrd.lean` provide, for one stream -/
structure SSpec where
  S : Reasm.Sender
  frag : Nat → Nat → Reasm.Chunk          -- fragment `i` of message `k` as it arrives
  idx : Nat → Nat → Nat                   -- its TSN, counted from the peer's initial TSN
  W : Nat                                 -- the sequence-number window (2^15 for SSN, 2^31 for MID)
  Inv : Reasm.Q → Nat → Reasm.Tab → List (Nat × Nat) → Prop
  inv_new : ∀ me, Inv (Reasm.new S.si me) 0 [] []
  inv_push : ∀ {q d A P k i}, Inv q d A P → k < S.msgs.length → i < S.nf k → (k, i) ∉ P → k < d + W →
      ∃ A', Inv (q.pushWithError (frag k i)).1 d A' ((k, i) :: P)
  inv_read : ∀ {q d A P} (n : Nat), Inv q d A P →
      ((q.read n).2.err ≠ .ok ∧ (q.read n).1 = q) ∨
      ((q.read n).2.err = .ok ∧ d < S.msgs.length ∧ (q.read n).2.ppi = (S.msg d).ppi ∧
        (q.read n).2.data = (S.msg d).payload ∧ ∃ A', Inv (q.read n).1 (d + 1) A' P)
  frag_si : ∀ k i, (frag k i).si = S.si

/-- the chunks an honest peer can ever put on the wire towards this association: per stream a message list cut
into fragments, every fragment with its own TSN `t + idx k i`, fewer than 2^31 TSNs in all -/
structure Univ where
  t : TSN
  N : Nat
  specs : List SSpec
  hN : N < 2^31
  tsn : ∀ T ∈ specs, ∀ k i, k < T.S.msgs.length → i < T.S.nf k →
      (T.frag k i).tsn = t + BitVec.ofNat 32 (T.idx k i) ∧ T.idx k i < N
  distinct : ∀ T ∈ specs, ∀ T' ∈ specs, T'.S.si = T.S.si → T' = T

/-- DATA chunks of the universe and HEARTBEATs: no FORWARD-TSN (every message is reliable), no stream reset -/
def GoodChunk (U : Univ) (ch : InChunk) : Prop :=
  (∃ info, ch = .hb info) ∨
  ∃ T ∈ U.specs, ∃ k i imm, k < T.S.msgs.length ∧ i < T.S.nf k ∧ ch = .data (T.frag k i) imm

def GoodOp (U : Univ) : Op → Prop
  | .pkt cs => ∀ ch ∈ cs, GoodChunk U ch
  | _ => True

/-- what a read op on stream `si` (any object of that stream id) returns to the application -/
def readOut (si : BitVec 16) (s : St) : Op → List (Reasm.PPI × List UInt8)
  | .read nm n => if nm.1 = si then
      (match (read s nm n).2 with | .ok _ ppi data => [(ppi, data)] | _ => []) else []
  | _ => []

/-- the successful reads on stream `si` along a run, in order -/
def delivs (si : BitVec 16) : St → List Op → List (Reasm.PPI × List UInt8)
  | _, [] => []
  | s, op :: ops => readOut si s op ++ delivs si (step s op) ops

/-- the window hypothesis the 16/32-bit sequence space forces: whenever a fragment of message `k` of this stream
is handed to the reassembly queue, fewer than `W` messages separate it from what the application has read -/
def Win (T : SSpec) (s : St) (d : Nat) (ops : List Op) : Prop :=
  ∀ ops1 cs1 k i imm cs2 ops2, ops = ops1 ++ Op.pkt (cs1 ++ InChunk.data (T.frag k i) imm :: cs2) :: ops2 →
    k < T.S.msgs.length → i < T.S.nf k →
    pushes (cs1.foldl handleChunk (chunksStart (run s ops1))) (T.frag k i) = true →
    k < d + (delivs T.S.si s ops1).length + T.W



/-! ### one stream of the table -/

/-- `handleChunk` on a DATA chunk, seen from one stream: the chunk is pushed to the queue of its stream iff `pushes` -/
theorem handleChunk_data_qOf (s : St) (c : Reasm.Chunk) (imm : Bool) (hn : NoReset s) (ht : TblOK s) (si : BitVec 16) :
    qOf (handleChunk s (.data c imm)) si =
      (if pushes s c = true ∧ si = c.si then ((qOf s c.si).pushWithError c).1 else qOf s si) ∧
    NoReset (handleChunk s (.data c imm)) ∧ TblOK (handleChunk s (.data c imm)) := by
  by_cases hne : c.userData = []
  · have e1 : handleChunk s (.data c imm) = abortPV s := by simp [handleChunk, hne]
    have hp : pushes s c = false := by simp [pushes, hne]
    rw [e1, hp]
    exact ⟨by simp [abortPV, qOf], hn, ht⟩
  · have hemp : c.userData.isEmpty = false := by simpa using hne
    have e1 : handleChunk s (.data c imm) = handleData s c imm := by simp [handleChunk, hemp]
    rw [e1]
    exact handleData_qOf s c imm hne hn ht si


theorem getS_map (l : List Stream) (g : Stream → Stream) (hg : ∀ y, (g y).si = y.si) (si : BitVec 16) :
    getS (l.map g) si = (getS l si).map g :=
  ListAux.find?_map_key (fun y : Stream => y.si) g hg l si

theorem getS_of_mem_nodup (l : List Stream) (hnd : (l.map (·.si)).Nodup) (x : Stream) (hx : x ∈ l) : getS l x.si = some x :=
  ListAux.find?_key_of_mem (f := fun y : Stream => y.si) (List.pairwise_map.mp hnd) hx

/-- with one entry per stream id, replacing the first match is replacing every match -/
theorem setFirst_eq_map (l : List Stream) (hnd : (l.map (·.si)).Nodup) (a : BitVec 16) (i : Nat) (v : Stream) :
    setFirst (fun y => y.si == a && y.inc == i) v l = l.map (fun y => if (y.si == a && y.inc == i) = true then v else y) := by
  induction l with
  | nil => rfl
  | cons z l ih =>
    simp only [List.map_cons, List.nodup_cons] at hnd
    simp only [setFirst, List.map_cons]
    split
    · rename_i hz
      congr 1
      -- no other entry has this stream id
      have hzs : z.si = a := by simp only [Bool.and_eq_true, beq_iff_eq] at hz; exact hz.1
      symm
      calc l.map (fun y => if (y.si == a && y.inc == i) = true then v else y) = l.map id := by
            apply List.map_congr_left
            intro y hy
            have : y.si ≠ a := by
              intro e; apply hnd.1; rw [hzs, ← e]; exact List.mem_map_of_mem hy
            simp [this]
        _ = l := List.map_id _
    · congr 1
      exact ih hnd.2

/-- `ReadSCTP` on a table with one entry per stream id: no such object, or the object `getS` finds for its stream id
is read, every other stream keeps its queue and the table invariants stay -/
theorem read_table {s : St} (hnr : NoReset s) (htb : TblOK s) (nm : Name) (n : Nat) :
    read s nm n = (s, .nostream) ∨
    ∃ x, getS s.streams nm.1 = some x ∧ (read s nm n).2 = (readStream x n).2 ∧
      NoReset (read s nm n).1 ∧ TblOK (read s nm n).1 ∧
      qOf (read s nm n).1 nm.1 = (readStream x n).1.q ∧ ∀ si, si ≠ nm.1 → qOf (read s nm n).1 si = qOf s si := by
  cases hf : s.streams.find? (fun x => x.si == nm.1 && x.inc == nm.2) with
  | none =>
    left
    unfold read; rw [hf]; dsimp only; rw [hnr.2]; rfl
  | some x =>
    right
    have hxs : x.si = nm.1 := by
      have := List.find?_some hf; simp only [Bool.and_eq_true, beq_iff_eq] at this; exact this.1
    let g : Stream → Stream := fun y => if (y.si == nm.1 && y.inc == nm.2) = true then (readStream x n).1 else y
    have hrsi : (readStream x n).1.si = nm.1 := by
      have : (readStream x n).1.si = x.si := by unfold readStream; dsimp only; split <;> rfl
      rw [this, hxs]
    have hr : read s nm n = ({ s with streams := s.streams.map g }, (readStream x n).2) := by
      unfold read; rw [hf]
      dsimp only
      rw [setFirst_eq_map s.streams htb nm.1 nm.2]
    have hgsi : ∀ y, (g y).si = y.si := by
      intro y
      show (if (y.si == nm.1 && y.inc == nm.2) = true then (readStream x n).1 else y).si = y.si
      split
      · rename_i hy
        simp only [Bool.and_eq_true, beq_iff_eq] at hy
        rw [hrsi, hy.1]
      · rfl
    have hgx : getS s.streams nm.1 = some x := by
      rw [← hxs]; exact getS_of_mem_nodup _ htb x (List.mem_of_find?_eq_some hf)
    have hqOf : ∀ si, qOf ({ s with streams := s.streams.map g } : St) si =
        ((getS s.streams si).map (fun y => (g y).q)).getD (Reasm.new si s.maxEntries) := by
      intro si
      show ((getS (s.streams.map g) si).map (·.q)).getD _ = _
      rw [getS_map _ g hgsi]
      cases getS s.streams si <;> rfl
    rw [hr]
    refine ⟨x, hgx, rfl, hnr, ?_, ?_, ?_⟩
    · unfold TblOK
      show ((s.streams.map g).map (·.si)).Nodup
      rw [List.map_map, show ((fun x => x.si) ∘ g) = fun x => x.si from funext hgsi]
      exact htb
    · rw [hqOf, hgx]
      show (if (x.si == nm.1 && x.inc == nm.2) = true then (readStream x n).1 else x).q = _
      rw [if_pos (List.find?_some hf)]
    · intro si hsi
      rw [hqOf]
      unfold qOf
      cases hgs : getS s.streams si with
      | none => rfl
      | some y =>
        have : g y = y := by
          show (if (y.si == nm.1 && y.inc == nm.2) = true then (readStream x n).1 else y) = y
          rw [if_neg]
          simp only [Bool.and_eq_true, beq_iff_eq, not_and]
          intro e; exact absurd ((getS_mem hgs).2.symm.trans e) hsi
        simp [this]

/-- `ReadSCTP` returns a message exactly when the queue's `read` succeeds, and then the object holds the queue after it -/
theorem readStream_cases (x : Stream) (n : Nat) :
    ((x.q.read n).2.err ≠ .ok ∧ (readStream x n).1.q = x.q ∧
      (match (readStream x n).2 with | .ok _ ppi data => [(ppi, data)] | _ => []) = ([] : List (Reasm.PPI × List UInt8))) ∨
    ((x.q.read n).2.err = .ok ∧ (readStream x n).1.q = (x.q.read n).1 ∧
      (readStream x n).2 = .ok (x.q.read n).2.n (x.q.read n).2.ppi (x.q.read n).2.data) := by
  unfold readStream
  dsimp only
  split
  · rename_i he; exact .inr ⟨he, rfl, rfl⟩
  · rename_i he; exact .inl ⟨by rw [he]; simp, rfl, rfl⟩
  · rename_i he; exact .inl ⟨by rw [he]; simp, rfl, by cases x.readErr <;> rfl⟩

/-- ✱ an operation that is not a packet, seen from stream `si`: the table invariants stay; either the queue of the stream is
left alone and nothing is returned on it, or the operation is a `ReadSCTP` on the stream whose `read` of the queue succeeds -/
theorem nonpkt_view {s : St} (hn : NoReset s) (ht : TblOK s) (op : Op) (hop : ∀ cs, op ≠ .pkt cs) (si : BitVec 16) :
    NoReset (step s op) ∧ TblOK (step s op) ∧
    ((qOf (step s op) si = qOf s si ∧ readOut si s op = []) ∨
     ∃ n, ((qOf s si).read n).2.err = .ok ∧ qOf (step s op) si = ((qOf s si).read n).1 ∧
       readOut si s op = [(((qOf s si).read n).2.ppi, ((qOf s si).read n).2.data)]) := by
  have same : ∀ {s' : St}, tbl s' = tbl s → NoReset s' ∧ TblOK s' ∧ qOf s' si = qOf s si := fun h =>
    ⟨noReset_of_tbl h hn, tblOK_of_tbl h ht, qOf_of_tbl h _⟩
  cases op with
  | pkt cs => exact absurd rfl (hop cs)
  | accept => obtain ⟨a, b, c⟩ := same (accept_tbl s); exact ⟨a, b, .inl ⟨c, rfl⟩⟩
  | gather => obtain ⟨a, b, c⟩ := same (gather_tbl s); exact ⟨a, b, .inl ⟨c, rfl⟩⟩
  | tick dd => obtain ⟨a, b, c⟩ := same (tick_tbl s dd); exact ⟨a, b, .inl ⟨c, rfl⟩⟩
  | setState st => exact ⟨hn, ht, .inl ⟨rfl, rfl⟩⟩
  | «open» x => obtain ⟨a, b, c⟩ := openStream_table s x hn ht; exact ⟨a, b, .inl ⟨c _, rfl⟩⟩
  | read nm n =>
    have est : step s (.read nm n) = (read s nm n).1 := rfl
    rw [est]
    unfold readOut
    dsimp only
    rcases read_table hn ht nm n with hr | ⟨x, hgx, hout, hnr', htb', hq', hoth⟩
    · rw [hr]; exact ⟨hn, ht, .inl ⟨rfl, by split <;> rfl⟩⟩
    · refine ⟨hnr', htb', ?_⟩
      rw [hout]
      by_cases hsi : nm.1 = si
      · subst hsi
        have hqx : qOf s nm.1 = x.q := by unfold qOf; rw [hgx]; rfl
        simp only [if_true]
        rcases readStream_cases x n with ⟨_, e1, e2⟩ | ⟨hok, e1, e2⟩
        · exact .inl ⟨by rw [hq', e1, hqx], e2⟩
        · exact .inr ⟨n, by rw [hqx]; exact hok, by rw [hq', e1, hqx], by rw [e2, hqx]⟩
      · exact .inl ⟨hoth _ (fun e => hsi e.symm), by simp [hsi]⟩


/-! ### the frame of the receive-side simulations -/

/-- what the receive-side simulations share, whatever they say of a reassembly queue (`PInv` here with `Ab = False`, `PS` of
`PrefixSkip.lean` with `Ab = True`): `G` = the TSNs handed to streams so far -/
structure Frame (t0 : TSN) (N : Nat) (Ab : Nat → Prop) (s : St) (R : RecvQ.St) (G : List TSN) : Prop where
  nr : NoReset s
  tb : TblOK s
  rinv : ReceiverPR.RInv t0 s R N Ab G

/-- a change of the association that leaves the stream table and the receive queue alone -/
theorem Frame.sameTbl {t0 N Ab s R G} (h : Frame t0 N Ab s R G) {s' : St} (ht : tbl s' = tbl s) (hpq : s'.pq = s.pq) :
    Frame t0 N Ab s' R G ∧ ∀ si, qOf s' si = qOf s si :=
  ⟨⟨noReset_of_tbl ht h.nr, tblOK_of_tbl ht h.tb, h.rinv.same_pq s' hpq⟩, qOf_of_tbl ht⟩

/-- ✱ a DATA chunk with TSN `t0 + j`, seen from stream `si` -/
theorem Frame.data {t0 N Ab s R G} (h : Frame t0 N Ab s R G) (hN : N < 2^31) (c : Reasm.Chunk) (imm : Bool) {j : Nat}
    (hj : j < N) (htsn : c.tsn = t0 + BitVec.ofNat 32 j) (si : BitVec 16) :
    Frame t0 N Ab (handleChunk s (.data c imm)) (RecvQ.run R (chunkTrace s (.data c imm)))
      (G ++ (if pushes s c then [c.tsn] else [])) ∧
    qOf (handleChunk s (.data c imm)) si =
      (if pushes s c = true ∧ si = c.si then ((qOf s c.si).pushWithError c).1 else qOf s si) ∧
    (pushes s c = true → (RecvQ.run R (chunkTrace s (.data c imm))).h.acc (j + 1) ∧ ¬ R.h.acc (j + 1)) := by
  obtain ⟨hq, hnr, htb⟩ := handleChunk_data_qOf s c imm h.nr h.tb si
  exact ⟨⟨hnr, htb, h.rinv.data hN c imm j hj htsn⟩, hq, h.rinv.pushed hN c imm j hj htsn⟩

/-- ✱ an operation that is not a packet, seen from stream `si`: the ghost sets stay -/
theorem Frame.nonpkt {t0 N Ab s R G} (h : Frame t0 N Ab s R G) (op : Op) (hop : ∀ cs, op ≠ .pkt cs) (si : BitVec 16) :
    Frame t0 N Ab (step s op) (RecvQ.run R (opTrace s op)) G ∧ (RecvQ.run R (opTrace s op)).h = R.h ∧
    ((qOf (step s op) si = qOf s si ∧ readOut si s op = []) ∨
     ∃ n, ((qOf s si).read n).2.err = .ok ∧ qOf (step s op) si = ((qOf s si).read n).1 ∧
       readOut si s op = [(((qOf s si).read n).2.ppi, ((qOf s si).read n).2.data)]) := by
  obtain ⟨hnr, htb, hv⟩ := nonpkt_view h.nr h.tb op hop si
  obtain ⟨hri, hh⟩ := h.rinv.other op hop
  exact ⟨⟨hnr, htb, hri⟩, hh, hv⟩

theorem qOf_init (maxBuf maxEntries : BitVec 32) (il f g : Bool) (am : Int) (t : TSN) (si : BitVec 16) :
    qOf (init maxBuf maxEntries il f g am t) si = Reasm.new si maxEntries := by
  simp [qOf, init, getS]

theorem Frame.init (t0 : TSN) (maxBuf maxEntries : BitVec 32) (il f g : Bool) (am : Int) (N : Nat) (Ab : Nat → Prop) :
    Frame t0 N Ab (Receiver.init maxBuf maxEntries il f g am t0) (RecvQ.start (getMaxTSNOffset maxBuf) (t0 - 1)) [] :=
  ⟨⟨rfl, rfl⟩, by simp [TblOK, Receiver.init], ReceiverPR.RInv.init t0 maxBuf maxEntries il f g am N Ab⟩

/-! ### the simulation without skips -/

/-- association state `s`, ghost-instrumented receive queue `R`, `d` messages of stream `T` delivered so far -/
structure PInv (U : Univ) (T : SSpec) (s : St) (R : RecvQ.St) (d : Nat) : Prop where
  fr : ∃ G, Frame U.t U.N (fun _ => False) s R G
  spec : ∃ A P, T.Inv (qOf s T.S.si) d A P ∧ ∀ p ∈ P, R.h.acc (T.idx p.1 p.2 + 1)

/-- ✱ the dedup core: a chunk of the universe that `canPush` admits has the absolute index `idx + 1`, and that
index was never accepted before -/
theorem index_of_accept (U : Univ) {R : RecvQ.St} (g : RecvQ.GInv R) (hc0 : R.h.c0 = U.t - 1)
    (hm : R.q.maxOff.toNat ≤ 40000) (haN : ∀ k, R.h.acc k → 1 ≤ k ∧ k ≤ U.N) (hns : ∀ k, ¬ R.h.skp k)
    (tsn : TSN) (ix : Nat) (htsn : tsn = U.t + BitVec.ofNat 32 ix) (hix : ix < U.N)
    (hcp : RecvQ.canPush R.q tsn = true) :
    R.h.A + (tsn - R.q.cum).toNat = ix + 1 ∧ ¬ R.h.acc (ix + 1) := by
  have hA : R.h.A ≤ U.N := by
    rcases Nat.eq_zero_or_pos R.h.A with h0 | hp
    · omega
    · rcases g.hS1 R.h.A hp (Nat.le_refl _) with h | h
      · exact (haN _ h).2
      · exact absurd h (hns _)
  have hidx := g.index hc0 hm U.hN hA hix htsn hcp
  exact ⟨hidx, hidx ▸ (g.fresh hm hcp).2.2⟩


theorem PInv.sameTbl {U T s R d} (h : PInv U T s R d) {s' : St} (ht : tbl s' = tbl s) (hpq : s'.pq = s.pq) : PInv U T s' R d := by
  obtain ⟨G, hfr⟩ := h.fr
  obtain ⟨hfr', hq⟩ := hfr.sameTbl ht hpq
  exact ⟨⟨G, hfr'⟩, by rw [hq]; exact h.spec⟩

/-- ✱ a DATA chunk of the universe keeps the simulation: the TSN filter lets each fragment through at most once
(`Frame.data`), so the reassembly-queue refinement step applies -/
theorem data_step {U : Univ} {T : SSpec} {s : St} {R : RecvQ.St} {d : Nat} (h : PInv U T s R d)
    (T' : SSpec) (hT' : T' ∈ U.specs) (hT : T ∈ U.specs) (k i : Nat) (hk : k < T'.S.msgs.length) (hi : i < T'.S.nf k) (imm : Bool)
    (hw : T' = T → pushes s (T.frag k i) = true → k < d + T.W) :
    PInv U T (handleChunk s (.data (T'.frag k i) imm)) (RecvQ.run R (chunkTrace s (.data (T'.frag k i) imm))) d := by
  obtain ⟨htsn, hix⟩ := U.tsn T' hT' k i hk hi
  obtain ⟨G, hfr⟩ := h.fr
  obtain ⟨A, P, hinv, hP⟩ := h.spec
  obtain ⟨hfr', hq, hpush⟩ := hfr.data U.hN (T'.frag k i) imm hix htsn T.S.si
  have hold : ∀ p ∈ P, (RecvQ.run R (chunkTrace s (.data (T'.frag k i) imm))).h.acc (T.idx p.1 p.2 + 1) :=
    fun p hp => chunk_acc_mono s _ R _ (hP p hp)
  refine ⟨⟨_, hfr'⟩, ?_⟩
  by_cases hps : pushes s (T'.frag k i) = true ∧ T.S.si = (T'.frag k i).si
  · -- our stream, and the chunk is handed over: its index is accepted now, for the first time
    have hTT : T' = T := U.distinct T hT T' hT' (by rw [hps.2, T'.frag_si])
    subst hTT
    obtain ⟨hnew, hfresh⟩ := hpush hps.1
    obtain ⟨A', hinv'⟩ := T'.inv_push hinv hk hi (fun hmem => hfresh (hP (k, i) hmem)) (hw rfl hps.1)
    refine ⟨A', (k, i) :: P, ?_, ?_⟩
    · rw [hq, if_pos hps, ← hps.2]; exact hinv'
    · intro p hp'
      rcases List.mem_cons.1 hp' with rfl | hp'
      · exact hnew
      · exact hold p hp'
  · exact ⟨A, P, by rw [hq, if_neg hps]; exact hinv, hold⟩

theorem chunks_step {U : Univ} {T : SSpec} (hT : T ∈ U.specs) (cs : List InChunk) :
    ∀ {x : St} {R : RecvQ.St} {d : Nat}, PInv U T x R d → (∀ ch ∈ cs, GoodChunk U ch) →
    (∀ cs1 k i imm cs2, cs = cs1 ++ InChunk.data (T.frag k i) imm :: cs2 → k < T.S.msgs.length → i < T.S.nf k →
        pushes (cs1.foldl handleChunk x) (T.frag k i) = true → k < d + T.W) →
    PInv U T (cs.foldl handleChunk x) (RecvQ.run R (chunksTrace x cs)) d := by
  induction cs with
  | nil => intro x R d h _ _; exact h
  | cons ch cs ih =>
    intro x R d h hgood hw
    have hstep : PInv U T (handleChunk x ch) (RecvQ.run R (chunkTrace x ch)) d := by
      rcases hgood ch List.mem_cons_self with ⟨info, rfl⟩ | ⟨T', hT', k, i, imm, hk, hi, rfl⟩
      · exact h.sameTbl rfl rfl
      · refine data_step h T' hT' hT k i hk hi imm ?_
        intro hTT hp
        subst hTT
        exact hw [] k i imm cs rfl hk hi hp
    have := ih hstep (fun c hc => hgood c (List.mem_cons_of_mem _ hc)) (by
      intro cs1 k i imm cs2 hcs hk hi hp
      exact hw (ch :: cs1) k i imm cs2 (by rw [hcs]; rfl) hk hi hp)
    simp only [List.foldl_cons, chunksTrace, RecvQ.run_append]
    exact this

theorem packet_step {U : Univ} {T : SSpec} (hT : T ∈ U.specs) {s : St} {R : RecvQ.St} {d : Nat} (h : PInv U T s R d)
    (cs : List InChunk) (hgood : ∀ ch ∈ cs, GoodChunk U ch)
    (hw : ∀ cs1 k i imm cs2, cs = cs1 ++ InChunk.data (T.frag k i) imm :: cs2 → k < T.S.msgs.length → i < T.S.nf k →
        pushes (cs1.foldl handleChunk (chunksStart s)) (T.frag k i) = true → k < d + T.W) :
    PInv U T (packet s cs) (RecvQ.run R (opTrace s (.pkt cs))) d :=
  (chunks_step hT cs (h.sameTbl (s' := chunksStart s) rfl rfl) hgood hw).sameTbl (chunksEnd_tbl _) (chunksEnd_pq _)

/-- ✱ an operation that is not a packet keeps the simulation; on the stream under study it delivers nothing, or exactly
message `d` -/
theorem nonpkt_step {U : Univ} {T : SSpec} {s : St} {R : RecvQ.St} {d : Nat} (h : PInv U T s R d) (op : Op)
    (hop : ∀ cs, op ≠ .pkt cs) :
    (readOut T.S.si s op = [] ∧ PInv U T (step s op) (RecvQ.run R (opTrace s op)) d) ∨
    (d < T.S.msgs.length ∧ readOut T.S.si s op = [Reasm.Msg.out (T.S.msg d)] ∧
      PInv U T (step s op) (RecvQ.run R (opTrace s op)) (d + 1)) := by
  obtain ⟨A, P, hinv, hP⟩ := h.spec
  obtain ⟨G, hfr⟩ := h.fr
  obtain ⟨hfr', hh, ⟨hq, ho⟩ | ⟨n, hok, hq, ho⟩⟩ := hfr.nonpkt op hop T.S.si
  all_goals rw [← hh] at hP
  · exact .inl ⟨ho, ⟨G, hfr'⟩, A, P, by rw [hq]; exact hinv, hP⟩
  · rcases T.inv_read n hinv with ⟨hne, _⟩ | ⟨_, hd, hppi, hdata, A', hinv'⟩
    · exact absurd hok hne
    · exact .inr ⟨hd, by rw [ho, hppi, hdata]; rfl, ⟨G, hfr'⟩, A', P, by rw [hq]; exact hinv', hP⟩

theorem win_tail {T : SSpec} {s : St} {d : Nat} {op : Op} {ops : List Op} (h : Win T s d (op :: ops)) :
    Win T (step s op) (d + (readOut T.S.si s op).length) ops := by
  intro ops1 cs1 k i imm cs2 ops2 he hk hi hp
  have := h (op :: ops1) cs1 k i imm cs2 ops2 (by rw [he]; rfl) hk hi hp
  simp only [delivs, List.length_append] at this
  omega

/-- ✱ the successful reads on the stream form a prefix of what is left of its message list -/
theorem prefix_main {U : Univ} {T : SSpec} (hT : T ∈ U.specs) (ops : List Op) :
    ∀ {s : St} {R : RecvQ.St} {d : Nat}, PInv U T s R d → (∀ op ∈ ops, GoodOp U op) → Win T s d ops →
    delivs T.S.si s ops <+: (T.S.msgs.drop d).map Reasm.Msg.out := by
  induction ops with
  | nil => intro s R d _ _ _; simp [delivs]
  | cons op ops ih =>
    intro s R d h hgood hwin
    have hgood' : ∀ o ∈ ops, GoodOp U o := fun o ho => hgood o (List.mem_cons_of_mem _ ho)
    have hwt := win_tail hwin
    simp only [delivs]
    by_cases hpk : ∃ cs, op = .pkt cs
    · obtain ⟨cs, rfl⟩ := hpk
      have est : step s (.pkt cs) = packet s cs := rfl
      rw [est] at hwt ⊢
      have hI := packet_step hT h cs (hgood _ List.mem_cons_self) (by
        intro cs1 k i imm cs2 hcs hk hi hp
        have := hwin [] cs1 k i imm cs2 ops (by rw [hcs]; rfl) hk hi hp
        simpa [delivs] using this)
      simpa [readOut] using ih hI hgood' (by simpa [readOut] using hwt)
    · rcases nonpkt_step h op (fun cs e => hpk ⟨cs, e⟩) with ⟨ho, hI⟩ | ⟨hd, ho, hI⟩
      · rw [ho] at hwt ⊢
        simpa using ih hI hgood' hwt
      · rw [ho] at hwt ⊢
        have hdrop : T.S.msgs.drop d = T.S.msgs[d] :: T.S.msgs.drop (d + 1) := List.drop_eq_getElem_cons hd
        have hmsg : T.S.msg d = T.S.msgs[d] := by
          simp [Reasm.Sender.msg, List.getD_eq_getElem?_getD, List.getElem?_eq_getElem hd]
        rw [hdrop, List.map_cons, hmsg]
        simp only [List.singleton_append]
        exact (List.prefix_cons_inj _).2 (ih hI hgood' (by simpa using hwt))

/-- the invariant holds in a fresh association -/
theorem init_pinv (U : Univ) (T : SSpec) (maxBuf maxEntries : BitVec 32) (il f g : Bool) (am : Int) :
    PInv U T (init maxBuf maxEntries il f g am U.t) (RecvQ.start (getMaxTSNOffset maxBuf) (U.t - 1)) 0 :=
  ⟨⟨[], Frame.init U.t maxBuf maxEntries il f g am U.N _⟩, [], [], by rw [qOf_init]; exact T.inv_new maxEntries, by simp⟩


/-- ✱ **the receive-side prefix theorem, for any family of per-stream refinements** `mk S` (fragments `frag S k i` with TSN
`t + idx S k i`, sequence-number window `W`): the universe of `prefix_main` built from a list of senders with pairwise
distinct stream ids -/
theorem receiver_prefix (senders : List Reasm.Sender) (t : BitVec 32) (N : Nat) (hN : N < 2^31)
    (hWF : ∀ S ∈ senders, S.WF) (mk : (S : Reasm.Sender) → S.WF → SSpec)
    (frag : Reasm.Sender → Nat → Nat → Reasm.Chunk) (idx : Reasm.Sender → Nat → Nat → Nat) (W : Nat)
    (hmk : ∀ S h, (mk S h).S = S ∧ (mk S h).frag = frag S ∧ (mk S h).idx = idx S ∧ (mk S h).W = W)
    (htsn : ∀ S ∈ senders, ∀ k i, k < S.msgs.length → i < S.nf k →
      (frag S k i).tsn = t + BitVec.ofNat 32 (idx S k i) ∧ idx S k i < N)
    (hsi : ∀ S ∈ senders, ∀ S' ∈ senders, S'.si = S.si → S' = S)
    (maxBuf maxEntries : BitVec 32) (il f g : Bool) (am : Int) (ops : List Op)
    (hgood : ∀ cs, Op.pkt cs ∈ ops → ∀ ch ∈ cs, (∃ info, ch = .hb info) ∨
      ∃ S ∈ senders, ∃ k i imm, k < S.msgs.length ∧ i < S.nf k ∧ ch = .data (frag S k i) imm)
    (S : Reasm.Sender) (hS : S ∈ senders)
    (hwin : ∀ ops1 cs1 k i imm cs2 ops2, ops = ops1 ++ Op.pkt (cs1 ++ InChunk.data (frag S k i) imm :: cs2) :: ops2 →
      k < S.msgs.length → i < S.nf k →
      pushes (cs1.foldl handleChunk (chunksStart (run (init maxBuf maxEntries il f g am t) ops1))) (frag S k i) = true →
      k < (delivs S.si (init maxBuf maxEntries il f g am t) ops1).length + W) :
    delivs S.si (init maxBuf maxEntries il f g am t) ops <+: S.msgs.map Reasm.Msg.out := by
  let U : Univ :=
    { t := t, N := N, hN := hN,
      specs := senders.pmap mk hWF,
      tsn := by
        intro T hT k i hk hi
        obtain ⟨S', hS', rfl⟩ := List.mem_pmap.mp hT
        obtain ⟨e1, e2, e3, _⟩ := hmk S' (hWF S' hS')
        rw [e1] at hk hi
        rw [e2, e3]
        exact htsn S' hS' k i hk hi
      distinct := by
        intro T hT T' hT' he
        obtain ⟨S1, hS1, rfl⟩ := List.mem_pmap.mp hT
        obtain ⟨S2, hS2, rfl⟩ := List.mem_pmap.mp hT'
        rw [(hmk _ _).1, (hmk _ _).1] at he
        have : S2 = S1 := hsi S1 hS1 S2 hS2 he
        subst this; rfl }
  have hT : mk S (hWF S hS) ∈ U.specs := List.mem_pmap.mpr ⟨S, hS, rfl⟩
  obtain ⟨e1, e2, _, e4⟩ := hmk S (hWF S hS)
  have hg : ∀ op ∈ ops, GoodOp U op := by
    intro op hop
    cases op with
    | pkt cs =>
      intro ch hch
      rcases hgood cs hop ch hch with h | ⟨S', hS', k, i, imm, hk, hi, rfl⟩
      · exact Or.inl h
      · obtain ⟨f1, f2, _, _⟩ := hmk S' (hWF S' hS')
        exact Or.inr ⟨mk S' (hWF S' hS'), List.mem_pmap.mpr ⟨S', hS', rfl⟩, k, i, imm, by rw [f1]; exact hk, by rw [f1]; exact hi,
          by rw [f2]⟩
    | _ => trivial
  have hw : Win (mk S (hWF S hS)) (init maxBuf maxEntries il f g am t) 0 ops := by
    intro ops1 cs1 k i imm cs2 ops2 he hk hi hp
    rw [e1] at hk hi
    rw [e2] at he hp
    have := hwin ops1 cs1 k i imm cs2 ops2 he hk hi hp
    rw [e1, e4]
    omega
  have := prefix_main hT ops (init_pinv U (mk S (hWF S hS)) maxBuf maxEntries il f g am) hg hw
  rw [List.drop_zero, e1] at this
  exact this

/-! ### the two instances: ordered DATA (`OrdInv`: SSN, consecutive TSNs) and ordered I-DATA (`MidInv`: MID/FSN) -/

/-- the per-stream refinement bundle for ordered DATA -/
def specData (S : Reasm.Sender) (hS : S.WF) : SSpec where
  S := S
  frag := S.dataFrag
  idx := fun k i => S.base k + i
  W := 2^15
  Inv := Reasm.OrdInv S
  inv_new := Reasm.OrdInv_new S
  inv_push := fun h hk hi hP hw => h.push hS hk hi hP hw
  inv_read := fun n h => h.read hS n
  frag_si := fun _ _ => rfl

/-- the per-stream refinement bundle for ordered I-DATA; fragment `(k, i)` travels with TSN `t + ν k i` -/
def specIData (S : Reasm.Sender) (hS : S.WF) (t : BitVec 32) (ν : Nat → Nat → Nat) : SSpec where
  S := S
  frag := S.idataFrag (fun k i => t + BitVec.ofNat 32 (ν k i))
  idx := ν
  W := 2^31
  Inv := Reasm.MidInv S (fun k i => t + BitVec.ofNat 32 (ν k i))
  inv_new := Reasm.MidInv_new S _
  inv_push := fun h hk hi hP hw => h.push hS hk hi hP hw
  inv_read := fun n h => h.read hS n
  frag_si := fun _ _ => rfl

-- a DATA peer: pairwise distinct stream ids, all streams counting from the peer's initial TSN `t`, fewer than 2^31 TSNs in all
structure UnivS where
  t : TSN
  N : Nat
  hN : N < 2^31
  senders : List Reasm.Sender
  wf : ∀ S ∈ senders, S.WF
  t0 : ∀ S ∈ senders, S.t0 = t
  idx : ∀ S ∈ senders, ∀ k i, k < S.msgs.length → i < S.nf k → S.base k + i < N
  si : ∀ S ∈ senders, ∀ S' ∈ senders, S'.si = S.si → S' = S

theorem dataFrag_tsn (U : UnivS) {S : Reasm.Sender} (hS : S ∈ U.senders) (k i : Nat) :
    (S.dataFrag k i).tsn = U.t + BitVec.ofNat 32 (S.base k + i) := by
  simp only [Reasm.Sender.dataFrag, U.t0 S hS]

/-- ✱ `receiver_prefix` for ordered DATA -/
theorem prefix_data (U : UnivS) (maxBuf maxEntries : BitVec 32) (il f g : Bool) (am : Int) (ops : List Op)
    (hgood : ∀ cs, Op.pkt cs ∈ ops → ∀ ch ∈ cs, (∃ info, ch = .hb info) ∨
      ∃ S ∈ U.senders, ∃ k i imm, k < S.msgs.length ∧ i < S.nf k ∧ ch = .data (S.dataFrag k i) imm)
    (S : Reasm.Sender) (hS : S ∈ U.senders)
    (hwin : ∀ ops1 cs1 k i imm cs2 ops2, ops = ops1 ++ Op.pkt (cs1 ++ InChunk.data (S.dataFrag k i) imm :: cs2) :: ops2 →
      k < S.msgs.length → i < S.nf k →
      pushes (cs1.foldl handleChunk (chunksStart (run (init maxBuf maxEntries il f g am U.t) ops1))) (S.dataFrag k i) = true →
      k < (delivs S.si (init maxBuf maxEntries il f g am U.t) ops1).length + 2^15) :
    delivs S.si (init maxBuf maxEntries il f g am U.t) ops <+: S.msgs.map Reasm.Msg.out :=
  receiver_prefix U.senders U.t U.N U.hN U.wf specData (fun S => S.dataFrag) (fun S k i => S.base k + i) (2^15)
    (fun _ _ => ⟨rfl, rfl, rfl, rfl⟩) (fun S hS k i hk hi => ⟨dataFrag_tsn U hS k i, U.idx S hS k i hk hi⟩) U.si
    maxBuf maxEntries il f g am ops hgood S hS hwin


/-! ### `handleChunksStart` does not change what `handleData` decides -/

theorem getOrCreate_isSome_chunksStart (s : St) (si : BitVec 16) (a : Bool) :
    (getOrCreateStream (chunksStart s) si a).2.isSome = (getOrCreateStream s si a).2.isSome := by
  unfold getOrCreateStream
  have e : (chunksStart s).streams = s.streams := rfl
  rw [e]
  cases getS s.streams si with
  | some x => rfl
  | none =>
    dsimp only
    unfold createStream
    dsimp only
    have e2 : (chunksStart s).acceptQ = s.acceptQ := rfl
    rw [e2]
    repeat' split
    all_goals rfl

theorem stores_chunksStart (s : St) (c : Reasm.Chunk) : stores (chunksStart s) c = stores s c := by
  have h1 := stores_iff (chunksStart s) c
  have h2 := stores_iff s c
  rw [getOrCreate_isSome_chunksStart] at h1
  have e1 : credit (chunksStart s) = credit s := rfl
  have e2 : (chunksStart s).pq = s.pq := rfl
  rw [e1, e2] at h1
  cases hs : stores s c with
  | true => exact h1.mpr (h2.mp hs)
  | false =>
    cases hs' : stores (chunksStart s) c with
    | false => rfl
    | true => rw [h2.mpr (h1.mp hs')] at hs; cases hs

theorem pushes_chunksStart (s : St) (c : Reasm.Chunk) : pushes (chunksStart s) c = pushes s c := by
  unfold pushes
  rw [stores_chunksStart]
  rfl

end Receiver
