import SctpVerif.Proofs.Receiver.Acts
import SctpVerif.Proofs.RecvQ.Pop
/-!
Three invariants of the receive half, each ONE case split over the atomic writes (`Act`) and then carried along handlers,
steps and runs by `Acts.inv`: the configuration is kept (`act_cfg`, `Acts.cfg`, `run_cfg` and its projections); a (graded)
property of reassembly queues that `new` establishes and every queue operation keeps holds for every stream object
(`act_allQ`, `Acts.allQ`, `run_allQ`); the receive queue keeps its invariant and its window (`act_pq`, `Acts.pq`).
-/
namespace Receiver
open Gen

/-! ### the configuration -/

theorem act_cfg {s t : St} {n : Nat} (a : Act s n t) : t.cfg = s.cfg := by
  cases a with
  | pop | adv | dups | store | reasm | fwdU | read | readGone => rfl
  | create si a x => exact cfg_of_kept (createStream_kept s si a)
  | unreg id => exact cfg_of_kept (unregister_kept s id)
  | other t _ _ _ h => exact h

theorem Acts.cfg {s t : St} {n : Nat} (h : Acts s n t) : t.cfg = s.cfg :=
  Acts.inv0 (P := fun x => x.cfg = s.cfg) (fun a h => (act_cfg a).trans h) h rfl

@[simp] theorem handleData_maxEntries (s : St) (c : Reasm.Chunk) (imm : Bool) : (handleData s c imm).maxEntries = s.maxEntries :=
  congrArg Cfg.maxEntries (handleData_acts s c imm).cfg

@[simp] theorem handleData_il (s : St) (c : Reasm.Chunk) (imm : Bool) : (handleData s c imm).il = s.il :=
  congrArg Cfg.il (handleData_acts s c imm).cfg

@[simp] theorem step_cfg (s : St) (op : Op) : (step s op).cfg = s.cfg := (step_acts s op).cfg

@[simp] theorem run_cfg (s : St) (ops : List Op) : (run s ops).cfg = s.cfg := (run_acts ops s).cfg

@[simp] theorem run_maxBuf (s : St) (ops : List Op) : (run s ops).maxBuf = s.maxBuf :=
  congrArg Cfg.maxBuf (run_cfg s ops)

@[simp] theorem run_maxEntries (s : St) (ops : List Op) : (run s ops).maxEntries = s.maxEntries :=
  congrArg Cfg.maxEntries (run_cfg s ops)

@[simp] theorem run_il (s : St) (ops : List Op) : (run s ops).il = s.il :=
  congrArg Cfg.il (run_cfg s ops)

@[simp] theorem run_useFwd (s : St) (ops : List Op) : (run s ops).useFwd = s.useFwd := by
  exact congrArg Cfg.useFwd (run_cfg s ops)

@[simp] theorem run_useIFwd (s : St) (ops : List Op) : (run s ops).useIFwd = s.useIFwd := by
  exact congrArg Cfg.useIFwd (run_cfg s ops)

@[simp] theorem run_ackMode (s : St) (ops : List Op) : (run s ops).ackMode = s.ackMode := by
  exact congrArg Cfg.ackMode (run_cfg s ops)

@[simp] theorem run_scp (s : St) (ops : List Op) : (run s ops).scp = s.scp :=
  congrArg Cfg.scp (run_cfg s ops)

/-! ### lifting of queue properties to every stream object -/

/-- ✱ an atomic write keeps a graded queue property on every stream object, at the budget increased by the bytes it may add;
`new` is needed only at the entry limit of the association -/
theorem act_allQ {P : Nat → Reasm.Q → Prop} {s t : St} {n b : Nat} (hP : GPres s.maxEntries P) (a : Act s n t)
    (h : AllQ (P b) s) : AllQ (P (b + n)) t := by
  cases a with
  | pop | adv | dups => exact h
  | create si a x => exact createStream_allQ si a (hP.mono 0 b _ (Nat.zero_le _) (hP.new si)) h
  | unreg id => exact unregister_allQ h id
  | store c x pn ab hx =>
    have hm := AllQ.mono hP (Nat.le_add_right b c.len) h
    refine ⟨fun y hy => ?_, hm.2⟩
    obtain ⟨z, hz, rfl | rfl⟩ := mem_setQ hy
    · exact hm.1 _ hz
    · exact hP.step b x.q (.push c) (h.1 x (getS_mem hx).1)
  | reasm x op hx h0 =>
    refine ⟨fun y hy => ?_, h.2⟩
    obtain ⟨z, hz, rfl | rfl⟩ := mem_setQ hy
    · exact h.1 _ hz
    · exact h0 ▸ hP.step b x.q op (h.1 x (getS_mem hx).1)
  | fwdU c =>
    refine ⟨fun y hy => ?_, h.2⟩
    obtain ⟨z, hz, rfl⟩ := List.mem_map.mp hy
    exact hP.step b z.q (.fwdU c) (h.1 z hz)
  | read p x k hx =>
    refine ⟨fun y hy => ?_, h.2⟩
    rcases mem_setFirst hy with hy | rfl
    · exact h.1 y hy
    · exact readStream_q hP x k (h.1 x (List.mem_of_find?_eq_some hx))
  | readGone p x k hx =>
    refine ⟨h.1, fun y hy => ?_⟩
    rcases mem_setFirst hy with hy | rfl
    · exact h.2 y hy
    · exact readStream_q hP x k (h.2 x (List.mem_of_find?_eq_some hx))
  | other t h1 h2 => exact ⟨h1 ▸ h.1, h2 ▸ h.2⟩

/-- ✱ graded lifting: after any sequence of atomic writes every stream object's queue satisfies the property at the budget
increased by the user bytes the sequence may add (the entry limit is carried along as part of the invariant) -/
theorem Acts.allQ {P : Nat → Reasm.Q → Prop} {s t : St} {n b : Nat} (hP : GPres s.maxEntries P) (h : Acts s n t)
    (hq : AllQ (P b) s) : AllQ (P (b + n)) t :=
  (Acts.inv (P := fun b x => x.maxEntries = s.maxEntries ∧ AllQ (P b) x)
    (fun _ _ _ hb hp => ⟨hp.1, AllQ.mono hP hb hp.2⟩)
    (fun a hp => ⟨(congrArg Cfg.maxEntries (act_cfg a)).trans hp.1, act_allQ (hp.1 ▸ hP) a hp.2⟩) h ⟨rfl, hq⟩).2

theorem getOrCreateStream_allQ {P : Reasm.Q → Prop} (hP : QPres P) {s : St} (h : AllQ P s) (si : BitVec 16) (accept : Bool) :
    AllQ P (getOrCreateStream s si accept).1 :=
  (getOrCreateStream_acts s si accept).allQ (b := 0) (hP.graded _) h

/-- ✱ lifting: a queue property established by `new` and kept by every queue operation holds for every stream
object after any association run -/
theorem run_allQ {P : Reasm.Q → Prop} (hP : QPres P) (ops : List Op) {s : St} (h : AllQ P s) : AllQ P (run s ops) :=
  (run_acts ops s).allQ (b := 0) (hP.graded _) h

/-! ### the receive queue -/

theorem act_pq {s t : St} {n : Nat} (a : Act s n t) (h : RecvQ.Inv s.pq) :
    RecvQ.Inv t.pq ∧ t.pq.maxOff = s.pq.maxOff := by
  cases a with
  | store c => exact ⟨RecvQ.push_inv h c.tsn, RecvQ.push_maxOff _ _⟩
  | pop _ => exact ⟨RecvQ.pop_inv h false, RecvQ.pop_maxOff _ _⟩
  | adv c => exact ⟨RecvQ.advance_inv h c, RecvQ.advance_maxOff _ _⟩
  | dups => exact ⟨RecvQ.inv_dups h [], rfl⟩
  | reasm | fwdU | read | readGone => exact ⟨h, rfl⟩
  | create si a x => rw [pq_of_kept (createStream_kept s si a)]; exact ⟨h, rfl⟩
  | unreg id => rw [pq_of_kept (unregister_kept s id)]; exact ⟨h, rfl⟩
  | other t _ _ hq => rw [hq]; exact ⟨h, rfl⟩

theorem Acts.pq {s t : St} {n : Nat} (h : Acts s n t) (I : RecvQ.Inv s.pq) : RecvQ.Inv t.pq ∧ t.pq.maxOff = s.pq.maxOff :=
  Acts.inv0 (P := fun x => RecvQ.Inv x.pq ∧ x.pq.maxOff = s.pq.maxOff)
    (fun a hp => ⟨(act_pq a hp.1).1, (act_pq a hp.1).2.trans hp.2⟩) h ⟨I, rfl⟩

end Receiver
