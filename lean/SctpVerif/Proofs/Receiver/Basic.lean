import SctpVerif.Model.Receiver
import SctpVerif.Proofs.ReasmTotal
import SctpVerif.Proofs.ListAux
/-!
Vocabulary of the receive-half proofs.
* Properties of reassembly queues, possibly GRADED by a budget of user bytes (the budget grows by the payload length of each
  DATA chunk a step may store: this is how the exactness of the per-stream byte counter, `Reasm.CInv`, which needs the total
  below 2^63, is carried along association runs), and `AllQ`: the property holds for every stream object, registered or
  already deleted from the table. That a property `new` establishes and every queue operation keeps holds in every reachable
  state is `Acts.allQ` / `run_allQ` in `Lift.lean`.
* `ResetMono`: a preorder on states that holds across `unregister` and reads only the stream objects holds across
  `resetStreamsIfAny`, the pop loop and `ackStep` (`.reset`, `.pop`, `.ack`).
* The result-state enumerations `acceptPayloadData_ind`, `handleData_ind`, `handleFwd_ind`, `handleIFwd_ind`: to prove `Q` of
  a handler's result, prove it of each state the handler can end in.
* `skipEntry` (the common form of `fwdEntry` / `ifwdEntry`) and `fwdTaken` / `ifwdTaken` (the state a taken FORWARD-TSN /
  I-FORWARD-TSN reaches before its acknowledgement step).
-/
namespace Receiver
open Gen

/-- a property of reassembly queues kept by every queue operation -/
structure QPres (P : Reasm.Q → Prop) : Prop where
  new : ∀ si me, P (Reasm.new si me)
  step : ∀ q op, P q → P (q.step op)

/-- a GRADED property of reassembly queues: the grade is a budget of user bytes that grows by the bytes an
operation may add (`Reasm.Op.bytes`: the payload length of a `push`, 0 otherwise); `new` is asked only for queues with the
entry limit `me` of the association that creates them -/
structure GPres (me : BitVec 32) (P : Nat → Reasm.Q → Prop) : Prop where
  new : ∀ si, P 0 (Reasm.new si me)
  mono : ∀ b b' q, b ≤ b' → P b q → P b' q
  step : ∀ b q op, P b q → P (b + op.bytes) (q.step op)

theorem QPres.graded {P : Reasm.Q → Prop} (h : QPres P) (me : BitVec 32) : GPres me (fun _ => P) :=
  ⟨fun si => h.new si me, fun _ _ _ _ hp => hp, fun _ q op hp => h.step q op hp⟩

/-- user bytes a chunk / an op may add to the reassembly queues -/
def chunkBytes : InChunk → Nat
  | .data c _ => c.len
  | _ => 0

def opBytes : Op → Nat
  | .pkt cs => (cs.map chunkBytes).sum
  | _ => 0

/-- `P` holds for the queue of every stream object, registered or not -/
def AllQ (P : Reasm.Q → Prop) (s : St) : Prop := (∀ x ∈ s.streams, P x.q) ∧ (∀ x ∈ s.gone, P x.q)

theorem AllQ.mono {me : BitVec 32} {P : Nat → Reasm.Q → Prop} (hP : GPres me P) {b b' : Nat} {s : St} (hb : b ≤ b') (h : AllQ (P b) s) :
    AllQ (P b') s :=
  ⟨fun x hx => hP.mono _ _ _ hb (h.1 x hx), fun x hx => hP.mono _ _ _ hb (h.2 x hx)⟩

theorem mem_setQ {l : List Stream} {si : BitVec 16} {f : Reasm.Q → Reasm.Q} {x' : Stream} (h : x' ∈ setQ l si f) :
    ∃ x ∈ l, x' = x ∨ x' = { x with q := f x.q } := by
  induction l with
  | nil => simp [setQ] at h
  | cons y l ih =>
    simp only [setQ] at h
    split at h
    · simp only [List.mem_cons] at h
      rcases h with rfl | h
      · exact ⟨y, List.mem_cons_self, Or.inr rfl⟩
      · exact ⟨x', List.mem_cons_of_mem _ h, Or.inl rfl⟩
    · simp only [List.mem_cons] at h
      rcases h with rfl | h
      · exact ⟨x', List.mem_cons_self, Or.inl rfl⟩
      · obtain ⟨x, hx, hxe⟩ := ih h
        exact ⟨x, List.mem_cons_of_mem _ hx, hxe⟩

theorem getS_mem {l : List Stream} {si : BitVec 16} {x : Stream} (h : getS l si = some x) : x ∈ l ∧ x.si = si := by
  simp only [getS] at h
  exact ⟨List.mem_of_find?_eq_some h, by simpa using List.find?_some h⟩

theorem createStream_cases (s : St) (si : BitVec 16) (accept : Bool) :
    ((createStream s si accept).1 = s ∧ (createStream s si accept).2 = none) ∨
    (∃ strm : Stream, strm.q = Reasm.new si s.maxEntries ∧ strm.si = si ∧ (createStream s si accept).2 = some strm ∧
      (createStream s si accept).1.streams = s.streams ++ [strm] ∧ (createStream s si accept).1.gone = s.gone ∧
      (createStream s si accept).1.pq = s.pq ∧ (createStream s si accept).1.maxEntries = s.maxEntries) := by
  unfold createStream
  split
  · split
    · right; exact ⟨_, rfl, rfl, rfl, rfl, rfl, rfl, rfl⟩
    · left; exact ⟨rfl, rfl⟩
  · right; exact ⟨_, rfl, rfl, rfl, rfl, rfl, rfl, rfl⟩

theorem createStream_allQ {P : Reasm.Q → Prop} {s : St} (si : BitVec 16) (accept : Bool)
    (hnew : P (Reasm.new si s.maxEntries)) (h : AllQ P s) : AllQ P (createStream s si accept).1 := by
  rcases createStream_cases s si accept with ⟨e, _⟩ | ⟨strm, hq, _, _, hs, hg, _, _⟩
  · rw [e]; exact h
  · refine ⟨?_, by rw [hg]; exact h.2⟩
    rw [hs]
    intro x hx
    rcases List.mem_append.mp hx with hx | hx
    · exact h.1 x hx
    · rw [List.mem_singleton.mp hx, hq]; exact hnew

theorem unregister_allQ {P : Reasm.Q → Prop} {s : St} (h : AllQ P s) (id : BitVec 16) : AllQ P (unregister s id) := by
  unfold unregister
  split
  · exact h
  · rename_i x hx
    refine ⟨fun y hy => h.1 y (List.mem_filter.mp hy).1, ?_⟩
    intro y hy
    simp only [List.mem_append, List.mem_singleton] at hy
    rcases hy with hy | rfl
    · exact h.2 y hy
    · exact h.1 x (getS_mem hx).1

/-- a preorder on association states that reads only the stream objects and holds across `unregister`: it holds across
the deferred resets (`resetStreamsIfAny`) and the acknowledgement step, which write nothing else of the stream table -/
structure ResetMono (R : St → St → Prop) : Prop where
  refl : ∀ s, R s s
  trans : ∀ {a b c}, R a b → R b c → R a c
  unreg : ∀ s id, R s (unregister s id)
  objs : ∀ {s t u : St}, R s t → u.streams = t.streams → u.gone = t.gone → R s u

theorem ResetMono.reset {R : St → St → Prop} (hR : ResetMono R) (s : St) (r : ResetReq) : R s (resetStreamsIfAny s r) := by
  unfold resetStreamsIfAny
  split
  · exact hR.objs (ListAux.foldl_rel hR.refl hR.trans hR.unreg r.ids s) rfl rfl
  · exact hR.objs (hR.refl s) rfl rfl

theorem ResetMono.pop {R : St → St → Prop} (hR : ResetMono R) (n : Nat) (s : St) : R s (popLoop n s) := by
  induction n generalizing s with
  | zero => exact hR.refl s
  | succ n ih =>
    simp only [popLoop]
    split
    · have h1 : R s { s with pq := (RecvQ.pop s.pq false).1 } := hR.objs (hR.refl s) rfl rfl
      exact hR.trans (hR.trans h1 (ListAux.foldl_rel hR.refl hR.trans hR.reset _ _)) (ih _)
    · exact hR.refl s

theorem ResetMono.ack {R : St → St → Prop} (hR : ResetMono R) (s : St) (b : Bool) : R s (ackStep s b) := by
  have := hR.pop s.pq.size.toNat s
  unfold ackStep
  dsimp only
  repeat' split
  all_goals exact hR.objs this rfl rfl

/-- `acceptPayloadData` ends in the state `getOrCreateStream` leaves, or in `pushPayloadDataToStream` on it -/
theorem acceptPayloadData_ind {Q : St → Prop} (s : St) (c : Reasm.Chunk) (hg : Q (getOrCreateStream s c.si true).1)
    (hp : Q (pushToStream (getOrCreateStream s c.si true).1 c).1) : Q (acceptPayloadData s c).1 := by
  unfold acceptPayloadData
  split <;> rename_i heq <;> rw [heq] at hg hp
  · exact hg
  · dsimp only
    repeat' split
    all_goals first | exact hg | exact hp

/-- the state `handleData` reaches before its acknowledgement step, and whether it goes on (`acceptPayloadData` if `canPush`
admits the TSN) -/
def dataTaken (s : St) (c : Reasm.Chunk) : St × Bool :=
  if RecvQ.canPush s.pq c.tsn then acceptPayloadData s c else (s, true)

/-- the `sackImmediately` argument of the acknowledgement step of `handleData` -/
def dataSackNow (s : St) (c : Reasm.Chunk) (imm : Bool) : Bool :=
  if s.state == 7#32 then true
  else data_sackNow imm (data_gapDetected c.tsn (data_expectedTSN (dataTaken s c).1.pq.cum)) (RecvQ.canPush s.pq c.tsn)

/-- ✱ `handleData` in one equation: the chunk is ignored, answered with an ABORT, or taken (`dataTaken`) and then — unless it
was dropped outside SHUTDOWN-SENT — acknowledged -/
theorem handleData_eq (s : St) (c : Reasm.Chunk) (imm : Bool) : handleData s c imm =
    if !data_canHandle s.scp s.state then s
    else if data_wrongKind c.iData s.il then abortPV s
    else if (dataTaken s c).2 || s.state == 7#32 then ackStep (dataTaken s c).1 (dataSackNow s c imm)
    else (dataTaken s c).1 := by
  unfold handleData dataSackNow
  dsimp only
  split
  · rfl
  · split
    · rfl
    · show (if (!(dataTaken s c).2) = true then _ else _) = _
      cases (dataTaken s c).2 <;> cases (s.state == 7#32) <;> rfl

theorem dataTaken_snd {s : St} {c : Reasm.Chunk}
    (h : RecvQ.canPush s.pq c.tsn = true → (acceptPayloadData s c).2 = true) : (dataTaken s c).2 = true := by
  unfold dataTaken
  split
  · exact h ‹_›
  · rfl

/-- a chunk that is not ignored, not of the wrong kind and not dropped is taken and acknowledged -/
theorem handleData_handled {s : St} {c : Reasm.Chunk} (imm : Bool) (hst : data_canHandle s.scp s.state = true)
    (hk : data_wrongKind c.iData s.il = false) (ht : (dataTaken s c).2 = true) :
    handleData s c imm = ackStep (dataTaken s c).1 (dataSackNow s c imm) := by
  rw [handleData_eq, hst, hk, ht]; rfl

/-- `handleData` ends in the state it met, with the ABORT flag raised, or — after `acceptPayloadData` if `canPush` admits the
TSN — possibly followed by the acknowledgement step -/
theorem handleData_ind {Q : St → Prop} (s : St) (c : Reasm.Chunk) (imm : Bool) (h0 : Q s) (ha : Q (abortPV s))
    (hacc : RecvQ.canPush s.pq c.tsn = true → Q (acceptPayloadData s c).1) (hk : ∀ x b, Q x → Q (ackStep x b)) :
    Q (handleData s c imm) := by
  have hr : Q (dataTaken s c).1 := by
    unfold dataTaken; split
    · exact hacc ‹_›
    · exact h0
  rw [handleData_eq]
  split
  · exact h0
  · split
    · exact ha
    · split
      · exact hk _ _ hr
      · exact hr

/-- one `(stream, …)` entry of a FORWARD-TSN or I-FORWARD-TSN chunk: the stream is created like the skipped DATA would
have, then the skip `f` is applied to its queue (`fwdEntry` and `ifwdEntry` are this, by `rfl`) -/
def skipEntry (s : St) (si : BitVec 16) (f : Reasm.Q → Reasm.Q) : St :=
  let r := match getS s.streams si with
    | some _ => (s, true)
    | none => let r := createStream s si true; (r.1, r.2.isSome)
  if r.2 then { r.1 with streams := setQ r.1.streams si f } else r.1

/-- the state a FORWARD-TSN that passed the pre-check reaches before its acknowledgement step -/
def fwdTaken (s : St) (c : TSN) (es : List (BitVec 16 × BitVec 16)) : St :=
  let e := (ensureStreams s (es.map (·.1))).1
  let s1 := es.foldl fwdEntry { e with pq := RecvQ.advance e.pq c }
  { s1 with streams := s1.streams.map fun x => { x with q := x.q.forwardTSNForUnordered c } }

/-- `handleForwardTSN` ends with the ABORT flag, an ERROR queued, the stale case, the state the failed pre-check
leaves, or the acknowledgement step on `fwdTaken` -/
theorem handleFwd_ind {Q : St → Prop} (s : St) (c : TSN) (es : List (BitVec 16 × BitVec 16)) (h0 : Q (abortPV s))
    (herr : Q { s with control := s.control ++ [.error] }) (hst : Q (staleFwd s))
    (he : Q (ensureStreams s (es.map (·.1))).1) (hk : Q (ackStep (fwdTaken s c es) false)) : Q (handleFwd s c es) := by
  unfold handleFwd
  split
  · exact h0
  · split
    · exact herr
    · split
      · exact hst
      · dsimp only
        split
        · exact he
        · exact hk

/-- the state an I-FORWARD-TSN that passed the pre-check reaches before its acknowledgement step -/
def ifwdTaken (s : St) (c : TSN) (es : List (BitVec 16 × Bool × BitVec 32)) : St :=
  let e := (ensureStreams s (es.map (·.1))).1
  es.foldl ifwdEntry { e with pq := RecvQ.advance e.pq c }

theorem handleIFwd_ind {Q : St → Prop} (s : St) (c : TSN) (es : List (BitVec 16 × Bool × BitVec 32)) (h0 : Q (abortPV s))
    (hst : Q (staleFwd s)) (he : Q (ensureStreams s (es.map (·.1))).1) (hk : Q (ackStep (ifwdTaken s c es) false)) :
    Q (handleIFwd s c es) := by
  unfold handleIFwd
  split
  · exact h0
  · split
    · exact hst
    · dsimp only
      split
      · exact he
      · exact hk

theorem readStream_q {me : BitVec 32} {P : Nat → Reasm.Q → Prop} (hP : GPres me P) {b : Nat} (x : Stream) (n : Nat) (h : P b x.q) :
    P b (readStream x n).1.q := by
  unfold readStream
  dsimp only
  split
  · exact hP.step b x.q (.read n) h
  · exact h
  · exact h

theorem mem_setFirst {p : Stream → Bool} {v : Stream} {l : List Stream} {y : Stream} (h : y ∈ setFirst p v l) : y ∈ l ∨ y = v := by
  induction l with
  | nil => simp [setFirst] at h
  | cons z l ih =>
    simp only [setFirst] at h
    split at h
    · simp only [List.mem_cons] at h
      rcases h with rfl | h
      · right; rfl
      · left; exact List.mem_cons_of_mem _ h
    · simp only [List.mem_cons] at h
      rcases h with rfl | h
      · left; exact List.mem_cons_self
      · rcases ih h with h | h
        · left; exact List.mem_cons_of_mem _ h
        · right; exact h

theorem init_allQ (P : Reasm.Q → Prop) (a b : BitVec 32) (c d e : Bool) (f : Int) (t : TSN) : AllQ P (init a b c d e f t) :=
  ⟨by intro x hx; simp [init] at hx, by intro x hx; simp [init] at hx⟩

end Receiver
