import SctpVerif.Proofs.Receiver.Cfg
/-!
The acknowledgement state machine of the association, `St.ack` = (`ackState`, the ack timer, `immediateAckTriggered`,
`delayedAckTriggered`). Who writes what: the stream-table, reset and receive-queue handlers keep all of it;
`handlePeerLastTSNAndAcknowledgement` writes only the flags, `handleChunksStart` clears them, and `handleChunksEnd`, a
stale FORWARD-TSN, `gatherOutbound` and the clock write only `ackState` and the timer. Then the coupling invariant
`AckInv` with the timer automaton and the per-packet effects.
-/
namespace Receiver
open Gen Timer

/-! ### handlers that keep the whole of `St.ack` (besides those that keep `St.kept`) -/

@[simp] theorem popLoop_ack (n : Nat) (s : St) : (popLoop n s).ack = s.ack := popLoop_view Kept.ack (fun _ _ => rfl) n s

@[simp] theorem pushToStream_ack (s : St) (c : Reasm.Chunk) : (pushToStream s c).1.ack = s.ack := by
  unfold pushToStream
  dsimp only
  repeat' split
  all_goals rfl

@[simp] theorem acceptPayloadData_ack (s : St) (c : Reasm.Chunk) : (acceptPayloadData s c).1.ack = s.ack :=
  have hg := ack_of_kept (getOrCreateStream_kept s c.si true)
  acceptPayloadData_ind (Q := fun x => x.ack = s.ack) s c hg ((pushToStream_ack _ c).trans hg)

/-! ### handlers that write a part of it -/

@[simp] theorem abortPV_ackState (s : St) : (abortPV s).ackState = s.ackState := by
  rfl

@[simp] theorem abortPV_timer (s : St) : (abortPV s).timer = s.timer := by
  rfl

@[simp] theorem abortPV_immTrig (s : St) : (abortPV s).immTrig = s.immTrig := by
  rfl

@[simp] theorem abortPV_delTrig (s : St) : (abortPV s).delTrig = s.delTrig := by
  rfl

/-- `handlePeerLastTSNAndAcknowledgement` only raises trigger flags -/
theorem ackStep_ack (s : St) (b : Bool) :
    (ackStep s b).ackState = s.ackState ∧ (ackStep s b).timer = s.timer := by
  have h := popLoop_ack s.pq.size.toNat s
  unfold ackStep
  dsimp only
  repeat' split
  all_goals exact ⟨congrArg AckSt.ackState h, congrArg AckSt.timer h⟩

@[simp] theorem ackStep_ackState (s : St) (b : Bool) : (ackStep s b).ackState = s.ackState := (ackStep_ack s b).1

@[simp] theorem ackStep_timer (s : St) (b : Bool) : (ackStep s b).timer = s.timer := (ackStep_ack s b).2

theorem handleData_ack (s : St) (c : Reasm.Chunk) (imm : Bool) :
    (handleData s c imm).ackState = s.ackState ∧ (handleData s c imm).timer = s.timer :=
  have ha := acceptPayloadData_ack s c
  handleData_ind (Q := fun x => x.ackState = s.ackState ∧ x.timer = s.timer) s c imm ⟨rfl, rfl⟩ ⟨rfl, rfl⟩
    (fun _ => ⟨congrArg AckSt.ackState ha, congrArg AckSt.timer ha⟩)
    (fun x b hx => ⟨(ackStep_ackState x b).trans hx.1, (ackStep_timer x b).trans hx.2⟩)

@[simp] theorem handleData_ackState (s : St) (c : Reasm.Chunk) (imm : Bool) : (handleData s c imm).ackState = s.ackState := by
  exact (handleData_ack s c imm).1

@[simp] theorem handleData_timer (s : St) (c : Reasm.Chunk) (imm : Bool) : (handleData s c imm).timer = s.timer := by
  exact (handleData_ack s c imm).2

@[simp] theorem chunksStart_ackState (s : St) : (chunksStart s).ackState = s.ackState := by
  rfl

@[simp] theorem chunksStart_timer (s : St) : (chunksStart s).timer = s.timer := by
  rfl

@[simp] theorem staleFwd_immTrig (s : St) : (staleFwd s).immTrig = s.immTrig := by
  rfl

@[simp] theorem staleFwd_delTrig (s : St) : (staleFwd s).delTrig = s.delTrig := by
  rfl

@[simp] theorem chunksEnd_immTrig (s : St) : (chunksEnd s).immTrig = s.immTrig := by
  unfold chunksEnd; repeat' split
  all_goals rfl

@[simp] theorem chunksEnd_delTrig (s : St) : (chunksEnd s).delTrig = s.delTrig := by
  unfold chunksEnd; repeat' split
  all_goals rfl

@[simp] theorem read_immTrig (s : St) (n : Name) (b : Nat) : ((read s n b).1).immTrig = s.immTrig := by
  exact congrArg AckSt.immTrig (ack_of_kept (read_kept s n b))

@[simp] theorem read_delTrig (s : St) (n : Name) (b : Nat) : ((read s n b).1).delTrig = s.delTrig := by
  exact congrArg AckSt.delTrig (ack_of_kept (read_kept s n b))

@[simp] theorem accept_immTrig (s : St) : ((accept s).1).immTrig = s.immTrig := by
  exact congrArg AckSt.immTrig (ack_of_kept (accept_kept s))

@[simp] theorem accept_delTrig (s : St) : ((accept s).1).delTrig = s.delTrig := by
  exact congrArg AckSt.delTrig (ack_of_kept (accept_kept s))

@[simp] theorem openStream_immTrig (s : St) (si : BitVec 16) : ((openStream s si).1).immTrig = s.immTrig := by
  exact congrArg AckSt.immTrig (ack_of_kept (openStream_kept s si))

@[simp] theorem openStream_delTrig (s : St) (si : BitVec 16) : ((openStream s si).1).delTrig = s.delTrig := by
  exact congrArg AckSt.delTrig (ack_of_kept (openStream_kept s si))

@[simp] theorem gather_immTrig (s : St) : ((gather s).1).immTrig = s.immTrig := by
  unfold gather; dsimp only; repeat' split
  all_goals rfl

@[simp] theorem gather_delTrig (s : St) : ((gather s).1).delTrig = s.delTrig := by
  unfold gather; dsimp only; repeat' split
  all_goals rfl

@[simp] theorem tick_immTrig (s : St) (d : Nat) : (tick s d).immTrig = s.immTrig := by
  unfold tick; dsimp only; repeat' split
  all_goals rfl

@[simp] theorem tick_delTrig (s : St) (d : Nat) : (tick s d).delTrig = s.delTrig := by
  unfold tick; dsimp only; repeat' split
  all_goals rfl

/-- coupling of `ackState` with the ack-timer automaton -/
structure AckInv (s : St) : Prop where
  nospawn : s.timer.g.spawned = []
  open_ : s.timer.t.state ≠ .closed
  delay_iff : s.timer.t.state = .started ↔ s.ackState = 2
  started : s.timer.t.state = .started →
    ∃ tag, s.timer.g.armed = some (s.timer.since + ackInterval, tag) ∧ s.timer.since ≤ s.timer.now ∧ s.timer.t.pending = 1
  stopped : s.timer.t.state = .stopped → s.timer.g.armed = none ∧ s.timer.t.pending = 0
  range : s.ackState = 0 ∨ s.ackState = 1 ∨ s.ackState = 2

theorem stop_state (t : AckSys) (h : t.t.state ≠ .closed) : t.stop.t.state = .stopped := by
  unfold AckSys.stop
  split
  · rfl
  · rename_i hs
    cases hst : t.t.state with
    | stopped => rfl
    | started => exact absurd hst hs
    | closed => exact absurd hst h

theorem stop_now (t : AckSys) : t.stop.now = t.now := by unfold AckSys.stop; split <;> rfl

/-- the ack state becomes `immediate`, the timer is stopped -/
theorem ackInv_imm {s : St} (h : AckInv s) (s' : St) (ha : s'.ackState = 1) (ht : s'.timer = s.timer.stop) : AckInv s' := by
  have hst := stop_state s.timer h.open_
  refine ⟨?_, ?_, ?_, ?_, ?_, Or.inr (Or.inl ha)⟩
  · rw [ht]; unfold AckSys.stop; split
    · simp [GoTimer.stop, h.nospawn]
    · exact h.nospawn
  · rw [ht, hst]; simp
  · rw [ht, hst, ha]; simp
  · rw [ht, hst]; intro hc; cases hc
  · intro _
    rw [ht]
    unfold AckSys.stop
    split
    · rename_i hs
      obtain ⟨tag, harm, _, hp⟩ := h.started hs
      simp [GoTimer.stop, harm, hp]
    · rename_i hs
      have : s.timer.t.state = .stopped := by
        cases hst' : s.timer.t.state with
        | stopped => rfl
        | started => exact absurd hst' hs
        | closed => exact absurd hst' h.open_
      exact h.stopped this

@[simp] theorem popLoop_immTrig' (n : Nat) (s : St) : (popLoop n s).immTrig = s.immTrig := congrArg AckSt.immTrig (popLoop_ack n s)

/-- what `handlePeerLastTSNAndAcknowledgement` does to the trigger flags -/
theorem ackStep_triggers (s : St) (b : Bool) :
    ((ackStep s b).immTrig = true ∨ (ackStep s b).delTrig = true) ∧
    (s.immTrig = true → (ackStep s b).immTrig = true) ∧
    (s.delTrig = true → (ackStep s b).delTrig = true) ∧
    ((ackStep s b).delTrig = true → s.delTrig = true ∨ s.ackState = 0) ∧
    (b = true ∨ (popLoop s.pq.size.toNat s).pq.size > 0 ∨ s.ackMode = 1 → (ackStep s b).immTrig = true) := by
  have hp := popLoop_ack s.pq.size.toNat s
  have hi : (popLoop s.pq.size.toNat s).immTrig = s.immTrig := congrArg AckSt.immTrig hp
  have hd : (popLoop s.pq.size.toNat s).delTrig = s.delTrig := congrArg AckSt.delTrig hp
  have ha : (popLoop s.pq.size.toNat s).ackState = s.ackState := congrArg AckSt.ackState hp
  have hm : (popLoop s.pq.size.toNat s).ackMode = s.ackMode := congrArg Cfg.ackMode (popLoop_cfg _ s)
  -- the three branches that raise `immTrig`
  have imm : ∀ p : St, p.delTrig = s.delTrig →
      (({ p with immTrig := true } : St).immTrig = true ∨ ({ p with immTrig := true } : St).delTrig = true) ∧
      (s.immTrig = true → ({ p with immTrig := true } : St).immTrig = true) ∧
      (s.delTrig = true → ({ p with immTrig := true } : St).delTrig = true) ∧
      (({ p with immTrig := true } : St).delTrig = true → s.delTrig = true ∨ s.ackState = 0) ∧
      (b = true ∨ (popLoop s.pq.size.toNat s).pq.size > 0 ∨ s.ackMode = 1 → ({ p with immTrig := true } : St).immTrig = true) :=
    fun p hd => ⟨Or.inl rfl, fun _ => rfl, fun h => hd.trans h, fun h => Or.inl (hd.symm.trans h), fun _ => rfl⟩
  unfold ackStep
  dsimp only
  split
  · exact imm _ hd
  · rename_i hni
    have hni' : ¬ (b = true ∨ (popLoop s.pq.size.toNat s).pq.size > 0 ∨ s.ackMode = 1) := by
      intro hc
      apply hni
      simp only [ack_immediate, ack_hasPacketLoss, hm, Bool.or_eq_true, decide_eq_true_eq, beq_iff_eq]
      rcases hc with h | h | h
      · exact Or.inl (Or.inl h)
      · exact Or.inl (Or.inr h)
      · exact Or.inr h
    split
    · split
      · rename_i hidle
        refine ⟨Or.inr rfl, fun h => hi.trans h, fun _ => rfl, fun _ => Or.inr ?_, fun hc => absurd hc hni'⟩
        simpa [ack_wasIdle, ha] using hidle
      · exact imm _ hd
    · exact imm _ hd

/-- a DATA chunk alone in its packet that is not ignored, of the negotiated kind and not dropped runs to the acknowledgement
step: a trigger flag is up when `handleChunksEnd` runs, so an acknowledgement is scheduled; at once if an immediate SACK was
asked for -/
theorem packet_data_acked (s : St) (c : Reasm.Chunk) (imm : Bool) (hne : c.userData ≠ [])
    (hst : data_canHandle s.scp s.state = true) (hk : c.iData = s.il)
    (hacc : RecvQ.canPush s.pq c.tsn = true → (acceptPayloadData (chunksStart s) c).2 = true) :
    ((packet s [.data c imm]).ackState = 1 ∨ (packet s [.data c imm]).ackState = 2) ∧
    (dataSackNow (chunksStart s) c imm = true → (packet s [.data c imm]).ackState = 1) := by
  have e : packet s [.data c imm] = chunksEnd (handleData (chunksStart s) c imm) := by simp [packet, handleChunk, hne]
  rw [e, handleData_handled (s := chunksStart s) imm hst (by simp [data_wrongKind, chunksStart, hk]) (dataTaken_snd hacc)]
  obtain ⟨htr, _, _, _, hi⟩ := ackStep_triggers (dataTaken (chunksStart s) c).1 (dataSackNow (chunksStart s) c imm)
  unfold chunksEnd
  refine ⟨?_, fun h => by rw [if_pos (hi (Or.inl h))]; rfl⟩
  split
  · left; rfl
  · rw [if_pos (htr.resolve_left ‹_›)]; right; rfl

theorem stop_stop (t : AckSys) : t.stop.stop = t.stop := by
  unfold AckSys.stop
  split
  · simp
  · rfl

/-- the ack-relevant effect of chunk handlers: the timer is left alone or stopped (with `ackState = immediate`),
the trigger flags are sticky, and `delTrig` is raised only from the idle state -/
structure ChunkAck (x y : St) : Prop where
  timer : (y.timer = x.timer ∧ y.ackState = x.ackState) ∨ (y.timer = x.timer.stop ∧ y.ackState = 1)
  imm : x.immTrig = true → y.immTrig = true
  del : x.delTrig = true → y.delTrig = true
  delWhy : y.delTrig = true → x.delTrig = true ∨ x.ackState = 0

theorem ChunkAck.of_ack {x y : St} (h : y.ack = x.ack) : ChunkAck x y :=
  have ht : y.timer = x.timer := congrArg AckSt.timer h
  have ha : y.ackState = x.ackState := congrArg AckSt.ackState h
  have hi : y.immTrig = x.immTrig := congrArg AckSt.immTrig h
  have hd : y.delTrig = x.delTrig := congrArg AckSt.delTrig h
  ⟨Or.inl ⟨ht, ha⟩, fun h => hi ▸ h, fun h => hd ▸ h, fun h => Or.inl (hd ▸ h)⟩

theorem ChunkAck.refl (x : St) : ChunkAck x x := .of_ack rfl

theorem ChunkAck.trans {x y z : St} (h : ChunkAck x y) (h' : ChunkAck y z) : ChunkAck x z := by
  refine ⟨?_, h'.imm ∘ h.imm, h'.del ∘ h.del, ?_⟩
  · rcases h'.timer with ⟨ct, ca⟩ | ⟨ct, ca⟩
    · rw [ct, ca]; exact h.timer
    · right
      rcases h.timer with ⟨ht, _⟩ | ⟨ht, _⟩
      · exact ⟨by rw [ct, ht], ca⟩
      · exact ⟨by rw [ct, ht, stop_stop], ca⟩
  · intro hd
    rcases h'.delWhy hd with hy | hy
    · exact h.delWhy hy
    · rcases h.timer with ⟨_, ha⟩ | ⟨_, ha⟩
      · rw [← ha]; exact Or.inr hy
      · rw [ha] at hy; cases hy

theorem ackStep_chunkAck (x : St) (b : Bool) : ChunkAck x (ackStep x b) := by
  obtain ⟨_, h2, h3, h4, _⟩ := ackStep_triggers x b
  exact ⟨Or.inl ⟨ackStep_timer x b, ackStep_ackState x b⟩, h2, h3, h4⟩

theorem handleData_chunkAck (x : St) (c : Reasm.Chunk) (imm : Bool) : ChunkAck x (handleData x c imm) :=
  handleData_ind (Q := ChunkAck x) x c imm (.refl x) (.of_ack rfl) (fun _ => .of_ack (acceptPayloadData_ack x c))
    (fun y b hy => hy.trans (ackStep_chunkAck y b))

theorem staleFwd_chunkAck (x : St) : ChunkAck x (staleFwd x) :=
  ⟨Or.inr ⟨rfl, rfl⟩, id, id, Or.inl⟩

theorem handleFwd_chunkAck (x : St) (c : TSN) (es : List (BitVec 16 × BitVec 16)) : ChunkAck x (handleFwd x c es) :=
  handleFwd_ind (Q := ChunkAck x) x c es (.of_ack rfl) (.of_ack rfl) (staleFwd_chunkAck x)
    (.of_ack (ack_of_kept (ensureStreams_kept _ x)))
    (.trans (.of_ack (congrArg Kept.ack (fwdTaken_kept x c es))) (ackStep_chunkAck _ _))

theorem handleIFwd_chunkAck (x : St) (c : TSN) (es : List (BitVec 16 × Bool × BitVec 32)) : ChunkAck x (handleIFwd x c es) :=
  handleIFwd_ind (Q := ChunkAck x) x c es (.of_ack rfl) (staleFwd_chunkAck x)
    (.of_ack (ack_of_kept (ensureStreams_kept _ x)))
    (.trans (.of_ack (congrArg Kept.ack (ifwdTaken_kept x c es))) (ackStep_chunkAck _ _))

theorem handleChunk_chunkAck (x : St) (ch : InChunk) : ChunkAck x (handleChunk x ch) := by
  cases ch with
  | data c imm => simp only [handleChunk]; split; exact .of_ack rfl; exact handleData_chunkAck x c imm
  | fwd c es => exact handleFwd_chunkAck x c es
  | ifwd c es => exact handleIFwd_chunkAck x c es
  | hb info => exact .of_ack rfl
  | reset r => exact .of_ack (ack_of_kept (handleResetReq_kept x r))

theorem foldl_chunkAck (cs : List InChunk) (x : St) : ChunkAck x (cs.foldl handleChunk x) :=
  ListAux.foldl_rel ChunkAck.refl ChunkAck.trans handleChunk_chunkAck cs x

theorem foldl_sticky (cs : List InChunk) (x : St) :
    (x.immTrig = true → (cs.foldl handleChunk x).immTrig = true) ∧ (x.delTrig = true → (cs.foldl handleChunk x).delTrig = true) :=
  ⟨(foldl_chunkAck cs x).imm, (foldl_chunkAck cs x).del⟩

/-- the ack-relevant state after the chunk handlers of a packet, relative to the state `s` before the packet -/
structure PktAck (s x : St) : Prop where
  timer : (x.timer = s.timer ∧ x.ackState = s.ackState) ∨ (x.timer = s.timer.stop ∧ x.ackState = 1)
  delWhy : x.delTrig = true → s.ackState = 0

/-- `ChunkAck` along the chunks of a packet, started from `handleChunksStart` (which clears the flags and leaves timer
and `ackState` alone): hence `delTrig` after the chunks can only come from an idle ack state before the packet -/
theorem foldl_pktAck (cs : List InChunk) (s : St) : PktAck s (cs.foldl handleChunk (chunksStart s)) :=
  have hc := foldl_chunkAck cs (chunksStart s)
  ⟨hc.timer, fun hd => (hc.delWhy hd).resolve_left Bool.false_ne_true⟩

theorem start_from_stopped (t : AckSys) (h : t.t.state = .stopped) :
    t.start.1.t.state = .started ∧ t.start.1.g.armed = some (t.now + ackInterval, t.epoch + 1) ∧
    t.start.1.since = t.now ∧ t.start.1.now = t.now ∧ t.start.1.g.spawned = t.g.spawned ∧
    t.start.1.t.pending = t.t.pending + 1 := by
  unfold AckSys.start
  simp [h, GoTimer.reset]

theorem ackInv_of_eq {s s' : St} (h : AckInv s) (ht : s'.timer = s.timer) (ha : s'.ackState = s.ackState) : AckInv s' :=
  ⟨ht ▸ h.nospawn, ht ▸ h.open_, by rw [ht, ha]; exact h.delay_iff, by rw [ht]; exact h.started,
    by rw [ht]; exact h.stopped, ha ▸ h.range⟩

theorem ackInv_of_ack {s s' : St} (h : AckInv s) (e : s'.ack = s.ack) : AckInv s' :=
  ackInv_of_eq h (congrArg AckSt.timer e) (congrArg AckSt.ackState e)

/-- ✱ every packet keeps the ack invariant -/
theorem packet_ackInv {s : St} (h : AckInv s) (cs : List InChunk) : AckInv (packet s cs) := by
  have hp := foldl_pktAck cs s
  generalize hx : cs.foldl handleChunk (chunksStart s) = x at hp
  have hxi : AckInv x := by
    rcases hp.timer with ⟨ht, ha⟩ | ⟨ht, ha⟩
    · exact ackInv_of_eq h ht ha
    · exact ackInv_imm h x ha ht
  unfold packet
  rw [hx]
  unfold chunksEnd
  split
  · exact ackInv_imm hxi _ rfl rfl
  · split
    · rename_i hd
      have hidle := hp.delWhy hd
      have hstopped : x.timer.t.state = .stopped := by
        have hne : s.timer.t.state ≠ .started := by
          intro hc; have := h.delay_iff.mp hc; omega
        have hs : s.timer.t.state = .stopped := by
          cases hst : s.timer.t.state with
          | stopped => rfl
          | started => exact absurd hst hne
          | closed => exact absurd hst h.open_
        rcases hp.timer with ⟨ht, _⟩ | ⟨ht, _⟩
        · rw [ht]; exact hs
        · rw [ht]; exact stop_state _ h.open_
      obtain ⟨a1, a2, a3, a4, a5, a6⟩ := start_from_stopped x.timer hstopped
      obtain ⟨b1, b2⟩ := hxi.stopped hstopped
      refine ⟨?_, ?_, ?_, ?_, ?_, Or.inr (Or.inr rfl)⟩
      · show x.timer.start.1.g.spawned = []
        rw [a5]; exact hxi.nospawn
      · show x.timer.start.1.t.state ≠ .closed
        rw [a1]; simp
      · show x.timer.start.1.t.state = .started ↔ (2 : Int) = 2
        rw [a1]; simp
      · intro _
        show ∃ tag, x.timer.start.1.g.armed = some (x.timer.start.1.since + ackInterval, tag) ∧
          x.timer.start.1.since ≤ x.timer.start.1.now ∧ x.timer.start.1.t.pending = 1
        refine ⟨x.timer.epoch + 1, ?_, ?_, ?_⟩
        · rw [a2, a3]
        · rw [a3, a4]; exact Nat.le_refl _
        · rw [a6, b2]; rfl
      · intro hc
        have : x.timer.start.1.t.state = .stopped := hc
        rw [a1] at this; cases this
    · exact hxi


theorem gather_ackInv {s : St} (h : AckInv s) : AckInv (gather s).1 := by
  unfold gather
  split
  · exact ackInv_of_eq h rfl rfl
  · dsimp only
    split
    · rename_i hc
      have hp : s.ackState = 1 := by
        simp only [Bool.and_eq_true, sack_pending, beq_iff_eq] at hc
        exact hc.2
      have hns : s.timer.t.state ≠ .started := by
        intro hst; have := h.delay_iff.mp hst; omega
      refine ⟨h.nospawn, h.open_, ?_, h.started, h.stopped, Or.inl rfl⟩
      show s.timer.t.state = .started ↔ ((ackStateIdle : Nat) : Int) = 2
      constructor
      · intro hst; exact absurd hst hns
      · intro hc2; simp [ackStateIdle] at hc2
    · exact ackInv_of_eq h rfl rfl

theorem tick_ackInv {s : St} (h : AckInv s) (d : Nat) : AckInv (tick s d) := by
  unfold tick
  dsimp only
  split
  · rename_i dl tag harm
    have hst : s.timer.t.state = .started := by
      cases hs : s.timer.t.state with
      | started => rfl
      | stopped => have := (h.stopped hs).1; rw [harm] at this; cases this
      | closed => exact absurd hs h.open_
    obtain ⟨tag', harm', hsince, hpend⟩ := h.started hst
    split
    · -- the timer fires and its callback runs: one shot
      have hrun : (({ s.timer with now := dl } : AckSys).fire.run 0) =
          ({ s.timer with now := dl, g := { armed := none, spawned := [] }, t := { pending := 0, state := .stopped } }, some .ack) := by
        simp [AckSys.fire, AckSys.run, AckSys.timeout, GoTimer.fire, harm, h.nospawn, hst, hpend]
      rw [hrun]
      simp only [beq_self_eq_true, if_true, ackTimeout]
      refine ⟨rfl, by simp, ?_, ?_, ?_, Or.inr (Or.inl rfl)⟩
      · show (TState.stopped = TState.started) ↔ ((ackStateImmediate : Nat) : Int) = 2
        simp [ackStateImmediate]
      · intro hc; cases hc
      · intro _; exact ⟨rfl, rfl⟩
    · refine ⟨h.nospawn, h.open_, h.delay_iff, ?_, h.stopped, h.range⟩
      intro hs
      obtain ⟨tg, a, b, c⟩ := h.started hs
      exact ⟨tg, a, Nat.le_trans b (Nat.le_add_right _ _), c⟩
  · refine ⟨h.nospawn, h.open_, h.delay_iff, ?_, h.stopped, h.range⟩
    intro hs
    obtain ⟨tg, a, b, c⟩ := h.started hs
    exact ⟨tg, a, Nat.le_trans b (Nat.le_add_right _ _), c⟩

theorem step_ackInv {s : St} (h : AckInv s) (op : Op) : AckInv (step s op) := by
  cases op with
  | pkt cs => exact packet_ackInv h cs
  | read n b => exact ackInv_of_ack h (ack_of_kept (read_kept s n b))
  | accept => exact ackInv_of_ack h (ack_of_kept (accept_kept s))
  | «open» si => exact ackInv_of_ack h (ack_of_kept (openStream_kept s si))
  | gather => exact gather_ackInv h
  | tick d => exact tick_ackInv h d
  | setState st => exact ackInv_of_eq h rfl rfl

theorem run_ackInv (ops : List Op) {s : St} (h : AckInv s) : AckInv (run s ops) :=
  ListAux.foldl_inv (P := AckInv) ops h fun _ op _ h => step_ackInv h op

theorem init_ackInv (a b : BitVec 32) (c d e : Bool) (f : Int) (t : TSN) : AckInv (init a b c d e f t) :=
  ⟨rfl, by simp [init], by simp [init], by intro h; simp [init] at h, by intro _; exact ⟨rfl, rfl⟩, Or.inl rfl⟩

end Receiver
