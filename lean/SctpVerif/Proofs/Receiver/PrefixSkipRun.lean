import SctpVerif.Proofs.Receiver.PrefixSkip
/-!
Third of the four files of the receive-side simulation with skips (`PrefixSkipQ` → `PrefixSkip` → this →
`PrefixSkipDec`): the invariant `PS` of `PrefixSkip.lean` through reads (`PS.readStep`), the other operations
(`PS.otherStep`), the chunks of a packet (`PS.chunksStep`) and runs (`PS.runOps`, under the premise `FwdOk` defined here),
and the receive-side theorem `skip_receiver` (ordered DATA, fewer than 2^15 messages on the stream, no entry limit).
-/
namespace Receiver
open Gen

/-- ✱ a read keeps the simulation; on the stream under study it delivers nothing, or one whole message `m` -/
theorem PS.readStep {U : UnivS} {S : Reasm.Sender} {K s R G c A P D} (h : PS U S K s R G c A P D) (hS : S ∈ U.senders)
    (hlen : S.msgs.length < 2^15) (nm : Name) (n : Nat) :
    (readOut S.si s (.read nm n) = [] ∧ PS U S K (read s nm n).1 R G c A P D) ∨
    (∃ m c' A', readOut S.si s (.read nm n) = [Reasm.Msg.out (S.msg m)] ∧ PS U S K (read s nm n).1 R G c' A' P (D ++ [m])) := by
  have hv := h.frame.nonpkt (.read nm n) (fun _ e => by cases e) S.si
  rw [show step s (.read nm n) = (read s nm n).1 from rfl] at hv
  obtain ⟨hfr, _, ⟨hq, ho⟩ | ⟨n', hok, hq, ho⟩⟩ := hv
  · exact .inl ⟨ho, PS.of hfr h.gacc (by rw [hq]; exact h.q) h.pg⟩
  · rcases h.q.read (U.wf S hS) hlen n' with hne | ⟨m, c', A', hppi, hdata, hq'⟩
    · exact absurd hok hne
    · exact .inr ⟨m, c', A', by rw [ho, hppi, hdata]; rfl, PS.of hfr h.gacc (by rw [hq]; exact hq') h.pg⟩

theorem PS.otherStep {U : UnivS} {S : Reasm.Sender} {K s R G c A P D} (h : PS U S K s R G c A P D) (op : Op)
    (hop : (∀ cs, op ≠ .pkt cs) ∧ (∀ nm n, op ≠ .read nm n)) :
    PS U S K (step s op) (RecvQ.run R (opTrace s op)) G c A P D := by
  obtain ⟨hfr, hh, ⟨hq, _⟩ | ⟨n, _, _, ho⟩⟩ := h.frame.nonpkt op hop.1 S.si
  · exact PS.of hfr (by rw [hh]; exact h.gacc) (by rw [hq]; exact h.q) h.pg
  · cases op with
    | read nm n => exact absurd rfl (hop.2 nm n)
    | _ => simp [readOut] at ho

theorem PS.sameTbl {U : UnivS} {S : Reasm.Sender} {K s R G c A P D} (h : PS U S K s R G c A P D) (s' : St)
    (ht : tbl s' = tbl s) (hpq : s'.pq = s.pq) : PS U S K s' R G c A P D := by
  obtain ⟨hfr, hq⟩ := h.frame.sameTbl ht hpq
  exact PS.of hfr h.gacc (by rw [hq]; exact h.q) h.pg

theorem PS.chunksStep {U : UnivS} {S : Reasm.Sender} {K : Nat → Bool} (hS : S ∈ U.senders) (hlen : S.msgs.length < 2^15)
    {D : List Nat} (cs : List InChunk) :
    ∀ {x : St} {R : RecvQ.St} {G : List TSN} {c : Nat} {A : Reasm.Tab} {P : List (Nat × Nat)}, PS U S K x R G c A P D →
    (∀ ch ∈ cs, GoodChunkS U S ch) →
    (∀ cs1 nc es cs2, cs = cs1 ++ InChunk.fwd nc es :: cs2 →
      chunkTrace (cs1.foldl handleChunk x) (.fwd nc es) = [.fwd nc] → EntOk S K (G ++ pushedC x cs1) es) →
    ∃ R' c' A' P', PS U S K (cs.foldl handleChunk x) R' (G ++ pushedC x cs) c' A' P' D := by
  induction cs with
  | nil => intro x R G c A P h _ _; exact ⟨R, c, A, P, by simpa [pushedC] using h⟩
  | cons ch cs ih =>
    intro x R G c A P h hgood hent
    rcases hgood ch List.mem_cons_self with ⟨S', hS', k, i, imm, hk, hi, rfl, hinj⟩ | ⟨nc, es, n, rfl, hn, hnc⟩
    · obtain ⟨A1, P1, h1⟩ := h.dataStep hS hlen S' hS' k i imm hk hi hinj
      obtain ⟨R', c', A', P', h2⟩ := ih h1 (fun c hc => hgood c (List.mem_cons_of_mem _ hc)) (by
        intro cs1 nc es cs2 hcs htr
        have := hent (InChunk.data (S'.dataFrag k i) imm :: cs1) nc es cs2 (by rw [hcs]; rfl) htr
        simpa [pushedC, List.append_assoc] using this)
      refine ⟨R', c', A', P', ?_⟩
      simpa [pushedC, List.append_assoc] using h2
    · obtain ⟨c1, A1, h1⟩ := h.fwdStep hS hlen nc es n hn hnc (fun htr => by
        have := hent [] nc es cs rfl htr
        simpa [pushedC] using this)
      obtain ⟨R', c', A', P', h2⟩ := ih h1 (fun c hc => hgood c (List.mem_cons_of_mem _ hc)) (by
        intro cs1 nc' es' cs2 hcs htr
        have := hent (InChunk.fwd nc es :: cs1) nc' es' cs2 (by rw [hcs]; rfl) htr
        simpa [pushedC, List.append_assoc] using this)
      refine ⟨R', c', A', P', ?_⟩
      simpa [pushedC, List.append_assoc] using h2

/-- the honest-sender premise for every FORWARD-TSN the run takes (`G0`: what was handed over before the run) -/
def FwdOk (S : Reasm.Sender) (K : Nat → Bool) (s : St) (G0 : List TSN) (ops : List Op) : Prop :=
  ∀ ops1 cs1 nc es cs2 ops2, ops = ops1 ++ Op.pkt (cs1 ++ InChunk.fwd nc es :: cs2) :: ops2 →
    chunkTrace (cs1.foldl handleChunk (chunksStart (run s ops1))) (.fwd nc es) = [.fwd nc] →
    EntOk S K (G0 ++ pushedT s ops1 ++ pushedC (chunksStart (run s ops1)) cs1) es

theorem FwdOk.tail {S K s G0 op ops} (h : FwdOk S K s G0 (op :: ops)) : FwdOk S K (step s op) (G0 ++ pushedO s op) ops := by
  intro ops1 cs1 nc es cs2 ops2 he htr
  have := h (op :: ops1) cs1 nc es cs2 ops2 (by rw [he]; rfl) (by simpa [run] using htr)
  simpa [pushedT, run, List.append_assoc] using this

/-- ✱ the run: the simulation is kept; the successful reads on the stream return exactly the messages the run appends to
the delivered list -/
theorem PS.runOps {U : UnivS} {S : Reasm.Sender} {K : Nat → Bool} (hS : S ∈ U.senders) (hlen : S.msgs.length < 2^15) (ops : List Op) :
    ∀ {s : St} {R : RecvQ.St} {G : List TSN} {c : Nat} {A : Reasm.Tab} {P : List (Nat × Nat)} {D : List Nat},
    PS U S K s R G c A P D → (∀ cs, Op.pkt cs ∈ ops → ∀ ch ∈ cs, GoodChunkS U S ch) → FwdOk S K s G ops →
    ∃ R' c' A' P' D', PS U S K (Receiver.run s ops) R' (G ++ pushedT s ops) c' A' P' (D ++ D') ∧
      delivs S.si s ops = D'.map (fun k => Reasm.Msg.out (S.msg k)) := by
  induction ops with
  | nil => intro s R G c A P D h _ _; exact ⟨R, c, A, P, [], by simpa [Receiver.run, pushedT] using h, rfl⟩
  | cons op ops ih =>
    intro s R G c A P D h hgood hfw
    have hgood' : ∀ cs, Op.pkt cs ∈ ops → ∀ ch ∈ cs, GoodChunkS U S ch := fun cs hcs => hgood cs (List.mem_cons_of_mem _ hcs)
    have hfw' := hfw.tail
    have hrun : Receiver.run s (op :: ops) = Receiver.run (step s op) ops := rfl
    rw [hrun]
    simp only [delivs, pushedT]
    -- one step, then the rest
    have fin : ∀ {R1 c1 A1 P1} (D1 : List Nat), PS U S K (step s op) R1 (G ++ pushedO s op) c1 A1 P1 (D ++ D1) →
        readOut S.si s op = D1.map (fun k => Reasm.Msg.out (S.msg k)) →
        ∃ R' c' A' P' D', PS U S K (Receiver.run (step s op) ops) R' (G ++ (pushedO s op ++ pushedT (step s op) ops)) c' A' P' (D ++ D') ∧
          readOut S.si s op ++ delivs S.si (step s op) ops = D'.map (fun k => Reasm.Msg.out (S.msg k)) := by
      intro R1 c1 A1 P1 D1 h1 ho
      obtain ⟨R', c', A', P', D2, h2, hd⟩ := ih h1 hgood' hfw'
      refine ⟨R', c', A', P', D1 ++ D2, ?_, ?_⟩
      · simpa [List.append_assoc] using h2
      · rw [ho, hd, List.map_append]
    cases op with
    | read nm n =>
      have est : step s (.read nm n) = (read s nm n).1 := rfl
      rcases h.readStep hS hlen nm n with ⟨ho, hI⟩ | ⟨m, c1, A1, ho, hI⟩
      · exact fin [] (by simpa [pushedO, est] using hI) (by simpa using ho)
      · exact fin [m] (by simpa [pushedO, est] using hI) (by simpa using ho)
    | pkt cs =>
      have est : step s (.pkt cs) = packet s cs := rfl
      have h0 : PS U S K (chunksStart s) R G c A P D := h.sameTbl _ rfl rfl
      obtain ⟨R1, c1, A1, P1, h1⟩ := PS.chunksStep hS hlen cs h0 (hgood cs List.mem_cons_self) (by
        intro cs1 nc es cs2 hcs htr
        have := hfw [] cs1 nc es cs2 ops (by rw [hcs]; rfl) (by simpa [Receiver.run] using htr)
        simpa [pushedT, Receiver.run] using this)
      have h2 : PS U S K (packet s cs) R1 (G ++ pushedC (chunksStart s) cs) c1 A1 P1 D :=
        h1.sameTbl _ (chunksEnd_tbl _) (chunksEnd_pq _)
      exact fin [] (by simpa [pushedO, est] using h2) (by simp [readOut])
    | _ =>
      exact fin [] (by simpa [pushedO] using h.otherStep _ ⟨fun _ => by simp, fun _ _ => by simp⟩) (by simp [readOut])

theorem init_ps (U : UnivS) (S : Reasm.Sender) (K : Nat → Bool) (maxBuf : BitVec 32) (il f g : Bool) (am : Int) :
    PS U S K (init maxBuf 0 il f g am U.t) (RecvQ.start (getMaxTSNOffset maxBuf) (U.t - 1)) [] 0 [] [] [] :=
  PS.of (Frame.init U.t maxBuf 0 il f g am U.N _) (by simp) (by rw [qOf_init]; exact Reasm.SkipQ.new S K) (by simp)

/-- ✱ **Receive side with skips, ordered DATA.** Peer described by `U` (as in `C01_receiver_prefix`); ANY op list whose
inbound chunks are DATA fragments of the universe (each TSN naming one fragment of the stream under study) and FORWARD-TSN
chunks with a new cumulative TSN of the universe, every FORWARD-TSN the receiver TAKES satisfying the honest-sender
premise `EntOk` for the stream (`FwdOk`); fewer than 2^15 messages on the stream; no entry limit. Then the successful reads
on the stream are the messages `D`, strictly increasing — a subsequence of the written messages, each at most once, whole —
and every message that is not abandoned (`K`) and all of whose fragments were handed to the reassembly queue has been read
or sits complete in the queue. -/
theorem skip_receiver (U : UnivS) (S : Reasm.Sender) (hS : S ∈ U.senders) (hlen : S.msgs.length < 2^15) (K : Nat → Bool)
    (maxBuf : BitVec 32) (il f g : Bool) (am : Int) (ops : List Op)
    (hgood : ∀ cs, Op.pkt cs ∈ ops → ∀ ch ∈ cs, GoodChunkS U S ch)
    (hfw : FwdOk S K (init maxBuf 0 il f g am U.t) [] ops) :
    ∃ D : List Nat,
      delivs S.si (init maxBuf 0 il f g am U.t) ops = D.map (fun k => Reasm.Msg.out (S.msg k)) ∧
      D.Pairwise (· < ·) ∧ (∀ k ∈ D, k < S.msgs.length) ∧
      (delivs S.si (init maxBuf 0 il f g am U.t) ops).Sublist (S.msgs.map Reasm.Msg.out) ∧
      (∀ k, k < S.msgs.length → K k = false →
        (∀ i, i < S.nf k → (S.dataFrag k i).tsn ∈ pushedT (init maxBuf 0 il f g am U.t) ops) →
        k ∈ D ∨ S.concSet (k, List.range (S.nf k)) ∈ (qOf (Receiver.run (init maxBuf 0 il f g am U.t) ops) S.si).ordered) := by
  obtain ⟨R', c', A', P', D, h, hd⟩ := PS.runOps hS hlen ops (init_ps U S K maxBuf il f g am) hgood hfw
  simp only [List.nil_append] at h
  have hlt : ∀ k ∈ D, k < S.msgs.length := fun k hk => (h.sk.dlt k hk).2.1
  refine ⟨D, hd, h.sk.dsorted, hlt, ?_, ?_⟩
  · rw [hd]
    have := Reasm.map_getD_sublist (S.msgs.map Reasm.Msg.out) (default : Reasm.Msg).out D 0 h.sk.dsorted
      (fun k hk => ⟨Nat.zero_le _, by simpa using hlt k hk⟩)
    simp only [List.drop_zero] at this
    have e : D.map (fun k => (S.msg k).out) = D.map (fun k => (S.msgs.map Reasm.Msg.out).getD k (default : Reasm.Msg).out) := by
      apply List.map_congr_left
      intro k hk
      have := hlt k hk
      simp [Reasm.Sender.msg, List.getD_eq_getElem?_getD, List.getElem?_eq_getElem this]
    rw [e]; exact this
  · intro k hk hK hall
    rcases h.sk.kept (U.wf S hS) hk hK (fun i hi => (h.pg k i hk hi).2 (hall i hi)) with h' | h'
    · exact .inl h'
    · right; rw [h.sk.tab.ord]; exact List.mem_map_of_mem h'

end Receiver
