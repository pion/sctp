import SctpVerif.Proofs.Receiver.Basic
/-! Frame lemmas through views of the state. The handlers of the stream table, of resets and of the application
(`createStream`, `unregister`, `resetStreamsIfAny`, the FORWARD-TSN entries, `ReadSCTP`, accept, `OpenStream`) write
only the table, the reset bookkeeping and the control queue: they keep the view `St.kept` of everything else. Inside it,
the configuration `St.cfg` (`maxBuf`, `maxEntries`, `il`, `useFwd`, `useIFwd`, `ackMode`, `scp`) is set by `init` and
kept by every handler (`Acts.cfg` in `Lift.lean`). A statement about one field of a view is a projection of the handler's
lemma (`pq_of_kept`, `panicked_of_kept`, `congrArg Cfg.maxBuf`), except the `staleFwd_<field>` lemmas, which hold by `rfl`.
The pop loop and the acknowledgement step keep every view that reads neither `pq` nor the ack state (`popLoop_view`,
`ackStep_view`); a taken FORWARD-TSN has, outside the table, only advanced the cumulative point (`fwdTaken_kept`). -/
namespace Receiver
open Gen

structure Cfg where
  maxBuf : BitVec 32
  maxEntries : BitVec 32
  il : Bool
  useFwd : Bool
  useIFwd : Bool
  ackMode : Int
  scp : Bool

/-- the acknowledgement state: `ackState`, the ack timer, the two per-packet trigger flags -/
structure AckSt where
  ackState : Int
  timer : Timer.AckSys
  immTrig : Bool
  delTrig : Bool

structure Kept where
  cfg : Cfg
  ack : AckSt
  state : BitVec 32
  pq : RecvQ.Q
  willSendAbort : Bool
  panicked : Bool

def St.cfg (s : St) : Cfg := ⟨s.maxBuf, s.maxEntries, s.il, s.useFwd, s.useIFwd, s.ackMode, s.scp⟩

def St.ack (s : St) : AckSt := ⟨s.ackState, s.timer, s.immTrig, s.delTrig⟩

def St.kept (s : St) : Kept := ⟨s.cfg, s.ack, s.state, s.pq, s.willSendAbort, s.panicked⟩

theorem cfg_of_kept {s t : St} (h : t.kept = s.kept) : t.cfg = s.cfg := congrArg Kept.cfg h

theorem ack_of_kept {s t : St} (h : t.kept = s.kept) : t.ack = s.ack := congrArg Kept.ack h

theorem pq_of_kept {s t : St} (h : t.kept = s.kept) : t.pq = s.pq := congrArg Kept.pq h

theorem panicked_of_kept {s t : St} (h : t.kept = s.kept) : t.panicked = s.panicked := congrArg Kept.panicked h

/-! ### the handlers that keep `kept` -/

@[simp] theorem createStream_kept (s : St) (si : BitVec 16) (a : Bool) : (createStream s si a).1.kept = s.kept := by
  unfold createStream
  split
  · split <;> rfl
  · rfl

@[simp] theorem getOrCreateStream_kept (s : St) (si : BitVec 16) (a : Bool) : (getOrCreateStream s si a).1.kept = s.kept := by
  unfold getOrCreateStream
  split
  · rfl
  · exact createStream_kept s si a

@[simp] theorem unregister_kept (s : St) (id : BitVec 16) : (unregister s id).kept = s.kept := by
  unfold unregister; split <;> rfl

@[simp] theorem rememberPerformed_kept (s : St) (rsn : BitVec 32) : (rememberPerformed s rsn).kept = s.kept := rfl

@[simp] theorem resetStreamsIfAny_kept (s : St) (r : ResetReq) : (resetStreamsIfAny s r).kept = s.kept := by
  unfold resetStreamsIfAny
  split
  · exact ListAux.foldl_view unregister_kept r.ids s
  · rfl

@[simp] theorem handleResetReq_kept (s : St) (r : ResetReq) : (handleResetReq s r).kept = s.kept := by
  unfold handleResetReq
  split
  · rfl
  · split
    · rfl
    · exact resetStreamsIfAny_kept _ r

@[simp] theorem ensureStreams_kept (ids : List (BitVec 16)) (s : St) : (ensureStreams s ids).1.kept = s.kept := by
  induction ids generalizing s with
  | nil => rfl
  | cons id ids ih =>
    simp only [ensureStreams]
    repeat' split
    all_goals simp only [ih, createStream_kept]

theorem skipEntry_kept (s : St) (si : BitVec 16) (f : Reasm.Q → Reasm.Q) : (skipEntry s si f).kept = s.kept := by
  unfold skipEntry
  dsimp only
  repeat' split
  all_goals first | rfl | exact createStream_kept s si true

@[simp] theorem fwdEntry_kept (s : St) (e : BitVec 16 × BitVec 16) : (fwdEntry s e).kept = s.kept :=
  skipEntry_kept s e.1 _

@[simp] theorem ifwdEntry_kept (s : St) (e : BitVec 16 × Bool × BitVec 32) : (ifwdEntry s e).kept = s.kept :=
  skipEntry_kept s e.1 _

@[simp] theorem read_kept (s : St) (n : Name) (b : Nat) : (read s n b).1.kept = s.kept := by
  unfold read
  repeat' split
  all_goals rfl

@[simp] theorem accept_kept (s : St) : (accept s).1.kept = s.kept := by
  unfold accept; split <;> rfl

@[simp] theorem openStream_kept (s : St) (si : BitVec 16) : (openStream s si).1.kept = s.kept := by
  unfold openStream
  split
  · rfl
  · exact getOrCreateStream_kept s si false

/-! ### the pop loop, the acknowledgement step, a taken FORWARD-TSN -/

/-- outside the table the pop loop writes only `pq` -/
theorem popLoop_view {β : Type} (v : Kept → β) (hpq : ∀ k q, v { k with pq := q } = v k) (n : Nat) (s : St) :
    v (popLoop n s).kept = v s.kept := by
  induction n generalizing s with
  | zero => rfl
  | succ n ih =>
    simp only [popLoop]
    split
    · have h := ListAux.foldl_view (v := St.kept) resetStreamsIfAny_kept s.resetReqs { s with pq := (RecvQ.pop s.pq false).1 }
      exact (ih _).trans ((congrArg v h).trans (hpq s.kept _))
    · rfl

/-- after the pop loop the acknowledgement step raises one of the trigger flags -/
theorem ackStep_view {β : Type} (v : Kept → β) (hpq : ∀ k q, v { k with pq := q } = v k)
    (hack : ∀ k a, v { k with ack := a } = v k) (s : St) (b : Bool) : v (ackStep s b).kept = v s.kept := by
  have h := popLoop_view v hpq s.pq.size.toNat s
  unfold ackStep
  dsimp only
  repeat' split
  all_goals exact (hack (popLoop s.pq.size.toNat s).kept _).trans h

@[simp] theorem popLoop_cfg (n : Nat) (s : St) : (popLoop n s).cfg = s.cfg := popLoop_view Kept.cfg (fun _ _ => rfl) n s

@[simp] theorem ackStep_cfg (s : St) (b : Bool) : (ackStep s b).cfg = s.cfg :=
  ackStep_view Kept.cfg (fun _ _ => rfl) (fun _ _ => rfl) s b

/-- outside the table a taken FORWARD-TSN has only advanced the cumulative point -/
theorem fwdTaken_kept (s : St) (c : TSN) (es : List (BitVec 16 × BitVec 16)) :
    (fwdTaken s c es).kept = { s.kept with pq := RecvQ.advance s.pq c } :=
  (ListAux.foldl_view (v := St.kept) fwdEntry_kept es _).trans
    (congrArg (fun k : Kept => { k with pq := RecvQ.advance k.pq c }) (ensureStreams_kept (es.map (·.1)) s))

theorem ifwdTaken_kept (s : St) (c : TSN) (es : List (BitVec 16 × Bool × BitVec 32)) :
    (ifwdTaken s c es).kept = { s.kept with pq := RecvQ.advance s.pq c } :=
  (ListAux.foldl_view (v := St.kept) ifwdEntry_kept es _).trans
    (congrArg (fun k : Kept => { k with pq := RecvQ.advance k.pq c }) (ensureStreams_kept (es.map (·.1)) s))

@[simp] theorem staleFwd_maxBuf (s : St) : (staleFwd s).maxBuf = s.maxBuf := by
  rfl

@[simp] theorem staleFwd_maxEntries (s : St) : (staleFwd s).maxEntries = s.maxEntries := by
  rfl

@[simp] theorem staleFwd_il (s : St) : (staleFwd s).il = s.il := by
  rfl

@[simp] theorem staleFwd_useFwd (s : St) : (staleFwd s).useFwd = s.useFwd := by
  rfl

@[simp] theorem staleFwd_useIFwd (s : St) : (staleFwd s).useIFwd = s.useIFwd := by
  rfl

@[simp] theorem staleFwd_ackMode (s : St) : (staleFwd s).ackMode = s.ackMode := by
  rfl

@[simp] theorem staleFwd_scp (s : St) : (staleFwd s).scp = s.scp := by
  rfl

end Receiver
