import SctpVerif.Proofs.Receiver.Streams
import SctpVerif.Proofs.RecvQ.Unset
/-!
The memory bound (C11): the user bytes held by the registered streams never exceed
`buffer + maxTSNOffset · M` (`M` = largest DATA chunk). Potential argument: while the credit is positive a stored
chunk leaves the held bytes below `buffer + M`; while it is zero a chunk is stored only into an UNSET slot below
the highest TSN received (`RecvQ.unset`), and nothing but storing above the highest TSN — impossible at zero
credit — adds unset slots. So `held + unset · M ≤ buffer + maxTSNOffset · M` whenever `held ≥ buffer`. The invariant `BInv`
is kept by every atomic write (`act_binv`): all but `store` add neither bytes nor unset slots.
-/
namespace Receiver
open Gen

/-- once the registered streams hold at least the buffer, every unset slot of the receive queue (`RecvQ.unset`) is
worth one chunk of `M` bytes of the remaining allowance `maxTSNOffset · M` -/
def Pot (M : Nat) (s : St) : Prop :=
  s.maxBuf.toNat ≤ heldRegistered s →
    heldRegistered s + RecvQ.unset s.pq * M ≤ s.maxBuf.toNat + s.pq.maxOff.toNat * M

theorem Pot.mono {M : Nat} {s s' : St} (hH : heldRegistered s' ≤ heldRegistered s) (hU : RecvQ.unset s'.pq ≤ RecvQ.unset s.pq)
    (hB : s'.maxBuf = s.maxBuf) (hm : s'.pq.maxOff = s.pq.maxOff) (h : Pot M s) : Pot M s' := by
  intro hb
  rw [hB, hm] at *
  have := h (by omega)
  have : RecvQ.unset s'.pq * M ≤ RecvQ.unset s.pq * M := Nat.mul_le_mul_right _ hU
  omega

/-- the graded predicate `cinv_gpres` (`Credit.lean`) is about: with a byte budget `b` below 2^63 the counter is exact and the bytes held are at most `b` -/
abbrev Pc (b : Nat) (q : Reasm.Q) : Prop := b < 2^63 → Reasm.CInv q b

theorem exact_of_pc {b : Nat} {s : St} (h : AllQ (Pc b) s) (hb : b < 2^63) : Exact s :=
  ⟨fun x hx => by obtain ⟨h1, h2⟩ := h.1 x hx hb; exact ⟨h1, by omega⟩,
   fun x hx => by obtain ⟨h1, h2⟩ := h.2 x hx hb; exact ⟨h1, by omega⟩⟩

/-- an operation that adds no bytes does not increase the bytes a queue holds -/
theorem step0_held_le (q : Reasm.Q) (hex : q.nBytes.toNat = q.heldBytes ∧ q.heldBytes < 2^63) (op : Reasm.Op)
    (h0 : op.bytes = 0) : (q.step op).heldBytes ≤ q.heldBytes := by
  have := Reasm.CInv_step (q := q) (B := q.heldBytes) ⟨hex.1, Nat.le_refl _⟩ op (by omega)
  have := this.2; omega

theorem sumHeld_map_le (l : List Stream) (g : Stream → Stream) (hg : ∀ x ∈ l, (g x).q.heldBytes ≤ x.q.heldBytes) :
    sumHeld (l.map g) ≤ sumHeld l := by
  induction l with
  | nil => exact Nat.le_refl _
  | cons x l ih =>
    simp only [List.map_cons, sumHeld_cons]
    have := hg x List.mem_cons_self
    have := ih (fun y hy => hg y (List.mem_cons_of_mem _ hy))
    omega

theorem createStream_hr (s : St) (si : BitVec 16) (a : Bool) : heldRegistered (createStream s si a).1 = heldRegistered s := by
  rcases createStream_cases s si a with ⟨e, _⟩ | ⟨strm, hq, _, _, hs, _, _, _⟩
  · rw [e]
  · show sumHeld _ = sumHeld _
    rw [hs, sumHeld_append, sumHeld_cons, sumHeld_nil, hq, heldBytes_new]; omega

theorem unregister_hr (s : St) (id : BitVec 16) : heldRegistered (unregister s id) ≤ heldRegistered s := by
  unfold unregister
  split
  · exact Nat.le_refl _
  · exact sumHeld_filter_le _ _

/-- serially below the highest TSN received ⇒ the slot lies below the tail -/
theorem below_tail {q : RecvQ.Q} (I : RecvQ.Inv q) (t : TSN) (hadm : RecvQ.admissible q t) (hs : q.size ≠ 0)
    (hlt : sna32LT t q.tail = true) : (t - q.cum).toNat < RecvQ.dtail q := by
  have hb := I.hb
  have h := (Sna.lt32_iff t q.tail).mp hlt
  obtain ⟨a1, a2, a3, a4⟩ := hadm
  simp only [RecvQ.dtail] at *
  bv_omega

/-- budgeted exactness of all counters, queue invariant, potential, and the sizing side conditions -/
structure BInv (M b : Nat) (s : St) : Prop where
  ex : AllQ (Pc b) s
  inv : RecvQ.Inv s.pq
  pot : Pot M s
  mo : 1 ≤ s.pq.maxOff.toNat
  small : s.maxBuf.toNat + s.pq.maxOff.toNat * M < 2^32

/-- ✱ the bound follows from the potential -/
theorem BInv.bound {M b : Nat} {s : St} (h : BInv M b s) : heldRegistered s ≤ s.maxBuf.toNat + s.pq.maxOff.toNat * M := by
  by_cases hb : s.maxBuf.toNat ≤ heldRegistered s
  · have := h.pot hb; omega
  · omega

theorem BInv.weaken {M b b' : Nat} {s : St} (h : BInv M b s) (hb : b ≤ b') : BInv M b' s :=
  ⟨AllQ.mono (cinv_gpres s.maxEntries) hb h.ex, h.inv, h.pot, h.mo, h.small⟩

theorem sumHeld_setFirst_le (p : Stream → Bool) (v : Stream) (l : List Stream) (x : Stream) (hf : l.find? p = some x)
    (hv : v.q.heldBytes ≤ x.q.heldBytes) : sumHeld (setFirst p v l) ≤ sumHeld l := by
  induction l with
  | nil => simp at hf
  | cons y l ih =>
    simp only [List.find?_cons] at hf
    simp only [setFirst]
    split at hf
    · rename_i hy
      cases hf
      simp only [hy, if_true, sumHeld_cons]; omega
    · rename_i hy
      have hy' : p y = false := by simpa using hy
      simp only [hy', Bool.false_eq_true, if_false, sumHeld_cons]
      have := ih hf; omega

/-- ✱ every atomic write keeps the invariant of the memory bound. All but `store` add neither bytes nor unset slots; `store`
is the potential argument -/
theorem act_binv {M b n : Nat} {s t : St} (hn : n ≤ M) (a : Act s n t) (hb : b + n < 2^63) (h : BInv M b s) :
    BInv M (b + n) t := by
  have hb0 : b < 2^63 := by omega
  have hex' := act_allQ (cinv_gpres _) a h.ex
  obtain ⟨hI, hmo⟩ := act_pq a h.inv
  have hmb : t.maxBuf = s.maxBuf := congrArg Cfg.maxBuf (act_cfg a)
  have hx := exact_of_pc h.ex hb0
  refine ⟨hex', hI, ?_, hmo ▸ h.mo, by rw [hmo, hmb]; exact h.small⟩
  have frame : heldRegistered t ≤ heldRegistered s → RecvQ.unset t.pq ≤ RecvQ.unset s.pq → Pot M t :=
    fun hH hU => h.pot.mono hH hU hmb hmo
  cases a with
  | pop hok => exact frame (Nat.le_refl _) (Nat.le_of_eq (RecvQ.unset_pop h.inv hok))
  | adv c => exact frame (Nat.le_refl _) (RecvQ.unset_advance h.inv c)
  | dups => exact frame (Nat.le_refl _) (Nat.le_refl _)
  | create si a x =>
    exact frame (Nat.le_of_eq (createStream_hr s si a)) (by rw [pq_of_kept (createStream_kept s si a)]; exact Nat.le_refl _)
  | unreg id => exact frame (unregister_hr s id) (by rw [pq_of_kept (unregister_kept s id)]; exact Nat.le_refl _)
  | reasm x op hx' h0 =>
    refine frame ?_ (Nat.le_refl _)
    have e1 := sumHeld_setQ s.streams x.si (fun _ => x.q.step op) x hx'
    have e2 := step0_held_le x.q (hx.1 x (getS_mem hx').1) op h0
    show sumHeld (setQ s.streams x.si (fun _ => x.q.step op)) ≤ sumHeld s.streams
    omega
  | fwdU c =>
    exact frame (sumHeld_map_le _ _ (fun x hx' => step0_held_le x.q (hx.1 x hx') (.fwdU c) rfl)) (Nat.le_refl _)
  | read p x k hf =>
    refine frame (sumHeld_setFirst_le _ _ _ x hf ?_) (Nat.le_refl _)
    unfold readStream; dsimp only
    split
    · exact step0_held_le x.q (hx.1 x (List.mem_of_find?_eq_some hf)) (.read k) rfl
    · exact Nat.le_refl _
    · exact Nat.le_refl _
  | readGone => exact frame (Nat.le_refl _) (Nat.le_refl _)
  | other t hs _ hq =>
    exact frame (by show sumHeld _ ≤ sumHeld _; rw [hs]; exact Nat.le_refl _) (by rw [hq]; exact Nat.le_refl _)
  | store c x pn ab hx' hcp hg _ =>
    have hpush : (RecvQ.push s.pq c.tsn).2 = true := by rw [← RecvQ.canPush_eq_push]; exact hcp
    have hle : sumHeld (setQ s.streams c.si (fun _ => x.q.step (.push c))) ≤ heldRegistered s + M := by
      have := sumHeld_setQ s.streams c.si (fun _ => x.q.step (.push c)) x hx'
      have he := (Reasm.pushWithError_effect x.q c).bytes
      show _ ≤ sumHeld _ + M
      simp only [Reasm.Q.step] at this ⊢
      rcases he with ⟨h1, _⟩ | ⟨h1, _⟩ <;> omega
    intro _
    show sumHeld (setQ s.streams c.si (fun _ => x.q.step (.push c))) + RecvQ.unset (RecvQ.push s.pq c.tsn).1 * M ≤
      s.maxBuf.toNat + (RecvQ.push s.pq c.tsn).1.maxOff.toNat * M
    rw [RecvQ.push_maxOff]
    by_cases hfull : s.maxBuf.toNat ≤ heldRegistered s
    · -- buffer full, so no credit: the chunk fills a gap below the highest TSN received, one unset slot is used up
      have hd := hg.resolve_left (by
        have hcr := credit_eq s hx.1 (by have := h.bound; have := h.small; omega)
        simp only [accept_hasCredit, decide_eq_true_eq]
        intro hc; have := BitVec.lt_def.mp hc; simp at this; omega)
      simp only [accept_dropAtFullBuffer, Bool.or_eq_false_iff, Bool.not_eq_false'] at hd
      have hsz : s.pq.size ≠ 0 := by
        intro h0
        have : RecvQ.lastTSN s.pq = none := by simp [RecvQ.lastTSN, h0]
        rw [this] at hd; simp at hd
      have hlast : RecvQ.lastTSN s.pq = some s.pq.tail := by
        have : (s.pq.size == 0) = false := by simpa using hsz
        simp [RecvQ.lastTSN, this]
      rw [hlast] at hd
      have hlt : sna32LT c.tsn s.pq.tail = true := by simpa using hd.2
      obtain ⟨hadm, _⟩ := (RecvQ.push_accept_iff h.inv c.tsn).mp hpush
      have hgap := below_tail h.inv c.tsn hadm hsz hlt
      have hu := RecvQ.unset_push_gap h.inv c.tsn hpush (by omega)
      have hpot := h.pot hfull
      have e : RecvQ.unset s.pq * M = RecvQ.unset (RecvQ.push s.pq c.tsn).1 * M + M := by
        rw [← hu, Nat.succ_mul]
      omega
    · -- below the buffer before, so below buffer + M afterwards; the stored TSN is a set slot of the window
      have hu := RecvQ.unset_push_any h.inv c.tsn hpush
      have : RecvQ.unset (RecvQ.push s.pq c.tsn).1 * M ≤ (s.pq.maxOff.toNat - 1) * M := Nat.mul_le_mul_right _ (by omega)
      have e : (s.pq.maxOff.toNat - 1) * M + M = s.pq.maxOff.toNat * M := by
        rw [← Nat.succ_mul]; congr 1; have := h.mo; omega
      omega

theorem Acts.binv {M : Nat} {s t : St} {n : Nat} (a : Acts s n t) (hn : n ≤ M) {b : Nat} (hb : b + n < 2^63)
    (h : BInv M b s) : BInv M (b + n) t :=
  Acts.inv_le (P := fun b s => b < 2^63 → BInv M b s) (fun _ _ _ hbb hp hb' => (hp (by omega)).weaken hbb)
    (fun hn a hp hb' => act_binv hn a hb' (hp (by omega))) a hn (fun _ => h) hb

/-- a packet may add more than `M` bytes: its chunks are taken one by one -/
theorem step_binv {M b : Nat} {s : St} (h : BInv M b s) (op : Op)
    (hM : ∀ cs, op = .pkt cs → ∀ ch ∈ cs, chunkBytes ch ≤ M) (hb : b + opBytes op < 2^63) :
    BInv M (b + opBytes op) (step s op) := by
  cases op with
  | pkt cs =>
    have h0 : BInv M (b + 0) (chunksStart s) := (chunksStart_acts s).binv (Nat.zero_le _) (by omega) h
    have h1 := foldl_graded (P := fun b s => b < 2^63 → BInv M b s) (f := handleChunk) cs
      (fun ch hch b s hp hb' => (handleChunk_acts s ch).binv (hM cs rfl ch hch) hb' (hp (by omega))) (fun _ => h0) hb
    exact (chunksEnd_acts _).binv (Nat.zero_le _) hb h1
  | read | accept | «open» | gather | tick | setState => exact (step_acts s _).binv (Nat.zero_le _) hb h

theorem run_binv {M : Nat} (ops : List Op) {b : Nat} {s : St} (h : BInv M b s)
    (hM : ∀ cs, Op.pkt cs ∈ ops → ∀ ch ∈ cs, chunkBytes ch ≤ M) (hb : b + (ops.map opBytes).sum < 2^63) :
    BInv M (b + (ops.map opBytes).sum) (run s ops) :=
  foldl_graded (P := fun b s => b < 2^63 → BInv M b s) ops
    (fun op hop b s hp hb' => step_binv (hp (by omega)) op (fun cs he => hM cs (he ▸ hop)) hb') (fun _ => h) hb

theorem init_binv (M : Nat) (maxBuf maxEntries : BitVec 32) (il f g : Bool) (am : Int) (t : TSN)
    (hsmall : maxBuf.toNat + 40000 * M < 2^32) : BInv M 0 (init maxBuf maxEntries il f g am t) := by
  have hq : (init maxBuf maxEntries il f g am t).pq = (RecvQ.start (getMaxTSNOffset maxBuf) (t - 1)).q := rfl
  have hmo : (init maxBuf maxEntries il f g am t).pq.maxOff.toNat ≤ 40000 := by
    rw [hq, RecvQ.start_maxOff]; exact RecvQ.round_le _ (RecvQ.getMaxTSNOffset_le maxBuf)
  have hmo1 : 1 ≤ (init maxBuf maxEntries il f g am t).pq.maxOff.toNat := by
    rw [hq, RecvQ.start_maxOff]
    have hge : 2000 ≤ (getMaxTSNOffset maxBuf).toNat := by
      simp only [getMaxTSNOffset, Gen.gmin, Gen.gmax]
      repeat' split
      all_goals first
        | decide
        | (simp only [BitVec.le_def, BitVec.toNat_ofNat, Nat.reducePow, Nat.reduceMod] at *; omega)
    have hle := RecvQ.getMaxTSNOffset_le maxBuf
    generalize getMaxTSNOffset maxBuf = o at hge hle
    show 1 ≤ (((o + 63#32) / 64#32) * 64#32).toNat
    rw [BitVec.toNat_mul, BitVec.toNat_udiv, BitVec.toNat_add]
    simp only [BitVec.toNat_ofNat, Nat.reducePow, Nat.reduceMod]
    omega
  refine ⟨init_allQ _ _ _ _ _ _ _ _, by rw [hq]; exact (RecvQ.start_ginv _ _).inv, ?_, hmo1, ?_⟩
  · intro hb
    have h0 : heldRegistered (init maxBuf maxEntries il f g am t) = 0 := rfl
    have hu : RecvQ.unset (init maxBuf maxEntries il f g am t).pq = 0 :=
      RecvQ.unset_empty (by rw [hq]; exact (RecvQ.start_ginv _ _).inv) rfl
    rw [h0, hu]; omega
  · have : (init maxBuf maxEntries il f g am t).maxBuf = maxBuf := rfl
    rw [this]
    have := Nat.mul_le_mul_right M hmo
    omega

end Receiver
