import SctpVerif.Proofs.Receiver.Prefix
import SctpVerif.Proofs.Receiver.Forward
import SctpVerif.Proofs.ReasmFwdOrd
import SctpVerif.Proofs.ReasmFwdPurge
import SctpVerif.Proofs.ReasmTotal
/-!
First of the four files of the receive-side simulation WITH skips (ordered DATA and FORWARD-TSN), in import order
`PrefixSkipQ` → `PrefixSkip` → `PrefixSkipRun` → `PrefixSkipDec`. This one: queue-level and table-level facts.
In namespace `Reasm`: `SkipInv.lower0`, `SkipInv.fwdU`, `push_ok` (no entry limit ⇒ a DATA push is not refused), the
`X_maxEntries` lemmas. In namespace `Receiver`: `handleFwd_qOf` — what `handleForwardTSN` does to the reassembly queue
of one stream — with `ensureStreams_inv`, `qOf_foldl_gstep`, `qOf_mapAll`.
-/
namespace Reasm
open Gen

/-- with fewer than 2^15 messages on the stream the window can be anchored at 0 -/
theorem SkipInv.lower0 {S K q f c A P D} (h : SkipInv S K q f c A P D) (hlen : S.msgs.length < 2^15)
    (hc : c ≤ S.msgs.length) : SkipInv S K q 0 c A P D :=
  { h with
    tab := { h.tab with win := fun e he => ⟨Nat.zero_le _, by have := (h.tab.win e he).2.2; omega, (h.tab.win e he).2.2⟩ }
    fc := ⟨Nat.zero_le _, by omega⟩ }

/-- the unordered-class skip touches nothing the ordered refinement looks at -/
theorem SkipInv.fwdU {S K q f c A P D} (h : SkipInv S K q f c A P D) (t : BitVec 32) :
    SkipInv S K (q.forwardTSNForUnordered t) f c A P D := by
  rw [forwardTSNForUnordered_eq]
  exact { h with si := h.si, il := h.il, un := h.un, cur := h.cur, tab := h.tab }

/-- without an entry limit a DATA chunk is never refused -/
theorem push_ok (q : Q) (c : Chunk) (hne : NoEmpty q) (hme : q.maxEntries = 0) (hid : c.iData = false) :
    (q.pushWithError c).2.2 = Err.none := by
  have hp := pushWithError_no_panic q c hne
  have hl : q.hasDataLimit = false := by simp [Q.hasDataLimit, hme]
  unfold Q.pushWithError at hp ⊢
  simp only [hid, Bool.false_eq_true, ↓reduceIte, hl, Bool.false_and] at hp ⊢
  repeat' split
  all_goals first | rfl | (exfalso; simp_all)

theorem push_maxEntries (q : Q) (c : Chunk) : (q.pushWithError c).1.maxEntries = q.maxEntries := step_maxEntries q (.push c)
theorem read_maxEntries (q : Q) (n : Nat) : (q.read n).1.maxEntries = q.maxEntries := step_maxEntries q (.read n)
theorem fwdO_maxEntries (q : Q) (L : BitVec 16) : (q.forwardTSNForOrdered L).maxEntries = q.maxEntries := step_maxEntries q (.fwdO L)
theorem fwdU_maxEntries (q : Q) (t : BitVec 32) : (q.forwardTSNForUnordered t).maxEntries = q.maxEntries := step_maxEntries q (.fwdU t)

/-- the reassembly queue of the stream under study in the simulation with skips: the refinement `SkipInv` with its window
anchored at floor 0 (fewer than 2^15 messages on the stream), no empty entry and no entry limit (so that no push is refused,
`push_ok`: a refused fragment would break "nothing of a message that is not abandoned is dropped") -/
structure SkipQ (S : Sender) (K : Nat → Bool) (q : Q) (c : Nat) (A : Tab) (P : List (Nat × Nat)) (D : List Nat) : Prop where
  sk : SkipInv S K q 0 c A P D
  ne : NoEmpty q
  me : q.maxEntries = 0
  cl : c ≤ S.msgs.length

theorem SkipQ.new (S : Sender) (K : Nat → Bool) : SkipQ S K (new S.si 0) 0 [] [] [] :=
  ⟨SkipInv_new S K 0, NoEmpty_new _ _, rfl, Nat.zero_le _⟩

theorem SkipQ.push {S K q c A P D} (h : SkipQ S K q c A P D) (hS : S.WF) (hlen : S.msgs.length < 2^15) {k i : Nat}
    (hk : k < S.msgs.length) (hi : i < S.nf k) (hP : (k, i) ∉ P) :
    ∃ A', SkipQ S K (q.pushWithError (S.dataFrag k i)).1 c A' ((k, i) :: P) D := by
  have hcl := h.cl
  obtain ⟨A', hsk⟩ := h.sk.push hS hk hi hP (by omega) (by omega) (push_ok q _ h.ne h.me rfl)
  exact ⟨A', hsk, pushWithError_noEmpty _ _ h.ne, by rw [push_maxEntries]; exact h.me, hcl⟩

/-- a read fails, or delivers one whole message `m` -/
theorem SkipQ.read {S K q c A P D} (h : SkipQ S K q c A P D) (hS : S.WF) (hlen : S.msgs.length < 2^15) (n : Nat) :
    (q.read n).2.err ≠ .ok ∨
    ∃ m c' A', (q.read n).2.ppi = (S.msg m).ppi ∧ (q.read n).2.data = (S.msg m).payload ∧
      SkipQ S K (q.read n).1 c' A' P (D ++ [m]) := by
  rcases h.sk.read hS n with ⟨hne, _⟩ | ⟨m, _, hppi, hdata, _, A', hinv'⟩
  · exact .inl hne
  · have hcl' : (if m = c then c + 1 else c) ≤ S.msgs.length := by
      have hm := hinv'.dlt m (List.mem_append_right _ (by simp))
      have := h.cl
      split
      · rename_i e; subst e; omega
      · exact this
    exact .inr ⟨m, _, A', hppi, hdata, hinv'.lower0 hlen hcl', read_noEmpty _ n h.ne, by rw [read_maxEntries]; exact h.me, hcl'⟩

/-- the ordered skips of a list of entries, one after the other: each names a message `L` of the stream such that every
message up to `L` that is not abandoned was handed over completely -/
theorem SkipQ.skips {S : Sender} {K : Nat → Bool} (hS : S.WF) (hlen : S.msgs.length < 2^15) {P : List (Nat × Nat)} {D : List Nat}
    (l : List (BitVec 16 × BitVec 16))
    (hl : ∀ e ∈ l, ∃ L, L < S.msgs.length ∧ e.2 = BitVec.ofNat 16 L ∧
      ∀ k, k < L + 1 → K k = false → ∀ i, i < S.nf k → (k, i) ∈ P) :
    ∀ {q : Q} {c : Nat} {A : Tab}, SkipQ S K q c A P D →
    ∃ c' A', SkipQ S K (l.foldl (fun q e => q.forwardTSNForOrdered e.2) q) c' A' P D := by
  induction l with
  | nil => intro q c A h; exact ⟨c, A, h⟩
  | cons e l ih =>
    intro q c A h
    obtain ⟨L, hL, he, hprem⟩ := hl e List.mem_cons_self
    have hcl := h.cl
    rw [List.foldl_cons, he]
    exact ih (fun e' he' => hl e' (List.mem_cons_of_mem _ he'))
      ⟨h.sk.skip hS hL (Nat.zero_le _) (by omega) hprem, step_noEmpty q (.fwdO (BitVec.ofNat 16 L)) h.ne,
       by rw [fwdO_maxEntries]; exact h.me, by omega⟩

theorem SkipQ.fwdU {S K q c A P D} (h : SkipQ S K q c A P D) (t : BitVec 32) :
    SkipQ S K (q.forwardTSNForUnordered t) c A P D :=
  ⟨h.sk.fwdU t, step_noEmpty q (.fwdU t) h.ne, by rw [fwdU_maxEntries]; exact h.me, h.cl⟩

end Reasm

namespace Receiver
open Gen

/-! ### what `handleForwardTSN` does to the queue of one stream -/

theorem ensureStreams_inv (ids : List (BitVec 16)) (s : St) (hn : NoReset s) (ht : TblOK s) :
    NoReset (ensureStreams s ids).1 ∧ TblOK (ensureStreams s ids).1 ∧ (ensureStreams s ids).1.maxEntries = s.maxEntries ∧
    ∀ si, qOf (ensureStreams s ids).1 si = qOf s si := by
  induction ids generalizing s with
  | nil => exact ⟨hn, ht, rfl, fun _ => rfl⟩
  | cons id ids ih =>
    simp only [ensureStreams]
    split
    · exact ih s hn ht
    · rename_i hx
      have h1 := createStream_noReset s id true hn
      have h2 := createStream_tblOK s id true ht hx
      have h3 : (createStream s id true).1.maxEntries = s.maxEntries := congrArg Cfg.maxEntries (cfg_of_kept (createStream_kept s id true))
      have h4 := fun si => qOf_createStream s id true si
      split
      · obtain ⟨i1, i2, i3, i4⟩ := ih _ h1 h2
        exact ⟨i1, i2, i3.trans h3, fun si => (i4 si).trans (h4 si)⟩
      · exact ⟨h1, h2, h3, h4⟩

/-- the per-entry loop: the queue of stream `si` gets, in order, the skips of the entries that name it -/
theorem qOf_foldl_gstep {α : Type} (key : α → BitVec 16) (fn : α → Reasm.Q → Reasm.Q) (es : List α) (s : St) (si : BitVec 16)
    (hreg : ∀ e ∈ es, key e = si → (getS s.streams si).isSome) :
    qOf (es.foldl (gstep key fn) s) si = (es.filter (fun e => key e == si)).foldl (fun q e => fn e q) (qOf s si) ∧
    (es.foldl (gstep key fn) s).maxEntries = s.maxEntries ∧
    ((getS (es.foldl (gstep key fn) s).streams si).isSome = (getS s.streams si).isSome) := by
  induction es generalizing s with
  | nil => exact ⟨rfl, rfl, rfl⟩
  | cons a es ih =>
    have hg : getS (gstep key fn s a).streams si =
        if si = key a then (getS s.streams (key a)).map (fun x => { x with q := fn a x.q }) else getS s.streams si :=
      getS_setQ s.streams (key a) si (fn a)
    have hsome : (getS (gstep key fn s a).streams si).isSome = (getS s.streams si).isSome := by
      rw [hg]; split
      · rename_i e; subst e; cases getS s.streams (key a) <;> rfl
      · rfl
    obtain ⟨i1, i2, i3⟩ := ih (gstep key fn s a) (fun e he hk => by
      rw [hsome]; exact hreg e (List.mem_cons_of_mem _ he) hk)
    rw [List.foldl_cons]
    refine ⟨?_, i2, i3.trans hsome⟩
    rw [i1, List.filter_cons]
    by_cases hk : key a = si
    · have hr := hreg a List.mem_cons_self hk
      simp only [hk, beq_self_eq_true, if_true, List.foldl_cons]
      congr 1
      unfold qOf
      show ((getS (gstep key fn s a).streams si).map (·.q)).getD _ = _
      rw [hg, if_pos hk.symm, hk]
      cases hgs : getS s.streams si with
      | none => rw [hgs] at hr; simp at hr
      | some x => rfl
    · have hk' : (key a == si) = false := by simpa using hk
      simp only [hk', Bool.false_eq_true, if_false]
      congr 1
      unfold qOf
      show ((getS (gstep key fn s a).streams si).map (·.q)).getD _ = _
      rw [hg, if_neg (fun e => hk e.symm)]
      rfl

theorem foldl_gstep_sis {α : Type} (key : α → BitVec 16) (fn : α → Reasm.Q → Reasm.Q) (es : List α) (s : St) :
    (es.foldl (gstep key fn) s).streams.map (·.si) = s.streams.map (·.si) :=
  ListAux.foldl_view (v := fun s : St => s.streams.map (·.si)) (fun s a => setQ_map_si s.streams (key a) (fn a)) es s

theorem qOf_mapAll (s : St) (g : Reasm.Q → Reasm.Q) (si : BitVec 16) :
    qOf ({ s with streams := s.streams.map fun x => { x with q := g x.q } } : St) si =
      if (getS s.streams si).isSome then g (qOf s si) else qOf s si := by
  unfold qOf
  show ((getS (s.streams.map fun x => { x with q := g x.q }) si).map (·.q)).getD _ = _
  rw [getS_map _ (fun x => { x with q := g x.q }) (fun _ => rfl)]
  cases getS s.streams si <;> rfl

/-- ✱ `handleForwardTSN` seen from one stream: if the chunk is not taken (`fwdTrace = []`) no queue changes; if it is
taken the queue gets the ordered skips of the entries naming the stream, in order, then (if the stream is registered)
the unordered skip at the new cumulative TSN -/
theorem handleFwd_qOf (s : St) (nc : TSN) (es : List (BitVec 16 × BitVec 16)) (hn : NoReset s) (ht : TblOK s) (si : BitVec 16) :
    NoReset (handleFwd s nc es) ∧ TblOK (handleFwd s nc es) ∧ (handleFwd s nc es).maxEntries = s.maxEntries ∧
    (fwdTrace s nc (es.map (·.1)) = [] → qOf (handleFwd s nc es) si = qOf s si) ∧
    (fwdTrace s nc (es.map (·.1)) = [.fwd nc] → ∃ b : Bool, qOf (handleFwd s nc es) si =
      (if b then ((es.filter (fun e => e.1 == si)).foldl (fun q e => q.forwardTSNForOrdered e.2) (qOf s si)).forwardTSNForUnordered nc
       else (es.filter (fun e => e.1 == si)).foldl (fun q e => q.forwardTSNForOrdered e.2) (qOf s si))) := by
  unfold handleFwd fwdTrace
  split
  · exact ⟨hn, ht, rfl, fun _ => rfl, fun h => by cases h⟩
  · split
    · exact ⟨hn, ht, rfl, fun _ => rfl, fun h => by cases h⟩
    · split
      · exact ⟨hn, ht, rfl, fun _ => rfl, fun h => by cases h⟩
      · obtain ⟨e1, e2, e3, e4⟩ := ensureStreams_inv (es.map (·.1)) s hn ht
        have hok := ensureStreams_ok (es.map (·.1)) s
        have hpqE := ensureStreams_pq (es.map (·.1)) s
        generalize ensureStreams s (es.map (·.1)) = E at e1 e2 e3 e4 hok hpqE ⊢
        dsimp only
        split
        · exact ⟨e1, e2, e3, fun _ => e4 si, fun h => by cases h⟩
        · rename_i hE
          have hE' : E.2 = true := by simpa using hE
          have hreg : ∀ e ∈ es, (getS ({ E.1 with pq := RecvQ.advance E.1.pq nc } : St).streams e.1).isSome :=
            fun e he => hok hE' e.1 (List.mem_map_of_mem he)
          rw [foldl_fwdEntry_gstep es _ hreg]
          obtain ⟨g1, g2, g3⟩ := qOf_foldl_gstep (·.1) (fun e q => q.forwardTSNForOrdered e.2) es
            ({ E.1 with pq := RecvQ.advance E.1.pq nc } : St) si (fun e he hk => by rw [← hk]; exact hreg e he)
          have hsis := foldl_gstep_sis (·.1) (fun (e : BitVec 16 × BitVec 16) q => q.forwardTSNForOrdered e.2) es
            ({ E.1 with pq := RecvQ.advance E.1.pq nc } : St)
          have hcore := gstep_core (·.1) (fun (e : BitVec 16 × BitVec 16) q => q.forwardTSNForOrdered e.2) es
            ({ E.1 with pq := RecvQ.advance E.1.pq nc } : St)
          generalize es.foldl (gstep (·.1) (fun e q => q.forwardTSNForOrdered e.2)) ({ E.1 with pq := RecvQ.advance E.1.pq nc } : St) = F
            at g1 g2 g3 hcore hsis ⊢
          have hq0 : qOf ({ E.1 with pq := RecvQ.advance E.1.pq nc } : St) si = qOf s si := e4 si
          rw [hq0] at g1
          -- the table after the unordered skip of every stream
          let M : St := { F with streams := F.streams.map fun x => { x with q := x.q.forwardTSNForUnordered nc } }
          have hMq := qOf_mapAll F (fun q => q.forwardTSNForUnordered nc) si
          have hFg : F.gone = E.1.gone ∧ F.resetReqs = E.1.resetReqs := by
            have a := congrArg (fun t => t.2.1) hcore
            have b := congrArg (fun t => t.2.2.1) hcore
            exact ⟨a, b⟩
          have hMn : NoReset M := ⟨hFg.2.trans e1.1, hFg.1.trans e1.2⟩
          have hFt : TblOK F := by
            unfold TblOK; rw [hsis]; exact e2
          have hMt : TblOK M := by
            unfold TblOK
            show ((F.streams.map fun x => ({ x with q := x.q.forwardTSNForUnordered nc } : Stream)).map (·.si)).Nodup
            rw [List.map_map]
            exact hFt
          have htb := ackStep_tbl M false hMn.1
          refine ⟨noReset_of_tbl htb hMn, tblOK_of_tbl htb hMt, (congrArg Cfg.maxEntries (ackStep_cfg M false)).trans (g2.trans e3),
            (fun h => by cases h), fun _ => ⟨(getS F.streams si).isSome, ?_⟩⟩
          rw [qOf_of_tbl htb si, hMq, g1]

/-- ✱ a FORWARD-TSN whose new cumulative TSN is `t0 + n` and which covers, above the receiver's cumulative point, only
offsets with `Ab`, seen from stream `si`: not taken, the queue of the stream stays; taken, it gets the skips `handleFwd_qOf`
lists -/
theorem Frame.fwd {t0 N Ab s R G} (h : Frame t0 N Ab s R G) (hN : N < 2^31) (nc : TSN) (es : List (BitVec 16 × BitVec 16))
    {n : Nat} (hn : n < N) (hnc : nc = t0 + BitVec.ofNat 32 n) (hcov : ∀ j, j ≤ n → Ab j ∨ j < R.h.A) (si : BitVec 16) :
    Frame t0 N Ab (handleChunk s (.fwd nc es)) (RecvQ.run R (chunkTrace s (.fwd nc es))) G ∧
    (qOf (handleChunk s (.fwd nc es)) si = qOf s si ∨
     (chunkTrace s (.fwd nc es) = [.fwd nc] ∧ ∃ b : Bool, qOf (handleChunk s (.fwd nc es)) si =
       (if b then ((es.filter (fun e => e.1 == si)).foldl (fun q e => q.forwardTSNForOrdered e.2) (qOf s si)).forwardTSNForUnordered nc
        else (es.filter (fun e => e.1 == si)).foldl (fun q e => q.forwardTSNForOrdered e.2) (qOf s si)))) := by
  obtain ⟨hc1, hc2⟩ := fwdTrace_cases s nc (es.map (·.1))
  obtain ⟨q1, q2, _, q4, q5⟩ := handleFwd_qOf s nc es h.nr h.tb si
  refine ⟨⟨q1, q2, h.rinv.fwdStep hN (.fwd nc es) nc hc1 hc2 n hn hnc hcov⟩, ?_⟩
  rcases hc1 with htr | htr
  · exact .inl (q4 htr)
  · exact .inr ⟨htr, q5 htr⟩

end Receiver
