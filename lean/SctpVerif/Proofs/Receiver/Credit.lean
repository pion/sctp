import SctpVerif.Proofs.Receiver.Sack
/-!
Receive-window accounting at association level (C11): the per-stream byte counters stay exact along every
association run, so `getMyReceiverWindowCredit` is the configured buffer minus the user bytes held by the
REGISTERED streams (clamped at 0); the user bytes held by all stream objects never grow except by a DATA chunk
that `canPush` admits (inside the tracking window) and that either finds credit or fills a gap below the highest
TSN received.
-/
namespace Receiver
open Gen

theorem cinv_gpres (me : BitVec 32) : GPres me (fun b q => b < 2^63 → Reasm.CInv q b) where
  new := fun si _ => Reasm.CInv_new si me
  mono := by
    intro b b' q hb h hb'
    obtain ⟨h1, h2⟩ := h (by omega)
    exact ⟨h1, by omega⟩
  step := by
    intro b q op h hb
    exact Reasm.CInv_step (h (by omega)) op hb

/-- every stream object's counter is the truth (and below 2^63) -/
def Exact (s : St) : Prop := AllQ (fun q => q.nBytes.toNat = q.heldBytes ∧ q.heldBytes < 2^63) s

/-- ✱ along any op list whose DATA chunks carry fewer than 2^63 user bytes in total, every stream's byte counter
equals the user bytes held in its reassembly structures -/
theorem run_exact (a b : BitVec 32) (c d e : Bool) (f : Int) (t : TSN) (ops : List Op)
    (h : (ops.map opBytes).sum < 2^63) : Exact (run (init a b c d e f t) ops) := by
  have h0 : AllQ (fun q => (0 : Nat) < 2^63 → Reasm.CInv q 0) (init a b c d e f t) := init_allQ _ a b c d e f t
  have := (run_acts ops _).allQ (b := 0) (cinv_gpres _) h0
  simp only [Nat.zero_add] at this
  exact ⟨fun x hx => by obtain ⟨h1, h2⟩ := this.1 x hx h; exact ⟨h1, by omega⟩,
         fun x hx => by obtain ⟨h1, h2⟩ := this.2 x hx h; exact ⟨h1, by omega⟩⟩

def sumHeld (l : List Stream) : Nat := (l.map heldOf).sum

theorem getNumBytes_exact (q : Reasm.Q) (h : q.nBytes.toNat = q.heldBytes ∧ q.heldBytes < 2^63) :
    q.getNumBytes = (q.heldBytes : Int) := by
  unfold Reasm.Q.getNumBytes
  rw [BitVec.toInt_eq_toNat_cond, if_pos (by omega), h.1]

theorem credit_fold (l : List Stream) (a : BitVec 32)
    (h : ∀ x ∈ l, x.q.nBytes.toNat = x.q.heldBytes ∧ x.q.heldBytes < 2^63) :
    l.foldl (fun acc x => acc + rwnd_addStream x.q.getNumBytes) a = a + BitVec.ofNat 32 (sumHeld l) := by
  induction l generalizing a with
  | nil => simp [sumHeld]
  | cons x l ih =>
    rw [List.foldl_cons, ih _ (fun y hy => h y (List.mem_cons_of_mem _ hy))]
    have hx := getNumBytes_exact x.q (h x List.mem_cons_self)
    simp only [rwnd_addStream, hx, sumHeld, List.map_cons, List.sum_cons, heldOf]
    rw [BitVec.add_assoc]
    congr 1
    rw [show BitVec.ofInt 32 (x.q.heldBytes : Int) = BitVec.ofNat 32 x.q.heldBytes from by
      apply BitVec.eq_of_toNat_eq; simp]
    rw [← BitVec.ofNat_add]

/-- ✱ `getMyReceiverWindowCredit` = configured buffer ∸ user bytes held by the registered streams -/
theorem credit_eq (s : St) (hex : ∀ x ∈ s.streams, x.q.nBytes.toNat = x.q.heldBytes ∧ x.q.heldBytes < 2^63)
    (hsum : heldRegistered s < 2^32) : (credit s).toNat = s.maxBuf.toNat - heldRegistered s := by
  unfold credit
  dsimp only
  rw [credit_fold _ _ hex]
  have hs : sumHeld s.streams = heldRegistered s := rfl
  rw [hs]
  have hv : ((0#32) + BitVec.ofNat 32 (heldRegistered s)).toNat = heldRegistered s := by
    simp [Nat.mod_eq_of_lt hsum]
  by_cases hge : s.maxBuf.toNat ≤ heldRegistered s
  · have hd : rwnd_exhausted (0#32 + BitVec.ofNat 32 (heldRegistered s)) s.maxBuf = true := by
      simp only [rwnd_exhausted]
      exact decide_eq_true (by rw [ge_iff_le, BitVec.le_def, hv]; exact hge)
    rw [if_pos hd]
    simp; omega
  · have hd : ¬ rwnd_exhausted (0#32 + BitVec.ofNat 32 (heldRegistered s)) s.maxBuf = true := by
      simp only [rwnd_exhausted]
      intro hc
      have := of_decide_eq_true hc
      rw [ge_iff_le, BitVec.le_def, hv] at this
      exact hge this
    rw [if_neg hd]
    simp only [rwnd_credit]
    rw [BitVec.toNat_sub, hv]
    have := s.maxBuf.isLt
    omega


/-- user bytes held by every stream object, registered or already deleted from the table -/
def heldAll (s : St) : Nat := sumHeld s.streams + sumHeld s.gone

@[simp] theorem sumHeld_nil : sumHeld [] = 0 := rfl
@[simp] theorem sumHeld_cons (x : Stream) (l : List Stream) : sumHeld (x :: l) = x.q.heldBytes + sumHeld l := by
  simp [sumHeld, heldOf]
@[simp] theorem sumHeld_append (a b : List Stream) : sumHeld (a ++ b) = sumHeld a + sumHeld b := by
  simp [sumHeld]

theorem sumHeld_filter_le (p : Stream → Bool) (l : List Stream) : sumHeld (l.filter p) ≤ sumHeld l :=
  ListAux.sum_map_filter_le _ p l

theorem sumHeld_filter_add_le (p : Stream → Bool) (l : List Stream) (x : Stream) (hx : x ∈ l) (hp : p x = false) :
    sumHeld (l.filter p) + x.q.heldBytes ≤ sumHeld l := by
  induction l with
  | nil => simp at hx
  | cons y l ih =>
    simp only [List.mem_cons] at hx
    rcases hx with rfl | hx
    · simp only [List.filter_cons, hp, Bool.false_eq_true, if_false, sumHeld_cons]
      have := sumHeld_filter_le p l; omega
    · have := ih hx
      simp only [List.filter_cons]; split <;> simp <;> omega

theorem heldBytes_new (si : BitVec 16) (me : BitVec 32) : (Reasm.new si me).heldBytes = 0 := by
  simp [Reasm.new, Reasm.Q.heldBytes]

theorem createStream_heldAll (s : St) (si : BitVec 16) (a : Bool) : heldAll (createStream s si a).1 = heldAll s := by
  rcases createStream_cases s si a with ⟨e, _⟩ | ⟨strm, hq, _, _, hs, hg, _, _⟩
  · rw [e]
  · simp only [heldAll, hs, hg, sumHeld_append, sumHeld_cons, sumHeld_nil, hq, heldBytes_new]; omega

theorem getOrCreateStream_heldAll (s : St) (si : BitVec 16) (a : Bool) : heldAll (getOrCreateStream s si a).1 = heldAll s := by
  unfold getOrCreateStream; split; rfl; exact createStream_heldAll s si a

theorem unregister_heldAll (s : St) (id : BitVec 16) : heldAll (unregister s id) ≤ heldAll s := by
  unfold unregister
  split
  · exact Nat.le_refl _
  · rename_i x hx
    obtain ⟨hm, hsi⟩ := getS_mem hx
    have := sumHeld_filter_add_le (fun y => y.si != id) s.streams x hm (by simp [hsi])
    simp only [heldAll, sumHeld_append, sumHeld_cons, sumHeld_nil]
    omega

theorem heldAll_resetMono : ResetMono (fun s t => heldAll t ≤ heldAll s) where
  refl := fun _ => Nat.le_refl _
  trans := fun h1 h2 => Nat.le_trans h2 h1
  unreg := unregister_heldAll
  objs := fun h hs hg => by unfold heldAll at *; rw [hs, hg]; exact h

theorem ackStep_heldAll (s : St) (b : Bool) : heldAll (ackStep s b) ≤ heldAll s := heldAll_resetMono.ack s b

/-- replacing the queue of the entry `getS` finds -/
theorem sumHeld_setQ (l : List Stream) (si : BitVec 16) (f : Reasm.Q → Reasm.Q) (x : Stream) (h : getS l si = some x) :
    sumHeld (setQ l si f) + x.q.heldBytes = sumHeld l + (f x.q).heldBytes := by
  induction l with
  | nil => simp [getS] at h
  | cons y l ih =>
    simp only [getS, List.find?_cons] at h
    simp only [setQ]
    split at h
    · rename_i hy
      cases h
      simp only [hy, if_true, sumHeld_cons]; omega
    · rename_i hy
      have hy' : (y.si == si) = false := by simpa using hy
      simp only [hy', Bool.false_eq_true, if_false, sumHeld_cons]
      have := ih h
      omega

theorem sumHeld_setQ_none (l : List Stream) (si : BitVec 16) (f : Reasm.Q → Reasm.Q) (h : getS l si = none) :
    setQ l si f = l := by
  induction l with
  | nil => rfl
  | cons y l ih =>
    simp only [getS, List.find?_cons] at h
    split at h
    · cases h
    · rename_i hy
      have hy' : (y.si == si) = false := by simpa using hy
      simp only [setQ, hy', Bool.false_eq_true, if_false]
      rw [ih h]

/-- `pushPayloadDataToStream` adds at most the chunk's user bytes -/
theorem pushToStream_heldAll (s : St) (c : Reasm.Chunk) : heldAll (pushToStream s c).1 ≤ heldAll s + c.len := by
  unfold pushToStream
  dsimp only
  split
  · simp only [heldAll]; omega
  · rename_i x hx
    have he := (Reasm.pushWithError_effect x.q c).bytes
    have hs := sumHeld_setQ s.streams c.si (fun _ => (x.q.pushWithError c).1) x hx
    have key : sumHeld (setQ s.streams c.si (fun _ => (x.q.pushWithError c).1)) + sumHeld s.gone ≤
        sumHeld s.streams + sumHeld s.gone + c.len := by
      rcases he with ⟨h1, _⟩ | ⟨h1, _⟩ <;> omega
    split <;> exact key

/-- ✱ what `handleData` may do to the user bytes held: nothing, unless `canPush` admits the TSN and
`acceptPayloadData` stores the chunk (`stores`); then at most the chunk's bytes are added -/
theorem handleData_heldAll (s : St) (c : Reasm.Chunk) (imm : Bool) :
    heldAll (handleData s c imm) ≤ heldAll s + (if RecvQ.canPush s.pq c.tsn && stores s c then c.len else 0) := by
  have hacc : heldAll (acceptPayloadData s c).1 ≤ heldAll s + (if stores s c then c.len else 0) := by
    have hg := getOrCreateStream_heldAll s c.si true
    rw [acceptPayloadData_eq]
    split
    · have := pushToStream_heldAll (getOrCreateStream s c.si true).1 c; omega
    · omega
  exact handleData_ind (Q := fun x => heldAll x ≤ heldAll s + (if RecvQ.canPush s.pq c.tsn && stores s c then c.len else 0))
    s c imm (Nat.le_add_right _ _) (Nat.le_add_right _ _) (fun hcp => by simpa [hcp] using hacc)
    (fun x b hx => Nat.le_trans (ackStep_heldAll x b) hx)


/-! ### the credit does not see a freshly created stream; reachable receive queues satisfy the queue invariant -/

theorem getNumBytes_new (si : BitVec 16) (me : BitVec 32) : (Reasm.new si me).getNumBytes = 0 := by
  simp [Reasm.new, Reasm.Q.getNumBytes]

theorem credit_createStream (s : St) (si : BitVec 16) (a : Bool) : credit (createStream s si a).1 = credit s := by
  rcases createStream_cases s si a with ⟨e, _⟩ | ⟨strm, hq, _, _, hs, _, _, _⟩
  · rw [e]
  · have hmb : (createStream s si a).1.maxBuf = s.maxBuf := congrArg Cfg.maxBuf (cfg_of_kept (createStream_kept s si a))
    unfold credit
    dsimp only
    rw [hs, hmb, List.foldl_append]
    have : ∀ acc : BitVec 32, List.foldl (fun acc x => acc + rwnd_addStream x.q.getNumBytes) acc [strm] = acc := by
      intro acc; simp [hq, getNumBytes_new, rwnd_addStream]
    rw [this]

theorem credit_getOrCreateStream (s : St) (si : BitVec 16) (a : Bool) : credit (getOrCreateStream s si a).1 = credit s := by
  unfold getOrCreateStream; split; rfl; exact credit_createStream s si a

theorem lastTSN_getOrCreateStream (s : St) (si : BitVec 16) (a : Bool) :
    RecvQ.lastTSN (getOrCreateStream s si a).1.pq = RecvQ.lastTSN s.pq := by
  rw [getOrCreateStream_pq]

/-- ✱ what `stores` means: a stream object is available, and there is credit or the TSN is serially below the
highest TSN received -/
theorem stores_iff (s : St) (c : Reasm.Chunk) :
    stores s c = true ↔ (getOrCreateStream s c.si true).2.isSome = true ∧
      ((credit s).toNat > 0 ∨ ∃ last, RecvQ.lastTSN s.pq = some last ∧ sna32LT c.tsn last = true) := by
  have hc := credit_getOrCreateStream s c.si true
  have hl := lastTSN_getOrCreateStream s c.si true
  unfold stores
  rcases hgo : getOrCreateStream s c.si true with ⟨s', o⟩
  rw [hgo] at hc hl
  dsimp only at hc hl
  cases o with
  | none => simp
  | some x =>
    simp only [Option.isSome_some, true_and, hc, hl, accept_hasCredit, accept_dropAtFullBuffer, Bool.or_eq_true,
      decide_eq_true_eq, Bool.not_eq_true', Bool.or_eq_false_iff, Bool.not_eq_false']
    constructor
    · rintro (h | ⟨h1, h2⟩)
      · left; exact BitVec.lt_def.mp h
      · right
        cases hlast : RecvQ.lastTSN s.pq with
        | none => rw [hlast] at h1; simp at h1
        | some last => rw [hlast] at h2; exact ⟨last, rfl, by simpa using h2⟩
    · rintro (h | ⟨last, h1, h2⟩)
      · left; exact BitVec.lt_def.mpr h
      · right; rw [h1]; simp [h2]

theorem run_pq_inv (a b : BitVec 32) (c d e : Bool) (f : Int) (t : TSN) (ops : List Op) :
    RecvQ.Inv (run (init a b c d e f t) ops).pq ∧ (run (init a b c d e f t) ops).pq.maxOff.toNat ≤ 40000 := by
  have h := (run_acts ops (init a b c d e f t)).pq (RecvQ.init_inv (RecvQ.new_ring _) _)
  exact ⟨h.1, h.2 ▸ RecvQ.round_le _ (RecvQ.getMaxTSNOffset_le a)⟩

end Receiver
