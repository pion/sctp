import SctpVerif.Proofs.Receiver.Credit
/-!
What one association step does to the reassembly queue of each stream id, in runs without stream resets
(`resetReqs = []`, hence nothing is ever deleted from the table): `qOf s si` — the queue of the registered
stream `si`, or a fresh queue if the association has not created that stream yet — changes only by
`pushWithError` of a DATA chunk for that stream that `handleData` really hands over (`pushes`), and by `read`.
-/
namespace Receiver
open Gen

/-- the reassembly queue of stream `si`: the registered object's, or the queue `createStream` would make -/
def qOf (s : St) (si : BitVec 16) : Reasm.Q := ((getS s.streams si).map (·.q)).getD (Reasm.new si s.maxEntries)

/-- `handleData` hands the chunk to `pushPayloadDataToStream` -/
def pushes (s : St) (c : Reasm.Chunk) : Bool :=
  !c.userData.isEmpty && data_canHandle (a_shutdownCompletePending := s.scp) (state := s.state) &&
  !data_wrongKind (chunkPayload_isIData := c.iData) (a_useInterleaving := s.il) &&
  RecvQ.canPush s.pq c.tsn && stores s c

/-- no reset pending, nothing deleted from the table -/
def NoReset (s : St) : Prop := s.resetReqs = [] ∧ s.gone = []

theorem getS_append_single (l : List Stream) (x : Stream) (si : BitVec 16) :
    getS (l ++ [x]) si = (getS l si).or (if x.si == si then some x else none) := by
  simp only [getS, List.find?_append, List.find?_cons, List.find?_nil]
  cases l.find? (fun y => y.si == si) with
  | some y => simp
  | none =>
    simp only [Option.none_or]
    cases h : (x.si == si) <;> simp

theorem getS_setQ (l : List Stream) (si si' : BitVec 16) (f : Reasm.Q → Reasm.Q) :
    getS (setQ l si f) si' = if si' = si then (getS l si).map (fun x => { x with q := f x.q }) else getS l si' := by
  induction l with
  | nil => simp [setQ, getS]
  | cons y l ih =>
    simp only [setQ]
    by_cases hy : (y.si == si) = true
    · have hys : y.si = si := by simpa using hy
      simp only [hy, if_true, getS, List.find?_cons]
      by_cases h : si' = si
      · subst h; simp [hys]
      · have : (y.si == si') = false := by rw [hys]; simpa using fun e => h e.symm
        simp [this, h]
    · have hy' : (y.si == si) = false := by simpa using hy
      simp only [hy', Bool.false_eq_true, if_false, getS, List.find?_cons]
      by_cases h : si' = si
      · subst h
        simp only [hy', if_true]
        have := ih; simp only [getS, if_true] at this; exact this
      · by_cases hy2 : (y.si == si') = true
        · simp [hy2, h]
        · have hy2' : (y.si == si') = false := by simpa using hy2
          simp only [hy2', h, if_false]
          have := ih; simp only [getS, h, if_false] at this; exact this

theorem setQ_map_si (l : List Stream) (si : BitVec 16) (f : Reasm.Q → Reasm.Q) : (setQ l si f).map (·.si) = l.map (·.si) := by
  induction l with
  | nil => rfl
  | cons y l ih => simp only [setQ]; split <;> simp [ih]

/-! ### `createStream` does not change `qOf` -/

theorem qOf_createStream (s : St) (si0 : BitVec 16) (a : Bool) (si : BitVec 16) :
    qOf (createStream s si0 a).1 si = qOf s si := by
  rcases createStream_cases s si0 a with ⟨e, _⟩ | ⟨strm, hq, hsi, _, hs, _, _, hme⟩
  · rw [e]
  · unfold qOf
    rw [hs, hme, getS_append_single]
    cases hg : getS s.streams si with
    | some x => simp
    | none =>
      simp only [Option.none_or]
      by_cases h : (strm.si == si) = true
      · have : si = si0 := by rw [← hsi]; exact (by simpa using h : strm.si = si).symm
        subst this
        simp [hq, hsi]
      · have h' : (strm.si == si) = false := by simpa using h
        simp [h']

theorem qOf_getOrCreateStream (s : St) (si0 : BitVec 16) (a : Bool) (si : BitVec 16) :
    qOf (getOrCreateStream s si0 a).1 si = qOf s si := by
  unfold getOrCreateStream; split; rfl; exact qOf_createStream s si0 a si

/-- after `getOrCreateStream` succeeded the stream is registered -/
theorem getOrCreateStream_some (s : St) (si : BitVec 16) (a : Bool) (x : Stream)
    (h : (getOrCreateStream s si a).2 = some x) : ∃ y, getS (getOrCreateStream s si a).1.streams si = some y :=
  Option.isSome_iff_exists.mp (getOrCreateStream_reg s si a (by rw [h]; rfl))


/-- stream table, deleted objects, pending resets, entry limit: what the per-stream reasoning reads -/
def tbl (s : St) : List Stream × List Stream × List ResetReq × BitVec 32 := (s.streams, s.gone, s.resetReqs, s.maxEntries)

theorem qOf_of_tbl {s s' : St} (h : tbl s' = tbl s) (si : BitVec 16) : qOf s' si = qOf s si := by
  simp only [tbl, Prod.mk.injEq] at h
  unfold qOf; rw [h.1, h.2.2.2]

theorem popLoop_tbl (n : Nat) (s : St) (h : s.resetReqs = []) : tbl (popLoop n s) = tbl s := by
  induction n generalizing s with
  | zero => rfl
  | succ n ih =>
    simp only [popLoop]
    split
    · have e : List.foldl resetStreamsIfAny { s with pq := (RecvQ.pop s.pq false).1 }
          ({ s with pq := (RecvQ.pop s.pq false).1 } : St).resetReqs = { s with pq := (RecvQ.pop s.pq false).1 } := by
        show List.foldl resetStreamsIfAny _ s.resetReqs = _
        rw [h]; rfl
      rw [e]
      exact ih _ h
    · rfl

theorem ackStep_tbl (s : St) (b : Bool) (h : s.resetReqs = []) : tbl (ackStep s b) = tbl s := by
  have := popLoop_tbl s.pq.size.toNat s h
  unfold ackStep
  dsimp only
  repeat' split
  all_goals exact this

/-- the si's in the table are pairwise distinct (it is a map) -/
def TblOK (s : St) : Prop := (s.streams.map (·.si)).Nodup

theorem getS_none_iff (l : List Stream) (si : BitVec 16) : getS l si = none ↔ si ∉ l.map (·.si) := by
  simp only [getS, List.find?_eq_none, List.mem_map, not_exists, not_and]
  constructor
  · intro h x hx e; exact (by simpa using h x hx : x.si ≠ si) e
  · intro h x hx; simpa using h x hx

theorem createStream_tblOK (s : St) (si : BitVec 16) (a : Bool) (h : TblOK s) (hn : getS s.streams si = none) :
    TblOK (createStream s si a).1 := by
  rcases createStream_cases s si a with ⟨e, _⟩ | ⟨strm, _, hsi, _, hs, _, _, _⟩
  · rw [e]; exact h
  · unfold TblOK
    rw [hs, List.map_append, List.nodup_append]
    refine ⟨h, by simp, ?_⟩
    intro a ha b hb
    simp only [List.map_cons, List.map_nil, List.mem_singleton] at hb
    rw [hb, hsi]
    intro e; rw [e] at ha
    exact (getS_none_iff _ _).mp hn ha

theorem getOrCreateStream_tblOK (s : St) (si : BitVec 16) (a : Bool) (h : TblOK s) : TblOK (getOrCreateStream s si a).1 := by
  unfold getOrCreateStream
  split
  · exact h
  · rename_i hn; exact createStream_tblOK s si a h hn

theorem createStream_noReset (s : St) (si : BitVec 16) (a : Bool) (h : NoReset s) : NoReset (createStream s si a).1 := by
  unfold createStream NoReset at *
  repeat' split
  all_goals exact h

theorem getOrCreateStream_noReset (s : St) (si : BitVec 16) (a : Bool) (h : NoReset s) : NoReset (getOrCreateStream s si a).1 := by
  unfold getOrCreateStream; split; exact h; exact createStream_noReset s si a h

/-- the table after `pushPayloadDataToStream` when the stream is registered -/
theorem pushToStream_tbl (s : St) (c : Reasm.Chunk) (x : Stream) (hx : getS s.streams c.si = some x) :
    tbl (pushToStream s c).1 = (setQ s.streams c.si (fun _ => (x.q.pushWithError c).1), s.gone, s.resetReqs, s.maxEntries) := by
  unfold pushToStream
  dsimp only
  rw [hx]
  dsimp only
  split <;> rfl

theorem qOf_pushToStream (s : St) (c : Reasm.Chunk) (x : Stream) (hx : getS s.streams c.si = some x) (si : BitVec 16) :
    qOf (pushToStream s c).1 si = if si = c.si then ((qOf s c.si).pushWithError c).1 else qOf s si := by
  have ht := pushToStream_tbl s c x hx
  simp only [tbl, Prod.mk.injEq] at ht
  unfold qOf
  rw [ht.1, ht.2.2.2, getS_setQ]
  by_cases h : si = c.si
  · subst h; simp [hx]
  · simp [h]

theorem pushToStream_ok (s : St) (c : Reasm.Chunk) (x : Stream) (hx : getS s.streams c.si = some x)
    (hn : NoReset s) (ht : TblOK s) : NoReset (pushToStream s c).1 ∧ TblOK (pushToStream s c).1 := by
  have h := pushToStream_tbl s c x hx
  simp only [tbl, Prod.mk.injEq] at h
  refine ⟨⟨by rw [h.2.2.1]; exact hn.1, by rw [h.2.1]; exact hn.2⟩, ?_⟩
  unfold TblOK
  rw [h.1, setQ_map_si]
  exact ht

/-- ✱ what `acceptPayloadData` does to the queues: if it stores the chunk (`stores`), the queue of the chunk's
stream gets the chunk; otherwise no queue changes -/
theorem acceptPayloadData_qOf (s : St) (c : Reasm.Chunk) (hn : NoReset s) (ht : TblOK s) (si : BitVec 16) :
    qOf (acceptPayloadData s c).1 si =
      (if stores s c = true ∧ si = c.si then ((qOf s c.si).pushWithError c).1 else qOf s si) ∧
    NoReset (acceptPayloadData s c).1 ∧ TblOK (acceptPayloadData s c).1 := by
  have hq := fun si' => qOf_getOrCreateStream s c.si true si'
  have hnr := getOrCreateStream_noReset s c.si true hn
  have htb := getOrCreateStream_tblOK s c.si true ht
  rw [acceptPayloadData_eq]
  by_cases hs : stores s c = true
  · obtain ⟨x, hx⟩ := stores_some hs
    obtain ⟨y, hy⟩ := getOrCreateStream_some s c.si true x hx
    simp only [hs, if_true, true_and]
    rw [qOf_pushToStream _ c y hy si, hq, hq]
    exact ⟨rfl, pushToStream_ok _ c y hy hnr htb⟩
  · simp only [hs, Bool.false_eq_true, if_false, false_and]
    exact ⟨hq si, hnr, htb⟩

theorem noReset_of_tbl {s s' : St} (h : tbl s' = tbl s) (hn : NoReset s) : NoReset s' := by
  simp only [tbl, Prod.mk.injEq] at h
  exact ⟨by rw [h.2.2.1]; exact hn.1, by rw [h.2.1]; exact hn.2⟩

theorem tblOK_of_tbl {s s' : St} (h : tbl s' = tbl s) (ht : TblOK s) : TblOK s' := by
  simp only [tbl, Prod.mk.injEq] at h
  unfold TblOK; rw [h.1]; exact ht

theorem chunksEnd_tbl (s : St) : tbl (chunksEnd s) = tbl s := by
  unfold chunksEnd; repeat' split
  all_goals rfl

theorem accept_tbl (s : St) : tbl (accept s).1 = tbl s := by
  unfold accept; split <;> rfl

theorem gather_tbl (s : St) : tbl (gather s).1 = tbl s := by
  unfold gather; dsimp only; repeat' split
  all_goals rfl

theorem tick_tbl (s : St) (d : Nat) : tbl (tick s d) = tbl s := by
  unfold tick; dsimp only; repeat' split
  all_goals rfl

theorem openStream_table (s : St) (si : BitVec 16) (hn : NoReset s) (ht : TblOK s) :
    NoReset (openStream s si).1 ∧ TblOK (openStream s si).1 ∧ ∀ si', qOf (openStream s si).1 si' = qOf s si' := by
  unfold openStream
  split
  · exact ⟨hn, ht, fun _ => rfl⟩
  · exact ⟨getOrCreateStream_noReset s si false hn, getOrCreateStream_tblOK s si false ht, qOf_getOrCreateStream s si false⟩

theorem dataTaken_qOf (s : St) (c : Reasm.Chunk) (hn : NoReset s) (ht : TblOK s) (si : BitVec 16) :
    qOf (dataTaken s c).1 si =
      (if (RecvQ.canPush s.pq c.tsn && stores s c) = true ∧ si = c.si then ((qOf s c.si).pushWithError c).1 else qOf s si) ∧
    NoReset (dataTaken s c).1 ∧ TblOK (dataTaken s c).1 := by
  unfold dataTaken
  split
  · rename_i h; rw [h, Bool.true_and]; exact acceptPayloadData_qOf s c hn ht si
  · rename_i h; rw [(Bool.not_eq_true _).mp h, Bool.false_and]; exact ⟨by simp, hn, ht⟩

/-- ✱ what `handleData` does to the queues -/
theorem handleData_qOf (s : St) (c : Reasm.Chunk) (imm : Bool) (hne : c.userData ≠ []) (hn : NoReset s) (ht : TblOK s)
    (si : BitVec 16) :
    qOf (handleData s c imm) si =
      (if pushes s c = true ∧ si = c.si then ((qOf s c.si).pushWithError c).1 else qOf s si) ∧
    NoReset (handleData s c imm) ∧ TblOK (handleData s c imm) := by
  have hemp : c.userData.isEmpty = false := by simpa using hne
  obtain ⟨h1, h2, h3⟩ := dataTaken_qOf s c hn ht si
  have hta := ackStep_tbl (dataTaken s c).1 (dataSackNow s c imm) h2.1
  rw [handleData_eq]
  unfold pushes
  split
  · rename_i h; exact ⟨by simp [(Bool.not_eq_true' _).mp h], hn, ht⟩
  · rename_i hst
    split
    · rename_i h; exact ⟨by simp [h]; rfl, hn, ht⟩
    · rename_i hwk
      have e : (!c.userData.isEmpty && data_canHandle s.scp s.state && !data_wrongKind c.iData s.il &&
          RecvQ.canPush s.pq c.tsn && stores s c) = (RecvQ.canPush s.pq c.tsn && stores s c) := by
        have hst' : data_canHandle s.scp s.state = true := by simpa using hst
        simp [hemp, hst', (Bool.not_eq_true _).mp hwk]
      rw [e]
      split
      · exact ⟨by rw [qOf_of_tbl hta, h1], noReset_of_tbl hta h2, tblOK_of_tbl hta h3⟩
      · exact ⟨h1, h2, h3⟩

end Receiver
