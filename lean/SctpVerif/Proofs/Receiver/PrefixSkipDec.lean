import SctpVerif.Proofs.Receiver.PrefixSkipRun
/-!
Last of the four files of the receive-side simulation with skips (`PrefixSkipQ` → `PrefixSkip` → `PrefixSkipRun` → this).
Executable (decidable) forms of the premises of `skip_receiver` — `GoodChunkS` (`GoodD`, `goodOpsD`), `EntOk` (`EntOkD`)
and `FwdOk` (`fwdOkC`, `fwdOkR`) — and their soundness, so that the premises can be exhibited on concrete runs by `decide`.
-/
namespace Receiver
open Gen

/-- decidable form of `EntOk` (bounded quantifiers only) -/
def EntOkD (S : Reasm.Sender) (K : Nat → Bool) (G : List TSN) (es : List (BitVec 16 × BitVec 16)) : Bool :=
  es.all fun e => !(e.1 == S.si) || (List.range S.msgs.length).any fun L =>
    (e.2 == BitVec.ofNat 16 L) && (List.range (L + 1)).all fun k => K k || (List.range (S.nf k)).all fun i => G.contains (S.dataFrag k i).tsn

theorem EntOkD.sound {S K G es} (h : EntOkD S K G es = true) : EntOk S K G es := by
  intro e he hsi
  have h1 := List.all_eq_true.1 h e he
  rw [Bool.or_eq_true] at h1
  rcases h1 with h1 | h1
  · simp [hsi] at h1
  · obtain ⟨L, hL, h2⟩ := List.any_eq_true.1 h1
    rw [Bool.and_eq_true] at h2
    refine ⟨L, List.mem_range.1 hL, by simpa using h2.1, ?_⟩
    intro k hk hK i hi
    have h3 := List.all_eq_true.1 h2.2 k (List.mem_range.2 hk)
    rw [Bool.or_eq_true] at h3
    rcases h3 with h3 | h3
    · rw [hK] at h3; cases h3
    · have := List.all_eq_true.1 h3 i (List.mem_range.2 hi)
      simpa using this

/-- decidable form of `GoodChunkS` -/
def GoodD (U : UnivS) (S : Reasm.Sender) : InChunk → Bool
  | .data c _ => U.senders.any fun S' => (List.range S'.msgs.length).any fun k => (List.range (S'.nf k)).any fun i =>
      decide (c = S'.dataFrag k i) && (List.range S.msgs.length).all fun k0 => (List.range (S.nf k0)).all fun i0 =>
        !((S.dataFrag k0 i0).tsn == c.tsn) || (S'.si == S.si && decide (k = k0) && decide (i = i0))
  | .fwd nc _ => (List.range U.N).any fun n => nc == U.t + BitVec.ofNat 32 n
  | _ => false

theorem GoodD.sound {U : UnivS} {S : Reasm.Sender} (hS : S ∈ U.senders) {ch : InChunk} (h : GoodD U S ch = true) : GoodChunkS U S ch := by
  cases ch with
  | data c imm =>
    left
    simp only [GoodD] at h
    obtain ⟨S', hS', h1⟩ := List.any_eq_true.1 h
    obtain ⟨k, hk, h2⟩ := List.any_eq_true.1 h1
    obtain ⟨i, hi, h3⟩ := List.any_eq_true.1 h2
    rw [Bool.and_eq_true, decide_eq_true_eq] at h3
    obtain ⟨hc, h4⟩ := h3
    refine ⟨S', hS', k, i, imm, List.mem_range.1 hk, List.mem_range.1 hi, by rw [hc], ?_⟩
    intro k0 i0 hk0 hi0 ht
    have h5 := List.all_eq_true.1 (List.all_eq_true.1 h4 k0 (List.mem_range.2 hk0)) i0 (List.mem_range.2 hi0)
    rw [Bool.or_eq_true] at h5
    rcases h5 with h5 | h5
    · rw [hc] at h5; simp [ht] at h5
    · simp only [Bool.and_eq_true, beq_iff_eq, decide_eq_true_eq] at h5
      exact ⟨U.si S hS S' hS' h5.1.1, h5.1.2, h5.2⟩
  | fwd nc es =>
    right
    simp only [GoodD] at h
    obtain ⟨n, hn, h1⟩ := List.any_eq_true.1 h
    exact ⟨nc, es, n, rfl, List.mem_range.1 hn, by simpa using h1⟩
  | ifwd nc es => simp [GoodD] at h
  | hb info => simp [GoodD] at h
  | reset r => simp [GoodD] at h

/-- every chunk of every packet of the op list passes `GoodD` -/
def goodOpsD (U : UnivS) (S : Reasm.Sender) (ops : List Op) : Bool :=
  ops.all fun op => match op with | .pkt cs => cs.all (GoodD U S) | _ => true

theorem goodOpsD.sound {U : UnivS} {S : Reasm.Sender} (hS : S ∈ U.senders) {ops : List Op} (h : goodOpsD U S ops = true) :
    ∀ cs, Op.pkt cs ∈ ops → ∀ ch ∈ cs, GoodChunkS U S ch := by
  intro cs hcs ch hch
  have := List.all_eq_true.1 h _ hcs
  exact GoodD.sound hS (List.all_eq_true.1 this ch hch)

theorem pushedC_cons (x : St) (ch : InChunk) (cs : List InChunk) :
    pushedC x (ch :: cs) = pushedC x [ch] ++ pushedC (handleChunk x ch) cs := by
  simp [pushedC]

/-- decidable form of `FwdOk`, inside a packet … -/
def fwdOkC (S : Reasm.Sender) (K : Nat → Bool) : St → List TSN → List InChunk → Bool
  | _, _, [] => true
  | x, G, ch :: cs =>
    (match ch with
     | .fwd nc es => (chunkTrace x (.fwd nc es)).isEmpty || EntOkD S K G es
     | _ => true) && fwdOkC S K (handleChunk x ch) (G ++ pushedC x [ch]) cs

/-- … and along a run -/
def fwdOkR (S : Reasm.Sender) (K : Nat → Bool) : St → List TSN → List Op → Bool
  | _, _, [] => true
  | s, G, op :: ops =>
    (match op with | .pkt cs => fwdOkC S K (chunksStart s) G cs | _ => true) && fwdOkR S K (step s op) (G ++ pushedO s op) ops

theorem fwdOkC.sound {S K} (cs : List InChunk) : ∀ (x : St) (G : List TSN), fwdOkC S K x G cs = true →
    ∀ cs1 nc es cs2, cs = cs1 ++ InChunk.fwd nc es :: cs2 →
      chunkTrace (cs1.foldl handleChunk x) (.fwd nc es) = [.fwd nc] → EntOk S K (G ++ pushedC x cs1) es := by
  induction cs with
  | nil => intro x G _ cs1 nc es cs2 he; simp at he
  | cons ch cs ih =>
    intro x G h cs1 nc es cs2 he htr
    simp only [fwdOkC, Bool.and_eq_true] at h
    cases cs1 with
    | nil =>
      simp only [List.nil_append, List.cons.injEq] at he
      obtain ⟨rfl, _⟩ := he
      have h1 := h.1
      simp only [Bool.or_eq_true] at h1
      rcases h1 with h1 | h1
      · simp only [List.foldl_nil] at htr; rw [htr] at h1; simp at h1
      · simpa [pushedC] using EntOkD.sound h1
    | cons c cs1' =>
      simp only [List.cons_append, List.cons.injEq] at he
      obtain ⟨rfl, he'⟩ := he
      have := ih _ _ h.2 cs1' nc es cs2 he' (by simpa using htr)
      rw [pushedC_cons, ← List.append_assoc]
      exact this

theorem fwdOkR.sound {S K} (ops : List Op) : ∀ (s : St) (G : List TSN), fwdOkR S K s G ops = true → FwdOk S K s G ops := by
  induction ops with
  | nil => intro s G _ ops1 cs1 nc es cs2 ops2 he; simp at he
  | cons op ops ih =>
    intro s G h ops1 cs1 nc es cs2 ops2 he htr
    simp only [fwdOkR, Bool.and_eq_true] at h
    cases ops1 with
    | nil =>
      simp only [List.nil_append, List.cons.injEq] at he
      obtain ⟨rfl, _⟩ := he
      have := fwdOkC.sound _ _ _ h.1 cs1 nc es cs2 rfl (by simpa [Receiver.run] using htr)
      simpa [pushedT, Receiver.run] using this
    | cons o ops1' =>
      simp only [List.cons_append, List.cons.injEq] at he
      obtain ⟨rfl, he'⟩ := he
      have := ih _ _ h.2 ops1' cs1 nc es cs2 ops2 he' (by simpa [Receiver.run] using htr)
      simpa [pushedT, Receiver.run, List.append_assoc] using this

end Receiver
