import SctpVerif.Proofs.Receiver.Total
import SctpVerif.Proofs.RecvQ
/-!
The receive queue inside the association: every association step acts on `payloadQueue` as a list of the
association-level queue operations of `Proofs/RecvQ/History.lean` (`data t store`, `fwd c`, `sack`; a bare
`push` only on the path that ends in an ABORT for an exceeded reassembly limit). Hence every theorem of
`Props/C05.lean` about runs of those operations speaks about the SACKs the association builds.
-/
namespace Receiver
open Gen

@[simp] theorem getOrCreateStream_pq (s : St) (si : BitVec 16) (a : Bool) : ((getOrCreateStream s si a).1).pq = s.pq :=
  pq_of_kept (getOrCreateStream_kept s si a)

@[simp] theorem abortPV_pq (s : St) : (abortPV s).pq = s.pq := by
  rfl

@[simp] theorem staleFwd_pq (s : St) : (staleFwd s).pq = s.pq := by
  rfl

@[simp] theorem ensureStreams_pq (ids : List (BitVec 16)) (s : St) : ((ensureStreams s ids).1).pq = s.pq :=
  pq_of_kept (ensureStreams_kept ids s)

@[simp] theorem foldl_fwdEntry_pq (es : List (BitVec 16 × BitVec 16)) (s : St) : (es.foldl fwdEntry s).pq = s.pq :=
  pq_of_kept (ListAux.foldl_view fwdEntry_kept es s)

@[simp] theorem foldl_ifwdEntry_pq (es : List (BitVec 16 × Bool × BitVec 32)) (s : St) : (es.foldl ifwdEntry s).pq = s.pq :=
  pq_of_kept (ListAux.foldl_view ifwdEntry_kept es s)

@[simp] theorem chunksStart_pq (s : St) : (chunksStart s).pq = s.pq := by
  rfl

@[simp] theorem chunksEnd_pq (s : St) : (chunksEnd s).pq = s.pq := by
  unfold chunksEnd; repeat' split
  all_goals rfl

@[simp] theorem tick_pq (s : St) (d : Nat) : (tick s d).pq = s.pq := by
  unfold tick; dsimp only; repeat' split
  all_goals rfl

/-- `acceptPayloadData` reaches `pushPayloadDataToStream`: a stream object is available and either there is
credit or the chunk fills a gap below the highest TSN received -/
def stores (s : St) (c : Reasm.Chunk) : Bool :=
  match getOrCreateStream s c.si true with
  | (_, none) => false
  | (s', some _) =>
    accept_hasCredit (a_getMyReceiverWindowCredit := credit s') ||
    !accept_dropAtFullBuffer (ok := (RecvQ.lastTSN s'.pq).isSome) (chunkPayload_tsn := c.tsn) (lastTSN := (RecvQ.lastTSN s'.pq).getD 0)

theorem pushToStream_pq (s : St) (c : Reasm.Chunk) : (pushToStream s c).1.pq = (RecvQ.push s.pq c.tsn).1 := by
  unfold pushToStream; dsimp only; repeat' split
  all_goals rfl

/-- `acceptPayloadData` is `pushPayloadDataToStream` after `getOrCreateStream` exactly when `stores` says so -/
theorem acceptPayloadData_eq (s : St) (c : Reasm.Chunk) :
    (acceptPayloadData s c).1 =
      if stores s c then (pushToStream (getOrCreateStream s c.si true).1 c).1 else (getOrCreateStream s c.si true).1 := by
  unfold acceptPayloadData stores
  rcases getOrCreateStream s c.si true with ⟨s', o⟩
  cases o with
  | none => rfl
  | some x =>
    dsimp only
    split
    · rename_i hc; simp only [hc, Bool.true_or, if_true]
    · rename_i hc
      simp only [(Bool.not_eq_true _).mp hc, Bool.false_or]
      split
      · rename_i hd; simp only [hd, Bool.not_true, Bool.false_eq_true, if_false]
      · rename_i hd; simp only [(Bool.not_eq_true _).mp hd, Bool.not_false, if_true]

theorem stores_some {s : St} {c : Reasm.Chunk} (h : stores s c = true) : ∃ x, (getOrCreateStream s c.si true).2 = some x := by
  unfold stores at h
  split at h
  · cases h
  · rename_i heq; exact ⟨_, by rw [heq]⟩

theorem acceptPayloadData_pq (s : St) (c : Reasm.Chunk) :
    (acceptPayloadData s c).1.pq = if stores s c then (RecvQ.push s.pq c.tsn).1 else s.pq := by
  rw [acceptPayloadData_eq]
  split
  · rw [pushToStream_pq, getOrCreateStream_pq]
  · exact getOrCreateStream_pq s c.si true

theorem popLoop_pq (n : Nat) (s : St) (h : RecvQ.Hist) : (popLoop n s).pq = (RecvQ.popLoopS n ⟨s.pq, h⟩).q := by
  induction n generalizing s h with
  | zero => rfl
  | succ n ih =>
    simp only [popLoop, RecvQ.popLoopS]
    split
    · rw [ih _ (RecvQ.sPop ⟨s.pq, h⟩ false).h]
      rw [pq_of_kept (ListAux.foldl_view resetStreamsIfAny_kept _ _)]
      rfl
    · rfl

theorem ackStep_pq (s : St) (b : Bool) (h : RecvQ.Hist) : (ackStep s b).pq = (RecvQ.popAllS ⟨s.pq, h⟩).q := by
  have := popLoop_pq s.pq.size.toNat s h
  unfold ackStep
  dsimp only
  repeat' split
  all_goals exact this

theorem popLoopS_q_indep (n : Nat) (q : RecvQ.Q) (h h' : RecvQ.Hist) :
    (RecvQ.popLoopS n ⟨q, h⟩).q = (RecvQ.popLoopS n ⟨q, h'⟩).q := by
  induction n generalizing q h h' with
  | zero => rfl
  | succ n ih => simp only [RecvQ.popLoopS]; split; exact ih _ _ _; rfl

/-- the pop loop on the bare queue -/
def popAllQ (q : RecvQ.Q) : RecvQ.Q := (RecvQ.popAllS ⟨q, ⟨0, 0, fun _ => False, fun _ => False⟩⟩).q

theorem popAllS_q (q : RecvQ.Q) (h : RecvQ.Hist) : (RecvQ.popAllS ⟨q, h⟩).q = popAllQ q :=
  popLoopS_q_indep _ _ _ _

theorem sData_q (q : RecvQ.Q) (h : RecvQ.Hist) (t : TSN) (st : Bool) :
    (RecvQ.sData ⟨q, h⟩ t st).q = popAllQ (if RecvQ.canPush q t && st then (RecvQ.push q t).1 else q) := by
  simp only [RecvQ.sData]
  split
  · exact popAllS_q _ _
  · exact popAllS_q _ _

/-- the queue component of a ghost-instrumented run does not depend on the ghost history -/
theorem step_q_indep (q : RecvQ.Q) (h h' : RecvQ.Hist) (op : RecvQ.Op) :
    (RecvQ.step ⟨q, h⟩ op).q = (RecvQ.step ⟨q, h'⟩ op).q := by
  cases op with
  | init c => rfl
  | push t => rfl
  | pop f => rfl
  | adv c => rfl
  | data t st =>
    simp only [RecvQ.step, RecvQ.sData, RecvQ.popAllS]
    split
    · exact popLoopS_q_indep _ _ _ _
    · exact popLoopS_q_indep _ _ _ _
  | fwd c =>
    simp only [RecvQ.step, RecvQ.sFwd, RecvQ.popAllS]
    split
    · rfl
    · exact popLoopS_q_indep _ _ _ _
  | sack => rfl

theorem run_q_indep (ops : List RecvQ.Op) (q : RecvQ.Q) (h h' : RecvQ.Hist) :
    (RecvQ.run ⟨q, h⟩ ops).q = (RecvQ.run ⟨q, h'⟩ ops).q := by
  induction ops generalizing q h h' with
  | nil => rfl
  | cons op ops ih =>
    simp only [RecvQ.run, List.foldl_cons]
    have e := step_q_indep q h h' op
    have := ih (RecvQ.step ⟨q, h⟩ op).q (RecvQ.step ⟨q, h⟩ op).h (RecvQ.step ⟨q, h'⟩ op).h
    simp only [RecvQ.run] at this
    rw [show (RecvQ.step ⟨q, h⟩ op) = ⟨(RecvQ.step ⟨q, h⟩ op).q, (RecvQ.step ⟨q, h⟩ op).h⟩ from rfl, this, e]

/-- the queue after a list of queue operations (ghost history irrelevant) -/
def qrun (q : RecvQ.Q) (ops : List RecvQ.Op) : RecvQ.Q :=
  (RecvQ.run ⟨q, ⟨0, 0, fun _ => False, fun _ => False⟩⟩ ops).q

theorem qrun_eq (q : RecvQ.Q) (h : RecvQ.Hist) (ops : List RecvQ.Op) : qrun q ops = (RecvQ.run ⟨q, h⟩ ops).q :=
  run_q_indep ops q _ h

/-- any queue that satisfies the invariant is the queue of a ghost state: the history that has accepted what is held -/
theorem ginv_of_inv {q : RecvQ.Q} (I : RecvQ.Inv q) :
    RecvQ.GInv ⟨q, ⟨q.cum, 0, fun k => RecvQ.heldAt q k, fun _ => False⟩⟩ :=
  ⟨I, by simp, fun d _ => by simp, fun k h1 h2 => by simp at h2; omega⟩

theorem qrun_inv {q : RecvQ.Q} (I : RecvQ.Inv q) (ops : List RecvQ.Op) :
    RecvQ.Inv (qrun q ops) ∧ (qrun q ops).maxOff = q.maxOff := by
  rw [qrun_eq q ⟨q.cum, 0, fun k => RecvQ.heldAt q k, fun _ => False⟩]
  exact ⟨(RecvQ.run_ginv (ginv_of_inv I) ops).inv, RecvQ.run_maxOff _ _⟩

theorem qrun_nil (q : RecvQ.Q) : qrun q [] = q := rfl

theorem qrun_append (q : RecvQ.Q) (a b : List RecvQ.Op) : qrun q (a ++ b) = qrun (qrun q a) b := by
  unfold qrun
  rw [RecvQ.run_append]
  exact run_q_indep b _ _ _

theorem qrun_single (q : RecvQ.Q) (h : RecvQ.Hist) (op : RecvQ.Op) : qrun q [op] = (RecvQ.step ⟨q, h⟩ op).q := by
  rw [qrun_eq q h]; rfl

/-- what `handleData` does to the receive queue -/
def dataTrace (s : St) (c : Reasm.Chunk) : List RecvQ.Op :=
  if !data_canHandle (a_shutdownCompletePending := s.scp) (state := s.state) then []
  else if data_wrongKind (chunkPayload_isIData := c.iData) (a_useInterleaving := s.il) then []
  else
    let canPush := RecvQ.canPush s.pq c.tsn
    let st := canPush && stores s c
    let cont := if canPush then (acceptPayloadData s c).2 else true
    if cont || s.state == 7#32 then [.data c.tsn st] else if st then [.push c.tsn] else []

theorem ackStep_pq' (s : St) (b : Bool) : (ackStep s b).pq = popAllQ s.pq := by
  rw [ackStep_pq s b ⟨0, 0, fun _ => False, fun _ => False⟩]; rfl

theorem qrun_data (q : RecvQ.Q) (t : TSN) (st : Bool) :
    qrun q [.data t st] = popAllQ (if RecvQ.canPush q t && st then (RecvQ.push q t).1 else q) := by
  rw [qrun_single q ⟨0, 0, fun _ => False, fun _ => False⟩]; exact sData_q _ _ _ _

theorem qrun_push (q : RecvQ.Q) (t : TSN) : qrun q [.push t] = (RecvQ.push q t).1 := by
  rw [qrun_single q ⟨0, 0, fun _ => False, fun _ => False⟩]; rfl

theorem dataTaken_pq (s : St) (c : Reasm.Chunk) :
    (dataTaken s c).1.pq = if RecvQ.canPush s.pq c.tsn && stores s c then (RecvQ.push s.pq c.tsn).1 else s.pq := by
  unfold dataTaken
  split
  · rename_i h; rw [acceptPayloadData_pq, h, Bool.true_and]
  · rename_i h; rw [(Bool.not_eq_true _).mp h, Bool.false_and]; rfl

theorem dataTaken_cum (s : St) (c : Reasm.Chunk) : (dataTaken s c).1.pq.cum = s.pq.cum := by
  rw [dataTaken_pq]
  split
  · exact RecvQ.push_cum _ _
  · rfl

theorem handleData_pq (s : St) (c : Reasm.Chunk) (imm : Bool) : (handleData s c imm).pq = qrun s.pq (dataTrace s c) := by
  have hc : (if RecvQ.canPush s.pq c.tsn then (acceptPayloadData s c).2 else true) = (dataTaken s c).2 := by
    unfold dataTaken; split <;> rfl
  rw [handleData_eq]
  unfold dataTrace
  dsimp only
  rw [hc]
  split
  · rfl
  · split
    · rfl
    · split
      · rw [ackStep_pq', qrun_data, dataTaken_pq, Bool.and_self_left]
      · rw [dataTaken_pq]
        split
        · rw [qrun_push]
        · rfl

/-- what `handleForwardTSN` / `handleIForwardTSN` do to the receive queue -/
def fwdTrace (s : St) (newCum : TSN) (ids : List (BitVec 16)) : List RecvQ.Op :=
  if s.il then [] else if !s.useFwd then []
  else if fwd_stale (chunkTSN_newCumulativeTSN := newCum) (a_peerLastTSN := s.pq.cum) then []
  else if !(ensureStreams s ids).2 then [] else [.fwd newCum]

def ifwdTrace (s : St) (newCum : TSN) (ids : List (BitVec 16)) : List RecvQ.Op :=
  if !s.useIFwd then []
  else if ifwd_stale (chunkTSN_newCumulativeTSN := newCum) (a_peerLastTSN := s.pq.cum) then []
  else if !(ensureStreams s ids).2 then [] else [.fwd newCum]

theorem qrun_fwd (q : RecvQ.Q) (c : TSN) (h : sna32LTE c q.cum = false) : qrun q [.fwd c] = popAllQ (RecvQ.advance q c) := by
  rw [qrun_single q ⟨0, 0, fun _ => False, fun _ => False⟩]
  simp only [RecvQ.step, RecvQ.sFwd, h, Bool.false_eq_true, if_false]
  exact popAllS_q _ _

theorem handleFwd_pq (s : St) (c : TSN) (es : List (BitVec 16 × BitVec 16)) :
    (handleFwd s c es).pq = qrun s.pq (fwdTrace s c (es.map (·.1))) := by
  unfold handleFwd fwdTrace
  split
  · rfl
  · split
    · rfl
    · split
      · rfl
      · rename_i hst
        have hep := ensureStreams_pq (es.map (·.1)) s
        generalize ensureStreams s (es.map (·.1)) = e at hep ⊢
        dsimp only
        split
        · exact hep
        · rw [ackStep_pq', qrun_fwd _ _ (by simpa [fwd_stale] using hst)]
          simp [hep]

theorem handleIFwd_pq (s : St) (c : TSN) (es : List (BitVec 16 × Bool × BitVec 32)) :
    (handleIFwd s c es).pq = qrun s.pq (ifwdTrace s c (es.map (·.1))) := by
  unfold handleIFwd ifwdTrace
  split
  · rfl
  · split
    · rfl
    · rename_i hst
      have hep := ensureStreams_pq (es.map (·.1)) s
      generalize ensureStreams s (es.map (·.1)) = e at hep ⊢
      dsimp only
      split
      · exact hep
      · rw [ackStep_pq', qrun_fwd _ _ (by simpa [ifwd_stale] using hst)]
        simp [hep]

def chunkTrace (s : St) : InChunk → List RecvQ.Op
  | .data c _ => if c.userData.isEmpty then [] else dataTrace s c
  | .fwd c es => fwdTrace s c (es.map (·.1))
  | .ifwd c es => ifwdTrace s c (es.map (·.1))
  | .hb _ => []
  | .reset _ => []

theorem handleChunk_pq (s : St) (ch : InChunk) : (handleChunk s ch).pq = qrun s.pq (chunkTrace s ch) := by
  cases ch with
  | data c imm => simp only [handleChunk, chunkTrace]; split; rfl; exact handleData_pq s c imm
  | fwd c es => exact handleFwd_pq s c es
  | ifwd c es => exact handleIFwd_pq s c es
  | hb info => rfl
  | reset r => exact pq_of_kept (handleResetReq_kept s r)

def chunksTrace : St → List InChunk → List RecvQ.Op
  | _, [] => []
  | s, c :: cs => chunkTrace s c ++ chunksTrace (handleChunk s c) cs

theorem foldl_handleChunk_pq (cs : List InChunk) (s : St) : (cs.foldl handleChunk s).pq = qrun s.pq (chunksTrace s cs) := by
  induction cs generalizing s with
  | nil => rfl
  | cons c cs ih => rw [List.foldl_cons, ih, handleChunk_pq, chunksTrace, qrun_append]

theorem packet_pq (s : St) (cs : List InChunk) : (packet s cs).pq = qrun s.pq (chunksTrace (chunksStart s) cs) := by
  unfold packet
  rw [chunksEnd_pq, foldl_handleChunk_pq]; rfl

/-- `gather` emits a SACK -/
def sacks (s : St) : Bool :=
  !s.willSendAbort && (s.state == 3#32 || s.state == 5#32 || s.state == 6#32 || s.state == 7#32) &&
    sack_pending (a_ackState := s.ackState)

theorem gather_pq (s : St) : (gather s).1.pq = qrun s.pq (if sacks s then [.sack] else []) := by
  unfold gather sacks
  dsimp only
  split
  · rename_i h; simp [h, qrun_nil]
  · rename_i h
    have h' : s.willSendAbort = false := by simpa using h
    simp only [h', Bool.not_false, Bool.true_and]
    split
    · rw [qrun_single _ ⟨0, 0, fun _ => False, fun _ => False⟩]
      rfl
    · rfl

/-- what `gather` sends: the ABORT alone, or the control queue, followed by the SACK of the current queue state if one is due -/
theorem gather_out (s : St) : (gather s).2.1 =
    if s.willSendAbort then [.abort]
    else s.control.map Out.ctl ++ if sacks s then [.sack s.pq.cum (credit s) (RecvQ.gaps s.pq) s.pq.dups] else [] := by
  unfold gather sacks
  dsimp only
  split
  · rfl
  · rename_i h
    simp only [(Bool.not_eq_true _).mp h, Bool.not_false, Bool.true_and]
    split
    · rfl
    · exact (List.append_nil _).symm

/-- every SACK `gather` emits carries the state of the receive queue and the current credit -/
theorem sack_mem_gather {s : St} {cum arw : BitVec 32} {gaps : List (BitVec 16 × BitVec 16)} {dups : List TSN}
    (h : Out.sack cum arw gaps dups ∈ (gather s).2.1) :
    cum = s.pq.cum ∧ arw = credit s ∧ gaps = RecvQ.gaps s.pq ∧ dups = s.pq.dups := by
  rw [gather_out] at h
  split at h
  · simp at h
  · rcases List.mem_append.mp h with h | h
    · obtain ⟨_, _, hm⟩ := List.mem_map.mp h; cases hm
    · split at h
      · cases List.mem_singleton.mp h; exact ⟨rfl, rfl, rfl, rfl⟩
      · cases h

def opTrace (s : St) : Op → List RecvQ.Op
  | .pkt cs => chunksTrace (chunksStart s) cs
  | .gather => if sacks s then [.sack] else []
  | _ => []

theorem step_pq (s : St) (op : Op) : (step s op).pq = qrun s.pq (opTrace s op) := by
  cases op with
  | pkt cs => exact packet_pq s cs
  | read n b => exact pq_of_kept (read_kept s n b)
  | accept => exact pq_of_kept (accept_kept s)
  | «open» si => exact pq_of_kept (openStream_kept s si)
  | gather => exact gather_pq s
  | tick d => simp [step, opTrace, qrun_nil]
  | setState st => rfl

def runTrace : St → List Op → List RecvQ.Op
  | _, [] => []
  | s, op :: ops => opTrace s op ++ runTrace (step s op) ops

/-- ✱ the receive queue of the association after any op list is the receive queue after the traced list of
association-level queue operations -/
theorem run_pq (ops : List Op) (s : St) : (run s ops).pq = qrun s.pq (runTrace s ops) := by
  induction ops generalizing s with
  | nil => rfl
  | cons op ops ih => rw [run, List.foldl_cons, ← run, ih, step_pq, runTrace, qrun_append]

/-- from a fresh association: the ghost-instrumented run of the traced operations from `RecvQ.start` -/
theorem run_pq_trace (a b : BitVec 32) (c d e : Bool) (f : Int) (t : TSN) (ops : List Op) :
    (run (init a b c d e f t) ops).pq =
      (RecvQ.run (RecvQ.start (getMaxTSNOffset a) (t - 1)) (runTrace (init a b c d e f t) ops)).q := by
  rw [run_pq, qrun_eq _ (RecvQ.start (getMaxTSNOffset a) (t - 1)).h]; rfl

/-! ### what kind of operations the traces contain -/

def noInit : RecvQ.Op → Prop
  | .init _ => False
  | _ => True

theorem dataTrace_ops (s : St) (c : Reasm.Chunk) : ∀ op ∈ dataTrace s c, op = .data c.tsn (RecvQ.canPush s.pq c.tsn && stores s c) ∨ op = .push c.tsn := by
  unfold dataTrace
  dsimp only
  intro op hop
  repeat' split at hop
  all_goals simp at hop
  all_goals simp [hop]

/-- one chunk performs at most one queue operation -/
theorem chunkTrace_short (s : St) (ch : InChunk) : chunkTrace s ch = [] ∨ ∃ op, chunkTrace s ch = [op] ∧ noInit op := by
  cases ch with
  | data c imm =>
    simp only [chunkTrace]
    split
    · left; rfl
    · unfold dataTrace
      dsimp only
      repeat' split
      all_goals first | (left; rfl) | (right; exact ⟨_, rfl, trivial⟩)
  | fwd c es =>
    simp only [chunkTrace, fwdTrace]
    repeat' split
    all_goals first | (left; rfl) | (right; exact ⟨_, rfl, trivial⟩)
  | ifwd c es =>
    simp only [chunkTrace, ifwdTrace]
    repeat' split
    all_goals first | (left; rfl) | (right; exact ⟨_, rfl, trivial⟩)
  | hb info => left; rfl
  | reset r => left; rfl

theorem chunkTrace_noInit (s : St) (ch : InChunk) : ∀ op ∈ chunkTrace s ch, noInit op := by
  intro op hop
  rcases chunkTrace_short s ch with e | ⟨op', e, h⟩ <;> rw [e] at hop
  · cases hop
  · rw [List.mem_singleton.mp hop]; exact h

theorem chunksTrace_noInit (cs : List InChunk) (s : St) : ∀ op ∈ chunksTrace s cs, noInit op := by
  induction cs generalizing s with
  | nil => intro op hop; simp [chunksTrace] at hop
  | cons c cs ih =>
    intro op hop
    simp only [chunksTrace, List.mem_append] at hop
    rcases hop with h | h
    · exact chunkTrace_noInit s c op h
    · exact ih _ op h

theorem runTrace_noInit (ops : List Op) (s : St) : ∀ op ∈ runTrace s ops, noInit op := by
  induction ops generalizing s with
  | nil => intro op hop; simp [runTrace] at hop
  | cons o ops ih =>
    intro op hop
    simp only [runTrace, List.mem_append] at hop
    rcases hop with h | h
    · cases o with
      | pkt cs => exact chunksTrace_noInit cs _ op h
      | gather => simp only [opTrace] at h; split at h <;> simp at h; subst h; trivial
      | _ => simp [opTrace] at h
    · exact ih _ op h

theorem runTrace_append (a b : List Op) (s : St) : runTrace s (a ++ b) = runTrace s a ++ runTrace (run s a) b := by
  induction a generalizing s with
  | nil => rfl
  | cons op a ih => simp only [List.cons_append, runTrace, ih, List.append_assoc, run, List.foldl_cons]

theorem run_append (a b : List Op) (s : St) : run s (a ++ b) = run (run s a) b := by
  simp [run, List.foldl_append]

/-- the queue of a fresh association is the start state of the ghost-instrumented runs -/
theorem init_pq (maxBuf maxEntries : BitVec 32) (il f g : Bool) (am : Int) (t : TSN) :
    (init maxBuf maxEntries il f g am t).pq = (RecvQ.start (getMaxTSNOffset maxBuf) (t - 1)).q := rfl

end Receiver
