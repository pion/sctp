import SctpVerif.Proofs.Receiver.Cfg
/-!
What one association step can do, as a sequence of ATOMIC WRITES (`Act`): an operation of the receive queue on `pq`, a stream
creation, an `unregister`, one reassembly-queue operation on one registered stream, the unordered forward on all of them, a
read on one object, or a write that touches neither the stream objects nor `pq` nor the configuration. Every handler is walked
ONCE (`step_acts`); an invariant kept by each atomic write is kept by every step (`Acts.inv`). The label counts the user bytes
a write may add to the reassembly queues.
-/
namespace Receiver
open Gen

/-- `Act s n t`: one atomic write takes `s` to `t` and adds at most `n` user bytes to the reassembly queues. `store` is
`pushPayloadDataToStream` under the guards of its call sites in `acceptPayloadData`; `other` is any write to the ack state,
the control queue, the reset bookkeeping, the ABORT flag, `state`, `acceptQ` -/
inductive Act : St → Nat → St → Prop
  | pop (s : St) : (RecvQ.pop s.pq false).2 = true → Act s 0 { s with pq := (RecvQ.pop s.pq false).1 }
  | adv (s : St) (c : TSN) : Act s 0 { s with pq := RecvQ.advance s.pq c }
  | dups (s : St) : Act s 0 { s with pq := (RecvQ.popDuplicates s.pq).1 }
  | create (s : St) (si : BitVec 16) (a : Bool) (x : Stream) : getS s.streams si = none →
      (createStream s si a).2 = some x → Act s 0 (createStream s si a).1
  | unreg (s : St) (id : BitVec 16) : Act s 0 (unregister s id)
  | store (s : St) (c : Reasm.Chunk) (x : Stream) (pn ab : Bool) : getS s.streams c.si = some x →
      RecvQ.canPush s.pq c.tsn = true →
      (accept_hasCredit (credit s) = true ∨
        accept_dropAtFullBuffer (RecvQ.lastTSN s.pq).isSome c.tsn ((RecvQ.lastTSN s.pq).getD 0) = false) →
      (pn = true → (x.q.pushWithError c).2.2 = .panic) →
      Act s c.len { s with pq := (RecvQ.push s.pq c.tsn).1, streams := setQ s.streams c.si (fun _ => x.q.step (.push c)),
                           panicked := bif pn then true else s.panicked,
                           willSendAbort := bif ab then true else s.willSendAbort }
  | reasm (s : St) (x : Stream) (op : Reasm.Op) : getS s.streams x.si = some x → op.bytes = 0 →
      Act s 0 { s with streams := setQ s.streams x.si (fun _ => x.q.step op) }
  | fwdU (s : St) (c : TSN) :
      Act s 0 { s with streams := s.streams.map fun x => { x with q := x.q.step (.fwdU c) } }
  | read (s : St) (p : Stream → Bool) (x : Stream) (n : Nat) : s.streams.find? p = some x →
      Act s 0 { s with streams := setFirst p (readStream x n).1 s.streams }
  | readGone (s : St) (p : Stream → Bool) (x : Stream) (n : Nat) : s.gone.find? p = some x →
      Act s 0 { s with gone := setFirst p (readStream x n).1 s.gone }
  | other (s s' : St) : s'.streams = s.streams → s'.gone = s.gone → s'.pq = s.pq → s'.cfg = s.cfg →
      s'.panicked = s.panicked → Act s 0 s'

/-- a sequence of atomic writes that adds at most `n` user bytes -/
inductive Acts : St → Nat → St → Prop
  | nil (s : St) (n : Nat) : Acts s n s
  | cons {s t u : St} {n m : Nat} : Act s n t → Acts t m u → Acts s (n + m) u

namespace Acts

theorem mono {s t : St} {n m : Nat} (h : Acts s n t) (hnm : n ≤ m) : Acts s m t := by
  induction h generalizing m with
  | nil s n => exact .nil s m
  | @cons _ _ _ n₁ n₂ a _ ih =>
    have := Acts.cons a (ih (m := m - n₁) (by omega))
    rwa [show n₁ + (m - n₁) = m by omega] at this

theorem one {s t : St} {n : Nat} (a : Act s n t) : Acts s n t := .cons a (.nil t 0)

theorem trans {s t u : St} {n m : Nat} (h : Acts s n t) (h' : Acts t m u) : Acts s (n + m) u := by
  induction h with
  | nil s n => exact h'.mono (Nat.le_add_left _ _)
  | cons a _ ih => rw [Nat.add_assoc]; exact .cons a (ih h')

/-- a step that adds nothing, before or after -/
theorem pre {s t u : St} {m : Nat} (h : Acts s 0 t) (h' : Acts t m u) : Acts s m u := by
  simpa using h.trans h'

theorem post {s t u : St} {n : Nat} (h : Acts s n t) (h' : Acts t 0 u) : Acts s n u := h.trans h'

theorem other {s s' : St} (n : Nat) (h1 : s'.streams = s.streams) (h2 : s'.gone = s.gone) (h3 : s'.pq = s.pq)
    (h4 : s'.cfg = s.cfg) (h5 : s'.panicked = s.panicked) : Acts s n s' :=
  (one (.other s s' h1 h2 h3 h4 h5)).mono (Nat.zero_le _)

theorem foldl {α : Type} {f : St → α → St} (hf : ∀ s a, Acts s 0 (f s a)) (l : List α) (s : St) :
    Acts s 0 (l.foldl f s) :=
  ListAux.foldl_rel (R := fun s t => Acts s 0 t) (fun s => .nil s 0) (fun h h' => h.pre h') hf l s

/-- ✱ a graded invariant kept by every atomic write that adds at most `M` bytes is kept by every sequence of writes that
adds at most `M` bytes -/
theorem inv_le {M : Nat} {P : Nat → St → Prop} (hmono : ∀ b b' s, b ≤ b' → P b s → P b' s)
    (hact : ∀ {s t : St} {n b : Nat}, n ≤ M → Act s n t → P b s → P (b + n) t) {s t : St} {n : Nat} (h : Acts s n t) :
    n ≤ M → ∀ {b : Nat}, P b s → P (b + n) t := by
  induction h with
  | nil s n => exact fun _ _ hp => hmono _ _ _ (Nat.le_add_right _ _) hp
  | cons a _ ih => intro hn b hp; rw [← Nat.add_assoc]; exact ih (by omega) (hact (by omega) a hp)

theorem inv {P : Nat → St → Prop} (hmono : ∀ b b' s, b ≤ b' → P b s → P b' s)
    (hact : ∀ {s t : St} {n b : Nat}, Act s n t → P b s → P (b + n) t) {s t : St} {n : Nat} (h : Acts s n t) {b : Nat}
    (hp : P b s) : P (b + n) t :=
  inv_le hmono (fun _ => hact) h (Nat.le_refl n) hp

theorem inv0 {P : St → Prop} (hact : ∀ {s t : St} {n : Nat}, Act s n t → P s → P t) {s t : St} {n : Nat}
    (h : Acts s n t) (hp : P s) : P t :=
  inv (P := fun _ => P) (fun _ _ _ _ h => h) hact h (b := 0) hp

end Acts

/-! ### the handlers, once -/

theorem createStream_acts (s : St) (si : BitVec 16) (a : Bool) (hn : getS s.streams si = none) :
    Acts s 0 (createStream s si a).1 := by
  cases h : (createStream s si a).2 with
  | some x => exact .one (.create s si a x hn h)
  | none =>
    rcases createStream_cases s si a with ⟨e, _⟩ | ⟨x, _, _, hx, _⟩
    · rw [e]; exact .nil s 0
    · rw [h] at hx; cases hx

theorem getOrCreateStream_acts (s : St) (si : BitVec 16) (a : Bool) : Acts s 0 (getOrCreateStream s si a).1 := by
  unfold getOrCreateStream
  split
  · exact .nil s 0
  · rename_i hn; exact createStream_acts s si a hn

theorem resetStreamsIfAny_acts (s : St) (r : ResetReq) : Acts s 0 (resetStreamsIfAny s r) := by
  unfold resetStreamsIfAny
  split
  · exact (Acts.foldl (fun s id => .one (.unreg s id)) r.ids s).post (.other 0 rfl rfl rfl rfl rfl)
  · exact .other 0 rfl rfl rfl rfl rfl

theorem handleResetReq_acts (s : St) (r : ResetReq) : Acts s 0 (handleResetReq s r) := by
  unfold handleResetReq
  split
  · exact .other 0 rfl rfl rfl rfl rfl
  · split
    · exact .nil s 0
    · refine Acts.pre ?_ (resetStreamsIfAny_acts _ r)
      exact .other 0 rfl rfl rfl rfl rfl

theorem popLoop_acts (n : Nat) (s : St) : Acts s 0 (popLoop n s) := by
  induction n generalizing s with
  | zero => exact .nil s 0
  | succ n ih =>
    simp only [popLoop]
    split
    · rename_i hok
      exact ((Acts.one (.pop s hok)).pre (Acts.foldl resetStreamsIfAny_acts _ _)).pre (ih _)
    · exact .nil s 0

theorem ackStep_acts (s : St) (b : Bool) : Acts s 0 (ackStep s b) := by
  have h := popLoop_acts s.pq.size.toNat s
  unfold ackStep
  dsimp only
  repeat' split
  all_goals exact h.post (.other 0 rfl rfl rfl rfl rfl)

theorem setQ_const {l : List Stream} {si : BitVec 16} {x : Stream} (f : Reasm.Q → Reasm.Q) (h : getS l si = some x) :
    setQ l si f = setQ l si (fun _ => f x.q) := by
  induction l with
  | nil => rfl
  | cons y l ih =>
    simp only [getS, List.find?_cons] at h
    simp only [setQ]
    split
    · rename_i hy; rw [hy] at h; cases h; rfl
    · rename_i hy
      rw [ih (by simpa [getS, hy] using h)]

/-- a stream just created is registered -/
theorem createStream_reg (s : St) (si : BitVec 16) (a : Bool) (h : (createStream s si a).2.isSome) :
    (getS (createStream s si a).1.streams si).isSome := by
  rcases createStream_cases s si a with ⟨_, e⟩ | ⟨x, _, hxsi, _, hs, _⟩
  · rw [e] at h; cases h
  · rw [hs]
    simp [getS, List.find?_append, hxsi]

theorem getOrCreateStream_reg (s : St) (si : BitVec 16) (a : Bool) (h : (getOrCreateStream s si a).2.isSome) :
    (getS (getOrCreateStream s si a).1.streams si).isSome := by
  unfold getOrCreateStream at h ⊢
  split
  · rename_i x hx; rw [hx]; rfl
  · rename_i hn; rw [hn] at h; exact createStream_reg s si a h

/-- `pushPayloadDataToStream` on a registered stream, under the guards of its two call sites in `acceptPayloadData` -/
theorem pushToStream_act (s : St) (c : Reasm.Chunk) (hreg : (getS s.streams c.si).isSome)
    (hcp : RecvQ.canPush s.pq c.tsn = true)
    (hg : accept_hasCredit (credit s) = true ∨
      accept_dropAtFullBuffer (RecvQ.lastTSN s.pq).isSome c.tsn ((RecvQ.lastTSN s.pq).getD 0) = false) :
    Act s c.len (pushToStream s c).1 := by
  unfold pushToStream
  dsimp only
  split
  · rename_i hn; rw [hn] at hreg; cases hreg
  · rename_i x hx
    split
    · exact .store s c x false false hx hcp hg (fun h => by cases h)
    · rename_i hp; exact .store s c x true false hx hcp hg (fun _ => hp)
    · exact .store s c x false true hx hcp hg (fun h => by cases h)

theorem acceptPayloadData_acts (s : St) (c : Reasm.Chunk) (hcp : RecvQ.canPush s.pq c.tsn = true) :
    Acts s c.len (acceptPayloadData s c).1 := by
  have hg := getOrCreateStream_acts s c.si true
  have hpq := pq_of_kept (getOrCreateStream_kept s c.si true)
  have hreg := getOrCreateStream_reg s c.si true
  unfold acceptPayloadData
  rcases hgo : getOrCreateStream s c.si true with ⟨s1, o⟩
  rw [hgo] at hg hpq hreg
  dsimp only at hg hpq hreg ⊢
  cases o with
  | none => exact hg.mono (Nat.zero_le _)
  | some y =>
    dsimp only
    have hcp1 : RecvQ.canPush s1.pq c.tsn = true := hpq ▸ hcp
    split
    · rename_i hc; exact hg.pre (.one (pushToStream_act s1 c (hreg rfl) hcp1 (.inl hc)))
    · split
      · exact hg.mono (Nat.zero_le _)
      · rename_i hd
        exact hg.pre (.one (pushToStream_act s1 c (hreg rfl) hcp1 (.inr (Bool.eq_false_iff.mpr hd))))

theorem handleData_acts (s : St) (c : Reasm.Chunk) (imm : Bool) : Acts s c.len (handleData s c imm) :=
  handleData_ind (Q := Acts s c.len) s c imm (.nil s _) (.other _ rfl rfl rfl rfl rfl)
    (acceptPayloadData_acts s c) (fun x b hx => hx.post (ackStep_acts x b))

theorem skipEntry_acts (s : St) (si : BitVec 16) (op : Reasm.Op) (h0 : op.bytes = 0) :
    Acts s 0 (skipEntry s si (fun q => q.step op)) := by
  have key : ∀ s' : St, (getS s'.streams si).isSome →
      Acts s' 0 { s' with streams := setQ s'.streams si (fun q => q.step op) } := by
    intro s' hs
    obtain ⟨x, hx⟩ := Option.isSome_iff_exists.mp hs
    have hsi := (getS_mem hx).2
    have := Act.reasm s' x op (hsi ▸ hx) h0
    rw [hsi, ← setQ_const (fun q => q.step op) hx] at this
    exact .one this
  unfold skipEntry
  dsimp only
  split
  · rename_i x hx
    exact key s (by rw [hx]; rfl)
  · rename_i hn
    have hc := createStream_acts s si true hn
    split
    · rename_i hsome; exact hc.pre (key _ (createStream_reg s si true hsome))
    · exact hc

theorem fwdEntry_acts (s : St) (e : BitVec 16 × BitVec 16) : Acts s 0 (fwdEntry s e) :=
  skipEntry_acts s e.1 (.fwdO e.2) rfl

theorem ifwdEntry_acts (s : St) (e : BitVec 16 × Bool × BitVec 32) : Acts s 0 (ifwdEntry s e) := by
  have h : ∀ b : Bool, Acts s 0 (skipEntry s e.1 (fun q =>
      if b then q.forwardTSNForUnorderedMID e.2.2 else q.forwardTSNForOrderedMID e.2.2)) := by
    intro b
    cases b
    · exact skipEntry_acts s e.1 (.fwdOM e.2.2) rfl
    · exact skipEntry_acts s e.1 (.fwdUM e.2.2) rfl
  exact h e.2.1

theorem ensureStreams_acts (ids : List (BitVec 16)) (s : St) : Acts s 0 (ensureStreams s ids).1 := by
  induction ids generalizing s with
  | nil => exact .nil s 0
  | cons id ids ih =>
    simp only [ensureStreams]
    split
    · exact ih s
    · rename_i hn
      have hc := createStream_acts s id true hn
      split
      · exact hc.pre (ih _)
      · exact hc

theorem handleFwd_acts (s : St) (c : TSN) (es : List (BitVec 16 × BitVec 16)) : Acts s 0 (handleFwd s c es) := by
  have he := ensureStreams_acts (es.map (·.1)) s
  refine handleFwd_ind (Q := Acts s 0) s c es (.other 0 rfl rfl rfl rfl rfl) (.other 0 rfl rfl rfl rfl rfl)
    (.other 0 rfl rfl rfl rfl rfl) he (Acts.post ?_ (ackStep_acts _ false))
  exact ((he.post (.one (.adv _ c))).post (Acts.foldl fwdEntry_acts es _)).post (.one (.fwdU _ c))

theorem handleIFwd_acts (s : St) (c : TSN) (es : List (BitVec 16 × Bool × BitVec 32)) :
    Acts s 0 (handleIFwd s c es) := by
  have he := ensureStreams_acts (es.map (·.1)) s
  refine handleIFwd_ind (Q := Acts s 0) s c es (.other 0 rfl rfl rfl rfl rfl) (.other 0 rfl rfl rfl rfl rfl) he
    (Acts.post ?_ (ackStep_acts _ false))
  exact (he.post (.one (.adv _ c))).post (Acts.foldl ifwdEntry_acts es _)

theorem handleChunk_acts (s : St) (ch : InChunk) : Acts s (chunkBytes ch) (handleChunk s ch) := by
  cases ch with
  | data d imm =>
    simp only [handleChunk, chunkBytes]
    split
    · exact .other _ rfl rfl rfl rfl rfl
    · exact handleData_acts s d imm
  | fwd t es => exact handleFwd_acts s t es
  | ifwd t es => exact handleIFwd_acts s t es
  | hb info => exact .other _ rfl rfl rfl rfl rfl
  | reset r => exact handleResetReq_acts s r

/-- a graded invariant along a fold: each element adds its weight to the budget -/
theorem foldl_graded {σ α : Type} {f : σ → α → σ} {w : α → Nat} {P : Nat → σ → Prop} (l : List α)
    (hf : ∀ a ∈ l, ∀ b s, P b s → P (b + w a) (f s a)) {b : Nat} {s : σ} (h : P b s) :
    P (b + (l.map w).sum) (l.foldl f s) := by
  induction l generalizing b s with
  | nil => exact h
  | cons a l ih =>
    simp only [List.map_cons, List.sum_cons, List.foldl_cons, ← Nat.add_assoc]
    exact ih (fun a' ha' => hf a' (List.mem_cons_of_mem _ ha')) (hf a List.mem_cons_self b s h)

theorem foldl_handleChunk_acts (cs : List InChunk) (s : St) :
    Acts s (cs.map chunkBytes).sum (cs.foldl handleChunk s) := by
  simpa using foldl_graded (P := Acts s) cs (fun c _ _ t h => h.trans (handleChunk_acts t c)) (.nil s 0)

theorem chunksStart_acts (s : St) : Acts s 0 (chunksStart s) := .other 0 rfl rfl rfl rfl rfl

theorem chunksEnd_acts (s : St) : Acts s 0 (chunksEnd s) := by
  unfold chunksEnd
  repeat' split
  all_goals first | exact .nil _ 0 | exact .other 0 rfl rfl rfl rfl rfl

theorem packet_acts (s : St) (cs : List InChunk) : Acts s (cs.map chunkBytes).sum (packet s cs) :=
  ((chunksStart_acts s).pre (foldl_handleChunk_acts cs _)).post (chunksEnd_acts _)

theorem read_acts (s : St) (nm : Name) (n : Nat) : Acts s 0 (read s nm n).1 := by
  unfold read
  split
  · rename_i x hx; exact .one (.read s _ x n hx)
  · split
    · rename_i x hx; exact .one (.readGone s _ x n hx)
    · exact .nil s 0

theorem createSack_acts (s : St) : Acts s 0 (createSack s).1 := .one (.dups s)

theorem gather_acts (s : St) : Acts s 0 (gather s).1 := by
  unfold gather
  split
  · exact .other 0 rfl rfl rfl rfl rfl
  · dsimp only
    split
    · refine Acts.pre ?_ (createSack_acts _)
      exact .other 0 rfl rfl rfl rfl rfl
    · exact .other 0 rfl rfl rfl rfl rfl

theorem tick_acts (s : St) (d : Nat) : Acts s 0 (tick s d) := by
  unfold tick
  dsimp only
  repeat' split
  all_goals exact .other 0 rfl rfl rfl rfl rfl

/-- ✱ every association step is a sequence of atomic writes that adds at most the user bytes of its DATA chunks -/
theorem step_acts (s : St) (op : Op) : Acts s (opBytes op) (step s op) := by
  cases op with
  | pkt cs => exact packet_acts s cs
  | read n k => exact read_acts s n k
  | accept =>
    show Acts s 0 (accept s).1
    unfold accept
    split
    · exact .nil s 0
    · exact .other 0 rfl rfl rfl rfl rfl
  | «open» si =>
    simp only [step, openStream]
    split
    · exact .nil s _
    · exact getOrCreateStream_acts s si false
  | gather => exact gather_acts s
  | tick d => exact tick_acts s d
  | setState st => exact .other _ rfl rfl rfl rfl rfl

theorem run_acts (ops : List Op) (s : St) : Acts s (ops.map opBytes).sum (run s ops) := by
  simpa [run] using foldl_graded (P := Acts s) ops (fun op _ _ t h => h.trans (step_acts t op)) (.nil s 0)

end Receiver
