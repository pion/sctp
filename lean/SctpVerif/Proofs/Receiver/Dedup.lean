import SctpVerif.Proofs.Receiver.Streams
import SctpVerif.Proofs.Sna
/-!
The duplicate filter of the receive half, stated once: the association next to the ghost-instrumented receive queue
(`RecvQ.St`: which absolute TSN indices were accepted, which were skipped).

* `RecvQ.GInv.fresh` — a TSN that `canPush` admits lies in the tracking window and its absolute index was never accepted;
  `RecvQ.GInv.index` — for a TSN `t0 + j` of a peer that has assigned fewer than 2^31 TSNs that index is `j + 1`.
* `data_ghost` — what ONE DATA chunk does to the ghost sets, in terms of `pushes` (`handleData` reaches
  `pushPayloadDataToStream`): the accepted set gains the chunk's absolute index exactly then; nothing else changes.
* `ReceiverPR.RInv` — the invariant every receive-side simulation carries (`PInv` with `Ab = False`, `PS` with `Ab = True`,
  the composed invariant of `Proofs/NetSys/PRSafe.lean` with `Ab` = abandoned by the sender).
-/
namespace RecvQ

theorem GInv.fresh {R : St} (g : GInv R) (hm : R.q.maxOff.toNat ≤ 40000) {t : TSN} (hcp : canPush R.q t = true) :
    1 ≤ (t - R.q.cum).toNat ∧ (t - R.q.cum).toNat ≤ R.q.maxOff.toNat ∧ ¬ R.h.acc (R.h.A + (t - R.q.cum).toNat) := by
  obtain ⟨hadm, hnh⟩ := (canPush_iff g.inv t).mp hcp
  have hsm := (admissible_small (q := R.q) (by omega) t).mp hadm
  exact ⟨hsm.1, hsm.2, fun hacc => hnh ((held_iff_heldAt t).mpr ((g.hacc _ hsm.1).mp hacc))⟩

/-- offsets from `t0 − 1`: the cumulative point sits at `A`, the chunk at `j + 1` -/
theorem GInv.index {R : St} (g : GInv R) {t0 : TSN} (hc0 : R.h.c0 = t0 - 1) (hm : R.q.maxOff.toNat ≤ 40000)
    {N : Nat} (hN : N < 2^31) (hA : R.h.A ≤ N) {t : TSN} {j : Nat} (hj : j < N) (ht : t = t0 + BitVec.ofNat 32 j)
    (hcp : canPush R.q t = true) : R.h.A + (t - R.q.cum).toNat = j + 1 := by
  have hsm := (g.fresh hm hcp).2.1
  have ecum : (R.q.cum - (t0 - 1)).toNat = R.h.A := Sna.off_of_eq (by omega) (by rw [g.hcum, hc0])
  have etsn : (t - (t0 - 1)).toNat = j + 1 := Sna.off_of_eq (by omega) (by rw [ht, Sna.pred_add_ofNat_succ])
  have := Sna.off_trans (t0 - 1) R.q.cum t (by omega)
  omega

/-- operations other than `init` never remove an index from the accepted set -/
theorem run_acc_mono (l : List Op) (R : St) (k : Nat) (hn : ∀ op ∈ l, Receiver.noInit op) (h : R.h.acc k) : (run R l).h.acc k := by
  induction l generalizing R with
  | nil => exact h
  | cons op l ih =>
    have hop : ∀ c', op ≠ .init c' := by
      intro c' hc; have := hn op List.mem_cons_self; rw [hc] at this; exact this
    exact ih _ (fun o ho => hn o (List.mem_cons_of_mem _ ho)) ((step_sets_mono R op hop).1 k h)

end RecvQ

namespace Receiver
open Gen

theorem popLoopS_ghost (n : Nat) (R : RecvQ.St) :
    (RecvQ.popLoopS n R).h.c0 = R.h.c0 ∧ (RecvQ.popLoopS n R).h.acc = R.h.acc ∧
    ∀ k, (RecvQ.popLoopS n R).h.skp k ↔ R.h.skp k := by
  induction n generalizing R with
  | zero => exact ⟨rfl, rfl, fun _ => Iff.rfl⟩
  | succ n ih =>
    simp only [RecvQ.popLoopS]
    split
    · obtain ⟨a, b, c⟩ := ih (RecvQ.sPop R false)
      refine ⟨a, b, fun k => (c k).trans ?_⟩
      simp [RecvQ.sPop]
    · exact ⟨rfl, rfl, fun _ => Iff.rfl⟩

/-- ghost effect of `data t st` -/
theorem sData_ghost (R : RecvQ.St) (t : TSN) (st : Bool) :
    (RecvQ.sData R t st).h.c0 = R.h.c0 ∧ (∀ k, (RecvQ.sData R t st).h.skp k ↔ R.h.skp k) ∧
    (∀ k, (RecvQ.sData R t st).h.acc k ↔
      (R.h.acc k ∨ ((RecvQ.canPush R.q t && st) = true ∧ k = R.h.A + (t - R.q.cum).toNat))) := by
  unfold RecvQ.sData RecvQ.popAllS
  split
  · rename_i hc
    obtain ⟨a, b, c⟩ := popLoopS_ghost (RecvQ.sPush R t).q.size.toNat (RecvQ.sPush R t)
    refine ⟨a, c, fun k => ?_⟩
    rw [b]
    have hp : (RecvQ.push R.q t).2 = true := by
      rw [← RecvQ.canPush_eq_push]; simp only [Bool.and_eq_true] at hc; exact hc.1
    simp [RecvQ.sPush, hp, hc]
  · rename_i hc
    obtain ⟨a, b, c⟩ := popLoopS_ghost R.q.size.toNat R
    refine ⟨a, c, fun k => ?_⟩
    rw [b]
    simp [hc]

/-- ghost effect of a bare `push t` that the queue accepts -/
theorem sPush_ghost (R : RecvQ.St) (t : TSN) (hc : RecvQ.canPush R.q t = true) :
    (RecvQ.sPush R t).h.c0 = R.h.c0 ∧ (∀ k, (RecvQ.sPush R t).h.skp k ↔ R.h.skp k) ∧
    (∀ k, (RecvQ.sPush R t).h.acc k ↔ (R.h.acc k ∨ k = R.h.A + (t - R.q.cum).toNat)) := by
  have hp : (RecvQ.push R.q t).2 = true := by rw [← RecvQ.canPush_eq_push]; exact hc
  exact ⟨rfl, fun _ => Iff.rfl, fun k => by simp [RecvQ.sPush, hp]⟩

theorem dataTrace_cases (s : St) (c : Reasm.Chunk) (hne : c.userData ≠ []) :
    (pushes s c = false ∧ (dataTrace s c = [] ∨ dataTrace s c = [.data c.tsn false])) ∨
    (pushes s c = true ∧ RecvQ.canPush s.pq c.tsn = true ∧ (dataTrace s c = [.data c.tsn true] ∨ dataTrace s c = [.push c.tsn])) := by
  have hemp : c.userData.isEmpty = false := by simpa using hne
  unfold pushes dataTrace
  dsimp only
  simp only [hemp, Bool.not_false, Bool.true_and]
  by_cases hst : data_canHandle s.scp s.state = true
  · simp only [hst, Bool.not_true, Bool.false_eq_true, if_false, Bool.true_and]
    by_cases hwk : data_wrongKind c.iData s.il = true
    · simp [hwk]
    · have hwk' : data_wrongKind c.iData s.il = false := by simpa using hwk
      simp only [hwk', Bool.false_eq_true, if_false, Bool.not_false, Bool.true_and]
      generalize (if RecvQ.canPush s.pq c.tsn = true then (acceptPayloadData s c).2 else true) = cont
      cases hps : (RecvQ.canPush s.pq c.tsn && stores s c) with
      | false =>
        left
        refine ⟨rfl, ?_⟩
        by_cases hcont : (cont || s.state == 7#32) = true
        · right; rw [if_pos hcont]
        · left; rw [if_neg hcont]; simp
      | true =>
        right
        have hps' := hps
        rw [Bool.and_eq_true] at hps'
        refine ⟨rfl, hps'.1, ?_⟩
        by_cases hcont : (cont || s.state == 7#32) = true
        · left; rw [if_pos hcont]
        · right; rw [if_neg hcont]; simp
  · have hst' : data_canHandle s.scp s.state = false := by simpa using hst
    simp [hst']

theorem run_R_q (R : RecvQ.St) (q : RecvQ.Q) (hq : q = R.q) (ops : List RecvQ.Op) : qrun q ops = (RecvQ.run R ops).q := by
  subst hq; exact qrun_eq _ R.h ops

theorem run_single (R : RecvQ.St) (op : RecvQ.Op) : RecvQ.run R [op] = RecvQ.step R op := rfl

/-- ✱ what one DATA chunk does to the ghost sets: the accepted set gains the chunk's absolute index exactly when
`handleData` hands the chunk to its stream (then `canPush` admitted it); `c0` and the skipped set stay -/
theorem data_ghost (s : St) (R : RecvQ.St) (hpq : s.pq = R.q) (c : Reasm.Chunk) (imm : Bool) :
    (RecvQ.run R (chunkTrace s (.data c imm))).h.c0 = R.h.c0 ∧
    (∀ k, (RecvQ.run R (chunkTrace s (.data c imm))).h.skp k ↔ R.h.skp k) ∧
    (∀ k, (RecvQ.run R (chunkTrace s (.data c imm))).h.acc k ↔
      (R.h.acc k ∨ (pushes s c = true ∧ k = R.h.A + (c.tsn - R.q.cum).toNat))) ∧
    (pushes s c = true → RecvQ.canPush R.q c.tsn = true) := by
  by_cases hne : c.userData = []
  · have e2 : chunkTrace s (.data c imm) = [] := by simp [chunkTrace, hne]
    have hp : pushes s c = false := by simp [pushes, hne]
    rw [e2, hp]
    exact ⟨rfl, fun _ => Iff.rfl, fun k => by simp [RecvQ.run], fun h => by cases h⟩
  · have hemp : c.userData.isEmpty = false := by simpa using hne
    have e2 : chunkTrace s (.data c imm) = dataTrace s c := by simp [chunkTrace, hemp]
    rw [e2]
    rcases dataTrace_cases s c hne with ⟨hp, htr | htr⟩ | ⟨hp, hcp, htr | htr⟩
    · rw [htr, hp]
      exact ⟨rfl, fun _ => Iff.rfl, fun k => by simp [RecvQ.run], fun h => by cases h⟩
    · rw [htr, hp, run_single]
      obtain ⟨a, b, c'⟩ := sData_ghost R c.tsn false
      exact ⟨a, b, fun k => by simpa [RecvQ.step] using c' k, fun h => by cases h⟩
    · rw [hpq] at hcp
      rw [htr, hp, run_single]
      obtain ⟨a, b, c'⟩ := sData_ghost R c.tsn true
      exact ⟨a, b, fun k => by simpa [RecvQ.step, hcp] using c' k, fun _ => hcp⟩
    · rw [hpq] at hcp
      rw [htr, hp, run_single]
      obtain ⟨a, b, c'⟩ := sPush_ghost R c.tsn hcp
      exact ⟨a, b, fun k => by simpa [RecvQ.step] using c' k, fun _ => hcp⟩

/-- a chunk never removes an index from the accepted set -/
theorem chunk_acc_mono (s : St) (ch : InChunk) (R : RecvQ.St) (k : Nat) (h : R.h.acc k) :
    (RecvQ.run R (chunkTrace s ch)).h.acc k := by
  rcases chunkTrace_short s ch with e | ⟨op, e, hn⟩
  · rw [e]; exact h
  · rw [e, run_single]
    exact (RecvQ.step_sets_mono R op (fun c hc => by rw [hc] at hn; exact hn)).1 k h

/-- a FORWARD-TSN leaves the receive queue alone, or it is not stale and moves the cumulative point to its new cumulative TSN -/
theorem fwdTrace_cases (r : St) (nc : TSN) (ids : List (BitVec 16)) :
    (fwdTrace r nc ids = [] ∨ fwdTrace r nc ids = [.fwd nc]) ∧
    (fwdTrace r nc ids = [.fwd nc] → sna32LTE nc r.pq.cum = false) := by
  unfold fwdTrace
  split
  · exact ⟨Or.inl rfl, fun h => by cases h⟩
  · split
    · exact ⟨Or.inl rfl, fun h => by cases h⟩
    · split
      · exact ⟨Or.inl rfl, fun h => by cases h⟩
      · rename_i hst
        split
        · exact ⟨Or.inl rfl, fun h => by cases h⟩
        · exact ⟨Or.inr rfl, fun _ => by simpa [fwd_stale] using hst⟩

theorem ifwdTrace_cases (r : St) (nc : TSN) (ids : List (BitVec 16)) :
    (ifwdTrace r nc ids = [] ∨ ifwdTrace r nc ids = [.fwd nc]) ∧
    (ifwdTrace r nc ids = [.fwd nc] → sna32LTE nc r.pq.cum = false) := by
  unfold ifwdTrace
  split
  · exact ⟨Or.inl rfl, fun h => by cases h⟩
  · split
    · exact ⟨Or.inl rfl, fun h => by cases h⟩
    · rename_i hst
      split
      · exact ⟨Or.inl rfl, fun h => by cases h⟩
      · exact ⟨Or.inr rfl, fun _ => by simpa [ifwd_stale] using hst⟩

end Receiver

/-!
Receiver half of the FORWARD-TSN composition (`Props/C07net.lean`) and of every receive-side simulation.
For ANY inbound DATA chunk whose TSN is `t0 + j` with `j < N` and any FORWARD-TSN whose new cumulative TSN `t0 + n`
covers, above the receiver's cumulative point, only offsets with the property `Ab`:
every accepted index was handed to a reassembly queue (`pushes`), every skipped index has `Ab`.
-/
namespace ReceiverPR
open Receiver Gen

/-- `G`: the TSNs of the chunks `handleData` handed to `pushPayloadDataToStream`; `N`: TSNs assigned by the peer;
`Ab j`: the chunk with TSN `t0 + j` is abandoned by the peer -/
structure RInv (t0 : BitVec 32) (s : St) (R : RecvQ.St) (N : Nat) (Ab : Nat → Prop) (G : List (BitVec 32)) : Prop where
  pq : s.pq = R.q
  ginv : RecvQ.GInv R
  c0 : R.h.c0 = t0 - 1
  moff : R.q.maxOff.toNat ≤ 40000
  acc : ∀ k, R.h.acc k → 1 ≤ k ∧ k ≤ N ∧ (t0 + BitVec.ofNat 32 (k - 1)) ∈ G
  skp : ∀ k, R.h.skp k → 1 ≤ k ∧ k ≤ N ∧ Ab (k - 1)

theorem RInv.A_le {t0 s R N Ab G} (h : RInv t0 s R N Ab G) : R.h.A ≤ N := by
  rcases Nat.eq_zero_or_pos R.h.A with h0 | hp
  · omega
  · rcases h.ginv.hS1 R.h.A hp (Nat.le_refl _) with h' | h'
    · exact (h.acc _ h').2.1
    · exact (h.skp _ h').2.1

/-- everything at or below the cumulative point was handed over or is abandoned -/
theorem RInv.below {t0 s R N Ab G} (h : RInv t0 s R N Ab G) (j : Nat) (hj : j < R.h.A) :
    (t0 + BitVec.ofNat 32 j) ∈ G ∨ Ab j := by
  rcases h.ginv.hS1 (j + 1) (by omega) (by omega) with h' | h'
  · left; simpa using (h.acc _ h').2.2
  · right; simpa using (h.skp _ h').2.2

theorem RInv.mono {t0 s R N Ab G} (h : RInv t0 s R N Ab G) {N' : Nat} {Ab' : Nat → Prop} {G' : List (BitVec 32)}
    (hN : N ≤ N') (hAb : ∀ j, j < N → Ab j → Ab' j) (hG : ∀ x ∈ G, x ∈ G') : RInv t0 s R N' Ab' G' :=
  ⟨h.pq, h.ginv, h.c0, h.moff, fun k hk => ⟨(h.acc k hk).1, by have := (h.acc k hk).2.1; omega, hG _ (h.acc k hk).2.2⟩,
   fun k hk => ⟨(h.skp k hk).1, by have := (h.skp k hk).2.1; omega,
     hAb _ (by have := (h.skp k hk).1; have := (h.skp k hk).2.1; omega) (h.skp k hk).2.2⟩⟩

/-- a change of the association that leaves the receive queue alone -/
theorem RInv.same_pq {t0 s R N Ab G} (h : RInv t0 s R N Ab G) (s' : St) (hpq : s'.pq = s.pq) : RInv t0 s' R N Ab G :=
  ⟨hpq.trans h.pq, h.ginv, h.c0, h.moff, h.acc, h.skp⟩

/-- the cumulative point as a count -/
theorem RInv.cum {t0 s R N Ab G} (h : RInv t0 s R N Ab G) : R.q.cum = t0 - 1 + BitVec.ofNat 32 R.h.A := by
  rw [h.ginv.hcum, h.c0]

/-- a chunk with TSN `t0 + j`, `j < N`, that `canPush` admits has absolute index `j + 1` -/
theorem RInv.index {t0 s R N Ab G} (h : RInv t0 s R N Ab G) (hN : N < 2^31) (tsn : TSN) (j : Nat) (hj : j < N)
    (htsn : tsn = t0 + BitVec.ofNat 32 j) (hcp : RecvQ.canPush R.q tsn = true) :
    R.h.A + (tsn - R.q.cum).toNat = j + 1 :=
  h.ginv.index h.c0 h.moff hN h.A_le hj htsn hcp

/-- a chunk that is handed to its stream: its index is accepted now and was not before -/
theorem RInv.pushed {t0 : TSN} {s : St} {R : RecvQ.St} {N : Nat} {Ab : Nat → Prop} {G : List TSN}
    (h : RInv t0 s R N Ab G) (hN : N < 2^31) (c : Reasm.Chunk) (imm : Bool) (j : Nat) (hj : j < N)
    (htsn : c.tsn = t0 + BitVec.ofNat 32 j) (hp : pushes s c = true) :
    (RecvQ.run R (chunkTrace s (.data c imm))).h.acc (j + 1) ∧ ¬ R.h.acc (j + 1) := by
  obtain ⟨_, _, g3, g4⟩ := data_ghost s R h.pq c imm
  have hidx := h.index hN c.tsn j hj htsn (g4 hp)
  refine ⟨(g3 _).mpr (Or.inr ⟨hp, hidx.symm⟩), ?_⟩
  rw [← hidx]
  exact (h.ginv.fresh h.moff (g4 hp)).2.2

/-- ✱ a DATA chunk: if it is handed to its stream (`pushes`) its TSN joins `G`; the skipped set does not change -/
theorem RInv.data {t0 s R N Ab G} (h : RInv t0 s R N Ab G) (hN : N < 2^31) (c : Reasm.Chunk) (imm : Bool) (j : Nat)
    (hj : j < N) (htsn : c.tsn = t0 + BitVec.ofNat 32 j) :
    RInv t0 (handleChunk s (.data c imm)) (RecvQ.run R (chunkTrace s (.data c imm))) N Ab
      (G ++ (if pushes s c then [c.tsn] else [])) := by
  obtain ⟨g1, g2, g3, g4⟩ := data_ghost s R h.pq c imm
  refine ⟨by rw [handleChunk_pq, run_R_q R s.pq h.pq], RecvQ.run_ginv h.ginv _, g1.trans h.c0,
    by rw [RecvQ.run_maxOff]; exact h.moff, fun k hk => ?_, fun k hk => h.skp k ((g2 k).mp hk)⟩
  rcases (g3 k).mp hk with hk | ⟨hp, rfl⟩
  · obtain ⟨a1, a2, a3⟩ := h.acc k hk
    exact ⟨a1, a2, List.mem_append_left _ a3⟩
  · rw [h.index hN c.tsn j hj htsn (g4 hp)]
    exact ⟨by omega, by omega, List.mem_append_right _ (by simp [hp, htsn])⟩

/-- ghost effect of a FORWARD-TSN that is not stale -/
theorem sFwd_ghost (R : RecvQ.St) (c : TSN) (h : sna32LTE c R.q.cum = false) :
    (RecvQ.sFwd R c).h.c0 = R.h.c0 ∧ (RecvQ.sFwd R c).h.acc = R.h.acc ∧
    ∀ k, (RecvQ.sFwd R c).h.skp k ↔
      (R.h.skp k ∨ (sna32LT R.q.cum c = true ∧ R.h.A < k ∧ k ≤ R.h.A + (c - R.q.cum).toNat)) := by
  unfold RecvQ.sFwd
  rw [if_neg (by simp [h])]
  unfold RecvQ.popAllS
  obtain ⟨a, b, c'⟩ := popLoopS_ghost (RecvQ.sAdv R c).q.size.toNat (RecvQ.sAdv R c)
  exact ⟨a, b, fun k => (c' k).trans (by simp [RecvQ.sAdv])⟩

/-- ✱ a FORWARD-TSN / I-FORWARD-TSN (any stream list): either the receive queue is left alone, or the cumulative point
moves to its new cumulative TSN and exactly the offsets in between join the skipped set — all of them have `Ab`
when the chunk covers, above the receiver's point, abandoned chunks only -/
theorem RInv.fwdStep {t0 s R N Ab G} (h : RInv t0 s R N Ab G) (hN : N < 2^31) (ch : InChunk) (nc : TSN)
    (htr : chunkTrace s ch = [] ∨ chunkTrace s ch = [.fwd nc])
    (hst : chunkTrace s ch = [.fwd nc] → sna32LTE nc s.pq.cum = false)
    (n : Nat) (hn : n < N) (hnc : nc = t0 + BitVec.ofNat 32 n) (hcov : ∀ j, j ≤ n → Ab j ∨ j < R.h.A) :
    RInv t0 (handleChunk s ch) (RecvQ.run R (chunkTrace s ch)) N Ab G := by
  have hpq' : (handleChunk s ch).pq = (RecvQ.run R (chunkTrace s ch)).q := by
    rw [handleChunk_pq, run_R_q R s.pq h.pq]
  have hg := RecvQ.run_ginv h.ginv (chunkTrace s ch)
  have hmo : (RecvQ.run R (chunkTrace s ch)).q.maxOff = R.q.maxOff := RecvQ.run_maxOff R _
  rcases htr with htr | htr
  · rw [htr] at hpq' ⊢
    exact ⟨hpq', h.ginv, h.c0, h.moff, h.acc, h.skp⟩
  · have hstale := hst htr
    rw [h.pq] at hstale
    rw [htr] at hpq' hg hmo ⊢
    rw [run_single] at hpq' hg hmo ⊢
    obtain ⟨g1, g2, g3⟩ := sFwd_ghost R nc hstale
    have hA := h.A_le
    have hcum := h.cum
    refine ⟨hpq', hg, g1.trans h.c0, by rw [hmo]; exact h.moff, ?_, ?_⟩
    · intro k hk
      have : (RecvQ.step R (.fwd nc)).h.acc = R.h.acc := g2
      rw [this] at hk
      exact h.acc k hk
    · intro k hk
      rcases (g3 k).mp hk with hk | ⟨_, hk1, hk2⟩
      · exact h.skp k hk
      · -- the distance the point moves
        have hdist : R.h.A + (nc - R.q.cum).toNat = n + 1 := by
          have hs := Sna.off_of_lte32_false hstale
          have ecum : (R.q.cum - (t0 - 1)).toNat = R.h.A := Sna.off_of_eq (by omega) hcum
          have etsn : (nc - (t0 - 1)).toNat = n + 1 := Sna.off_of_eq (by omega) (by rw [hnc, Sna.pred_add_ofNat_succ])
          have := Sna.off_trans (t0 - 1) R.q.cum nc (by omega)
          omega
        refine ⟨by omega, by omega, ?_⟩
        rcases hcov (k - 1) (by omega) with hab | hlt
        · exact hab
        · omega

/-- ✱ at the moment a FORWARD-TSN is taken, every offset it covers was handed over or has `Ab` -/
theorem RInv.take {t0 s R N Ab G} (h : RInv t0 s R N Ab G) (n : Nat) (hcov : ∀ j, j ≤ n → Ab j ∨ j < R.h.A) :
    ∀ j, j ≤ n → (t0 + BitVec.ofNat 32 j) ∈ G ∨ Ab j := by
  intro j hj
  rcases hcov j hj with hab | hlt
  · exact Or.inr hab
  · exact h.below j hlt

/-- the receiver operations that are not packets leave the ghost sets and the cumulative point alone -/
theorem RInv.other {t0 s R N Ab G} (h : RInv t0 s R N Ab G) (op : Op) (hop : ∀ cs, op ≠ .pkt cs) :
    RInv t0 (step s op) (RecvQ.run R (opTrace s op)) N Ab G ∧ (RecvQ.run R (opTrace s op)).h = R.h := by
  have hpq' : (step s op).pq = (RecvQ.run R (opTrace s op)).q := by rw [step_pq, run_R_q R s.pq h.pq]
  have hgh : (RecvQ.run R (opTrace s op)).h = R.h := by
    cases op with
    | pkt cs => exact absurd rfl (hop cs)
    | gather => simp only [opTrace]; split <;> rfl
    | _ => rfl
  refine ⟨⟨hpq', RecvQ.run_ginv h.ginv _, by rw [hgh]; exact h.c0, by rw [RecvQ.run_maxOff]; exact h.moff, ?_, ?_⟩, hgh⟩
  · intro k hk; rw [hgh] at hk; exact h.acc k hk
  · intro k hk; rw [hgh] at hk; exact h.skp k hk

theorem RInv.init (t0 : BitVec 32) (maxBuf maxEntries : BitVec 32) (il f g : Bool) (am : Int) (N : Nat) (Ab : Nat → Prop) :
    RInv t0 (Receiver.init maxBuf maxEntries il f g am t0) (RecvQ.start (getMaxTSNOffset maxBuf) (t0 - 1)) N Ab [] := by
  refine ⟨rfl, RecvQ.start_ginv _ _, rfl, ?_, ?_, ?_⟩
  · rw [RecvQ.start_maxOff]; exact RecvQ.round_le _ (RecvQ.getMaxTSNOffset_le maxBuf)
  · intro k hk; simp [RecvQ.start, RecvQ.sInit] at hk
  · intro k hk; simp [RecvQ.start, RecvQ.sInit] at hk

end ReceiverPR
