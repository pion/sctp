import SctpVerif.Proofs.PendQRR
import Mathlib.Tactic.Linarith
import Mathlib.Algebra.Order.Field.Rat
/-!
Weighted fair queueing over exact rationals (C17): what one basic operation does to the observations of a
WFQ state (`WStep`), the tag invariants that hold along every operation list (`GInv`), and those that hold
when no push slips in between a `peek` and the `pop` of the chunk it selected, which is what one
`popPendingDataChunksToSend` pass does (`AInv`). Further: per-stream FIFO of the WFQ policy (`wfq_stream_fifo`), the
trace predicate `PQ.Atomic` (no push while a selection made by a `peek` is still cached), `served` (bytes popped from a stream) and the
fresh WFQ queue `wfqFresh`.
-/
namespace PendQ
open AMap

theorem gmax_rat (a b : Rat) : gmax a b = max a b := by
  unfold gmax; simp only [Num.lt, decide_eq_true_eq]
  split
  · next h => exact (max_eq_right (le_of_lt h)).symm
  · next h => exact (max_eq_left (not_lt.mp h)).symm

namespace WFQ

/-- weight of stream `s` as a rational (`> 0`: a missing or zero weight counts as 1) -/
def wt (w : WFQ Rat) (s : Nat) : Rat := (weightNat w s : Rat)

theorem wt_pos (w : WFQ Rat) (s : Nat) : 0 < wt w s := by
  unfold wt weightNat
  simp only
  split
  · norm_num
  · rename_i h; exact_mod_cast Nat.pos_of_ne_zero h

theorem weightOf_eq (w : WFQ Rat) (s : Nat) : weightOf w s = wt w s := rfl

theorem wt_congr {w w' : WFQ Rat} (h : w'.weights = w.weights) (s : Nat) : wt w' s = wt w s := by
  simp [wt, weightNat, h]

theorem pushTag_eq (w : WFQ Rat) (c : Chunk) :
    pushTag w c = max w.vtime (w.fin c.sid) + (c.len : Rat) / wt w c.sid := by
  unfold pushTag; rw [gmax_rat]; rfl

/-- `(f, s)` is lexicographically least among the heads of all stream queues -/
def IsMin (w : WFQ Rat) (s : Nat) (f : Rat) : Prop :=
  ∀ s' c' f' tl', w.sq s' = (c', f') :: tl' → f ≤ f' ∧ (f = f' → s ≤ s')

theorem head?_sq (w : WFQ Rat) (k : Nat) : (w.sq k).head? = (get w.queues k).bind List.head? := by
  unfold sq; cases get w.queues k <;> rfl

/-- `r` is a selection that comes lexicographically no later than `(f, s)` -/
def Below (r : Option (Chunk × Nat × Rat)) (f : Rat) (s : Nat) : Prop :=
  ∃ c0 s0 f0, r = some (c0, s0, f0) ∧ (f0 < f ∨ (f0 = f ∧ s0 ≤ s))

theorem Below.trans {r : Option (Chunk × Nat × Rat)} {f f' : Rat} {s s' : Nat} (h : Below r f s)
    (h' : f < f' ∨ (f = f' ∧ s ≤ s')) : Below r f' s' := by
  obtain ⟨c0, s0, f0, hr, h⟩ := h
  refine ⟨c0, s0, f0, hr, ?_⟩
  rcases h with h | ⟨h, hs⟩ <;> rcases h' with h' | ⟨h', hs'⟩
  · exact Or.inl (lt_trans h h')
  · exact Or.inl (h' ▸ h)
  · exact Or.inl (h ▸ h')
  · exact Or.inr ⟨h.trans h', le_trans hs hs'⟩

theorem selStep_nil {w : WFQ Rat} {k : Nat} (acc : Option (Chunk × Nat × Rat)) (h : w.sq k = []) :
    selStep w acc k = acc := by
  have := head?_sq w k
  rw [h] at this
  unfold selStep; rw [← this]; rfl

theorem selStep_cons {w : WFQ Rat} {k : Nat} {c : Chunk} {f : Rat} {tl : List (Chunk × Rat)} (h : w.sq k = (c, f) :: tl) :
    selStep w none k = some (c, k, f) ∧ ∀ c2 s2 f2, selStep w (some (c2, s2, f2)) k =
      if f < f2 ∨ (f = f2 ∧ k < s2) then some (c, k, f) else some (c2, s2, f2) := by
  have := head?_sq w k
  rw [h] at this
  unfold selStep; rw [← this]
  refine ⟨rfl, fun c2 s2 f2 => ?_⟩
  simp only [List.head?_cons, Num.lt, Num.beq, Bool.or_eq_true, Bool.and_eq_true, decide_eq_true_eq]

theorem selStep_below (w : WFQ Rat) {acc : Option (Chunk × Nat × Rat)} (k : Nat) {f : Rat} {s : Nat}
    (h : Below acc f s ∨ ∃ c tl, w.sq k = (c, f) :: tl ∧ s = k) : Below (selStep w acc k) f s := by
  cases hq : w.sq k with
  | nil =>
    rw [selStep_nil acc hq]
    rcases h with h | ⟨c, tl, h, _⟩
    · exact h
    · rw [hq] at h; cases h
  | cons hd tl =>
    obtain ⟨hn, hs⟩ := selStep_cons (c := hd.1) (f := hd.2) hq
    cases acc with
    | none =>
      rw [hn]
      rcases h with ⟨_, _, _, h, _⟩ | ⟨c, tl', h, rfl⟩
      · cases h
      · rw [hq] at h; cases h; exact ⟨_, _, _, rfl, Or.inr ⟨rfl, le_refl _⟩⟩
    | some a =>
      obtain ⟨c2, s2, f2⟩ := a
      rw [hs]
      split
      · rename_i hlt
        have hnew : Below (some (hd.1, k, hd.2)) f2 s2 := ⟨_, _, _, rfl, hlt.imp id (fun h => ⟨h.1, le_of_lt h.2⟩)⟩
        rcases h with ⟨_, _, _, h, hl⟩ | ⟨c, tl', h, rfl⟩
        · cases h; exact hnew.trans hl
        · rw [hq] at h; cases h; exact ⟨_, _, _, rfl, Or.inr ⟨rfl, le_refl _⟩⟩
      · rename_i hge
        rcases h with h | ⟨c, tl', h, rfl⟩
        · exact h
        · rw [hq] at h; cases h
          refine ⟨c2, s2, f2, rfl, ?_⟩
          rcases lt_or_eq_of_le (not_lt.mp fun h => hge (Or.inl h)) with h | h
          · exact Or.inl h
          · exact Or.inr ⟨h, not_lt.mp fun hk => hge (Or.inr ⟨h.symm, hk⟩)⟩

theorem foldl_selStep_below (w : WFQ Rat) (ks : List Nat) {f : Rat} {s : Nat} :
    ∀ acc : Option (Chunk × Nat × Rat), (Below acc f s ∨ (s ∈ ks ∧ ∃ c tl, w.sq s = (c, f) :: tl)) →
      Below (ks.foldl (selStep w) acc) f s := by
  induction ks with
  | nil => intro acc h; exact h.resolve_right (fun h => nomatch h.1)
  | cons k ks ih =>
    intro acc h
    rw [List.foldl_cons]
    rcases h with h | ⟨hm, c, tl, hq⟩
    · exact ih _ (Or.inl (selStep_below w k (Or.inl h)))
    · rcases List.mem_cons.mp hm with rfl | hm
      · exact ih _ (Or.inl (selStep_below w s (Or.inr ⟨c, tl, hq, rfl⟩)))
      · exact ih _ (Or.inr ⟨hm, c, tl, hq⟩)
theorem select_below {w : WFQ Rat} {s : Nat} {c : Chunk} {f : Rat} {tl : List (Chunk × Rat)} (hq : w.sq s = (c, f) :: tl) :
    Below (select w) f s := by
  refine foldl_selStep_below w _ none (Or.inr ⟨(mem_keys_iff _ s).mpr ?_, c, tl, hq⟩)
  unfold sq at hq
  cases hg : get w.queues s with
  | none => rw [hg] at hq; cases hq
  | some l => rfl

/-- `Peek` without a cached selection returns THE least `(finish tag, stream id)` among the heads -/
theorem select_min {w : WFQ Rat} {c : Chunk} {s : Nat} {f : Rat} (h : select w = some (c, s, f)) : IsMin w s f := by
  intro s' c' f' tl' hq
  obtain ⟨c0, s0, f0, hs, hl⟩ := select_below hq
  rw [h] at hs
  cases hs
  rcases hl with hl | ⟨hl, hs⟩
  · exact ⟨le_of_lt hl, fun he => absurd he (ne_of_lt hl)⟩
  · exact ⟨le_of_eq hl, fun _ => hs⟩

theorem select_none {w : WFQ Rat} (h : select w = none) (s : Nat) : (w.sq s).head? = none := by
  cases hq : w.sq s with
  | nil => rfl
  | cons hd tl =>
    obtain ⟨_, _, _, hs, _⟩ := select_below (c := hd.1) (f := hd.2) hq
    rw [h] at hs; cases hs

def Pushes (w : WFQ Rat) (c : Chunk) (w' : WFQ Rat) (po : List Chunk) : Prop :=
  po = [] ∧ (∀ s, w'.sq s = if s = c.sid then w.sq s ++ [(c, pushTag w c)] else w.sq s) ∧
    (∀ s, w'.fin s = if s = c.sid then pushTag w c else w.fin s) ∧ w'.vtime = w.vtime ∧
    w'.sel = w.sel ∧ w'.selStream = w.selStream

/-- queues, tags and virtual time stay; a cached selection is kept, or there is nothing to select, or the
least head is selected -/
def Keeps (w w' : WFQ Rat) (po : List Chunk) : Prop :=
  po = [] ∧ (∀ s, w'.sq s = w.sq s) ∧ (∀ s, w'.fin s = w.fin s) ∧ w'.vtime = w.vtime ∧
    ((w.sel = true ∧ w'.sel = true ∧ w'.selStream = w.selStream) ∨
     (w.sel = false ∧ w'.sel = false ∧ ∀ s, (w.sq s).head? = none) ∨
     (w.sel = false ∧ w'.sel = true ∧ ∃ c f tl, w.sq w'.selStream = (c, f) :: tl ∧ IsMin w w'.selStream f))

/-- the head of the cached stream, or else of the least stream, is handed out -/
def Serves (w w' : WFQ Rat) (po : List Chunk) : Prop :=
  ∃ s c f tl, w.sq s = (c, f) :: tl ∧ po = [c] ∧ c.sid = s ∧ (w.sel = true → s = w.selStream) ∧
    (w.sel = false → IsMin w s f) ∧ (∀ s', w'.sq s' = if s' = s then tl else w.sq s') ∧
    (∀ s', w'.fin s' = w.fin s') ∧ w'.vtime = max w.vtime f ∧ w'.sel = false

end WFQ

open WFQ in
/-- what one basic operation does to the observations `sq`, `fin`, `vtime`, `sel`, `selStream` and `weights`
of a well-formed WFQ state -/
def WStep (w : WFQ Rat) (o : Op) (w' : WFQ Rat) (po : List Chunk) : Prop :=
  w'.weights = w.weights ∧
  match o with
  | .push c => Pushes w c w' po
  | .pop => Keeps w w' po ∨ Serves w w' po
  | _ => Keeps w w' po

open WFQ in
theorem WStep.cases {w w' : WFQ Rat} {o : Op} {po : List Chunk} (hs : WStep w o w' po) :
    (∃ c, o = .push c ∧ Pushes w c w' po) ∨ Keeps w w' po ∨ Serves w w' po := by
  cases o with
  | push c => exact Or.inl ⟨c, rfl, hs.2⟩
  | pop => exact Or.inr hs.2
  | _ => exact Or.inr (Or.inl hs.2)

open WFQ in
theorem wfq_peek_obs {w : WFQ Rat} (h : w.WF) : Keeps w (w.peek).1 [] := by
  obtain ⟨_, hqs, hfin, hv, _⟩ := peek_spec h
  refine ⟨rfl, fun s => by unfold WFQ.sq; rw [hqs], fun s => by unfold fin; rw [hfin], hv, ?_⟩
  rcases Bool.eq_false_or_eq_true w.sel with hsel | hsel
  · rw [show w.peek = (w, headOfSel w w.selStream) by simp [peek, hsel]]
    exact Or.inl ⟨hsel, hsel, rfl⟩
  · cases hs : select w with
    | none =>
      rw [show w.peek = (w, .chunk none) by simp [peek, hsel, hs]]
      exact Or.inr (Or.inl ⟨hsel, hsel, select_none hs⟩)
    | some a =>
      obtain ⟨c, s, f⟩ := a
      rw [show w.peek = ({ w with sel := true, selStream := s }, .chunk (some c)) by simp [peek, hsel, hs]]
      obtain ⟨tl, hg⟩ := select_head w hs
      exact Or.inr (Or.inr ⟨hsel, rfl, c, f, tl, by unfold WFQ.sq; rw [hg]; rfl, select_min hs⟩)

open WFQ in
theorem wfq_step_obs {q : PQ Rat} {w : WFQ Rat} (hq : q.policy = .wfq w) (h : w.WF) (o : Op) (ho : o.basic = true) :
    ∃ w', (q.step o).1.policy = .wfq w' ∧ w'.WF ∧ WStep w o w' (evPop (o, (q.step o).2)) ∧
      evPush (o, (q.step o).2) = (match o with | .push c => [c] | _ => []) := by
  obtain ⟨hwf', hqs, hfin, hv, hwt, hres⟩ := peek_spec h
  have hk := wfq_peek_obs h
  cases o with
  | push c =>
    exact ⟨w.push c, by rw [PQ.step, PQ.push, hq]; rfl, push_wf h c,
      ⟨rfl, rfl, push_sq w c, push_fin w c, rfl, rfl, rfl⟩, rfl⟩
  | peek => exact ⟨(w.peek).1, by rw [PQ.step, PQ.peek, hq, Policy.policyPeek_wfq], hwf', ⟨hwt, hk⟩, rfl⟩
  | pop =>
    rcases hres with ⟨hn, _⟩ | ⟨c, f, tl, hpk, hselT, hg⟩
    · have hstep : q.step .pop = ({ q with policy := .wfq (w.peek).1 }, .popped none .ok) := by
        simp only [PQ.step, PQ.peek, hq, Policy.policyPeek_wfq, hn]
      rw [hstep]
      exact ⟨_, rfl, hwf', ⟨hwt, Or.inl hk⟩, rfl⟩
    · -- the head `(c, f)` of the selected stream is popped
      rw [← hqs] at hg
      obtain ⟨hok, hwf'', hsq'', hv'', hfin'', hwt'', hsel'', _⟩ := pop_spec hwf' hselT hg
      have hstep := PQ.step_pop_ok (q := q) (c := c) (by rw [hq]; exact hpk) (by rw [hq]; exact hok)
      rw [hq, Policy.policyPeek_wfq, Policy.policyPop_wfq] at hstep
      rw [hstep]
      obtain ⟨_, hsq, _, _, hcs⟩ := hk
      have hq0 : w.sq (w.peek).1.selStream = (c, f) :: tl := by rw [← hsq]; unfold WFQ.sq; rw [hg]; rfl
      have hmin : (w.sel = true → (w.peek).1.selStream = w.selStream) ∧
          (w.sel = false → IsMin w (w.peek).1.selStream f) := by
        rcases hcs with ⟨h1, _, h3⟩ | ⟨_, h2, _⟩ | ⟨h1, _, c', f', tl', h4, h5⟩
        · exact ⟨fun _ => h3, fun hf => absurd (h1.symm.trans hf) (by decide)⟩
        · exact absurd (hselT.symm.trans h2) (by decide)
        · rw [hq0] at h4; cases h4
          exact ⟨fun ht => absurd (h1.symm.trans ht) (by decide), fun _ => h5⟩
      exact ⟨((w.peek).1.pop c).1, rfl, hwf'', ⟨hwt''.trans hwt, Or.inr ⟨_, c, f, tl, hq0, rfl,
        (hwf'.q.q1 _ _ hg).2 (c, f) List.mem_cons_self, hmin.1, hmin.2, fun s' => by rw [hsq'', hsq],
        fun s' => by unfold fin; rw [hfin'', hfin], by rw [hv'', gmax_rat, hv], hsel''⟩⟩, rfl⟩
  | _ => cases ho

/-- A predicate on WFQ states that every step preserves holds after every list of basic operations. The
guard `G` (on the state and the operations still to come) is what the step may assume besides. -/
theorem wfq_run_inv {I : WFQ Rat → Prop} {G : PQ Rat → List Op → Prop}
    (hstep : ∀ {q w o os w'}, q.policy = .wfq w → I w → w.WF → G q (o :: os) →
      WStep w o w' (evPop (o, (q.step o).2)) → I w' ∧ G (q.step o).1 os) :
    ∀ (ops : List Op) (q : PQ Rat) (w : WFQ Rat), q.policy = .wfq w → I w → w.WF →
      (∀ o ∈ ops, o.basic = true) → G q ops →
      ∃ w', (q.run ops).1.policy = .wfq w' ∧ I w' ∧ w'.WF ∧ w'.weights = w.weights := by
  intro ops
  induction ops with
  | nil => intro q w hq hi hwf _ _; exact ⟨w, hq, hi, hwf, rfl⟩
  | cons o os ih =>
    intro q w hq hi hwf hops hg
    obtain ⟨w1, hq1, hwf1, hs, _⟩ := wfq_step_obs hq hwf o (hops o List.mem_cons_self)
    obtain ⟨hi1, hg1⟩ := hstep hq hi hwf hg hs
    obtain ⟨w', hq', hi', hwf', hwt'⟩ := ih (q.step o).1 w1 hq1 hi1 hwf1 (fun o' ho' => hops o' (List.mem_cons_of_mem _ ho')) hg1
    exact ⟨w', by rw [PQ.run_cons]; exact hq', hi', hwf', by rw [hwt', hs.1]⟩

theorem wfq_stream_fifo :
    ∀ (ops : List Op) (q : PQ Rat) (w : WFQ Rat) (P Q : List Chunk), q.policy = .wfq w → w.WF →
      (∀ o ∈ ops, o.basic = true) → (∀ s, P.filter (·.sid == s) = Q.filter (·.sid == s) ++ (w.sq s).map Prod.fst) →
      ∀ s, (P ++ pushesOf (q.run ops).2).filter (·.sid == s) =
        (Q ++ popsOf (q.run ops).2).filter (·.sid == s) ++ (q.run ops).1.policy.streamQ s := by
  intro ops q w P Q hq hwf hops h
  refine stream_fifo (Ok := fun q => ∃ w, q.policy = .wfq w ∧ w.WF) ?_ ops q P Q ⟨w, hq, hwf⟩ hops (by rw [hq]; exact h)
  intro q o ⟨w, hq, hwf⟩ ho
  obtain ⟨w', hq', hwf', hs, hpu⟩ := wfq_step_obs hq hwf o ho
  rw [hq, hq', hpu]
  refine ⟨⟨w', rfl, hwf'⟩, ?_⟩
  have keep : ∀ {po}, WFQ.Keeps w w' po → FifoStep (Policy.streamQ (.wfq w)) (Policy.streamQ (.wfq w' : Policy Rat)) [] po :=
    fun hk => Or.inl ⟨rfl, hk.1, fun s => congrArg (List.map Prod.fst) (hk.2.1 s)⟩
  cases o with
  | push c =>
    obtain ⟨hpo, hsq, _⟩ := hs.2
    refine Or.inr (Or.inl ⟨c, rfl, hpo, fun s => ?_⟩)
    show (w'.sq s).map Prod.fst = _
    rw [hsq, apply_ite (List.map Prod.fst), List.map_append]; rfl
  | pop =>
    rcases hs.2 with hk | ⟨s0, c, f, tl, hq0, hpo, hcs, _, _, hsq, _⟩
    · exact keep hk
    · subst hcs
      refine Or.inr (Or.inr ⟨c, tl.map Prod.fst, rfl, hpo, congrArg (List.map Prod.fst) hq0, fun s => ?_⟩)
      show (w'.sq s).map Prod.fst = _
      rw [hsq, apply_ite (List.map Prod.fst)]; rfl
  | _ => exact keep hs.2

namespace WFQ

/-- tag invariants of one stream: queue `l`, `streamFinish` entry `fin`, virtual time `v`, weight `wt` -/
structure TagInv (l : List (Chunk × Rat)) (fin v wt : Rat) : Prop where
  /-- tags are non-decreasing along the queue -/
  t1 : l.Pairwise (fun x y => x.2 ≤ y.2)
  t2 : ∀ x ∈ l, x.2 ≤ fin
  /-- `streamFinish[s]` is the tag of the newest chunk of `s` -/
  t2l : ∀ l0 x, l = l0 ++ [x] → fin = x.2
  t3 : l = [] → fin ≤ v
  /-- the start tag of the head is at most the virtual time -/
  a : ∀ c f tl, l = (c, f) :: tl → f - (c.len : Rat) / wt ≤ v
  /-- the start tag of a chunk is at most max(tag of its predecessor, virtual time) -/
  cu : ∀ l1 c1 f1 c2 f2 l2, l = l1 ++ (c1, f1) :: (c2, f2) :: l2 → f2 - (c2.len : Rat) / wt ≤ max f1 v
  /-- … and at least the tag of its predecessor -/
  cl : ∀ l1 c1 f1 c2 f2 l2, l = l1 ++ (c1, f1) :: (c2, f2) :: l2 → f1 ≤ f2 - (c2.len : Rat) / wt

namespace TagInv
variable {l : List (Chunk × Rat)} {fin v wt : Rat}

theorem nil (h : fin ≤ v) : TagInv [] fin v wt := by
  have ne : ∀ (l1 : List (Chunk × Rat)) x l2, [] ≠ l1 ++ x :: l2 :=
    fun l1 x l2 hl => List.append_ne_nil_of_right_ne_nil l1 (List.cons_ne_nil x l2) hl.symm
  exact ⟨List.Pairwise.nil, fun _ hx => (nomatch hx), fun l0 x hl => absurd hl (ne l0 x []), fun _ => h,
    fun _ _ _ hl => (nomatch hl), fun l1 _ _ _ _ _ hl => absurd hl (ne l1 _ _), fun l1 _ _ _ _ _ hl => absurd hl (ne l1 _ _)⟩

theorem mono {v' : Rat} (h : TagInv l fin v wt) (hv : v ≤ v') : TagInv l fin v' wt :=
  ⟨h.t1, h.t2, h.t2l, fun hl => le_trans (h.t3 hl) hv, fun c f tl hl => le_trans (h.a c f tl hl) hv,
    fun l1 c1 f1 c2 f2 l2 hl => le_trans (h.cu l1 c1 f1 c2 f2 l2 hl) (max_le_max (le_refl _) hv), h.cl⟩

theorem last_of_append_cons {β : Type} {l l1 l2 : List β} {x a b : β} (h : l ++ [x] = l1 ++ a :: b :: l2) :
    (l2 = [] ∧ x = b ∧ l = l1 ++ [a]) ∨ (∃ l2', l2 = l2' ++ [x] ∧ l = l1 ++ a :: b :: l2') := by
  rcases List.eq_nil_or_concat l2 with rfl | ⟨l2', y, rfl⟩
  · left
    have : l ++ [x] = (l1 ++ [a]) ++ [b] := by simpa using h
    obtain ⟨h1, h2⟩ := List.append_inj' this rfl
    exact ⟨rfl, by simpa using h2, h1⟩
  · right
    have : l ++ [x] = (l1 ++ a :: b :: l2') ++ [y] := by simpa using h
    obtain ⟨h1, h2⟩ := List.append_inj' this rfl
    simp only [List.cons.injEq, and_true] at h2
    subst h2
    exact ⟨l2', by simp, h1⟩

theorem push (h : TagInv l fin v wt) (c : Chunk) (hd : 0 ≤ (c.len : Rat) / wt) :
    TagInv (l ++ [(c, max v fin + (c.len : Rat) / wt)]) (max v fin + (c.len : Rat) / wt) v wt := by
  have hfin : fin ≤ max v fin + (c.len : Rat) / wt := le_trans (le_max_right v fin) (le_add_of_nonneg_right hd)
  refine ⟨List.pairwise_append.mpr ⟨h.t1, List.pairwise_singleton _ _, fun x hx y hy => ?_⟩, fun x hx => ?_,
    fun l0 x hl => ?_, fun hl => by simp at hl, fun c' f' tl' hl => ?_, fun l1 c1 f1 c2 f2 l2 hl => ?_,
    fun l1 c1 f1 c2 f2 l2 hl => ?_⟩
  · rw [List.mem_singleton.mp hy]; exact le_trans (h.t2 x hx) hfin
  · rcases List.mem_append.mp hx with hx | hx
    · exact le_trans (h.t2 x hx) hfin
    · rw [List.mem_singleton.mp hx]
  · cases (List.append_inj' hl rfl).2; rfl
  · cases l with
    | nil =>
      simp only [List.nil_append, List.cons.injEq, Prod.mk.injEq] at hl
      obtain ⟨⟨rfl, rfl⟩, _⟩ := hl
      rw [add_sub_cancel_right]; exact max_le (le_refl _) (h.t3 rfl)
    | cons hd tl0 =>
      simp only [List.cons_append, List.cons.injEq] at hl
      exact h.a c' f' tl0 (by rw [hl.1])
  · rcases last_of_append_cons hl with ⟨_, hx, hl'⟩ | ⟨l2', _, hl'⟩
    · cases hx
      have hf : fin = f1 := h.t2l _ _ hl'
      rw [add_sub_cancel_right, hf, max_comm]
    · exact h.cu l1 c1 f1 c2 f2 l2' hl'
  · rcases last_of_append_cons hl with ⟨_, hx, hl'⟩ | ⟨l2', _, hl'⟩
    · cases hx
      have hf : fin = f1 := h.t2l _ _ hl'
      rw [add_sub_cancel_right, hf]; exact le_max_right _ _
    · exact h.cl l1 c1 f1 c2 f2 l2' hl'

theorem pop {c : Chunk} {f : Rat} {tl : List (Chunk × Rat)} (h : TagInv ((c, f) :: tl) fin v wt) :
    TagInv tl fin (max v f) wt := by
  refine ⟨(List.pairwise_cons.mp h.t1).2, fun x hx => h.t2 x (List.mem_cons_of_mem _ hx),
    fun l0 x hl => h.t2l ((c, f) :: l0) x (by rw [hl]; rfl), fun hl => ?_, fun c' f' tl' hl => ?_,
    fun l1 c1 f1 c2 f2 l2 hl => ?_, fun l1 c1 f1 c2 f2 l2 hl => h.cl ((c, f) :: l1) c1 f1 c2 f2 l2 (by rw [hl]; rfl)⟩
  · have hf : fin = f := h.t2l [] (c, f) (by rw [hl]; rfl)
    rw [hf]; exact le_max_right _ _
  · rw [max_comm]; exact h.cu [] c f c' f' tl' (by rw [hl]; rfl)
  · exact le_trans (h.cu ((c, f) :: l1) c1 f1 c2 f2 l2 (by rw [hl]; rfl)) (max_le_max (le_refl _) (le_max_left _ _))

end TagInv

structure GInv (w : WFQ Rat) : Prop where
  v0 : 0 ≤ w.vtime
  q : ∀ s, TagInv (w.sq s) (w.fin s) w.vtime (wt w s)

theorem GInv.t1 {w : WFQ Rat} (h : GInv w) (s : Nat) : (w.sq s).Pairwise (fun x y => x.2 ≤ y.2) := (h.q s).t1
theorem GInv.t2 {w : WFQ Rat} (h : GInv w) (s : Nat) : ∀ x ∈ w.sq s, x.2 ≤ w.fin s := (h.q s).t2
theorem GInv.t2l {w : WFQ Rat} (h : GInv w) (s : Nat) : ∀ l x, w.sq s = l ++ [x] → w.fin s = x.2 := (h.q s).t2l
theorem GInv.a {w : WFQ Rat} (h : GInv w) (s : Nat) :
    ∀ c f tl, w.sq s = (c, f) :: tl → f - (c.len : Rat) / wt w s ≤ w.vtime := (h.q s).a

theorem sq_new (ws : AMap Nat) (s : Nat) : (WFQ.new ws : WFQ Rat).sq s = [] := by simp [sq, WFQ.new]

theorem ginv_new (ws : AMap Nat) : GInv (WFQ.new ws : WFQ Rat) := by
  have hfin : ∀ s, (WFQ.new ws : WFQ Rat).fin s = 0 := fun s => by simp [fin, WFQ.new, Num.ofNat]
  have hv : (WFQ.new ws : WFQ Rat).vtime = 0 := by simp [WFQ.new, Num.ofNat]
  exact ⟨by rw [hv], fun s => by rw [sq_new, hfin, hv]; exact TagInv.nil (le_refl _)⟩

theorem div_wt_nonneg (w : WFQ Rat) (n : Nat) (s : Nat) : 0 ≤ (n : Rat) / wt w s :=
  div_nonneg (by exact_mod_cast Nat.zero_le n) (le_of_lt (wt_pos w s))

theorem ginv_step {w w' : WFQ Rat} {o : Op} {po : List Chunk} (h : GInv w) (hs : WStep w o w' po) : GInv w' := by
  have hwt : ∀ s, wt w' s = wt w s := wt_congr hs.1
  rcases hs.cases with ⟨c, _, _, hsq, hfin, hv, _⟩ | ⟨_, hsq, hfin, hv, _⟩ |
    ⟨s0, c, f, tl, hq0, _, _, _, _, hsq, hfin, hv, _⟩
  · refine ⟨by rw [hv]; exact h.v0, fun s => ?_⟩
    rw [hsq, hfin, hv, hwt]
    by_cases hsc : s = c.sid
    · subst hsc
      rw [if_pos rfl, if_pos rfl, pushTag_eq]
      exact (h.q _).push c (div_wt_nonneg w c.len _)
    · rw [if_neg hsc, if_neg hsc]; exact h.q s
  · exact ⟨by rw [hv]; exact h.v0, fun s => by rw [hsq, hfin, hv, hwt]; exact h.q s⟩
  · refine ⟨by rw [hv]; exact le_trans h.v0 (le_max_left _ _), fun s => ?_⟩
    rw [hsq, hfin, hv, hwt]
    by_cases hsc : s = s0
    · subst hsc
      rw [if_pos rfl]
      have := h.q s
      rw [hq0] at this
      exact this.pop
    · rw [if_neg hsc]; exact (h.q s).mono (le_max_left _ _)

/-- what atomic peek-pop adds to the tag invariants of one stream -/
structure TagInvA (l : List (Chunk × Rat)) (v wt : Rat) : Prop where
  /-- the head tag is at least the virtual time (the later tags follow, tags being non-decreasing: `TagInv.t1`) -/
  b : ∀ c f tl, l = (c, f) :: tl → v ≤ f
  /-- within a backlogged stream the start tag of a chunk is the finish tag of its predecessor -/
  ce : ∀ l1 c1 f1 c2 f2 l2, l = l1 ++ (c1, f1) :: (c2, f2) :: l2 → f2 - (c2.len : Rat) / wt = f1

namespace TagInvA
variable {l : List (Chunk × Rat)} {fin v wt : Rat}

theorem nil : TagInvA [] v wt :=
  ⟨fun _ _ _ hl => (nomatch hl),
    fun l1 _ _ _ _ _ hl => absurd hl.symm (List.append_ne_nil_of_right_ne_nil l1 (List.cons_ne_nil _ _))⟩

/-- a pushed chunk starts at the tag of its predecessor, which is at least the virtual time -/
theorem push (h : TagInvA l v wt) (g : TagInv l fin v wt) (c : Chunk) (hd : 0 ≤ (c.len : Rat) / wt) :
    TagInvA (l ++ [(c, max v fin + (c.len : Rat) / wt)]) v wt := by
  refine ⟨fun c' f' tl' hl => ?_, fun l1 c1 f1 c2 f2 l2 hl => ?_⟩
  · cases l with
    | nil =>
      simp only [List.nil_append, List.cons.injEq, Prod.mk.injEq] at hl
      rw [← hl.1.2]; exact le_trans (le_max_left v fin) (le_add_of_nonneg_right hd)
    | cons hd tl0 =>
      simp only [List.cons_append, List.cons.injEq] at hl
      exact h.b c' f' tl0 (by rw [hl.1])
  · rcases TagInv.last_of_append_cons hl with ⟨_, hx, hl'⟩ | ⟨l2', _, hl'⟩
    · cases hx
      have hf : fin = f1 := g.t2l _ _ hl'
      have hv : v ≤ f1 := by
        cases l1 with
        | nil => exact h.b c1 f1 [] hl'
        | cons x l1' => exact le_trans (h.b x.1 x.2 _ hl') (hf ▸ g.t2 x (by rw [hl']; exact List.mem_cons_self))
      rw [add_sub_cancel_right, hf, max_eq_right hv]
    · exact h.ce l1 c1 f1 c2 f2 l2' hl'

/-- after the pop of a head that carried the least tag, that tag is the virtual time -/
theorem pop {c : Chunk} {f : Rat} {tl : List (Chunk × Rat)} (h : TagInvA ((c, f) :: tl) v wt)
    (g : TagInv ((c, f) :: tl) fin v wt) : TagInvA tl f wt :=
  ⟨fun c' f' tl' hl => (List.pairwise_cons.mp g.t1).1 (c', f') (by rw [hl]; exact List.mem_cons_self),
    fun l1 c1 f1 c2 f2 l2 hl => h.ce ((c, f) :: l1) c1 f1 c2 f2 l2 (by rw [hl]; rfl)⟩

end TagInvA

/-- invariants that need atomic peek-pop -/
structure AInv (w : WFQ Rat) : Prop extends GInv w where
  qa : ∀ s, TagInvA (w.sq s) w.vtime (wt w s)
  /-- a cached selection is still a chunk with the least tag -/
  m : w.sel = true → ∃ c f tl, w.sq w.selStream = (c, f) :: tl ∧ ∀ s' c' f' tl', w.sq s' = (c', f') :: tl' → f ≤ f'

theorem AInv.b {w : WFQ Rat} (h : AInv w) (s : Nat) : ∀ c f tl, w.sq s = (c, f) :: tl → w.vtime ≤ f := (h.qa s).b
theorem AInv.ce {w : WFQ Rat} (h : AInv w) (s : Nat) :
    ∀ l1 c1 f1 c2 f2 l2, w.sq s = l1 ++ (c1, f1) :: (c2, f2) :: l2 → f2 - (c2.len : Rat) / wt w s = f1 := (h.qa s).ce

theorem ainv_new (ws : AMap Nat) : AInv (WFQ.new ws : WFQ Rat) :=
  ⟨ginv_new ws, fun s => by rw [sq_new]; exact TagInvA.nil, fun h => by simp [WFQ.new] at h⟩

/-- the chunk that `pop` hands out carries the least tag -/
theorem AInv.served_min {w : WFQ Rat} (h : AInv w) {s : Nat} {c : Chunk} {f : Rat} {tl : List (Chunk × Rat)}
    (hq : w.sq s = (c, f) :: tl) (hselT : w.sel = true → s = w.selStream) (hselF : w.sel = false → IsMin w s f) :
    ∀ s' c' f' tl', w.sq s' = (c', f') :: tl' → f ≤ f' := by
  cases hsel : w.sel with
  | true =>
    obtain ⟨c1, f1, tl1, hq1, hm⟩ := h.m hsel
    rw [← hselT hsel, hq] at hq1
    simp only [List.cons.injEq, Prod.mk.injEq] at hq1
    rw [hq1.1.2]; exact hm
  | false => exact fun s' c' f' tl' hq' => (hselF hsel s' c' f' tl' hq').1

theorem ainv_step {w w' : WFQ Rat} {o : Op} {po : List Chunk} (h : AInv w) (hs : WStep w o w' po)
    (hat : ∀ c, o = .push c → w.sel = false) : AInv w' := by
  have hg : GInv w' := ginv_step h.toGInv hs
  have hwt : ∀ s, wt w' s = wt w s := wt_congr hs.1
  rcases hs.cases with ⟨c, rfl, _, hsq, _, hv, hsel, _⟩ | ⟨_, hsq, _, hv, hsel⟩ |
    ⟨s0, c, f, tl, hq0, _, _, hselT, hselF, hsq, _, hv, hsel'⟩
  · refine ⟨hg, fun s => ?_, fun ht => by rw [hsel, hat c rfl] at ht; cases ht⟩
    rw [hsq, hv, hwt]
    by_cases hsc : s = c.sid
    · subst hsc
      rw [if_pos rfl, pushTag_eq]
      exact (h.qa _).push (h.q _) c (div_wt_nonneg w c.len _)
    · rw [if_neg hsc]; exact h.qa s
  · have e : w'.sq = w.sq := funext hsq
    refine ⟨hg, fun s => by rw [e, hv, hwt]; exact h.qa s, fun ht => ?_⟩
    rw [e]
    rcases hsel with ⟨h1, _, h3⟩ | ⟨_, h2, _⟩ | ⟨_, _, c, f, tl, h4, h5⟩
    · rw [h3]; exact h.m h1
    · rw [h2] at ht; cases ht
    · exact ⟨c, f, tl, h4, fun s' c' f' tl' hq' => (h5 s' c' f' tl' hq').1⟩
  · have hvf : w'.vtime = f := by rw [hv]; exact max_eq_right (h.b s0 c f tl hq0)
    refine ⟨hg, fun s => ?_, fun ht => by rw [hsel'] at ht; cases ht⟩
    rw [hsq, hvf, hwt]
    by_cases hsc : s = s0
    · subst hsc
      have a := h.qa s
      have g := h.q s
      rw [hq0] at a g
      rw [if_pos rfl]; exact a.pop g
    · rw [if_neg hsc]; exact ⟨h.served_min hq0 hselT hselF s, (h.qa s).ce⟩

end WFQ

/-- no push happens while a selection made by an earlier `peek` is still cached (WFQ states only) -/
def PQ.Atomic (q : PQ Rat) : List Op → Prop
  | [] => True
  | o :: os => (∀ c w, o = .push c → q.policy = .wfq w → w.sel = false) ∧ PQ.Atomic (q.step o).1 os

instance PQ.decAtomic : ∀ (ops : List Op) (q : PQ Rat), Decidable (PQ.Atomic q ops)
  | [], _ => isTrue trivial
  | o :: os, q =>
    have := PQ.decAtomic os (q.step o).1
    have : Decidable (∀ c w, o = .push c → q.policy = .wfq w → w.sel = false) :=
      match o, q.policy with
      | .push _, .wfq w => decidable_of_iff (w.sel = false)
          ⟨fun h _ _ _ hq => Policy.wfq.inj hq ▸ h, fun h => h _ _ rfl rfl⟩
      | .push _, .msg _ | .push _, .rr _ => isTrue (fun _ _ _ hq => by cases hq)
      | .peek, _ | .pop, _ | .rawPop _, _ | .popNil, _ | .setil _, _ => isTrue (fun _ _ ho => by cases ho)
    inferInstanceAs (Decidable (_ ∧ _))

/-- payload bytes of stream `s` popped along a trace -/
def served (tr : List (Op × Res)) (s : Nat) : Nat := lenSum ((popsOf tr).filter (·.sid == s))

theorem served_cons (e : Op × Res) (tr : List (Op × Res)) (s : Nat) :
    served (e :: tr) s = lenSum ((evPop e).filter (·.sid == s)) + served tr s := by
  simp [served, popsOf_cons, List.filter_append]

theorem run_append (q : PQ Rat) (a b : List Op) :
    (q.run (a ++ b)).1 = ((q.run a).1.run b).1 ∧ (q.run (a ++ b)).2 = (q.run a).2 ++ ((q.run a).1.run b).2 := by
  induction a generalizing q with
  | nil => simp [PQ.run]
  | cons o os ih =>
    have := ih (q.step o).1
    simp only [List.cons_append, PQ.run_cons]
    exact ⟨this.1, by simp [this.2]⟩

theorem pushesOf_append (a b : List (Op × Res)) : pushesOf (a ++ b) = pushesOf a ++ pushesOf b := by
  induction a with
  | nil => rfl
  | cons e a ih => simp [pushesOf_cons, ih]

theorem atomic_append (q : PQ Rat) (a b : List Op) :
    PQ.Atomic q (a ++ b) ↔ PQ.Atomic q a ∧ PQ.Atomic (q.run a).1 b := by
  induction a generalizing q with
  | nil => simp [PQ.Atomic, PQ.run]
  | cons o os ih =>
    simp only [List.cons_append, PQ.Atomic, PQ.run_cons, ih, and_assoc]

theorem backlogged_wfq {q : PQ Rat} {w : WFQ Rat} (hq : q.policy = .wfq w) (s : Nat) :
    q.backlogged s ↔ w.sq s ≠ [] := by
  simp [PQ.backlogged, hq, Policy.streamQ]

open WFQ in
theorem wfq_run :
    ∀ (ops : List Op) (q : PQ Rat) (w : WFQ Rat), q.policy = .wfq w → AInv w → w.WF →
      (∀ o ∈ ops, o.basic = true) → PQ.Atomic q ops →
      ∃ w', (q.run ops).1.policy = .wfq w' ∧ AInv w' ∧ w'.WF ∧ w'.weights = w.weights :=
  wfq_run_inv (G := PQ.Atomic) fun hq ha _ hat hs => ⟨ainv_step ha hs (fun c hc => hat.1 c _ hc hq), hat.2⟩

/-- the queue after `newPendingQueue(wfq with weights ws)` and `setInterleaving(true)` -/
def wfqFresh (ws : AMap Nat) : PQ Rat := ((PQ.new (.wfq ws) : PQ Rat).setInterleaving true).1

theorem wfqFresh_policy (ws : AMap Nat) : (wfqFresh ws).policy = .wfq (WFQ.new ws) := by
  simp [wfqFresh, PQ.new, PQ.setInterleaving]

open WFQ in
theorem wfq_run_g (ops : List Op) (q : PQ Rat) (w : WFQ Rat) (hq : q.policy = .wfq w) (hg : GInv w) (hwf : w.WF)
    (hops : ∀ o ∈ ops, o.basic = true) :
    ∃ w', (q.run ops).1.policy = .wfq w' ∧ GInv w' ∧ w'.WF ∧ w'.weights = w.weights :=
  wfq_run_inv (G := fun _ _ => True) (fun _ hg _ _ hs => ⟨ginv_step hg hs, trivial⟩) ops q w hq hg hwf hops trivial

/-- a run from the fresh queue stays a WFQ state … -/
theorem wfq_fresh_policy (ws : AMap Nat) (ops : List Op) (hops : ∀ o ∈ ops, o.basic = true) :
    ∃ w, ((wfqFresh ws).run ops).1.policy = .wfq w := by
  obtain ⟨w, hq, _⟩ := wfq_run_g ops (wfqFresh ws) _ (wfqFresh_policy ws) (WFQ.ginv_new ws) (WFQ.wf_new ws) hops
  exact ⟨w, hq⟩

/-- … that satisfies `GInv`, is well-formed and has the configured weights … -/
theorem wfq_fresh_ginv (ws : AMap Nat) (ops : List Op) (hops : ∀ o ∈ ops, o.basic = true) {w : WFQ Rat}
    (hq : ((wfqFresh ws).run ops).1.policy = .wfq w) :
    WFQ.GInv w ∧ w.WF ∧ w.weights = (WFQ.new ws : WFQ Rat).weights := by
  obtain ⟨w', hq', h⟩ := wfq_run_g ops (wfqFresh ws) _ (wfqFresh_policy ws) (WFQ.ginv_new ws) (WFQ.wf_new ws) hops
  cases hq.symm.trans hq'
  exact h

/-- … and `AInv` when the run is atomic -/
theorem wfq_fresh_ainv (ws : AMap Nat) (ops : List Op) (hops : ∀ o ∈ ops, o.basic = true) (hat : PQ.Atomic (wfqFresh ws) ops)
    {w : WFQ Rat} (hq : ((wfqFresh ws).run ops).1.policy = .wfq w) : WFQ.AInv w := by
  obtain ⟨w', hq', h, _⟩ := wfq_run ops (wfqFresh ws) _ (wfqFresh_policy ws) (WFQ.ainv_new ws) (WFQ.wf_new ws) hops hat
  cases hq.symm.trans hq'
  exact h

theorem wfq_queued_mem_pushes (ws : AMap Nat) (ops : List Op) (hops : ∀ o ∈ ops, o.basic = true)
    {w : WFQ Rat} (hq : ((wfqFresh ws).run ops).1.policy = .wfq w) {s : Nat} {x : Chunk × Rat}
    (hx : x ∈ w.sq s) : x.1 ∈ pushesOf ((wfqFresh ws).run ops).2 ∧ x.1.sid = s := by
  have h := wfq_stream_fifo ops (wfqFresh ws) _ [] [] (wfqFresh_policy ws) (WFQ.wf_new ws) hops
    (fun s => by rw [WFQ.sq_new]; rfl) s
  rw [hq, List.nil_append] at h
  have hm : x.1 ∈ (pushesOf ((wfqFresh ws).run ops).2).filter (·.sid == s) := by
    rw [h]; exact List.mem_append_right _ (List.mem_map_of_mem hx)
  exact ⟨(List.mem_filter.mp hm).1, beq_iff_eq.mp (List.mem_filter.mp hm).2⟩

end PendQ
