import SctpVerif.Proofs.PendQMsg
import Mathlib.Data.Finset.Card
import Mathlib.Data.Finset.Range
/-!
Helper lemmas for C17, part 4. For every policy: the per-stream queue `Policy.streamQ`, `PQ.backlogged`, `PQ.AllStates` (a
predicate on every state along an operation list), and at the end per-stream FIFO from a step relation (`FifoStep`,
`stream_fifo`). Round robin: `RRStep`, rounds (`round_aux`, `rr_round`) and no starvation (`starv_aux`, `rr_no_starvation`).
-/
namespace PendQ

variable {α : Type} [Num α]

/-- the queue of stream `s` inside the interleaving policies (message policy: the chunks of `s` in
both class queues) -/
def Policy.streamQ (p : Policy α) (s : Nat) : List Chunk :=
  match p with
  | .msg m => (m.unord ++ m.ord).filter (·.sid == s)
  | .rr r => r.sq s
  | .wfq w => (w.sq s).map Prod.fst

/-- stream `s` has queued data -/
def PQ.backlogged (q : PQ α) (s : Nat) : Prop := q.policy.streamQ s ≠ []

/-- `p` holds in every state the run of `ops` from `q` passes through (first and last included) -/
def PQ.AllStates (p : PQ α → Prop) (q : PQ α) : List Op → Prop
  | [] => p q
  | o :: os => p q ∧ PQ.AllStates p (q.step o).1 os

instance (q : PQ α) (s : Nat) : Decidable (q.backlogged s) := by unfold PQ.backlogged; infer_instance

instance PQ.decAllStates (p : PQ α → Prop) [DecidablePred p] : ∀ (ops : List Op) (q : PQ α), Decidable (PQ.AllStates p q ops)
  | [], q => by unfold PQ.AllStates; infer_instance
  | o :: os, q => by
    unfold PQ.AllStates
    have := PQ.decAllStates p os (q.step o).1
    infer_instance

instance (p : PQ α → Prop) [DecidablePred p] (q : PQ α) (ops : List Op) : Decidable (PQ.AllStates p q ops) :=
  PQ.decAllStates p ops q

theorem PQ.AllStates.imp {p p' : PQ α → Prop} (hpp : ∀ q, p q → p' q) :
    ∀ (ops : List Op) (q : PQ α), PQ.AllStates p q ops → PQ.AllStates p' q ops := by
  intro ops
  induction ops with
  | nil => intro q h; exact hpp q h
  | cons o os ih => intro q h; exact ⟨hpp q h.1, ih _ h.2⟩

theorem PQ.AllStates.head {p : PQ α → Prop} {q : PQ α} {ops : List Op} (h : PQ.AllStates p q ops) : p q := by
  cases ops with
  | nil => exact h
  | cons o os => exact h.1

theorem PQ.AllStates.last {p : PQ α → Prop} :
    ∀ (ops : List Op) (q : PQ α), PQ.AllStates p q ops → p (q.run ops).1 := by
  intro ops
  induction ops with
  | nil => intro q h; exact h
  | cons o os ih => intro q h; simpa [PQ.run] using ih _ h.2

/-- what one basic operation does to the observations `order`, `sq` of a well-formed RR state -/
def RRStep (r : RR) (o : Op) (r' : RR) (po : List Chunk) : Prop :=
  match o with
  | .push c => po = [] ∧ r'.order = (if r.sq c.sid = [] then r.order ++ [c.sid] else r.order) ∧
      ∀ s, r'.sq s = if s = c.sid then r.sq s ++ [c] else r.sq s
  | .pop => (r.order = [] ∧ po = [] ∧ r'.order = [] ∧ ∀ s, r'.sq s = r.sq s) ∨
      (∃ s rest c tl, r.order = s :: rest ∧ r.sq s = c :: tl ∧ po = [c] ∧
        r'.order = (if tl = [] then rest else rest ++ [s]) ∧ ∀ s', r'.sq s' = if s' = s then tl else r.sq s')
  | _ => po = [] ∧ r'.order = r.order ∧ ∀ s, r'.sq s = r.sq s

theorem rr_step_obs {q : PQ α} {r : RR} (hq : q.policy = .rr r) (h : r.WF) (o : Op) (ho : o.basic = true) :
    ∃ r', (q.step o).1.policy = .rr r' ∧ r'.WF ∧ RRStep r o r' (evPop (o, (q.step o).2)) ∧
      evPush (o, (q.step o).2) = (match o with | .push c => [c] | _ => []) := by
  cases o with
  | rawPop _ | popNil | setil _ => cases ho
  | push c =>
    refine ⟨r.push c, by simp [PQ.step, PQ.push, PQ.policyPush, hq], RR.push_wf h c, ?_, by simp [evPush]⟩
    exact ⟨by simp [evPop, PQ.step], RR.push_order h c, RR.push_sq r c⟩
  | peek =>
    obtain ⟨hwf', hq', ho', _, _, _⟩ := RR.peek_spec h
    refine ⟨(r.peek).1, by simp [PQ.step, PQ.peek, PQ.policyPeek, hq], hwf', ?_, by simp [evPush]⟩
    exact ⟨by simp [evPop, PQ.step], ho', fun s => by simp [RR.sq, hq']⟩
  | pop =>
    obtain ⟨hwf', hq', ho', hres, _, hsame⟩ := RR.peek_spec h
    cases hord : r.order with
    | nil =>
      have hpk : r.peek = (r, .chunk none) := by
        have := hsame hord
        have h2 : (r.peek).2 = .chunk none := by simp [hres, hord]
        exact Prod.ext this h2
      refine ⟨r, by simp [PQ.step, PQ.peek, PQ.policyPeek, hq, hpk], h, ?_, by simp [evPush]⟩
      left
      exact ⟨hord, by simp [PQ.step, PQ.peek, PQ.policyPeek, hq, hpk, evPop], hord, fun _ => rfl⟩
    | cons s rest =>
      obtain ⟨c, tl, hsqs, hpk, hok, hwf'', hord'', hsq'', _, _, _⟩ := RR.serve_spec h hord
      have hstep := PQ.step_pop_ok (q := q) (c := c) (by rw [hq]; exact hpk) (by rw [hq]; exact hok)
      rw [hq] at hstep
      refine ⟨((r.peek).1.pop c).1, by rw [hstep]; rfl, hwf'', ?_, by simp [evPush]⟩
      right
      exact ⟨s, rest, c, tl, hord, hsqs, by rw [hstep]; simp [evPop], hord'', hsq''⟩

/-- the streams in the service order after a step were there before or have just been pushed on -/
theorem RRStep.order_mem {r r' : RR} {o : Op} {po : List Chunk} (h : RRStep r o r' po) {x : Nat}
    (hx : x ∈ r'.order) : x ∈ r.order ∨ ∃ c, o = .push c ∧ x = c.sid := by
  cases o with
  | push c =>
    obtain ⟨_, hord, _⟩ := h
    rw [hord] at hx
    split at hx
    · rcases List.mem_append.mp hx with hx | hx
      · exact Or.inl hx
      · exact Or.inr ⟨c, rfl, List.mem_singleton.mp hx⟩
    · exact Or.inl hx
  | pop =>
    rcases h with ⟨_, _, hord, _⟩ | ⟨s, rest, c, tl, hord, _, _, hord', _⟩
    · rw [hord] at hx; cases hx
    · rw [hord'] at hx
      rw [hord]
      left
      split at hx
      · exact List.mem_cons_of_mem _ hx
      · rcases List.mem_append.mp hx with hx | hx
        · exact List.mem_cons_of_mem _ hx
        · rw [List.mem_singleton.mp hx]; exact List.mem_cons_self
  | peek | rawPop _ | popNil | setil _ => exact Or.inl (h.2.1 ▸ hx)

/-- `s` is in the service order, `t` before it and not yet served (`K = 0`) or behind it and served
once (`K = 1`) -/
def SegInv (r : RR) (s t : Nat) (K : Nat) : Prop :=
  ∃ A B, r.order = A ++ s :: B ∧ ((t ∈ A ∧ K = 0) ∨ (t ∈ B ∧ K = 1))

/-- a service while `s` waits behind `A` in the service order: either `s` itself is served, or the head
`a ≠ s` of `A` is served, goes to the back if it still has chunks, and `s` moves one place forward -/
theorem RRStep.pop_split {r r' : RR} {po : List Chunk} (h : r.WF) (hstep : RRStep r .pop r' po) {s : Nat}
    {A B : List Nat} (hord : r.order = A ++ s :: B) :
    ∃ c tl, po = [c] ∧ r.sq c.sid = c :: tl ∧ (∀ s', r'.sq s' = if s' = c.sid then tl else r.sq s') ∧
      ((A = [] ∧ c.sid = s ∧ r'.order = B ++ (if tl = [] then [] else [s])) ∨
       (∃ A', A = c.sid :: A' ∧ c.sid ≠ s ∧ c.sid ∉ A' ∧ c.sid ∉ B ∧
          r'.order = A' ++ s :: (B ++ if tl = [] then [] else [c.sid]))) := by
  rcases hstep with ⟨hnil, _⟩ | ⟨a, rest, c, tl, horda, hsqa, hpo, hord', hsq'⟩
  · rw [hord] at hnil; exact absurd hnil (by simp)
  · obtain rfl : c.sid = a := RR.sid_of_mem_sq h (by rw [hsqa]; exact List.mem_cons_self)
    have hnd := horda ▸ h.nodupOrder
    rw [horda] at hord
    have hord'' : r'.order = rest ++ (if tl = [] then [] else [c.sid]) := by rw [hord']; split <;> simp
    refine ⟨c, tl, hpo, hsqa, hsq', ?_⟩
    rcases List.cons_eq_append_iff.mp hord with ⟨rfl, hsB⟩ | ⟨A', rfl, hrest⟩
    · obtain ⟨has, rfl⟩ := List.cons.inj hsB
      exact Or.inl ⟨rfl, has.symm, has ▸ hord''⟩
    · rw [hrest] at hnd hord''
      have hnm := (List.nodup_cons.mp hnd).1
      simp only [List.mem_append, List.mem_cons, not_or] at hnm
      exact Or.inr ⟨A', rfl, hnm.2.1, hnm.1, hnm.2.2, by rw [hord'']; simp⟩

theorem round_aux (s t : Nat) :
    ∀ (ops : List Op) (q : PQ α) (r : RR) (K : Nat), q.policy = .rr r → r.WF → (∀ o ∈ ops, o.basic = true) →
      SegInv r s t K → (∀ c ∈ popsOf (q.run ops).2, c.sid ≠ s) →
      PQ.AllStates (fun q => q.backlogged t) q ops →
      ∃ r', (q.run ops).1.policy = .rr r' ∧ r'.WF ∧
        SegInv r' s t (K + ((popsOf (q.run ops).2).filter (·.sid == t)).length) := by
  intro ops
  induction ops with
  | nil => intro q r K hq h _ hseg _ _; exact ⟨r, hq, h, by simpa [PQ.run, popsOf] using hseg⟩
  | cons o os ih =>
    intro q r K hq h hops hseg hnos hall
    obtain ⟨r', hq', hwf', hstep, _⟩ := rr_step_obs hq h o (hops o (by simp))
    rw [PQ.run_cons] at hnos ⊢
    simp only [popsOf_cons] at hnos ⊢
    have hall' : PQ.AllStates (fun q => q.backlogged t) (q.step o).1 os := hall.2
    have hbl'' : r'.sq t ≠ [] := by
      simpa [PQ.backlogged, hq', Policy.streamQ] using hall'.head
    have hseg' : SegInv r' s t (K + ((evPop (o, (q.step o).2)).filter (·.sid == t)).length) := by
      obtain ⟨A, B, hAB, halt⟩ := hseg
      cases o with
      | rawPop _ | popNil | setil _ => simp [Op.basic] at hops
      | peek =>
        obtain ⟨hpo, hord, _⟩ := hstep
        rw [hpo]; exact ⟨A, B, by rw [hord, hAB], by simpa using halt⟩
      | push c =>
        obtain ⟨hpo, hord, _⟩ := hstep
        rw [hpo]
        by_cases he : r.sq c.sid = []
        · refine ⟨A, B ++ [c.sid], by rw [hord, hAB]; simp [he], ?_⟩
          rcases halt with ⟨h1, h2⟩ | ⟨h1, h2⟩
          · left; exact ⟨h1, by simpa using h2⟩
          · right; exact ⟨by simp [h1], by simpa using h2⟩
        · exact ⟨A, B, by rw [hord, hAB]; simp [he], by simpa using halt⟩
      | pop =>
        obtain ⟨c, tl, hpo, _, hsq', hcase⟩ := hstep.pop_split h hAB
        rw [hpo]
        rcases hcase with ⟨_, hcs, _⟩ | ⟨A', rfl, _, _, hcB, hord'⟩
        · exact absurd hcs (hnos c (by rw [hpo]; simp))
        · by_cases hct : c.sid = t
          · -- `t` is served: it was ahead of `s`, stays backlogged and queues up behind `s`
            have hK : K = 0 := by
              rcases halt with ⟨_, h2⟩ | ⟨h1, _⟩
              · exact h2
              · exact absurd (hct ▸ h1) hcB
            have htl : tl ≠ [] := fun htl => hbl'' (by rw [hsq' t, if_pos hct.symm, htl])
            exact ⟨A', B ++ [c.sid], by rw [hord', if_neg htl], Or.inr ⟨by simp [hct], by simp [hK, hct]⟩⟩
          · refine ⟨A', B ++ (if tl = [] then [] else [c.sid]), hord', ?_⟩
            rcases halt with ⟨h1, h2⟩ | ⟨h1, h2⟩
            · exact Or.inl ⟨(List.mem_cons.mp h1).resolve_left (Ne.symm hct), by simpa [hct] using h2⟩
            · exact Or.inr ⟨List.mem_append_left _ h1, by simpa [hct] using h2⟩
    obtain ⟨r'', hq'', hwf'', hseg''⟩ := ih (q.step o).1 r' _ hq' hwf' (fun o' ho' => hops o' (by simp [ho'])) hseg'
      (fun c hc => hnos c (by simp [hc])) hall'
    refine ⟨r'', hq'', hwf'', ?_⟩
    simpa [List.filter_append, Nat.add_assoc] using hseg''

theorem length_le_of_nodup_lt {l : List Nat} {N : Nat} (hnd : l.Nodup) (hlt : ∀ x ∈ l, x < N) : l.length ≤ N := by
  have h1 : l.toFinset.card = l.length := List.toFinset_card_of_nodup hnd
  have h2 : l.toFinset ⊆ Finset.range N := by
    intro x hx; simp only [List.mem_toFinset] at hx; simpa using hlt x hx
  have := Finset.card_le_card h2
  simp only [Finset.card_range] at this
  omega

/-- chunk `c` sits at depth `|l1|` of stream `s`, which is at position `|A|` of the service order -/
def Waiting (r : RR) (c : Chunk) (s : Nat) (d p : Nat) : Prop :=
  ∃ l1 l2 A B, r.sq s = l1 ++ c :: l2 ∧ r.order = A ++ s :: B ∧ l1.length = d ∧ A.length = p

theorem starv_aux (N : Nat) (c : Chunk) (s : Nat) :
    ∀ (ops : List Op) (q : PQ α) (r : RR) (d p : Nat), q.policy = .rr r → r.WF → (∀ o ∈ ops, o.basic = true) →
      (∀ x ∈ r.order, x < N) → (∀ c' ∈ pushesOf (q.run ops).2, c'.sid < N) → Waiting r c s d p →
      c ∈ popsOf (q.run ops).2 ∨ (popsOf (q.run ops).2).length ≤ d * N + p := by
  intro ops
  induction ops with
  | nil => intro q r d p _ _ _ _ _ _; right; simp [PQ.run, popsOf]
  | cons o os ih =>
    intro q r d p hq h hops hN hpush hw
    obtain ⟨r', hq', hwf', hstep, hpu⟩ := rr_step_obs hq h o (hops o (by simp))
    rw [PQ.run_cons] at hpush ⊢
    simp only [popsOf_cons, pushesOf_cons] at hpush ⊢
    have hpush' : ∀ c' ∈ pushesOf ((q.step o).1.run os).2, c'.sid < N := fun c' hc' => hpush c' (by simp [hc'])
    have hops' : ∀ o' ∈ os, o'.basic = true := fun o' ho' => hops o' (by simp [ho'])
    obtain ⟨l1, l2, A, B, hsq, hord, hd, hp⟩ := hw
    have hlen : r.order.length ≤ N := length_le_of_nodup_lt h.nodupOrder hN
    have hN' : ∀ x ∈ r'.order, x < N := fun x hx => by
      rcases hstep.order_mem hx with hx | ⟨c', rfl, rfl⟩
      · exact hN x hx
      · exact hpush c' (by simp [hpu])
    cases o with
    | rawPop _ | popNil | setil _ => simp [Op.basic] at hops
    | peek =>
      obtain ⟨hpo, hord', hsq'⟩ := hstep
      have := ih (q.step .peek).1 r' d p hq' hwf' hops' hN' hpush'
        ⟨l1, l2, A, B, by rw [hsq' s, hsq], by rw [hord', hord], hd, hp⟩
      simpa [hpo] using this
    | push c' =>
      obtain ⟨hpo, hord', hsq'⟩ := hstep
      have hw' : Waiting r' c s d p := by
        refine ⟨l1, if s = c'.sid then l2 ++ [c'] else l2, A,
          if r.sq c'.sid = [] then B ++ [c'.sid] else B, ?_, ?_, hd, hp⟩
        · rw [hsq' s, hsq]; split <;> simp
        · rw [hord', hord]; split <;> simp
      have := ih (q.step (.push c')).1 r' d p hq' hwf' hops' hN' hpush' hw'
      simpa [hpo] using this
    | pop =>
      obtain ⟨c', tl, hpo, hsqc, hsq', hcase⟩ := hstep.pop_split h hord
      rw [hpo]
      rcases hcase with ⟨rfl, hcs, hord'⟩ | ⟨A', rfl, hcs, _, _, hord'⟩
      · -- the stream of `c` is served
        rw [hcs, hsq] at hsqc
        cases l1 with
        | nil => left; simp [(List.cons.inj hsqc).1]
        | cons x l1' =>
          obtain ⟨rfl, htl⟩ := List.cons.inj hsqc
          have hw' : Waiting r' c s l1'.length B.length :=
            ⟨l1', l2, B, [], by rw [hsq' s, if_pos hcs.symm, ← htl]; rfl, by rw [hord', ← htl]; simp, rfl, rfl⟩
          rcases ih (q.step .pop).1 r' _ _ hq' hwf' hops' hN' hpush' hw' with hin | hle
          · left; simp [hin]
          · right
            have hB : B.length + 1 ≤ N := by rw [hord] at hlen; simpa using hlen
            subst hd hp
            have : (l1'.length + 1) * N = l1'.length * N + N := by rw [Nat.add_mul, Nat.one_mul]
            simp only [List.length_append, List.length_cons, List.length_nil] at hle ⊢
            omega
      · -- another stream is served: `s` moves one place forward
        have hw' : Waiting r' c s d (p - 1) :=
          ⟨l1, l2, A', _, by rw [hsq' s, if_neg (Ne.symm hcs), hsq], hord', hd, by rw [← hp]; simp⟩
        have hp1 : 1 ≤ p := by rw [← hp]; simp
        rcases ih (q.step .pop).1 r' _ _ hq' hwf' hops' hN' hpush' hw' with hin | hle
        · left; simp [hin]
        · right; simp only [List.length_append, List.length_singleton]; omega

/-- the queue after `newPendingQueue(rr)` and `setInterleaving(true)` -/
def rrFresh : PQ α := ((PQ.new .rr : PQ α).setInterleaving true).1

theorem rrFresh_policy : (rrFresh : PQ α).policy = .rr {} := by
  simp [rrFresh, PQ.new, PQ.setInterleaving]

/-- basic operations keep a round-robin queue round-robin and well-formed, and the streams in its service
order among those that were pushed on -/
theorem rr_run_inv (p : Nat → Prop) :
    ∀ (ops : List Op) (q : PQ α) (r : RR), q.policy = .rr r → r.WF → (∀ o ∈ ops, o.basic = true) →
      (∀ x ∈ r.order, p x) → (∀ c' ∈ pushesOf (q.run ops).2, p c'.sid) →
      ∃ r', (q.run ops).1.policy = .rr r' ∧ r'.WF ∧ ∀ x ∈ r'.order, p x := by
  intro ops
  induction ops with
  | nil => intro q r hq h _ hN _; exact ⟨r, hq, h, hN⟩
  | cons o os ih =>
    intro q r hq h hops hN hpush
    obtain ⟨r', hq', hwf', hstep, hpu⟩ := rr_step_obs hq h o (hops o (by simp))
    rw [PQ.run_cons] at hpush ⊢
    simp only [pushesOf_cons] at hpush
    refine ih _ r' hq' hwf' (fun o' ho' => hops o' (by simp [ho'])) (fun x hx => ?_)
      (fun c' hc' => hpush c' (by simp [hc']))
    rcases hstep.order_mem hx with hx | ⟨c, rfl, rfl⟩
    · exact hN x hx
    · exact hpush c (by simp [hpu])

theorem evPop_eq_of_popped {o : Op} {r : Res} {c : Chunk} (h : r = .popped (some c) .ok) : evPop (o, r) = [c] := by
  subst h; cases o <;> rfl

theorem rr_round {q1 : PQ α} {r1 : RR} (hq1 : q1.policy = .rr r1) (hwf1 : r1.WF)
    (mid : List Op) (hmid : ∀ o ∈ mid, o.basic = true)
    (s t : Nat) (hst : t ≠ s) (c1 c2 : Chunk)
    (h1 : (q1.step .pop).2 = .popped (some c1) .ok) (hc1 : c1.sid = s)
    (h2 : (((q1.step .pop).1.run mid).1.step .pop).2 = .popped (some c2) .ok) (hc2 : c2.sid = s)
    (hnos : ∀ c ∈ popsOf ((q1.step .pop).1.run mid).2, c.sid ≠ s)
    (hall : PQ.AllStates (fun q => q.backlogged s ∧ q.backlogged t) (q1.step .pop).1 mid) :
    ((popsOf ((q1.step .pop).1.run mid).2).filter (·.sid == t)).length = 1 := by
  -- first service of `s`
  obtain ⟨r1', hq1', hwf1', hstep1, _⟩ := rr_step_obs hq1 hwf1 .pop rfl
  rw [evPop_eq_of_popped h1] at hstep1
  have hbl := hall.head
  have hbls : r1'.sq s ≠ [] := by simpa [PQ.backlogged, hq1', Policy.streamQ] using hbl.1
  have hblt : r1'.sq t ≠ [] := by simpa [PQ.backlogged, hq1', Policy.streamQ] using hbl.2
  have hseg : SegInv r1' s t 0 := by
    rcases hstep1 with ⟨_, hpo, _⟩ | ⟨a, rest, c, tl, hord, hsqa, hpo, hord', hsq'⟩
    · simp at hpo
    · simp at hpo; subst hpo
      have has : a = s := by rw [← hc1]; exact (RR.sid_of_mem_sq hwf1 (by rw [hsqa]; simp)).symm
      subst has
      have htl : tl ≠ [] := by
        intro htl; have := hsq' a; rw [if_pos rfl, htl] at this; exact hbls this
      have htm : t ∈ r1'.order := (RR.sq_ne_nil_iff hwf1' t).mp hblt
      rw [hord'] at htm; simp [htl, hst] at htm
      exact ⟨rest, [], by rw [hord']; simp [htl], Or.inl ⟨htm, rfl⟩⟩
  obtain ⟨r2, hq2, hwf2, hseg2⟩ := round_aux s t mid _ r1' 0 hq1' hwf1' hmid hseg hnos
    (PQ.AllStates.imp (fun q h => h.2) mid _ hall)
  -- second service of `s`
  obtain ⟨r2', _, _, hstep2, _⟩ := rr_step_obs hq2 hwf2 .pop rfl
  rw [evPop_eq_of_popped h2] at hstep2
  obtain ⟨A, B, hAB, halt⟩ := hseg2
  obtain ⟨c, tl, hpo, _, _, hcase⟩ := hstep2.pop_split hwf2 hAB
  obtain rfl : c2 = c := (List.cons.inj hpo).1
  rcases hcase with ⟨rfl, _, _⟩ | ⟨A', _, hne, _⟩
  · rcases halt with ⟨hm, _⟩ | ⟨_, hK⟩
    · cases hm
    · simpa using hK
  · exact absurd hc2 hne

theorem rr_no_starvation (N : Nat) (pre ops : List Op) (hpre : ∀ o ∈ pre, o.basic = true)
    (hops : ∀ o ∈ ops, o.basic = true)
    (hNpre : ∀ c' ∈ pushesOf ((rrFresh : PQ α).run pre).2, c'.sid < N)
    (hNops : ∀ c' ∈ pushesOf (((rrFresh : PQ α).run pre).1.run ops).2, c'.sid < N)
    (c : Chunk) (s d : Nat) (l1 l2 : List Chunk)
    (hq : ((rrFresh : PQ α).run pre).1.policy.streamQ s = l1 ++ c :: l2) (hd : l1.length = d)
    (hmany : (d + 1) * N ≤ (popsOf (((rrFresh : PQ α).run pre).1.run ops).2).length) :
    c ∈ popsOf (((rrFresh : PQ α).run pre).1.run ops).2 := by
  obtain ⟨r1, hq1, hwf1, hN1⟩ := rr_run_inv (· < N) pre (rrFresh : PQ α) {} rrFresh_policy RR.wf_empty hpre (by simp) hNpre
  have hsq : r1.sq s = l1 ++ c :: l2 := by simpa [hq1, Policy.streamQ] using hq
  have hsm : s ∈ r1.order := (RR.sq_ne_nil_iff hwf1 s).mp (by rw [hsq]; simp)
  obtain ⟨A, B, hAB⟩ := List.append_of_mem hsm
  have hlen : r1.order.length ≤ N := length_le_of_nodup_lt hwf1.nodupOrder hN1
  have hA : A.length < N := by rw [hAB] at hlen; simp at hlen; omega
  rcases starv_aux N c s ops _ r1 d A.length hq1 hwf1 hops hN1 hNops ⟨l1, l2, A, B, hsq, hAB, hd, rfl⟩ with h | h
  · exact h
  · have : (d + 1) * N = d * N + N := by rw [Nat.add_mul, Nat.one_mul]
    omega

/-! ### per-stream FIFO under the interleaving schedulers (regardless of the U flag) -/

/-- a step on stream queues `L`: nothing happens, or `pu = [c]` is appended to the queue of its stream, or
`po = [c]` is taken from the front of the queue of its stream -/
def FifoStep (L L' : Nat → List Chunk) (pu po : List Chunk) : Prop :=
  (pu = [] ∧ po = [] ∧ ∀ s, L' s = L s) ∨
  (∃ c, pu = [c] ∧ po = [] ∧ ∀ s, L' s = if s = c.sid then L s ++ [c] else L s) ∨
  (∃ c tl, pu = [] ∧ po = [c] ∧ L c.sid = c :: tl ∧ ∀ s, L' s = if s = c.sid then tl else L s)

theorem FifoStep.filter {L L' : Nat → List Chunk} {pu po : List Chunk} (hs : FifoStep L L' pu po) {P Q : List Chunk}
    (h : ∀ s, P.filter (·.sid == s) = Q.filter (·.sid == s) ++ L s) (s : Nat) :
    (P ++ pu).filter (·.sid == s) = (Q ++ po).filter (·.sid == s) ++ L' s := by
  rcases hs with ⟨rfl, rfl, hL⟩ | ⟨c, rfl, rfl, hL⟩ | ⟨c, tl, rfl, rfl, hc, hL⟩
  · rw [List.append_nil, List.append_nil, hL]; exact h s
  · rw [List.append_nil, hL]
    refine fifo_push (h s) ?_
    by_cases hs : s = c.sid
    · subst hs; simp
    · have hs' : ¬ c.sid = s := fun e => hs e.symm
      simp [hs, hs']
  · rw [List.append_nil, hL]
    refine fifo_pop (h s) ?_
    by_cases hs : s = c.sid
    · subst hs; simp [hc]
    · have hs' : ¬ c.sid = s := fun e => hs e.symm
      simp [hs, hs']

/-- Whatever was pushed on a stream and not yet popped is that stream's queue, in order, as long as every
step of a state satisfying `Ok` is a `FifoStep` on `Policy.streamQ`. -/
theorem stream_fifo {α : Type} [Num α] {Ok : PQ α → Prop}
    (hstep : ∀ q o, Ok q → o.basic = true → Ok (q.step o).1 ∧
      FifoStep q.policy.streamQ (q.step o).1.policy.streamQ (evPush (o, (q.step o).2)) (evPop (o, (q.step o).2))) :
    ∀ (ops : List Op) (q : PQ α) (P Q : List Chunk), Ok q → (∀ o ∈ ops, o.basic = true) →
      (∀ s, P.filter (·.sid == s) = Q.filter (·.sid == s) ++ q.policy.streamQ s) →
      ∀ s, (P ++ pushesOf (q.run ops).2).filter (·.sid == s) =
        (Q ++ popsOf (q.run ops).2).filter (·.sid == s) ++ (q.run ops).1.policy.streamQ s := by
  intro ops
  induction ops with
  | nil => intro q P Q _ _ h s; simpa [PQ.run, pushesOf, popsOf] using h s
  | cons o os ih =>
    intro q P Q hok hops h s
    obtain ⟨hok', hs⟩ := hstep q o hok (hops o List.mem_cons_self)
    rw [PQ.run_cons]
    simp only [pushesOf_cons, popsOf_cons, ← List.append_assoc]
    exact ih (q.step o).1 _ _ hok' (fun o' ho' => hops o' (List.mem_cons_of_mem _ ho')) (hs.filter h) s

theorem rr_stream_fifo {α : Type} [Num α] :
    ∀ (ops : List Op) (q : PQ α) (r : RR) (P Q : List Chunk), q.policy = .rr r → r.WF →
      (∀ o ∈ ops, o.basic = true) → (∀ s, P.filter (·.sid == s) = Q.filter (·.sid == s) ++ r.sq s) →
      ∀ s, (P ++ pushesOf (q.run ops).2).filter (·.sid == s) =
        (Q ++ popsOf (q.run ops).2).filter (·.sid == s) ++ (q.run ops).1.policy.streamQ s := by
  intro ops q r P Q hq hwf hops h
  refine stream_fifo (Ok := fun q => ∃ r, q.policy = .rr r ∧ r.WF) ?_ ops q P Q ⟨r, hq, hwf⟩ hops (by rw [hq]; exact h)
  intro q o ⟨r, hq, hwf⟩ ho
  obtain ⟨r', hq', hwf', hs, hpu⟩ := rr_step_obs hq hwf o ho
  rw [hq, hq', hpu]
  refine ⟨⟨r', rfl, hwf'⟩, ?_⟩
  cases o with
  | push c => exact Or.inr (Or.inl ⟨c, rfl, hs.1, hs.2.2⟩)
  | pop =>
    rcases hs with ⟨_, hpo, _, hsq⟩ | ⟨s0, rest, c, tl, _, hsq0, hpo, _, hsq⟩
    · exact Or.inl ⟨rfl, hpo, hsq⟩
    · have hcs : c.sid = s0 := RR.sid_of_mem_sq hwf (by rw [hsq0]; exact List.mem_cons_self)
      subst hcs
      exact Or.inr (Or.inr ⟨c, tl, rfl, hpo, hsq0, hsq⟩)
  | peek | rawPop _ | popNil | setil _ => exact Or.inl ⟨rfl, hs.1, hs.2.2⟩

end PendQ
