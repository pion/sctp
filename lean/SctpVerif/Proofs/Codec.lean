import SctpVerif.Proofs.Codec.Packet
import SctpVerif.Proofs.Codec.Dispatch
/-! Helper lemmas for the codec properties C12 / C13 / C03 (decoder part), split over
`Proofs/Codec/{Basic,Total,Frame,RoundTrip,Chunks,Packet,Dispatch}.lean`. -/
