import SctpVerif.Model.PendQ
import SctpVerif.Proofs.ListAux
/-!
Helper lemmas for C17 (scheduler half), part 1: association-list maps (`AMap`; for maps of stream queues the two stores
`snoc` / `put`, well-formedness `QWF` and the additive counters `Adds`), the FIFO step lemmas `fifo_push` /
`fifo_pop`, the message policy (`MsgPol`, `Pops`), and the well-formedness and `peek` / `pop` specifications of the
round-robin and WFQ policies (`RR.WF`, `RR.peek_spec`, `RR.serve_spec`, `WFQ.WF`, `WFQ.peek_spec`, `WFQ.pop_spec`). The
run / trace machinery shared by all policies (`evPush`, `inv_run`) is in `PendQInv.lean`.
-/
namespace PendQ

namespace AMap
variable {β : Type}

@[simp] theorem get_nil (k : Nat) : get ([] : AMap β) k = none := rfl

theorem get_cons (k' : Nat) (v : β) (m : AMap β) (k : Nat) :
    get ((k', v) :: m) k = if k = k' then some v else get m k := rfl

theorem get_replace (m : AMap β) (k : Nat) (v : β) (k' : Nat) :
    get (replace m k v) k' = if k' = k then (get m k).map (fun _ => v) else get m k' := by
  induction m with
  | nil => simp [replace]
  | cons hd tl ih => grind [replace, get]

theorem get_insertSorted (m : AMap β) (k : Nat) (v : β) (k' : Nat) (hk : get m k = none) :
    get (insertSorted m k v) k' = if k' = k then some v else get m k' := by
  induction m with
  | nil => simp [insertSorted, get_cons]
  | cons hd tl ih => grind [insertSorted, get]

theorem get_set (m : AMap β) (k : Nat) (v : β) (k' : Nat) :
    get (set m k v) k' = if k' = k then some v else get m k' := by
  unfold set
  cases h : get m k with
  | none => simp [get_insertSorted m k v k' h]
  | some old => simp [get_replace, h]

@[simp] theorem get_set_self (m : AMap β) (k : Nat) (v : β) : get (set m k v) k = some v := by
  simp [get_set]

theorem get_set_ne (m : AMap β) (k : Nat) (v : β) (k' : Nat) (h : k' ≠ k) :
    get (set m k v) k' = get m k' := by simp [get_set, h]

theorem get_erase (m : AMap β) (k k' : Nat) :
    get (erase m k) k' = if k' = k then none else get m k' := by
  induction m with
  | nil => simp [erase]
  | cons hd tl ih => grind [erase, get]

@[simp] theorem get_erase_self (m : AMap β) (k : Nat) : get (erase m k) k = none := by
  simp [get_erase]

theorem get_erase_ne (m : AMap β) (k k' : Nat) (h : k' ≠ k) : get (erase m k) k' = get m k' := by
  simp [get_erase, h]

theorem mem_keys_iff (m : AMap β) (k : Nat) : k ∈ keys m ↔ (get m k).isSome := by
  induction m with
  | nil => simp [keys]
  | cons hd tl ih => grind [keys, get]

theorem get_eq_none_iff (m : AMap β) (k : Nat) : get m k = none ↔ k ∉ keys m := by
  rw [mem_keys_iff]; cases get m k <;> simp

def msum (f : β → Nat) (m : AMap β) : Nat := (m.map fun kv => f kv.2).sum

@[simp] theorem msum_nil (f : β → Nat) : msum f ([] : AMap β) = 0 := rfl
@[simp] theorem msum_cons (f : β → Nat) (kv : Nat × β) (m : AMap β) :
    msum f (kv :: m) = f kv.2 + msum f m := by simp [msum]

theorem keys_replace (m : AMap β) (k : Nat) (v : β) : keys (replace m k v) = keys m := by
  induction m with
  | nil => rfl
  | cons hd tl ih => grind [replace, keys]

theorem keys_insertSorted_perm (m : AMap β) (k : Nat) (v : β) :
    (keys (insertSorted m k v)).Perm (k :: keys m) := by
  induction m with
  | nil => simp [insertSorted, keys]
  | cons hd tl ih =>
    obtain ⟨a, b⟩ := hd
    simp only [insertSorted]
    by_cases h : k < a
    · simp [h, keys]
    · simp only [h, if_false, keys, List.map_cons] at ih ⊢
      exact (List.Perm.cons a ih).trans (List.Perm.swap k a _)

theorem nodup_keys_set (m : AMap β) (k : Nat) (v : β) (h : (keys m).Nodup) : (keys (set m k v)).Nodup := by
  unfold set
  cases hg : get m k with
  | some old => simpa [keys_replace] using h
  | none =>
    simp only [Option.isSome_none, Bool.false_eq_true, if_false]
    rw [(keys_insertSorted_perm m k v).nodup_iff]
    exact List.nodup_cons.mpr ⟨(get_eq_none_iff m k).mp hg, h⟩

theorem keys_erase_sublist (m : AMap β) (k : Nat) : (keys (erase m k)).Sublist (keys m) := by
  induction m with
  | nil => simp [erase, keys]
  | cons hd tl ih =>
    obtain ⟨a, b⟩ := hd
    simp only [erase]
    by_cases h : k = a
    · simp only [h, if_true, keys, List.map_cons] at ih ⊢
      exact List.Sublist.cons _ (by simpa [h] using ih)
    · simp only [h, if_false, keys, List.map_cons] at ih ⊢
      exact List.Sublist.cons_cons _ ih

theorem nodup_keys_erase (m : AMap β) (k : Nat) (h : (keys m).Nodup) : (keys (erase m k)).Nodup :=
  (keys_erase_sublist m k).nodup h

theorem erase_of_not_mem (m : AMap β) (k : Nat) (h : k ∉ keys m) : erase m k = m := by
  induction m with
  | nil => rfl
  | cons hd tl ih => grind [erase, keys]

theorem msum_replace (f : β → Nat) (m : AMap β) (k : Nat) (v old : β) (hg : get m k = some old) :
    msum f (replace m k v) + f old = msum f m + f v := by
  induction m with
  | nil => simp at hg
  | cons hd tl ih => grind [replace, get, msum_cons]

theorem msum_insertSorted (f : β → Nat) (m : AMap β) (k : Nat) (v : β) :
    msum f (insertSorted m k v) = msum f m + f v := by
  induction m with
  | nil => simp [insertSorted]
  | cons hd tl ih => grind [insertSorted, msum_cons]

/-- counter change of `m[k] = v` -/
theorem msum_set (f : β → Nat) (m : AMap β) (k : Nat) (v : β) :
    msum f (set m k v) + ((get m k).map f).getD 0 = msum f m + f v := by
  unfold set
  cases hg : get m k with
  | none => simp [msum_insertSorted]
  | some old => simpa using msum_replace f m k v old hg

theorem msum_erase (f : β → Nat) (m : AMap β) (k : Nat) (h : (keys m).Nodup) :
    msum f (erase m k) + ((get m k).map f).getD 0 = msum f m := by
  induction m with
  | nil => simp [erase]
  | cons hd tl ih => grind [erase, get, keys, msum_cons, erase_of_not_mem]


/-! maps of per-stream queues, as the round-robin and the WFQ policy keep them -/

theorem getD_set (m : AMap (List β)) (k : Nat) (v : List β) (k' : Nat) :
    (get (set m k v) k').getD [] = if k' = k then v else (get m k').getD [] := by
  rw [get_set]; split <;> rfl

/-- what both `Pop`s store back: the shortened queue, or no entry once it is empty -/
def put (m : AMap (List β)) (k : Nat) (l : List β) : AMap (List β) :=
  if l = [] then erase m k else set m k l

theorem get_put (m : AMap (List β)) (k : Nat) (l : List β) (k' : Nat) :
    get (put m k l) k' = if k' = k then (if l = [] then none else some l) else get m k' := by
  unfold put
  split
  · exact get_erase m k k'
  · exact get_set m k l k'

theorem getD_put (m : AMap (List β)) (k : Nat) (l : List β) (k' : Nat) :
    (get (put m k l) k').getD [] = if k' = k then l else (get m k').getD [] := by
  rw [get_put]
  split
  · split
    · next hl => rw [hl]; rfl
    · rfl
  · rfl

/-- counter change of `m[k] = v` for a counter that ignores empty queues -/
theorem msum_set_getD (f : List β → Nat) (hf : f [] = 0) (m : AMap (List β)) (k : Nat) (v : List β) :
    msum f (set m k v) + f ((get m k).getD []) = msum f m + f v := by
  have := msum_set f m k v
  cases hg : get m k <;> simpa [hg, hf] using this

/-- what both `Push`es store: `x` at the end of the queue under `k` -/
def snoc (m : AMap (List β)) (k : Nat) (x : β) : AMap (List β) := set m k ((get m k).getD [] ++ [x])

theorem getD_snoc (m : AMap (List β)) (k : Nat) (x : β) (k' : Nat) :
    (get (snoc m k x) k').getD [] = if k' = k then (get m k').getD [] ++ [x] else (get m k').getD [] := by
  unfold snoc
  rw [getD_set]
  split
  · next h => rw [h]
  · rfl

/-- a counter of a queue that adds up the shares `g` of its items (`length`, `lenSum`): what `count` and `bytes` of the
two interleaving policies sum over the map -/
structure Adds (f : List β → Nat) (g : β → Nat) : Prop where
  nil : f [] = 0
  cons : ∀ x l, f (x :: l) = g x + f l

theorem Adds.snoc {f : List β → Nat} {g : β → Nat} (h : Adds f g) (l : List β) (x : β) : f (l ++ [x]) = f l + g x := by
  induction l with
  | nil => rw [List.nil_append, h.cons, h.nil, Nat.add_comm]
  | cons y l ih => rw [List.cons_append, h.cons, h.cons, ih, Nat.add_assoc]

theorem Adds.map {γ : Type} {f : List β → Nat} {g : β → Nat} (h : Adds f g) (p : γ → β) :
    Adds (fun l => f (l.map p)) fun x => g (p x) :=
  ⟨h.nil, fun x l => h.cons (p x) (l.map p)⟩

theorem adds_length : Adds (List.length (α := β)) fun _ => 1 := ⟨rfl, fun _ l => Nat.add_comm l.length 1⟩

theorem msum_snoc {f : List β → Nat} {g : β → Nat} (hf : Adds f g) (m : AMap (List β)) (k : Nat) (x : β) :
    msum f (snoc m k x) = msum f m + g x := by
  have := msum_set_getD f hf.nil m k ((get m k).getD [] ++ [x])
  rw [hf.snoc] at this
  unfold snoc
  omega

/-- counter change when the queue under `k` loses its head -/
theorem msum_put {f : List β → Nat} {g : β → Nat} (hf : Adds f g) {m : AMap (List β)} {k : Nat} {x : β} {tl : List β}
    (h : (keys m).Nodup) (hg : get m k = some (x :: tl)) : msum f m = msum f (put m k tl) + g x := by
  unfold put
  split
  · next hl =>
    have := msum_erase f m k h
    rw [hg, Option.map_some, Option.getD_some, hf.cons, hl, hf.nil] at this
    omega
  · have := msum_set_getD f hf.nil m k tl
    rw [hg, Option.getD_some, hf.cons] at this
    omega

/-- well-formed map of stream queues: no duplicate keys, no empty queue is stored, the queue under
`s` holds items of stream `s` only -/
structure QWF (sid : β → Nat) (m : AMap (List β)) : Prop where
  nodupKeys : (keys m).Nodup
  q1 : ∀ s l, get m s = some l → l ≠ [] ∧ ∀ x ∈ l, sid x = s

namespace QWF
variable {sid : β → Nat} {m : AMap (List β)}

theorem mem_getD (h : QWF sid m) {s : Nat} {x : β} (hx : x ∈ (get m s).getD []) : sid x = s := by
  cases hg : get m s with
  | none => simp [hg] at hx
  | some l => exact (h.q1 s l hg).2 x (by simpa [hg] using hx)

theorem set (h : QWF sid m) {k : Nat} {l : List β} (hne : l ≠ []) (hs : ∀ x ∈ l, sid x = k) :
    QWF sid (set m k l) := by
  refine ⟨nodup_keys_set _ _ _ h.nodupKeys, fun s l' hl' => ?_⟩
  rw [get_set] at hl'
  split at hl'
  · next hsk => cases hl'; exact ⟨hne, hsk ▸ hs⟩
  · exact h.q1 s l' hl'

/-- `Pop` stores back the tail of the queue under `k` -/
theorem put (h : QWF sid m) {k : Nat} {x : β} {tl : List β} (hg : get m k = some (x :: tl)) : QWF sid (put m k tl) := by
  have hs : ∀ y ∈ tl, sid y = k := fun y hy => (h.q1 k _ hg).2 y (List.mem_cons_of_mem _ hy)
  unfold AMap.put
  split
  · refine ⟨nodup_keys_erase _ _ h.nodupKeys, fun s l' hl' => ?_⟩
    rw [get_erase] at hl'
    split at hl'
    · cases hl'
    · exact h.q1 s l' hl'
  · next hne => exact h.set hne hs

/-- `Push` appends to the queue of the item's own stream -/
theorem snoc (h : QWF sid m) (x : β) : QWF sid (snoc m (sid x) x) := by
  refine h.set (by simp) fun y hy => ?_
  rcases List.mem_append.mp hy with hy | hy
  · exact h.mem_getD hy
  · rw [List.mem_singleton.mp hy]

end QWF

end AMap

/-- `(stream, ordering class)` of a chunk: the granularity at which every policy is FIFO -/
def key (s : Nat) (u : Bool) (c : Chunk) : Bool := c.sid == s && c.unordered == u

def lenSum (l : List Chunk) : Nat := (l.map (·.len)).sum

@[simp] theorem lenSum_nil : lenSum [] = 0 := rfl
@[simp] theorem lenSum_cons (c : Chunk) (l : List Chunk) : lenSum (c :: l) = c.len + lenSum l := by
  simp [lenSum]
@[simp] theorem lenSum_append (a b : List Chunk) : lenSum (a ++ b) = lenSum a + lenSum b := by
  simp [lenSum]

theorem adds_lenSum : AMap.Adds lenSum (·.len) := ⟨rfl, lenSum_cons⟩

/-- what popping `c` does to a queue view `qd` (old) / `qd'` (new), per key -/
def Removes (qd qd' : Nat → Bool → List Chunk) (c : Chunk) : Prop :=
  ∀ s u, qd s u = (if key s u c then [c] else []) ++ qd' s u

def Appends (qd qd' : Nat → Bool → List Chunk) (c : Chunk) : Prop :=
  ∀ s u, qd' s u = qd s u ++ (if key s u c then [c] else [])


/-- the FIFO bookkeeping of every policy for one class `p` of chunks, "pushed = popped ++ queued": a push
appends to the queue of its class … -/
theorem fifo_push {p : Chunk → Bool} {P Q q q' : List Chunk} {c : Chunk} (h : P.filter p = Q.filter p ++ q)
    (hq : q' = q ++ (if p c then [c] else [])) : (P ++ [c]).filter p = Q.filter p ++ q' := by
  rw [hq, ← List.append_assoc, ← h, List.filter_append, List.filter_cons, List.filter_nil]

/-- … and a pop takes the head of the queue of its class -/
theorem fifo_pop {p : Chunk → Bool} {P Q q q' : List Chunk} {c : Chunk} (h : P.filter p = Q.filter p ++ q)
    (hq : q = (if p c then [c] else []) ++ q') : P.filter p = (Q ++ [c]).filter p ++ q' := by
  rw [h, hq, List.filter_append, List.filter_cons, List.filter_nil, List.append_assoc]

/-- the interleaving policies queue per stream; appending to the queue of `c`'s stream is a push in the
per-(stream, class) view -/
theorem appends_of_sq {sq sq' : Nat → List Chunk} {c : Chunk}
    (h : ∀ s, sq' s = if s = c.sid then sq s ++ [c] else sq s) :
    Appends (fun s u => (sq s).filter (·.unordered == u)) (fun s u => (sq' s).filter (·.unordered == u)) c := by
  intro s u
  simp only [h s, key]
  by_cases hs : s = c.sid
  · subst hs; simp [List.filter_append, List.filter_cons]
  · have : ¬ c.sid = s := fun h => hs h.symm
    simp [hs, this]

/-- … and taking the head of the queue of `c`'s stream is a pop -/
theorem removes_of_sq {sq sq' : Nat → List Chunk} {c : Chunk} {tl : List Chunk} (hc : sq c.sid = c :: tl)
    (h : ∀ s, sq' s = if s = c.sid then tl else sq s) :
    Removes (fun s u => (sq s).filter (·.unordered == u)) (fun s u => (sq' s).filter (·.unordered == u)) c := by
  intro s u
  simp only [h s, key]
  by_cases hs : s = c.sid
  · subst hs
    simp only [if_true, hc, List.filter_cons, beq_self_eq_true, Bool.true_and, beq_iff_eq]
    split <;> rfl
  · have : ¬ c.sid = s := fun h => hs h.symm
    simp [hs, this]
namespace MsgPol

structure WF (m : MsgPol) : Prop where
  unord : ∀ c ∈ m.unord, c.unordered = true
  ord : ∀ c ∈ m.ord, c.unordered = false

def count (m : MsgPol) : Nat := m.unord.length + m.ord.length
def bytes (m : MsgPol) : Nat := lenSum m.unord + lenSum m.ord
def queued (m : MsgPol) (s : Nat) (u : Bool) : List Chunk :=
  (if u then m.unord else m.ord).filter (·.sid == s)
/-- the queue of ordering class `u` -/
def classQ (m : MsgPol) (u : Bool) : List Chunk := if u then m.unord else m.ord

theorem wf_empty : WF {} := ⟨by simp, by simp⟩

theorem push_wf {m : MsgPol} (h : m.WF) (c : Chunk) : (m.push c).WF := by
  unfold push
  cases hu : c.unordered
  · refine ⟨h.unord, fun x hx => ?_⟩
    rcases List.mem_append.mp hx with hx | hx
    · exact h.ord x hx
    · rw [List.mem_singleton.mp hx, hu]
  · refine ⟨fun x hx => ?_, h.ord⟩
    rcases List.mem_append.mp hx with hx | hx
    · exact h.unord x hx
    · rw [List.mem_singleton.mp hx, hu]

theorem push_count (m : MsgPol) (c : Chunk) : (m.push c).count = m.count + 1 := by
  unfold push count; split <;> simp <;> omega

theorem push_bytes (m : MsgPol) (c : Chunk) : (m.push c).bytes = m.bytes + c.len := by
  unfold push bytes; split <;> simp <;> omega

theorem push_queued (m : MsgPol) (c : Chunk) : Appends m.queued (m.push c).queued c := by
  intro s u
  unfold push queued key
  cases hu : c.unordered <;> cases u <;> simp [List.filter_append, List.filter_cons] <;>
    (by_cases hs : c.sid = s <;> simp [hs])

theorem push_classQ (m : MsgPol) (c : Chunk) (u : Bool) :
    (m.push c).classQ u = m.classQ u ++ (if c.unordered == u then [c] else []) := by
  unfold push classQ
  cases hu : c.unordered <;> cases u <;> simp

/-- `m'` is `m` with `c` taken from the head of its class queue -/
structure Pops (m m' : MsgPol) (c : Chunk) : Prop where
  own : m.classQ c.unordered = c :: m'.classQ c.unordered
  other : m'.classQ (!c.unordered) = m.classQ (!c.unordered)

namespace Pops
variable {m m' : MsgPol} {c : Chunk}

theorem classQ_eq (hp : Pops m m' c) (u : Bool) :
    m.classQ u = (if c.unordered == u then [c] else []) ++ m'.classQ u := by
  by_cases hu : c.unordered = u
  · subst hu; simpa using hp.own
  · have hcu : c.unordered = !u := Bool.eq_not_of_ne hu
    have := hp.other
    rw [hcu, Bool.not_not] at this
    rw [this, hcu]
    cases u <;> rfl

theorem wf (hp : Pops m m' c) (h : m.WF) : m'.WF := by
  have hsub : ∀ u, ∀ x ∈ m'.classQ u, x ∈ m.classQ u := fun u x hx => by
    rw [hp.classQ_eq u]; exact List.mem_append_right _ hx
  exact ⟨fun x hx => h.unord x (hsub true x hx), fun x hx => h.ord x (hsub false x hx)⟩

theorem count (hp : Pops m m' c) : m.count = m'.count + 1 := by
  show (m.classQ true).length + (m.classQ false).length = (m'.classQ true).length + (m'.classQ false).length + 1
  rw [hp.classQ_eq true, hp.classQ_eq false]
  cases c.unordered
  · simp only [List.length_append]; simp; omega
  · simp only [List.length_append]; simp; omega

theorem bytes (hp : Pops m m' c) : m.bytes = m'.bytes + c.len := by
  show lenSum (m.classQ true) + lenSum (m.classQ false) = lenSum (m'.classQ true) + lenSum (m'.classQ false) + c.len
  rw [hp.classQ_eq true, hp.classQ_eq false]
  cases c.unordered
  · simp only [lenSum_append]; simp; omega
  · simp only [lenSum_append]; simp; omega

theorem removes (hp : Pops m m' c) : Removes m.queued m'.queued c := by
  intro s u
  show (m.classQ u).filter _ = _ ++ (m'.classQ u).filter _
  rw [hp.classQ_eq u, List.filter_append, key, Bool.and_comm]
  congr 1
  cases c.unordered == u
  · rfl
  · simp [List.filter_cons]

end Pops

/-- `peek` is the head of one class queue: the selected one, else the unordered one unless it is empty -/
theorem peek_eq (m : MsgPol) :
    m.peek = (m.classQ (if m.selected then m.unordSel else decide (m.unord ≠ []))).head? := by
  unfold peek classQ
  cases m.selected
  · cases m.unord <;> rfl
  · cases m.unordSel <;> rfl

theorem WF.classQ {m : MsgPol} (h : m.WF) {u : Bool} {c : Chunk} (hc : c ∈ m.classQ u) : c.unordered = u := by
  cases u
  · exact h.ord c hc
  · exact h.unord c hc

/-- so the peeked chunk heads the queue of its own class, and an open message is of that class -/
theorem peek_head {m : MsgPol} (h : m.WF) {c : Chunk} (hp : m.peek = some c) :
    ∃ tl, m.classQ c.unordered = c :: tl ∧ (m.selected = true → m.unordSel = c.unordered) := by
  rw [peek_eq] at hp
  obtain ⟨tl, htl⟩ := List.head?_eq_some_iff.mp hp
  have hcu := h.classQ (htl ▸ List.mem_cons_self)
  refine ⟨tl, by rw [hcu]; exact htl, fun hs => ?_⟩
  rw [hcu, if_pos hs]

/-- popping the head of a class queue, when the policy accepts a chunk of that class: the chunk leaves
its queue and the selection follows its `E` flag -/
theorem pop_head {m : MsgPol} {c : Chunk} {tl : List Chunk} (hq : m.classQ c.unordered = c :: tl)
    (hs : m.selected = true → m.unordSel = c.unordered) (hb : m.selected = false → c.b = true) :
    m.pop c = ({ unord := if c.unordered then tl else m.unord, ord := if c.unordered then m.ord else tl,
                 selected := !c.e, unordSel := if c.e then m.unordSel else c.unordered }, .ok) := by
  obtain ⟨unord, ord, selected, unordSel⟩ := m
  cases selected
  · have hb := hb rfl
    cases hu : c.unordered <;> cases he : c.e <;> simp only [classQ, hu] at hq <;> simp at hq <;>
      simp [pop, popNewSelection, hu, he, hb, hq]
  · have hs := hs rfl
    simp only at hs
    cases hu : c.unordered <;> cases he : c.e <;> simp only [classQ, hu] at hq <;> simp at hq <;>
      simp [pop, popSelected, hu, he, hs, hq]

/-- what a pop of the peeked chunk does: refused when a new message would have to start with a
non-`B` fragment, else as `pop_head` -/
theorem pop_peeked {m : MsgPol} (h : m.WF) {c : Chunk} (hp : m.peek = some c) :
    (m.pop c = (m, .err .qState) ∧ m.selected = false ∧ c.b = false) ∨
    ((m.pop c).2 = .ok ∧ Pops m (m.pop c).1 c ∧
      (m.selected = true → m.unordSel = c.unordered) ∧ (m.selected = false → c.b = true) ∧
      (m.pop c).1.selected = !c.e ∧ (c.e = false → (m.pop c).1.unordSel = c.unordered)) := by
  obtain ⟨tl, hq, hs⟩ := peek_head h hp
  by_cases hb : m.selected = false → c.b = true
  · right
    rw [pop_head hq hs hb]
    refine ⟨rfl, ⟨?_, ?_⟩, hs, hb, rfl, fun he => by simp [he]⟩
    · cases hu : c.unordered <;> simpa [classQ, hu] using hq
    · cases hu : c.unordered <;> simp [classQ]
  · left
    obtain ⟨h1, h2⟩ := Classical.not_imp.mp hb
    have h2 : c.b = false := by simpa using h2
    exact ⟨by simp [pop, h1, h2], h1, h2⟩

end MsgPol

theorem nodup_snoc {l : List Nat} {a : Nat} (h : l.Nodup) (ha : a ∉ l) : (l ++ [a]).Nodup :=
  List.nodup_append.mpr ⟨h, by simp, fun x hx y hy hxy =>
    ha (by rw [← List.mem_singleton.mp hy, ← hxy]; exact hx)⟩

/-! ### round-robin policy: well-formedness and what each operation does to the observations
`order` and `sq s` (the queue of stream `s`, `[]` when the map has no entry) -/
namespace RR
open AMap

def sq (r : RR) (s : Nat) : List Chunk := (get r.queues s).getD []
def count (r : RR) : Nat := msum List.length r.queues
def bytes (r : RR) : Nat := msum lenSum r.queues
def queued (r : RR) (s : Nat) (u : Bool) : List Chunk := (r.sq s).filter (·.unordered == u)

structure WF (r : RR) : Prop where
  q : QWF Chunk.sid r.queues
  nodupOrder : r.order.Nodup
  mem : ∀ s, s ∈ r.order ↔ (get r.queues s).isSome
  sel : r.sel = true → r.order.head? = some r.selStream

theorem wf_empty : WF {} :=
  ⟨⟨by simp [keys], by simp⟩, by simp, by simp, by simp⟩

theorem sq_ne_nil_iff {r : RR} (h : r.WF) (s : Nat) : r.sq s ≠ [] ↔ s ∈ r.order := by
  rw [h.mem s]; unfold sq
  cases hg : get r.queues s with
  | none => simp
  | some l => simpa using (h.q.q1 s l hg).1

theorem sid_of_mem_sq {r : RR} (h : r.WF) {s : Nat} {c : Chunk} (hc : c ∈ r.sq s) : c.sid = s :=
  h.q.mem_getD hc

theorem push_sq (r : RR) (c : Chunk) (s : Nat) :
    (r.push c).sq s = if s = c.sid then r.sq s ++ [c] else r.sq s :=
  getD_snoc r.queues c.sid c s

theorem push_order {r : RR} (h : r.WF) (c : Chunk) :
    (r.push c).order = if r.sq c.sid = [] then r.order ++ [c.sid] else r.order := by
  unfold push sq
  cases hg : get r.queues c.sid with
  | none => simp
  | some l =>
    have := (h.q.q1 _ l hg).1
    simp [this]

@[simp] theorem push_sel (r : RR) (c : Chunk) : (r.push c).sel = r.sel := rfl
@[simp] theorem push_selStream (r : RR) (c : Chunk) : (r.push c).selStream = r.selStream := rfl

theorem push_wf {r : RR} (h : r.WF) (c : Chunk) : (r.push c).WF := by
  have hget : ∀ s, (get (r.push c).queues s).isSome ↔ s = c.sid ∨ (get r.queues s).isSome := by
    intro s
    simp only [push, get_set]
    split <;> simp [*]
  have hord := push_order h c
  refine ⟨h.q.snoc c, ?_, fun s => ?_, fun hsel => ?_⟩ <;> rw [hord]
  · split
    · next he => exact nodup_snoc h.nodupOrder fun hm => (sq_ne_nil_iff h _).mpr hm he
    · exact h.nodupOrder
  · rw [hget, ← h.mem]
    split
    · rw [List.mem_append, List.mem_singleton, or_comm]
    · next he => exact ⟨Or.inr, fun hs => hs.elim (fun hs => hs ▸ (sq_ne_nil_iff h _).mp he) id⟩
  · have := h.sel hsel
    split
    · cases ho : r.order with
      | nil => rw [ho] at this; cases this
      | cons a tl => rw [ho] at this; exact this
    · exact this

theorem push_count {r : RR} (c : Chunk) : (r.push c).count = r.count + 1 := msum_snoc adds_length r.queues c.sid c

theorem push_bytes {r : RR} (c : Chunk) : (r.push c).bytes = r.bytes + c.len := msum_snoc adds_lenSum r.queues c.sid c

theorem push_queued (r : RR) (c : Chunk) : Appends r.queued (r.push c).queued c :=
  appends_of_sq (push_sq r c)

theorem headOfSel_eq {r : RR} {s : Nat} (hs : (get r.queues s).isSome) :
    headOfSel r s = .chunk (r.sq s).head? := by
  obtain ⟨l, hg⟩ := Option.isSome_iff_exists.mp hs
  simp [headOfSel, sq, hg]

/-- `peek` on a well-formed state never panics, only caches the selection -/
theorem peek_spec {r : RR} (h : r.WF) :
    (r.peek).1.WF ∧ (r.peek).1.queues = r.queues ∧ (r.peek).1.order = r.order ∧
    (r.peek).2 = .chunk ((r.order.head?).bind fun s => (r.sq s).head?) ∧
    (r.order ≠ [] → (r.peek).1.sel = true) ∧ (r.order = [] → (r.peek).1 = r) := by
  cases hsel : r.sel
  · cases ho : r.order with
    | nil =>
      rw [show r.peek = (r, .chunk none) by simp [peek, hsel, ho]]
      exact ⟨h, rfl, ho, rfl, fun hne => absurd rfl hne, fun _ => rfl⟩
    | cons s rest =>
      rw [show r.peek = ({ r with sel := true, selStream := s }, headOfSel { r with sel := true, selStream := s } s) by
        simp [peek, hsel, ho]]
      have hs : (get r.queues s).isSome := (h.mem s).mp (by simp [ho])
      exact ⟨⟨h.q, h.nodupOrder, h.mem, fun _ => by simp [ho]⟩, rfl, ho,
        headOfSel_eq (r := { r with sel := true, selStream := s }) hs, fun _ => rfl, fun he => by cases he⟩
  · rw [show r.peek = (r, headOfSel r r.selStream) by simp [peek, hsel]]
    have ho := h.sel hsel
    have hs : (get r.queues r.selStream).isSome := (h.mem _).mp (List.mem_of_mem_head? ho)
    exact ⟨h, rfl, rfl, by rw [ho]; exact headOfSel_eq hs, fun _ => hsel, fun _ => rfl⟩

/-- peek-then-pop on a well-formed state with a backlog: the head of the first stream in `order`
is popped, the stream goes to the back of `order` if it still has chunks -/
theorem serve_spec {r : RR} (h : r.WF) {s : Nat} {rest : List Nat} (ho : r.order = s :: rest) :
    ∃ c tl, r.sq s = c :: tl ∧ (r.peek).2 = .chunk (some c) ∧
      let r'' := ((r.peek).1.pop c).1
      ((r.peek).1.pop c).2 = .ok ∧ r''.WF ∧
      r''.order = (if tl = [] then rest else rest ++ [s]) ∧
      (∀ s', r''.sq s' = if s' = s then tl else r.sq s') ∧
      r''.sel = false ∧ r.count = r''.count + 1 ∧ r.bytes = r''.bytes + c.len := by
  obtain ⟨hwf', hq', ho', hres, hsel', _⟩ := peek_spec h
  obtain ⟨l, hg⟩ := Option.isSome_iff_exists.mp ((h.mem s).mp (by simp [ho]))
  obtain ⟨c, tl, rfl⟩ := List.exists_cons_of_ne_nil (h.q.q1 s l hg).1
  have hsq : r.sq s = c :: tl := by simp [sq, hg]
  refine ⟨c, tl, hsq, by simp [hres, ho, hsq], ?_⟩
  have hselT : (r.peek).1.sel = true := hsel' (by simp [ho])
  have hss : (r.peek).1.selStream = s := by
    have := hwf'.sel hselT
    rw [ho', ho] at this
    exact (Option.some.inj this).symm
  generalize r.peek = pk at *
  obtain ⟨r', x⟩ := pk
  simp only at hwf' hq' ho' hselT hss ⊢
  -- the pop stores the tail back (`put`) and rotates the service order
  have hpop : r'.pop c =
      ({ r' with
          queues := put r.queues s tl, order := (if tl = [] then rest else rest ++ [s]),
          sel := false, selStream := 0 }, .ok) := by
    unfold pop put
    cases tl <;> simp [hselT, hss, hq', hg, ho', ho]
  rw [hpop]
  obtain ⟨hns, hnd⟩ := List.nodup_cons.mp (ho ▸ h.nodupOrder)
  refine ⟨rfl, ⟨h.q.put hg, ?_, fun s' => ?_, fun hs => by cases hs⟩, rfl,
    fun s' => getD_put r.queues s tl s', rfl, msum_put adds_length h.q.nodupKeys hg, msum_put adds_lenSum h.q.nodupKeys hg⟩
  · show (if tl = [] then rest else rest ++ [s]).Nodup
    split
    · exact hnd
    · exact nodup_snoc hnd hns
  · show s' ∈ (if tl = [] then rest else rest ++ [s]) ↔ (get (put r.queues s tl) s').isSome
    rw [get_put]
    by_cases hs' : s' = s
    · subst hs'; by_cases htl : tl = [] <;> simp [htl, hns]
    · have := h.mem s'
      rw [ho] at this
      by_cases htl : tl = [] <;> simp [htl, hs', ← this]

end RR

/-! ### WFQ policy: structural well-formedness (any number type) -/
namespace WFQ
open AMap
variable {α : Type} [Num α]

def sq (w : WFQ α) (s : Nat) : List (Chunk × α) := (get w.queues s).getD []
def fin (w : WFQ α) (s : Nat) : α := (get w.finish s).getD (Num.ofNat 0)
def count (w : WFQ α) : Nat := msum List.length w.queues
def bytes (w : WFQ α) : Nat := msum (fun l => lenSum (l.map Prod.fst)) w.queues
def queued (w : WFQ α) (s : Nat) (u : Bool) : List Chunk :=
  ((w.sq s).map Prod.fst).filter (·.unordered == u)

/-- the finish tag `Push` gives to `c` -/
def pushTag (w : WFQ α) (c : Chunk) : α :=
  Num.add (gmax w.vtime (w.fin c.sid)) (Num.div (Num.ofNat c.len) (weightOf w c.sid))

structure WF (w : WFQ α) : Prop where
  q : QWF (fun x : Chunk × α => x.1.sid) w.queues
  sel : w.sel = true → (get w.queues w.selStream).isSome

theorem wf_new (ws : AMap Nat) : (WFQ.new ws : WFQ α).WF :=
  ⟨⟨by simp [WFQ.new, keys], by simp [WFQ.new]⟩, by simp [WFQ.new]⟩

omit [Num α] in
theorem sid_of_mem_sq {w : WFQ α} (h : w.WF) {s : Nat} {x : Chunk × α} (hx : x ∈ w.sq s) : x.1.sid = s :=
  h.q.mem_getD hx

theorem push_sq (w : WFQ α) (c : Chunk) (s : Nat) :
    (w.push c).sq s = if s = c.sid then w.sq s ++ [(c, pushTag w c)] else w.sq s :=
  getD_snoc w.queues c.sid (c, pushTag w c) s

theorem push_fin (w : WFQ α) (c : Chunk) (s : Nat) :
    (w.push c).fin s = if s = c.sid then pushTag w c else w.fin s := by
  unfold push fin
  rw [get_set]
  split <;> rfl

@[simp] theorem push_vtime (w : WFQ α) (c : Chunk) : (w.push c).vtime = w.vtime := rfl
@[simp] theorem push_sel (w : WFQ α) (c : Chunk) : (w.push c).sel = w.sel := rfl
@[simp] theorem push_selStream (w : WFQ α) (c : Chunk) : (w.push c).selStream = w.selStream := rfl
@[simp] theorem push_weights (w : WFQ α) (c : Chunk) : (w.push c).weights = w.weights := rfl

theorem push_wf {w : WFQ α} (h : w.WF) (c : Chunk) : (w.push c).WF := by
  refine ⟨h.q.snoc (c, pushTag w c), fun hsel => ?_⟩
  have := h.sel hsel
  simp only [push, get_set]
  split
  · rfl
  · exact this

theorem push_count (w : WFQ α) (c : Chunk) : (w.push c).count = w.count + 1 :=
  msum_snoc adds_length w.queues c.sid (c, pushTag w c)

theorem push_bytes (w : WFQ α) (c : Chunk) : (w.push c).bytes = w.bytes + c.len :=
  msum_snoc (adds_lenSum.map Prod.fst) w.queues c.sid (c, pushTag w c)

theorem push_queued (w : WFQ α) (c : Chunk) : Appends w.queued (w.push c).queued c :=
  appends_of_sq (sq := fun s => (w.sq s).map Prod.fst) fun s => by
    rw [push_sq]; split <;> simp

/-- the loop of `Peek` only ever holds the head of some stream queue -/
theorem selStep_head (w : WFQ α) (acc : Option (Chunk × Nat × α)) (s : Nat)
    (hacc : ∀ c s' f, acc = some (c, s', f) → ∃ tl, get w.queues s' = some ((c, f) :: tl)) :
    ∀ c s' f, selStep w acc s = some (c, s', f) → ∃ tl, get w.queues s' = some ((c, f) :: tl) := by
  intro c s' f hsome
  unfold selStep at hsome
  split at hsome
  · exact hacc c s' f hsome
  · next c0 f0 hb =>
    have hhd : ∃ tl, get w.queues s = some ((c0, f0) :: tl) := by
      cases hg : get w.queues s with
      | none => rw [hg] at hb; cases hb
      | some l =>
        cases l with
        | nil => rw [hg] at hb; cases hb
        | cons hd tl => rw [hg] at hb; cases hb; exact ⟨tl, rfl⟩
    split at hsome <;> split at hsome
    · cases hsome; exact hhd
    · cases hsome
    · cases hsome; exact hhd
    · exact hacc c s' f hsome

theorem select_head (w : WFQ α) {c : Chunk} {s : Nat} {f : α} (h : select w = some (c, s, f)) :
    ∃ tl, get w.queues s = some ((c, f) :: tl) :=
  ListAux.foldl_inv (P := fun acc => ∀ c s' f, acc = some (c, s', f) → ∃ tl, get w.queues s' = some ((c, f) :: tl))
    (keys w.queues) (fun _ _ _ h => by cases h) (fun acc k _ hacc => selStep_head w acc k hacc) c s f h

/-- `Peek` on a well-formed state: no panic; a returned chunk is the head of the (now) selected stream -/
theorem peek_spec {w : WFQ α} (h : w.WF) :
    (w.peek).1.WF ∧ (w.peek).1.queues = w.queues ∧ (w.peek).1.finish = w.finish ∧
    (w.peek).1.vtime = w.vtime ∧ (w.peek).1.weights = w.weights ∧
    ((w.peek).2 = .chunk none ∧ ((w.peek).1 = w) ∨
      ∃ c f tl, (w.peek).2 = .chunk (some c) ∧ (w.peek).1.sel = true ∧
        get w.queues (w.peek).1.selStream = some ((c, f) :: tl)) := by
  cases hsel : w.sel
  · cases hs : select w with
    | none =>
      rw [show w.peek = (w, .chunk none) by simp [peek, hsel, hs]]
      exact ⟨h, rfl, rfl, rfl, rfl, Or.inl ⟨rfl, rfl⟩⟩
    | some a =>
      obtain ⟨c, s, f⟩ := a
      rw [show w.peek = ({ w with sel := true, selStream := s }, .chunk (some c)) by simp [peek, hsel, hs]]
      obtain ⟨tl, hg⟩ := select_head w hs
      exact ⟨⟨h.q, fun _ => by simp [hg]⟩, rfl, rfl, rfl, rfl, Or.inr ⟨c, f, tl, rfl, rfl, hg⟩⟩
  · rw [show w.peek = (w, headOfSel w w.selStream) by simp [peek, hsel]]
    obtain ⟨l, hg⟩ := Option.isSome_iff_exists.mp (h.sel hsel)
    obtain ⟨⟨c, f⟩, tl, rfl⟩ := List.exists_cons_of_ne_nil (h.q.q1 _ l hg).1
    exact ⟨h, rfl, rfl, rfl, rfl, Or.inr ⟨c, f, tl, by simp [headOfSel, hg], hsel, hg⟩⟩

theorem pop_spec {w : WFQ α} (h : w.WF) (hsel : w.sel = true) {c : Chunk} {f : α} {tl : List (Chunk × α)}
    (hg : get w.queues w.selStream = some ((c, f) :: tl)) :
    (w.pop c).2 = .ok ∧ (w.pop c).1.WF ∧
    (∀ s', (w.pop c).1.sq s' = if s' = w.selStream then tl else w.sq s') ∧
    (w.pop c).1.vtime = gmax w.vtime f ∧ (w.pop c).1.finish = w.finish ∧
    (w.pop c).1.weights = w.weights ∧ (w.pop c).1.sel = false ∧
    w.count = (w.pop c).1.count + 1 ∧ w.bytes = (w.pop c).1.bytes + c.len := by
  have hpop : w.pop c =
      ({ w with queues := put w.queues w.selStream tl, vtime := gmax w.vtime f, sel := false, selStream := 0 }, .ok) := by
    unfold pop put
    cases tl <;> simp [hsel, hg]
  rw [hpop]
  exact ⟨rfl, ⟨h.q.put hg, fun hs => by cases hs⟩, fun s' => getD_put w.queues w.selStream tl s',
    rfl, rfl, rfl, rfl, msum_put adds_length h.q.nodupKeys hg, msum_put (adds_lenSum.map Prod.fst) h.q.nodupKeys hg⟩

end WFQ
end PendQ
