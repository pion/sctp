import SctpVerif.Gen.Funcs
/-!
Serial-number arithmetic lemmas about the TRANSLATOR-GENERATED `Gen.sna32*` / `Gen.sna16*`
(i.e. about util.go as it is in the working tree): each comparison characterised in terms of the
modular distance `(b - a).toNat` (`lt32_iff` … `gte16_iff`), and that distance is unchanged when both
operands are shifted by the same amount (`sub_shift32`, `sub_shift16`). On top of these the two readings the models' proofs
use: sequence numbers as offsets from a base (`off_*`, `window32`), and as images of naturals (`ofNat*`, `lt32_ofNat` …).
-/
namespace Sna
open Gen

theorem lt32_iff (a b : BitVec 32) :
    sna32LT a b = true ↔ (0 < (b - a).toNat ∧ (b - a).toNat < 2^31) := by
  simp only [sna32LT, Bool.or_eq_true, Bool.and_eq_true, decide_eq_true_eq]
  bv_omega

theorem gt32_iff (a b : BitVec 32) :
    sna32GT a b = true ↔ (0 < (a - b).toNat ∧ (a - b).toNat ≤ 2^31) := by
  simp only [sna32GT, Bool.or_eq_true, Bool.and_eq_true, decide_eq_true_eq]
  bv_omega

theorem lte32_iff (a b : BitVec 32) : sna32LTE a b = true ↔ (b - a).toNat < 2^31 := by
  simp only [sna32LTE, Bool.or_eq_true, beq_iff_eq, lt32_iff]
  bv_omega

theorem gte32_iff (a b : BitVec 32) : sna32GTE a b = true ↔ (a - b).toNat ≤ 2^31 := by
  simp only [sna32GTE, Bool.or_eq_true, beq_iff_eq, gt32_iff]
  bv_omega

theorem lt16_iff (a b : BitVec 16) :
    sna16LT a b = true ↔ (0 < (b - a).toNat ∧ (b - a).toNat < 2^15) := by
  simp only [sna16LT, Bool.or_eq_true, Bool.and_eq_true, decide_eq_true_eq]
  bv_omega

theorem gt16_iff (a b : BitVec 16) :
    sna16GT a b = true ↔ (0 < (a - b).toNat ∧ (a - b).toNat ≤ 2^15) := by
  simp only [sna16GT, Bool.or_eq_true, Bool.and_eq_true, decide_eq_true_eq]
  bv_omega

theorem lte16_iff (a b : BitVec 16) : sna16LTE a b = true ↔ (b - a).toNat < 2^15 := by
  simp only [sna16LTE, Bool.or_eq_true, beq_iff_eq, lt16_iff]
  bv_omega

theorem gte16_iff (a b : BitVec 16) : sna16GTE a b = true ↔ (a - b).toNat ≤ 2^15 := by
  simp only [sna16GTE, Bool.or_eq_true, beq_iff_eq, gt16_iff]
  bv_omega

theorem sub_shift32 (a b k : BitVec 32) : (b + k) - (a + k) = b - a := by bv_omega
theorem sub_shift16 (a b k : BitVec 16) : (b + k) - (a + k) = b - a := by bv_omega

theorem beq_add_right {w} (a b k : BitVec w) : (a + k == b + k) = (a == b) := by
  rw [Bool.eq_iff_iff, beq_iff_eq, beq_iff_eq, BitVec.add_left_inj]

theorem contains_map_add_right {w} (l : List (BitVec w)) (t k : BitVec w) :
    (l.map (· + k)).contains (t + k) = l.contains t := by
  induction l with
  | nil => rfl
  | cons a l ih => simp only [List.map_cons, List.contains_cons, ih, beq_add_right]

/-- the comparisons do not see a common shift of both operands: the distance they test is the same -/
theorem lt32_shift (a b k : BitVec 32) : sna32LT (a + k) (b + k) = sna32LT a b := by
  rw [Bool.eq_iff_iff, lt32_iff, lt32_iff, sub_shift32]
theorem lte32_shift (a b k : BitVec 32) : sna32LTE (a + k) (b + k) = sna32LTE a b := by
  rw [Bool.eq_iff_iff, lte32_iff, lte32_iff, sub_shift32]
theorem gt32_shift (a b k : BitVec 32) : sna32GT (a + k) (b + k) = sna32GT a b := by
  rw [Bool.eq_iff_iff, gt32_iff, gt32_iff, sub_shift32]
theorem gte32_shift (a b k : BitVec 32) : sna32GTE (a + k) (b + k) = sna32GTE a b := by
  rw [Bool.eq_iff_iff, gte32_iff, gte32_iff, sub_shift32]
theorem eq32_shift (a b k : BitVec 32) : sna32EQ (a + k) (b + k) = sna32EQ a b := beq_add_right a b k

/-- the base on the left (`t + a`), the shape TSNs written as base plus offset have -/
theorem lt32_add_left (t a b : BitVec 32) : sna32LT (t + a) (t + b) = sna32LT a b := by
  rw [BitVec.add_comm t a, BitVec.add_comm t b, lt32_shift]
theorem gt32_add_left (t a b : BitVec 32) : sna32GT (t + a) (t + b) = sna32GT a b := by
  rw [BitVec.add_comm t a, BitVec.add_comm t b, gt32_shift]

/-! ### naturals below `2^w` as bit vectors -/

theorem toNat_ofNat_of_lt {w k : Nat} (h : k < 2^w) : (BitVec.ofNat w k).toNat = k := by
  rw [BitVec.toNat_ofNat]; exact Nat.mod_eq_of_lt h

theorem ofNat_inj_of_lt {w a b : Nat} (ha : a < 2^w) (hb : b < 2^w) (h : BitVec.ofNat w a = BitVec.ofNat w b) : a = b := by
  rw [← toNat_ofNat_of_lt ha, ← toNat_ofNat_of_lt hb, h]

theorem add_ofNat_inj {w} (t : BitVec w) {a b : Nat} (ha : a < 2^w) (hb : b < 2^w)
    (h : t + BitVec.ofNat w a = t + BitVec.ofNat w b) : a = b :=
  ofNat_inj_of_lt ha hb ((BitVec.add_right_inj t).mp h)

/-! ### TSN offsets from a base

`(t - b).toNat` counts the TSNs from `b` to `t`. As long as no count reaches `2^32` offsets add up (`off_trans`), and below
`2^31` serial-number order is the order of the offsets. Sender, receive queue and composition keep every TSN of a run as an
offset from a base and do their arithmetic in `Nat` through these. -/

theorem off_trans (b c t : BitVec 32) (h : (c - b).toNat + (t - c).toNat < 2^32) :
    (t - b).toNat = (c - b).toNat + (t - c).toNat := by bv_omega

theorem off_add (b c d : BitVec 32) (h : (c - b).toNat + d.toNat < 2^32) :
    (c + d - b).toNat = (c - b).toNat + d.toNat := by bv_omega

theorem off_succ (b c : BitVec 32) (h : (c - b).toNat + 1 < 2^32) : (c + 1 - b).toNat = (c - b).toNat + 1 :=
  off_add b c 1 h

theorem off_add_ofNat (b c : BitVec 32) (k : Nat) (h : (c - b).toNat + k < 2^32) :
    (c + BitVec.ofNat 32 k - b).toNat = (c - b).toNat + k := by
  have hk : (BitVec.ofNat 32 k).toNat = k := toNat_ofNat_of_lt (by omega)
  rw [off_add b c _ (by omega), hk]

theorem off_of_eq {b t : BitVec 32} {k : Nat} (hk : k < 2^32) (h : t = b + BitVec.ofNat 32 k) : (t - b).toNat = k := by
  have := off_add_ofNat b b k (by simpa using hk)
  rw [h, this]; simp

theorem eq_of_off {b t : BitVec 32} {k : Nat} (h : (t - b).toNat = k) : t = b + BitVec.ofNat 32 k := by
  subst h; rw [BitVec.ofNat_toNat, BitVec.setWidth_eq]; bv_omega

/-- the `i`-th TSN after `c` -/
theorem off_succ_add_ofNat (c : BitVec 32) (i : Nat) (h : i + 1 < 2^32) : (c + 1 + BitVec.ofNat 32 i - c).toNat = i + 1 := by
  bv_omega

theorem pred_add_ofNat_succ (b : BitVec 32) (n : Nat) : b - 1 + BitVec.ofNat 32 (n + 1) = b + BitVec.ofNat 32 n := by
  bv_omega

/-- inside a half-space window serial order is the order of the offsets from its base; the left operand may sit on the
antipode of the base -/
theorem window32 (base a b : BitVec 32) (ha : (a - base).toNat ≤ 2^31) (hb : (b - base).toNat < 2^31) :
    (sna32LT a b = true ↔ (a - base).toNat < (b - base).toNat) ∧ (sna32LTE a b = true ↔ (a - base).toNat ≤ (b - base).toNat) :=
  ⟨by rw [lt32_iff]; bv_omega, by rw [lte32_iff]; bv_omega⟩

theorem window16 (base a b : BitVec 16) (ha : (a - base).toNat ≤ 2^15) (hb : (b - base).toNat < 2^15) :
    (sna16LT a b = true ↔ (a - base).toNat < (b - base).toNat) ∧ (sna16LTE a b = true ↔ (a - base).toNat ≤ (b - base).toNat) :=
  ⟨by rw [lt16_iff]; bv_omega, by rw [lte16_iff]; bv_omega⟩

theorem lte32_iff_off (b u v : BitVec 32) (hu : (u - b).toNat < 2^31) (hv : (v - b).toNat < 2^31) :
    sna32LTE u v = true ↔ (u - b).toNat ≤ (v - b).toNat :=
  (window32 b u v (Nat.le_of_lt hu) hv).2

/-- `u` is not serially `≤ v`: it is ahead of `v`, by at most `2^31` -/
theorem off_of_lte32_false {u v : BitVec 32} (h : sna32LTE u v = false) : (u - v).toNat ≤ 2^31 := by
  rw [Bool.eq_false_iff, ne_eq, lte32_iff] at h; bv_omega

theorem gt32_false_of_lt32 {u v : BitVec 32} (h : sna32LT u v = true) : sna32GT u v = false := by
  rw [lt32_iff] at h; rw [Bool.eq_false_iff, ne_eq, gt32_iff]; bv_omega

/-- serial `≤` of the `j`-th and the `n`-th TSN after `t` is `j ≤ n` -/
theorem le_of_lte32_ofNat (t : BitVec 32) {j n : Nat} (hj : j < 2^31) (hn : n < 2^31)
    (h : sna32LTE (t + BitVec.ofNat 32 j) (t + BitVec.ofNat 32 n) = true) : j ≤ n := by
  have ej := off_of_eq (b := t) (k := j) (by omega) rfl
  have en := off_of_eq (b := t) (k := n) (by omega) rfl
  have := (lte32_iff_off t _ _ (by omega) (by omega)).mp h
  omega

theorem gt32_false_of_off (b u v : BitVec 32) (h : (u - b).toNat ≤ (v - b).toNat) (hv : (v - b).toNat < 2^31) :
    sna32GT u v = false := by
  rw [Bool.eq_false_iff, ne_eq, gt32_iff]; bv_omega

theorem gt32_of_off_lt (b u v : BitVec 32) (h : (v - b).toNat < (u - b).toNat) (hu : (u - b).toNat < 2^31) :
    sna32GT u v = true := by
  rw [gt32_iff]; bv_omega

theorem lt32_iff_off (b u v : BitVec 32) (hu : (u - b).toNat < 2^31) (hv : (v - b).toNat < 2^31) :
    sna32LT u v = true ↔ (u - b).toNat < (v - b).toNat :=
  (window32 b u v (Nat.le_of_lt hu) hv).1

/-- a step forward by less than half the number space is a step forward in serial order -/
theorem gt32_add (a v : BitVec 32) (h : v.toNat < 2^31) : sna32GT a (a + v) = false ∧ sna32LT a (a + v) = decide (0 < v.toNat) := by
  refine ⟨by rw [Bool.eq_false_iff, ne_eq, gt32_iff]; bv_omega, ?_⟩
  rw [Bool.eq_iff_iff, lt32_iff, decide_eq_true_eq]; bv_omega

/-- the successor comes after, also across the wrap -/
theorem lt32_succ (a : BitVec 32) : sna32LT a (a + 1) = true ∧ sna32GT (a + 1) a = true := by
  rw [lt32_iff, gt32_iff]; bv_omega

theorem lt16_succ (a : BitVec 16) : sna16LT a (a + 1) = true ∧ sna16GT (a + 1) a = true := by
  rw [lt16_iff, gt16_iff]; bv_omega

/-- `≤` is exactly "not after": the comparisons are one order -/
theorem lte32_eq_not_gt32 (a b : BitVec 32) : sna32LTE a b = !sna32GT a b := by
  rw [Bool.eq_iff_iff]; simp only [Bool.not_eq_true', ← Bool.not_eq_true]
  rw [lte32_iff, gt32_iff]; bv_omega

theorem lte16_eq_not_gt16 (a b : BitVec 16) : sna16LTE a b = !sna16GT a b := by
  rw [Bool.eq_iff_iff]; simp only [Bool.not_eq_true', ← Bool.not_eq_true]
  rw [lte16_iff, gt16_iff]; bv_omega

/-! ### sequence numbers as images of naturals

A model that counts messages or chunks in `Nat` meets its sequence numbers as `BitVec.ofNat n k`. While the two counts
compared are less than half the number space apart, the serial comparison of the images is the comparison of the counts. -/

/-- the modular distance from `a` to `b` when they are fewer than `2^16` apart -/
theorem ofNat16_dist (a b : Nat) (h1 : a < b + 2^16) (h2 : b < a + 2^16) :
    (BitVec.ofNat 16 b - BitVec.ofNat 16 a).toNat = if a ≤ b then b - a else 2^16 - (a - b) := by
  rw [BitVec.toNat_sub, BitVec.toNat_ofNat, BitVec.toNat_ofNat]; split <;> omega

theorem lt16_ofNat (a b : Nat) (h1 : a < b + 2^15) (h2 : b < a + 2^15) :
    sna16LT (BitVec.ofNat 16 a) (BitVec.ofNat 16 b) = decide (a < b) := by
  rw [Bool.eq_iff_iff, lt16_iff, decide_eq_true_iff, ofNat16_dist a b (by omega) (by omega)]; split <;> omega

theorem gt16_ofNat (a b : Nat) (h1 : a < b + 2^15) (h2 : b < a + 2^15) :
    sna16GT (BitVec.ofNat 16 a) (BitVec.ofNat 16 b) = decide (b < a) := by
  rw [Bool.eq_iff_iff, gt16_iff, decide_eq_true_iff, ofNat16_dist b a (by omega) (by omega)]; split <;> omega

theorem lte16_ofNat (a b : Nat) (h1 : a < b + 2^15) (h2 : b < a + 2^15) :
    sna16LTE (BitVec.ofNat 16 a) (BitVec.ofNat 16 b) = decide (a ≤ b) := by
  rw [Bool.eq_iff_iff, lte16_iff, decide_eq_true_iff, ofNat16_dist a b (by omega) (by omega)]; split <;> omega

theorem ofNat16_eq_iff (a b : Nat) (h1 : a < b + 2^15) (h2 : b < a + 2^15) :
    BitVec.ofNat 16 a = BitVec.ofNat 16 b ↔ a = b := by
  refine ⟨fun h => ?_, fun h => by rw [h]⟩
  have := ofNat16_dist a b (by omega) (by omega)
  rw [h, BitVec.sub_self] at this
  simp only [BitVec.toNat_ofNat, Nat.zero_mod] at this
  split at this <;> omega

theorem ofNat32_dist (a b : Nat) (h1 : a < b + 2^32) (h2 : b < a + 2^32) :
    (BitVec.ofNat 32 b - BitVec.ofNat 32 a).toNat = if a ≤ b then b - a else 2^32 - (a - b) := by
  rw [BitVec.toNat_sub, BitVec.toNat_ofNat, BitVec.toNat_ofNat]; split <;> omega

theorem lt32_ofNat (a b : Nat) (h1 : a < b + 2^31) (h2 : b < a + 2^31) :
    sna32LT (BitVec.ofNat 32 a) (BitVec.ofNat 32 b) = decide (a < b) := by
  rw [Bool.eq_iff_iff, lt32_iff, decide_eq_true_iff, ofNat32_dist a b (by omega) (by omega)]; split <;> omega

theorem gt32_ofNat (a b : Nat) (h1 : a < b + 2^31) (h2 : b < a + 2^31) :
    sna32GT (BitVec.ofNat 32 a) (BitVec.ofNat 32 b) = decide (b < a) := by
  rw [Bool.eq_iff_iff, gt32_iff, decide_eq_true_iff, ofNat32_dist b a (by omega) (by omega)]; split <;> omega

theorem lte32_ofNat (a b : Nat) (h1 : a < b + 2^31) (h2 : b < a + 2^31) :
    sna32LTE (BitVec.ofNat 32 a) (BitVec.ofNat 32 b) = decide (a ≤ b) := by
  rw [Bool.eq_iff_iff, lte32_iff, decide_eq_true_iff, ofNat32_dist a b (by omega) (by omega)]; split <;> omega

theorem ofNat32_eq_iff (a b : Nat) (h1 : a < b + 2^31) (h2 : b < a + 2^31) :
    BitVec.ofNat 32 a = BitVec.ofNat 32 b ↔ a = b := by
  refine ⟨fun h => ?_, fun h => by rw [h]⟩
  have := ofNat32_dist a b (by omega) (by omega)
  rw [h, BitVec.sub_self] at this
  simp only [BitVec.toNat_ofNat, Nat.zero_mod] at this
  split at this <;> omega

/-- a cursor that advances when it is hit: it moves iff it stood on `k` -/
theorem cursor16_step (k c : Nat) (h1 : k < c + 2^15) (h2 : c < k + 2^15) :
    (if BitVec.ofNat 16 k == BitVec.ofNat 16 c then BitVec.ofNat 16 c + 1 else BitVec.ofNat 16 c)
      = BitVec.ofNat 16 (if k = c then c + 1 else c) := by
  by_cases hkc : k = c
  · rw [hkc, if_pos (beq_self_eq_true _), if_pos rfl, BitVec.ofNat_add]; rfl
  · rw [if_neg (by rw [beq_iff_eq, ofNat16_eq_iff _ _ h1 h2]; exact hkc), if_neg hkc]

theorem cursor32_step (k c : Nat) (h1 : k < c + 2^31) (h2 : c < k + 2^31) :
    (if BitVec.ofNat 32 k == BitVec.ofNat 32 c then BitVec.ofNat 32 c + 1 else BitVec.ofNat 32 c)
      = BitVec.ofNat 32 (if k = c then c + 1 else c) := by
  by_cases hkc : k = c
  · rw [hkc, if_pos (beq_self_eq_true _), if_pos rfl, BitVec.ofNat_add]; rfl
  · rw [if_neg (by rw [beq_iff_eq, ofNat32_eq_iff _ _ h1 h2]; exact hkc), if_neg hkc]

end Sna
