import SctpVerif.Proofs.ReasmFwdOrd
/-!
Honest runs with skips, ordered I-DATA (C07): MID / FSN reassembly, `forwardTSNForOrderedMID`, window 2^31.
"Mid" here = ORDERED I-DATA (unordered I-DATA is `Proofs/ReasmUnordMid.lean`).
`TabInvM` (table refined by `orderedMID`, anchored at the floor) and `SkipInvM` with its push / read / skip steps,
over `SOp`, `Framing`, `AdmissibleS`, `SkipCore` and the run theorem of `Proofs/ReasmFwdOrd.lean`; each definition
and lemma has its DATA counterpart there (`TabInv`, `SkipInv`, `purgedE`, `floorSSN`, `dataFr`, `purge_conc`, …).
-/
set_option linter.unusedVariables false
set_option linter.unusedSimpArgs false
namespace Reasm
open Gen

theorem fwdOM_orderedMID (q : Q) (L : BitVec 32) :
    (q.forwardTSNForOrderedMID L).orderedMID = q.orderedMID.filter (fun s => !purgedOM L s) := by
  simp only [Q.forwardTSNForOrderedMID]; exact fwdOrderedMIDLoop_keep ..

theorem fwdOM_nextMID (q : Q) (L : BitVec 32) :
    (q.forwardTSNForOrderedMID L).nextMID = if sna32LTE q.nextMID L then L + 1 else q.nextMID := by
  simp only [Q.forwardTSNForOrderedMID]

theorem fwdOM_rest (q : Q) (L : BitVec 32) :
    (q.forwardTSNForOrderedMID L).si = q.si ∧ (q.forwardTSNForOrderedMID L).useInterleaving = q.useInterleaving ∧
    (q.forwardTSNForOrderedMID L).unordered = q.unordered ∧ (q.forwardTSNForOrderedMID L).ordered = q.ordered ∧
    (q.forwardTSNForOrderedMID L).unorderedMID = q.unorderedMID := by
  simp only [Q.forwardTSNForOrderedMID, and_self]

structure TabInvM (S : Sender) (τ : Nat → Nat → BitVec 32) (orderedMID : List ChunkSetMID) (f : Nat) (A : Tab) : Prop where
  ord : orderedMID = A.map (S.concSetMID τ)
  sorted : A.Pairwise (fun a b => a.1 < b.1)
  win : ∀ e ∈ A, f ≤ e.1 ∧ e.1 < f + 2^31 ∧ e.1 < S.msgs.length
  wf : ∀ e ∈ A, e.2 ≠ [] ∧ e.2.Pairwise (· < ·) ∧ ∀ j ∈ e.2, j < S.nf e.1

theorem TabInvM.ok {S τ o f A} (h : TabInvM S τ o f A) : TabOK S (2^31) f A := ⟨h.sorted, h.win, h.wf⟩

theorem TabOK.tabInvM {S f A} (h : TabOK S (2^31) f A) (τ) : TabInvM S τ (A.map (S.concSetMID τ)) f A :=
  ⟨rfl, h.sorted, h.win, h.wf⟩

theorem TabOK.completeMID_iff {S W f A} (h : TabOK S W f A) (hS : S.WF) (τ) {e : Nat × List Nat}
    (he : e ∈ A) : (S.concSetMID τ e).isComplete = true ↔ e.2 = List.range (S.nf e.1) :=
  completeMID_iff_of (idataFrag_msgFrags S τ e.1) (S.nf_pos hS (h.win e he).2.2) e.2 (h.wf e he).2.2

def Sender.purgedEM (S : Sender) (τ : Nat → Nat → BitVec 32) (L : Nat) (e : Nat × List Nat) : Bool :=
  decide (e.1 ≤ L) && !(S.concSetMID τ e).isComplete

theorem purgeMID_conc {S f A} (h : TabOK S (2^31) f A) (τ) (L : Nat) (hfL : f ≤ L) (hL : L < f + 2^31) :
    (A.map (S.concSetMID τ)).filter (fun s => !purgedOM (BitVec.ofNat 32 L) s) =
      (A.filter (fun e => !S.purgedEM τ L e)).map (S.concSetMID τ) := by
  rw [List.filter_map]
  congr 1
  apply List.filter_congr
  intro e he
  have hw := h.win e he
  simp only [Function.comp, purgedOM, Sender.purgedEM]
  have : (S.concSetMID τ e).mid = BitVec.ofNat 32 e.1 := rfl
  rw [this, Sna.lte32_ofNat _ _ (by omega) (by omega)]

def Q.floorMID (q : Q) (f c : Nat) : Nat :=
  match q.orderedMID with
  | [] => c
  | s :: _ => min c (f + (s.mid - BitVec.ofNat 32 f).toNat)

def Sender.idataFr (S : Sender) (τ : Nat → Nat → BitVec 32) : Framing :=
  { frag := S.idataFrag τ, fwd := fun q L => q.forwardTSNForOrderedMID (BitVec.ofNat 32 L),
    cursor := fun q => q.nextMID.toNat, floor := Q.floorMID, W := 2^31 }

structure SkipInvM (S : Sender) (τ : Nat → Nat → BitVec 32) (K : Nat → Bool) (q : Q) (f c : Nat) (A : Tab)
    (P : List (Nat × Nat)) (D : List Nat) : Prop where
  si : q.si = S.si
  il : q.useInterleaving = false → A = []
  un : q.unordered = []
  od : q.ordered = []
  um : q.unorderedMID = []
  cur : q.nextMID = BitVec.ofNat 32 c
  tab : TabInvM S τ q.orderedMID f A
  fc : f ≤ c ∧ c < f + 2^31
  pushed : ∀ e ∈ A, ∀ j ∈ e.2, (e.1, j) ∈ P
  below : ∀ e ∈ A, e.1 < c → e.2 = List.range (S.nf e.1)
  done : ∀ k, k < c → K k = false → ∀ i, i < S.nf k → (k, i) ∈ P
  dsorted : D.Pairwise (· < ·)
  dlt : ∀ k ∈ D, k < c ∧ k < S.msgs.length ∧ ∀ e ∈ A, k < e.1
  held : ∀ k, K k = false → k ∉ D → ∀ i, (k, i) ∈ P → ∃ js, (k, js) ∈ A ∧ i ∈ js

theorem SkipInvM.core {S τ K q f c A P D} (h : SkipInvM S τ K q f c A P D) : SkipCore S K (2^31) f c A P D :=
  ⟨h.tab.ok, h.fc, h.pushed, h.below, h.done, h.dsorted, h.dlt, h.held⟩

theorem SkipCore.invM {S K q f c A P D} (h : SkipCore S K (2^31) f c A P D) (τ) (si : q.si = S.si)
    (il : q.useInterleaving = false → A = []) (un : q.unordered = []) (od : q.ordered = []) (um : q.unorderedMID = [])
    (cur : q.nextMID = BitVec.ofNat 32 c) (ord : q.orderedMID = A.map (S.concSetMID τ)) :
    SkipInvM S τ K q f c A P D :=
  ⟨si, il, un, od, um, cur, ⟨ord, h.tab.sorted, h.tab.win, h.tab.wf⟩, h.fc, h.pushed, h.below, h.done, h.dsorted,
    h.dlt, h.held⟩

theorem SkipInvM_new (S : Sender) (τ) (K : Nat → Bool) (me : BitVec 32) :
    SkipInvM S τ K (new S.si me) 0 0 [] [] [] :=
  (SkipCore.new S K (by decide)).invM τ rfl (fun _ => rfl) rfl rfl rfl rfl rfl

theorem floorMID_eq {S : Sender} {τ} {q : Q} {f : Nat} {A : Tab} (h : TabInvM S τ q.orderedMID f A) (c : Nat) :
    q.floorMID f c = floorOf A c := by
  unfold Q.floorMID
  rw [h.ord]
  cases A with
  | nil => rfl
  | cons e rest =>
    have hw := h.win e (List.mem_cons_self ..)
    have hsub : ((S.concSetMID τ e).mid - BitVec.ofNat 32 f).toNat = e.1 - f := by
      show (BitVec.ofNat 32 e.1 - BitVec.ofNat 32 f).toNat = _
      rw [Sna.ofNat32_dist f e.1 (by omega) (by omega), if_pos hw.1]
    simp only [List.map_cons, hsub, floorOf]
    omega

theorem SkipInvM.refloor {S τ K q f c A P D} (h : SkipInvM S τ K q f c A P D) :
    SkipInvM S τ K q (q.floorMID f c) c A P D := by
  rw [floorMID_eq h.tab]
  exact h.core.refloor.invM τ h.si h.il h.un h.od h.um h.cur h.tab.ord

theorem SkipInvM.push {S τ K q f c A P D} (h : SkipInvM S τ K q f c A P D) (hS : S.WF) {k i : Nat}
    (hk : k < S.msgs.length) (hi : i < S.nf k) (hP : (k, i) ∉ P) (hw : k < f + 2^31) (hlate : c < k + 2^31)
    (hok : (q.pushWithError (S.idataFrag τ k i)).2.2 = Err.none) :
    ∃ A', SkipInvM S τ K (q.pushWithError (S.idataFrag τ k i)).1 f c A' ((k, i) :: P) D := by
  have hfc := h.fc
  rcases Nat.lt_or_ge k c with hkc | hck
  · -- late fragment of an abandoned message: dropped at the door, the queue only learns that the peer interleaves
    have hKk : K k = true := by
      cases hK : K k with
      | true => rfl
      | false => exact absurd (h.done k hkc hK i hi) hP
    have hq : (q.pushWithError (S.idataFrag τ k i)).1 = { q with useInterleaving := true } := by
      have c1 : (S.idataFrag τ k i).iData = true := rfl
      have c2 : ((S.idataFrag τ k i).si != q.si) = false := by simp [Sender.idataFrag, h.si]
      have c3 : (S.idataFrag τ k i).unordered = false := rfl
      have c5 : (S.idataFrag τ k i).mid = BitVec.ofNat 32 k := rfl
      have c4 : sna32LT (BitVec.ofNat 32 k) q.nextMID = true := by
        rw [h.cur, Sna.lt32_ofNat _ _ (by omega) (by omega)]; simp; omega
      unfold Q.pushWithError
      simp only [c1, ↓reduceIte]
      unfold Q.pushIData
      simp only [c2, c3, Bool.false_eq_true, ↓reduceIte]
      unfold Q.pushOrderedIData
      simp only [c5, c4, ↓reduceIte]
    rw [hq]
    exact ⟨A, (h.core.late hKk).invM τ h.si (fun hc => Bool.noConfusion hc) h.un h.od h.um h.cur h.tab.ord⟩
  · rcases pushIData_conc hS (τ := τ) h.si h.cur h.tab.ord h.tab.ok hfc.1 hck hw hk hi
      (fun js hjs hij => hP (h.pushed _ hjs i hij)) with ⟨_, hlim⟩ | ⟨A', hq, _, hT, hadd⟩
    · rw [hlim] at hok; cases hok
    · rw [hq]
      exact ⟨A', (h.core.afterPush hck hT hadd).invM τ h.si (fun hc => Bool.noConfusion hc) h.un h.od h.um h.cur rfl⟩

theorem SkipInvM.read {S τ K q f c A P D} (h : SkipInvM S τ K q f c A P D) (hS : S.WF) (n : Nat) :
    ((q.read n).2.err ≠ .ok ∧ (q.read n).1 = q) ∨
    (∃ m, (q.read n).2.err = .ok ∧ (q.read n).2.ppi = (S.msg m).ppi ∧ (q.read n).2.data = (S.msg m).payload ∧
      (q.read n).1.nextMID = BitVec.ofNat 32 (if m = c then c + 1 else c) ∧
      ∃ A', SkipInvM S τ K (q.read n).1 ((q.read n).1.floorMID f (if m = c then c + 1 else c))
        (if m = c then c + 1 else c) A' P (D ++ [m])) := by
  cases hil : q.useInterleaving with
  | false =>
    left
    unfold Q.read
    simp [hil, h.un, h.od, ReadRes.tryAgain]
  | true =>
    rcases readIData_conc hS hil h.um h.cur h.tab.ord h.tab.ok h.fc n with
      hno | ⟨k, rest, hA, hkc, hok, hppi, hdata, nb, hq⟩
    · exact .inl hno
    · subst hA
      refine .inr ⟨k, hok, hppi, hdata, by rw [hq], rest, ?_⟩
      have htail : TabInvM S τ (q.read n).1.orderedMID f rest := by
        rw [hq]; exact (h.tab.ok.sublist (List.sublist_cons_self ..)).tabInvM τ
      rw [floorMID_eq htail, hq]
      exact (h.core.afterRead hkc).invM τ h.si (fun hc => absurd (hil.symm.trans hc) (by decide)) h.un h.od h.um rfl rfl

theorem SkipInvM.skip {S τ K q f c A P D} (h : SkipInvM S τ K q f c A P D) (hS : S.WF) {L : Nat}
    (hLlen : L < S.msgs.length) (hfL : f ≤ L) (hL : L + 1 < f + 2^31)
    (hprem : ∀ k, k < L + 1 → K k = false → ∀ i, i < S.nf k → (k, i) ∈ P) :
    SkipInvM S τ K (q.forwardTSNForOrderedMID (BitVec.ofNat 32 L)) f (max c (L + 1))
      (A.filter (fun e => !S.purgedEM τ L e)) P D := by
  have hfc := h.fc
  obtain ⟨r1, r2, r3, r4, r5⟩ := fwdOM_rest q (BitVec.ofNat 32 L)
  have hp : ∀ e ∈ A, S.purgedEM τ L e = true ↔ e.1 ≤ L ∧ e.2 ≠ List.range (S.nf e.1) := fun e he => by
    simp only [Sender.purgedEM, Bool.and_eq_true, decide_eq_true_eq, Bool.not_eq_true', ← Bool.not_eq_true,
      h.tab.ok.completeMID_iff hS τ he]
  refine (h.core.skip hfL hL hprem hp).invM τ (by rw [r1, h.si]) (fun hu => by rw [r2] at hu; rw [h.il hu]; rfl)
    (by rw [r3, h.un]) (by rw [r4, h.od]) (by rw [r5, h.um]) ?_
    (by rw [fwdOM_orderedMID, h.tab.ord]; exact purgeMID_conc h.tab.ok τ L hfL (by omega))
  rw [fwdOM_nextMID, h.cur, Sna.lte32_ofNat _ _ (by omega) (by omega)]
  by_cases hcl : c ≤ L
  · rw [if_pos (decide_eq_true hcl), Nat.max_eq_right (by omega), BitVec.ofNat_add]; rfl
  · rw [if_neg (by simpa using hcl), Nat.max_eq_left (by omega)]

theorem SkipInvM.run {S : Sender} (hS : S.WF) (K : Nat → Bool) (ops : List SOp) {q f c A P D}
    (h : SkipInvM S τ K q f c A P D) (hadm : S.AdmissibleS K (S.idataFr τ) q f c P ops) :
    ∃ f' c' A' P' D', SkipInvM S τ K ((S.idataFr τ).run q ops) f' c' A' P' (D ++ D') ∧
      (S.idataFr τ).deliveries q ops = D'.map (fun k => ((S.msg k).ppi, (S.msg k).payload)) ∧
      (∀ x, x ∈ P' ↔ x ∈ P ∨ x ∈ pushedS ops) ∧ c ≤ c' ∧ (∀ L ∈ skipsS ops, L < c') := by
  refine Framing.run_inv (F := S.idataFr τ) (fun h => h.push hS) SkipInvM.refloor (fun {q f c A P D} n h => ?_)
    (fun h hLlen hfL hL hprem => ⟨_, h.skip hS hLlen hfL hL hprem⟩) ops h hadm
  rcases h.read hS n with hno | ⟨m, hok, hppi, hdata, hcur, hinv⟩
  · exact .inl hno
  · refine .inr ⟨m, hok, hppi, hdata, ?_, hinv⟩
    show (q.read n).1.nextMID.toNat = q.nextMID.toNat ↔ _
    rw [hcur, h.cur, BitVec.toNat_ofNat, BitVec.toNat_ofNat]
    exact cursor_same_iff (by omega)

theorem SkipInvM.drained {S τ K q f c A P D} (h : SkipInvM S τ K q f c A P D) (hS : S.WF)
    (hnr : q.isReadable = false) {k : Nat} (hk : k < S.msgs.length) (hkc : k ≤ c) (hK : K k = false)
    (hall : ∀ i, i < S.nf k → (k, i) ∈ P) : k ∈ D := by
  refine Decidable.byContradiction fun hD => ?_
  obtain ⟨e, rest, hA, hfull, hec⟩ := h.core.first_ready hS hk hkc hK hall hD
  have he : e ∈ A := by rw [hA]; exact List.mem_cons_self ..
  have hwin := h.tab.win e he
  have hfc := h.fc
  have hil : q.useInterleaving = true := by
    cases hu : q.useInterleaving with
    | true => rfl
    | false => rw [h.il hu] at he; cases he
  have hle : sna32LTE (S.concSetMID τ e).mid q.nextMID = true := by
    rw [h.cur]
    show sna32LTE (BitVec.ofNat 32 e.1) _ = true
    rw [Sna.lte32_ofNat _ _ (by omega) (by omega)]
    exact decide_eq_true hec
  unfold Q.isReadable at hnr
  simp only [hil, ↓reduceIte, h.um, List.length_nil, Nat.lt_irrefl, decide_false, Bool.false_eq_true,
    h.tab.ord, hA, List.map_cons, (h.tab.ok.completeMID_iff hS τ he).2 hfull, hle] at hnr
  cases hnr

end Reasm
