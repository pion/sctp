import SctpVerif.Model.Reasm
import SctpVerif.Proofs.Sna
import SctpVerif.Proofs.ListAux
/-!
Helper lemmas about the L0 model of the reassembly queue (`Model/Reasm.lean`): byte accounting and entry
counts (used by `Props/C11.lean`). Every push function is analysed once, into a `Pushed` record; the facts
about bytes, counts, limit errors, panics (`ReasmTotal.lean`) and the ordered sets are read off it.
Also here, and used by the other `Proofs/Reasm*.lean` files: Go's insertion sort is a permutation (`goSort_perm`),
the three set-dropping forward loops as list filters (`purgeLoop_eq`, `fwd…Loop_eq`), what a read does
(`ReadEffect`), and the two invariants with their run lemmas: `CInv` (counter = held bytes) and `LInv` (entry limits).
-/
set_option linter.unusedSimpArgs false
set_option linter.unusedVariables false
namespace Reasm
open Gen

/-! ### Go's insertion sort is a permutation -/

theorem insRev_perm {α} (lt : α → α → Bool) (x : α) (l : List α) : (insRev lt x l).Perm (x :: l) := by
  induction l with
  | nil => exact List.Perm.refl _
  | cons y ys ih =>
    simp only [insRev]
    split
    · exact ((List.Perm.cons y ih).trans (List.Perm.swap x y ys))
    · exact List.Perm.refl _

theorem foldl_insRev_perm {α} (lt : α → α → Bool) (l acc : List α) :
    (l.foldl (fun rev x => insRev lt x rev) acc).Perm (l ++ acc) := by
  induction l generalizing acc with
  | nil => exact List.Perm.refl _
  | cons x xs ih =>
    simp only [List.foldl_cons]
    refine (ih _).trans ?_
    refine (List.Perm.append_left xs (insRev_perm lt x acc)).trans ?_
    simp

theorem goSort_perm {α} (lt : α → α → Bool) (l : List α) : (goSort lt l).Perm l := by
  unfold goSort
  refine (List.reverse_perm _).trans ?_
  simpa using foldl_insRev_perm lt l []

theorem goSort_sum {α} (lt : α → α → Bool) (f : α → Nat) (l : List α) :
    ((goSort lt l).map f).sum = (l.map f).sum :=
  ((goSort_perm lt l).map f).sum_nat

theorem goSort_length {α} (lt : α → α → Bool) (l : List α) : (goSort lt l).length = l.length :=
  (goSort_perm lt l).length_eq

@[simp] theorem bytesOf_nil : bytesOf [] = 0 := rfl
@[simp] theorem bytesOf_cons (c : Chunk) (cs) : bytesOf (c :: cs) = c.len + bytesOf cs := by
  simp [bytesOf]
@[simp] theorem bytesOf_append (a b : List Chunk) : bytesOf (a ++ b) = bytesOf a + bytesOf b := by
  simp [bytesOf]
@[simp] theorem bytesOfSets_nil : bytesOfSets [] = 0 := rfl
@[simp] theorem bytesOfSets_cons (s : ChunkSet) (ss) : bytesOfSets (s :: ss) = bytesOf s.chunks + bytesOfSets ss := by
  simp [bytesOfSets]
@[simp] theorem bytesOfSets_append (a b : List ChunkSet) : bytesOfSets (a ++ b) = bytesOfSets a + bytesOfSets b := by
  simp [bytesOfSets]
@[simp] theorem bytesOfMIDSets_nil : bytesOfMIDSets [] = 0 := rfl
@[simp] theorem bytesOfMIDSets_cons (s : ChunkSetMID) (ss) :
    bytesOfMIDSets (s :: ss) = bytesOf s.chunks + bytesOfMIDSets ss := by
  simp [bytesOfMIDSets]
@[simp] theorem bytesOfMIDSets_append (a b : List ChunkSetMID) :
    bytesOfMIDSets (a ++ b) = bytesOfMIDSets a + bytesOfMIDSets b := by
  simp [bytesOfMIDSets]

@[simp] theorem countChunks_nil : countChunks [] = 0 := rfl
@[simp] theorem countChunks_cons (s : ChunkSet) (ss) : countChunks (s :: ss) = s.chunks.length + countChunks ss := by
  simp [countChunks]
@[simp] theorem countChunks_append (a b : List ChunkSet) : countChunks (a ++ b) = countChunks a + countChunks b := by
  simp [countChunks]

theorem bytesOf_sortTSN (l : List Chunk) : bytesOf (sortChunksByTSN l) = bytesOf l := goSort_sum _ _ l
theorem bytesOf_sortFSN (l : List Chunk) : bytesOf (sortChunksByFSN l) = bytesOf l := goSort_sum _ _ l
theorem bytesOfSets_sortSSN (l : List ChunkSet) : bytesOfSets (sortChunksBySSN l) = bytesOfSets l := goSort_sum _ _ l
theorem countChunks_sortSSN (l : List ChunkSet) : countChunks (sortChunksBySSN l) = countChunks l := goSort_sum _ _ l
theorem length_sortTSN (l : List Chunk) : (sortChunksByTSN l).length = l.length := goSort_length _ l
theorem length_sortFSN (l : List Chunk) : (sortChunksByFSN l).length = l.length := goSort_length _ l

theorem bytesOf_take_drop (l : List Chunk) (k : Nat) : bytesOf (l.take k) + bytesOf (l.drop k) = bytesOf l := by
  rw [← bytesOf_append, List.take_append_drop]

theorem subBytes_exact (cur : BitVec 64) (n : Nat) (h1 : n ≤ cur.toNat) (h2 : cur.toNat < 2^63) :
    (subBytes cur (n : Int)).toNat = cur.toNat - n := by
  unfold subBytes
  have : cur.toInt = cur.toNat := by
    rw [BitVec.toInt_eq_toNat_cond]; split <;> omega
  rw [if_pos (by omega)]
  have : BitVec.ofInt 64 (-(n : Int)) = - BitVec.ofNat 64 n := by
    simp [BitVec.ofInt_neg]
  rw [this]
  bv_omega

theorem subChunks_exact (cs : List Chunk) (cur : BitVec 64) (h1 : bytesOf cs ≤ cur.toNat) (h2 : cur.toNat < 2^63) :
    (subChunks cur cs).toNat = cur.toNat - bytesOf cs := by
  induction cs generalizing cur with
  | nil => simp [subChunks]
  | cons c cs ih =>
    simp only [bytesOf_cons] at h1
    have e := subBytes_exact cur c.len (by omega) h2
    simp only [subChunks]
    rw [ih _ (by omega) (by omega), e, bytesOf_cons]
    omega

theorem addBytes_toNat (cur : BitVec 64) (n : Nat) (h : cur.toNat + n < 2^64) :
    (cur + BitVec.ofNat 64 n).toNat = cur.toNat + n := by
  bv_omega

/-! ### forward loops: the counter drops by exactly the bytes of the dropped sets -/

theorem subChunks_append (cur : BitVec 64) (a b : List Chunk) : subChunks cur (a ++ b) = subChunks (subChunks cur a) b := by
  induction a generalizing cur with
  | nil => rfl
  | cons c cs ih => exact ih _

theorem countChunks_filter_le (p : ChunkSet → Bool) (l : List ChunkSet) : countChunks (l.filter p) ≤ countChunks l :=
  ListAux.sum_map_filter_le _ p l

theorem bytesOf_flatMap {σ} (chunks : σ → List Chunk) (l : List σ) :
    bytesOf (l.flatMap chunks) = (l.map fun s => bytesOf (chunks s)).sum := by
  induction l with
  | nil => rfl
  | cons s rest ih => rw [List.flatMap_cons, bytesOf_append, ih, List.map_cons, List.sum_cons]

section purge
variable {σ : Type} (drop : σ → Bool) (chunks : σ → List Chunk)

/-- The `keep` loops of the three forward handlers are one loop: a set selected by `drop` has its chunks
subtracted from the counter one by one, the other sets are kept in order. -/
theorem purgeLoop_eq (loop : List σ → BitVec 64 → BitVec 64 × List σ) (hnil : ∀ nb, loop [] nb = (nb, []))
    (hcons : ∀ s rest nb, loop (s :: rest) nb =
      if drop s then loop rest (subChunks nb (chunks s)) else ((loop rest nb).1, s :: (loop rest nb).2))
    (l : List σ) (nb : BitVec 64) :
    loop l nb = (subChunks nb ((l.filter drop).flatMap chunks), l.filter fun s => !drop s) := by
  induction l generalizing nb with
  | nil => exact hnil nb
  | cons s rest ih =>
    rw [hcons]
    cases h : drop s
    · simp only [ih, h, List.filter_cons, Bool.false_eq_true, if_false, Bool.not_false, if_true]
    · simp only [ih, h, List.filter_cons, if_true, Bool.not_true, Bool.false_eq_true, if_false, List.flatMap_cons,
        subChunks_append]

/-- as long as the counter covers what is held (and the `int` conversion is exact), it drops by exactly the
bytes of the dropped sets. -/
theorem purge_spec (l : List σ) (nb : BitVec 64) (h1 : (l.map fun s => bytesOf (chunks s)).sum ≤ nb.toNat)
    (h2 : nb.toNat < 2^63) :
    (subChunks nb ((l.filter drop).flatMap chunks)).toNat + (l.map fun s => bytesOf (chunks s)).sum =
      nb.toNat + ((l.filter fun s => !drop s).map fun s => bytesOf (chunks s)).sum ∧
    ((l.filter fun s => !drop s).map fun s => bytesOf (chunks s)).sum ≤ (l.map fun s => bytesOf (chunks s)).sum := by
  have hs := ListAux.sum_map_filter_add (fun s => bytesOf (chunks s)) drop l
  have hf := bytesOf_flatMap chunks (l.filter drop)
  have := subChunks_exact ((l.filter drop).flatMap chunks) nb (by omega) h2
  omega

end purge

theorem fwdOrderedLoop_eq (lastSSN : BitVec 16) (l : List ChunkSet) (nb : BitVec 64) :
    fwdOrderedLoop lastSSN l nb =
      (subChunks nb ((l.filter fun s => sna16LTE s.ssn lastSSN && !s.isComplete).flatMap (·.chunks)),
       l.filter fun s => !(sna16LTE s.ssn lastSSN && !s.isComplete)) :=
  purgeLoop_eq _ _ _ (fun _ => rfl) (fun _ _ _ => rfl) l nb

theorem fwdOrderedMIDLoop_eq (lastMID : BitVec 32) (l : List ChunkSetMID) (nb : BitVec 64) :
    fwdOrderedMIDLoop lastMID l nb =
      (subChunks nb ((l.filter fun s => sna32LTE s.mid lastMID && !s.isComplete).flatMap (·.chunks)),
       l.filter fun s => !(sna32LTE s.mid lastMID && !s.isComplete)) :=
  purgeLoop_eq _ _ _ (fun _ => rfl) (fun _ _ _ => rfl) l nb

theorem fwdUnorderedMIDLoop_eq (lastMID : BitVec 32) (l : List ChunkSetMID) (nb : BitVec 64) :
    fwdUnorderedMIDLoop lastMID l nb =
      (subChunks nb ((l.filter fun s => sna32LTE s.mid lastMID).flatMap (·.chunks)),
       l.filter fun s => !sna32LTE s.mid lastMID) :=
  purgeLoop_eq _ _ _ (fun _ => rfl) (fun _ _ _ => rfl) l nb

theorem fwdOrderedLoop_spec (lastSSN : BitVec 16) (l : List ChunkSet) (nb : BitVec 64)
    (h1 : bytesOfSets l ≤ nb.toNat) (h2 : nb.toNat < 2^63) :
    (fwdOrderedLoop lastSSN l nb).1.toNat + bytesOfSets l = nb.toNat + bytesOfSets (fwdOrderedLoop lastSSN l nb).2 ∧
    bytesOfSets (fwdOrderedLoop lastSSN l nb).2 ≤ bytesOfSets l := by
  rw [fwdOrderedLoop_eq]; exact purge_spec _ _ l nb h1 h2

theorem fwdOrderedMIDLoop_spec (lastMID : BitVec 32) (l : List ChunkSetMID) (nb : BitVec 64)
    (h1 : bytesOfMIDSets l ≤ nb.toNat) (h2 : nb.toNat < 2^63) :
    (fwdOrderedMIDLoop lastMID l nb).1.toNat + bytesOfMIDSets l =
      nb.toNat + bytesOfMIDSets (fwdOrderedMIDLoop lastMID l nb).2 ∧
    bytesOfMIDSets (fwdOrderedMIDLoop lastMID l nb).2 ≤ bytesOfMIDSets l := by
  rw [fwdOrderedMIDLoop_eq]; exact purge_spec _ _ l nb h1 h2

theorem fwdUnorderedMIDLoop_spec (lastMID : BitVec 32) (l : List ChunkSetMID) (nb : BitVec 64)
    (h1 : bytesOfMIDSets l ≤ nb.toNat) (h2 : nb.toNat < 2^63) :
    (fwdUnorderedMIDLoop lastMID l nb).1.toNat + bytesOfMIDSets l =
      nb.toNat + bytesOfMIDSets (fwdUnorderedMIDLoop lastMID l nb).2 ∧
    bytesOfMIDSets (fwdUnorderedMIDLoop lastMID l nb).2 ≤ bytesOfMIDSets l := by
  rw [fwdUnorderedMIDLoop_eq]; exact purge_spec _ _ l nb h1 h2

/-! ### what a push does to bytes and counts -/

theorem findFragSet_found {ssn : BitVec 16} {l pre : List ChunkSet} {s post}
    (h : findFragSet ssn l = .found pre s post) : l = pre ++ s :: post := by
  induction l generalizing pre with
  | nil => simp [findFragSet] at h
  | cons x rest ih =>
    have hc : ∀ {pre}, (findFragSet ssn rest).cons x = .found pre s post → x :: rest = pre ++ s :: post := by
      intro pre h
      generalize hr : findFragSet ssn rest = r at h
      cases r <;> simp [FindO.cons] at h
      obtain ⟨rfl, rfl, rfl⟩ := h
      rw [ih hr]; rfl
    simp only [findFragSet] at h
    split at h
    · split at h
      · cases h
      · split at h
        · cases h; rfl
        · exact hc h
    · exact hc h

theorem split3 {α} (l : List α) (a n : Nat) : l.take a ++ ((l.drop a).take n ++ l.drop (a + n)) = l := by
  rw [← List.drop_drop, List.take_append_drop, List.take_append_drop]

theorem findCompleteUnordered_found {uc : List Chunk} {set rest}
    (h : findCompleteUnorderedChunkSet uc = .found set rest) :
    bytesOf set.chunks + bytesOf rest = bytesOf uc ∧ set.chunks.length + rest.length = uc.length := by
  unfold findCompleteUnorderedChunkSet at h
  split at h
  · cases h
  · rename_i start n _
    dsimp only at h
    split at h
    · cases h
    · rename_i c0 tl hch
      cases h
      simp only
      have e := split3 uc start n
      constructor
      · conv => rhs; rw [← e]
        simp only [bytesOf_append]; rw [hch]; omega
      · conv => rhs; rw [← e]
        simp only [List.length_append]; rw [hch]; omega

theorem updMID_at (mid : BitVec 32) (s s' : ChunkSetMID) (l1 l2 : List ChunkSetMID)
    (hl : ∀ x ∈ l1, (x.mid == mid) = false) (hs : s.mid = mid) :
    updMID mid s' (l1 ++ s :: l2) = l1 ++ s' :: l2 := by
  induction l1 with
  | nil => rw [List.nil_append, updMID, if_pos (beq_iff_eq.2 hs), List.nil_append]
  | cons x rest ih =>
    rw [List.cons_append, updMID, if_neg (by rw [hl x (List.mem_cons_self ..)]; exact Bool.false_ne_true),
      ih (fun y hy => hl y (List.mem_cons_of_mem _ hy)), List.cons_append]

theorem delMID_at (mid : BitVec 32) (s : ChunkSetMID) (l1 l2 : List ChunkSetMID)
    (hl : ∀ x ∈ l1, (x.mid == mid) = false) (hs : s.mid = mid) :
    delMID mid (l1 ++ s :: l2) = l1 ++ l2 := by
  induction l1 with
  | nil => rw [List.nil_append, delMID, if_pos (beq_iff_eq.2 hs), List.nil_append]
  | cons x rest ih =>
    rw [List.cons_append, delMID, if_neg (by rw [hl x (List.mem_cons_self ..)]; exact Bool.false_ne_true),
      ih (fun y hy => hl y (List.mem_cons_of_mem _ hy)), List.cons_append]

theorem updMID_spec {mid : BitVec 32} {s' : ChunkSetMID} {l : List ChunkSetMID} {cset}
    (h : l.find? (fun s => s.mid == mid) = some cset) :
    bytesOfMIDSets (updMID mid s' l) + bytesOf cset.chunks = bytesOfMIDSets l + bytesOf s'.chunks ∧
    (updMID mid s' l).length = l.length := by
  obtain ⟨hp, l1, l2, rfl, hl⟩ := List.find?_eq_some_iff_append.1 h
  rw [updMID_at mid cset s' l1 l2 (fun x hx => by simpa using hl x hx) (by simpa using hp)]
  simp only [bytesOfMIDSets_append, bytesOfMIDSets_cons, List.length_append, List.length_cons, and_true]
  omega

theorem delMID_spec {mid : BitVec 32} {l : List ChunkSetMID} {cset}
    (h : l.find? (fun s => s.mid == mid) = some cset) :
    bytesOfMIDSets (delMID mid l) + bytesOf cset.chunks = bytesOfMIDSets l ∧
    (delMID mid l).length + 1 = l.length := by
  obtain ⟨hp, l1, l2, rfl, hl⟩ := List.find?_eq_some_iff_append.1 h
  rw [delMID_at mid cset l1 l2 (fun x hx => by simpa using hl x hx) (by simpa using hp)]
  simp only [bytesOfMIDSets_append, bytesOfMIDSets_cons, List.length_append, List.length_cons]
  omega

theorem insertChunkSetByMID_spec (a : List ChunkSetMID) (s : ChunkSetMID) :
    bytesOfMIDSets (insertChunkSetByMID a s) = bytesOfMIDSets a + bytesOf s.chunks ∧
    (insertChunkSetByMID a s).length = a.length + 1 := by
  unfold insertChunkSetByMID
  generalize goSearch _ _ _ _ = k
  constructor
  · have := congrArg bytesOfMIDSets (List.take_append_drop k a)
    simp only [bytesOfMIDSets_append, bytesOfMIDSets_cons] at *
    omega
  · have := congrArg List.length (List.take_append_drop k a)
    simp only [List.length_append, List.length_cons] at *
    omega

theorem pushAndCheck_spec (s : ChunkSetMID) (c : Chunk) :
    ((s.pushAndCheck c).2.2 = false ∧ (s.pushAndCheck c).1 = s) ∨
    ((s.pushAndCheck c).2.2 = true ∧ bytesOf (s.pushAndCheck c).1.chunks = bytesOf s.chunks + c.len ∧
      (s.pushAndCheck c).1.mid = s.mid) := by
  unfold ChunkSetMID.pushAndCheck
  split
  · left; simp
  · split
    · left; simp
    · right; simp [bytesOf_sortFSN]

/-- a fresh set accepts its first fragment. -/
theorem pushAndCheck_new (mid : BitVec 32) (ppi : PPI) (c : Chunk) :
    ((newChunkSetMID mid ppi).pushAndCheck c).2.2 = true ∧
    bytesOf ((newChunkSetMID mid ppi).pushAndCheck c).1.chunks = c.len := by
  rcases pushAndCheck_spec (newChunkSetMID mid ppi) c with ⟨ha, _⟩ | ⟨ha, hb, _⟩
  · cases ha
  · exact ⟨ha, by rw [hb]; exact Nat.zero_add _⟩

theorem pushNoDuplicate_spec (s : ChunkSet) (c : Chunk) :
    bytesOf (s.pushNoDuplicate c).1.chunks = bytesOf s.chunks + c.len ∧
    (s.pushNoDuplicate c).1.chunks.length = s.chunks.length + 1 := by
  simp [ChunkSet.pushNoDuplicate, bytesOf_sortTSN, length_sortTSN]

theorem sortTSN_snoc_ne_nil (l : List Chunk) (c : Chunk) : sortChunksByTSN (l ++ [c]) ≠ [] :=
  fun h => by have := length_sortTSN (l ++ [c]); rw [h, List.length_append] at this; cases this

theorem mem_sortSSN (l : List ChunkSet) (s : ChunkSet) : s ∈ sortChunksBySSN l ↔ s ∈ l :=
  (goSort_perm _ l).mem_iff

/-- a limited count stays as it is, or grows by one after the limit test on its old value came out false
(`isDataLimitReached` and `isMIDLimitReached` are both this test). -/
def Grows (q : Q) (n n' : Nat) : Prop :=
  n' = n ∨ (n' = n + 1 ∧ isReassemblyQueueLimitReached q.maxEntries (n : Int) = false)

theorem lt_of_limit_false {me : BitVec 32} {n : Nat} (hpos : me > 0#32)
    (h : isReassemblyQueueLimitReached me (n : Int) = false) : n < me.toNat := by
  simp only [isReassemblyQueueLimitReached, Bool.and_eq_false_iff, decide_eq_false_iff_not] at h
  rcases h with h | h
  · exact absurd hpos h
  · omega

theorem Grows.lt {q : Q} {n n' : Nat} (h : Grows q n n') (hpos : q.maxEntries > 0#32) :
    n' = n ∨ (n' = n + 1 ∧ n < q.maxEntries.toNat) :=
  h.imp_right (And.imp_right (lt_of_limit_false hpos))

theorem Grows.le {q : Q} {n n' : Nat} (h : Grows q n n') (hpos : q.maxEntries > 0#32) (hn : n ≤ q.maxEntries.toNat) :
    n' ≤ q.maxEntries.toNat := by
  rcases h.lt hpos with h | ⟨h, _⟩ <;> omega

theorem limit_false_of_not_both {q : Q} {n : Nat} (h : ¬ (q.hasDataLimit && q.isDataLimitReached n) = true) :
    isReassemblyQueueLimitReached q.maxEntries (n : Int) = false := by
  simp only [Q.hasDataLimit, Q.isDataLimitReached, isReassemblyQueueLimitReached] at *
  cases h1 : decide (q.maxEntries > 0#32) <;> simp_all

/-- what one push may do to the held bytes, the byte counter, the four limited counts and the ordered sets. -/
structure PushEffect (q q' : Q) (c : Chunk) : Prop where
  bytes : (q'.heldBytes = q.heldBytes ∧ q'.nBytes = q.nBytes) ∨
          (q'.heldBytes = q.heldBytes + c.len ∧ q'.nBytes = q.nBytes + BitVec.ofNat 64 c.len)
  me : q'.maxEntries = q.maxEntries
  oe : Grows q q.orderedDataEntryCount q'.orderedDataEntryCount
  ue : Grows q q.unorderedDataEntryCount q'.unorderedDataEntryCount
  om : Grows q q.orderedMID.length q'.orderedMID.length
  um : Grows q q.unorderedMIDEntryCount q'.unorderedMIDEntryCount
  ord : ∀ s ∈ q'.ordered, s ∈ q.ordered ∨ s.chunks ≠ []

namespace PushEffect
variable {q : Q} {c : Chunk}

theorem refl (q : Q) (c : Chunk) : PushEffect q q c :=
  ⟨.inl ⟨rfl, rfl⟩, rfl, .inl rfl, .inl rfl, .inl rfl, .inl rfl, fun _ h => .inl h⟩

/-! A stored chunk goes into exactly one group of containers; the group's bytes grow by `c.len`. -/

theorem ordered {o : List ChunkSet} (hb : bytesOfSets o = bytesOfSets q.ordered + c.len)
    (hl : Grows q (countChunks q.ordered) (countChunks o)) (ho : ∀ s ∈ o, s ∈ q.ordered ∨ s.chunks ≠ []) :
    PushEffect q ({ q with ordered := o }.addBytes c.len) c :=
  ⟨.inr ⟨by simp only [Q.heldBytes, Q.addBytes, hb]; omega, rfl⟩, rfl, hl, .inl rfl, .inl rfl, .inl rfl, ho⟩

theorem unordered {uc : List Chunk} {u : List ChunkSet}
    (hb : bytesOfSets u + bytesOf uc = bytesOfSets q.unordered + bytesOf q.unorderedChunks + c.len)
    (hl : Grows q q.unorderedDataEntryCount (uc.length + countChunks u)) :
    PushEffect q { q.addBytes c.len with unorderedChunks := uc, unordered := u } c :=
  ⟨.inr ⟨by simp only [Q.heldBytes, Q.addBytes]; omega, rfl⟩, rfl, .inl rfl, hl, .inl rfl, .inl rfl, fun _ h => .inl h⟩

theorem orderedMID {om : List ChunkSetMID} (hb : bytesOfMIDSets om = bytesOfMIDSets q.orderedMID + c.len)
    (hl : Grows q q.orderedMID.length om.length) : PushEffect q ({ q with orderedMID := om }.addBytes c.len) c :=
  ⟨.inr ⟨by simp only [Q.heldBytes, Q.addBytes, hb]; omega, rfl⟩, rfl, .inl rfl, .inl rfl, hl, .inl rfl, fun _ h => .inl h⟩

theorem unorderedMID {m um : List ChunkSetMID}
    (hb : bytesOfMIDSets um + bytesOfMIDSets m = bytesOfMIDSets q.unorderedMID + bytesOfMIDSets q.unorderedMIDMap + c.len)
    (hl : Grows q q.unorderedMIDEntryCount (m.length + um.length)) :
    PushEffect q { q.addBytes c.len with unorderedMIDMap := m, unorderedMID := um } c :=
  ⟨.inr ⟨by simp only [Q.heldBytes, Q.addBytes]; omega, rfl⟩, rfl, .inl rfl, .inl rfl, .inl rfl, hl, fun _ h => .inl h⟩

end PushEffect

/-- one of the two places where a push indexes a slice (`set.chunks[0]` in the search for a fragmented set,
`chunks[0]` of the completed unordered run) would be out of range. -/
def IndexPanics (q : Q) (c : Chunk) : Prop :=
  findFragSet c.ssn q.ordered = .panic ∨
  findCompleteUnorderedChunkSet (sortChunksByTSN (q.unorderedChunks ++ [c])) = .panic

/-- a push function's result: the effect on the state; a limit error leaves the state alone; a panic has
one of the two index expressions as its cause. -/
structure Pushed (q : Q) (r : Q × Bool × Err) (c : Chunk) : Prop where
  eff : PushEffect q r.1 c
  lim : r.2.2 = .dataLimit ∨ r.2.2 = .midLimit → r.1 = q
  pan : r.2.2 = .panic → IndexPanics q c

theorem Pushed.skip {q : Q} {c : Chunk} {b : Bool} {e : Err} (he : e ≠ .panic := by decide) : Pushed q (q, b, e) c :=
  ⟨.refl q c, fun _ => rfl, fun h => absurd h he⟩

theorem Pushed.store {q q' : Q} {c : Chunk} {b : Bool} (h : PushEffect q q' c) : Pushed q (q', b, .none) c :=
  ⟨h, fun h => (by rcases h with h | h <;> cases h), fun h => (by cases h)⟩

theorem Pushed.panic {q q' : Q} {c : Chunk} {b : Bool} (h : PushEffect q q' c) (hp : IndexPanics q c) :
    Pushed q (q', b, .panic) c :=
  ⟨h, fun h => (by rcases h with h | h <;> cases h), fun _ => hp⟩

theorem pushOrderedIData_pushed (q : Q) (c : Chunk) : Pushed q (q.pushOrderedIData c) c := by
  unfold Q.pushOrderedIData
  split
  · exact .skip
  · split
    · rename_i cset hf
      rcases pushAndCheck_spec cset c with ⟨ha, _⟩ | ⟨ha, hb, _⟩
      · simp only [ha, Bool.not_false, ↓reduceIte]; exact .skip
      · simp only [ha, Bool.not_true, Bool.false_eq_true, ↓reduceIte]
        have hu := updMID_spec (s' := (cset.pushAndCheck c).1) hf
        exact .store (.orderedMID (by omega) (.inl hu.2))
    · split
      · exact .skip
      · rename_i hlim
        have hn := pushAndCheck_new c.mid c.ppi c
        have hi := insertChunkSetByMID_spec q.orderedMID ((newChunkSetMID c.mid c.ppi).pushAndCheck c).1
        simp only [hn.1, Bool.not_true, Bool.false_eq_true, ↓reduceIte]
        exact .store (.orderedMID (by omega) (.inr ⟨hi.2, Bool.eq_false_iff.2 hlim⟩))

theorem pushUnorderedIData_pushed (q : Q) (c : Chunk) : Pushed q (q.pushUnorderedIData c) c := by
  unfold Q.pushUnorderedIData
  by_cases hq : q.hasQueuedUnorderedMID c.mid = true
  · rw [if_pos hq]; exact .skip
  · rw [if_neg hq]
    dsimp only
    split
    · rename_i cset hf
      rcases pushAndCheck_spec cset c with ⟨ha, _⟩ | ⟨ha, hb, _⟩
      · simp only [ha, Bool.not_false, ↓reduceIte]; exact .skip
      · simp only [ha, Bool.not_true, Bool.false_eq_true, ↓reduceIte, Q.addBytes]
        split
        · have hd := delMID_spec hf
          refine .store (.unorderedMID (um := q.unorderedMID ++ [_]) ?_ (.inl ?_))
          · simp only [bytesOfMIDSets_append, bytesOfMIDSets_cons, bytesOfMIDSets_nil]; omega
          · simp only [Q.unorderedMIDEntryCount, List.length_append, List.length_cons, List.length_nil]; omega
        · have hu := updMID_spec (s' := (cset.pushAndCheck c).1) hf
          exact .store (.unorderedMID (um := q.unorderedMID) (by omega) (.inl (by simp only [Q.unorderedMIDEntryCount]; omega)))
    · rename_i hnf
      by_cases hlim : q.isMIDLimitReached q.unorderedMIDEntryCount = true
      · rw [if_pos hlim]; exact .skip
      · rw [if_neg hlim]
        have hf : (q.unorderedMIDMap ++ [newChunkSetMID c.mid c.ppi]).find? (fun s => s.mid == c.mid)
            = some (newChunkSetMID c.mid c.ppi) := by
          rw [List.find?_append, hnf]; simp [newChunkSetMID]
        have hn := pushAndCheck_new c.mid c.ppi c
        have hl := Bool.eq_false_iff.2 hlim
        have h0 : bytesOf (newChunkSetMID c.mid c.ppi).chunks = 0 := rfl
        simp only [hn.1, Bool.not_true, Bool.false_eq_true, ↓reduceIte, Q.addBytes]
        split
        · have hd := delMID_spec hf
          simp only [bytesOfMIDSets_append, bytesOfMIDSets_cons, bytesOfMIDSets_nil, List.length_append,
            List.length_cons, List.length_nil] at hd
          refine .store (.unorderedMID (um := q.unorderedMID ++ [_]) ?_ (.inr ⟨?_, hl⟩))
          · simp only [bytesOfMIDSets_append, bytesOfMIDSets_cons, bytesOfMIDSets_nil]; omega
          · simp only [Q.unorderedMIDEntryCount, List.length_append, List.length_cons, List.length_nil]; omega
        · have hu := updMID_spec (s' := ((newChunkSetMID c.mid c.ppi).pushAndCheck c).1) hf
          simp only [bytesOfMIDSets_append, bytesOfMIDSets_cons, bytesOfMIDSets_nil, List.length_append,
            List.length_cons, List.length_nil] at hu
          exact .store (.unorderedMID (um := q.unorderedMID) (by omega) (.inr ⟨by simp only [Q.unorderedMIDEntryCount]; omega, hl⟩))

theorem pushIData_pushed (q : Q) (c : Chunk) : Pushed q (q.pushIData c) c := by
  unfold Q.pushIData
  split
  · exact .skip
  · split
    · exact pushUnorderedIData_pushed q c
    · exact pushOrderedIData_pushed q c

theorem pushData_pushed (q : Q) (c : Chunk) (hi : c.iData = false) : Pushed q (q.pushWithError c) c := by
  unfold Q.pushWithError
  rw [if_neg (by rw [hi]; decide)]
  by_cases hsi : (c.si != q.si) = true
  · rw [if_pos hsi]; exact .skip
  rw [if_neg hsi]
  by_cases hu : c.unordered = true
  · rw [if_pos hu]
    by_cases hlim : (q.hasDataLimit && q.isDataLimitReached q.unorderedDataEntryCount) = true
    · rw [if_pos hlim]; exact .skip
    rw [if_neg hlim]
    have hl := limit_false_of_not_both hlim
    dsimp only
    have hq : PushEffect q { q.addBytes c.len with unorderedChunks := sortChunksByTSN (q.unorderedChunks ++ [c]) } c := by
      refine .unordered (u := q.unordered) ?_ (.inr ⟨?_, hl⟩)
      · simp only [bytesOf_sortTSN, bytesOf_append, bytesOf_cons, bytesOf_nil]; omega
      · simp only [Q.unorderedDataEntryCount, length_sortTSN, List.length_append, List.length_cons, List.length_nil]; omega
    split
    · rename_i hp; exact .panic hq (.inr hp)
    · exact .store hq
    · rename_i cset rest hf
      have hs := findCompleteUnordered_found hf
      simp only [bytesOf_sortTSN, length_sortTSN, bytesOf_append, bytesOf_cons, bytesOf_nil,
        List.length_append, List.length_cons, List.length_nil] at hs
      refine .store (.unordered ?_ (.inr ⟨?_, hl⟩))
      · simp only [Q.addBytes, bytesOfSets_append, bytesOfSets_cons, bytesOfSets_nil]; omega
      · simp only [Q.addBytes, Q.unorderedDataEntryCount, countChunks_append, countChunks_cons, countChunks_nil]; omega
  rw [if_neg hu]
  by_cases hold : sna16LT c.ssn q.nextSSN = true
  · rw [if_pos hold]; exact .skip
  rw [if_neg hold]
  split
  · rename_i hp
    refine .panic (.refl q c) (.inl ?_)
    split at hp
    · exact hp
    · cases hp
  · rename_i pre cset post hf
    have hf' : q.ordered = pre ++ cset :: post := by
      split at hf
      · exact findFragSet_found hf
      · cases hf
    by_cases hdup : cset.hasTSN c.tsn = true
    · rw [if_pos hdup]; exact .skip
    rw [if_neg hdup]
    by_cases hlim : (q.hasDataLimit && q.isDataLimitReached q.orderedDataEntryCount) = true
    · rw [if_pos hlim]; exact .skip
    rw [if_neg hlim]
    refine .store (.ordered ?_ (.inr ⟨?_, limit_false_of_not_both hlim⟩) ?_)
    · simp only [hf', bytesOfSets_append, bytesOfSets_cons, bytesOf_sortTSN, bytesOf_append, bytesOf_cons, bytesOf_nil]; omega
    · simp only [hf', countChunks_append, countChunks_cons, length_sortTSN, List.length_append, List.length_cons, List.length_nil]; omega
    · intro s hs
      rw [hf']
      simp only [List.mem_append, List.mem_cons] at hs ⊢
      rcases hs with h | rfl | h
      · exact .inl (.inl h)
      · exact .inr (sortTSN_snoc_ne_nil _ c)
      · exact .inl (.inr (.inr h))
  · by_cases hlim : (q.hasDataLimit && q.isDataLimitReached q.orderedDataEntryCount) = true
    · rw [if_pos hlim]; exact .skip
    rw [if_neg hlim]
    have h0 : bytesOf (newChunkSet c.ssn c.ppi).chunks = 0 := rfl
    have h1 : (newChunkSet c.ssn c.ppi).chunks.length = 0 := rfl
    refine .store (.ordered ?_ (.inr ⟨?_, limit_false_of_not_both hlim⟩) ?_)
    · simp only [bytesOfSets_sortSSN, bytesOfSets_append, bytesOfSets_cons, bytesOfSets_nil, bytesOf_sortTSN, bytesOf_append, bytesOf_cons, bytesOf_nil]; omega
    · simp only [countChunks_sortSSN, countChunks_append, countChunks_cons, countChunks_nil, length_sortTSN, List.length_append, List.length_cons, List.length_nil]; omega
    · intro s hs
      rw [mem_sortSSN, List.mem_append, List.mem_singleton] at hs
      exact hs.imp_right (fun h => by rw [h]; exact sortTSN_snoc_ne_nil _ c)

/-- an I-DATA chunk switches the queue to interleaving mode before anything else happens; apart from that
flag every push is described by `Pushed`. -/
theorem pushWithError_pushed (q : Q) (c : Chunk) :
    Pushed { q with useInterleaving := q.useInterleaving || c.iData } (q.pushWithError c) c := by
  cases hi : c.iData
  · rw [Bool.or_false]; exact pushData_pushed q c hi
  · rw [Bool.or_true]; unfold Q.pushWithError; rw [if_pos hi]; exact pushIData_pushed _ c

theorem pushWithError_effect (q : Q) (c : Chunk) : PushEffect q (q.pushWithError c).1 c :=
  have h := (pushWithError_pushed q c).eff
  ⟨h.bytes, h.me, h.oe, h.ue, h.om, h.um, h.ord⟩

theorem limit_error_no_change (q : Q) (c : Chunk)
    (he : (q.pushWithError c).2.2 = .dataLimit ∨ (q.pushWithError c).2.2 = .midLimit) :
    (q.pushWithError c).1 = { q with useInterleaving := q.useInterleaving || c.iData } :=
  (pushWithError_pushed q c).lim he

theorem copyLoop_total (buflen : Int) (cs : List Chunk) (n : Int) (e : Bool) (out : List UInt8) :
    (copyLoop buflen cs n e out).1 = n + (bytesOf cs : Nat) := by
  induction cs generalizing n e out with
  | nil => simp [copyLoop]
  | cons c cs ih =>
    simp only [copyLoop]
    split <;> rw [ih] <;> simp only [bytesOf_cons] <;> omega

/-- a read either leaves the queue alone (`tryAgain`, `shortBuffer`) or removes one set and
subtracts exactly its bytes. -/
def ReadEffect (q q' : Q) : Prop :=
  q' = q ∨ (∃ m : Nat, q'.heldBytes + m = q.heldBytes ∧ q'.nBytes = subBytes q.nBytes (m : Int) ∧
    q'.maxEntries = q.maxEntries ∧
    q'.orderedDataEntryCount ≤ q.orderedDataEntryCount ∧ q'.unorderedDataEntryCount ≤ q.unorderedDataEntryCount ∧
    q'.orderedMID.length ≤ q.orderedMID.length ∧ q'.unorderedMIDEntryCount ≤ q.unorderedMIDEntryCount ∧
    ∀ s ∈ q'.ordered, s ∈ q.ordered)

theorem read_effect (q : Q) (n : Nat) : ReadEffect q (q.read n).1 := by
  unfold Q.read
  by_cases hI : q.useInterleaving = true
  · rw [if_pos hI]
    dsimp only
    split
    · rename_i iSet rest hq
      split
      · exact .inl rfl
      · refine .inr ⟨bytesOf iSet.chunks, ?_, ?_, rfl, Nat.le_refl _, Nat.le_refl _, Nat.le_refl _, ?_, fun _ h => h⟩
        · simp only [Q.heldBytes, Q.subtractNumBytes, hq, bytesOfMIDSets_cons]; omega
        · simp only [Q.subtractNumBytes, copyLoop_total]; simp
        · simp only [Q.unorderedMIDEntryCount, Q.subtractNumBytes, hq, List.length_cons]; omega
    · split
      · rename_i iSet rest hq
        by_cases hc : (!iSet.isComplete) = true
        · rw [if_pos hc]; exact .inl rfl
        rw [if_neg hc]
        by_cases hg : sna32GT iSet.mid q.nextMID = true
        · rw [if_pos hg]; exact .inl rfl
        rw [if_neg hg]
        split
        · exact .inl rfl
        · refine .inr ⟨bytesOf iSet.chunks, ?_, ?_, rfl, Nat.le_refl _, Nat.le_refl _, ?_, Nat.le_refl _, fun _ h => h⟩
          · simp only [Q.heldBytes, Q.subtractNumBytes, hq, bytesOfMIDSets_cons]; omega
          · simp only [Q.subtractNumBytes, copyLoop_total]; simp
          · simp only [Q.subtractNumBytes, hq, List.length_cons]; omega
      · exact .inl rfl
  · rw [if_neg hI]
    dsimp only
    split
    · rename_i cset rest hq
      split
      · exact .inl rfl
      · refine .inr ⟨bytesOf cset.chunks, ?_, ?_, rfl, Nat.le_refl _, ?_, Nat.le_refl _, Nat.le_refl _, fun _ h => h⟩
        · simp only [Q.heldBytes, Q.subtractNumBytes, hq, bytesOfSets_cons]; omega
        · simp only [Q.subtractNumBytes, copyLoop_total]; simp
        · simp only [Q.unorderedDataEntryCount, Q.subtractNumBytes, hq, countChunks_cons]; omega
    · split
      · rename_i cset rest hq
        by_cases hc : (!cset.isComplete) = true
        · rw [if_pos hc]; exact .inl rfl
        rw [if_neg hc]
        by_cases hg : sna16GT cset.ssn q.nextSSN = true
        · rw [if_pos hg]; exact .inl rfl
        rw [if_neg hg]
        split
        · exact .inl rfl
        · refine .inr ⟨bytesOf cset.chunks, ?_, ?_, rfl, ?_, Nat.le_refl _, Nat.le_refl _, Nat.le_refl _,
            fun _ h => hq ▸ List.mem_cons_of_mem _ h⟩
          · simp only [Q.heldBytes, Q.subtractNumBytes, hq, bytesOfSets_cons]; omega
          · simp only [Q.subtractNumBytes, copyLoop_total]; simp
          · simp only [Q.orderedDataEntryCount, Q.subtractNumBytes, hq, countChunks_cons]; omega
      · exact .inl rfl

/-- bytes a single op can add to the queue. -/
def Op.bytes : Op → Nat
  | .push c => c.len
  | _ => 0

def pushedBytes (ops : List Op) : Nat := (ops.map Op.bytes).sum

/-- counter invariant: the counter is the truth, and the truth is bounded by what was ever pushed. -/
def CInv (q : Q) (B : Nat) : Prop := q.nBytes.toNat = q.heldBytes ∧ q.heldBytes ≤ B

theorem CInv_new (si : BitVec 16) (me : BitVec 32) : CInv (new si me) 0 := by
  simp [CInv, new, Q.heldBytes]

/-- a step that shrinks one container from `x` to `x'` bytes and lowers the counter by the same amount. -/
theorem CInv.of_release {q q' : Q} {B x x' : Nat} (h : CInv q B) (hh : q'.heldBytes + x = q.heldBytes + x')
    (hn : q'.nBytes.toNat + x = q.nBytes.toNat + x') (hx : x' ≤ x) : CInv q' B := by
  obtain ⟨h1, h2⟩ := h
  exact ⟨by omega, by omega⟩

theorem CInv_step {q : Q} {B : Nat} (h : CInv q B) (op : Op) (hB : B + op.bytes < 2^63) :
    CInv (q.step op) (B + op.bytes) := by
  have ⟨h1, h2⟩ := h
  have hB' : B < 2^63 := Nat.lt_of_le_of_lt (Nat.le_add_right _ _) hB
  cases op with
  | push c =>
    simp only [Q.step, Op.bytes] at hB ⊢
    rcases (pushWithError_effect q c).bytes with ⟨e1, e2⟩ | ⟨e1, e2⟩
    · exact ⟨by rw [e1, e2, h1], by omega⟩
    · exact ⟨by rw [e1, e2, addBytes_toNat _ _ (by omega), h1], by omega⟩
  | read n =>
    rcases read_effect q n with e | ⟨m, e1, e2, _⟩
    · rw [Q.step, e]; exact h
    · exact h.of_release (q' := (q.read n).1) (x' := 0) e1 (by rw [e2, subBytes_exact _ _ (by omega) (by omega)]; omega) (Nat.zero_le m)
  | fwdO s =>
    have hs := fwdOrderedLoop_spec s q.ordered q.nBytes (by rw [h1]; simp only [Q.heldBytes]; omega) (by omega)
    exact h.of_release (by simp only [Q.step, Q.forwardTSNForOrdered, Q.heldBytes]; omega) hs.1 hs.2
  | fwdU t =>
    simp only [Q.step, Q.forwardTSNForUnordered]
    split
    · have hs := bytesOf_take_drop q.unorderedChunks (fwdUnorderedPrefix t q.unorderedChunks)
      have hle : bytesOf (q.unorderedChunks.take (fwdUnorderedPrefix t q.unorderedChunks)) ≤ q.nBytes.toNat := by
        rw [h1]; simp only [Q.heldBytes]; omega
      have := subChunks_exact _ q.nBytes hle (by omega)
      exact h.of_release (x := bytesOf q.unorderedChunks)
        (x' := bytesOf (q.unorderedChunks.drop (fwdUnorderedPrefix t q.unorderedChunks)))
        (by simp only [Q.heldBytes]; omega) (by rw [this]; omega) (by omega)
    · exact h
  | fwdOM m =>
    have hs := fwdOrderedMIDLoop_spec m q.orderedMID q.nBytes (by rw [h1]; simp only [Q.heldBytes]; omega) (by omega)
    exact h.of_release (by simp only [Q.step, Q.forwardTSNForOrderedMID, Q.heldBytes]; omega) hs.1 hs.2
  | fwdUM m =>
    have hs := fwdUnorderedMIDLoop_spec m q.unorderedMIDMap q.nBytes (by rw [h1]; simp only [Q.heldBytes]; omega) (by omega)
    exact h.of_release (by simp only [Q.step, Q.forwardTSNForUnorderedMID, Q.heldBytes]; omega) hs.1 hs.2

theorem CInv_run {q : Q} {B : Nat} (h : CInv q B) (ops : List Op) (hB : B + pushedBytes ops < 2^63) :
    CInv (q.run ops) (B + pushedBytes ops) := by
  induction ops generalizing q B with
  | nil => simpa [Q.run, pushedBytes] using h
  | cons op ops ih =>
    simp only [pushedBytes, List.map_cons, List.sum_cons] at hB ⊢
    have := ih (CInv_step h op (by omega)) (by simp only [pushedBytes]; omega)
    simp only [Q.run, List.foldl_cons] at this ⊢
    simp only [pushedBytes] at this
    rw [Nat.add_assoc] at this
    exact this

/-- the four counts the code limits are within `maxEntries`. -/
def LInv (q : Q) : Prop :=
  q.orderedDataEntryCount ≤ q.maxEntries.toNat ∧ q.unorderedDataEntryCount ≤ q.maxEntries.toNat ∧
  q.orderedMID.length ≤ q.maxEntries.toNat ∧ q.unorderedMIDEntryCount ≤ q.maxEntries.toNat

theorem LInv_new (si : BitVec 16) (me : BitVec 32) : LInv (new si me) := by
  simp [LInv, new, Q.orderedDataEntryCount, Q.unorderedDataEntryCount, Q.unorderedMIDEntryCount]

theorem step_maxEntries (q : Q) (op : Op) : (q.step op).maxEntries = q.maxEntries := by
  cases op with
  | push c => exact (pushWithError_effect q c).me
  | read n =>
    rcases read_effect q n with e | ⟨m, _, _, e, _⟩
    · simp only [Q.step]; rw [e]
    · exact e
  | fwdO s => rfl
  | fwdU t => simp only [Q.step, Q.forwardTSNForUnordered]; split <;> rfl
  | fwdOM m => rfl
  | fwdUM m => rfl

theorem run_maxEntries (q : Q) (ops : List Op) : (q.run ops).maxEntries = q.maxEntries := by
  induction ops generalizing q with
  | nil => rfl
  | cons op ops ih => simp only [Q.run, List.foldl_cons] at *; rw [ih, step_maxEntries]

theorem LInv_step {q : Q} (hpos : q.maxEntries > 0#32) (h : LInv q) (op : Op) : LInv (q.step op) := by
  obtain ⟨h1, h2, h3, h4⟩ := h
  have hme := step_maxEntries q op
  unfold LInv; rw [hme]
  cases op with
  | push c =>
    have e := pushWithError_effect q c
    exact ⟨e.oe.le hpos h1, e.ue.le hpos h2, e.om.le hpos h3, e.um.le hpos h4⟩
  | read n =>
    simp only [Q.step]
    rcases read_effect q n with e | ⟨m, _, _, _, a, b, c, d, _⟩
    · rw [e]; exact ⟨h1, h2, h3, h4⟩
    · exact ⟨by omega, by omega, by omega, by omega⟩
  | fwdO s =>
    refine ⟨Nat.le_trans ?_ h1, h2, h3, h4⟩
    simp only [Q.step, Q.forwardTSNForOrdered, Q.orderedDataEntryCount, fwdOrderedLoop_eq]
    exact countChunks_filter_le _ _
  | fwdU t =>
    simp only [Q.step, Q.forwardTSNForUnordered]
    split
    · refine ⟨h1, Nat.le_trans ?_ h2, h3, h4⟩
      simp only [Q.unorderedDataEntryCount, List.length_drop]; omega
    · exact ⟨h1, h2, h3, h4⟩
  | fwdOM m =>
    refine ⟨h1, h2, Nat.le_trans ?_ h3, h4⟩
    simp only [Q.step, Q.forwardTSNForOrderedMID, fwdOrderedMIDLoop_eq]
    exact List.length_filter_le _ _
  | fwdUM m =>
    refine ⟨h1, h2, h3, Nat.le_trans ?_ h4⟩
    simp only [Q.step, Q.forwardTSNForUnorderedMID, Q.unorderedMIDEntryCount, fwdUnorderedMIDLoop_eq]
    exact Nat.add_le_add_right (List.length_filter_le _ _) _

theorem LInv_run {q : Q} (hpos : q.maxEntries > 0#32) (h : LInv q) (ops : List Op) : LInv (q.run ops) := by
  induction ops generalizing q with
  | nil => exact h
  | cons op ops ih =>
    simp only [Q.run, List.foldl_cons]
    exact ih (by rw [step_maxEntries]; exact hpos) (LInv_step hpos h op)

end Reasm
