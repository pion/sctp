import SctpVerif.Proofs.ReasmUnordRun
/-!
C06, unordered reassembly: ordered and unordered DATA messages on the SAME stream.
Frame lemmas (a push of one class never reads or writes the containers / cursor of the other class; `read` serves a
waiting unordered message first and then touches nothing of the ordered class) and the run that carries the ordered
refinement `OrdInv` (of `Proofs/ReasmOrd.lean`, on the queue with `unordered` masked) next to the unordered one `UInv`.
-/
set_option linter.unusedVariables false
set_option linter.unusedSimpArgs false
namespace Reasm
open Gen

theorem ite_fst_rel {α β : Type} {P : α → α → Prop} {c : Prop} [Decidable c] {a b a' b' : α × β}
    (ha : P a.1 a'.1) (hb : P b.1 b'.1) : P (if c then a else b).1 (if c then a' else b').1 := by
  by_cases h : c
  · rw [if_pos h, if_pos h]; exact ha
  · rw [if_neg h, if_neg h]; exact hb

/-- pushing an ORDERED DATA chunk writes `ordered` and `nBytes` only, and what it writes does not depend on
`unordered`: every leaf of the decision tree of `pushWithError` returns `q` with these two fields replaced. -/
theorem pushO_only (q : Q) (c : Chunk) (h1 : c.iData = false) (h3 : c.unordered = false) (u : List ChunkSet)
    (P : Q → Q → Prop)
    (hP : ∀ o nb, P { q with ordered := o, nBytes := nb } { q with unordered := u, ordered := o, nBytes := nb }) :
    P (q.pushWithError c).1 (({ q with unordered := u } : Q).pushWithError c).1 := by
  unfold Q.pushWithError
  simp only [h1, h3, Bool.false_eq_true, ↓reduceIte]
  refine ite_fst_rel (hP _ _) (ite_fst_rel (hP _ _) ?_)
  generalize (if c.isFragmented = true then findFragSet c.ssn q.ordered else FindO.notFound) = r
  cases r
  · exact ite_fst_rel (hP _ _) (hP _ _)
  · exact ite_fst_rel (hP _ _) (ite_fst_rel (hP _ _) (hP _ _))
  · exact hP _ _

/-- pushing an ordered DATA chunk commutes with masking `unordered`, and leaves `unordered` / `unorderedChunks` as they are. -/
theorem pushO_frame (q : Q) (c : Chunk) (h1 : c.iData = false) (h3 : c.unordered = false) :
    (({ q with unordered := [] } : Q).pushWithError c).1 = { (q.pushWithError c).1 with unordered := [] } ∧
    (q.pushWithError c).1.unordered = q.unordered ∧ (q.pushWithError c).1.unorderedChunks = q.unorderedChunks ∧
    (q.pushWithError c).1.si = q.si ∧ (q.pushWithError c).1.useInterleaving = q.useInterleaving :=
  pushO_only q c h1 h3 [] (fun a b => b = { a with unordered := [] } ∧ a.unordered = q.unordered ∧
    a.unorderedChunks = q.unorderedChunks ∧ a.si = q.si ∧ a.useInterleaving = q.useInterleaving)
    (fun _ _ => ⟨rfl, rfl, rfl, rfl, rfl⟩)

theorem mask_eq (q : Q) (h : q.unordered = []) : ({ q with unordered := [] } : Q) = q := by
  rw [← h]

/-- `OrdInv` looks at five fields only. -/
theorem OrdInv.congr {S q d A P} (h : OrdInv S q d A P) (q' : Q) (h1 : q'.si = q.si)
    (h2 : q'.useInterleaving = q.useInterleaving) (h3 : q'.unordered = q.unordered) (h4 : q'.nextSSN = q.nextSSN)
    (h5 : q'.ordered = q.ordered) : OrdInv S q' d A P :=
  { si := by rw [h1, h.si], il := by rw [h2, h.il], un := by rw [h3, h.un], cur := by rw [h4, h.cur],
    ord := by rw [h5, h.ord], sorted := h.sorted, win := h.win, wf := h.wf, pushed := h.pushed, done := h.done }

/-- `UInv` looks at four fields only. -/
theorem UInv.congr {S σ q D W U P G} (h : UInv S σ q D W U P G) (q' : Q) (h1 : q'.si = q.si)
    (h2 : q'.useInterleaving = q.useInterleaving) (h3 : q'.unordered = q.unordered)
    (h4 : q'.unorderedChunks = q.unorderedChunks) : UInv S σ q' D W U P G :=
  { si := by rw [h1, h.si], il := by rw [h2, h.il], uc := by rw [h4, h.uc], un := by rw [h3, h.un],
    sorted := h.sorted, valid := h.valid, upush := h.upush, nodup := h.nodup, dwlen := h.dwlen, dwpush := h.dwpush,
    disj := h.disj, nocomp := h.nocomp, track := h.track }

/-- a stream that carries both classes: `pushO` = fragment of an ordered message (universe `SO`), `pushU` = fragment of
an unordered message (universe `SU`), `read`. -/
inductive MOp
  | pushO (k i : Nat)
  | pushU (k i : Nat)
  | read (buflen : Nat)
deriving Repr

/-- the successful reads of a mixed run, each tagged with the class that served it (`true` = a complete unordered
message was waiting in `unordered`: `read` serves that one). -/
def mixDeliveries (fo fu : Nat → Nat → Chunk) : Q → List MOp → List (Bool × PPI × List UInt8)
  | _, [] => []
  | q, .pushO k i :: ops => mixDeliveries fo fu (q.pushWithError (fo k i)).1 ops
  | q, .pushU k i :: ops => mixDeliveries fo fu (q.pushWithError (fu k i)).1 ops
  | q, .read n :: ops =>
    (if (q.read n).2.err = .ok then [(!q.unordered.isEmpty, (q.read n).2.ppi, (q.read n).2.data)] else []) ++
      mixDeliveries fo fu (q.read n).1 ops

def mixFinal (fo fu : Nat → Nat → Chunk) : Q → List MOp → Q
  | q, [] => q
  | q, .pushO k i :: ops => mixFinal fo fu (q.pushWithError (fo k i)).1 ops
  | q, .pushU k i :: ops => mixFinal fo fu (q.pushWithError (fu k i)).1 ops
  | q, .read n :: ops => mixFinal fo fu (q.read n).1 ops

/-- unordered fragments taken without error in a mixed run. -/
def mixAccepted (fo fu : Nat → Nat → Chunk) : Q → List MOp → List (Nat × Nat)
  | _, [] => []
  | q, .pushO k i :: ops => mixAccepted fo fu (q.pushWithError (fo k i)).1 ops
  | q, .pushU k i :: ops =>
    (if (q.pushWithError (fu k i)).2.2 = .none then [(k, i)] else []) ++ mixAccepted fo fu (q.pushWithError (fu k i)).1 ops
  | q, .read n :: ops => mixAccepted fo fu (q.read n).1 ops

/-- admissible mixed runs: per class what `Admissible` (ordered: window 2^15 relative to the number `d` of ORDERED
messages read) and `AdmissibleU` (unordered) ask; `PO` / `PU` = fragments pushed so far per class. -/
def AdmissibleM (SO SU : Sender) (fo fu : Nat → Nat → Chunk) :
    Q → Nat → List (Nat × Nat) → List (Nat × Nat) → List MOp → Prop
  | _, _, _, _, [] => True
  | q, d, PO, PU, .pushO k i :: ops =>
      k < SO.msgs.length ∧ i < SO.nf k ∧ (k, i) ∉ PO ∧ k < d + 2^15 ∧
      AdmissibleM SO SU fo fu (q.pushWithError (fo k i)).1 d ((k, i) :: PO) PU ops
  | q, d, PO, PU, .pushU k i :: ops =>
      k < SU.msgs.length ∧ i < SU.nf k ∧ (k, i) ∉ PU ∧
      AdmissibleM SO SU fo fu (q.pushWithError (fu k i)).1 d PO ((k, i) :: PU) ops
  | q, d, PO, PU, .read n :: ops =>
      AdmissibleM SO SU fo fu (q.read n).1
        (if (q.read n).2.err = .ok ∧ q.unordered.isEmpty = true then d + 1 else d) PO PU ops

instance decAdmissibleM (SO SU : Sender) (fo fu : Nat → Nat → Chunk) :
    ∀ q d PO PU ops, Decidable (AdmissibleM SO SU fo fu q d PO PU ops)
  | _, _, _, _, [] => isTrue trivial
  | q, d, PO, PU, .pushO k i :: ops =>
    have := decAdmissibleM SO SU fo fu (q.pushWithError (fo k i)).1 d ((k, i) :: PO) PU ops
    by unfold AdmissibleM; exact inferInstance
  | q, d, PO, PU, .pushU k i :: ops =>
    have := decAdmissibleM SO SU fo fu (q.pushWithError (fu k i)).1 d PO ((k, i) :: PU) ops
    by unfold AdmissibleM; exact inferInstance
  | q, d, PO, PU, .read n :: ops =>
    have := decAdmissibleM SO SU fo fu (q.read n).1
      (if (q.read n).2.err = .ok ∧ q.unordered.isEmpty = true then d + 1 else d) PO PU ops
    by unfold AdmissibleM; exact inferInstance

def ordPart (l : List (Bool × PPI × List UInt8)) : List (PPI × List UInt8) := (l.filter (fun x => !x.1)).map (·.2)
def unordPart (l : List (Bool × PPI × List UInt8)) : List (PPI × List UInt8) := (l.filter (fun x => x.1)).map (·.2)

theorem mix_run {SO SU : Sender} {σ} (hSO : SO.WF) (hSU : SU.UWF) (hsi : SU.si = SO.si) (ops : List MOp) :
    ∀ {q d A PO D W U PU G}, OrdInv SO { q with unordered := [] } d A PO → UInv SU σ q D W U PU G →
      AdmissibleM SO SU SO.dataFrag (SU.udataFrag σ) q d PO PU ops →
      ordPart (mixDeliveries SO.dataFrag (SU.udataFrag σ) q ops) <+: (SO.msgs.drop d).map Msg.out ∧
      ∃ D' W' U' PU' G', UInv SU σ (mixFinal SO.dataFrag (SU.udataFrag σ) q ops) (D ++ D') W' U' PU' G' ∧
        unordPart (mixDeliveries SO.dataFrag (SU.udataFrag σ) q ops) = D'.map SU.out ∧
        (∀ p, p ∈ G' ↔ p ∈ G ∨ p ∈ mixAccepted SO.dataFrag (SU.udataFrag σ) q ops) := by
  induction ops with
  | nil =>
    intro q d A PO D W U PU G ho hu _
    exact ⟨List.nil_prefix, [], W, U, PU, G, by rw [List.append_nil]; exact hu, rfl, fun p => by rw [mixAccepted, List.mem_nil_iff, or_false]⟩
  | cons op ops ih =>
    intro q d A PO D W U PU G ho hu hadm
    cases op with
    | pushO k i =>
      obtain ⟨hk, hi, hP, hw, hrest⟩ := hadm
      obtain ⟨A', ho'⟩ := ho.push hSO hk hi hP hw
      obtain ⟨hmask, f1, f2, f3, f4⟩ := pushO_frame q (SO.dataFrag k i) rfl rfl
      rw [hmask] at ho'
      exact ih ho' (hu.congr _ f3 f4 f1 f2) hrest
    | pushU k i =>
      obtain ⟨hk, hi, hP, hrest⟩ := hadm
      obtain ⟨hfr, W1, U1, hu'⟩ := hu.push hSU hk hi hP
      obtain ⟨hpre, D', W', U', PU', G', h', hdel, hG⟩ :=
        ih (ho.congr { (q.pushWithError (SU.udataFrag σ k i)).1 with unordered := [] } hfr.si hfr.il rfl hfr.nextSSN
          hfr.ordered) hu' hrest
      exact ⟨hpre, D', W', U', PU', G', h', hdel, mem_acc_cons hG⟩
    | read n =>
      rw [AdmissibleM] at hadm
      rw [mixDeliveries, mixFinal, mixAccepted]
      cases hW : W with
      | nil =>
        -- nothing unordered is waiting: the read is the ordered queue's
        have hun : q.unordered = [] := by rw [hu.un, hW]; rfl
        rw [mask_eq q hun] at ho
        rw [hun] at hadm ⊢
        rcases ho.read hSO n with ⟨hne, hq⟩ | ⟨hok, hd, hppi, hdata, A', ho'⟩
        · rw [if_neg (fun h => hne h.1), hq] at hadm
          rw [if_neg hne, hq]
          exact ih (by rw [mask_eq q hun]; exact ho) hu hadm
        · rw [if_pos ⟨hok, rfl⟩] at hadm
          rw [if_pos hok]
          -- the ordered read leaves the unordered containers alone
          have hun' : (q.read n).1.unordered = [] := ho'.un
          have huc' := read_only q n (fun q' : Q => q'.unorderedChunks = q.unorderedChunks)
            (fun _ _ _ _ _ _ _ => rfl)
          have hu' : UInv SU σ (q.read n).1 D W U PU G :=
            hu.congr _ (by rw [ho'.si, ho.si]) (by rw [ho'.il, ho.il]) (by rw [hun', hun]) huc'
          obtain ⟨hpre, D', W', U', PU', G', h', hdel, hG⟩ :=
            ih (by rw [mask_eq _ hun']; exact ho') (hW ▸ hu') hadm
          refine ⟨?_, D', W', U', PU', G', h', hdel, hG⟩
          have hdrop : SO.msgs.drop d = SO.msgs[d] :: SO.msgs.drop (d + 1) := List.drop_eq_getElem_cons hd
          have hmsg : SO.msg d = SO.msgs[d] := by
            rw [Sender.msg, List.getD_eq_getElem?_getD, List.getElem?_eq_getElem hd, Option.getD_some]
          rw [hdrop, List.map_cons, hppi, hdata, hmsg]
          exact (List.prefix_cons_inj _).2 hpre
      | cons k W0 =>
        have hne : q.unordered.isEmpty = false := by rw [hu.un, hW]; rfl
        rw [hne, if_neg (fun h => Bool.noConfusion h.2)] at hadm
        rw [hne]
        rcases hu.read hW n with ⟨herr, hq⟩ | ⟨hok, hppi, hdata, hfr, _, hu'⟩
        · rw [hq] at hadm ⊢
          rw [if_neg (by rw [herr]; exact RErr.noConfusion)]
          exact ih ho (hW ▸ hu) hadm
        · obtain ⟨hpre, D', W', U', PU', G', h', hdel, hG⟩ :=
            ih (ho.congr { (q.read n).1 with unordered := [] } hfr.si hfr.il rfl hfr.nextSSN hfr.ordered) hu' hadm
          rw [if_pos hok]
          refine ⟨hpre, k :: D', W', U', PU', G', by rw [List.append_cons]; exact h', ?_, hG⟩
          rw [hppi, hdata]
          exact congrArg (SU.out k :: ·) hdel

end Reasm
