import SctpVerif.Proofs.StreamApi.Read
import SctpVerif.Proofs.StreamApi.Write
import SctpVerif.Proofs.StreamApi.Ids
import SctpVerif.Proofs.StreamApi.Run
import SctpVerif.Proofs.StreamApi.Outcome
import SctpVerif.Proofs.StreamApi.Step
import SctpVerif.Proofs.StreamApi.Gate
import SctpVerif.Proofs.StreamApi.Evol
import SctpVerif.Proofs.StreamApi.Policy
import SctpVerif.Proofs.StreamApi.PolicyRun
/-! Helper lemmas about the L0 model `Model/StreamApi.lean` (used by `Props/C18.lean`, `Props/C06.lean`):
`Read` the read half (`reassemblyQueue.read` by the message at its head, deadline timer) · `Write` the three outcomes of
`write`, the outcomes of `gather` for parked calls · `Ids` counters and fragments of `packetize`, what the sender operations
leave alone in the stream table, a parked call that fails · `Run` the invariant of parked calls `WInv` and the settled counters
state by state (a call accepted, parked, released, failed; `SameW`) · `Outcome` what one operation does to the write half, as a
relation with one rule per way it can move (`Out`, `step_out`); every invariant below is proved rule by rule · `Step` one operation
against `WInv` (`step_settled`) and runs (`run_winv`) · `Gate` the blocking-write gate (`GInv`, `run_ginv`) · `Evol` (about `Sender` alone) how
one in-flight chunk changes under gather / SACK / T3 / ticks (`Closed` per-chunk predicates) · `Policy` (about `Sender` alone) the three
predicates (retransmission limit, lifetime, abandoned()) · `PolicyRun` their lifting to runs of `Sapi.Op` (`RunHyp`, `RInv`, `run_rinv`,
`gather_emits`). -/
