import SctpVerif.Model.Timer
/-!
Invariants of the timer automata of `Model/Timer.lean` (C19, DESIGN Appendix C / E5). Core only.
`PInv` is the part `rtxTimer` and `ackTimer` share (the `pending` counter against the runtime timer),
stated about the triple (state, `pending`, runtime timer) alone; `RInv` and `AInv` add what is particular
to each. Each operation of the models has its equations (`RtxSys.*_of_*`, `RtxSys.run_*`, `AckSys.*`),
one per branch, and the invariant proofs go through those. `ackTimer` is one shot with a constant
interval; `AInv` carries the deadline law behind "an acknowledgement is never delayed by more than 200 ms".
-/
namespace TimerProofs
open Timer

/-- number the `pending` counter is supposed to hold -/
def live (g : GoTimer) : Nat := (if g.armed.isSome then 1 else 0) + g.spawned.length

@[simp] theorem stop_armed (g : GoTimer) : g.stop.1.armed = none := rfl
@[simp] theorem stop_spawned (g : GoTimer) : g.stop.1.spawned = g.spawned := rfl
theorem stop_ret (g : GoTimer) : g.stop.2 = g.armed.isSome := rfl

theorem bv8_pred (p : BitVec 8) (h : 1 ≤ p.toNat) : (p - 1).toNat = p.toNat - 1 := by
  have := p.isLt
  rw [BitVec.toNat_sub]; show (255 + p.toNat) % 256 = _; omega

variable {st st' : TState} {p : BitVec 8} {g : GoTimer} {i : Nat}

theorem live_of_unarmed (h : g.armed = none) : live g = g.spawned.length := by
  simp only [live, h, Option.isSome_none, Bool.false_eq_true, if_false, Nat.zero_add]

theorem live_of_armed (h : g.armed.isSome) : live g = 1 + g.spawned.length := by
  simp only [live, h, if_true]

theorem fire_of_unarmed (h : g.armed = none) : g.fire = g := by simp only [GoTimer.fire, h]

theorem fire_of_armed {d tag : Nat} (h : g.armed = some (d, tag)) :
    g.fire = { armed := none, spawned := g.spawned ++ [tag] } := by simp only [GoTimer.fire, h]

theorem fire_armed (g : GoTimer) : g.fire.armed = none := by
  cases h : g.armed with
  | none => rw [fire_of_unarmed h, h]
  | some x => rw [fire_of_armed h]

theorem live_fire (g : GoTimer) : live g.fire = live g := by
  cases h : g.armed with
  | none => rw [fire_of_unarmed h]
  | some x =>
    rw [fire_of_armed h, live_of_unarmed rfl, live_of_armed (by rw [h]; rfl), List.length_append, Nat.add_comm]; rfl

/-- `pending` counts the armed runtime timer and the fired callbacks that have not run yet; the runtime
timer is armed only while started; a started timer has an expiry on its way. Both automata keep it. -/
structure PInv (st : TState) (p : BitVec 8) (g : GoTimer) : Prop where
  cnt : p.toNat = live g
  armedStarted : g.armed.isSome → st = .started
  alive : st = .started → 1 ≤ live g

theorem PInv.unarmed (h : PInv st p g) (hst : st ≠ .started) : g.armed = none :=
  Option.not_isSome_iff_eq_none.mp fun ha => hst (h.armedStarted ha)

theorem PInv.due (h : PInv st p g) (hst : st = .started) : g.armed.isSome ∨ g.spawned ≠ [] := by
  have := h.alive hst
  by_cases ha : g.armed.isSome
  · exact .inl ha
  · rw [live_of_unarmed (Option.not_isSome_iff_eq_none.mp ha)] at this
    exact .inr (List.ne_nil_of_length_pos this)

theorem PInv.idle (hc : p.toNat = g.spawned.length) (ha : g.armed = none) (hst : st ≠ .started) : PInv st p g :=
  ⟨by rw [live_of_unarmed ha]; exact hc, fun h => (by rw [ha] at h; cases h), fun h => absurd h hst⟩

theorem PInv.cnt_idle (h : PInv st p g) (hst : st ≠ .started) : p.toNat = g.spawned.length := by
  rw [h.cnt, live_of_unarmed (h.unarmed hst)]

theorem PInv.retag (h : PInv st p g) (hst : st ≠ .started) (hst' : st' ≠ .started) : PInv st' p g :=
  .idle (h.cnt_idle hst) (h.unarmed hst) hst'

/-- `timer.Reset` on an idle timer, with the increment of `pending` that goes with it -/
theorem PInv.start (h : PInv st p g) (hst : st ≠ .started) (hst' : st' = .started) (hb : g.spawned.length < 255)
    (now : Nat) (d : Int) (tag : Nat) : PInv st' (p + 1) (g.reset now d tag) := by
  have hc := h.cnt_idle hst
  have hl : live (g.reset now d tag) = 1 + g.spawned.length := live_of_armed rfl
  exact ⟨by rw [hl, BitVec.toNat_add]; show (p.toNat + 1) % 256 = _; omega, fun _ => hst', fun _ => by rw [hl]; omega⟩

/-- `timer.Stop()` with the conditional decrement that goes with it -/
theorem PInv.stop (h : PInv st p g) (hst : st' ≠ .started) : PInv st' (if g.stop.2 then p - 1 else p) g.stop.1 := by
  refine .idle ?_ rfl hst
  have hc := h.cnt
  rw [stop_ret, stop_spawned]
  by_cases ha : g.armed.isSome
  · rw [if_pos ha, bv8_pred p (by rw [hc, live_of_armed ha]; omega), hc, live_of_armed ha]; omega
  · rw [if_neg ha, ← live_of_unarmed (Option.not_isSome_iff_eq_none.mp ha)]; exact hc

theorem PInv.fire (h : PInv st p g) : PInv st p g.fire :=
  ⟨by rw [live_fire]; exact h.cnt, fun ha => (by rw [fire_armed] at ha; cases ha), by rw [live_fire]; exact h.alive⟩

theorem live_take (hi : i < g.spawned.length) : live { g with spawned := g.spawned.eraseIdx i } + 1 = live g := by
  simp only [live, List.length_eraseIdx_of_lt hi]; omega

/-- `timeout()` finds `pending - 1 = 0` exactly when it runs as the last outstanding callback of an
unarmed runtime timer -/
theorem PInv.pred_zero_iff (h : PInv st p g) (hi : i < g.spawned.length) :
    p - 1 = 0 ↔ g.armed = none ∧ g.spawned.length = 1 := by
  have hl := live_take hi
  rw [← BitVec.toNat_inj, bv8_pred p (by rw [h.cnt]; omega), h.cnt]
  show live g - 1 = 0 ↔ _
  cases ha : g.armed with
  | none => rw [live_of_unarmed ha, eq_self, true_and]; omega
  | some x => rw [live_of_armed (by rw [ha]; rfl)]; exact ⟨fun h0 => by omega, nofun⟩

/-- a callback that is not the last one, or comes after `stop`, only decrements -/
theorem PInv.absorb (h : PInv st p g) (hi : i < g.spawned.length) (hc : ¬(p - 1 = 0 ∧ st = .started)) :
    PInv st (p - 1) { g with spawned := g.spawned.eraseIdx i } := by
  have hl := live_take hi
  have hcnt : (p - 1).toNat = live { g with spawned := g.spawned.eraseIdx i } := by
    rw [bv8_pred p (by rw [h.cnt]; omega), h.cnt]; omega
  refine ⟨hcnt, h.armedStarted, fun hst => Nat.pos_of_ne_zero fun h0 => hc ⟨?_, hst⟩⟩
  rw [← BitVec.toNat_inj, hcnt, h0]; rfl

theorem PInv.last (h : PInv st p g) (hi : i < g.spawned.length) (h0 : p - 1 = 0) :
    g.armed = none ∧ g.spawned.eraseIdx i = [] ∧ PInv .stopped (p - 1) { g with spawned := g.spawned.eraseIdx i } := by
  obtain ⟨ha, h1⟩ := (h.pred_zero_iff hi).mp h0
  have hn : g.spawned.eraseIdx i = [] := List.eq_nil_of_length_eq_zero (by rw [List.length_eraseIdx_of_lt hi, h1])
  exact ⟨ha, hn, .idle (by rw [h0, hn]; rfl) ha nofun⟩

variable {tid k : Nat} {s : RtxSys}

theorem RtxSys.start_of_stopped (h : s.t.state = .stopped) (ivl : Nat → Int) :
    s.start ivl = ({ s with
      t := { s.t with ivl := ivl, nRtos := 0, state := .started, pending := s.t.pending + 1 },
      g := s.g.reset s.now (ivl 0) (s.epoch + 1), epoch := s.epoch + 1, fires := 0 }, true) := by
  unfold RtxSys.start; exact if_neg fun hn => hn h

theorem RtxSys.start_of_not_stopped (h : s.t.state ≠ .stopped) (ivl : Nat → Int) : s.start ivl = (s, false) := by
  unfold RtxSys.start; exact if_pos h

theorem RtxSys.stop_of_started (h : s.t.state = .started) :
    s.stop = { s with
      g := s.g.stop.1,
      t := { s.t with pending := if s.g.stop.2 then s.t.pending - 1 else s.t.pending, state := .stopped } } := by
  unfold RtxSys.stop; exact if_pos h

theorem RtxSys.stop_of_not_started (h : s.t.state ≠ .started) : s.stop = s := by
  unfold RtxSys.stop; exact if_neg h

theorem RtxSys.stop_state (s : RtxSys) : s.stop.t.state ≠ .started := by
  by_cases h : s.t.state = .started
  · rw [RtxSys.stop_of_started h]; nofun
  · rw [RtxSys.stop_of_not_started h]; exact h

theorem RtxSys.close_eq (s : RtxSys) : s.close = { s.stop with t := { s.stop.t with state := .closed } } := by
  unfold RtxSys.close
  by_cases h : s.t.state = .started
  · rw [if_pos h, RtxSys.stop_of_started h]
  · rw [if_neg h, RtxSys.stop_of_not_started h]

theorem RtxSys.fire_of_armed (h : s.g.armed.isSome) : s.fire = { s with g := s.g.fire, fires := s.fires + 1 } := by
  unfold RtxSys.fire; exact if_pos h

theorem RtxSys.fire_of_unarmed (h : s.g.armed = none) : s.fire = s := by
  unfold RtxSys.fire; rw [h]; rfl

theorem RtxSys.run_of_not_lt (h : ¬ i < s.g.spawned.length) : s.run i = (s, none) := by
  unfold RtxSys.run; exact if_neg h

theorem RtxSys.run_absorbed (hi : i < s.g.spawned.length) (hc : ¬(s.t.pending - 1 = 0 ∧ s.t.state = .started)) :
    s.run i = ({ s with g := { s.g with spawned := s.g.spawned.eraseIdx i },
                        t := { s.t with pending := s.t.pending - 1 } }, none) := by
  simp only [RtxSys.run, RtxSys.timeout, if_pos hi, if_neg hc]

theorem RtxSys.run_rearm (hi : i < s.g.spawned.length) (hc : s.t.pending - 1 = 0 ∧ s.t.state = .started)
    (hb : s.t.maxRetrans = 0 ∨ s.t.nRtos + 1 ≤ s.t.maxRetrans) :
    s.run i = ({ s with t := { s.t with nRtos := s.t.nRtos + 1, pending := s.t.pending - 1 + 1 },
                        g := GoTimer.reset { s.g with spawned := s.g.spawned.eraseIdx i } s.now
                          (s.t.ivl (s.t.nRtos + 1)) s.epoch },
               some (.timeout s.t.id (s.t.nRtos + 1))) := by
  simp only [RtxSys.run, RtxSys.timeout, if_pos hi, if_pos hc, if_pos hb]

theorem RtxSys.run_failure (hi : i < s.g.spawned.length) (hc : s.t.pending - 1 = 0 ∧ s.t.state = .started)
    (hb : ¬(s.t.maxRetrans = 0 ∨ s.t.nRtos + 1 ≤ s.t.maxRetrans)) :
    s.run i = ({ s with g := { s.g with spawned := s.g.spawned.eraseIdx i },
                        t := { s.t with nRtos := s.t.nRtos + 1, pending := s.t.pending - 1, state := .stopped } },
               some (.failure s.t.id)) := by
  simp only [RtxSys.run, RtxSys.timeout, if_pos hi, if_pos hc, if_neg hb]

/-- a trace in which fewer than 255 fired callbacks are ever waiting for the mutex at once
(`pending` is a `uint8`) -/
def RtxSys.Tame (s : RtxSys) : List Op → Prop
  | [] => True
  | o :: os => s.g.spawned.length < 255 ∧ RtxSys.Tame (s.step o).1 os

instance RtxSys.decTame : (s : RtxSys) → (os : List Op) → Decidable (RtxSys.Tame s os)
  | _, [] => isTrue trivial
  | s, o :: os =>
    have := RtxSys.decTame (s.step o).1 os
    inferInstanceAs (Decidable (s.g.spawned.length < 255 ∧ RtxSys.Tame (s.step o).1 os))

/-- `armedTag`: the runtime timer was armed by (or after) the latest `start`; `acct`: `nRtos` counts the
runtime fires since then, the one whose callback is still due apart; `budget`: a started timer with a
budget has not used it up -/
structure RInv (tid k : Nat) (s : RtxSys) : Prop where
  pinv : PInv s.t.state s.t.pending s.g
  cid : s.t.id = tid
  ck : s.t.maxRetrans = k
  armedTag : ∀ d tag, s.g.armed = some (d, tag) → tag = s.epoch
  acct : s.t.state = .started → s.t.nRtos + (if s.g.armed.isSome then 0 else 1) = s.fires
  budget : k ≠ 0 → s.t.state = .started → s.t.nRtos ≤ k

theorem rinv_new (tid k : Nat) : RInv tid k (RtxSys.new tid k) :=
  ⟨.idle rfl rfl nofun, rfl, rfl, nofun, nofun, nofun⟩

theorem rinv_start (ivl : Nat → Int) (h : RInv tid k s) (hb : s.g.spawned.length < 255) :
    RInv tid k (s.start ivl).1 := by
  by_cases hst : s.t.state = .stopped
  · rw [RtxSys.start_of_stopped hst]
    exact ⟨h.pinv.start (by rw [hst]; nofun) rfl hb _ _ _, h.cid, h.ck,
      fun _ _ hx => (by cases hx; rfl), fun _ => rfl, fun _ _ => Nat.zero_le _⟩
  · rw [RtxSys.start_of_not_stopped hst]; exact h

theorem rinv_stop (h : RInv tid k s) : RInv tid k s.stop := by
  by_cases hst : s.t.state = .started
  · rw [RtxSys.stop_of_started hst]; exact ⟨h.pinv.stop nofun, h.cid, h.ck, nofun, nofun, nofun⟩
  · rw [RtxSys.stop_of_not_started hst]; exact h

theorem rinv_close (h : RInv tid k s) : RInv tid k s.close := by
  have h' := rinv_stop h
  rw [RtxSys.close_eq]
  exact ⟨h'.pinv.retag (RtxSys.stop_state s) nofun, h'.cid, h'.ck, h'.armedTag, nofun, nofun⟩

theorem rinv_fire (h : RInv tid k s) : RInv tid k s.fire := by
  cases ha : s.g.armed with
  | none => rw [RtxSys.fire_of_unarmed ha]; exact h
  | some x =>
    have ha' : s.g.armed.isSome := by rw [ha]; rfl
    have hacct := h.acct (h.pinv.armedStarted ha')
    rw [if_pos ha'] at hacct
    rw [RtxSys.fire_of_armed ha']
    refine ⟨h.pinv.fire, h.cid, h.ck, fun d tag hx => ?_, fun _ => ?_, h.budget⟩
    · rw [fire_armed] at hx; cases hx
    · show _ + (if s.g.fire.armed.isSome then 0 else 1) = s.fires + 1
      rw [fire_armed, ← hacct]; rfl

theorem run_delivers_iff (s : RtxSys) (i : Nat) (h : RInv tid k s) (hi : i < s.g.spawned.length) :
    (s.run i).2.isSome ↔ (s.t.state = .started ∧ s.g.armed = none ∧ s.g.spawned.length = 1) := by
  rw [← h.pinv.pred_zero_iff hi, and_comm]
  by_cases hc : s.t.pending - 1 = 0 ∧ s.t.state = .started
  · by_cases hb : s.t.maxRetrans = 0 ∨ s.t.nRtos + 1 ≤ s.t.maxRetrans
    · rw [RtxSys.run_rearm hi hc hb]; exact iff_of_true rfl hc
    · rw [RtxSys.run_failure hi hc hb]; exact iff_of_true rfl hc
  · rw [RtxSys.run_absorbed hi hc]; exact iff_of_false nofun hc

theorem rinv_run (i : Nat) (h : RInv tid k s) : RInv tid k (s.run i).1 := by
  by_cases hi : i < s.g.spawned.length
  · by_cases hc : s.t.pending - 1 = 0 ∧ s.t.state = .started
    · obtain ⟨hna, hnil, hidle⟩ := h.pinv.last hi hc.1
      have hacct := h.acct hc.2
      rw [hna] at hacct
      by_cases hb : s.t.maxRetrans = 0 ∨ s.t.nRtos + 1 ≤ s.t.maxRetrans
      · rw [RtxSys.run_rearm hi hc hb]
        refine ⟨hidle.start nofun hc.2 (by rw [hnil]; exact Nat.zero_lt_succ _) _ _ _, h.cid, h.ck,
          fun _ _ hx => (by cases hx; rfl), fun _ => hacct, fun hk _ => ?_⟩
        rw [h.ck] at hb
        exact hb.resolve_left hk
      · rw [RtxSys.run_failure hi hc hb]
        exact ⟨hidle, h.cid, h.ck, fun _ _ hx => (by rw [hna] at hx; cases hx), nofun, nofun⟩
    · rw [RtxSys.run_absorbed hi hc]
      exact ⟨h.pinv.absorb hi hc, h.cid, h.ck, h.armedTag, h.acct, h.budget⟩
  · rw [RtxSys.run_of_not_lt hi]; exact h

theorem rinv_step (o : Op) (h : RInv tid k s) (hb : s.g.spawned.length < 255) : RInv tid k (s.step o).1 := by
  cases o with
  | start ivl => exact rinv_start ivl h hb
  | stop => exact rinv_stop h
  | close => exact rinv_close h
  | fire => exact rinv_fire h
  | run i => exact rinv_run i h
  | tick d => exact ⟨h.pinv, h.cid, h.ck, h.armedTag, h.acct, h.budget⟩

theorem exec_fst_cons (s : RtxSys) (o : Op) (os : List Op) : (s.exec (o :: os)).1 = ((s.step o).1.exec os).1 := rfl

theorem exec_snd_cons (s : RtxSys) (o : Op) (os : List Op) :
    (s.exec (o :: os)).2 = (s.step o).2 ++ ((s.step o).1.exec os).2 := rfl

theorem rinv_exec (s : RtxSys) (os : List Op) (h : RInv tid k s) (ht : RtxSys.Tame s os) :
    RInv tid k (s.exec os).1 := by
  induction os generalizing s with
  | nil => exact h
  | cons o os ih => rw [exec_fst_cons]; exact ih _ (rinv_step o h ht.1) ht.2

theorem exec_append (s : RtxSys) (os os' : List Op) : (s.exec (os ++ os')).1 = ((s.exec os).1.exec os').1 := by
  induction os generalizing s with
  | nil => rfl
  | cons o os ih => rw [List.cons_append, exec_fst_cons, exec_fst_cons, ih]

/-- `start`, the runtime timer fires, `stop` before the callback has run: stopped again, the callback
still outstanding and counted in `pending` -/
theorem leak_round (ivl : Nat → Int) (hst : s.t.state = .stopped) (ha : s.g.armed = none) :
    (s.exec [.start ivl, .fire, .stop]).1 =
      { s with t := { s.t with ivl := ivl, nRtos := 0, pending := s.t.pending + 1 },
               g := { s.g with spawned := s.g.spawned ++ [s.epoch + 1] }, epoch := s.epoch + 1, fires := 1 } := by
  obtain ⟨⟨_, _, _, _, _, _⟩, ⟨_, _⟩, _, _, _⟩ := s
  cases hst
  cases ha
  rfl

theorem leak_rounds (ivl : Nat → Int) (n : Nat) (s : RtxSys) (hst : s.t.state = .stopped) (ha : s.g.armed = none) :
    (s.exec (List.replicate (n + 1) [.start ivl, .fire, .stop]).flatten).1 =
      { s with t := { s.t with ivl := ivl, nRtos := 0, pending := s.t.pending + BitVec.ofNat 8 (n + 1) },
               g := { s.g with spawned := s.g.spawned ++ List.range' (s.epoch + 1) (n + 1) },
               epoch := s.epoch + (n + 1), fires := 1 } := by
  induction n generalizing s with
  | zero => exact leak_round ivl hst ha
  | succ n ih =>
    have hr := leak_round ivl hst ha
    rw [List.replicate_succ, List.flatten_cons, exec_append, ih _ (by rw [hr]; exact hst) (by rw [hr]; exact ha), hr]
    dsimp only
    rw [BitVec.ofNat_add (n + 1) 1, BitVec.add_comm _ (BitVec.ofNat 8 1), ← BitVec.add_assoc,
      Nat.add_assoc s.epoch 1 (n + 1), Nat.add_comm 1 (n + 1), List.append_assoc]
    rfl

/-- the event a callback can produce, from the code alone -/
theorem run_event (s : RtxSys) (i : Nat) (e : Ev) (h : (s.run i).2 = some e) :
    (e = .timeout s.t.id (s.t.nRtos + 1) ∧ (s.t.maxRetrans = 0 ∨ s.t.nRtos + 1 ≤ s.t.maxRetrans)) ∨
    (e = .failure s.t.id ∧ s.t.maxRetrans ≠ 0 ∧ s.t.maxRetrans < s.t.nRtos + 1) := by
  by_cases hi : i < s.g.spawned.length
  · by_cases hc : s.t.pending - 1 = 0 ∧ s.t.state = .started
    · by_cases hb : s.t.maxRetrans = 0 ∨ s.t.nRtos + 1 ≤ s.t.maxRetrans
      · rw [RtxSys.run_rearm hi hc hb] at h; cases h; exact .inl ⟨rfl, hb⟩
      · rw [RtxSys.run_failure hi hc hb] at h; cases h; exact .inr ⟨rfl, by omega⟩
    · rw [RtxSys.run_absorbed hi hc] at h; cases h
  · rw [RtxSys.run_of_not_lt hi] at h; cases h

theorem run_report (h : RInv tid k s) {e : Ev} (he : (s.run i).2 = some e) :
    s.fires = s.t.nRtos + 1 ∧
    ((e = .failure tid ∧ k ≠ 0 ∧ s.fires = k + 1) ∨ (e = .timeout tid s.fires ∧ (k = 0 ∨ s.fires ≤ k))) := by
  have hi : i < s.g.spawned.length := Decidable.by_contra fun hi => by rw [RtxSys.run_of_not_lt hi] at he; cases he
  obtain ⟨hst, hna, _⟩ := (run_delivers_iff s i h hi).mp (by rw [he]; rfl)
  have hacct : s.t.nRtos + 1 = s.fires := by have := h.acct hst; rwa [hna] at this
  have hev := run_event s i e he
  rw [h.cid, h.ck, hacct] at hev
  refine ⟨hacct.symm, hev.symm.imp (fun ⟨h1, h2, h3⟩ => ⟨h1, h2, ?_⟩) id⟩
  have := h.budget h2 hst
  omega

theorem step_maxRetrans (s : RtxSys) (o : Op) : (s.step o).1.t.maxRetrans = s.t.maxRetrans := by
  cases o with
  | start ivl => show (s.start ivl).1.t.maxRetrans = _; unfold RtxSys.start; split <;> rfl
  | stop => show s.stop.t.maxRetrans = _; unfold RtxSys.stop; split <;> rfl
  | close => show s.close.t.maxRetrans = _; unfold RtxSys.close; split <;> rfl
  | fire => show s.fire.t.maxRetrans = _; unfold RtxSys.fire; split <;> rfl
  | tick d => rfl
  | run i =>
    show (s.run i).1.t.maxRetrans = _
    simp only [RtxSys.run, RtxSys.timeout]
    split
    · split
      · split <;> rfl
      · rfl
    · rfl

theorem step_events (s : RtxSys) (o : Op) (e : Ev) (h : e ∈ (s.step o).2) : ∃ i, (s.run i).2 = some e := by
  cases o with
  | run i => exact ⟨i, Option.mem_toList.mp h⟩
  | _ => cases h

theorem no_failure_of_zero (s : RtxSys) (os : List Op) (hk : s.t.maxRetrans = 0) :
    ∀ e ∈ (s.exec os).2, ∀ x, e ≠ .failure x := by
  induction os generalizing s with
  | nil => nofun
  | cons o os ih =>
    intro e he x hx
    rw [exec_snd_cons, List.mem_append] at he
    rcases he with he | he
    · obtain ⟨i, hi⟩ := step_events s o e he
      rcases run_event s i e hi with ⟨h1, _⟩ | ⟨_, h2, _⟩
      · rw [h1] at hx; cases hx
      · exact h2 hk
    · exact ih _ (by rw [step_maxRetrans, hk]) e he x hx

/-- every `run` takes the oldest outstanding callback -/
def Fifo (ops : List Op) : Prop := ∀ o ∈ ops, ∀ i, o = Op.run i → i = 0

structure FInv (s : RtxSys) : Prop where
  le : ∀ t ∈ s.g.spawned, t ≤ s.epoch
  armedLt : s.g.armed.isSome → ∀ t ∈ s.g.spawned, t < s.epoch
  due : s.t.state = .started → s.g.armed = none →
    ∃ init, s.g.spawned = init ++ [s.epoch] ∧ ∀ t ∈ init, t < s.epoch

theorem finv_of_nil (hn : s.g.spawned = []) (hd : s.t.state = .started → s.g.armed ≠ none) : FInv s :=
  ⟨fun t ht => (by rw [hn] at ht; cases ht), fun _ t ht => (by rw [hn] at ht; cases ht), fun hst ha => absurd ha (hd hst)⟩

theorem finv_new (tid k : Nat) : FInv (RtxSys.new tid k) := finv_of_nil rfl nofun

theorem finv_stop (f : FInv s) : FInv s.stop := by
  by_cases hst : s.t.state = .started
  · rw [RtxSys.stop_of_started hst]; exact ⟨f.le, nofun, nofun⟩
  · rw [RtxSys.stop_of_not_started hst]; exact f

theorem finv_start (ivl : Nat → Int) (f : FInv s) : FInv (s.start ivl).1 := by
  by_cases hst : s.t.state = .stopped
  · rw [RtxSys.start_of_stopped hst]
    exact ⟨fun t ht => Nat.le_succ_of_le (f.le t ht), fun _ t ht => Nat.lt_succ_of_le (f.le t ht), nofun⟩
  · rw [RtxSys.start_of_not_stopped hst]; exact f

theorem finv_fire (h : RInv tid k s) (f : FInv s) : FInv s.fire := by
  cases ha : s.g.armed with
  | none => rw [RtxSys.fire_of_unarmed ha]; exact f
  | some x =>
    have ha' : s.g.armed.isSome := by rw [ha]; rfl
    rw [RtxSys.fire_of_armed ha', fire_of_armed ha, h.armedTag _ _ ha]
    refine ⟨fun t ht => ?_, nofun, fun _ _ => ⟨s.g.spawned, rfl, f.armedLt ha'⟩⟩
    rcases List.mem_append.mp ht with ht | ht
    · exact f.le t ht
    · cases List.mem_singleton.mp ht; exact Nat.le_refl _

/-- the oldest callback runs: if it is absorbed while an expiry is due, the due one is behind it -/
theorem finv_run (h : RInv tid k s) (f : FInv s) : FInv (s.run 0).1 := by
  by_cases hi : 0 < s.g.spawned.length
  · by_cases hc : s.t.pending - 1 = 0 ∧ s.t.state = .started
    · obtain ⟨_, hnil, _⟩ := h.pinv.last hi hc.1
      by_cases hb : s.t.maxRetrans = 0 ∨ s.t.nRtos + 1 ≤ s.t.maxRetrans
      · rw [RtxSys.run_rearm hi hc hb]; exact finv_of_nil hnil fun _ => nofun
      · rw [RtxSys.run_failure hi hc hb]; exact finv_of_nil hnil nofun
    · rw [RtxSys.run_absorbed hi hc]
      refine ⟨fun t ht => f.le t (List.mem_of_mem_eraseIdx ht),
        fun ha t ht => f.armedLt ha t (List.mem_of_mem_eraseIdx ht), fun hst hna => ?_⟩
      obtain ⟨init, hinit, hlt⟩ := f.due hst hna
      cases init with
      | nil => exact absurd ⟨(h.pinv.pred_zero_iff hi).mpr ⟨hna, by rw [hinit]; rfl⟩, hst⟩ hc
      | cons a init' =>
        exact ⟨init', by show s.g.spawned.eraseIdx 0 = _; rw [hinit]; rfl,
          fun t ht => hlt t (List.mem_cons_of_mem _ ht)⟩
  · rw [RtxSys.run_of_not_lt hi]; exact f

theorem finv_step (o : Op) (h : RInv tid k s) (f : FInv s) (hf : ∀ i, o = Op.run i → i = 0) :
    FInv (s.step o).1 := by
  cases o with
  | start ivl => exact finv_start ivl f
  | stop => exact finv_stop f
  | close =>
    show FInv s.close
    rw [RtxSys.close_eq]
    exact ⟨(finv_stop f).le, (finv_stop f).armedLt, nofun⟩
  | fire => exact finv_fire h f
  | tick d => exact ⟨f.le, f.armedLt, f.due⟩
  | run i => cases hf i rfl; exact finv_run h f

theorem finv_exec (s : RtxSys) (os : List Op) (h : RInv tid k s) (f : FInv s)
    (ht : RtxSys.Tame s os) (hf : Fifo os) : FInv (s.exec os).1 := by
  induction os generalizing s with
  | nil => exact f
  | cons o os ih =>
    rw [exec_fst_cons]
    exact ih _ (rinv_step o h ht.1) (finv_step o h f (hf o (List.mem_cons_self ..)))
      ht.2 (fun o' ho' => hf o' (List.mem_cons_of_mem _ ho'))

theorem fifo_delivers_iff (s : RtxSys) (h : RInv tid k s) (f : FInv s) (hi : 0 < s.g.spawned.length) :
    (s.run 0).2.isSome ↔ (s.t.state = .started ∧ s.g.spawned.head? = some s.epoch) := by
  rw [run_delivers_iff s 0 h hi]
  refine and_congr_right fun hst => ?_
  -- the tag of the current epoch can only come last, behind strictly older ones
  have key (hna : s.g.armed = none) : s.g.spawned.length = 1 ↔ s.g.spawned.head? = some s.epoch := by
    obtain ⟨init, hinit, hlt⟩ := f.due hst hna
    rw [hinit]
    cases init with
    | nil => exact iff_of_true rfl rfl
    | cons a b =>
      refine iff_of_false (fun hl => ?_) fun hh => ?_
      · rw [List.length_append, List.length_cons, List.length_singleton] at hl; omega
      · cases hh; exact Nat.lt_irrefl _ (hlt _ (List.mem_cons_self ..))
  refine ⟨fun ⟨hna, hl⟩ => (key hna).mp hl, fun hhd => ?_⟩
  have hna : s.g.armed = none := Option.not_isSome_iff_eq_none.mp fun ha =>
    Nat.lt_irrefl _ (f.armedLt ha _ (List.mem_of_mem_head? hhd))
  exact ⟨hna, (key hna).mpr hhd⟩

section Ack
variable {s : AckSys}

theorem AckSys.start_of_stopped (h : s.t.state = .stopped) :
    s.start = ({ s with t := { state := .started, pending := s.t.pending + 1 },
                        g := s.g.reset s.now (Gen.ackInterval : Nat) (s.epoch + 1),
                        epoch := s.epoch + 1, since := s.now }, true) := by
  unfold AckSys.start; exact if_neg fun hn => hn h

theorem AckSys.start_of_not_stopped (h : s.t.state ≠ .stopped) : s.start = (s, false) := by
  unfold AckSys.start; exact if_pos h

theorem AckSys.stop_of_started (h : s.t.state = .started) :
    s.stop = { s with
      g := s.g.stop.1,
      t := { pending := if s.g.stop.2 then s.t.pending - 1 else s.t.pending, state := .stopped } } := by
  unfold AckSys.stop; exact if_pos h

theorem AckSys.stop_of_not_started (h : s.t.state ≠ .started) : s.stop = s := by
  unfold AckSys.stop; exact if_neg h

theorem AckSys.stop_state (s : AckSys) : s.stop.t.state ≠ .started := by
  by_cases h : s.t.state = .started
  · rw [AckSys.stop_of_started h]; nofun
  · rw [AckSys.stop_of_not_started h]; exact h

theorem AckSys.close_eq (s : AckSys) : s.close = { s.stop with t := { s.stop.t with state := .closed } } := by
  unfold AckSys.close
  by_cases h : s.t.state = .started
  · rw [if_pos h, AckSys.stop_of_started h]
  · rw [if_neg h, AckSys.stop_of_not_started h]

theorem AckSys.fire_of_armed (h : s.g.armed.isSome) : s.fire = { s with g := s.g.fire } := by
  unfold AckSys.fire; exact if_pos h

theorem AckSys.fire_of_unarmed (h : s.g.armed = none) : s.fire = s := by
  unfold AckSys.fire; rw [h]; rfl

theorem AckSys.run_of_not_lt (h : ¬ i < s.g.spawned.length) : s.run i = (s, none) := by
  unfold AckSys.run; exact if_neg h

theorem AckSys.run_absorbed (hi : i < s.g.spawned.length) (hc : ¬(s.t.pending - 1 = 0 ∧ s.t.state = .started)) :
    s.run i = ({ s with g := { s.g with spawned := s.g.spawned.eraseIdx i },
                        t := { s.t with pending := s.t.pending - 1 } }, none) := by
  simp only [AckSys.run, AckSys.timeout, if_pos hi, if_neg hc]

theorem AckSys.run_last (hi : i < s.g.spawned.length) (hc : s.t.pending - 1 = 0 ∧ s.t.state = .started) :
    s.run i = ({ s with g := { s.g with spawned := s.g.spawned.eraseIdx i },
                        t := { pending := s.t.pending - 1, state := .stopped } }, some .ack) := by
  simp only [AckSys.run, AckSys.timeout, if_pos hi, if_pos hc]

def AckSys.Tame (s : AckSys) : List Op → Prop
  | [] => True
  | o :: os => s.g.spawned.length < 255 ∧ AckSys.Tame (s.step o).1 os

instance AckSys.decTame : (s : AckSys) → (os : List Op) → Decidable (AckSys.Tame s os)
  | _, [] => isTrue trivial
  | s, o :: os =>
    have := AckSys.decTame (s.step o).1 os
    inferInstanceAs (Decidable (s.g.spawned.length < 255 ∧ AckSys.Tame (s.step o).1 os))

/-- `dl`: the runtime timer is armed for 200 ms after the `start` that armed it -/
structure AInv (s : AckSys) : Prop where
  pinv : PInv s.t.state s.t.pending s.g
  dl : ∀ d tag, s.g.armed = some (d, tag) → d = s.since + Gen.ackInterval
  since_le : s.since ≤ s.now

theorem ainv_new : AInv ({} : AckSys) := ⟨.idle rfl rfl nofun, nofun, Nat.le_refl _⟩

theorem ainv_start (h : AInv s) (hb : s.g.spawned.length < 255) : AInv s.start.1 := by
  by_cases hst : s.t.state = .stopped
  · rw [AckSys.start_of_stopped hst]
    exact ⟨h.pinv.start (by rw [hst]; nofun) rfl hb _ _ _, fun _ _ hx => (by cases hx; rfl), Nat.le_refl _⟩
  · rw [AckSys.start_of_not_stopped hst]; exact h

theorem ainv_stop (h : AInv s) : AInv s.stop := by
  by_cases hst : s.t.state = .started
  · rw [AckSys.stop_of_started hst]; exact ⟨h.pinv.stop nofun, nofun, h.since_le⟩
  · rw [AckSys.stop_of_not_started hst]; exact h

theorem ainv_close (h : AInv s) : AInv s.close := by
  have h' := ainv_stop h
  rw [AckSys.close_eq]
  exact ⟨h'.pinv.retag (AckSys.stop_state s) nofun, h'.dl, h'.since_le⟩

theorem ainv_fire (h : AInv s) : AInv s.fire := by
  cases ha : s.g.armed with
  | none => rw [AckSys.fire_of_unarmed ha]; exact h
  | some x =>
    rw [AckSys.fire_of_armed (by rw [ha]; rfl)]
    exact ⟨h.pinv.fire, fun _ _ hx => (by rw [fire_armed] at hx; cases hx), h.since_le⟩

theorem ack_run_delivers (h : AInv s) (hi : i < s.g.spawned.length) :
    ((s.run i).2.isSome ↔ (s.t.state = .started ∧ s.g.armed = none ∧ s.g.spawned.length = 1)) ∧
    ((s.run i).2.isSome → (s.run i).2 = some .ack ∧ (s.run i).1.t.state = .stopped) := by
  rw [← h.pinv.pred_zero_iff hi, and_comm (a := s.t.state = .started)]
  by_cases hc : s.t.pending - 1 = 0 ∧ s.t.state = .started
  · rw [AckSys.run_last hi hc]; exact ⟨iff_of_true rfl hc, fun _ => ⟨rfl, rfl⟩⟩
  · rw [AckSys.run_absorbed hi hc]; exact ⟨iff_of_false nofun hc, nofun⟩

theorem ainv_run (i : Nat) (h : AInv s) : AInv (s.run i).1 := by
  by_cases hi : i < s.g.spawned.length
  · by_cases hc : s.t.pending - 1 = 0 ∧ s.t.state = .started
    · rw [AckSys.run_last hi hc]
      exact ⟨(h.pinv.last hi hc.1).2.2, h.dl, h.since_le⟩
    · rw [AckSys.run_absorbed hi hc]
      exact ⟨h.pinv.absorb hi hc, h.dl, h.since_le⟩
  · rw [AckSys.run_of_not_lt hi]; exact h

theorem ainv_step (o : Op) (h : AInv s) (hb : s.g.spawned.length < 255) : AInv (s.step o).1 := by
  cases o with
  | start ivl => exact ainv_start h hb
  | stop => exact ainv_stop h
  | close => exact ainv_close h
  | fire => exact ainv_fire h
  | run i => exact ainv_run i h
  | tick d => exact ⟨h.pinv, h.dl, Nat.le_trans h.since_le (Nat.le_add_right _ _)⟩

theorem ack_exec_fst_cons (s : AckSys) (o : Op) (os : List Op) :
    (s.exec (o :: os)).1 = ((s.step o).1.exec os).1 := rfl

theorem ainv_exec (s : AckSys) (os : List Op) (h : AInv s) (ht : AckSys.Tame s os) : AInv (s.exec os).1 := by
  induction os generalizing s with
  | nil => exact h
  | cons o os ih => rw [ack_exec_fst_cons]; exact ih _ (ainv_step o h ht.1) ht.2

theorem ainv_started (h : AInv s) (hst : s.t.state = .started) :
    (∃ tag, s.g.armed = some (s.since + Gen.ackInterval, tag)) ∨ (s.g.armed = none ∧ s.g.spawned ≠ []) := by
  cases ha : s.g.armed with
  | some x => exact .inl ⟨x.2, by rw [← h.dl x.1 x.2 ha]⟩
  | none => exact .inr ⟨rfl, (h.pinv.due hst).resolve_left (by rw [ha]; nofun)⟩

end Ack

end TimerProofs
