import SctpVerif.Proofs.PendQInv
/-!
Helper lemmas for C17, part 3: the message policy keeps a message's fragments adjacent.
-/
namespace PendQ

/-- `x` is immediately followed by `y` somewhere in `l` -/
def AdjIn (x y : Chunk) (l : List Chunk) : Prop := ∃ l1 l2, l = l1 ++ x :: y :: l2

theorem AdjIn.append {x y : Chunk} {l : List Chunk} (h : AdjIn x y l) (l' : List Chunk) : AdjIn x y (l ++ l') := by
  obtain ⟨l1, l2, rfl⟩ := h
  exact ⟨l1, l2 ++ l', by simp⟩

theorem adj_snoc_cases {x y z : Chunk} {l : List Chunk} (h : AdjIn x y (l ++ [z])) :
    AdjIn x y l ∨ (∃ l1, l = l1 ++ [x] ∧ z = y) := by
  obtain ⟨l1, l2, hl⟩ := h
  rcases List.eq_nil_or_concat l2 with rfl | ⟨l2', w, rfl⟩
  · right
    have : l ++ [z] = (l1 ++ [x]) ++ [y] := by simpa using hl
    obtain ⟨h1, h2⟩ := List.append_inj' this rfl
    exact ⟨l1, h1, by simpa using h2⟩
  · left
    have : l ++ [z] = (l1 ++ x :: y :: l2') ++ [w] := by simpa using hl
    obtain ⟨h1, _⟩ := List.append_inj' this rfl
    exact ⟨l1, l2', h1⟩

/-- the push list keeps fragments together: a non-final fragment is followed by a chunk of the same
ordering class (the next fragment of its message) -/
def KeepsTogether (P : List Chunk) : Prop := ∀ a b, AdjIn a b P → a.e = false → b.unordered = a.unordered

theorem adj_of_filter {x y : Chunk} (u : Bool) (l : List Chunk) (hk : KeepsTogether l)
    (hadj : AdjIn x y (l.filter (·.unordered == u))) (hxe : x.e = false) (hxu : x.unordered = u) : AdjIn x y l := by
  obtain ⟨l1, l2, hl⟩ := hadj
  obtain ⟨m1, m2, rfl, _, h2⟩ := List.filter_eq_append_iff.mp hl
  obtain ⟨n1, n2, rfl, _, _, h3⟩ := List.filter_eq_cons_iff.mp h2
  obtain ⟨k1, k2, rfl, hk1, _, _⟩ := List.filter_eq_cons_iff.mp h3
  -- the chunk pushed right after `x` is of `x`'s class, so nothing was filtered out between `x` and `y`
  cases k1 with
  | nil => exact ⟨m1 ++ n1, k2, by simp⟩
  | cons b k1 =>
    have hb : b.unordered = x.unordered := hk x b ⟨m1 ++ n1, k1 ++ y :: k2, by simp⟩ hxe
    exact absurd (by rw [hb, hxu]; exact beq_self_eq_true u) (hk1 b List.mem_cons_self)
namespace MsgPol

/-- invariant of the message policy along a run: `P` pushed so far, `Q` popped so far -/
structure CInv (m : MsgPol) (P Q : List Chunk) : Prop where
  wf : m.WF
  fifo : ∀ u, P.filter (·.unordered == u) = Q.filter (·.unordered == u) ++ m.classQ u
  selLast : ∀ x, Q.getLast? = some x → m.selected = (!x.e) ∧ (x.e = false → m.unordSel = x.unordered)
  selNone : Q = [] → m.selected = false
  good : ∀ x y, AdjIn x y Q → x.e = false → AdjIn x y (P.filter (·.unordered == x.unordered))

theorem cinv_empty : CInv {} [] [] :=
  ⟨wf_empty, by intro u; cases u <;> simp [classQ], by simp, by simp,
    by intro x y h; obtain ⟨l1, l2, h⟩ := h; simp at h⟩

theorem cinv_push {m : MsgPol} {P Q : List Chunk} (h : CInv m P Q) (c : Chunk) : CInv (m.push c) (P ++ [c]) Q := by
  refine ⟨push_wf h.wf c, ?_, ?_, ?_, ?_⟩
  · exact fun u => fifo_push (h.fifo u) (push_classQ m c u)
  · intro x hx
    have := h.selLast x hx
    unfold push; split <;> exact this
  · intro hq
    have := h.selNone hq
    unfold push; split <;> exact this
  · intro x y hadj he
    have := (h.good x y hadj he).append ([c].filter (·.unordered == x.unordered))
    simpa [List.filter_append] using this

def serve (m : MsgPol) : MsgPol × List Chunk :=
  match m.peek with
  | none => (m, [])
  | some c => match m.pop c with
    | (m', .ok) => (m', [c])
    | (m', _) => (m', [])

theorem cinv_serve {m : MsgPol} {P Q : List Chunk} (h : CInv m P Q) :
    CInv m.serve.1 P (Q ++ m.serve.2) := by
  unfold serve
  cases hp : m.peek with
  | none => simpa using h
  | some c =>
    simp only
    rcases pop_peeked h.wf hp with ⟨h1, _, _⟩ | ⟨hok, hpops, hsu, _, hsel', husel'⟩
    · rw [h1]; simpa using h
    · have hwf := hpops.wf h.wf
      have hcl := hpops.classQ_eq
      have hcq := hpops.own
      generalize hpp : m.pop c = pp at *
      obtain ⟨m', r⟩ := pp
      simp only at hok hwf hsel' husel' hcl hcq
      subst hok
      simp only
      refine ⟨hwf, fun u => fifo_pop (h.fifo u) (hcl u), ?_, by simp, ?_⟩
      · intro x hx
        simp at hx; subst hx
        exact ⟨hsel', husel'⟩
      · intro x y hadj he
        rcases adj_snoc_cases hadj with hold | ⟨l1, hq, hy⟩
        · exact h.good x y hold he
        · subst hy
          have hlast : Q.getLast? = some x := by simp [hq]
          obtain ⟨hs1, hs2⟩ := h.selLast x hlast
          have hselT : m.selected = true := by simp [hs1, he]
          have hcu : c.unordered = x.unordered := by rw [← hsu hselT, hs2 he]
          have := h.fifo x.unordered
          rw [hq] at this
          rw [this, ← hcu, hcq]
          refine ⟨l1.filter (·.unordered == c.unordered), m'.classQ c.unordered, ?_⟩
          simp [List.filter_append, hcu]

end MsgPol

/-! lifting to the wrapper: an operation list without `setInterleaving` on a fresh queue stays in
the message policy and behaves like the policy-level run -/

def msgStep (m : MsgPol) : Op → MsgPol × List Chunk × List Chunk
  | .push c => (m.push c, [c], [])
  | .pop => (m.serve.1, [], m.serve.2)
  | _ => (m, [], [])

/-- push / peek / pop only -/
def Op.basic : Op → Bool
  | .push _ | .peek | .pop => true
  | _ => false

variable {α : Type} [Num α]

theorem step_msg {q : PQ α} {m : MsgPol} (hq : q.policy = .msg m) (o : Op) (ho : o.basic = true) :
    (q.step o).1.policy = .msg (msgStep m o).1 ∧ evPush (o, (q.step o).2) = (msgStep m o).2.1 ∧
    evPop (o, (q.step o).2) = (msgStep m o).2.2 := by
  cases o with
  | rawPop _ | popNil | setil _ => cases ho
  | push c => simp [PQ.step, PQ.push, PQ.policyPush, hq, msgStep, evPush, evPop]
  | peek => simp [PQ.step, PQ.peek, PQ.policyPeek, hq, msgStep, evPush, evPop]
  | pop =>
    simp only [PQ.step, PQ.peek, PQ.policyPeek, hq, msgStep, MsgPol.serve, evPush]
    cases hp : m.peek with
    | none => simp [evPop]
    | some c =>
      simp only [PQ.pop, PQ.policyPop]
      generalize m.pop c = pp
      obtain ⟨m', r⟩ := pp
      cases r <;> simp [evPop]

theorem cinv_run {q : PQ α} {m : MsgPol} {P Q : List Chunk} (hq : q.policy = .msg m) (h : MsgPol.CInv m P Q)
    (ops : List Op) (hops : ∀ o ∈ ops, o.basic = true) :
    ∃ m', (q.run ops).1.policy = .msg m' ∧
      MsgPol.CInv m' (P ++ pushesOf (q.run ops).2) (Q ++ popsOf (q.run ops).2) := by
  induction ops generalizing q m P Q with
  | nil => exact ⟨m, hq, by simpa [PQ.run, pushesOf, popsOf] using h⟩
  | cons o os ih =>
    obtain ⟨h1, h2, h3⟩ := step_msg hq o (hops o (by simp))
    have hstep : MsgPol.CInv (msgStep m o).1 (P ++ (msgStep m o).2.1) (Q ++ (msgStep m o).2.2) := by
      cases o with
      | push c => simpa [msgStep] using MsgPol.cinv_push h c
      | pop => simpa [msgStep] using MsgPol.cinv_serve h
      | peek => simpa [msgStep] using h
      | rawPop c => simpa [msgStep] using h
      | popNil => simpa [msgStep] using h
      | setil b => simpa [msgStep] using h
    obtain ⟨m', hm', hc⟩ := ih h1 hstep (fun o' ho' => hops o' (by simp [ho']))
    refine ⟨m', by simpa [PQ.run] using hm', ?_⟩
    simp only [PQ.run]
    rw [pushesOf_cons, popsOf_cons, h2, h3]
    simpa [List.append_assoc] using hc

end PendQ
