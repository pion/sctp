import SctpVerif.Proofs.Sender.Callback
import SctpVerif.Proofs.StreamApi.Write
/-! Message identifiers: what `packetize` builds (fragment count, FSN, B/E flags, the SSN / MID every fragment carries) and
how the three counters of a stream move (`adv` / `back`); what `Sender.sack`, `Sender.t3` and a clock tick
(`Sender.step … (.tick …)`) leave alone in the stream table (`sstat`: `registered`, the ordering flag, the policy and the three
counters under `sack`; the whole table under `t3` and ticks); a write parked and failed at once (`park_then_fail`), what an
accepted write queues (`write_ok_shape`). -/
namespace SapiProofs
open Gen Sapi SenderProofs

/-- (SSN, ordered MID, unordered MID) of a stream -/
abbrev Ids := BitVec 16 × BitVec 32 × BitVec 32

def ids (st : Sender.Stream) : Ids := (st.ssn, st.nextOrderedMID, st.nextUnorderedMID)

/-- what `packetize` does to the counters for a message with U flag `u`: exactly one of them advances by one
(none for an unordered DATA message: it carries the current SSN and does not consume it) -/
def adv (il u : Bool) (x : Ids) : Ids :=
  if il then (if u then (x.1, x.2.1, x.2.2 + 1) else (x.1, x.2.1 + 1, x.2.2)) else if u then x else (x.1 + 1, x.2.1, x.2.2)

/-- what the failure branch of `WriteSCTP` does to them -/
def back (il u : Bool) (x : Ids) : Ids :=
  if il then (if u then (x.1, x.2.1, x.2.2 - 1) else (x.1, x.2.1 - 1, x.2.2)) else if u then x else (x.1 - 1, x.2.1, x.2.2)

theorem back_adv (il u : Bool) (x : Ids) : back il u (adv il u x) = x := by
  obtain ⟨a, b, c⟩ := x
  cases il <;> cases u <;> simp [back, adv, BitVec.add_sub_cancel]

theorem adv_back (il u : Bool) (x : Ids) : adv il u (back il u x) = x := by
  obtain ⟨a, b, c⟩ := x
  cases il <;> cases u <;> simp [back, adv, BitVec.sub_add_cancel]

/-- the identifier a chunk carries is the one `x` assigns to its class -/
def carries (il : Bool) (x : Ids) (c : Sender.Chunk) : Prop :=
  if il then c.mid = (if c.unordered then x.2.2 else x.2.1) ∧ c.ssn = BitVec.setWidth 16 c.mid else c.ssn = x.1 ∧ c.mid = 0

theorem ids_packetize (cfg : Sender.Cfg) (st : Sender.Stream) (si : BitVec 16) (msg : Nat) (ppi : BitVec 32) (len : Nat) :
    ids (Sender.packetize cfg st si msg ppi len).st = adv cfg.useInterleaving (Sender.packetize cfg st si msg ppi len).unordered (ids st) := by
  obtain ⟨reg, un, rt, rv, buf, th, hcb, cb, ssn, om, um⟩ := st
  simp only [Sender.packetize, ids, adv]
  cases hil : cfg.useInterleaving <;> cases hd : (ppi != BitVec.ofNat 32 PayloadTypeWebRTCDCEP) <;> cases un <;> simp

theorem ids_rollback (cfg : Sender.Cfg) (st : Sender.Stream) (u : Bool) (n : Nat) :
    ids (Sender.rollback cfg st u n) = back cfg.useInterleaving u (ids st) := by
  obtain ⟨reg, un, rt, rv, buf, th, hcb, cb, ssn, om, um⟩ := st
  simp only [Sender.rollback, ids, back]
  cases hil : cfg.useInterleaving <;> cases u <;> simp

/-- `packetize` touches only the three counters and the buffered amount of the stream -/
theorem packetize_st (cfg : Sender.Cfg) (st : Sender.Stream) (si : BitVec 16) (msg : Nat) (ppi : BitVec 32) (len : Nat) :
    ∃ ssn om um buf, (Sender.packetize cfg st si msg ppi len).st =
      { st with ssn := ssn, nextOrderedMID := om, nextUnorderedMID := um, buffered := buf } := by
  simp only [Sender.packetize]
  cases cfg.useInterleaving <;> cases (ppi != BitVec.ofNat 32 PayloadTypeWebRTCDCEP && st.unordered) <;> exact ⟨_, _, _, _, rfl⟩

/-- … and so does the failure branch of `WriteSCTP` -/
theorem rollback_st (cfg : Sender.Cfg) (st : Sender.Stream) (u : Bool) (n : Nat) :
    ∃ ssn om um buf, Sender.rollback cfg st u n =
      { st with ssn := ssn, nextOrderedMID := om, nextUnorderedMID := um, buffered := buf } := by
  simp only [Sender.rollback]
  cases cfg.useInterleaving <;> cases u <;> exact ⟨_, _, _, _, rfl⟩

theorem packetize_registered (cfg : Sender.Cfg) (st : Sender.Stream) (si : BitVec 16) (msg : Nat) (ppi : BitVec 32) (len : Nat) :
    (Sender.packetize cfg st si msg ppi len).st.registered = st.registered := by
  obtain ⟨_, _, _, _, e⟩ := packetize_st cfg st si msg ppi len
  rw [e]

theorem registered_rollback (cfg : Sender.Cfg) (st : Sender.Stream) (u : Bool) (n : Nat) :
    (Sender.rollback cfg st u n).registered = st.registered := by
  obtain ⟨_, _, _, _, e⟩ := rollback_st cfg st u n
  rw [e]

theorem fragAux_length (mp : Nat) (hmp : 0 < mp) (fuel remaining : Nat) (hf : remaining ≤ fuel) :
    (Sender.fragAux mp fuel remaining).length = (remaining + mp - 1) / mp := by
  induction fuel generalizing remaining with
  | zero =>
    have : remaining = 0 := by omega
    subst this
    simp only [Sender.fragAux, List.length_nil]
    exact (Nat.div_eq_of_lt (by omega)).symm
  | succ n ih =>
    simp only [Sender.fragAux]
    by_cases h0 : remaining = 0
    · subst h0; simp only [true_or, if_true, List.length_nil]; exact (Nat.div_eq_of_lt (by omega)).symm
    · have hc : ¬ (remaining = 0 ∨ mp = 0) := by omega
      simp only [hc, if_false, List.length_cons]
      rw [ih (remaining - min mp remaining) (by omega)]
      by_cases hle : remaining ≤ mp
      · have e1 : remaining - min mp remaining = 0 := by omega
        rw [e1]
        have e2 : (0 + mp - 1) / mp = 0 := Nat.div_eq_of_lt (by omega)
        have e3 : (remaining + mp - 1) / mp = 1 := by
          have : remaining + mp - 1 = (remaining - 1) + mp := by omega
          rw [this, Nat.add_div_right _ hmp, Nat.div_eq_of_lt (by omega)]
        rw [e2, e3]
      · have e1 : remaining - min mp remaining = remaining - mp := by omega
        rw [e1]
        have : remaining + mp - 1 = (remaining - mp + mp - 1) + mp := by omega
        rw [this, Nat.add_div_right _ hmp]

theorem mkChunks_get (si : BitVec 16) (msg : Nat) (ppi : BitVec 32) (u : Bool) (ssn : BitVec 16) (mid : BitVec 32)
    (fs : List Nat) (fsn : BitVec 32) (first : Bool) (i : Nat) (hi : i < fs.length) :
    (Sender.mkChunks si msg ppi u ssn mid fs fsn first)[i]? =
      some { si := si, len := fs[i], msg := msg, ppi := ppi, unordered := u, bfrag := (first && i == 0), efrag := (i + 1 == fs.length),
             ssn := ssn, mid := mid, fsn := fsn + BitVec.ofNat 32 i } :=
  SenderProofs.mkChunks_getElem si msg ppi u ssn mid fs fsn first i hi

theorem mkChunks_static (si : BitVec 16) (msg : Nat) (ppi : BitVec 32) (u : Bool) (ssn : BitVec 16) (mid : BitVec 32)
    (fs : List Nat) (fsn : BitVec 32) (first : Bool) :
    ∀ c ∈ Sender.mkChunks si msg ppi u ssn mid fs fsn first, c.unordered = u ∧ c.ppi = ppi ∧ c.si = si ∧ c.msg = msg := by
  intro c hc
  obtain ⟨i, hi⟩ := List.getElem?_of_mem hc
  have hl : i < fs.length := (mkChunks_spec si msg ppi u ssn mid fs fsn first).2.2.1 ▸ (List.getElem?_eq_some_iff.mp hi).1
  rw [mkChunks_get _ _ _ _ _ _ _ _ _ i hl] at hi
  cases hi
  exact ⟨rfl, rfl, rfl, rfl⟩

/-- **what `packetize` queues**: ⌈len/maxPayload⌉ chunks of one message; the i-th has FSN i, B iff first, E iff last, the
stream id, PPI, message identity and U flag of the message, and carries the identifier the stream's counters assign -/
theorem packetize_shape (cfg : Sender.Cfg) (st : Sender.Stream) (si : BitVec 16) (msg : Nat) (ppi : BitVec 32) (len : Nat)
    (hmp : cfg.maxPayload ≠ 0) :
    (Sender.packetize cfg st si msg ppi len).chunks.length = (len + cfg.maxPayload.toNat - 1) / cfg.maxPayload.toNat ∧
    ∀ i c, (Sender.packetize cfg st si msg ppi len).chunks[i]? = some c →
      c.si = si ∧ c.msg = msg ∧ c.ppi = ppi ∧ c.unordered = (Sender.packetize cfg st si msg ppi len).unordered ∧
      c.fsn = BitVec.ofNat 32 i ∧ c.bfrag = (i == 0) ∧ c.efrag = (i + 1 == (Sender.packetize cfg st si msg ppi len).chunks.length) ∧
      carries cfg.useInterleaving (ids st) c ∧ c.nSent = 0 ∧ c.acked = false ∧ c.retransmit = false := by
  have hmp' : 0 < cfg.maxPayload.toNat := by
    rcases Nat.eq_zero_or_pos cfg.maxPayload.toNat with h | h
    · exact absurd (BitVec.eq_of_toNat_eq (by simpa using h)) hmp
    · exact h
  have hl : (Sender.packetize cfg st si msg ppi len).chunks.length = (Sender.fragSizes cfg.maxPayload.toNat len).length := by
    simp only [Sender.packetize]; exact (mkChunks_spec _ _ _ _ _ _ _ _ _).2.2.1
  refine ⟨by rw [hl]; exact fragAux_length _ hmp' len len (Nat.le_refl _), ?_⟩
  intro i c hc
  have hi : i < (Sender.fragSizes cfg.maxPayload.toNat len).length := by
    rw [← hl]; exact (List.getElem?_eq_some_iff.mp hc).1
  rw [hl]
  simp only [Sender.packetize] at hc ⊢
  rw [mkChunks_get _ _ _ _ _ _ _ _ _ i hi] at hc
  cases hc
  refine ⟨rfl, rfl, rfl, rfl, by simp, by simp, rfl, ?_, rfl, rfl, rfl⟩
  simp only [carries, ids]
  cases hil : cfg.useInterleaving <;> cases hu : (ppi != BitVec.ofNat 32 PayloadTypeWebRTCDCEP && st.unordered) <;> simp

theorem packetize_mem (cfg : Sender.Cfg) (st : Sender.Stream) (si : BitVec 16) (msg : Nat) (ppi : BitVec 32) (len : Nat)
    (hmp : cfg.maxPayload ≠ 0) (c : Sender.Chunk) (hc : c ∈ (Sender.packetize cfg st si msg ppi len).chunks) :
    c.si = si ∧ c.msg = msg ∧ c.ppi = ppi ∧ c.unordered = (Sender.packetize cfg st si msg ppi len).unordered ∧
    carries cfg.useInterleaving (ids st) c ∧ c.nSent = 0 ∧ c.acked = false ∧ c.retransmit = false := by
  obtain ⟨i, hi⟩ := List.getElem?_of_mem hc
  obtain ⟨a1, a2, a3, a4, _, _, _, a8, a9, a10, a11⟩ := (packetize_shape cfg st si msg ppi len hmp).2 i c hi
  exact ⟨a1, a2, a3, a4, a8, a9, a10, a11⟩

theorem packetize_nonempty (cfg : Sender.Cfg) (st : Sender.Stream) (si : BitVec 16) (msg : Nat) (ppi : BitVec 32) (len : Nat)
    (hmp : cfg.maxPayload ≠ 0) (hlen : len ≠ 0) : (Sender.packetize cfg st si msg ppi len).chunks ≠ [] := by
  intro h
  have := (packetize_spec cfg st si msg ppi len hmp).2.2.2.1
  rw [h] at this; simp [Sender.sumLen] at this; omega

/-- the part of a stream object no acknowledgement touches: `registered`, the ordering flag, the policy, the three counters
(not in it: `buffered`, `threshold`, `hasCb`, `cbCount`) -/
def sstat (st : Sender.Stream) : Bool × Bool × BitVec 8 × BitVec 32 × BitVec 16 × BitVec 32 × BitVec 32 :=
  (st.registered, st.unordered, st.relType, st.relVal, st.ssn, st.nextOrderedMID, st.nextUnorderedMID)

/-- two table entries with the same `sstat` agree on everything that is read off `sstat` (`rids`, `pol`) -/
theorem map_of_sstat {α : Type} (f : Sender.Stream → α) (g : Bool × Bool × BitVec 8 × BitVec 32 × BitVec 16 × BitVec 32 × BitVec 32 → α)
    (hf : ∀ st, f st = g (sstat st)) {o o' : Option Sender.Stream} (h : o'.map sstat = o.map sstat) : o'.map f = o.map f := by
  rw [funext hf, ← Function.comp_def g, ← Option.map_map, ← Option.map_map, h]

theorem release_sstat (st : Sender.Stream) (n : Int) : sstat (Sender.release st n).1 = sstat st := by
  simp only [Sender.release]; split <;> rfl

theorem releaseAll_sstat (rel : Sender.Rel) (s : Sender.St) (si : BitVec 16) :
    ((Sender.releaseAll rel s).streams si).map sstat = (s.streams si).map sstat := by
  induction rel generalizing s with
  | nil => rfl
  | cons e r ih =>
    obtain ⟨k, n⟩ := e
    simp only [Sender.releaseAll]
    cases hs : s.streams k with
    | none => exact ih s
    | some st =>
      simp only
      split
      · rw [ih]
        simp only [Sender.setStream]
        by_cases hk : si = k
        · subst hk; simp [hs, release_sstat]
        · simp [hk]
      · exact ih s

theorem sack_sstat (s : Sender.St) (cum arwnd : BitVec 32) (gaps : List (BitVec 16 × BitVec 16)) (marks : List (BitVec 32))
    (hm : s.cfg.mtu.toNat < 2^30) (si : BitVec 16) :
    ((Sender.sack s cum arwnd gaps marks).1.streams si).map sstat = (s.streams si).map sstat := by
  obtain ⟨_, rel, x, _, hx, hs⟩ := sack_streams s cum arwnd gaps marks hm
  rw [hs, releaseAll_sstat, hx]

theorem t3_streams (s : Sender.St) : (Sender.t3 s).streams = s.streams := (t3_frame s).1.streams

theorem tick_streams (s : Sender.St) (ms n : Nat) (marks : List (BitVec 32)) :
    (Sender.step s (.tick ms n marks)).streams = s.streams := by
  simp only [Sender.step]
  rw [(applyMarks_frame _ marks).1.streams, iter_t3_streams]

theorem tick_cfg (s : Sender.St) (ms n : Nat) (marks : List (BitVec 32)) (hm : CfgOk s.cfg) :
    (Sender.step s (.tick ms n marks)).cfg = s.cfg := step_cfg_eq s (.tick ms n marks) hm

/-- a parked write that fails (deadline, state gate) leaves behind only the two id allocators of the model moved
(`nextWid`, `nextMsg`: ghost identities of calls and messages) -/
theorem park_then_fail (s : St) (hfresh : ∀ w ∈ s.waiters, w.wid < s.nextWid) (k : BitVec 16) (st : Sender.Stream)
    (ppi : BitVec 32) (len : Nat) (dl : Option Nat) (hst : s.snd.streams k = some st) :
    failWaiter (parkState s k st ppi len dl) (parkedCall s k st ppi len dl) =
    { s with snd := { s.snd with nextMsg := s.snd.nextMsg + 1 }, nextWid := s.nextWid + 1 } := by
  have hfil : (s.waiters ++ [parkedCall s k st ppi len dl]).filter (fun a => a.wid != s.nextWid) = s.waiters := by
    rw [List.filter_append, List.filter_eq_self.mpr (fun a ha => by have := hfresh a ha; simp; omega)]
    simp [parkedCall]
  have h3 : (fun j => if j = k then some st else if j = k then some (Sender.packetize s.snd.cfg st k s.snd.nextMsg ppi len).st
      else s.snd.streams j) = s.snd.streams := by
    funext j; by_cases hj : j = k <;> simp [hj, hst]
  simp only [failWaiter, dropWaiter, parkState, show (parkedCall s k st ppi len dl).wid = s.nextWid from rfl, hfil]
  simp only [rollbackStream, parkedCall, Sender.setStream, if_true, rollback_packetize, h3]

/-- what an accepted write queues and what it does to the counters (statement: `C18_write_consumes_one_id`) -/
theorem write_ok_shape (s : St) (si : BitVec 16) (ppi : BitVec 32) (len : Nat) (dl : Option Nat) (n : Nat)
    (hr : (write s si ppi len dl).2 = .ok n) (hn : n ≠ 0) :
    ∃ st cs u, s.snd.streams si = some st ∧ n = len ∧
      (write s si ppi len dl).1.snd.pending = s.snd.pending ++ cs ∧
      cs.length = (len + s.snd.cfg.maxPayload.toNat - 1) / s.snd.cfg.maxPayload.toNat ∧
      Sender.sumLen cs = len ∧
      (∀ i c, cs[i]? = some c →
        c.si = si ∧ c.ppi = ppi ∧ c.unordered = u ∧ c.fsn = BitVec.ofNat 32 i ∧ c.bfrag = (i == 0) ∧ c.efrag = (i + 1 == cs.length) ∧
        0 < c.len ∧ c.len ≤ s.snd.cfg.maxPayload.toNat ∧ carries s.snd.cfg.useInterleaving (ids st) c) ∧
      u = (ppi != BitVec.ofNat 32 PayloadTypeWebRTCDCEP && st.unordered) ∧
      ((write s si ppi len dl).1.snd.streams si).map ids = some (adv s.snd.cfg.useInterleaving u (ids st)) ∧
      ((write s si ppi len dl).1.snd.streams si).map (·.buffered) = some (st.buffered + BitVec.ofNat 64 len) ∧
      (∀ j, j ≠ si → (write s si ppi len dl).1.snd.streams j = s.snd.streams j) := by
  rcases write_cases s si ppi len dl with ⟨_, e2⟩ | ⟨st, hst, hl, _, _, _, hmp, _, _, e⟩ | ⟨st, _, _, _, _, _, _, _, _, _, e⟩
  · rw [hr] at e2; simp [accepted, hn] at e2
  · rw [e] at hr ⊢
    simp only [WRes.ok.injEq] at hr
    obtain ⟨p1, p2⟩ := packetize_shape s.snd.cfg st si s.snd.nextMsg ppi len hmp
    obtain ⟨q1, q2, _, q4, _, q6, _⟩ := packetize_spec s.snd.cfg st si s.snd.nextMsg ppi len hmp
    refine ⟨st, (Sender.packetize s.snd.cfg st si s.snd.nextMsg ppi len).chunks, (Sender.packetize s.snd.cfg st si s.snd.nextMsg ppi len).unordered,
      hst, hr.symm, rfl, p1, q4, ?_, rfl, ?_, ?_, ?_⟩
    · intro i c hc
      obtain ⟨a1, _, a3, a4, a5, a6, a7, a8, _⟩ := p2 i c hc
      obtain ⟨b1, b2, _⟩ := q6 c (List.mem_of_getElem? hc)
      exact ⟨a1, a3, a4, a5, a6, a7, b1, b2, a8⟩
    · show ((if si = si then some (Sender.packetize s.snd.cfg st si s.snd.nextMsg ppi len).st else s.snd.streams si)).map ids = _
      simp only [if_true, Option.map_some, ids_packetize]
    · show ((if si = si then some (Sender.packetize s.snd.cfg st si s.snd.nextMsg ppi len).st else s.snd.streams si)).map (·.buffered) = _
      simp only [if_true, Option.map_some, q2]
    · intro j hj
      show (if j = si then some (Sender.packetize s.snd.cfg st si s.snd.nextMsg ppi len).st else s.snd.streams j) = _
      simp [hj]
  · rw [e] at hr; cases hr

end SapiProofs
