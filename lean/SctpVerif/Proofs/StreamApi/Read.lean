import SctpVerif.Model.StreamApi
import SctpVerif.Proofs.ReasmOrd
/-! Read half of the stream API: `reassemblyQueue.read` characterised by the message at its head (`headSet`, `read_spec`): a short
buffer changes nothing; a parked reader that is woken and handed an error leaves the queue as it was (`wakeReader_err_keeps`).
Core-only lemmas (no Mathlib). -/
namespace SapiProofs
open Reasm Gen

/-- user bytes of a chunk run, in order -/
def bytesCat : List Chunk → List UInt8
  | [] => []
  | c :: cs => c.userData ++ bytesCat cs

/-- the buffer is smaller than the message: the error is raised -/
theorem copyLoop_short (b : Int) (cs : List Chunk) (n0 : Int) (e : Bool) (out : List UInt8)
    (h0 : n0 ≤ b) (h : b < n0 + (bytesOf cs : Int)) : (copyLoop b cs n0 e out).2.1 = true := by
  induction cs generalizing n0 e out with
  | nil => simp [bytesOf] at h; omega
  | cons c cs ih =>
    simp only [copyLoop]
    split
    · exact copyLoop_err_true _ _ _ _
    · rename_i hfit
      apply ih
      · omega
      · simp [bytesOf, Chunk.len] at h ⊢
        omega

/-- the message fits: no error, the bytes of all chunks are copied in order -/
theorem copyLoop_fits (b : Int) (cs : List Chunk) (n0 : Int) (out : List UInt8)
    (h : n0 + (bytesOf cs : Int) ≤ b) :
    (copyLoop b cs n0 false out).2.1 = false ∧ (copyLoop b cs n0 false out).2.2 = out ++ bytesCat cs := by
  induction cs generalizing n0 out with
  | nil => simp [copyLoop, bytesCat]
  | cons c cs ih =>
    have hc : ¬ (b - n0 < (c.len : Int)) := by
      simp [bytesOf, Chunk.len] at h ⊢
      omega
    simp only [copyLoop, hc, if_false, Bool.false_eq_true]
    have := ih (n0 + c.len) (out ++ c.userData) (by simp [bytesOf, Chunk.len] at h ⊢; omega)
    refine ⟨this.1, ?_⟩
    rw [this.2]; simp [bytesCat]

/-- the copy loop of `read` on a fresh buffer: the size of the message, whether the buffer is too short, the bytes if it is not -/
theorem copyLoop0 (n : Nat) (cs : List Chunk) :
    copyLoop n cs 0 false [] = ((bytesOf cs : Int), decide ((n : Int) < (bytesOf cs : Int)),
      if (n : Int) < (bytesOf cs : Int) then (copyLoop n cs 0 false []).2.2 else bytesCat cs) := by
  refine Prod.ext (by simp [copyLoop_total]) (Prod.ext ?_ ?_)
  · by_cases h : (n : Int) < (bytesOf cs : Int)
    · simp [h, copyLoop_short (n : Int) cs 0 false [] (by omega) (by omega)]
    · simp [h, (copyLoop_fits n cs 0 [] (by omega)).1]
  · by_cases h : (n : Int) < (bytesOf cs : Int)
    · simp [h]
    · simp [h, (copyLoop_fits n cs 0 [] (by omega)).2]

/-- the message `read` would return: PPI and chunks of the set at the head, if it is deliverable -/
def headSet (q : Q) : Option (PPI × List Chunk) :=
  if q.useInterleaving then
    match q.unorderedMID with
    | iSet :: _ => some (iSet.ppi, iSet.chunks)
    | [] =>
      match q.orderedMID with
      | iSet :: _ => if !iSet.isComplete then none else if sna32GT iSet.mid q.nextMID then none else some (iSet.ppi, iSet.chunks)
      | [] => none
  else
    match q.unordered with
    | cset :: _ => some (cset.ppi, cset.chunks)
    | [] =>
      match q.ordered with
      | cset :: _ => if !cset.isComplete then none else if sna16GT cset.ssn q.nextSSN then none else some (cset.ppi, cset.chunks)
      | [] => none

/-- `read` in terms of the message at the head -/
theorem read_spec (q : Q) (n : Nat) :
    match headSet q with
    | none => q.read n = (q, ReadRes.tryAgain)
    | some (ppi, cs) =>
      if (n : Int) < (bytesOf cs : Int) then q.read n = (q, { n := (bytesOf cs : Int), ppi := 0, err := .shortBuffer, data := [] })
      else (q.read n).2 = { n := (bytesOf cs : Int), ppi := ppi, err := .ok, data := bytesCat cs } := by
  unfold headSet Q.read
  by_cases hil : q.useInterleaving
  · simp only [hil, if_true]
    cases hu : q.unorderedMID with
    | cons iSet rest =>
      simp only
      rw [copyLoop0]
      by_cases hn : (n : Int) < (bytesOf iSet.chunks : Int) <;> simp [hn]
    | nil =>
      simp only
      cases ho : q.orderedMID with
      | nil => rfl
      | cons iSet rest =>
        simp only
        by_cases hc : iSet.isComplete
        · simp only [hc, Bool.not_true, Bool.false_eq_true, if_false]
          by_cases hg : sna32GT iSet.mid q.nextMID
          · simp [hg]
          · simp only [hg, Bool.false_eq_true, if_false]
            rw [copyLoop0]
            by_cases hn : (n : Int) < (bytesOf iSet.chunks : Int) <;> simp [hn]
        · simp [hc]
  · simp only [hil, Bool.false_eq_true, if_false]
    cases hu : q.unordered with
    | cons cset rest =>
      simp only
      rw [copyLoop0]
      by_cases hn : (n : Int) < (bytesOf cset.chunks : Int) <;> simp [hn]
    | nil =>
      simp only
      cases ho : q.ordered with
      | nil => rfl
      | cons cset rest =>
        simp only
        by_cases hc : cset.isComplete
        · simp only [hc, Bool.not_true, Bool.false_eq_true, if_false]
          by_cases hg : sna16GT cset.ssn q.nextSSN
          · simp [hg]
          · simp only [hg, Bool.false_eq_true, if_false]
            rw [copyLoop0]
            by_cases hn : (n : Int) < (bytesOf cset.chunks : Int) <;> simp [hn]
        · simp [hc]

theorem bytesCat_length (cs : List Chunk) : (bytesCat cs).length = bytesOf cs := by
  induction cs with
  | nil => rfl
  | cons c cs ih => simp [bytesCat, bytesOf, ih, Chunk.len]

open Sapi in
/-- a parked reader is woken (read-deadline timer, inbound stream reset): if it is handed an error, whichever, the queue is as
it was -/
theorem wakeReader_err_keeps (r : RStream) (rid : Nat) (e : RdErr) (h : (rid, RRes.err e) ∈ (wakeReader r).2) :
    (wakeReader r).1.q = r.q := by
  unfold wakeReader at h ⊢
  cases hr : r.reader with
  | none => simp [hr] at h
  | some rb =>
    obtain ⟨rid', buflen⟩ := rb
    simp only [hr] at h ⊢
    simp only [tryRead] at h ⊢
    cases he : (r.q.read buflen).2.err with
    | ok => simp [he] at h
    | shortBuffer => simp [he] at h
    | tryAgain =>
      simp only [he] at h ⊢
      cases hre : r.readErr with
      | none => rfl
      | some x => simp only [readDone]; split <;> rfl

end SapiProofs
