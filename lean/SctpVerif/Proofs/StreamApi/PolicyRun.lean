import SctpVerif.Proofs.Sender.MsgId
import SctpVerif.Proofs.StreamApi.Policy
import SctpVerif.Proofs.StreamApi.Outcome
/-! Lifting the per-chunk invariants to runs of the stream-API model (`Sapi.Op`); their context along runs: configuration and
the policy of a stream are kept by every operation that does not re-open / re-configure that stream, message identities only grow. -/
namespace SapiProofs
open Gen Sapi SenderProofs

/-- a `Closed` per-chunk predicate together with the condition on the state under which it is closed (`Ctx`: the policy
of the stream, a bound on message ids, …) and the operations that keep that condition (`Ok`) -/
structure RunHyp (P : List Nat → List Nat → Sender.Chunk → Prop) (Q : Sender.Chunk → Prop) (Ctx : St → Prop) (Ok : Op → Prop) : Prop where
  closed : ∀ s, Ctx s → Closed s.snd P Q
  ctx : ∀ s op, Ctx s → Ok op → Ctx (step s op)
  qNew : ∀ s (st : Sender.Stream) si ppi len, Ctx s → s.snd.cfg.maxPayload ≠ 0 →
    ∀ c ∈ (Sender.packetize s.snd.cfg st si s.snd.nextMsg ppi len).chunks, Q c
  qMarker : ∀ s si, Ctx s → Q (resetMarker si s.snd.nextMsg)

structure RInv (P : List Nat → List Nat → Sender.Chunk → Prop) (Q : Sender.Chunk → Prop) (Ctx : St → Prop) (s : St) : Prop where
  ctx : Ctx s
  inf : InvP s.snd P
  pend : ∀ c ∈ s.snd.pending, Q c
  wait : ∀ w ∈ s.waiters, ∀ c ∈ w.chunks, Q c

/-- what `RInv.inf` and `RInv.pend` read of the sender state is the same: the in-flight queue, the two message sets, the
pending queue -/
def SameQ (a b : Sender.St) : Prop :=
  b.inflight = a.inflight ∧ b.abandonedMsgs = a.abandonedMsgs ∧ b.allInflightMsgs = a.allInflightMsgs ∧ b.pending = a.pending

theorem rinv_of_sameQ {P Q C Ctx} {s s' : St} (h : RInv P Q C s) (hc : Ctx s') (hq : SameQ s.snd s'.snd)
    (hw : ∀ w ∈ s'.waiters, w ∈ s.waiters) : RInv P Q Ctx s' :=
  ⟨hc, by intro c hc'; rw [hq.2.1, hq.2.2.1]; rw [hq.1] at hc'; exact h.inf c hc', by rw [hq.2.2.2]; exact h.pend,
   fun w hw' => h.wait w (hw w hw')⟩

theorem rinv_sameW {P Q C Ctx} {s s' : St} (h : RInv P Q C s) (hc : Ctx s') (hs : SameW s s') : RInv P Q Ctx s' :=
  rinv_of_sameQ h hc (by rw [hs.1]; exact ⟨rfl, rfl, rfl, rfl⟩) (by rw [hs.2.1]; exact fun _ hw => hw)

theorem rollbackStream_sameQ (s : St) (si : BitVec 16) (u : Bool) (n : Nat) :
    SameQ s.snd (rollbackStream s si u n).snd ∧ (rollbackStream s si u n).waiters = s.waiters := by
  unfold rollbackStream
  split
  · exact ⟨⟨rfl, rfl, rfl, rfl⟩, rfl⟩
  · exact ⟨⟨rfl, rfl, rfl, rfl⟩, rfl⟩

theorem failWaiter_sameQ (s : St) (w : Waiter) :
    SameQ s.snd (failWaiter s w).snd ∧ ∀ a ∈ (failWaiter s w).waiters, a ∈ s.waiters := by
  obtain ⟨a1, a2⟩ := rollbackStream_sameQ (dropWaiter s w.wid) w.si w.unordered w.n
  exact ⟨a1, by intro a ha; simp only [failWaiter] at ha; rw [a2] at ha; exact (List.mem_filter.mp ha).1⟩

theorem foldl_failWaiter_sameQ (s : St) (l : List Waiter) :
    SameQ s.snd (l.foldl failWaiter s).snd ∧ ∀ a ∈ (l.foldl failWaiter s).waiters, a ∈ s.waiters :=
  ListAux.foldl_inv (P := fun t => SameQ s.snd t.snd ∧ ∀ a ∈ t.waiters, a ∈ s.waiters) l ⟨⟨rfl, rfl, rfl, rfl⟩, fun _ h => h⟩
    fun t w _ ⟨b1, b2⟩ =>
      have ⟨a1, a2⟩ := failWaiter_sameQ t w
      ⟨⟨a1.1.trans b1.1, a1.2.1.trans b1.2.1, a1.2.2.1.trans b1.2.2.1, a1.2.2.2.trans b1.2.2.2⟩, fun a ha => b2 a (a2 a ha)⟩

theorem ackOp_closed {sop : Sender.Op} (h : AckOp sop) (s : Sender.St) (P : List Nat → List Nat → Sender.Chunk → Prop) (hP : ClosedL P)
    (hin : InvP s P) : SameSets s (Sender.step s sop) ∧ InvP (Sender.step s sop) P := by
  cases sop with
  | sack cum arwnd gaps marks => exact sack_closed s cum arwnd gaps marks P hP hin
  | t3 => exact t3_closed s P hP hin
  | tick ms n marks => exact tick_closed s ms n marks P hP hin
  | _ => exact h.elim

theorem RInv.out {P Q Ctx Ok} (H : RunHyp P Q Ctx Ok) {s s' : St} {op : Op} (h : RInv P Q Ctx s) (ho : Out s op s') (hctx : Ctx s') :
    RInv P Q Ctx s' := by
  cases ho with
  | tbl s' hsnd hw _ _ _ _ _ =>
    exact rinv_of_sameQ h hctx (by rw [hsnd]; exact ⟨rfl, rfl, rfl, rfl⟩) (by rw [hw]; exact fun _ hw => hw)
  | ack sop hop due _ s' hs =>
    obtain ⟨a1, a2⟩ := ackOp_closed hop s.snd P (H.closed s h.ctx).toClosedL h.inf
    have h1 : RInv P Q (fun _ => True) { s with snd := Sender.step s.snd sop } :=
      ⟨trivial, a2, by show ∀ c ∈ (Sender.step s.snd sop).pending, Q c; rw [a1.2.2.1]; exact h.pend, h.wait⟩
    obtain ⟨b1, b2⟩ := foldl_failWaiter_sameQ { s with snd := Sender.step s.snd sop } due
    exact rinv_sameW (C := fun _ => True) (rinv_of_sameQ h1 trivial b1 b2) hctx hs
  | accept k ppi len dl st _ hst hl hw hmp _ _ =>
    refine ⟨hctx, ?_, ?_, ?_⟩
    · unfold acceptState pushChunks; exact h.inf
    · intro c hc
      rcases List.mem_append.mp (show c ∈ s.snd.pending ++ (Sender.packetize s.snd.cfg st k s.snd.nextMsg ppi len).chunks from hc) with h1 | h1
      · exact h.pend c h1
      · exact H.qNew s st k ppi len h.ctx hmp c h1
    · unfold acceptState pushChunks; exact h.wait
  | park k ppi len dl st _ hst hl hw hmp _ =>
    refine ⟨hctx, ?_, ?_, ?_⟩
    · unfold parkState; exact h.inf
    · unfold parkState; exact h.pend
    · intro w hwm c hc
      simp only [parkState, List.mem_append, List.mem_singleton] at hwm
      rcases hwm with h1 | h1
      · exact h.wait w h1 c hc
      · subst h1; exact H.qNew s st k ppi len h.ctx hmp c hc
  | gquiet orc sel _ _ _ =>
    obtain ⟨a1, a2, _, _, _⟩ := gather_closed s.snd orc sel P Q (H.closed s h.ctx) h.inf h.pend
    exact ⟨hctx, a1, a2, h.wait⟩
  | gfail orc sel _ w _ _ _ =>
    obtain ⟨a1, a2, _, _, _⟩ := gather_closed s.snd orc sel P Q (H.closed s h.ctx) h.inf h.pend
    obtain ⟨f1, f2⟩ := failWaiter_sameQ (gathered s orc sel) w
    exact rinv_of_sameQ (C := fun _ => True) (s := gathered s orc sel) ⟨trivial, a1, a2, h.wait⟩ hctx f1 f2
  | grel orc sel _ w _ hf _ _ =>
    obtain ⟨a1, a2, _, _, _⟩ := gather_closed s.snd orc sel P Q (H.closed s h.ctx) h.inf h.pend
    refine ⟨hctx, a1, ?_, fun a ha => h.wait a (List.mem_filter.mp ha).1⟩
    intro c hc
    rcases List.mem_append.mp (show c ∈ (Sender.gather s.snd orc sel).1.pending ++ w.chunks from hc) with h1 | h1
    · exact a2 c h1
    · exact h.wait w (List.mem_of_find?_eq_some hf) c h1
  | marker k sst =>
    refine ⟨hctx, h.inf, ?_, h.wait⟩
    intro c hc
    simp only [Sender.pushPending, List.mem_append, List.mem_singleton] at hc
    rcases hc with hc | hc
    · exact h.pend c hc
    · subst hc; exact H.qMarker s k h.ctx

theorem step_rinv {P Q Ctx Ok} (H : RunHyp P Q Ctx Ok) (s : St) (h : RInv P Q Ctx s) (op : Op) (hok : Ok op) :
    RInv P Q Ctx (step s op) := h.out H (step_out s op) (H.ctx s op h.ctx hok)

theorem run_rinv {P Q Ctx Ok} (H : RunHyp P Q Ctx Ok) (s : St) (h : RInv P Q Ctx s) (ops : List Op) (hok : ∀ op ∈ ops, Ok op) :
    RInv P Q Ctx (run s ops) :=
  run_foldl s ops ▸ ListAux.foldl_inv (P := RInv P Q Ctx) ops h fun s op hop h => step_rinv H s h op (hok op hop)

/-- what a gather puts on the wire satisfies the predicate relative to the sets after the gather -/
theorem gather_emits {P Q Ctx Ok} (H : RunHyp P Q Ctx Ok) (s : St) (h : RInv P Q Ctx s) (orc : Sender.Oracle) (sel : List Nat) (woke : Option Nat) :
    ∀ p ∈ (Sapi.gather s orc sel woke).2.out.packets, ∀ e ∈ p,
      P (Sender.gather s.snd orc sel).1.abandonedMsgs (Sender.gather s.snd orc sel).1.allInflightMsgs e := by
  obtain ⟨_, _, a3, _, _⟩ := gather_closed s.snd orc sel P Q (H.closed s h.ctx) h.inf h.pend
  rw [(gather_out s orc sel woke).1]; exact a3

/-- along a run the predicate holds of every in-flight chunk and of every chunk any gather puts on the wire -/
theorem run_holds {P Q Ctx Ok} (H : RunHyp P Q Ctx Ok) (s : St) (h : RInv P Q Ctx s) (ops : List Op) (hok : ∀ op ∈ ops, Ok op) :
    (∀ c ∈ (run s ops).snd.inflight, P (run s ops).snd.abandonedMsgs (run s ops).snd.allInflightMsgs c) ∧
    (∀ orc sel woke, ∀ p ∈ (Sapi.gather (run s ops) orc sel woke).2.out.packets, ∀ e ∈ p,
      P (Sender.gather (run s ops).snd orc sel).1.abandonedMsgs (Sender.gather (run s ops).snd orc sel).1.allInflightMsgs e) :=
  have hr := run_rinv H s h ops hok
  ⟨hr.inf, gather_emits H _ hr⟩

theorem policy_iff (s : Sender.St) (σ : BitVec 16) (rt : Nat) (v : BitVec 32) :
    Policy s σ rt v ↔ s.cfg.prEnabled = true ∧ polOf s σ = some (true, BitVec.ofNat 8 rt, v) := by
  simp only [Policy, polOf]
  constructor
  · rintro ⟨h1, st, h2, h3, h4, h5⟩; exact ⟨h1, by rw [h2]; simp only [Option.map_some, pol, h3, h4, h5]⟩
  · rintro ⟨h1, h2⟩
    cases hs : s.streams σ with
    | none => rw [hs] at h2; cases h2
    | some st =>
      rw [hs] at h2
      simp only [Option.map_some, Option.some.injEq, pol, Prod.mk.injEq] at h2
      exact ⟨h1, st, rfl, h2.1, h2.2.1, h2.2.2⟩

theorem pol_packetize (cfg : Sender.Cfg) (st : Sender.Stream) (si : BitVec 16) (msg : Nat) (ppi : BitVec 32) (len : Nat) :
    pol (Sender.packetize cfg st si msg ppi len).st = pol st := by
  obtain ⟨_, _, _, _, e⟩ := packetize_st cfg st si msg ppi len
  rw [e]; rfl

theorem pol_rollback (cfg : Sender.Cfg) (st : Sender.Stream) (u : Bool) (n : Nat) : pol (Sender.rollback cfg st u n) = pol st := by
  obtain ⟨_, _, _, _, e⟩ := rollback_st cfg st u n
  rw [e]; rfl

theorem rollbackStream_pol (s : St) (si : BitVec 16) (u : Bool) (n : Nat) (σ : BitVec 16) :
    (rollbackStream s si u n).snd.cfg = s.snd.cfg ∧ polOf (rollbackStream s si u n).snd σ = polOf s.snd σ ∧
    (rollbackStream s si u n).snd.nextMsg = s.snd.nextMsg := by
  unfold rollbackStream
  cases hs : s.snd.streams si with
  | none => exact ⟨rfl, rfl, rfl⟩
  | some st =>
    refine ⟨rfl, ?_, rfl⟩
    apply polOf_setStream
    intro hk; subst hk
    exact ⟨st, hs, pol_rollback _ _ _ _⟩

theorem failWaiter_pol (s : St) (w : Waiter) (σ : BitVec 16) :
    (failWaiter s w).snd.cfg = s.snd.cfg ∧ polOf (failWaiter s w).snd σ = polOf s.snd σ ∧ (failWaiter s w).snd.nextMsg = s.snd.nextMsg :=
  rollbackStream_pol (dropWaiter s w.wid) w.si w.unordered w.n σ

theorem foldl_failWaiter_pol (s : St) (l : List Waiter) (σ : BitVec 16) :
    (l.foldl failWaiter s).snd.cfg = s.snd.cfg ∧ polOf (l.foldl failWaiter s).snd σ = polOf s.snd σ ∧
    (l.foldl failWaiter s).snd.nextMsg = s.snd.nextMsg :=
  ListAux.foldl_inv (P := fun t => t.snd.cfg = s.snd.cfg ∧ polOf t.snd σ = polOf s.snd σ ∧ t.snd.nextMsg = s.snd.nextMsg) l
    ⟨rfl, rfl, rfl⟩ fun t w _ ⟨b1, b2, b3⟩ =>
      have ⟨a1, a2, a3⟩ := failWaiter_pol t w σ
      ⟨a1.trans b1, a2.trans b2, a3.trans b3⟩

theorem ackOp_pol {sop : Sender.Op} (h : AckOp sop) (a : Sender.St) (hc : CfgOk a.cfg) (σ : BitVec 16) :
    polOf (Sender.step a sop) σ = polOf a σ :=
  map_of_sstat pol (fun x => (x.1, x.2.2.1, x.2.2.2.1)) (fun _ => rfl) (ackOp_sstat h a hc σ)

/-- configuration, policy of `σ` and monotonicity of message ids under one operation -/
theorem Out.ctx {s s' : St} {op : Op} (ho : Out s op s') (hc : CfgOk s.snd.cfg) (σ : BitVec 16) :
    s'.snd.cfg = s.snd.cfg ∧ (Keeps σ op → polOf s'.snd σ = polOf s.snd σ) ∧ s.snd.nextMsg ≤ s'.snd.nextMsg := by
  have pk : ∀ k st ppi len, s.snd.streams k = some st →
      polOf (Sender.setStream s.snd k (Sender.packetize s.snd.cfg st k s.snd.nextMsg ppi len).st) σ = polOf s.snd σ := by
    intro k st ppi len hst
    apply polOf_setStream
    intro hk; subst hk; exact ⟨st, hst, pol_packetize _ _ _ _ _ _⟩
  have base : ∀ orc sel, (gathered s orc sel).snd.cfg = s.snd.cfg ∧ polOf (gathered s orc sel).snd σ = polOf s.snd σ ∧
      (gathered s orc sel).snd.nextMsg = s.snd.nextMsg := fun orc sel =>
    ⟨gather_cfg _ _ _, by simp only [polOf, gathered, (gather_streams _ _ _).2], gather_nextMsg _ _ _⟩
  cases ho with
  | tbl s' hsnd _ _ _ _ ht _ => exact ⟨by rw [hsnd], ht.pol σ, by rw [hsnd]; exact Nat.le_refl _⟩
  | ack sop hop due _ s' hs =>
    obtain ⟨b1, b2, b3⟩ := foldl_failWaiter_pol { s with snd := Sender.step s.snd sop } due σ
    rw [hs.1]
    exact ⟨b1.trans (step_cfg_eq _ _ hc), fun _ => b2.trans (ackOp_pol hop _ hc σ),
      Nat.le_trans (step_nextMsg s.snd sop).1 (Nat.le_of_eq b3.symm)⟩
  | accept k ppi len dl st _ hst _ _ _ _ _ => exact ⟨rfl, fun _ => pk k st ppi len hst, Nat.le_succ _⟩
  | park k ppi len dl st _ hst _ _ _ _ => exact ⟨rfl, fun _ => pk k st ppi len hst, Nat.le_succ _⟩
  | gquiet orc sel _ _ _ => exact ⟨(base orc sel).1, fun _ => (base orc sel).2.1, Nat.le_of_eq (base orc sel).2.2.symm⟩
  | gfail orc sel _ w _ _ _ =>
    obtain ⟨f1, f2, f3⟩ := failWaiter_pol (gathered s orc sel) w σ
    exact ⟨f1.trans (base orc sel).1, fun _ => f2.trans (base orc sel).2.1, Nat.le_of_eq (f3.trans (base orc sel).2.2).symm⟩
  | grel orc sel _ w _ _ _ _ => exact ⟨(base orc sel).1, fun _ => (base orc sel).2.1, Nat.le_of_eq (base orc sel).2.2.symm⟩
  | marker k sst => exact ⟨rfl, fun _ => rfl, Nat.le_succ _⟩

theorem step_ctx (s : St) (hc : CfgOk s.snd.cfg) (op : Op) (σ : BitVec 16) :
    (step s op).snd.cfg = s.snd.cfg ∧ (Keeps σ op → polOf (step s op).snd σ = polOf s.snd σ) ∧
    s.snd.nextMsg ≤ (step s op).snd.nextMsg := (step_out s op).ctx hc σ

/-- retransmission limit `N` on stream `σ`, in force -/
def RexCtx (σ : BitVec 16) (N : BitVec 32) (s : St) : Prop := CfgOk s.snd.cfg ∧ Policy s.snd σ ReliabilityTypeRexmit N
/-- lifetime `L` ms on stream `σ`, in force -/
def TimedCtx (σ : BitVec 16) (L : BitVec 32) (s : St) : Prop := CfgOk s.snd.cfg ∧ Policy s.snd σ ReliabilityTypeTimed L
/-- message id `m` has been handed out -/
def FrozenCtx (m : Nat) (s : St) : Prop := CfgOk s.snd.cfg ∧ m < s.snd.nextMsg

theorem policy_step (s : St) (σ : BitVec 16) (rt : Nat) (v : BitVec 32) (hc : CfgOk s.snd.cfg) (hp : Policy s.snd σ rt v)
    (op : Op) (hk : Keeps σ op) : CfgOk (step s op).snd.cfg ∧ Policy (step s op).snd σ rt v := by
  obtain ⟨a1, a2, _⟩ := step_ctx s hc op σ
  refine ⟨by rw [a1]; exact hc, ?_⟩
  rw [policy_iff] at hp ⊢
  rw [a1, a2 hk]; exact hp

theorem rex_hyp (σ : BitVec 16) (N : BitVec 32) : RunHyp (KRex σ N) Unmarked (RexCtx σ N) (Keeps σ) where
  closed := fun s h => KRex_closed s.snd σ N h.2
  ctx := fun s op h hk => policy_step s σ _ N h.1 h.2 op hk
  qNew := fun _ _ _ _ _ _ hmp c hc => (packetize_mem _ _ _ _ _ _ hmp c hc).2.2.2.2.2.2.2
  qMarker := fun _ _ _ => rfl

theorem timed_hyp (σ : BitVec 16) (L : BitVec 32) : RunHyp (KTimed σ L) (fun _ => True) (TimedCtx σ L) (Keeps σ) where
  closed := fun s h => KTimed_closed s.snd σ L h.2
  ctx := fun s op h hk => policy_step s σ _ L h.1 h.2 op hk
  qNew := fun _ _ _ _ _ _ _ _ _ => trivial
  qMarker := fun _ _ _ => trivial

theorem frozen_hyp (m : Nat) (B : BitVec 32 → Nat) : RunHyp (Frozen m B) (fun c => c.msg ≠ m) (FrozenCtx m) (fun _ => True) where
  closed := fun s _ => Frozen_closed s.snd m B
  ctx := fun s op h _ => by
    obtain ⟨a1, _, a3⟩ := step_ctx s h.1 op 0
    exact ⟨by rw [a1]; exact h.1, Nat.lt_of_lt_of_le h.2 a3⟩
  qNew := fun s st si ppi len h hmp c hc => by
    rw [(packetize_mem _ _ _ _ _ _ hmp c hc).2.1]; exact Nat.ne_of_gt h.2
  qMarker := fun s si h => by show s.snd.nextMsg ≠ m; exact Nat.ne_of_gt h.2

end SapiProofs
