import SctpVerif.Model.StreamApi
import SctpVerif.Proofs.Sender.WinRun
/-! `Sapi.write` / `wake` / `failWaiter` / `gather`: what a rejected, failed, parked, accepted, woken call does to the state. -/
namespace SapiProofs
open Gen Sapi SenderProofs

/-- a call that queued data or is parked (everything else must leave no trace) -/
def accepted : WRes → Bool
  | .ok n => n != 0
  | .blocked _ => true
  | _ => false

theorem setStream_same (s : Sender.St) (si : BitVec 16) (st : Sender.Stream) (h : s.streams si = some st) : Sender.setStream s si st = s := by
  have : (fun k => if k = si then some st else s.streams k) = s.streams := by
    funext k; by_cases hk : k = si
    · subst hk; simp [h]
    · simp [hk]
  simp only [Sender.setStream, this]

theorem setStream_setStream (s : Sender.St) (si : BitVec 16) (a b : Sender.Stream) : Sender.setStream (Sender.setStream s si a) si b = Sender.setStream s si b := by
  have : (fun k => if k = si then some b else (Sender.setStream s si a).streams k) = (fun k => if k = si then some b else s.streams k) := by
    funext k; by_cases hk : k = si <;> simp [Sender.setStream, hk]
  simp only [Sender.setStream] at this ⊢
  rw [this]

/-- the failure branch of `WriteSCTP` right after `Sender.packetize`: the state is what it was -/
theorem rollback_after_packetize (s : St) (si : BitVec 16) (st : Sender.Stream) (msg : Nat) (ppi : BitVec 32) (len : Nat)
    (hs : s.snd.streams si = some st) :
    rollbackStream { s with snd := Sender.setStream s.snd si (Sender.packetize s.snd.cfg st si msg ppi len).st } si
      (Sender.packetize s.snd.cfg st si msg ppi len).unordered len = s := by
  simp only [rollbackStream]
  have h1 : (Sender.setStream s.snd si (Sender.packetize s.snd.cfg st si msg ppi len).st).streams si = some (Sender.packetize s.snd.cfg st si msg ppi len).st := by
    simp [Sender.setStream]
  rw [h1]
  simp only
  have hc : (Sender.setStream s.snd si (Sender.packetize s.snd.cfg st si msg ppi len).st).cfg = s.snd.cfg := rfl
  rw [hc, rollback_packetize, setStream_setStream, setStream_same _ _ _ hs]

/-- the state after an accepted write: stream after `packetize`, chunks pushed, `writePending` raised in blocking mode -/
def acceptState (s : St) (si : BitVec 16) (st : Sender.Stream) (ppi : BitVec 32) (len : Nat) : St :=
  pushChunks { s with snd := { Sender.setStream s.snd si (Sender.packetize s.snd.cfg st si s.snd.nextMsg ppi len).st with
                                 nextMsg := s.snd.nextMsg + 1,
                                 wrapBuf := s.snd.wrapBuf || (Sender.packetize s.snd.cfg st si s.snd.nextMsg ppi len).wrap } }
    (Sender.packetize s.snd.cfg st si s.snd.nextMsg ppi len).chunks

/-- the record of a call parked by `write` -/
def parkedCall (s : St) (si : BitVec 16) (st : Sender.Stream) (ppi : BitVec 32) (len : Nat) (dl : Option Nat) : Waiter :=
  { wid := s.nextWid, si := si, chunks := (Sender.packetize s.snd.cfg st si s.snd.nextMsg ppi len).chunks,
    unordered := (Sender.packetize s.snd.cfg st si s.snd.nextMsg ppi len).unordered, n := len, deadline := dl }

/-- the state with the call parked: stream after `packetize`, nothing pushed -/
def parkState (s : St) (si : BitVec 16) (st : Sender.Stream) (ppi : BitVec 32) (len : Nat) (dl : Option Nat) : St :=
  { s with snd := { Sender.setStream s.snd si (Sender.packetize s.snd.cfg st si s.snd.nextMsg ppi len).st with nextMsg := s.snd.nextMsg + 1 },
           waiters := s.waiters ++ [parkedCall s si st ppi len dl],
           nextWid := s.nextWid + 1 }

theorem acceptState_frame (s : St) (si : BitVec 16) (st : Sender.Stream) (ppi : BitVec 32) (len : Nat) :
    (acceptState s si st ppi len).waiters = s.waiters ∧ (acceptState s si st ppi len).nextWid = s.nextWid ∧
    (acceptState s si st ppi len).snd.cfg = s.snd.cfg ∧
    ∀ j, (acceptState s si st ppi len).snd.streams j =
      if j = si then some (Sender.packetize s.snd.cfg st si s.snd.nextMsg ppi len).st else s.snd.streams j := by
  unfold acceptState pushChunks; exact ⟨rfl, rfl, rfl, fun _ => rfl⟩

theorem parkState_frame (s : St) (si : BitVec 16) (st : Sender.Stream) (ppi : BitVec 32) (len : Nat) (dl : Option Nat) :
    (parkState s si st ppi len dl).waiters = s.waiters ++ [parkedCall s si st ppi len dl] ∧
    (parkState s si st ppi len dl).nextWid = s.nextWid + 1 ∧ (parkState s si st ppi len dl).snd.cfg = s.snd.cfg ∧
    ∀ j, (parkState s si st ppi len dl).snd.streams j =
      if j = si then some (Sender.packetize s.snd.cfg st si s.snd.nextMsg ppi len).st else s.snd.streams j := by
  unfold parkState; exact ⟨rfl, rfl, rfl, fun _ => rfl⟩

/-- the three outcomes of `write`: no trace / accepted / parked -/
theorem write_cases (s : St) (si : BitVec 16) (ppi : BitVec 32) (len : Nat) (dl : Option Nat) :
    ((Sapi.write s si ppi len dl).1 = s ∧ accepted (Sapi.write s si ppi len dl).2 = false) ∨
    (∃ st, s.snd.streams si = some st ∧ len ≠ 0 ∧ write_tooLarge (len : Int) s.snd.cfg.maxMessageSize = false ∧
      write_notOpen (s.sstate si) = false ∧ hasWaiter s si = false ∧ s.snd.cfg.maxPayload ≠ 0 ∧
      send_notEstablished s.state = false ∧ mustWait s = false ∧
      Sapi.write s si ppi len dl = (acceptState s si st ppi len, .ok len)) ∨
    (∃ st, s.snd.streams si = some st ∧ len ≠ 0 ∧ write_tooLarge (len : Int) s.snd.cfg.maxMessageSize = false ∧
      write_notOpen (s.sstate si) = false ∧ hasWaiter s si = false ∧ s.snd.cfg.maxPayload ≠ 0 ∧
      send_notEstablished s.state = false ∧ mustWait s = true ∧ deadlinePassed s.snd.now dl = false ∧
      Sapi.write s si ppi len dl = (parkState s si st ppi len dl, .blocked s.nextWid)) := by
  cases hs : s.snd.streams si with
  | none => left; simp [Sapi.write, hs, accepted]
  | some st =>
    by_cases c1 : write_tooLarge (len : Int) s.snd.cfg.maxMessageSize = true
    · left; simp [Sapi.write, hs, c1, accepted]
    by_cases c2 : write_notOpen (s.sstate si) = true
    · left; simp [Sapi.write, hs, c1, c2, accepted]
    by_cases c3 : write_empty (len : Int) = true
    · left; simp [Sapi.write, hs, c1, c2, c3, accepted]
    by_cases c4 : hasWaiter s si = true
    · left; simp [Sapi.write, hs, c1, c2, c3, c4, accepted]
    by_cases c5 : s.snd.cfg.maxPayload = 0
    · left; simp [Sapi.write, hs, c1, c2, c3, c4, c5, accepted]
    have hlen : len ≠ 0 := by intro h0; subst h0; simp [write_empty] at c3
    by_cases c6 : send_notEstablished s.state = true
    · left
      simp only [Sapi.write, hs, c1, c2, c3, c4, c5, c6, if_true, if_false, Bool.false_eq_true, accepted, and_true]
      exact rollback_after_packetize s si st _ ppi len hs
    by_cases c7 : mustWait s = true
    · by_cases c8 : deadlinePassed s.snd.now dl = true
      · left
        simp only [Sapi.write, hs, c1, c2, c3, c4, c5, c6, c7, c8, if_true, if_false, Bool.false_eq_true, accepted, and_true]
        exact rollback_after_packetize s si st _ ppi len hs
      · right; right
        refine ⟨st, rfl, hlen, by simpa using c1, by simpa using c2, by simpa using c4, c5, by simpa using c6, c7, by simpa using c8, ?_⟩
        simp only [Sapi.write, hs, c1, c2, c3, c4, c5, c6, c7, c8, if_true, if_false, Bool.false_eq_true, parkState, parkedCall]
    · right; left
      refine ⟨st, rfl, hlen, by simpa using c1, by simpa using c2, by simpa using c4, c5, by simpa using c6, by simpa using c7, ?_⟩
      simp only [Sapi.write, hs, c1, c2, c3, c4, c5, c6, c7, if_false, Bool.false_eq_true, acceptState]

/-- `popPendingDataChunksToSend` ends with `notifyBlockWritable` -/
def notifies (s : St) (orc : Sender.Oracle) (sel : List Nat) : Bool :=
  s.snd.established && popPending_notifyWritable s.blockWrite ((Sender.gather s.snd orc sel).2.admits.length : Int)
    s.writePending (Sender.gather s.snd orc sel).1.penChunks

/-- the state after the data part of a gather, before a notified writer runs -/
def gathered (s : St) (orc : Sender.Oracle) (sel : List Nat) : St :=
  { s with snd := (Sender.gather s.snd orc sel).1, writePending := if notifies s orc sel then false else s.writePending }

/-- a parked call leaves `sendPayloadData` with its chunks queued -/
def releaseState (s : St) (w : Waiter) : St := pushChunks (dropWaiter s w.wid) w.chunks

/-- the outcomes of `gather` for the write half: nobody runs / the woken call finds the association no longer
established and fails / it is released (the flag is down: the loop condition is false) -/
theorem gather_cases (s : St) (orc : Sender.Oracle) (sel : List Nat) (woke : Option Nat) :
    ((Sapi.gather s orc sel woke).1 = gathered s orc sel ∧ (Sapi.gather s orc sel woke).2.woken = []) ∨
    ∃ w, s.waiters.find? (·.wid == w.wid) = some w ∧ woke = some w.wid ∧ notifies s orc sel = true ∧
      ((Sapi.gather s orc sel woke).1 = failWaiter (gathered s orc sel) w ∧
         (Sapi.gather s orc sel woke).2.woken = [(w.wid, .err .notEstablished)] ∨
       (Sapi.gather s orc sel woke).1 = releaseState (gathered s orc sel) w ∧
         (Sapi.gather s orc sel woke).2.woken = [(w.wid, .ok w.n)]) := by
  unfold Sapi.gather
  simp only
  rw [show (s.snd.established && popPending_notifyWritable s.blockWrite ((Sender.gather s.snd orc sel).2.admits.length : Int)
    s.writePending (Sender.gather s.snd orc sel).1.penChunks) = notifies s orc sel from rfl]
  cases hn : notifies s orc sel with
  | false => exact Or.inl ⟨by simp only [gathered, hn]; rfl, rfl⟩
  | true =>
    cases woke with
    | none => exact Or.inl ⟨by simp only [gathered, hn]; rfl, rfl⟩
    | some wid =>
      have hg : ({ s with snd := (Sender.gather s.snd orc sel).1, writePending := if true = true then false else s.writePending } : St) = gathered s orc sel := by
        simp only [gathered, hn]
      simp only [if_true] at hg ⊢
      rw [hg]
      simp only [wake]
      have hw : (gathered s orc sel).waiters = s.waiters := rfl
      rw [hw]
      cases hf : s.waiters.find? (·.wid == wid) with
      | none => exact Or.inl ⟨rfl, rfl⟩
      | some w =>
        have hwid : w.wid = wid := by simpa using List.find?_some hf
        subst hwid
        refine Or.inr ⟨w, hf, rfl, trivial, ?_⟩
        simp only
        by_cases c1 : send_notEstablishedAfterWait s.state = true
        · left
          have : send_notEstablishedAfterWait (gathered s orc sel).state = true := c1
          simp only [this, if_true, Option.toList, List.map]
          exact ⟨trivial, trivial⟩
        · right
          have : send_notEstablishedAfterWait (gathered s orc sel).state = false := Bool.eq_false_iff.mpr c1
          have h2 : send_waits (gathered s orc sel).writePending = false := by simp only [gathered, hn, if_true]; rfl
          simp only [this, h2, if_false, Bool.false_eq_true, Option.toList, List.map, releaseState]
          exact ⟨trivial, trivial⟩

theorem gather_out (s : St) (orc : Sender.Oracle) (sel : List Nat) (woke : Option Nat) :
    (Sapi.gather s orc sel woke).2.out = (Sender.gather s.snd orc sel).2 ∧
    (Sapi.gather s orc sel woke).2.notified = notifies s orc sel := by
  simp only [Sapi.gather]; split <;> exact ⟨rfl, rfl⟩

end SapiProofs
