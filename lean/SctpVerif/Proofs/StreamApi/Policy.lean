import SctpVerif.Proofs.StreamApi.Evol
/-! The abandonment decision, on the model `Sender` alone (no `Sapi` state): `Policy` (a stream's policy is in force),
`checkPR` under a retransmission limit / a lifetime (`checkPR_rex`, `checkPR_timed`), and the three per-chunk predicates
(`KRex` retransmission limit, `KTimed` lifetime, `Frozen` a message that is abandoned()) with the proofs that they are `Closed`
(`KRex_closed`, `KTimed_closed`, `Frozen_closed`) — hence, by `Evol.lean`, invariants of `gather` / `sack` / `t3` / ticks.
Their lifting to `Sapi.Op` runs is `PolicyRun.lean`. -/
namespace SapiProofs
open Gen SenderProofs

def dcep : BitVec 32 := BitVec.ofNat 32 PayloadTypeWebRTCDCEP

/-- partial reliability is in force and stream `σ` is in the association's table with policy (`relType`, `relVal`) -/
def Policy (s : Sender.St) (σ : BitVec 16) (rt : Nat) (v : BitVec 32) : Prop :=
  s.cfg.prEnabled = true ∧ ∃ st, s.streams σ = some st ∧ st.registered = true ∧ st.relType = BitVec.ofNat 8 rt ∧ st.relVal = v

theorem checkPR_rex (s : Sender.St) (σ : BitVec 16) (N : BitVec 32) (h : Policy s σ ReliabilityTypeRexmit N) (ab : List Nat) (c : Sender.Chunk)
    (hsi : c.si = σ) (hp : c.ppi ≠ dcep) :
    Sender.checkPR s ab c = if c.nSent ≥ N then c.msg :: ab else ab := by
  obtain ⟨h1, st, h2, h3, h4, h5⟩ := h
  have hp' : (c.ppi == BitVec.ofNat 32 PayloadTypeWebRTCDCEP) = false := by simpa [dcep] using hp
  simp only [Sender.checkPR, h1, hsi, h2, h3, h4, h5, hp']
  simp

theorem checkPR_timed (s : Sender.St) (σ : BitVec 16) (L : BitVec 32) (h : Policy s σ ReliabilityTypeTimed L) (ab : List Nat) (c : Sender.Chunk)
    (hsi : c.si = σ) (hp : c.ppi ≠ dcep) :
    Sender.checkPR s ab c = if s.now - c.firstSent ≥ L.toNat then c.msg :: ab else ab := by
  obtain ⟨h1, st, h2, h3, h4, h5⟩ := h
  have hp' : (c.ppi == BitVec.ofNat 32 PayloadTypeWebRTCDCEP) = false := by simpa [dcep] using hp
  simp [Sender.checkPR, h1, hsi, h2, h3, h4, h5, hp', ReliabilityTypeTimed, ReliabilityTypeRexmit]

/-- the invariant of a chunk of stream `σ` under a retransmission limit `N` (DCEP exempt):
(1) while its message is not marked abandoned it has been transmitted fewer than `N` times;
(2) an ending fragment (so: every unfragmented message) has been transmitted at most `max 1 N` times;
(3) an ending fragment in flight has its message flagged all-in-flight -/
def KRex (σ : BitVec 16) (N : BitVec 32) (ab ai : List Nat) (c : Sender.Chunk) : Prop :=
  c.si = σ → c.ppi ≠ dcep →
    (c.msg ∉ ab → c.nSent < N) ∧ (c.efrag = true → c.nSent.toNat ≤ max 1 N.toNat) ∧ (c.efrag = true → c.msg ∈ ai)

theorem isAbandoned_true {ab ai : List Nat} {c : Sender.Chunk} (h1 : c.msg ∈ ab) (h2 : c.msg ∈ ai) : Sender.isAbandoned ab ai c = true := by
  simp [Sender.isAbandoned, h1, h2]

/-- what is known of a pending chunk: it has not been marked for retransmission -/
def Unmarked (c : Sender.Chunk) : Prop := c.retransmit = false

/-- a transmission of a chunk that is not abandoned() — `c'` is `c` sent once more, on the T3 path or as a fast retransmission -/
theorem KRex_resend (s : Sender.St) (σ : BitVec 16) (N : BitVec 32) (hpol : Policy s σ ReliabilityTypeRexmit N)
    {ab ai : List Nat} {c c' : Sender.Chunk} (h : KRex σ N ab ai c) (hna : Sender.isAbandoned ab ai c = false)
    (hsi : c'.si = c.si) (hp : c'.ppi = c.ppi) (hm : c'.msg = c.msg) (he : c'.efrag = c.efrag) (hn : c'.nSent = c.nSent + 1) :
    KRex σ N (Sender.checkPR s ab c') ai c' := by
  intro hsi' hp'
  obtain ⟨k1, _, k3⟩ := h (hsi.symm.trans hsi') (hp ▸ hp')
  rw [checkPR_rex s σ N hpol ab _ hsi' hp']
  refine ⟨?_, ?_, by rw [he, hm]; exact k3⟩
  · intro hnot
    split at hnot
    · exact absurd List.mem_cons_self hnot
    · rename_i hge; simpa [BitVec.not_le] using hge
  · -- an ending fragment that is not abandoned() is not marked: fewer than `N` so far, so at most `N` afterwards
    intro hef
    rw [he] at hef
    have hnm : c.msg ∉ ab := fun hm' => by
      have := isAbandoned_true hm' (k3 hef)
      rw [hna] at this; cases this
    have h1 := k1 hnm
    rw [BitVec.lt_def] at h1
    rw [hn, BitVec.toNat_add, show (1 : BitVec 32).toNat = 1 from rfl]
    omega

theorem KRex_closed (s : Sender.St) (σ : BitVec 16) (N : BitVec 32) (hpol : Policy s σ ReliabilityTypeRexmit N) :
    Closed s (KRex σ N) Unmarked where
  mono := by
    intro ab ab' ai ai' c hab hai h hsi hp
    obtain ⟨k1, k2, k3⟩ := h hsi hp
    exact ⟨fun hn => k1 (fun hm => hn (hab _ hm)), k2, fun he => hai _ (k3 he)⟩
  acked := by intro ab ai c h hsi hp; exact h hsi hp
  miss := by intro ab ai c x h hsi hp; exact h hsi hp
  mark := by intro ab ai c h _ _ hsi hp; exact h hsi hp
  rtx := fun _ _ _ h _ hna => KRex_resend s σ N hpol h hna rfl rfl rfl rfl rfl
  fast := fun _ _ _ h _ hna _ => KRex_resend s σ N hpol h hna rfl rfl rfl rfl rfl
  fresh := by
    intro ab ai c tsn _ hsi hp
    have hsi' : (firstTx s tsn c).si = σ := hsi
    rw [checkPR_rex s σ N hpol ab _ hsi' hp]
    have hn : (firstTx s tsn c).nSent = 1 := rfl
    have hm : (firstTx s tsn c).msg = c.msg := rfl
    have he : (firstTx s tsn c).efrag = c.efrag := rfl
    refine ⟨?_, ?_, ?_⟩
    · intro hnot
      split at hnot
      · rw [hm] at hnot; exact absurd List.mem_cons_self hnot
      · rename_i hge; simpa [BitVec.not_le] using hge
    · intro _
      rw [hn]
      have : (1 : BitVec 32).toNat = 1 := rfl
      rw [this]; omega
    · intro hef
      rw [he] at hef
      rw [hm]; simp [hef]

/-- an ending fragment (every unfragmented message) is transmitted at most `max 1 N ≤ N + 1` times -/
theorem KRex.bound {σ : BitVec 16} {N : BitVec 32} {ab ai : List Nat} {c : Sender.Chunk} (h : KRex σ N ab ai c)
    (hsi : c.si = σ) (hp : c.ppi ≠ dcep) (he : c.efrag = true) : c.nSent.toNat ≤ max 1 N.toNat ∧ c.nSent.toNat ≤ N.toNat + 1 := by
  have := (h hsi hp).2.1 he
  exact ⟨this, by omega⟩

/-- a fragment that has been transmitted `N` times belongs to a marked message -/
theorem KRex.marked {σ : BitVec 16} {N : BitVec 32} {ab ai : List Nat} {c : Sender.Chunk} (h : KRex σ N ab ai c)
    (hsi : c.si = σ) (hp : c.ppi ≠ dcep) (hn : N.toNat ≤ c.nSent.toNat) : c.msg ∈ ab := by
  by_cases hm : c.msg ∈ ab
  · exact hm
  · have := (h hsi hp).1 hm; rw [BitVec.lt_def] at this; omega

/-- the invariant of a chunk of stream `σ` under a lifetime `L` ms (DCEP exempt): while its message is not marked
abandoned, its LAST transmission happened before the lifetime (counted from its first transmission) had expired — the
transmission that finds the lifetime expired marks the message; an ending fragment in flight has its message flagged
all-in-flight -/
def KTimed (σ : BitVec 16) (L : BitVec 32) (ab ai : List Nat) (c : Sender.Chunk) : Prop :=
  c.si = σ → c.ppi ≠ dcep → (c.msg ∉ ab → c.since - c.firstSent < L.toNat) ∧ (c.efrag = true → c.msg ∈ ai)

/-- a retransmission at `s.now`: either the lifetime has not expired, or this transmission marks the message -/
theorem KTimed_resend (s : Sender.St) (σ : BitVec 16) (L : BitVec 32) (hpol : Policy s σ ReliabilityTypeTimed L)
    {ab ai : List Nat} {c c' : Sender.Chunk} (h : KTimed σ L ab ai c)
    (hsi : c'.si = c.si) (hp : c'.ppi = c.ppi) (hm : c'.msg = c.msg) (he : c'.efrag = c.efrag)
    (hf : c'.firstSent = c.firstSent) (hs : c'.since = s.now) :
    KTimed σ L (Sender.checkPR s ab c') ai c' := by
  intro hsi' hp'
  refine ⟨fun hn => ?_, by rw [he, hm]; exact (h (hsi.symm.trans hsi') (hp ▸ hp')).2⟩
  rw [checkPR_timed s σ L hpol ab _ hsi' hp'] at hn
  split at hn
  · exact absurd List.mem_cons_self hn
  · rename_i hge
    rw [hf] at hge; rw [hs, hf]; omega

theorem KTimed_closed (s : Sender.St) (σ : BitVec 16) (L : BitVec 32) (hpol : Policy s σ ReliabilityTypeTimed L) :
    Closed s (KTimed σ L) (fun _ => True) where
  mono := by
    intro ab ab' ai ai' c hab hai h hsi hp
    exact ⟨fun hn => (h hsi hp).1 (fun hm => hn (hab _ hm)), fun he => hai _ ((h hsi hp).2 he)⟩
  acked := by intro ab ai c h hsi hp; exact h hsi hp
  miss := by intro ab ai c x h hsi hp; exact h hsi hp
  mark := by intro ab ai c h _ _ hsi hp; exact h hsi hp
  rtx := fun _ _ _ h _ _ => KTimed_resend s σ L hpol h rfl rfl rfl rfl rfl rfl
  fast := fun _ _ _ h _ _ _ => KTimed_resend s σ L hpol h rfl rfl rfl rfl rfl rfl
  fresh := by
    intro ab ai c tsn _ hsi hp
    have hsi' : (firstTx s tsn c).si = σ := hsi
    refine ⟨fun hn => ?_, fun he => ?_⟩
    · rw [checkPR_timed s σ L hpol ab _ hsi' hp] at hn
      split at hn
      · exact absurd List.mem_cons_self hn
      · rename_i hge
        show s.now - s.now < L.toNat
        have : (firstTx s tsn c).firstSent = s.now := rfl
        rw [this] at hge; omega
    · have he' : c.efrag = true := he
      have hm : (firstTx s tsn c).msg = c.msg := rfl
      rw [hm]; simp [he']

/-- a chunk whose last transmission found the lifetime expired belongs to a marked message; an ending fragment of it is
abandoned() -/
theorem KTimed.expired {σ : BitVec 16} {L : BitVec 32} {ab ai : List Nat} {c : Sender.Chunk} (h : KTimed σ L ab ai c)
    (hsi : c.si = σ) (hp : c.ppi ≠ dcep) (hn : L.toNat ≤ c.since - c.firstSent) :
    c.msg ∈ ab ∧ (c.efrag = true → Sender.isAbandoned ab ai c = true) := by
  have hm : c.msg ∈ ab := by
    by_cases hm : c.msg ∈ ab
    · exact hm
    · have := (h hsi hp).1 hm; omega
  exact ⟨hm, fun he => isAbandoned_true hm ((h hsi hp).2 he)⟩

/-- a message `m` that is abandoned() — marked AND all its fragments in flight: every in-flight chunk of it sees that, and
its transmission count stays at or below the snapshot `B` (indexed by TSN) from now on: it is never transmitted again -/
def Frozen (m : Nat) (B : BitVec 32 → Nat) (ab ai : List Nat) (c : Sender.Chunk) : Prop :=
  c.msg = m → (m ∈ ab ∧ m ∈ ai) ∧ c.nSent.toNat ≤ B c.tsn

/-- a chunk of the frozen message is abandoned(): the retransmission paths pass it over -/
theorem Frozen_not_sent {m : Nat} {B : BitVec 32 → Nat} {ab ai : List Nat} {c : Sender.Chunk} {X : Prop} (h : Frozen m B ab ai c)
    (hna : Sender.isAbandoned ab ai c = false) (hm : c.msg = m) : X := by
  have := isAbandoned_true (c := c) (by rw [hm]; exact (h hm).1.1) (by rw [hm]; exact (h hm).1.2)
  rw [hna] at this; cases this

theorem Frozen_closed (s : Sender.St) (m : Nat) (B : BitVec 32 → Nat) : Closed s (Frozen m B) (fun c => c.msg ≠ m) where
  mono := by intro ab ab' ai ai' c hab hai h hm; exact ⟨⟨hab _ (h hm).1.1, hai _ (h hm).1.2⟩, (h hm).2⟩
  acked := by intro ab ai c h hm; exact h hm
  miss := by intro ab ai c x h hm; exact h hm
  mark := by intro ab ai c h _ _ hm; exact h hm
  rtx := fun _ _ c h _ hna hm => Frozen_not_sent h hna hm
  fast := fun _ _ c h _ hna _ hm => Frozen_not_sent h hna hm
  fresh := by
    intro ab ai c tsn hq hm
    exact absurd hm hq

end SapiProofs
