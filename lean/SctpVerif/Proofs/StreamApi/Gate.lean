import SctpVerif.Proofs.Sender.Progress
import SctpVerif.Proofs.StreamApi.Outcome
/-! The blocking-write gate as an invariant (`GInv`, kept by every rule of `Out`: `GInv.out`, `step_ginv`, `run_ginv`): in
blocking mode `writePending` is down only while the pending queue holds no DATA; a gather that notifies the blocked writers
left the pending queue empty (`notifies_empty`). What follows for an accepted blocking write and for the flag after a gather is
`C18_blocking_write_gate`. -/
namespace SapiProofs
open Gen Sapi SenderProofs

structure GInv (s : St) : Prop where
  cfgOk : CfgOk s.snd.cfg
  core : Core s.snd
  wsmall : ∀ w ∈ s.waiters, ∀ c ∈ w.chunks, c.len < 2^32 ∧ c.acked = false
  gate : s.blockWrite = true → s.writePending = false → ∀ c ∈ s.snd.pending, c.len = 0

theorem pushPending_core (s : Sender.St) (cs : List Sender.Chunk) (hb : Core s) (hs : ∀ c ∈ cs, c.len < 2^32 ∧ c.acked = false) :
    Core (Sender.pushPending s cs) := by
  refine ⟨hb.inf, ?_, ?_, hb.ackedEmpty, ?_⟩
  · simp only [Sender.pushPending, sumLen_append]; rw [hb.pen]; omega
  · simp only [Sender.pushPending, List.length_append]; rw [hb.penN]; omega
  · intro c hc
    simp only [Sender.pushPending, List.mem_append] at hc
    rcases hc with h | h
    · exact hb.penSmall c h
    · exact hs c h

theorem core_of_eq {a b : Sender.St} (hb : Core a) (h1 : b.infBytes = a.infBytes) (h2 : b.inflight = a.inflight)
    (h3 : b.pending = a.pending) (h4 : b.penBytes = a.penBytes) (h5 : b.penChunks = a.penChunks) : Core b :=
  ⟨by rw [h1, h2]; exact hb.inf, by rw [h3, h4]; exact hb.pen, by rw [h3, h5]; exact hb.penN, by rw [h2]; exact hb.ackedEmpty,
   by rw [h3]; exact hb.penSmall⟩

/-- `GInv` reads neither the stream table, nor the association state, nor the read half -/
theorem ginv_frame {s : St} (h : GInv s) (str : BitVec 16 → Option Sender.Stream) (est : Bool) (state : BitVec 32)
    (sstate : BitVec 16 → Int) (rd : BitVec 16 → Option RStream) (sids : List (BitVec 16)) :
    GInv { s with snd := { s.snd with streams := str, established := est }, state := state, sstate := sstate, rd := rd, sids := sids } :=
  ⟨h.cfgOk, core_of_eq h.core rfl rfl rfl rfl rfl, h.wsmall, h.gate⟩

theorem rollbackStream_g (s : St) (h : GInv s) (si : BitVec 16) (u : Bool) (n : Nat) : GInv (rollbackStream s si u n) := by
  unfold rollbackStream
  split
  · exact h
  · exact ginv_frame h _ _ _ _ _ _

theorem failWaiter_g (s : St) (h : GInv s) (w : Waiter) : GInv (failWaiter s w) := by
  apply rollbackStream_g
  exact ⟨h.cfgOk, h.core, fun a ha => h.wsmall a (List.mem_filter.mp ha).1, h.gate⟩

theorem ginv_sameW {s s' : St} (h : GInv s) (hs : SameW s s') : GInv s' := by
  obtain ⟨a, b, _, d, e, _⟩ := hs
  exact ⟨by rw [a]; exact h.cfgOk, by rw [a]; exact h.core, by rw [b]; exact h.wsmall, by rw [a, d, e]; exact h.gate⟩

theorem tick_pending (s : Sender.St) (ms n : Nat) (marks : List (BitVec 32)) :
    (Sender.step s (.tick ms n marks)).pending = s.pending := by
  simp only [Sender.step]
  rw [(applyMarks_frame _ marks).1.pending, iter_t3_pending]

/-- a gather that notifies the blocked writers left the pending queue empty -/
theorem notifies_empty {s : St} (hc : Core s.snd) {orc : Sender.Oracle} {sel : List Nat} (hn : notifies s orc sel = true) :
    (Sender.gather s.snd orc sel).1.pending = [] := by
  simp only [notifies, Bool.and_eq_true, popPending_notifyWritable, beq_iff_eq] at hn
  have hl : ((Sender.gather s.snd orc sel).1.pending.length : Int) = 0 := by
    rw [← (gather_core s.snd orc sel hc).penN]; exact hn.2.2
  exact List.eq_nil_of_length_eq_zero (by omega)

theorem gathered_g (s : St) (h : GInv s) (orc : Sender.Oracle) (sel : List Nat) : GInv (gathered s orc sel) := by
  refine ⟨by show CfgOk (Sender.gather s.snd orc sel).1.cfg; rw [gather_cfg]; exact h.cfgOk, gather_core s.snd orc sel h.core, h.wsmall, ?_⟩
  intro hb hwp c hc
  cases hn : notifies s orc sel with
  | true =>
    have hc' : c ∈ (Sender.gather s.snd orc sel).1.pending := hc
    rw [notifies_empty h.core hn] at hc'; cases hc'
  | false =>
    simp only [gathered, hn, Bool.false_eq_true, if_false] at hwp
    exact h.gate hb hwp c ((gather_prel _ _ _).2.1 c hc)

theorem release_g (s : St) (h : GInv s) (w : Waiter) (hw : w ∈ s.waiters) : GInv (releaseState s w) := by
  refine ⟨h.cfgOk, pushPending_core _ _ h.core (h.wsmall w hw), fun a ha => h.wsmall a (List.mem_filter.mp ha).1, ?_⟩
  intro hb hwp
  have hb' : s.blockWrite = true := hb
  simp [releaseState, pushChunks, send_gated, dropWaiter, hb'] at hwp

theorem ackOp_pending {sop : Sender.Op} (h : AckOp sop) (a : Sender.St) : (Sender.step a sop).pending = a.pending := by
  cases sop with
  | sack cum arwnd gaps marks => exact SenderProofs.sack_pending a cum arwnd gaps marks
  | t3 => exact (t3_frame a).1.pending
  | tick ms n marks => exact tick_pending a ms n marks
  | _ => exact h.elim

theorem GInv.out {s s' : St} {op : Op} (h : GInv s) (ho : Out s op s') : GInv s' := by
  cases ho with
  | tbl s' hsnd hw hn hb hp _ _ =>
    -- `GInv` reads neither the stream table, nor `established`, nor anything outside the write half
    exact ⟨by rw [hsnd]; exact h.cfgOk, core_of_eq h.core (by rw [hsnd]) (by rw [hsnd]) (by rw [hsnd]) (by rw [hsnd]) (by rw [hsnd]),
      by rw [hw]; exact h.wsmall, by rw [hb, hp, hsnd]; exact h.gate⟩
  | ack sop hop due _ s' hs =>
    have h1 : GInv { s with snd := Sender.step s.snd sop } :=
      ⟨by show CfgOk (Sender.step s.snd sop).cfg; rw [step_cfg_eq _ _ h.cfgOk]; exact h.cfgOk, step_core s.snd sop h.core h.cfgOk,
       h.wsmall, fun hb hw c hc => h.gate hb hw c (by rw [ackOp_pending hop] at hc; exact hc)⟩
    exact ginv_sameW (ListAux.foldl_inv (P := GInv) due h1 fun t w _ ht => failWaiter_g t ht w) hs
  | accept k ppi len dl st _ hst hl hw hmp _ _ =>
    unfold acceptState pushChunks
    refine ⟨h.cfgOk, ?_, h.wsmall, ?_⟩
    · apply pushPending_core
      · exact core_of_eq h.core rfl rfl rfl rfl rfl
      · intro c hc
        obtain ⟨_, b2, b3, _⟩ := (packetize_spec s.snd.cfg st k s.snd.nextMsg ppi len hmp).2.2.2.2.2.1 c hc
        exact ⟨by have := s.snd.cfg.maxPayload.isLt; omega, b3⟩
    · intro hb hwp
      have hb' : s.blockWrite = true := hb
      simp only [send_gated, hb', if_true] at hwp; cases hwp
  | park k ppi len dl st _ hst hl hw hmp _ =>
    unfold parkState
    refine ⟨h.cfgOk, core_of_eq h.core rfl rfl rfl rfl rfl, ?_, h.gate⟩
    intro a ha
    simp only [List.mem_append, List.mem_singleton] at ha
    rcases ha with ha | ha
    · exact h.wsmall a ha
    · subst ha
      intro c hc
      obtain ⟨_, b2, b3, _⟩ := (packetize_spec s.snd.cfg st k s.snd.nextMsg ppi len hmp).2.2.2.2.2.1 c hc
      exact ⟨by have := s.snd.cfg.maxPayload.isLt; omega, b3⟩
  | gquiet orc sel _ _ _ => exact gathered_g s h orc sel
  | gfail orc sel _ w _ _ _ => exact failWaiter_g _ (gathered_g s h orc sel) w
  | grel orc sel _ w _ hf _ _ => exact release_g _ (gathered_g s h orc sel) w (List.mem_of_find?_eq_some hf)
  | marker k sst =>
    refine ⟨h.cfgOk, ?_, h.wsmall, ?_⟩
    · apply pushPending_core
      · exact core_of_eq h.core rfl rfl rfl rfl rfl
      · intro c hc; simp only [List.mem_singleton] at hc; subst hc; exact ⟨by simp [resetMarker], rfl⟩
    · intro hb hw c hc
      simp only [Sender.pushPending, List.mem_append, List.mem_singleton] at hc
      rcases hc with hc | hc
      · exact h.gate hb hw c hc
      · subst hc; rfl

theorem step_ginv (s : St) (h : GInv s) (op : Op) : GInv (step s op) := h.out (step_out s op)

theorem init_ginv (cfg : Sender.Cfg) (bw : Bool) (tsn rw : BitVec 32) (hc : CfgOk cfg) : GInv (Sapi.init cfg bw tsn rw) :=
  { cfgOk := hc
    core := (init_books cfg tsn rw).core
    wsmall := by intro w hw; simp [Sapi.init] at hw
    gate := by intro _ _ c hc; simp [Sapi.init, Sender.init] at hc }

theorem run_ginv (s : St) (h : GInv s) (ops : List Op) : GInv (run s ops) :=
  run_foldl s ops ▸ ListAux.foldl_inv (P := GInv) ops h fun s op _ h => step_ginv s h op

end SapiProofs
