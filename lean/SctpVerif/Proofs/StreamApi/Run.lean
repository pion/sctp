import SctpVerif.Proofs.StreamApi.Ids
import SctpVerif.Proofs.ListAux
/-! The invariant of parked calls `WInv` and the `settled` counters of a stream (its counters as they are once the call parked
on it has failed), state by state: `transferOn` / `transfer` / `transferExcept` (a successor state that keeps `registered` and
the counters of the streams concerned keeps both), `drop_inv` / `failWaiter_inv` (a parked call leaves and is rolled back),
`accept_inv`, `park_inv`, `release_inv` (a write accepted at once, parked, released with its chunks queued); `SameW` (the write
half of the state is untouched) with the read-side operations and the read-deadline part of a tick as instances
(`read_sameW` … `tick_sameW`). Also the definitions the identifier theorem is stated with: `pushedOn`, `logOn`, `Consecutive`.
One operation against all of this is `WInv.out` / `step_settled` in `Step.lean`. -/
namespace SapiProofs
open Gen Sapi SenderProofs

def il (s : St) : Bool := s.snd.cfg.useInterleaving

/-- the parked call on a stream (there is at most one: the stream's write lock) -/
def waiterOn (s : St) (si : BitVec 16) : Option Waiter := s.waiters.find? (·.si == si)

/-- the counters of a stream as they will be once the call parked on it (if any) has failed: the failure branch of
`WriteSCTP` is still to run for it -/
def settled (s : St) (si : BitVec 16) : Option Ids :=
  (s.snd.streams si).map fun st => match waiterOn s si with
    | some w => back (il s) w.unordered (ids st)
    | none => ids st

/-- what `WInv` and `settled` read of a stream object -/
def rids (st : Sender.Stream) : Bool × Ids := (st.registered, ids st)

theorem rids_of_sstat {o o' : Option Sender.Stream} (h : o'.map sstat = o.map sstat) : o'.map rids = o.map rids :=
  map_of_sstat rids (fun x => (x.1, x.2.2.2.2.1, x.2.2.2.2.2.1, x.2.2.2.2.2.2)) (fun _ => rfl) h

structure WInv (s : St) : Prop where
  cfgOk : CfgOk s.snd.cfg
  reg : ∀ k st, s.snd.streams k = some st → st.registered = true
  uniq : s.waiters.Pairwise (fun a b => a.si ≠ b.si ∧ a.wid ≠ b.wid)
  fresh : ∀ w ∈ s.waiters, w.wid < s.nextWid
  ok : ∀ w ∈ s.waiters, ∃ st, s.snd.streams w.si = some st ∧ w.chunks ≠ [] ∧
        ∀ c ∈ w.chunks, c.si = w.si ∧ c.unordered = w.unordered ∧ carries (il s) (back (il s) w.unordered (ids st)) c

/-- DATA messages an operation hands to the pending queue for stream `si` (each as its list of fragments) -/
def pushedOn (si : BitVec 16) (s : St) : Op → List (List Sender.Chunk)
  | .write k ppi len dl =>
    if k = si then
      match s.snd.streams k, (Sapi.write s k ppi len dl).2 with
      | some st, .ok n => if n = 0 then [] else [(Sender.packetize s.snd.cfg st k s.snd.nextMsg ppi len).chunks]
      | _, _ => []
    else []
  | .gather orc sel woke =>
    (Sapi.gather s orc sel woke).2.woken.filterMap fun (x : Nat × WRes) =>
      match x.2, s.waiters.find? (·.wid == x.1) with
      | .ok _, some w => if w.si = si then some w.chunks else none
      | _, _ => none
  | _ => []

/-- … over a run, in order -/
def logOn (si : BitVec 16) (s : St) : List Op → List (List Sender.Chunk)
  | [] => []
  | op :: ops => pushedOn si s op ++ logOn si (step s op) ops

/-- every message carries the identifier the counters hold when it is accepted, and advances them by `adv` -/
def Consecutive (il : Bool) : Ids → List (List Sender.Chunk) → Prop
  | _, [] => True
  | x, m :: r => ∃ u, m ≠ [] ∧ (∀ c ∈ m, c.unordered = u ∧ carries il x c) ∧ Consecutive il (adv il u x) r

theorem find_si_of_mem {l : List Waiter} (hu : l.Pairwise (fun a b => a.si ≠ b.si ∧ a.wid ≠ b.wid)) {w : Waiter} (hw : w ∈ l) :
    l.find? (·.si == w.si) = some w :=
  ListAux.find?_key_of_mem (f := fun a : Waiter => a.si) (hu.imp And.left) hw

theorem find_wid_of_mem {l : List Waiter} (hu : l.Pairwise (fun a b => a.si ≠ b.si ∧ a.wid ≠ b.wid)) {w : Waiter} (hw : w ∈ l) :
    l.find? (·.wid == w.wid) = some w :=
  ListAux.find?_key_of_mem (f := fun a : Waiter => a.wid) (hu.imp And.right) hw

/-- streams in `D` keep `registered` and their counters, and every parked call is on a stream in `D` -/
theorem transferOn {s s' : St} (D : BitVec 16 → Prop) (h : WInv s) (hw : s'.waiters = s.waiters) (hn : s'.nextWid = s.nextWid)
    (hc : s'.snd.cfg = s.snd.cfg) (hD : ∀ w ∈ s.waiters, D w.si)
    (hs : ∀ k st, D k → s.snd.streams k = some st → ∃ st', s'.snd.streams k = some st' ∧ rids st' = rids st)
    (hr : ∀ k st, s'.snd.streams k = some st → st.registered = true) :
    WInv s' ∧ ∀ k x, D k → settled s k = some x → settled s' k = some x := by
  have hil : il s' = il s := by simp only [il, hc]
  refine ⟨⟨by rw [hc]; exact h.cfgOk, hr, by rw [hw]; exact h.uniq, by rw [hw, hn]; exact h.fresh, ?_⟩, ?_⟩
  · intro w hwm
    rw [hw] at hwm
    obtain ⟨st, e1, e2, e3⟩ := h.ok w hwm
    obtain ⟨st', f1, f2⟩ := hs _ _ (hD w hwm) e1
    refine ⟨st', f1, e2, ?_⟩
    have hid : ids st' = ids st := by simp only [rids, Prod.mk.injEq] at f2; exact f2.2
    rw [hil, hid]; exact e3
  · intro k x hk hx
    simp only [settled] at hx ⊢
    cases hks : s.snd.streams k with
    | none => rw [hks] at hx; cases hx
    | some st =>
      obtain ⟨st', f1, f2⟩ := hs _ _ hk hks
      have hid : ids st' = ids st := by simp only [rids, Prod.mk.injEq] at f2; exact f2.2
      rw [hks] at hx
      simp only [Option.map_some, waiterOn] at hx
      rw [f1]
      simp only [Option.map_some, waiterOn, hw, hil, hid]
      exact hx

theorem transfer {s s' : St} (h : WInv s) (hw : s'.waiters = s.waiters) (hn : s'.nextWid = s.nextWid) (hc : s'.snd.cfg = s.snd.cfg)
    (hs : ∀ k st, s.snd.streams k = some st → ∃ st', s'.snd.streams k = some st' ∧ rids st' = rids st)
    (hr : ∀ k st, s'.snd.streams k = some st → st.registered = true) :
    WInv s' ∧ ∀ k x, settled s k = some x → settled s' k = some x := by
  obtain ⟨a, b⟩ := transferOn (fun _ => True) h hw hn hc (fun _ _ => trivial) (fun k st _ => hs k st) hr
  exact ⟨a, fun k x => b k x trivial⟩

/-- two parked calls on the same stream, or with the same call id, are one -/
theorem mem_same {l : List Waiter} (hu : l.Pairwise (fun a b => a.si ≠ b.si ∧ a.wid ≠ b.wid)) {a b : Waiter}
    (ha : a ∈ l) (hb : b ∈ l) (h : a.si = b.si ∨ a.wid = b.wid) : a = b :=
  ListAux.eq_of_pairwise hu ha hb (fun n => h.elim n.1 n.2) (fun n => h.elim (n.1 ·.symm) (n.2 ·.symm))

theorem find_filter_of {l : List Waiter} (p q : Waiter → Bool) (h : ∀ a ∈ l, q a = false → p a = false) :
    (l.filter q).find? p = l.find? p := by
  induction l with
  | nil => rfl
  | cons x r ih =>
    have ih' := ih (fun a ha => h a (List.mem_cons_of_mem _ ha))
    by_cases hq : q x = true
    · simp only [List.filter_cons, hq, if_true, List.find?_cons, ih']
    · have hq' : q x = false := by simpa using hq
      have hp := h x (List.mem_cons_self) hq'
      rw [List.filter_cons, if_neg (by simp [hq']), List.find?_cons, hp]
      exact ih'

/-- the parked call `w` leaves (its record is dropped) and its stream becomes `st'`: the other streams keep their settled
counters, the stream of `w` has no parked call left -/
theorem drop_inv {s s' : St} (h : WInv s) (w : Waiter) (hw : w ∈ s.waiters) (st' : Sender.Stream) (hreg : st'.registered = true)
    (hwl : s'.waiters = s.waiters.filter (·.wid != w.wid)) (hn : s'.nextWid = s.nextWid) (hc : s'.snd.cfg = s.snd.cfg)
    (hs : ∀ k, s'.snd.streams k = if k = w.si then some st' else s.snd.streams k) :
    WInv s' ∧ (∀ j x, j ≠ w.si → settled s j = some x → settled s' j = some x) ∧ settled s' w.si = some (ids st') := by
  have hil : il s' = il s := by simp only [il, hc]
  -- the members that stay are on other streams
  have hother : ∀ a ∈ s.waiters.filter (·.wid != w.wid), a ∈ s.waiters ∧ a.si ≠ w.si := by
    intro a ha
    obtain ⟨ha1, ha2⟩ := List.mem_filter.mp ha
    refine ⟨ha1, fun hsi => ?_⟩
    have := mem_same h.uniq ha1 hw (Or.inl hsi)
    subst this; simp at ha2
  refine ⟨⟨by rw [hc]; exact h.cfgOk, ?_, by rw [hwl]; exact h.uniq.sublist List.filter_sublist, ?_, ?_⟩, ?_, ?_⟩
  · intro k st hk
    rw [hs] at hk
    by_cases hkw : k = w.si
    · rw [if_pos hkw] at hk; cases hk; exact hreg
    · rw [if_neg hkw] at hk; exact h.reg _ _ hk
  · intro a ha; rw [hwl] at ha; rw [hn]; exact h.fresh a (hother a ha).1
  · intro a ha; rw [hwl] at ha
    obtain ⟨ha1, ha2⟩ := hother a ha
    obtain ⟨sa, e1, e2, e3⟩ := h.ok a ha1
    exact ⟨sa, by rw [hs, if_neg ha2]; exact e1, e2, by rw [hil]; exact e3⟩
  · intro j x hj hx
    simp only [settled] at hx ⊢
    rw [hs, if_neg hj]
    cases hjs : s.snd.streams j with
    | none => rw [hjs] at hx; cases hx
    | some sj =>
      rw [hjs] at hx
      simp only [Option.map_some, waiterOn] at hx ⊢
      rw [hwl, find_filter_of (fun a => a.si == j) (fun a => a.wid != w.wid), hil]
      · exact hx
      · intro a ha hq
        have hwid : a.wid = w.wid := by simpa using hq
        have := mem_same h.uniq ha hw (Or.inr hwid)
        subst this
        simpa using (fun h' : a.si = j => hj h'.symm)
  · have hnone : (s.waiters.filter (·.wid != w.wid)).find? (·.si == w.si) = none := by
      refine List.find?_eq_none.mpr fun a ha => ?_
      simpa using (hother a ha).2
    simp only [settled, hs, if_true, Option.map_some, waiterOn, hwl, hnone]

theorem failWaiter_inv (s : St) (h : WInv s) (w : Waiter) (hw : w ∈ s.waiters) :
    WInv (failWaiter s w) ∧ (∀ k x, settled s k = some x → settled (failWaiter s w) k = some x) ∧
    (failWaiter s w).waiters = s.waiters.filter (·.wid != w.wid) ∧ il (failWaiter s w) = il s ∧
    (failWaiter s w).nextWid = s.nextWid := by
  obtain ⟨st, hst, _, hcar⟩ := h.ok w hw
  have hf : failWaiter s w =
      { dropWaiter s w.wid with snd := Sender.setStream s.snd w.si (Sender.rollback s.snd.cfg st w.unordered w.n) } := by
    have hdrop : (dropWaiter s w.wid).snd = s.snd := rfl
    simp only [failWaiter, rollbackStream, hdrop, hst]
  rw [hf]
  obtain ⟨a1, a2, a3⟩ := drop_inv (s' := { dropWaiter s w.wid with snd := Sender.setStream s.snd w.si (Sender.rollback s.snd.cfg st w.unordered w.n) })
    h w hw _ ((registered_rollback _ _ _ _).trans (h.reg _ _ hst)) rfl rfl rfl (fun _ => rfl)
  refine ⟨a1, fun k x hx => ?_, rfl, rfl, rfl⟩
  by_cases hk : k = w.si
  · subst hk
    rw [a3, ← hx]
    simp only [settled, hst, Option.map_some, waiterOn, find_si_of_mem h.uniq hw, ids_rollback]; rfl
  · exact a2 k x hk hx

theorem waiterOn_none_of {s : St} {k : BitVec 16} (hk : ∀ w ∈ s.waiters, w.si ≠ k) : waiterOn s k = none :=
  List.find?_eq_none.mpr fun a ha => by simpa using hk a ha

theorem hasWaiter_false {s : St} {k : BitVec 16} (h : hasWaiter s k = false) : ∀ w ∈ s.waiters, w.si ≠ k := by
  intro w hw hsi
  have : hasWaiter s k = true := by
    simp only [hasWaiter, List.any_eq_true]; exact ⟨w, hw, by simpa using hsi⟩
  rw [h] at this; cases this

theorem transferExcept {s s' : St} (h : WInv s) (hw : s'.waiters = s.waiters) (hn : s'.nextWid = s.nextWid) (hc : s'.snd.cfg = s.snd.cfg)
    (k : BitVec 16) (hk : ∀ w ∈ s.waiters, w.si ≠ k)
    (hs : ∀ j st, j ≠ k → s.snd.streams j = some st → ∃ st', s'.snd.streams j = some st' ∧ rids st' = rids st)
    (hr : ∀ j st, s'.snd.streams j = some st → st.registered = true) :
    WInv s' ∧ (∀ j x, j ≠ k → settled s j = some x → settled s' j = some x) ∧
    settled s' k = (s'.snd.streams k).map ids ∧ settled s k = (s.snd.streams k).map ids := by
  obtain ⟨a, b⟩ := transferOn (· ≠ k) h hw hn hc hk hs hr
  refine ⟨a, b, ?_, ?_⟩
  · have : waiterOn s' k = none := waiterOn_none_of (by rw [hw]; exact hk)
    simp only [settled, this]
  · simp only [settled, waiterOn_none_of hk]

/-- a write is accepted at once -/
theorem accept_inv (s : St) (h : WInv s) (k : BitVec 16) (st : Sender.Stream) (ppi : BitVec 32) (len : Nat)
    (hst : s.snd.streams k = some st) (hw : hasWaiter s k = false) :
    WInv (acceptState s k st ppi len) ∧ il (acceptState s k st ppi len) = il s ∧
    (∀ j x, j ≠ k → settled s j = some x → settled (acceptState s k st ppi len) j = some x) ∧
    settled s k = some (ids st) ∧
    settled (acceptState s k st ppi len) k =
      some (adv (il s) (Sender.packetize s.snd.cfg st k s.snd.nextMsg ppi len).unordered (ids st)) := by
  obtain ⟨f1, f2, f3, hstr⟩ := acceptState_frame s k st ppi len
  have hk := hasWaiter_false hw
  obtain ⟨a1, a2, a3, a4⟩ := transferExcept (s' := acceptState s k st ppi len) h f1 f2 f3 k hk
    (by intro j sj hj hsj; exact ⟨sj, by rw [hstr, if_neg hj]; exact hsj, rfl⟩)
    (by
      intro j sj hsj
      rw [hstr] at hsj
      by_cases hj : j = k
      · rw [if_pos hj] at hsj; cases hsj
        rw [packetize_registered]; exact h.reg _ _ hst
      · rw [if_neg hj] at hsj; exact h.reg _ _ hsj)
  refine ⟨a1, by simp only [il, f3], a2, by rw [a4, hst]; rfl, ?_⟩
  rw [a3, hstr, if_pos rfl]
  simp only [Option.map_some, ids_packetize]; rfl

/-- a write is parked: its stream's settled counters are what they were -/
theorem park_inv (s : St) (h : WInv s) (k : BitVec 16) (st : Sender.Stream) (ppi : BitVec 32) (len : Nat) (dl : Option Nat)
    (hst : s.snd.streams k = some st) (hw : hasWaiter s k = false) (hmp : s.snd.cfg.maxPayload ≠ 0) (hlen : len ≠ 0) :
    WInv (parkState s k st ppi len dl) ∧ il (parkState s k st ppi len dl) = il s ∧
    (∀ j x, settled s j = some x → settled (parkState s k st ppi len dl) j = some x) := by
  have hk := hasWaiter_false hw
  obtain ⟨hwl, hnw, hcfg, hstr⟩ := parkState_frame s k st ppi len dl
  have hil : il (parkState s k st ppi len dl) = il s := by simp only [il, hcfg]
  have hback : back (il s) (parkedCall s k st ppi len dl).unordered (ids (Sender.packetize s.snd.cfg st k s.snd.nextMsg ppi len).st) = ids st := by
    rw [ids_packetize]; exact back_adv _ _ _
  refine ⟨⟨by rw [hcfg]; exact h.cfgOk, ?_, ?_, ?_, ?_⟩, hil, ?_⟩
  · intro j sj hsj
    rw [hstr] at hsj
    by_cases hj : j = k
    · rw [if_pos hj] at hsj; cases hsj; rw [packetize_registered]; exact h.reg _ _ hst
    · rw [if_neg hj] at hsj; exact h.reg _ _ hsj
  · rw [hwl, List.pairwise_append]
    refine ⟨h.uniq, List.pairwise_singleton _ _, ?_⟩
    intro a ha b hb
    rw [List.mem_singleton] at hb; subst hb
    exact ⟨hk a ha, by have := h.fresh a ha; show a.wid ≠ s.nextWid; omega⟩
  · intro a ha
    rw [hwl, List.mem_append, List.mem_singleton] at ha
    rw [hnw]
    rcases ha with ha | ha
    · have := h.fresh a ha; omega
    · subst ha; show s.nextWid < s.nextWid + 1; omega
  · intro a ha
    rw [hwl, List.mem_append, List.mem_singleton] at ha
    rcases ha with ha | ha
    · obtain ⟨sa, e1, e2, e3⟩ := h.ok a ha
      exact ⟨sa, by rw [hstr, if_neg (hk a ha)]; exact e1, e2, e3⟩
    · subst ha
      refine ⟨(Sender.packetize s.snd.cfg st k s.snd.nextMsg ppi len).st, by rw [hstr]; exact if_pos (rfl : (parkedCall s k st ppi len dl).si = k), packetize_nonempty _ _ _ _ _ _ hmp hlen, ?_⟩
      intro c hc
      obtain ⟨b1, _, _, b4, b5, _⟩ := packetize_mem _ _ _ _ _ _ hmp c hc
      refine ⟨b1, b4, ?_⟩
      rw [hil, hback]; exact b5
  · intro j x hx
    simp only [settled] at hx ⊢
    rw [hstr]
    by_cases hj : j = k
    · subst hj
      rw [hst] at hx
      simp only [Option.map_some, waiterOn_none_of hk] at hx
      simp only [if_true, Option.map_some, waiterOn, hwl, List.find?_append]
      have : s.waiters.find? (·.si == j) = none := waiterOn_none_of hk
      rw [this]
      simp only [Option.none_or, List.find?_cons, parkedCall, beq_self_eq_true]
      rw [hil]
      have := hback
      simp only [parkedCall] at this
      rw [this]; exact hx
    · rw [if_neg hj]
      cases hjs : s.snd.streams j with
      | none => rw [hjs] at hx; cases hx
      | some sj =>
        rw [hjs] at hx
        simp only [Option.map_some, waiterOn] at hx ⊢
        rw [hwl, List.find?_append]
        have hne : ((parkedCall s k st ppi len dl).si == j) = false := by simpa [parkedCall] using (fun h' : k = j => hj h'.symm)
        simp only [List.find?_cons, hne, List.find?_nil, Option.or_none, hil]
        exact hx

/-- a parked call leaves with its chunks queued (the stream table is not touched): its stream's settled counters advance -/
theorem release_inv {s s' : St} (h : WInv s) (w : Waiter) (hw : w ∈ s.waiters)
    (hwl : s'.waiters = s.waiters.filter (·.wid != w.wid)) (hn : s'.nextWid = s.nextWid) (hc : s'.snd.cfg = s.snd.cfg)
    (hs : s'.snd.streams = s.snd.streams) :
    WInv s' ∧ (∀ j x, j ≠ w.si → settled s j = some x → settled s' j = some x) ∧
    ∃ x, settled s w.si = some x ∧ settled s' w.si = some (adv (il s) w.unordered x) ∧
      w.chunks ≠ [] ∧ ∀ c ∈ w.chunks, c.unordered = w.unordered ∧ carries (il s) x c := by
  obtain ⟨st, hst, hne, hcar⟩ := h.ok w hw
  obtain ⟨a1, a2, a3⟩ := drop_inv (s' := s') h w hw st (h.reg _ _ hst) hwl hn hc (by
    intro k; rw [hs]; by_cases hk : k = w.si
    · rw [if_pos hk, hk, hst]
    · rw [if_neg hk])
  refine ⟨a1, a2, back (il s) w.unordered (ids st), ?_, by rw [a3, adv_back], hne, fun c hc => ⟨(hcar c hc).2.1, (hcar c hc).2.2⟩⟩
  simp only [settled, hst, Option.map_some, waiterOn, find_si_of_mem h.uniq hw]

/-- the write half of the state is the same -/
def SameW (s s' : St) : Prop :=
  s'.snd = s.snd ∧ s'.waiters = s.waiters ∧ s'.nextWid = s.nextWid ∧ s'.blockWrite = s.blockWrite ∧
  s'.writePending = s.writePending ∧ s'.state = s.state

theorem SameW.rfl' (s : St) : SameW s s := ⟨rfl, rfl, rfl, rfl, rfl, rfl⟩

theorem setRd_sameW (s : St) (si : BitVec 16) (r : RStream) : SameW s (setRd s si r) := ⟨rfl, rfl, rfl, rfl, rfl, rfl⟩

theorem read_sameW (s : St) (si : BitVec 16) (n : Nat) : SameW s (Sapi.read s si n).1 := by
  unfold Sapi.read
  split
  · exact SameW.rfl' s
  · split
    · exact SameW.rfl' s
    · split <;> exact ⟨rfl, rfl, rfl, rfl, rfl, rfl⟩

theorem rpush_sameW (s : St) (si : BitVec 16) (c : Reasm.Chunk) : SameW s (Sapi.rpush s si c).1 := by
  unfold Sapi.rpush
  split
  · exact SameW.rfl' s
  · simp only
    split
    · exact SameW.rfl' s
    · split <;> exact ⟨rfl, rfl, rfl, rfl, rfl, rfl⟩

theorem rdeadline_sameW (s : St) (si : BitVec 16) (t : Option Nat) : SameW s (Sapi.rdeadline s si t).1 := by
  unfold Sapi.rdeadline
  split
  · exact SameW.rfl' s
  · simp only
    split
    · exact ⟨rfl, rfl, rfl, rfl, rfl, rfl⟩
    · split
      · exact ⟨rfl, rfl, rfl, rfl, rfl, rfl⟩
      · split <;> exact ⟨rfl, rfl, rfl, rfl, rfl, rfl⟩

theorem reof_sameW (s : St) (si : BitVec 16) : SameW s (Sapi.reof s si).1 := by
  unfold Sapi.reof
  split
  · exact SameW.rfl' s
  · exact ⟨rfl, rfl, rfl, rfl, rfl, rfl⟩

theorem fireTimers_sameW (s : St) (l : List (BitVec 16)) : SameW s (Sapi.fireTimers s l).1 := by
  induction l generalizing s with
  | nil => exact SameW.rfl' s
  | cons si rest ih =>
    simp only [Sapi.fireTimers]
    cases hr : s.rd si with
    | none => exact ih s
    | some r =>
      simp only
      by_cases hc : timerDue r s.snd.now = true
      · rw [if_pos hc]
        obtain ⟨a, b, c, d, e, f⟩ := ih (setRd s si (fireTimer r).1)
        exact ⟨a, b, c, d, e, f⟩
      · rw [if_neg hc]; exact ih s

/-- a clock tick: the sender half advances, the parked calls whose deadline has passed fail, then only the read half moves -/
theorem tick_sameW (s : St) (ms n : Nat) (marks : List (BitVec 32)) :
    SameW (expireWaiters { s with snd := Sender.step s.snd (.tick ms n marks) }).1 (step s (.tick ms n marks)) :=
  fireTimers_sameW _ _

theorem transfer_sameW {s s' : St} (h : WInv s) (hs : SameW s s') :
    WInv s' ∧ (∀ k x, settled s k = some x → settled s' k = some x) ∧ il s' = il s := by
  obtain ⟨a, b, c, _⟩ := hs
  have := transfer (s' := s') h b c (by rw [a]) (by intro k st hk; exact ⟨st, by rw [a]; exact hk, rfl⟩)
    (by intro k st hk; rw [a] at hk; exact h.reg _ _ hk)
  exact ⟨this.1, this.2, by simp only [il, a]⟩

theorem run_foldl (s : St) (ops : List Op) : run s ops = ops.foldl step s :=
  ListAux.run_eq_foldl (fun _ => rfl) (fun _ _ _ => rfl) s ops

end SapiProofs
