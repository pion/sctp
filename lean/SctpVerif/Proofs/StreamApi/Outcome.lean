import SctpVerif.Proofs.StreamApi.Run
/-! What one operation of the stream API does to the write half of the state, as a relation `Out s op s'` with one rule per
way the write half can move (guards as hypotheses, the successor as one of the named states `acceptState`, `parkState`,
`gathered`, `failWaiter`, `releaseState`, or a record update), and `step_out : Out s op (step s op)`, the one place where
`Sapi.step` is unfolded. The invariants of the write half are proved rule by rule: `GInv.out` (`Gate`), `WInv.out` with the
settled counters (`Step`), `RInv.out` and the context `Out.ctx` (configuration, policy, `nextMsg`; `PolicyRun`). -/
namespace SapiProofs
open Gen Sapi SenderProofs

/-- what `checkPartialReliabilityStatus` reads of a stream -/
def pol (st : Sender.Stream) : Bool × BitVec 8 × BitVec 32 := (st.registered, st.relType, st.relVal)

def polOf (s : Sender.St) (σ : BitVec 16) : Option (Bool × BitVec 8 × BitVec 32) := (s.streams σ).map pol

/-- the operation does not open or re-configure stream `σ` -/
def Keeps (σ : BitVec 16) : Op → Prop
  | .openS k _ _ _ => k ≠ σ
  | .setRel k _ _ _ => k ≠ σ
  | _ => True

/-- the sender operations behind `sack`, `t3`, `tick`: acknowledgements, timers, loss marks -/
def AckOp : Sender.Op → Prop
  | .sack .. => True
  | .t3 => True
  | .tick .. => True
  | _ => False

theorem ackOp_sstat {sop : Sender.Op} (h : AckOp sop) (a : Sender.St) (hc : CfgOk a.cfg) (k : BitVec 16) :
    ((Sender.step a sop).streams k).map sstat = (a.streams k).map sstat := by
  cases sop with
  | sack cum arwnd gaps marks => exact sack_sstat a cum arwnd gaps marks hc k
  | t3 => simp only [Sender.step, t3_streams]
  | tick ms n marks => rw [tick_streams]
  | _ => exact h.elim

/-- what an operation that only rewrites the stream table may do to it: a registered stream keeps `registered` and its
counters; a stream object that appears is registered, or has the `registered` of the one it replaces; the policy of every
stream the operation `Keeps` stays -/
structure TblStep (op : Op) (str str' : BitVec 16 → Option Sender.Stream) : Prop where
  ids : ∀ j st, str j = some st → st.registered = true → ∃ st', str' j = some st' ∧ rids st' = rids st
  reg : ∀ j st', str' j = some st' → st'.registered = true ∨ ∃ st, str j = some st ∧ st'.registered = st.registered
  pol : ∀ σ, Keeps σ op → (str' σ).map pol = (str σ).map pol

theorem TblStep.rfl' (op : Op) (str : BitVec 16 → Option Sender.Stream) : TblStep op str str :=
  ⟨fun _ st hj _ => ⟨st, hj, rfl⟩, fun _ st' hj => .inr ⟨st', hj, rfl⟩, fun _ _ => rfl⟩

/-- the entry `k` is replaced by a stream with the same `registered` and counters (or, where there was none or an
unregistered one, by a registered one), and the operation `Keeps` only other streams -/
theorem TblStep.set {op : Op} (str : BitVec 16 → Option Sender.Stream) (k : BitVec 16) (st' : Sender.Stream)
    (hk : ∀ st, str k = some st → st.registered = true → rids st' = rids st)
    (hr : st'.registered = true ∨ ∃ st, str k = some st ∧ st'.registered = st.registered)
    (hop : ∀ σ, Keeps σ op → k ≠ σ) : TblStep op str (fun j => if j = k then some st' else str j) where
  ids := by
    intro j st hj hreg
    by_cases hjk : j = k
    · subst hjk; exact ⟨st', if_pos rfl, hk st hj hreg⟩
    · exact ⟨st, (if_neg hjk).trans hj, rfl⟩
  reg := by
    intro j sj hj
    by_cases hjk : j = k
    · subst hjk; cases (if_pos rfl).symm.trans hj; exact hr
    · exact .inr ⟨sj, (if_neg hjk).symm.trans hj, rfl⟩
  pol := fun σ hσ => congrArg (Option.map SapiProofs.pol) (if_neg fun e => hop σ hσ e.symm)

inductive Out (s : St) (op : Op) : St → Prop
  /-- nothing of the write half moves but the stream table and the `established` flag (state changes, `OpenStream`,
  `SetReliabilityParams`, the whole read half, every call that is refused) -/
  | tbl (s' : St) (hsnd : s'.snd = { s.snd with streams := s'.snd.streams, established := s'.snd.established })
      (hw : s'.waiters = s.waiters) (hn : s'.nextWid = s.nextWid) (hb : s'.blockWrite = s.blockWrite)
      (hp : s'.writePending = s.writePending) (ht : TblStep op s.snd.streams s'.snd.streams)
      (hpush : ∀ si, pushedOn si s op = []) : Out s op s'
  /-- the sender half takes a `sack` / `t3` / `tick` step, then parked calls whose deadline passed fail, then only the read
  half moves -/
  | ack (sop : Sender.Op) (hop : AckOp sop) (due : List Waiter) (hd : due.Sublist s.waiters) (s' : St)
      (h : SameW (due.foldl failWaiter { s with snd := Sender.step s.snd sop }) s') (hpush : ∀ si, pushedOn si s op = []) : Out s op s'
  | accept (k : BitVec 16) (ppi : BitVec 32) (len : Nat) (dl : Option Nat) (st : Sender.Stream) (hop : op = .write k ppi len dl)
      (hst : s.snd.streams k = some st) (hl : len ≠ 0) (hw : hasWaiter s k = false) (hmp : s.snd.cfg.maxPayload ≠ 0)
      (hmw : mustWait s = false) (hr : Sapi.write s k ppi len dl = (acceptState s k st ppi len, .ok len)) :
      Out s op (acceptState s k st ppi len)
  | park (k : BitVec 16) (ppi : BitVec 32) (len : Nat) (dl : Option Nat) (st : Sender.Stream) (hop : op = .write k ppi len dl)
      (hst : s.snd.streams k = some st) (hl : len ≠ 0) (hw : hasWaiter s k = false) (hmp : s.snd.cfg.maxPayload ≠ 0)
      (hr : Sapi.write s k ppi len dl = (parkState s k st ppi len dl, .blocked s.nextWid)) :
      Out s op (parkState s k st ppi len dl)
  /-- a gather after which no parked call runs -/
  | gquiet (orc : Sender.Oracle) (sel : List Nat) (woke : Option Nat) (hop : op = .gather orc sel woke)
      (hwk : (Sapi.gather s orc sel woke).2.woken = []) : Out s op (gathered s orc sel)
  | gfail (orc : Sender.Oracle) (sel : List Nat) (woke : Option Nat) (w : Waiter) (hop : op = .gather orc sel woke)
      (hf : s.waiters.find? (·.wid == w.wid) = some w) (hwk : (Sapi.gather s orc sel woke).2.woken = [(w.wid, .err .notEstablished)]) :
      Out s op (failWaiter (gathered s orc sel) w)
  | grel (orc : Sender.Oracle) (sel : List Nat) (woke : Option Nat) (w : Waiter) (hop : op = .gather orc sel woke)
      (hf : s.waiters.find? (·.wid == w.wid) = some w) (hn : notifies s orc sel = true)
      (hwk : (Sapi.gather s orc sel woke).2.woken = [(w.wid, .ok w.n)]) :
      Out s op (releaseState (gathered s orc sel) w)
  /-- `Close` queues the end-of-stream marker -/
  | marker (k : BitVec 16) (sst : BitVec 16 → Int) (hpush : ∀ si, pushedOn si s op = []) :
      Out s op { s with sstate := sst, snd := Sender.pushPending { s.snd with nextMsg := s.snd.nextMsg + 1 } [resetMarker k s.snd.nextMsg] }

theorem Out.same {s s' : St} {op : Op} (h : SameW s s') (hpush : ∀ si, pushedOn si s op = []) : Out s op s' :=
  .tbl s' (by rw [h.1]) h.2.1 h.2.2.1 h.2.2.2.1 h.2.2.2.2.1 (by rw [h.1]; exact .rfl' op _) hpush

theorem polOf_setStream (s : Sender.St) (k σ : BitVec 16) (st' : Sender.Stream)
    (h : k = σ → ∃ st, s.streams σ = some st ∧ pol st' = pol st) :
    polOf (Sender.setStream s k st') σ = polOf s σ := by
  simp only [polOf, Sender.setStream]
  by_cases hk : σ = k
  · subst hk
    obtain ⟨st, h1, h2⟩ := h rfl
    simp [h1, h2]
  · simp [hk]

theorem step_out (s : St) (op : Op) : Out s op (step s op) := by
  cases op with
  | setState n => exact .tbl _ rfl rfl rfl rfl rfl (.rfl' _ _) (fun _ => rfl)
  | rpush k c => exact .same (rpush_sameW s k c) (fun _ => rfl)
  | read k n => exact .same (read_sameW s k n) (fun _ => rfl)
  | rdeadline k t => exact .same (rdeadline_sameW s k t) (fun _ => rfl)
  | reof k => exact .same (reof_sameW s k) (fun _ => rfl)
  | sack cum arwnd gaps marks => exact .ack (.sack cum arwnd gaps marks) trivial [] (List.nil_sublist _) _ (SameW.rfl' _) (fun _ => rfl)
  | t3 => exact .ack .t3 trivial [] (List.nil_sublist _) _ (SameW.rfl' _) (fun _ => rfl)
  | tick ms n marks => exact .ack (.tick ms n marks) trivial _ List.filter_sublist _ (tick_sameW s ms n marks) (fun _ => rfl)
  | setRel k u rt rv =>
    simp only [step, Sapi.setRel]
    split
    · exact .same (SameW.rfl' s) (fun _ => rfl)
    · rename_i st hst
      exact .tbl _ rfl rfl rfl rfl rfl
        (.set _ k _ (fun st0 h0 _ => by rw [hst] at h0; cases h0; rfl) (.inr ⟨st, hst, rfl⟩) (fun σ hσ => hσ)) (fun _ => rfl)
  | openS k u rt rv =>
    have ht : TblStep (.openS k u rt rv) s.snd.streams (Sender.openStream s.snd k u rt rv 0).streams := by
      refine .set _ k _ ?_ ?_ (fun σ hσ => hσ)
      · intro st hst hreg; simp only [hst, hreg, if_true, rids, ids]
      · cases hst : s.snd.streams k with
        | none => exact .inl rfl
        | some st => simp only; split
                     · exact .inr ⟨st, rfl, rfl⟩
                     · exact .inl rfl
    simp only [step, Sapi.openStream]
    split
    · exact .same (SameW.rfl' s) (fun _ => rfl)
    · split <;> exact .tbl _ rfl rfl rfl rfl rfl ht (fun _ => rfl)
  | close k =>
    simp only [step, Sapi.closeStream]
    split
    · exact .same (SameW.rfl' s) (fun _ => rfl)
    · split
      · split
        · exact .same ⟨rfl, rfl, rfl, rfl, rfl, rfl⟩ (fun _ => rfl)
        · exact .marker k _ (fun _ => rfl)
      · exact .same (SameW.rfl' s) (fun _ => rfl)
  | write k ppi len dl =>
    simp only [step]
    rcases write_cases s k ppi len dl with ⟨e1, e2⟩ | ⟨st, hst, hl, _, _, hw, hmp, _, hmw, e⟩ | ⟨st, hst, hl, _, _, hw, hmp, _, _, _, e⟩
    · rw [e1]
      refine .same (SameW.rfl' s) fun si => ?_
      -- a call that leaves no trace returned neither `(n, nil)` with `n > 0` nor `blocked`
      simp only [pushedOn]
      split
      · split
        · rename_i n _ hr
          rw [hr] at e2
          simp [accepted] at e2
          simp [e2]
        · rfl
      · rfl
    · rw [e]; exact .accept k ppi len dl st rfl hst hl hw hmp hmw e
    · rw [e]; exact .park k ppi len dl st rfl hst hl hw hmp e
  | gather orc sel woke =>
    simp only [step]
    rcases gather_cases s orc sel woke with ⟨e, ew⟩ | ⟨w, hf, _, hn, ⟨e, ew⟩ | ⟨e, ew⟩⟩
    · rw [e]; exact .gquiet orc sel woke rfl ew
    · rw [e]; exact .gfail orc sel woke w rfl hf ew
    · rw [e]; exact .grel orc sel woke w rfl hf hn ew

end SapiProofs
