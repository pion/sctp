import SctpVerif.Proofs.StreamApi.Outcome
/-! One operation against the invariant of parked calls `WInv` and the settled counters of one stream (`StepOut`, `Moves`), rule
by rule of `Out` (`WInv.out`, `step_settled`); `WInv` in the initial state and along runs (`init_winv`, `run_winv`). -/
namespace SapiProofs
open Gen Sapi SenderProofs

/-- what one operation does to stream `si` whose settled counters are `x`: either nothing is queued for it and the counters
stay, or exactly one message is queued, every fragment carries the identifier `x` assigns to its class, and the
counters advance by `adv` -/
def Moves (si : BitVec 16) (x : Ids) (s : St) (op : Op) (s' : St) : Prop :=
  (pushedOn si s op = [] ∧ settled s' si = some x) ∨
  (∃ m u, pushedOn si s op = [m] ∧ m ≠ [] ∧ (∀ c ∈ m, c.unordered = u ∧ carries (il s) x c) ∧
     settled s' si = some (adv (il s) u x))

def StepOut (si : BitVec 16) (s : St) (op : Op) (s' : St) : Prop :=
  WInv s' ∧ il s' = il s ∧ ∀ x, settled s si = some x → Moves si x s op s'

theorem sender_transfer {s : St} (h : WInv s) (snd' : Sender.St) (hc : snd'.cfg = s.snd.cfg)
    (hs : ∀ k, (snd'.streams k).map rids = (s.snd.streams k).map rids) :
    WInv { s with snd := snd' } ∧ (∀ k x, settled s k = some x → settled { s with snd := snd' } k = some x) ∧
    il { s with snd := snd' } = il s := by
  have hex : ∀ k st, s.snd.streams k = some st → ∃ st', snd'.streams k = some st' ∧ rids st' = rids st := by
    intro k st hk
    exact Option.map_eq_some_iff.mp (by rw [hs k, hk]; rfl)
  have hreg : ∀ k st, snd'.streams k = some st → st.registered = true := by
    intro k st' hk'
    obtain ⟨st, e1, e2⟩ := Option.map_eq_some_iff.mp (show (s.snd.streams k).map rids = some (rids st') by rw [← hs k, hk']; rfl)
    exact (congrArg Prod.fst e2).symm.trans (h.reg _ _ e1)
  have := transfer (s' := { s with snd := snd' }) h rfl rfl hc hex hreg
  exact ⟨this.1, this.2, by simp only [il, hc]⟩

theorem expire_inv (s : St) (h : WInv s) (due : List Waiter) (hd : ∀ w ∈ due, w ∈ s.waiters)
    (hnd : due.Pairwise (fun a b => a.wid ≠ b.wid)) :
    WInv (due.foldl failWaiter s) ∧ (∀ k x, settled s k = some x → settled (due.foldl failWaiter s) k = some x) ∧
    il (due.foldl failWaiter s) = il s := by
  induction due generalizing s with
  | nil => exact ⟨h, fun _ _ hx => hx, rfl⟩
  | cons w r ih =>
    rw [List.pairwise_cons] at hnd
    obtain ⟨a1, a2, a3, a4, _⟩ := failWaiter_inv s h w (hd w List.mem_cons_self)
    have hd' : ∀ v ∈ r, v ∈ (failWaiter s w).waiters := by
      intro v hv
      rw [a3, List.mem_filter]
      exact ⟨hd v (List.mem_cons_of_mem _ hv), by simpa using fun e => (hnd.1 v hv) e.symm⟩
    obtain ⟨b1, b2, b3⟩ := ih (failWaiter s w) a1 hd' hnd.2
    exact ⟨b1, fun k x hx => b2 k x (a2 k x hx), by rw [List.foldl_cons, b3, a4]⟩

theorem open_frame (s : St) (k : BitVec 16) (u : Bool) (rt : BitVec 8) (rv : BitVec 32) (h : ¬ openRefused s.state = true) :
    (Sapi.openStream s k u rt rv).1.waiters = s.waiters ∧ (Sapi.openStream s k u rt rv).1.nextWid = s.nextWid ∧
    (Sapi.openStream s k u rt rv).1.snd = Sender.openStream s.snd k u rt rv 0 := by
  cases hs : s.snd.streams k with
  | none => simp [Sapi.openStream, h, hs, setRd]
  | some st => simp [Sapi.openStream, h, hs]

theorem WInv.out {s s' : St} {op : Op} (h : WInv s) (ho : Out s op s') (si : BitVec 16) : StepOut si s op s' := by
  have gth : ∀ orc sel, WInv (gathered s orc sel) ∧ (∀ k x, settled s k = some x → settled (gathered s orc sel) k = some x) ∧
      il (gathered s orc sel) = il s := fun orc sel =>
    have hg := transfer (s' := gathered s orc sel) h rfl rfl (gather_cfg _ _ _)
      (by intro j sj hj; exact ⟨sj, by show (Sender.gather s.snd orc sel).1.streams j = _; rw [(gather_streams _ _ _).2]; exact hj, rfl⟩)
      (by intro j sj hj; exact h.reg j sj (by rw [← (gather_streams s.snd orc sel).2]; exact hj))
    ⟨hg.1, hg.2, by simp only [il, gathered, gather_cfg]⟩
  cases ho with
  | tbl s' hsnd hw hn _ _ ht hpush =>
    have hc : s'.snd.cfg = s.snd.cfg := by rw [hsnd]
    have := transfer h hw hn hc (fun k st hk => ht.ids k st hk (h.reg _ _ hk))
      (fun j st' hj => (ht.reg j st' hj).elim id fun ⟨st, e1, e2⟩ => e2.trans (h.reg _ _ e1))
    exact ⟨this.1, by simp only [il, hc], fun x hx => Or.inl ⟨hpush si, this.2 si x hx⟩⟩
  | ack sop hop due hd s' hs hpush =>
    obtain ⟨a1, a2, a3⟩ := sender_transfer h (Sender.step s.snd sop) (step_cfg_eq _ _ h.cfgOk)
      (fun k => rids_of_sstat (ackOp_sstat hop _ h.cfgOk k))
    obtain ⟨b1, b2, b3⟩ := expire_inv _ a1 due (fun w hw => hd.subset hw) ((a1.uniq.imp And.right).sublist hd)
    have c := transfer_sameW b1 hs
    exact ⟨c.1, by rw [c.2.2]; exact b3.trans a3, fun x hx => Or.inl ⟨hpush si, c.2.1 si x (b2 si x (a2 si x hx))⟩⟩
  | accept k ppi len dl st hop hst hl hw hmp _ hr =>
    subst hop
    obtain ⟨a1, a2, a3, a4, a5⟩ := accept_inv s h k st ppi len hst hw
    refine ⟨a1, a2, fun x hx => ?_⟩
    by_cases hk : k = si
    · subst hk
      right
      rw [a4] at hx; cases hx
      refine ⟨(Sender.packetize s.snd.cfg st k s.snd.nextMsg ppi len).chunks, (Sender.packetize s.snd.cfg st k s.snd.nextMsg ppi len).unordered,
        ?_, packetize_nonempty _ _ _ _ _ _ hmp hl, ?_, a5⟩
      · simp only [pushedOn, if_true, hst, hr, hl, if_false]
      · intro c hc
        obtain ⟨_, _, _, b4, b5, _⟩ := packetize_mem _ _ _ _ _ _ hmp c hc
        exact ⟨b4, b5⟩
    · left
      exact ⟨by simp only [pushedOn, hk, if_false], a3 si x (fun e' => hk e'.symm) hx⟩
  | park k ppi len dl st hop hst hl hw hmp hr =>
    subst hop
    obtain ⟨a1, a2, a3⟩ := park_inv s h k st ppi len dl hst hw hmp hl
    refine ⟨a1, a2, fun x hx => Or.inl ⟨?_, a3 si x hx⟩⟩
    simp only [pushedOn]
    split
    · rw [hr]; simp only [hst]
    · rfl
  | gquiet orc sel woke hop hwk =>
    subst hop
    obtain ⟨a1, a2, a3⟩ := gth orc sel
    exact ⟨a1, a3, fun x hx => Or.inl ⟨by simp only [pushedOn, hwk, List.filterMap_nil], a2 si x hx⟩⟩
  | gfail orc sel woke w hop hf hwk =>
    subst hop
    obtain ⟨a1, a2, a3⟩ := gth orc sel
    obtain ⟨b1, b2, _, b4, _⟩ := failWaiter_inv _ a1 w (List.mem_of_find?_eq_some hf)
    exact ⟨b1, by rw [b4, a3], fun x hx => Or.inl ⟨by simp only [pushedOn, hwk, List.filterMap_cons, List.filterMap_nil], b2 si x (a2 si x hx)⟩⟩
  | grel orc sel woke w hop hf _ hwk =>
    subst hop
    obtain ⟨a1, a2, a3⟩ := gth orc sel
    obtain ⟨c1, c2, y, c3, c4, c5, c6⟩ := release_inv (s' := releaseState (gathered s orc sel) w) a1 w
      (List.mem_of_find?_eq_some hf) rfl rfl rfl rfl
    refine ⟨c1, by rw [← a3]; rfl, fun x hx => ?_⟩
    simp only [Moves, pushedOn, hwk, List.filterMap_cons, List.filterMap_nil, hf]
    by_cases hws : w.si = si
    · subst hws
      have : y = x := Option.some.inj (c3.symm.trans (a2 _ _ hx))
      subst this
      rw [a3] at c4 c6
      exact Or.inr ⟨w.chunks, w.unordered, by simp, c5, c6, c4⟩
    · exact Or.inl ⟨by simp [hws], c2 si x (fun e' => hws e'.symm) (a2 si x hx)⟩
  | marker k sst hpush =>
    have := transfer (s' := { s with sstate := sst, snd := Sender.pushPending { s.snd with nextMsg := s.snd.nextMsg + 1 } [resetMarker k s.snd.nextMsg] })
      h rfl rfl rfl (fun j sj hj => ⟨sj, hj, rfl⟩) (fun j sj hj => h.reg _ _ hj)
    exact ⟨this.1, rfl, fun x hx => Or.inl ⟨hpush si, this.2 si x hx⟩⟩

theorem step_settled (s : St) (h : WInv s) (op : Op) (si : BitVec 16) : StepOut si s op (step s op) := h.out (step_out s op) si

theorem init_winv (cfg : Sender.Cfg) (bw : Bool) (tsn rw : BitVec 32) (hc : CfgOk cfg) : WInv (Sapi.init cfg bw tsn rw) :=
  { cfgOk := hc
    reg := by intro k st hk; simp [Sapi.init, Sender.init] at hk
    uniq := List.Pairwise.nil
    fresh := by intro w hw; simp [Sapi.init] at hw
    ok := by intro w hw; simp [Sapi.init] at hw }

theorem run_winv (s : St) (h : WInv s) (ops : List Op) : WInv (run s ops) :=
  run_foldl s ops ▸ ListAux.foldl_inv (P := WInv) ops h fun s op _ h => (step_settled s h op 0).1

end SapiProofs
