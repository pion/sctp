import SctpVerif.Proofs.Sender.AdvMsg
import SctpVerif.Proofs.Sender.Wire
/-! How the sender operations change ONE in-flight chunk: a per-chunk predicate `P marked allInflight chunk` that is closed
under the local transitions (acknowledged, miss indication, marked for retransmission when not abandoned, T3-path
retransmission and fast retransmission (both only when not abandoned: D21 fix), first transmission — each followed by `checkPartialReliabilityStatus`) holds for
every in-flight chunk and every chunk put on the wire, along `gather` / `sack` / `t3` / clock ticks (`gather_closed`, `sack_closed`,
`t3_closed`, `tick_closed`); under `sack`, `t3` and ticks the two message sets, the pending queue and `nextMsg` do not change
(`SameSets`). Everything here is about the model `Sender` alone (`Sender.St`, no `Sapi` state); the lifting to `Sapi.Op` runs
is `PolicyRun.lean`. -/
namespace SapiProofs
open Gen SenderProofs

/-- same configuration, stream table, clock and `nextMsg` (the four equations of `SenderProofs.PolEq`). Of these `checkPR`,
`rtxUpd`, `fastUpd`, `firstTx` read, besides the chunk, the configuration (PR enabled), the stream table and the clock
(`SenderProofs.checkPR_congr`, `Closed.congr`) -/
def SameCtx (s s' : Sender.St) : Prop := s'.cfg = s.cfg ∧ s'.streams = s.streams ∧ s'.now = s.now ∧ s'.nextMsg = s.nextMsg

theorem SameCtx.rfl' (s : Sender.St) : SameCtx s s := ⟨rfl, rfl, rfl, rfl⟩
theorem SameCtx.trans {a b c : Sender.St} (h1 : SameCtx a b) (h2 : SameCtx b c) : SameCtx a c :=
  ⟨h2.1.trans h1.1, h2.2.1.trans h1.2.1, h2.2.2.1.trans h1.2.2.1, h2.2.2.2.trans h1.2.2.2⟩

/-- the first transmission of a pending chunk (`movePendingDataChunkToInflightQueue`) -/
def firstTx (s : Sender.St) (tsn : BitVec 32) (c : Sender.Chunk) : Sender.Chunk :=
  { c with tsn := tsn, since := s.now, firstSent := s.now, nSent := 1 }

/-- `P marked allInflight chunk`, closed under what acknowledgements, miss indications and retransmission marks do to an
in-flight chunk, and stable when the two sets grow -/
structure ClosedL (P : List Nat → List Nat → Sender.Chunk → Prop) : Prop where
  mono : ∀ ab ab' ai ai' c, (∀ m ∈ ab, m ∈ ab') → (∀ m ∈ ai, m ∈ ai') → P ab ai c → P ab' ai' c
  acked : ∀ ab ai c, P ab ai c → P ab ai c.markAcked
  miss : ∀ ab ai c x, P ab ai c → P ab ai { c with missIndicator := x }
  mark : ∀ ab ai c, P ab ai c → Sender.isAbandoned ab ai c = false → c.acked = false → P ab ai { c with retransmit := true }

/-- … and under the transmissions of a gather in context `s` (each followed by `checkPartialReliabilityStatus`);
`Q` is what is known of a chunk still in the pending queue -/
structure Closed (s : Sender.St) (P : List Nat → List Nat → Sender.Chunk → Prop) (Q : Sender.Chunk → Prop) : Prop extends ClosedL P where
  rtx : ∀ ab ai c, P ab ai c → c.retransmit = true → Sender.isAbandoned ab ai c = false →
    P (Sender.checkPR s ab (Sender.rtxUpd s c)) ai (Sender.rtxUpd s c)
  fast : ∀ ab ai c, P ab ai c → c.acked = false → Sender.isAbandoned ab ai c = false → fastRtx_skip c.nSent c.missIndicator = false →
    P (Sender.checkPR s ab (Sender.fastUpd s c)) ai (Sender.fastUpd s c)
  fresh : ∀ ab ai c tsn, Q c →
    P (Sender.checkPR s ab (firstTx s tsn c)) (if c.efrag then c.msg :: ai else ai) (firstTx s tsn c)

theorem Closed.congr {s s' : Sender.St} {P Q} (h : Closed s P Q) (hc : SameCtx s s') : Closed s' P Q :=
  { toClosedL := h.toClosedL
    rtx := by intro ab ai c hp hr hna; simp only [Sender.rtxUpd, hc.2.2.1, checkPR_congr hc]; exact h.rtx ab ai c hp hr hna
    fast := by intro ab ai c hp h1 h2 h3; simp only [Sender.fastUpd, hc.2.2.1, checkPR_congr hc]; exact h.fast ab ai c hp h1 h2 h3
    fresh := by
      intro ab ai c tsn hq
      have : firstTx s' tsn c = firstTx s tsn c := by simp only [firstTx, hc.2.2.1]
      rw [this, checkPR_congr hc]; exact h.fresh ab ai c tsn hq }

theorem scanLoop_closed {B : Type} (s : Sender.St) (dec : Int → Sender.LoopAcc B → Sender.Chunk → Sender.Take B) (upd : Sender.Chunk → Sender.Chunk)
    (ai : List Nat) (P : List Nat → List Nat → Sender.Chunk → Prop)
    (mono : ∀ ab ab' c, (∀ m ∈ ab, m ∈ ab') → P ab ai c → P ab' ai c)
    (take : ∀ i (a : Sender.LoopAcc B) c b bip, dec i a c = .take b bip → P a.aband ai c → P (Sender.checkPR s a.aband (upd c)) ai (upd c))
    (i : Int) (q : List Sender.Chunk) (a : Sender.LoopAcc B)
    (hq : ∀ c ∈ q, P a.aband ai c) (hout : ∀ e ∈ a.out, P a.aband ai e) :
    (∀ c ∈ (Sender.scanLoop s dec upd i q a).1, P (Sender.scanLoop s dec upd i q a).2.aband ai c) ∧
    (∀ e ∈ (Sender.scanLoop s dec upd i q a).2.out, P (Sender.scanLoop s dec upd i q a).2.aband ai e) ∧
    (∀ m ∈ a.aband, m ∈ (Sender.scanLoop s dec upd i q a).2.aband) := by
  induction q generalizing i a with
  | nil => exact ⟨fun c hc => absurd hc List.not_mem_nil, hout, fun m hm => hm⟩
  | cons c rest ih =>
    simp only [Sender.scanLoop]
    cases hd : dec i a c with
    | skip =>
      simp only
      obtain ⟨r1, r2, r3⟩ := ih (i + 1) a (fun x hx => hq x (List.mem_cons_of_mem _ hx)) hout
      refine ⟨?_, r2, r3⟩
      intro x hx
      rcases List.mem_cons.mp hx with h | h
      · subst h; exact mono _ _ _ r3 (hq _ List.mem_cons_self)
      · exact r1 x h
    | stop b => exact ⟨hq, hout, fun m hm => hm⟩
    | take b bip =>
      simp only
      have hgrow : ∀ m ∈ a.aband, m ∈ Sender.checkPR s a.aband (upd c) := checkPR_sub s a.aband (upd c)
      have hc' := take i a c b bip hd (hq c List.mem_cons_self)
      obtain ⟨r1, r2, r3⟩ := ih (i + 1)
        { a with b := b, bytesToSend := a.bytesToSend + (c.len : Int), bip := bip, size := a.size + c.sizeInPacket s.cfg.useInterleaving,
                 out := a.out ++ [upd c], aband := Sender.checkPR s a.aband (upd c) }
        (fun x hx => mono _ _ _ hgrow (hq x (List.mem_cons_of_mem _ hx)))
        (by
          intro e he
          simp only [List.mem_append, List.mem_singleton] at he
          rcases he with h | h
          · exact mono _ _ _ hgrow (hout e h)
          · subst h; exact hc')
      refine ⟨?_, r2, fun m hm => r3 m (hgrow m hm)⟩
      intro x hx
      rcases List.mem_cons.mp hx with h | h
      · subst h; exact mono _ _ _ r3 hc'
      · exact r1 x h

theorem rtxDecide_take {B : Type} (s : Sender.St) (allow : B → Int → Bool × B) (awnd : BitVec 32) (i : Int) (a : Sender.LoopAcc B)
    (c : Sender.Chunk) (b : B) (bip : Int) (h : Sender.rtxDecide s allow awnd i a c = .take b bip) :
    c.retransmit = true ∧ Sender.isAbandoned a.aband s.allInflightMsgs c = false := by
  unfold Sender.rtxDecide at h
  by_cases hr : c.retransmit = true
  · by_cases ha : Sender.isAbandoned a.aband s.allInflightMsgs c = true
    · simp [hr, ha] at h
    · exact ⟨hr, by simpa using ha⟩
  · simp [hr] at h

theorem packAllow_not_skip {B : Type} (allow : B → Int → Bool × B) (b : B) (abip cb : Int) (full tooBig : Bool) :
    ∀ b' bip, Sender.packAllow allow b abip cb full tooBig = .take b' bip → True := fun _ _ _ => trivial

theorem fastDecide_take {B : Type} (s : Sender.St) (allow : B → Int → Bool × B) (wnd : Int) (i : Int) (a : Sender.LoopAcc B)
    (c : Sender.Chunk) (b : B) (bip : Int) (h : Sender.fastDecide s allow wnd i a c = .take b bip) :
    c.acked = false ∧ Sender.isAbandoned a.aband s.allInflightMsgs c = false ∧ fastRtx_skip c.nSent c.missIndicator = false := by
  unfold Sender.fastDecide at h
  by_cases h1 : (c.acked || Sender.isAbandoned a.aband s.allInflightMsgs c) = true
  · simp [h1] at h
  · by_cases h2 : fastRtx_skip c.nSent c.missIndicator = true
    · simp [h1, h2] at h
    · simp only [Bool.or_eq_true, not_or, Bool.not_eq_true] at h1
      exact ⟨h1.1, h1.2, by simpa using h2⟩

/-- every in-flight chunk satisfies `P` relative to the state's own sets -/
def InvP (s : Sender.St) (P : List Nat → List Nat → Sender.Chunk → Prop) : Prop :=
  ∀ c ∈ s.inflight, P s.abandonedMsgs s.allInflightMsgs c

def Grows (s s' : Sender.St) : Prop :=
  (∀ m ∈ s.abandonedMsgs, m ∈ s'.abandonedMsgs) ∧ (∀ m ∈ s.allInflightMsgs, m ∈ s'.allInflightMsgs)

theorem Grows.rfl' (s : Sender.St) : Grows s s := ⟨fun _ h => h, fun _ h => h⟩
theorem Grows.trans {a b c : Sender.St} (h1 : Grows a b) (h2 : Grows b c) : Grows a c :=
  ⟨fun m hm => h2.1 m (h1.1 m hm), fun m hm => h2.2 m (h1.2 m hm)⟩

/-- a scan of the in-flight queue of `t` (retransmission or fast-retransmission pass) whose takes are transitions `P` is
closed under: afterwards `P` holds for the whole queue and for what was taken, relative to the marks the scan added -/
theorem scan_closed {B : Type} (t : Sender.St) (dec : Int → Sender.LoopAcc B → Sender.Chunk → Sender.Take B) (upd : Sender.Chunk → Sender.Chunk)
    (a0 : Sender.LoopAcc B) (ha0 : a0.aband = t.abandonedMsgs) (hout : a0.out = [])
    (P : List Nat → List Nat → Sender.Chunk → Prop) (hP : ClosedL P)
    (take : ∀ i (a : Sender.LoopAcc B) c b bip, dec i a c = .take b bip → P a.aband t.allInflightMsgs c →
      P (Sender.checkPR t a.aband (upd c)) t.allInflightMsgs (upd c))
    (hin : InvP t P) :
    (∀ c ∈ (Sender.scanSplit t).1 ++ (Sender.scanLoop t dec upd 0 (Sender.scanSplit t).2 a0).1,
      P (Sender.scanLoop t dec upd 0 (Sender.scanSplit t).2 a0).2.aband t.allInflightMsgs c) ∧
    (∀ e ∈ (Sender.scanLoop t dec upd 0 (Sender.scanSplit t).2 a0).2.out,
      P (Sender.scanLoop t dec upd 0 (Sender.scanSplit t).2 a0).2.aband t.allInflightMsgs e) ∧
    (∀ m ∈ t.abandonedMsgs, m ∈ (Sender.scanLoop t dec upd 0 (Sender.scanSplit t).2 a0).2.aband) := by
  have hsplit := scanSplit_append t
  have hmono : ∀ ab ab' c, (∀ m ∈ ab, m ∈ ab') → P ab t.allInflightMsgs c → P ab' t.allInflightMsgs c :=
    fun ab ab' c h hp => hP.mono ab ab' _ _ c h (fun _ hm => hm) hp
  obtain ⟨l1, l2, l3⟩ := scanLoop_closed t dec upd t.allInflightMsgs P hmono take 0 (Sender.scanSplit t).2 a0
    (fun c hc => by rw [ha0]; exact hin c (by rw [← hsplit]; exact List.mem_append_right _ hc))
    (fun e he => by rw [hout] at he; cases he)
  rw [ha0] at l3
  refine ⟨fun c hc => ?_, l2, l3⟩
  rcases List.mem_append.mp hc with h | h
  · exact hmono _ _ _ l3 (hin c (by rw [← hsplit]; exact List.mem_append_left _ h))
  · exact l1 c h

theorem gatherFast_closed {B : Type} (s : Sender.St) (allow : B → Int → Bool × B) (b : B)
    (P : List Nat → List Nat → Sender.Chunk → Prop) (Q : Sender.Chunk → Prop) (hP : Closed s P Q) (hin : InvP s P) :
    InvP (Sender.gatherFast s allow b).1 P ∧
    (∀ e ∈ (Sender.gatherFast s allow b).2, P (Sender.gatherFast s allow b).1.abandonedMsgs (Sender.gatherFast s allow b).1.allInflightMsgs e) ∧
    Grows s (Sender.gatherFast s allow b).1 ∧ SameCtx s (Sender.gatherFast s allow b).1 ∧ (Sender.gatherFast s allow b).1.pending = s.pending := by
  unfold Sender.gatherFast
  split
  · exact ⟨hin, fun e he => absurd he List.not_mem_nil, Grows.rfl' s, SameCtx.rfl' s, rfl⟩
  · have hP0 : Closed { s with willRetransmitFast := false } P Q := hP.congr ⟨rfl, rfl, rfl, rfl⟩
    obtain ⟨l1, l2, l3⟩ := scan_closed { s with willRetransmitFast := false }
      (Sender.fastDecide { s with willRetransmitFast := false } allow (fastRtx_wnd s.cfg.mtu s.cfg.fastRtxWnd))
      (Sender.fastUpd { s with willRetransmitFast := false }) { b := b, size := Sender.hdr, aband := s.abandonedMsgs } rfl rfl P hP.toClosedL
      (fun i a c b' bip hd hp => by
        obtain ⟨f1, f2, f3⟩ := fastDecide_take _ allow _ i a c b' bip hd
        exact hP0.fast a.aband _ c hp f1 f2 f3)
      hin
    exact ⟨l1, l2, ⟨l3, fun _ h => h⟩, ⟨rfl, rfl, rfl, rfl⟩, rfl⟩

/-- what `movePendingDataChunkToInflightQueue` does -/
theorem move_closed (s : Sender.St) (i : Nat) (c : Sender.Chunk) (P : List Nat → List Nat → Sender.Chunk → Prop) (Q : Sender.Chunk → Prop)
    (hP : Closed s P Q) (hin : InvP s P) (hq : Q c) :
    InvP (Sender.move s i c).1 P ∧
    P (Sender.move s i c).1.abandonedMsgs (Sender.move s i c).1.allInflightMsgs (Sender.move s i c).2 ∧
    Grows s (Sender.move s i c).1 ∧ SameCtx s (Sender.move s i c).1 ∧ (∀ x ∈ (Sender.move s i c).1.pending, x ∈ s.pending) := by
  have hc' : (Sender.move s i c).2 = firstTx s s.myNextTSN c := rfl
  have hab : (Sender.move s i c).1.abandonedMsgs = Sender.checkPR s s.abandonedMsgs (firstTx s s.myNextTSN c) := by
    simp only [Sender.move]
    exact checkPR_congr (s := s) ⟨rfl, rfl, rfl, rfl⟩ _ _
  have hai : (Sender.move s i c).1.allInflightMsgs = (if c.efrag then c.msg :: s.allInflightMsgs else s.allInflightMsgs) := by
    simp only [Sender.move, Sender.popPend]
  have hnew := hP.fresh s.abandonedMsgs s.allInflightMsgs c s.myNextTSN hq
  have g1 : ∀ m ∈ s.abandonedMsgs, m ∈ (Sender.move s i c).1.abandonedMsgs := by rw [hab]; exact checkPR_sub _ _ _
  have g2 : ∀ m ∈ s.allInflightMsgs, m ∈ (Sender.move s i c).1.allInflightMsgs := by
    rw [hai]; intro m hm; split
    · exact List.mem_cons_of_mem _ hm
    · exact hm
  refine ⟨?_, by rw [hab, hai, hc']; exact hnew, ⟨g1, g2⟩, ⟨rfl, rfl, rfl, rfl⟩, fun x hx => ?_⟩
  · intro x hx
    have : x ∈ s.inflight ++ [firstTx s s.myNextTSN c] := hx
    rcases List.mem_append.mp this with h | h
    · exact hP.mono _ _ _ _ x g1 g2 (hin x h)
    · rw [List.mem_singleton] at h; subst h; rw [hab, hai]; exact hnew
  · simp only [Sender.move, Sender.popPend] at hx; exact mem_eraseIdx hx

/-- the charges before a move (`chargeSend`, `chargeProbe`) leave the queues, the two sets and the context alone -/
def SameQ4 (t t1 : Sender.St) : Prop :=
  t1.inflight = t.inflight ∧ t1.abandonedMsgs = t.abandonedMsgs ∧ t1.allInflightMsgs = t.allInflightMsgs ∧
  t1.pending = t.pending ∧ SameCtx t t1

/-- where the admission of new DATA stands at `s'`, in the context `s0` of the whole gather: the invariant, `Q` for what is
still pending, `P` for what has been admitted so far (relative to the present sets), which have only grown since `s` -/
structure Admitted (P : List Nat → List Nat → Sender.Chunk → Prop) (Q : Sender.Chunk → Prop) (s0 s s' : Sender.St)
    (admits : List Sender.Admit) : Prop where
  inv : InvP s' P
  pend : ∀ c ∈ s'.pending, Q c
  adm : ∀ x ∈ admits, P s'.abandonedMsgs s'.allInflightMsgs x.chunk
  grows : Grows s s'
  ctx : SameCtx s0 s'

/-- admitting the chunk `c` at index `i` of the pending queue (`admitChunk` / `admitProbe`: a charge, then `move`) -/
theorem Admitted.move {P Q} {s0 s t : Sender.St} {adm : List Sender.Admit} (hP : Closed s0 P Q) (h : Admitted P Q s0 s t adm)
    (t1 : Sender.St) (i : Nat) (c : Sender.Chunk) (probe : Bool) (hc : t.pending[i]? = some c) (ht : SameQ4 t t1) :
    Admitted P Q s0 s (Sender.move t1 i c).1 (adm ++ [Sender.mkAdmit t (Sender.move t1 i c).2 probe]) := by
  obtain ⟨e1, e2, e3, e4, e5⟩ := ht
  have hin : InvP t1 P := by intro x hx; rw [e2, e3]; exact h.inv x (e1 ▸ hx)
  obtain ⟨m1, m2, m3, m4, m5⟩ := move_closed t1 i c P Q (hP.congr (h.ctx.trans e5)) hin (h.pend c (List.mem_of_getElem? hc))
  have g : Grows t (Sender.move t1 i c).1 := ⟨fun m hm => m3.1 m (e2 ▸ hm), fun m hm => m3.2 m (e3 ▸ hm)⟩
  refine ⟨m1, fun x hx => h.pend x (e4 ▸ m5 x hx), ?_, h.grows.trans g, (h.ctx.trans e5).trans m4⟩
  intro x hx
  rcases List.mem_append.mp hx with hx | hx
  · exact hP.mono _ _ _ _ _ g.1 g.2 (h.adm x hx)
  · rw [List.mem_singleton.mp hx]; exact m2

theorem popLoop_closed {B : Type} (allow : B → Int → Bool × B) (s0 : Sender.St)
    (P : List Nat → List Nat → Sender.Chunk → Prop) (Q : Sender.Chunk → Prop) (hP : Closed s0 P Q)
    (fuel : Nat) (s : Sender.St) (sel : List Nat) (a : Sender.PopAcc B) (h : Admitted P Q s0 s s a.admits) :
    Admitted P Q s0 s (Sender.popLoop allow fuel s sel a).1 (Sender.popLoop allow fuel s sel a).2.2.admits :=
  popLoop_rule allow (fun t a => Admitted P Q s0 s t a.admits)
    (fun _ _ _ _ h _ _ => ⟨h.inv, fun x hx => h.pend x (mem_eraseIdx hx), h.adm, h.grows, h.ctx⟩)
    (fun _ _ _ h => h)
    (fun t i c _ _ _ h hc _ _ => h.move hP (Sender.chargeSend t c) i c false hc ⟨rfl, rfl, rfl, rfl, SameCtx.rfl' t⟩)
    fuel s sel a h

theorem probe_closed {B : Type} (allow : B → Int → Bool × B) (s0 : Sender.St)
    (P : List Nat → List Nat → Sender.Chunk → Prop) (Q : Sender.Chunk → Prop) (hP : Closed s0 P Q)
    (s t : Sender.St) (sel : List Nat) (a : Sender.PopAcc B) (h : Admitted P Q s0 s t a.admits) :
    Admitted P Q s0 s (Sender.probe allow t sel a).1 (Sender.probe allow t sel a).2.2.admits :=
  probe_rule allow (fun t a => Admitted P Q s0 s t a.admits) (fun _ _ _ h => h)
    (fun t i c _ _ h hc _ _ _ => h.move hP (Sender.chargeProbe t c) i c true hc ⟨rfl, rfl, rfl, rfl, SameCtx.rfl' t⟩)
    t sel a h

theorem bundle_mem (mtu : BitVec 32) (il : Bool) (l cur : List Sender.Chunk) (bip : Int) :
    ∀ p ∈ Sender.bundle mtu il l cur bip, ∀ e ∈ p, e ∈ cur ∨ e ∈ l := by
  induction l generalizing cur bip with
  | nil =>
    intro p hp e he
    simp only [Sender.bundle] at hp
    split at hp
    · cases hp
    · rw [List.mem_singleton] at hp; subst hp; exact Or.inl he
  | cons c rest ih =>
    intro p hp e he
    simp only [Sender.bundle] at hp
    split at hp
    · rcases List.mem_cons.mp hp with h | h
      · subst h; exact Or.inl he
      · rcases ih [c] _ p h e he with h' | h'
        · rw [List.mem_singleton] at h'; subst h'; exact Or.inr List.mem_cons_self
        · exact Or.inr (List.mem_cons_of_mem _ h')
    · rcases ih (cur ++ [c]) _ p hp e he with h' | h'
      · rcases List.mem_append.mp h' with h'' | h''
        · exact Or.inl h''
        · rw [List.mem_singleton] at h''; subst h''; exact Or.inr List.mem_cons_self
      · exact Or.inr (List.mem_cons_of_mem _ h')

/-- **one gather**: the predicate holds for every in-flight chunk afterwards and for every chunk put on the wire
(retransmission, new DATA, fast retransmission packets), relative to the sets after the gather -/
theorem gather_closed (s : Sender.St) (orc : Sender.Oracle) (sel : List Nat)
    (P : List Nat → List Nat → Sender.Chunk → Prop) (Q : Sender.Chunk → Prop) (hP : Closed s P Q)
    (hin : InvP s P) (hq : ∀ c ∈ s.pending, Q c) :
    InvP (Sender.gather s orc sel).1 P ∧ (∀ c ∈ (Sender.gather s orc sel).1.pending, Q c) ∧
    (∀ p ∈ (Sender.gather s orc sel).2.packets, ∀ e ∈ p,
      P (Sender.gather s orc sel).1.abandonedMsgs (Sender.gather s orc sel).1.allInflightMsgs e) ∧
    Grows s (Sender.gather s orc sel).1 ∧ SameCtx s (Sender.gather s orc sel).1 := by
  unfold Sender.gather
  split
  · exact ⟨hin, hq, fun p hp => absurd hp List.not_mem_nil, Grows.rfl' s, SameCtx.rfl' s⟩
  · simp only
    obtain ⟨a1, a2, l3⟩ := scan_closed s (Sender.rtxDecide s orc.allow (rtx_awnd s.cwnd s.rwnd)) (Sender.rtxUpd s)
      { b := orc.b, aband := s.abandonedMsgs } rfl rfl P hP.toClosedL
      (fun i a c b bip hd hp => hP.rtx a.aband _ c hp (rtxDecide_take s orc.allow _ i a c b bip hd).1 (rtxDecide_take s orc.allow _ i a c b bip hd).2)
      hin
    have a3 : Grows s (Sender.gatherRtx s orc).1 := ⟨l3, fun _ h => h⟩
    have a4 : SameCtx s (Sender.gatherRtx s orc).1 := ⟨rfl, rfl, rfl, rfl⟩
    have a5 : (Sender.gatherRtx s orc).1.pending = s.pending := rfl
    have hnew : Admitted P Q s (Sender.gatherRtx s orc).1
        (Sender.gatherNew (Sender.gatherRtx s orc).1 orc.allow (Sender.gatherRtx s orc).2.2 sel).1
        (Sender.gatherNew (Sender.gatherRtx s orc).1 orc.allow (Sender.gatherRtx s orc).2.2 sel).2.admits := by
      unfold Sender.gatherNew
      split
      · exact probe_closed orc.allow s P Q hP _ _ _ _ (popLoop_closed orc.allow s P Q hP _ _ sel { b := (Sender.gatherRtx s orc).2.2 }
          ⟨a1, by rw [a5]; exact hq, fun x hx => absurd hx List.not_mem_nil, Grows.rfl' _, a4⟩)
      · exact ⟨a1, by rw [a5]; exact hq, fun x hx => absurd hx List.not_mem_nil, Grows.rfl' _, a4⟩
    obtain ⟨b1, b2, b3, b4, b5⟩ := hnew
    obtain ⟨c1, c2, c3, c4, c5⟩ := gatherFast_closed (Sender.gatherNew (Sender.gatherRtx s orc).1 orc.allow (Sender.gatherRtx s orc).2.2 sel).1
      orc.allow (Sender.gatherNew (Sender.gatherRtx s orc).1 orc.allow (Sender.gatherRtx s orc).2.2 sel).2.b P Q (hP.congr b5) b1
    have gAll : Grows s (Sender.gatherFast (Sender.gatherNew (Sender.gatherRtx s orc).1 orc.allow (Sender.gatherRtx s orc).2.2 sel).1 orc.allow
        (Sender.gatherNew (Sender.gatherRtx s orc).1 orc.allow (Sender.gatherRtx s orc).2.2 sel).2.b).1 :=
      Grows.trans a3 (Grows.trans b4 c3)
    refine ⟨c1, by intro x hx; exact b2 x (by rw [← c5]; exact hx), ?_, gAll, SameCtx.trans b5 c4⟩
    intro p hp e he
    simp only [Sender.GatherOut.packets, List.mem_append] at hp
    rcases hp with (hp | hp) | hp
    · rcases bundle_mem _ _ _ _ _ p hp e he with h | h
      · cases h
      · exact hP.mono _ _ _ _ _ (Grows.trans b4 c3).1 (Grows.trans b4 c3).2 (a2 e h)
    · split at hp
      · cases hp
      · rcases bundle_mem _ _ _ _ _ p hp e he with h | h
        · cases h
        · obtain ⟨x, hx, rfl⟩ := List.mem_map.mp h
          exact hP.mono _ _ _ _ _ c3.1 c3.2 (b3 x hx)
    · split at hp
      · cases hp
      · rcases bundle_mem _ _ _ _ _ p hp e he with h | h
        · cases h
        · exact c2 e h

def InvPW (ab ai : List Nat) (q : List Sender.Chunk) (P : List Nat → List Nat → Sender.Chunk → Prop) : Prop := ∀ c ∈ q, P ab ai c

theorem markOne_closed (ab ai : List Nat) (P : List Nat → List Nat → Sender.Chunk → Prop)
    (hack : ∀ c, P ab ai c → P ab ai c.markAcked) (a a' : Sender.GapAcc) (tsn : BitVec 32)
    (h : Sender.markOne a tsn = some a') (hq : InvPW ab ai a.q P) : InvPW ab ai a'.q P := by
  unfold Sender.markOne at h
  cases hg : Sender.get a.q tsn with
  | none => rw [hg] at h; cases h
  | some oc =>
    obtain ⟨off, c⟩ := oc
    rw [hg] at h
    simp only [Option.some.injEq] at h
    subst h
    simp only
    split
    · intro x hx
      rcases mem_set_cases hx with h1 | h1
      · subst h1; exact hack c (hq c (List.mem_of_getElem? (get_some hg)))
      · exact hq x h1
    · exact hq

theorem markGaps_closed (ab ai : List Nat) (P : List Nat → List Nat → Sender.Chunk → Prop)
    (hack : ∀ c, P ab ai c → P ab ai c.markAcked) (cum : BitVec 32) (gaps : List (BitVec 16 × BitVec 16)) (a a' : Sender.GapAcc)
    (h : Sender.markGaps cum gaps a = some a') (hq : InvPW ab ai a.q P) : InvPW ab ai a'.q P :=
  markGaps_inv (fun a => InvPW ab ai a.q P) (fun a tsn a' ha h => markOne_closed ab ai P hack a a' tsn h ha) cum gaps a hq h

/-- the two message sets a per-chunk predicate is evaluated against (`InvP`), and with them the pending queue and `nextMsg` -/
def SameSets (s s' : Sender.St) : Prop :=
  s'.abandonedMsgs = s.abandonedMsgs ∧ s'.allInflightMsgs = s.allInflightMsgs ∧ s'.pending = s.pending ∧ s'.nextMsg = s.nextMsg

theorem SameSets.rfl' (s : Sender.St) : SameSets s s := ⟨rfl, rfl, rfl, rfl⟩
theorem SameSets.trans {a b c : Sender.St} (h1 : SameSets a b) (h2 : SameSets b c) : SameSets a c :=
  ⟨h2.1.trans h1.1, h2.2.1.trans h1.2.1, h2.2.2.1.trans h1.2.2.1, h2.2.2.2.trans h1.2.2.2⟩

/-- the invariant passes to a state with the same sets whose in-flight chunks were in flight before -/
theorem InvP.sets {P : List Nat → List Nat → Sender.Chunk → Prop} {s s' : Sender.St} (hin : InvP s P) (hs : SameSets s s')
    (hi : ∀ c ∈ s'.inflight, c ∈ s.inflight) : InvP s' P := by
  intro c hc; rw [hs.1, hs.2.1]; exact hin c (hi c hc)

theorem InvP.same {P : List Nat → List Nat → Sender.Chunk → Prop} {s s' : Sender.St} (hin : InvP s P)
    (h : SameSets s s' ∧ s'.inflight = s.inflight) : InvP s' P :=
  hin.sets h.1 (by rw [h.2]; exact fun _ hc => hc)

/-- applying a SACK's acknowledgements writes the queue, the window figures, the cumulative point and stream objects -/
theorem ackApply_sets (s : Sender.St) (cum : BitVec 32) (g : Sender.GapAcc) (inFR : Bool) :
    SameSets s (Sender.ackApply s cum g inFR) ∧ (Sender.ackApply s cum g inFR).inflight = g.q := by
  unfold Sender.ackApply
  dsimp only
  obtain ⟨str, cl, h⟩ := releaseAll_only g.rel
    (if Gen.sna32LT s.cumAck cum then
      Sender.onCumAdvanced { s with inflight := g.q, infBytes := g.infBytes, inFastRecovery := inFR, cumAck := cum } (Sender.relTotal g.rel)
     else { s with inflight := g.q, infBytes := g.infBytes, inFastRecovery := inFR })
  rw [h]
  split
  · obtain ⟨cw, pba, ww, h2⟩ := onCumAdvanced_only
      { s with inflight := g.q, infBytes := g.infBytes, inFastRecovery := inFR, cumAck := cum } (Sender.relTotal g.rel)
    rw [h2]; exact ⟨⟨rfl, rfl, rfl, rfl⟩, rfl⟩
  · exact ⟨⟨rfl, rfl, rfl, rfl⟩, rfl⟩

theorem ackPhase_closed (s : Sender.St) (cum : BitVec 32) (gaps : List (BitVec 16 × BitVec 16)) (r : Sender.St × BitVec 32 × Bool)
    (P : List Nat → List Nat → Sender.Chunk → Prop)
    (hack : ∀ c, P s.abandonedMsgs s.allInflightMsgs c → P s.abandonedMsgs s.allInflightMsgs c.markAcked)
    (h : Sender.ackPhase s cum gaps = some r) (hin : InvP s P) : SameSets s r.1 ∧ InvP r.1 P := by
  -- the cumulative pops keep a suffix of the queue, the gap-ack loop marks chunks of it acknowledged
  obtain ⟨q, a, g, hp, hg, rfl⟩ := ackPhase_eq h
  obtain ⟨a1, a2⟩ := ackApply_sets s cum g a.inFR
  refine ⟨a1, fun c hc => ?_⟩
  rw [a1.1, a1.2.1]
  exact markGaps_closed _ _ P hack cum gaps _ g hg (fun c hc => hin c (popCum_sub _ _ _ _ _ hp c hc)) c (a2 ▸ hc)

theorem fastRetransCheck_closed (s : Sender.St) (cum : BitVec 32) (gaps : List (BitVec 16 × BitVec 16)) (htna : BitVec 32) (adv : Bool)
    (P : List Nat → List Nat → Sender.Chunk → Prop) (hmiss : ∀ ab ai c x, P ab ai c → P ab ai { c with missIndicator := x })
    (h : InvP s P) :
    SameSets s (Sender.fastRetransCheck s cum gaps htna adv).1 ∧ InvP (Sender.fastRetransCheck s cum gaps htna adv).1 P :=
  -- a miss indication changes one chunk; entering fast recovery and the flag touch neither the queue nor the sets
  fastRetransCheck_rule (P := fun x => SameSets s x ∧ InvP x P) htna
    (fun x off c hx hq _ => ⟨hx.1.trans ⟨rfl, rfl, rfl, rfl⟩, fun y hy => by
      rcases mem_set_cases hy with e | e
      · subst e; exact hmiss _ _ c _ (hx.2 c (List.mem_of_getElem? hq))
      · exact hx.2 y e⟩)
    (fun _ hx _ => ⟨hx.1.trans ⟨rfl, rfl, rfl, rfl⟩, hx.2⟩) (fun _ hx => ⟨hx.1.trans ⟨rfl, rfl, rfl, rfl⟩, hx.2⟩)
    s cum gaps adv ⟨SameSets.rfl' s, h⟩

theorem prStep_sets (s : Sender.St) : SameSets s (Sender.prStep s) ∧ (Sender.prStep s).inflight = s.inflight := by
  obtain ⟨a, b, h⟩ := prStep_only s
  rw [h]; exact ⟨⟨rfl, rfl, rfl, rfl⟩, rfl⟩

theorem applyMarks_closed (s : Sender.St) (marks : List (BitVec 32)) (P : List Nat → List Nat → Sender.Chunk → Prop)
    (hmark : ∀ c, P s.abandonedMsgs s.allInflightMsgs c → Sender.isAbandoned s.abandonedMsgs s.allInflightMsgs c = false → c.acked = false →
      P s.abandonedMsgs s.allInflightMsgs { c with retransmit := true })
    (hin : InvP s P) : SameSets s (Sender.applyMarks s marks) ∧ InvP (Sender.applyMarks s marks) P := by
  refine ⟨⟨rfl, rfl, rfl, rfl⟩, ?_⟩
  intro x hx
  simp only [Sender.applyMarks, List.mem_map] at hx
  obtain ⟨c, hc, rfl⟩ := hx
  split
  · rename_i hcond
    simp only [Bool.and_eq_true, Bool.not_eq_true'] at hcond
    exact hmark c (hin c hc) hcond.2 hcond.1.2
  · exact hin c hc

theorem markAll_closed (s : Sender.St) (P : List Nat → List Nat → Sender.Chunk → Prop)
    (hmark : ∀ c, P s.abandonedMsgs s.allInflightMsgs c → Sender.isAbandoned s.abandonedMsgs s.allInflightMsgs c = false → c.acked = false →
      P s.abandonedMsgs s.allInflightMsgs { c with retransmit := true })
    (hin : InvP s P) : ∀ x ∈ Sender.markAllToRetransmit s, P s.abandonedMsgs s.allInflightMsgs x := by
  intro x hx
  simp only [Sender.markAllToRetransmit, List.mem_map] at hx
  obtain ⟨c, hc, rfl⟩ := hx
  split
  · exact hin c hc
  · rename_i hcond
    simp only [Bool.or_eq_true, not_or, Bool.not_eq_true] at hcond
    exact hmark c (hin c hc) hcond.2 hcond.1

theorem sack_closed (s : Sender.St) (cum arwnd : BitVec 32) (gaps : List (BitVec 16 × BitVec 16)) (marks : List (BitVec 32))
    (P : List Nat → List Nat → Sender.Chunk → Prop) (hP : ClosedL P) (hin : InvP s P) :
    SameSets s (Sender.sack s cum arwnd gaps marks).1 ∧ InvP (Sender.sack s cum arwnd gaps marks).1 P :=
  sack_rule (P := fun x => SameSets s x ∧ InvP x P) s cum arwnd gaps marks ⟨SameSets.rfl' s, hin⟩
    (fun r _ _ ha => ackPhase_closed s cum gaps r P (fun c hc => hP.acked _ _ c hc) ha hin)
    (fun _ h => ⟨h.1.trans ⟨rfl, rfl, rfl, rfl⟩, h.2⟩)
    (fun x htna adv h => have f := fastRetransCheck_closed x cum gaps htna adv P hP.miss h.2; ⟨h.1.trans f.1, f.2⟩)
    (fun x h => ⟨h.1.trans (prStep_sets x).1, h.2.same (prStep_sets x)⟩)
    (fun x h => have m := applyMarks_closed x marks P (hP.mark _ _) h.2; ⟨h.1.trans m.1, m.2⟩)

theorem t3_closed (s : Sender.St) (P : List Nat → List Nat → Sender.Chunk → Prop) (hP : ClosedL P) (hin : InvP s P) :
    SameSets s (Sender.t3 s) ∧ InvP (Sender.t3 s) P := by
  -- before the marking only window figures, fast-recovery flags and the advanced peer ack point move
  obtain ⟨x, a, w, fr, wf, ep, pba, h, rfl⟩ := t3_shape s
  rw [h]
  exact ⟨⟨rfl, rfl, rfl, rfl⟩, markAll_closed _ P (hP.mark _ _) hin⟩

theorem iter_t3_closed (n : Nat) (s : Sender.St) (P : List Nat → List Nat → Sender.Chunk → Prop) (hP : ClosedL P) (hin : InvP s P) :
    SameSets s (Sender.iter Sender.t3 n s) ∧ InvP (Sender.iter Sender.t3 n s) P := by
  induction n generalizing s with
  | zero => exact ⟨SameSets.rfl' s, hin⟩
  | succ n ih =>
    simp only [Sender.iter]
    obtain ⟨a1, a2⟩ := t3_closed s P hP hin
    obtain ⟨b1, b2⟩ := ih (Sender.t3 s) a2
    exact ⟨SameSets.trans a1 b1, b2⟩

/-- the clock advances: T3 expiries and RACK / PTO marks are oracle inputs -/
theorem tick_closed (s : Sender.St) (ms n : Nat) (marks : List (BitVec 32)) (P : List Nat → List Nat → Sender.Chunk → Prop)
    (hP : ClosedL P) (hin : InvP s P) :
    SameSets s (Sender.step s (.tick ms n marks)) ∧ InvP (Sender.step s (.tick ms n marks)) P := by
  simp only [Sender.step]
  obtain ⟨a1, a2⟩ := iter_t3_closed n { s with now := s.now + ms } P hP hin
  obtain ⟨m1, m2⟩ := applyMarks_closed _ marks P (hP.mark _ _) a2
  exact ⟨SameSets.trans a1 m1, m2⟩

end SapiProofs
