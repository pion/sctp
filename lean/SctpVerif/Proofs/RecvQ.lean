import SctpVerif.Proofs.RecvQ.Basic
import SctpVerif.Proofs.RecvQ.Pop
import SctpVerif.Proofs.RecvQ.History
import SctpVerif.Proofs.RecvQ.Gaps
import SctpVerif.Proofs.RecvQ.Mono
import SctpVerif.Proofs.RecvQ.Shift
/-!
Lemmas about the L0 model of `receivePayloadQueue` (Model/RecvQ.lean), split by topic:
`Basic` (bit arrays, ring index, sizing, invariant, push), `Pop` (`Rebase`: what moving the cumulative
point forward does, once for `pop`, forced `pop` and `advance`), `History` (offsets as naturals,
ghost-instrumented runs and their induction principles), `Gaps` (gap blocks = maximal runs), `Mono`
(movement of the cumulative point, pop loop, pop-normalised states), `Shift` (shift invariance).
`Unset` (count of unset slots) is in the same directory but not imported here; its importer is
`Proofs/Receiver/Bound.lean`.
Imported by `Props/C05.lean`, `Proofs/Receiver/Sack.lean` and `Proofs/NetSys/LiveRcv.lean`.
-/
