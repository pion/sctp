import SctpVerif.Model.Conc
/-!
Lemmas for the lock graph (sink elimination is a sound acyclicity test) and for the
critical-section refinement (fine interleavings = sequences of whole sections).
-/
namespace Conc

theorem not_sink_of_mem {es : List Edge} {a b : String} (h : (a, b) ∈ es) : isSink es a = false := by
  unfold isSink
  simp only [Bool.not_eq_false', List.any_eq_true]
  exact ⟨(a, b), h, by simp⟩

/-- if elimination succeeds there is a rank that strictly drops along every edge -/
theorem acyclicFuel_rank : ∀ (n : Nat) (es : List Edge), acyclicFuel n es = true →
    ∃ rk : String → Nat, ∀ e ∈ es, rk e.2 < rk e.1 := by
  intro n
  induction n with
  | zero =>
    intro es h
    cases es with
    | nil => exact ⟨fun _ => 0, by simp⟩
    | cons e es => simp [acyclicFuel] at h
  | succ n ih =>
    intro es h
    cases es with
    | nil => exact ⟨fun _ => 0, by simp⟩
    | cons e0 es0 =>
      simp only [acyclicFuel] at h
      obtain ⟨rk', hrk'⟩ := ih _ h
      refine ⟨fun v => if isSink (e0 :: es0) v then 0 else rk' v + 1, ?_⟩
      intro e he
      have h1 : isSink (e0 :: es0) e.1 = false := not_sink_of_mem (a := e.1) (b := e.2) (by simpa using he)
      simp only [h1]
      cases h2 : isSink (e0 :: es0) e.2 with
      | true => simp
      | false =>
        have : e ∈ elimStep (e0 :: es0) := by
          unfold elimStep
          simp only [List.mem_filter]
          exact ⟨he, by simp [h2]⟩
        have := hrk' e this
        simp only [Bool.false_eq_true, ↓reduceIte]
        omega

theorem reach_rank {es : List Edge} {rk : String → Nat} (hrk : ∀ e ∈ es, rk e.2 < rk e.1) {a b : String}
    (h : Reach es a b) : rk b < rk a := by
  induction h with
  | edge h => exact hrk _ h
  | step h _ ih => have := hrk _ h; simp only at this; omega

/-- **sound**: a graph that passes the test has no cycle (no vertex reaches itself) -/
theorem acyclic_sound {es : List Edge} (h : acyclic es = true) : ∀ v, ¬ Reach es v v := by
  intro v hv
  obtain ⟨rk, hrk⟩ := acyclicFuel_rank _ _ h
  have := reach_rank hrk hv
  omega

theorem acyclic_no_inversion {es : List Edge} (h : acyclic es = true) {a b : String} (hab : (a, b) ∈ es) : (b, a) ∉ es := by
  intro hba
  exact acyclic_sound h a (.step hab (.edge hba))

theorem upd_upd {α : Type} (f : Nat → α) (t : Nat) (a b : α) : upd (upd f t a) t b = upd f t b := by
  funext i; unfold upd; split <;> rfl

theorem upd_same {α : Type} (f : Nat → α) (t : Nat) (a : α) : upd f t a t = a := by simp [upd]

theorem absSys_free {S L : Type} (y : Sys S L) (h : y.holder = none) : absSys y = y := by
  unfold absSys; rw [h]

/-- an acquisition is one coarse step under the abstraction -/
theorem fstep_abs_acq {S L : Type} (y y' : Sys S L) (t : Nat) (h : fstep y (.acq t) = some y') :
    cstep (absSys y) t = some (absSys y') := by
  simp only [fstep] at h
  split at h
  · rename_i hh hp
    simp only [Option.some.injEq] at h
    subst h
    simp only [absSys, hh, cstep, hp]
  · simp at h

/-- a micro-operation of the holder is invisible under the abstraction -/
theorem fstep_abs_op {S L : Type} (y y' : Sys S L) (t : Nat) (h : fstep y (.op t) = some y') :
    absSys y' = absSys y := by
  simp only [fstep] at h
  split at h
  · rename_i t' f fs hh
    split at h
    · rename_i ht
      subst ht
      simp only [Option.some.injEq] at h
      subst h
      simp only [absSys, hh, runOps, upd_same, upd_upd]
    · simp at h
  · simp at h

/-- so is the release -/
theorem fstep_abs_rel {S L : Type} (y y' : Sys S L) (t : Nat) (h : fstep y (.rel t) = some y') :
    absSys y' = absSys y := by
  simp only [fstep] at h
  split at h
  · rename_i t' hh
    split at h
    · rename_i ht
      subst ht
      simp only [Option.some.injEq] at h
      subst h
      simp only [absSys, hh, runOps]
      congr 1
      funext i; simp only [upd]; split
      · rename_i hi; rw [hi]
      · rfl
    · simp at h
  · simp at h

theorem frun_abs {S L : Type} : ∀ (es : List Ev) (y y' : Sys S L), frun y es = some y' →
    crun (absSys y) (acqs es) = some (absSys y') := by
  intro es
  induction es with
  | nil => intro y y' h; simp only [frun, Option.some.injEq] at h; subst h; simp [acqs, crun]
  | cons e es ih =>
    intro y y' h
    simp only [frun] at h
    split at h
    · rename_i y1 h1
      have := ih y1 y' h
      cases e with
      | acq t => simp only [acqs, crun]; rw [fstep_abs_acq y y1 t h1]; exact this
      | op t => simp only [acqs]; rw [← fstep_abs_op y y1 t h1]; exact this
      | rel t => simp only [acqs]; rw [← fstep_abs_rel y y1 t h1]; exact this
    · simp at h

end Conc
