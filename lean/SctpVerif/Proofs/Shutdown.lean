import SctpVerif.Proofs.Shutdown.Frame
import SctpVerif.Proofs.Shutdown.Inv
import SctpVerif.Proofs.Shutdown.Link
import SctpVerif.Proofs.Shutdown.Sys
import SctpVerif.Proofs.Shutdown.Safety
import SctpVerif.Proofs.Shutdown.Live
import SctpVerif.Proofs.Shutdown.Rounds
/-!
Helper lemmas for C08 (graceful shutdown), `Proofs/Shutdown/*.lean`: `Frame` (each transition case by case, what it leaves
alone), `Inv` (endpoint invariants), `Link` (the ingredients of the relation between a sender, the receiver and the two packet
histories: `RcvRel`, `PrefixOk`, `PassOut`, …), `Sys` (that relation, `structure Link`; the system invariant and `run_inv`),
`Safety` (what the invariant gives in any state: the `*_of_inv` lemmas behind `Props/C08.lean`), `Live` and `Rounds` (explicit
schedules; independent of the invariants).
-/
