import SctpVerif.Proofs.ReasmOrd
import SctpVerif.Proofs.ReasmFwdPurge
/-!
Honest runs WITH skips, ordered DATA (C07, receiver reassembly). "Ord" here = ordered DATA (SSN) only; ordered
I-DATA is `Proofs/ReasmFwdMid.lean`.

The op alphabet `SOp` is `push k i`, `read n` (as `HOp` of `Proofs/ReasmOrd.lean`) and `skip L`: the stream's
entry of a FORWARD-TSN, i.e. `forwardTSNForOrdered (L mod 2^16)`. The refinement invariant is `SkipInv`: the
cursor `c` (unwrapped `nextSSN`) may stand above complete sets that are still held, so the window of the table
(`TabInv`) is anchored at a *floor* `f` = oldest message held or waited for, not at the cursor. `OrdInv` of
`Proofs/ReasmOrd.lean` is the invariant of runs without skips (C01): it is anchored at the cursor and its push step
allows a push that the entry limit refuses, which `AdmissibleS` excludes here.

Shared with the I-DATA framing and stated once, in this file: `SOp`, `Framing` (fragment, handler, cursor, floor,
window), `AdmissibleS`, the half of the invariant that does not mention the queue (`SkipCore` with its steps), the
run theorem `Framing.run_inv` and the end-of-run lemma `SkipCore.summary`. Also here: `unordered_window_mono`
(unordered DATA, used by `C07_reasm_purge_exact_unordered_window`).
-/
set_option linter.unusedVariables false
set_option linter.unusedSimpArgs false
namespace Reasm
open Gen

theorem TabOK.raise {S W f A} (h : TabOK S W f A) (f' : Nat) (hff : f ≤ f') (hle : ∀ e ∈ A, f' ≤ e.1) :
    TabOK S W f' A :=
  { h with win := fun e he => by have := h.win e he; have := hle e he; omega }

theorem TabOK.sublist {S W f A A'} (h : TabOK S W f A) (hs : A'.Sublist A) : TabOK S W f A' :=
  ⟨h.sorted.sublist hs, fun e he => h.win e (hs.subset he), fun e he => h.wf e (hs.subset he)⟩

/-- the oldest message held or waited for: the smaller of the cursor `c` and the first message of the table. -/
def floorOf (A : Tab) (c : Nat) : Nat :=
  match A with
  | [] => c
  | e :: _ => min c e.1

theorem TabOK.floor_le {S W f A} (h : TabOK S W f A) (c : Nat) : ∀ e ∈ A, floorOf A c ≤ e.1 := by
  cases A with
  | nil => intro e he; cases he
  | cons e0 rest =>
    intro e he
    have hs := (List.pairwise_cons.1 h.sorted).1
    rcases List.mem_cons.1 he with rfl | he
    · exact Nat.min_le_right ..
    · have := hs e he; have := Nat.min_le_right c e0.1; simp only [floorOf]; omega

theorem TabOK.le_floor {S W f A} (h : TabOK S W f A) {c : Nat} (hfc : f ≤ c) : f ≤ floorOf A c := by
  cases A with
  | nil => exact hfc
  | cons e0 rest => have := (h.win e0 (List.mem_cons_self ..)).1; simp only [floorOf]; omega

theorem floorOf_le (A : Tab) (c : Nat) : floorOf A c ≤ c := by
  cases A with
  | nil => exact Nat.le_refl _
  | cons e0 rest => exact Nat.min_le_left ..

/-- the table refined by the container `ordered`, window anchored at the floor `f`. -/
structure TabInv (S : Sender) (ordered : List ChunkSet) (f : Nat) (A : Tab) : Prop where
  ord : ordered = A.map S.concSet
  sorted : A.Pairwise (fun a b => a.1 < b.1)
  win : ∀ e ∈ A, f ≤ e.1 ∧ e.1 < f + 2^15 ∧ e.1 < S.msgs.length
  wf : ∀ e ∈ A, e.2 ≠ [] ∧ e.2.Pairwise (· < ·) ∧ ∀ j ∈ e.2, j < S.nf e.1

theorem TabInv.ok {S ordered f A} (h : TabInv S ordered f A) : TabOK S (2^15) f A := ⟨h.sorted, h.win, h.wf⟩

theorem TabOK.tabInv {S f A} (h : TabOK S (2^15) f A) : TabInv S (A.map S.concSet) f A := ⟨rfl, h.sorted, h.win, h.wf⟩

/-- entries with the same message index are the same entry. -/
theorem TabInv.unique {S ordered f A} (h : TabInv S ordered f A) {k : Nat} {js1 js2 : List Nat}
    (h1 : (k, js1) ∈ A) (h2 : (k, js2) ∈ A) : js1 = js2 := tab_unique h.sorted h1 h2

/-- a set of a table is complete iff it holds all fragments of its message. -/
theorem TabOK.complete_iff {S W f A} (h : TabOK S W f A) (hS : S.WF) {e : Nat × List Nat}
    (he : e ∈ A) : (S.concSet e).isComplete = true ↔ e.2 = List.range (S.nf e.1) :=
  complete_iff_all S e.1 (S.nf_pos hS (h.win e he).2.2) e.2 (h.wf e he).2.2

/-- the table test that corresponds to `purgedO`: message at or below the skip point and not all fragments held. -/
def Sender.purgedE (S : Sender) (L : Nat) (e : Nat × List Nat) : Bool :=
  decide (e.1 ≤ L) && !(S.concSet e).isComplete

/-- `forwardTSNForOrdered` on the refined container = filtering the table. -/
theorem purge_conc {S f A} (h : TabOK S (2^15) f A) (L : Nat) (hfL : f ≤ L) (hL : L < f + 2^15) :
    (A.map S.concSet).filter (fun s => !purgedO (BitVec.ofNat 16 L) s) = (A.filter (fun e => !S.purgedE L e)).map S.concSet := by
  rw [List.filter_map]
  congr 1
  apply List.filter_congr
  intro e he
  have hw := h.win e he
  simp only [Function.comp, purgedO, Sender.purgedE]
  have : (S.concSet e).ssn = BitVec.ofNat 16 e.1 := rfl
  rw [this, Sna.lte16_ofNat _ _ (by omega) (by omega)]

/-! ### unordered DATA: inside a half-space window "later than the new cumulative TSN" is monotone along a TSN-sorted slice -/

/-- TSNs `t0 + o` with strictly increasing offsets `o < 2^31` and a cumulative point `t0 + τ`, `τ < 2^31`. -/
theorem unordered_window_mono (t0 : BitVec 32) (τ : Nat) (hτ : τ < 2^31) (cs : List Chunk) (offs : List Nat)
    (hmap : cs.map (·.tsn) = offs.map (fun o => t0 + BitVec.ofNat 32 o))
    (hs : offs.Pairwise (· < ·)) (hlt : ∀ o ∈ offs, o < 2^31) :
    cs.Pairwise (fun a b => sna32GT a.tsn (t0 + BitVec.ofNat 32 τ) = true → sna32GT b.tsn (t0 + BitVec.ofNat 32 τ) = true) := by
  have hp : (cs.map (·.tsn)).Pairwise (fun a b => sna32GT a (t0 + BitVec.ofNat 32 τ) = true →
      sna32GT b (t0 + BitVec.ofNat 32 τ) = true) := by
    rw [hmap, List.pairwise_map]
    refine List.Pairwise.imp_of_mem ?_ hs
    intro a b ha hb hab
    have h1 := hlt a ha
    have h2 := hlt b hb
    rw [Sna.gt32_add_left, Sna.gt32_add_left, Sna.gt32_ofNat _ _ (by omega) (by omega),
      Sna.gt32_ofNat _ _ (by omega) (by omega)]
    simp only [decide_eq_true_eq]
    omega
  exact List.pairwise_map.1 hp

theorem fwdO_ordered (q : Q) (L : BitVec 16) :
    (q.forwardTSNForOrdered L).ordered = q.ordered.filter (fun s => !purgedO L s) := by
  simp only [Q.forwardTSNForOrdered]; exact fwdOrderedLoop_keep ..

theorem fwdO_nextSSN (q : Q) (L : BitVec 16) :
    (q.forwardTSNForOrdered L).nextSSN = if sna16LTE q.nextSSN L then L + 1 else q.nextSSN := by
  simp only [Q.forwardTSNForOrdered]

theorem fwdO_nBytes (q : Q) (L : BitVec 16) :
    (q.forwardTSNForOrdered L).nBytes = (fwdOrderedLoop L q.ordered q.nBytes).1 := by
  simp only [Q.forwardTSNForOrdered]

theorem fwdO_rest (q : Q) (L : BitVec 16) :
    (q.forwardTSNForOrdered L).si = q.si ∧ (q.forwardTSNForOrdered L).useInterleaving = q.useInterleaving ∧
    (q.forwardTSNForOrdered L).unordered = q.unordered ∧
    (q.forwardTSNForOrdered L).unorderedChunks = q.unorderedChunks ∧
    (q.forwardTSNForOrdered L).orderedMID = q.orderedMID ∧ (q.forwardTSNForOrdered L).unorderedMID = q.unorderedMID ∧
    (q.forwardTSNForOrdered L).unorderedMIDMap = q.unorderedMIDMap ∧ (q.forwardTSNForOrdered L).nextMID = q.nextMID ∧
    (q.forwardTSNForOrdered L).maxEntries = q.maxEntries := by
  simp only [Q.forwardTSNForOrdered, and_self]

/-- what an honest peer + network + application can do to the queue of one stream when messages may
be abandoned: deliver fragment `i` of message `k`, read with a buffer of `buflen` bytes, or deliver a
FORWARD-TSN whose entry for this stream names message `L` (the largest abandoned one it covers). -/
inductive SOp
  | push (k i : Nat)
  | read (buflen : Nat)
  | skip (L : Nat)
deriving Repr

/-- DATA (SSN) or I-DATA (MID): how a fragment looks, which handler a skip calls, the raw delivery
cursor (only compared for equality), the unwrapped floor, the half-space window. -/
structure Framing where
  frag : Nat → Nat → Chunk
  fwd : Q → Nat → Q
  cursor : Q → Nat
  floor : Q → Nat → Nat → Nat
  W : Nat

def Framing.step (F : Framing) (q : Q) : SOp → Q
  | .push k i => (q.pushWithError (F.frag k i)).1
  | .read n => (q.read n).1
  | .skip L => F.fwd q L

def Framing.run (F : Framing) (q : Q) (ops : List SOp) : Q := ops.foldl F.step q

/-- the `(PPI, payload)` pairs returned by the successful reads of a run, in order. -/
def Framing.deliveries (F : Framing) : Q → List SOp → List (PPI × List UInt8)
  | _, [] => []
  | q, .push k i :: ops => F.deliveries (q.pushWithError (F.frag k i)).1 ops
  | q, .read n :: ops =>
    (if (q.read n).2.err = .ok then [((q.read n).2.ppi, (q.read n).2.data)] else []) ++
      F.deliveries (q.read n).1 ops
  | q, .skip L :: ops => F.deliveries (F.fwd q L) ops

/-- the fragments handed over in a run. -/
def pushedS : List SOp → List (Nat × Nat)
  | [] => []
  | .push k i :: ops => (k, i) :: pushedS ops
  | _ :: ops => pushedS ops

/-- the skip points of a run. -/
def skipsS : List SOp → List Nat
  | [] => []
  | .skip L :: ops => L :: skipsS ops
  | _ :: ops => skipsS ops

/-- the oldest message the queue still holds or waits for, unwrapped relative to the previous floor `f`
(`c` = unwrapped cursor): the smaller of the cursor and the SSN of the first set held. -/
def Q.floorSSN (q : Q) (f c : Nat) : Nat :=
  match q.ordered with
  | [] => c
  | s :: _ => min c (f + (s.ssn - BitVec.ofNat 16 f).toNat)

def Sender.dataFr (S : Sender) : Framing :=
  { frag := S.dataFrag, fwd := fun q L => q.forwardTSNForOrdered (BitVec.ofNat 16 L),
    cursor := fun q => q.nextSSN.toNat, floor := Q.floorSSN, W := 2^15 }

/-- the honest-sender premise of `skip L`, executable: every message up to `L` that is not abandoned has been
handed over completely. -/
def Sender.allPushed (S : Sender) (K : Nat → Bool) (P : List (Nat × Nat)) (L : Nat) : Bool :=
  (List.range (L + 1)).all fun k => K k || (List.range (S.nf k)).all fun i => P.contains (k, i)

theorem Sender.allPushed_iff (S : Sender) (K : Nat → Bool) (P : List (Nat × Nat)) (L : Nat) :
    S.allPushed K P L = true ↔ ∀ k, k < L + 1 → K k = false → ∀ i, i < S.nf k → (k, i) ∈ P := by
  simp only [Sender.allPushed, List.all_eq_true, List.mem_range, Bool.or_eq_true, List.contains_iff_mem]
  constructor
  · intro h k hk hK i hi
    rcases h k hk with h | h
    · rw [hK] at h; cases h
    · exact h i hi
  · intro h k hk
    cases hK : K k with
    | true => exact .inl rfl
    | false => exact .inr (fun i hi => h k hk hK i hi)

/-- admissible runs of an honest sender that abandons the messages `K` (and only those).
Ghost state: `f` floor (oldest message held or waited for), `c` unwrapped cursor, `P` fragments pushed so far.
* `push k i`: valid indices; no fragment handed over twice (TSN filter, C05); the message is fewer than `W`
  ahead of the floor and — if it is a late fragment of a message the cursor has passed — fewer than `W`
  behind the cursor; the push does not hit the entry limit `maxEntries` (a chunk rejected by the limit is
  lost whatever the skips do).
* `read n`: any buffer size. The cursor moved iff the raw cursor changed; the floor is recomputed.
* `skip L`: `L` is a message of the stream inside the window, and — the honest-sender premise — every
  message up to `L` that is NOT abandoned has been handed over completely (a FORWARD-TSN moves the
  cumulative point only over abandoned chunks, so everything else below it has been received).
  `K L` itself is not required (a skip naming a complete message is harmless), stale skips (`L < c`) are allowed. -/
def Sender.AdmissibleS (S : Sender) (K : Nat → Bool) (F : Framing) :
    Q → Nat → Nat → List (Nat × Nat) → List SOp → Prop
  | _, _, _, _, [] => True
  | q, f, c, P, .push k i :: ops =>
      k < S.msgs.length ∧ i < S.nf k ∧ (k, i) ∉ P ∧ k < f + F.W ∧ c < k + F.W ∧
      (q.pushWithError (F.frag k i)).2.2 = Err.none ∧
      S.AdmissibleS K F (q.pushWithError (F.frag k i)).1 f c ((k, i) :: P) ops
  | q, f, c, P, .read n :: ops =>
      S.AdmissibleS K F (q.read n).1
        (F.floor (q.read n).1 f (if F.cursor (q.read n).1 = F.cursor q then c else c + 1))
        (if F.cursor (q.read n).1 = F.cursor q then c else c + 1) P ops
  | q, f, c, P, .skip L :: ops =>
      L < S.msgs.length ∧ f ≤ L ∧ L + 1 < f + F.W ∧
      S.allPushed K P L = true ∧
      S.AdmissibleS K F (F.fwd q L) (F.floor (F.fwd q L) f (max c (L + 1))) (max c (L + 1)) P ops

instance Sender.decAdmissibleS (S : Sender) (K : Nat → Bool) (F : Framing) :
    ∀ q f c P ops, Decidable (S.AdmissibleS K F q f c P ops)
  | _, _, _, _, [] => isTrue trivial
  | q, f, c, P, .push k i :: ops =>
    have := Sender.decAdmissibleS S K F (q.pushWithError (F.frag k i)).1 f c ((k, i) :: P) ops
    by unfold Sender.AdmissibleS; exact inferInstance
  | q, f, c, P, .read n :: ops =>
    have := Sender.decAdmissibleS S K F (q.read n).1
        (F.floor (q.read n).1 f (if F.cursor (q.read n).1 = F.cursor q then c else c + 1))
        (if F.cursor (q.read n).1 = F.cursor q then c else c + 1) P ops
    by unfold Sender.AdmissibleS; exact inferInstance
  | q, f, c, P, .skip L :: ops =>
    have := Sender.decAdmissibleS S K F (F.fwd q L) (F.floor (F.fwd q L) f (max c (L + 1))) (max c (L + 1)) P ops
    by unfold Sender.AdmissibleS; exact inferInstance

/-- `f` floor, `c` cursor, `A` table held, `P` fragments pushed, `D` messages delivered (in order); `W` is the
half-space window of the message numbering (2^15 for SSNs, 2^31 for MIDs). -/
structure SkipCore (S : Sender) (K : Nat → Bool) (W f c : Nat) (A : Tab) (P : List (Nat × Nat)) (D : List Nat) :
    Prop where
  tab : TabOK S W f A
  fc : f ≤ c ∧ c < f + W
  pushed : ∀ e ∈ A, ∀ j ∈ e.2, (e.1, j) ∈ P
  /-- sets the cursor has passed are complete (they survived a skip) -/
  below : ∀ e ∈ A, e.1 < c → e.2 = List.range (S.nf e.1)
  /-- messages the cursor has passed are abandoned or were handed over completely -/
  done : ∀ k, k < c → K k = false → ∀ i, i < S.nf k → (k, i) ∈ P
  dsorted : D.Pairwise (· < ·)
  dlt : ∀ k ∈ D, k < c ∧ k < S.msgs.length ∧ ∀ e ∈ A, k < e.1
  /-- nothing of a message that is not abandoned is ever dropped: until it is delivered every fragment handed
  over sits in the table -/
  held : ∀ k, K k = false → k ∉ D → ∀ i, (k, i) ∈ P → ∃ js, (k, js) ∈ A ∧ i ∈ js

namespace SkipCore
variable {S : Sender} {K : Nat → Bool} {W f c : Nat} {A : Tab} {P : List (Nat × Nat)} {D : List Nat}

theorem new (S : Sender) (K : Nat → Bool) {W : Nat} (hW : 0 < W) : SkipCore S K W 0 0 [] [] [] :=
  { tab := ⟨List.Pairwise.nil, by simp, by simp⟩, fc := ⟨Nat.le_refl _, by omega⟩, pushed := by simp, below := by simp,
    done := by simp, dsorted := List.Pairwise.nil, dlt := by simp, held := by simp }

/-- the floor can be raised to the oldest message held or waited for. -/
theorem refloor (h : SkipCore S K W f c A P D) : SkipCore S K W (floorOf A c) c A P D :=
  { h with tab := h.tab.raise _ (h.tab.le_floor h.fc.1) (h.tab.floor_le c),
           fc := ⟨floorOf_le A c, by have := h.tab.le_floor h.fc.1; have := h.fc; omega⟩ }

/-- a fragment that is dropped at the door (late fragment of an abandoned message). -/
theorem late (h : SkipCore S K W f c A P D) {k i : Nat} (hK : K k = true) : SkipCore S K W f c A ((k, i) :: P) D :=
  { h with pushed := fun e he j hj => List.mem_cons_of_mem _ (h.pushed e he j hj),
           done := fun k' hk' hK' i' hi' => List.mem_cons_of_mem _ (h.done k' hk' hK' i' hi'),
           held := by
             intro k0 hK0 hD0 i0 hi0
             rcases List.mem_cons.1 hi0 with e | hi0
             · rw [(Prod.mk.inj e).1, hK] at hK0; cases hK0
             · exact h.held k0 hK0 hD0 i0 hi0 }

/-- an accepted push of fragment `i` of a message `k` at or above the cursor. -/
theorem afterPush (h : SkipCore S K W f c A P D) {k i : Nat} (hck : c ≤ k) {A' : Tab} (htab : TabOK S W f A')
    (hadd : Added A A' k i) : SkipCore S K W f c A' ((k, i) :: P) D := by
  refine { tab := htab, fc := h.fc, pushed := hadd.pushed h.pushed, below := ?_,
           done := fun k' hk' hK' i' hi' => List.mem_cons_of_mem _ (h.done k' hk' hK' i' hi'),
           dsorted := h.dsorted, dlt := ?_, held := ?_ }
  · intro e he hec
    rcases hadd.old e he with he | ⟨hek, _⟩
    · exact h.below e he hec
    · omega
  · intro k0 hk0
    obtain ⟨a, b, d⟩ := h.dlt k0 hk0
    refine ⟨a, b, fun e he => ?_⟩
    rcases hadd.old e he with he | ⟨hek, _⟩
    · exact d e he
    · omega
  · intro k0 hK0 hD0 i0 hi0
    obtain ⟨js', hjs', hi', hsup⟩ := hadd.new
    rcases List.mem_cons.1 hi0 with e | hi0
    · obtain ⟨rfl, rfl⟩ := Prod.mk.inj e
      exact ⟨js', hjs', hi'⟩
    · obtain ⟨js0, hjs0, hij0⟩ := h.held k0 hK0 hD0 i0 hi0
      by_cases hkk : k0 = k
      · subst hkk
        exact ⟨js', hjs', hsup js0 hjs0 i0 hij0⟩
      · exact ⟨js0, hadd.keep _ hjs0 hkk, hij0⟩

/-- a successful read of the first set: message `k`, complete, not above the cursor. The cursor moves iff it
stood on `k`; the floor is recomputed. -/
theorem afterRead {k : Nat} {rest : Tab} (h : SkipCore S K W f c ((k, List.range (S.nf k)) :: rest) P D)
    (hkc : k ≤ c) :
    SkipCore S K W (floorOf rest (if k = c then c + 1 else c)) (if k = c then c + 1 else c) rest P (D ++ [k]) := by
  have hfc := h.fc
  have hin : (k, List.range (S.nf k)) ∈ (k, List.range (S.nf k)) :: rest := List.mem_cons_self ..
  have hwin := h.tab.win _ hin
  have hs := List.pairwise_cons.1 h.tab.sorted
  simp only at hwin
  have htab' : TabOK S W f rest := h.tab.sublist (List.sublist_cons_self ..)
  have hc'ge : f ≤ (if k = c then c + 1 else c) := by split <;> omega
  refine
    { tab := htab'.raise _ (htab'.le_floor hc'ge) (htab'.floor_le _), fc := ⟨floorOf_le .., ?_⟩,
      pushed := fun e he => h.pushed e (List.mem_cons_of_mem _ he),
      below := ?_, done := ?_, dsorted := ?_, dlt := ?_, held := ?_ }
  · -- the new floor is the cursor or the next message held, which is above `k ≥ f`
    cases rest with
    | nil => simp only [floorOf]; omega
    | cons e rest' =>
      have := hs.1 e (List.mem_cons_self ..)
      have := (h.tab.win e (List.mem_cons_of_mem _ (List.mem_cons_self ..))).2.1
      simp only [floorOf] at *
      split <;> omega
  · intro e he hec
    have hlt := hs.1 e he
    simp only at hlt
    by_cases hkc : k = c
    · rw [if_pos hkc] at hec; omega
    · rw [if_neg hkc] at hec
      exact h.below e (List.mem_cons_of_mem _ he) hec
  · intro k' hk' hK' i hi
    by_cases hkc : k = c
    · rw [if_pos hkc] at hk'
      rcases Nat.lt_or_ge k' c with hlt | hge
      · exact h.done k' hlt hK' i hi
      · have : k' = k := by omega
        subst this
        exact h.pushed _ hin i (List.mem_range.2 hi)
    · rw [if_neg hkc] at hk'
      exact h.done k' hk' hK' i hi
  · rw [List.pairwise_append]
    refine ⟨h.dsorted, List.pairwise_singleton _ _, fun a ha b hb => ?_⟩
    rw [List.mem_singleton.1 hb]
    exact (h.dlt a ha).2.2 _ hin
  · intro k0 hk0
    rcases List.mem_append.1 hk0 with hk0 | hk0
    · obtain ⟨a, b, d⟩ := h.dlt k0 hk0
      exact ⟨by split <;> omega, b, fun e he => d e (List.mem_cons_of_mem _ he)⟩
    · rw [List.mem_singleton.1 hk0]
      exact ⟨by split <;> omega, hwin.2.2, fun e he => hs.1 e he⟩
  · intro k0 hK0 hD0 i0 hi0
    have hD1 : k0 ∉ D := fun hx => hD0 (List.mem_append_left _ hx)
    have hne : k0 ≠ k := fun hx => hD0 (List.mem_append_right _ (by simp [hx]))
    obtain ⟨js0, hjs0, hij0⟩ := h.held k0 hK0 hD1 i0 hi0
    rcases List.mem_cons.1 hjs0 with e | hjs0
    · exact absurd (Prod.mk.inj e).1 hne
    · exact ⟨js0, hjs0, hij0⟩

/-- every fragment of a message that is not abandoned was handed over ⇒ its entry, if it is not delivered, holds
all of them. -/
theorem entry_full (h : SkipCore S K W f c A P D) {k : Nat} (hK : K k = false) (hD : k ∉ D)
    (hall : ∀ i, i < S.nf k → (k, i) ∈ P) {js : List Nat} (hjs : (k, js) ∈ A) : js = List.range (S.nf k) := by
  have hwf := h.tab.wf _ hjs
  apply sorted_all_eq_range js (S.nf k) hwf.2.1 hwf.2.2
  intro i hi
  obtain ⟨js', hjs', hij'⟩ := h.held k hK hD i (hall i hi)
  rw [tab_unique h.tab.sorted hjs hjs']; exact hij'

/-- a skip up to message `L`, with `p` the test "at or below `L` and not all fragments held": exactly the entries
passing `p` leave the table, the cursor moves to `max c (L + 1)`; under the honest-sender premise nothing of a
message that is not abandoned leaves. -/
theorem skip (h : SkipCore S K W f c A P D) {L : Nat} (hfL : f ≤ L) (hL : L + 1 < f + W)
    (hprem : ∀ k, k < L + 1 → K k = false → ∀ i, i < S.nf k → (k, i) ∈ P) {p : Nat × List Nat → Bool}
    (hp : ∀ e ∈ A, p e = true ↔ e.1 ≤ L ∧ e.2 ≠ List.range (S.nf e.1)) :
    SkipCore S K W f (max c (L + 1)) (A.filter (fun e => !p e)) P D := by
  have hfc := h.fc
  have hmemA : ∀ e, e ∈ A.filter (fun e => !p e) → e ∈ A := fun e he => (List.mem_filter.1 he).1
  refine { tab := h.tab.sublist List.filter_sublist, fc := by omega, pushed := fun e he => h.pushed e (hmemA e he),
           below := ?_, done := ?_, dsorted := h.dsorted, dlt := ?_, held := ?_ }
  · intro e he hec
    rcases Nat.lt_or_ge e.1 c with hlt | hge
    · exact h.below e (hmemA e he) hlt
    · have hkeep := (List.mem_filter.1 he).2
      simp only [Bool.not_eq_true', ← Bool.not_eq_true, hp e (hmemA e he)] at hkeep
      exact Decidable.byContradiction fun hne => hkeep ⟨by omega, hne⟩
  · intro k hk hK i hi
    rcases Nat.lt_or_ge k c with hlt | hge
    · exact h.done k hlt hK i hi
    · exact hprem k (by omega) hK i hi
  · intro k hk
    obtain ⟨a, b, d⟩ := h.dlt k hk
    exact ⟨by omega, b, fun e he => d e (hmemA e he)⟩
  · intro k hK hD i hi
    obtain ⟨js, hjs, hij⟩ := h.held k hK hD i hi
    refine ⟨js, List.mem_filter.2 ⟨hjs, ?_⟩, hij⟩
    simp only [Bool.not_eq_true', ← Bool.not_eq_true, hp _ hjs]
    exact fun ⟨hle, hne⟩ => hne (h.entry_full hK hD (fun i' hi' => hprem k (by omega) hK i' hi') hjs)

/-- nothing that is not abandoned is lost: a message all of whose fragments were handed over has been
delivered or sits complete in the table. -/
theorem kept (h : SkipCore S K W f c A P D) (hS : S.WF) {k : Nat} (hk : k < S.msgs.length) (hK : K k = false)
    (hall : ∀ i, i < S.nf k → (k, i) ∈ P) : k ∈ D ∨ (k, List.range (S.nf k)) ∈ A := by
  by_cases hD : k ∈ D
  · exact .inl hD
  · obtain ⟨js, hjs, _⟩ := h.held k hK hD 0 (hall 0 (S.nf_pos hS hk).1)
    rw [← h.entry_full hK hD hall hjs]; exact .inr hjs

/-- if such a message is at or below the cursor and not delivered, the first entry of the table is complete and
not above the cursor (so the queue is readable). -/
theorem first_ready (h : SkipCore S K W f c A P D) (hS : S.WF) {k : Nat} (hk : k < S.msgs.length) (hkc : k ≤ c)
    (hK : K k = false) (hall : ∀ i, i < S.nf k → (k, i) ∈ P) (hD : k ∉ D) :
    ∃ e rest, A = e :: rest ∧ e.2 = List.range (S.nf e.1) ∧ e.1 ≤ c := by
  have hA := (h.kept hS hk hK hall).resolve_left hD
  cases hAe : A with
  | nil => rw [hAe] at hA; cases hA
  | cons e rest =>
    refine ⟨e, rest, rfl, ?_⟩
    have he : e ∈ A := by rw [hAe]; exact List.mem_cons_self ..
    have hs := h.tab.sorted
    rw [hAe, List.pairwise_cons] at hs
    have hek : e.1 ≤ k := by
      rw [hAe] at hA
      rcases List.mem_cons.1 hA with e1 | hA
      · rw [← e1]; exact Nat.le_refl _
      · exact Nat.le_of_lt (hs.1 _ hA)
    refine ⟨?_, by omega⟩
    rcases Nat.lt_or_ge e.1 c with hlt | hge
    · exact h.below e he hlt
    · have hek' : e.1 = k := by omega
      rw [tab_unique h.tab.sorted (k := k) (js1 := e.2) (by rw [← hek']; exact he) hA, hek']

end SkipCore

/-! ### runs: any invariant with the four step lemmas is kept, and the reads return what it records -/

/-- the premise of `Framing.run_inv` on the cursor after a read of message `m`, for a cursor counted modulo `N` -/
theorem cursor_same_iff {N m c : Nat} (hN : (c + 1) % N ≠ c % N) :
    (if m = c then c + 1 else c) % N = c % N ↔ ¬ m = c := by
  by_cases hmc : m = c <;> simp [hmc, hN]

theorem Framing.run_inv {S : Sender} {K : Nat → Bool} {F : Framing}
    {Inv : Q → Nat → Nat → Tab → List (Nat × Nat) → List Nat → Prop}
    (hpush : ∀ {q f c A P D k i}, Inv q f c A P D → k < S.msgs.length → i < S.nf k → (k, i) ∉ P → k < f + F.W →
      c < k + F.W → (q.pushWithError (F.frag k i)).2.2 = Err.none →
      ∃ A', Inv (q.pushWithError (F.frag k i)).1 f c A' ((k, i) :: P) D)
    (hfloor : ∀ {q f c A P D}, Inv q f c A P D → Inv q (F.floor q f c) c A P D)
    (hread : ∀ {q f c A P D} (n : Nat), Inv q f c A P D → ((q.read n).2.err ≠ .ok ∧ (q.read n).1 = q) ∨
      ∃ m, (q.read n).2.err = .ok ∧ (q.read n).2.ppi = (S.msg m).ppi ∧ (q.read n).2.data = (S.msg m).payload ∧
        (F.cursor (q.read n).1 = F.cursor q ↔ ¬ m = c) ∧
        ∃ A', Inv (q.read n).1 (F.floor (q.read n).1 f (if m = c then c + 1 else c))
          (if m = c then c + 1 else c) A' P (D ++ [m]))
    (hskip : ∀ {q f c A P D L}, Inv q f c A P D → L < S.msgs.length → f ≤ L → L + 1 < f + F.W →
      (∀ k, k < L + 1 → K k = false → ∀ i, i < S.nf k → (k, i) ∈ P) →
      ∃ A', Inv (F.fwd q L) f (max c (L + 1)) A' P D)
    (ops : List SOp) {q f c A P D} (h : Inv q f c A P D) (hadm : S.AdmissibleS K F q f c P ops) :
    ∃ f' c' A' P' D', Inv (F.run q ops) f' c' A' P' (D ++ D') ∧
      F.deliveries q ops = D'.map (fun k => ((S.msg k).ppi, (S.msg k).payload)) ∧
      (∀ x, x ∈ P' ↔ x ∈ P ∨ x ∈ pushedS ops) ∧ c ≤ c' ∧ (∀ L ∈ skipsS ops, L < c') := by
  induction ops generalizing q f c A P D with
  | nil =>
    exact ⟨f, c, A, P, [], by simpa [Framing.run] using h, rfl, by simp [pushedS], Nat.le_refl _, by simp [skipsS]⟩
  | cons op ops ih =>
    cases op with
    | push k i =>
      obtain ⟨hk, hi, hP, hw, hlate, hok, hrest⟩ := hadm
      obtain ⟨A1, h1⟩ := hpush h hk hi hP hw hlate hok
      obtain ⟨f', c', A', P', D', hinv, hdel, hP', hcc, hsk⟩ := ih h1 hrest
      refine ⟨f', c', A', P', D', hinv, hdel, fun x => ?_, hcc, hsk⟩
      rw [hP' x]
      simp only [pushedS, List.mem_cons]
      exact ⟨fun h => h.elim (fun h => h.elim (.inr ∘ .inl) .inl) (.inr ∘ .inr),
        fun h => h.elim (.inl ∘ .inr) (fun h => h.elim (.inl ∘ .inl) .inr)⟩
    | read n =>
      simp only [Sender.AdmissibleS] at hadm
      simp only [Framing.deliveries]
      rcases hread n h with ⟨hne, hq⟩ | ⟨m, hok, hppi, hdata, hcs, A1, h1⟩
      · rw [if_neg hne]
        have hrun : F.run q (.read n :: ops) = F.run q ops := by
          simp only [Framing.run, List.foldl_cons, Framing.step]; rw [hq]
        rw [hrun]
        rw [hq, if_pos rfl] at hadm
        rw [hq]
        obtain ⟨f', c', A', P', D', hinv, hdel, hP', hcc, hsk⟩ := ih (hfloor h) hadm
        exact ⟨f', c', A', P', D', hinv, by simpa using hdel, by simpa [pushedS] using hP', hcc,
          by simpa [skipsS] using hsk⟩
      · rw [if_pos hok]
        have hc' : (if F.cursor (q.read n).1 = F.cursor q then c else c + 1) = (if m = c then c + 1 else c) := by
          by_cases hmc : m = c
          · rw [if_neg (fun hx => hcs.1 hx hmc), if_pos hmc]
          · rw [if_pos (hcs.2 hmc), if_neg hmc]
        rw [hc'] at hadm
        obtain ⟨f', c', A', P', D', hinv, hdel, hP', hcc, hsk⟩ := ih h1 hadm
        refine ⟨f', c', A', P', m :: D', ?_, ?_, by simpa [pushedS] using hP', ?_, by simpa [skipsS] using hsk⟩
        · rw [List.append_cons]; exact hinv
        · rw [hdel, hppi, hdata]; rfl
        · split at hcc <;> omega
    | skip L =>
      obtain ⟨hLlen, hfL, hL, hprem, hrest⟩ := hadm
      obtain ⟨A1, h1⟩ := hskip h hLlen hfL hL ((S.allPushed_iff K P L).1 hprem)
      obtain ⟨f', c', A', P', D', hinv, hdel, hP', hcc, hsk⟩ := ih (hfloor h1) hrest
      refine ⟨f', c', A', P', D', hinv, hdel, by simpa [pushedS] using hP', by omega, fun L' hL' => ?_⟩
      simp only [skipsS, List.mem_cons] at hL'
      rcases hL' with rfl | hL'
      · omega
      · exact hsk L' hL'

/-- `f` floor, `c` cursor, `A` table held, `P` fragments pushed, `D` messages delivered (in order). -/
structure SkipInv (S : Sender) (K : Nat → Bool) (q : Q) (f c : Nat) (A : Tab) (P : List (Nat × Nat))
    (D : List Nat) : Prop where
  si : q.si = S.si
  il : q.useInterleaving = false
  un : q.unordered = []
  cur : q.nextSSN = BitVec.ofNat 16 c
  tab : TabInv S q.ordered f A
  fc : f ≤ c ∧ c < f + 2^15
  pushed : ∀ e ∈ A, ∀ j ∈ e.2, (e.1, j) ∈ P
  /-- sets the cursor has passed are complete (they survived a skip) -/
  below : ∀ e ∈ A, e.1 < c → e.2 = List.range (S.nf e.1)
  /-- messages the cursor has passed are abandoned or were handed over completely -/
  done : ∀ k, k < c → K k = false → ∀ i, i < S.nf k → (k, i) ∈ P
  dsorted : D.Pairwise (· < ·)
  dlt : ∀ k ∈ D, k < c ∧ k < S.msgs.length ∧ ∀ e ∈ A, k < e.1
  /-- nothing of a message that is not abandoned is ever dropped: until it is delivered every fragment handed
  over sits in the table -/
  held : ∀ k, K k = false → k ∉ D → ∀ i, (k, i) ∈ P → ∃ js, (k, js) ∈ A ∧ i ∈ js

theorem SkipInv.core {S K q f c A P D} (h : SkipInv S K q f c A P D) : SkipCore S K (2^15) f c A P D :=
  ⟨h.tab.ok, h.fc, h.pushed, h.below, h.done, h.dsorted, h.dlt, h.held⟩

/-- the invariant from its queue part and its ghost part. -/
theorem SkipCore.inv {S K q f c A P D} (h : SkipCore S K (2^15) f c A P D) (si : q.si = S.si)
    (il : q.useInterleaving = false) (un : q.unordered = []) (cur : q.nextSSN = BitVec.ofNat 16 c)
    (ord : q.ordered = A.map S.concSet) : SkipInv S K q f c A P D :=
  ⟨si, il, un, cur, ⟨ord, h.tab.sorted, h.tab.win, h.tab.wf⟩, h.fc, h.pushed, h.below, h.done, h.dsorted, h.dlt, h.held⟩

theorem SkipInv_new (S : Sender) (K : Nat → Bool) (me : BitVec 32) : SkipInv S K (new S.si me) 0 0 [] [] [] :=
  (SkipCore.new S K (by decide)).inv rfl rfl rfl rfl rfl

theorem floorSSN_eq {S : Sender} {q : Q} {f : Nat} {A : Tab} (h : TabInv S q.ordered f A) (c : Nat) :
    q.floorSSN f c = floorOf A c := by
  unfold Q.floorSSN
  rw [h.ord]
  cases A with
  | nil => rfl
  | cons e rest =>
    have hw := h.win e (List.mem_cons_self ..)
    have hsub : ((S.concSet e).ssn - BitVec.ofNat 16 f).toNat = e.1 - f := by
      show (BitVec.ofNat 16 e.1 - BitVec.ofNat 16 f).toNat = _
      rw [Sna.ofNat16_dist f e.1 (by omega) (by omega), if_pos hw.1]
    simp only [List.map_cons, hsub, floorOf]
    omega

theorem SkipInv.refloor {S K q f c A P D} (h : SkipInv S K q f c A P D) :
    SkipInv S K q (q.floorSSN f c) c A P D := by
  rw [floorSSN_eq h.tab]
  exact h.core.refloor.inv h.si h.il h.un h.cur h.tab.ord

theorem SkipInv.push {S K q f c A P D} (h : SkipInv S K q f c A P D) (hS : S.WF) {k i : Nat}
    (hk : k < S.msgs.length) (hi : i < S.nf k) (hP : (k, i) ∉ P) (hw : k < f + 2^15) (hlate : c < k + 2^15)
    (hok : (q.pushWithError (S.dataFrag k i)).2.2 = Err.none) :
    ∃ A', SkipInv S K (q.pushWithError (S.dataFrag k i)).1 f c A' ((k, i) :: P) D := by
  have hfc := h.fc
  rcases Nat.lt_or_ge k c with hkc | hck
  · -- late fragment of a message the cursor has passed: dropped at the door
    have hKk : K k = true := by
      cases hK : K k with
      | true => rfl
      | false => exact absurd (h.done k hkc hK i hi) hP
    have hq : (q.pushWithError (S.dataFrag k i)).1 = q := by
      unfold Q.pushWithError
      have c1 : (S.dataFrag k i).iData = false := rfl
      have c2 : ((S.dataFrag k i).si != q.si) = false := by simp [Sender.dataFrag, h.si]
      have c3 : (S.dataFrag k i).unordered = false := rfl
      have c5 : (S.dataFrag k i).ssn = BitVec.ofNat 16 k := rfl
      have c4 : sna16LT (BitVec.ofNat 16 k) q.nextSSN = true := by
        rw [h.cur, Sna.lt16_ofNat _ _ (by omega) (by omega)]; simp; omega
      simp only [c1, c2, c3, c4, c5, Bool.false_eq_true, ↓reduceIte]
    rw [hq]
    exact ⟨A, (h.core.late hKk).inv h.si h.il h.un h.cur h.tab.ord⟩
  · rcases pushData_conc hS h.si h.cur h.tab.ord h.tab.ok hfc.1 hck hw hk hi
      (fun js hjs hij => hP (h.pushed _ hjs i hij)) with ⟨_, hlim⟩ | ⟨A', hq, _, hT, hadd⟩
    · rw [hlim] at hok; cases hok
    · rw [hq]
      exact ⟨A', (h.core.afterPush hck hT hadd).inv h.si h.il h.un h.cur rfl⟩

/-- a read on a refined state: either nothing is delivered and the queue is unchanged, or the first set held —
message `m`, complete, not above the cursor — is delivered (PPI and payload), the cursor moves iff `m` was the
message it stood on, and the state refines the table without it. -/
theorem SkipInv.read {S K q f c A P D} (h : SkipInv S K q f c A P D) (hS : S.WF) (n : Nat) :
    ((q.read n).2.err ≠ .ok ∧ (q.read n).1 = q) ∨
    (∃ m, (q.read n).2.err = .ok ∧ (q.read n).2.ppi = (S.msg m).ppi ∧ (q.read n).2.data = (S.msg m).payload ∧
      (q.read n).1.nextSSN = BitVec.ofNat 16 (if m = c then c + 1 else c) ∧
      ∃ A', SkipInv S K (q.read n).1 ((q.read n).1.floorSSN f (if m = c then c + 1 else c))
        (if m = c then c + 1 else c) A' P (D ++ [m])) := by
  rcases readData_conc hS h.il h.un h.cur h.tab.ord h.tab.ok h.fc n with
    hno | ⟨k, rest, hA, hkc, hok, hppi, hdata, nb, hq⟩
  · exact .inl hno
  · subst hA
    have hc := h.core.afterRead hkc
    refine .inr ⟨k, hok, hppi, hdata, by rw [hq], rest, ?_⟩
    have htail : TabInv S (q.read n).1.ordered f rest := by
      rw [hq]; exact (h.tab.ok.sublist (List.sublist_cons_self ..)).tabInv
    rw [floorSSN_eq htail, hq]
    exact hc.inv h.si h.il h.un rfl rfl

/-- a skip on a refined state: exactly the incomplete sets at or below `L` leave the table, the cursor
moves to `max c (L + 1)`; under the honest-sender premise nothing of a message that is not abandoned leaves. -/
theorem SkipInv.skip {S K q f c A P D} (h : SkipInv S K q f c A P D) (hS : S.WF) {L : Nat}
    (hLlen : L < S.msgs.length) (hfL : f ≤ L) (hL : L + 1 < f + 2^15)
    (hprem : ∀ k, k < L + 1 → K k = false → ∀ i, i < S.nf k → (k, i) ∈ P) :
    SkipInv S K (q.forwardTSNForOrdered (BitVec.ofNat 16 L)) f (max c (L + 1))
      (A.filter (fun e => !S.purgedE L e)) P D := by
  have hfc := h.fc
  obtain ⟨r1, r2, r3, _⟩ := fwdO_rest q (BitVec.ofNat 16 L)
  have hp : ∀ e ∈ A, S.purgedE L e = true ↔ e.1 ≤ L ∧ e.2 ≠ List.range (S.nf e.1) := fun e he => by
    simp only [Sender.purgedE, Bool.and_eq_true, decide_eq_true_eq, Bool.not_eq_true', ← Bool.not_eq_true,
      h.tab.ok.complete_iff hS he]
  refine (h.core.skip hfL hL hprem hp).inv (by rw [r1, h.si]) (by rw [r2, h.il]) (by rw [r3, h.un]) ?_
    (by rw [fwdO_ordered, h.tab.ord]; exact purge_conc h.tab.ok L hfL (by omega))
  rw [fwdO_nextSSN, h.cur, Sna.lte16_ofNat _ _ (by omega) (by omega)]
  by_cases hcl : c ≤ L
  · rw [if_pos (decide_eq_true hcl), Nat.max_eq_right (by omega), BitVec.ofNat_add]; rfl
  · rw [if_neg (by simpa using hcl), Nat.max_eq_left (by omega)]

/-- ✱ every admissible run keeps the invariant; the successful reads return exactly the messages `D'` that the
run appends to the delivered list. -/
theorem SkipInv.run {S : Sender} (hS : S.WF) (K : Nat → Bool) (ops : List SOp) {q f c A P D}
    (h : SkipInv S K q f c A P D) (hadm : S.AdmissibleS K S.dataFr q f c P ops) :
    ∃ f' c' A' P' D', SkipInv S K (S.dataFr.run q ops) f' c' A' P' (D ++ D') ∧
      S.dataFr.deliveries q ops = D'.map (fun k => ((S.msg k).ppi, (S.msg k).payload)) ∧
      (∀ x, x ∈ P' ↔ x ∈ P ∨ x ∈ pushedS ops) ∧ c ≤ c' ∧ (∀ L ∈ skipsS ops, L < c') := by
  refine Framing.run_inv (F := S.dataFr) (fun h => h.push hS) SkipInv.refloor (fun {q f c A P D} n h => ?_)
    (fun h hLlen hfL hL hprem => ⟨_, h.skip hS hLlen hfL hL hprem⟩) ops h hadm
  rcases h.read hS n with hno | ⟨m, hok, hppi, hdata, hcur, hinv⟩
  · exact .inl hno
  · refine .inr ⟨m, hok, hppi, hdata, ?_, hinv⟩
    show (q.read n).1.nextSSN.toNat = q.nextSSN.toNat ↔ _
    rw [hcur, h.cur, BitVec.toNat_ofNat, BitVec.toNat_ofNat]
    exact cursor_same_iff (by omega)

/-- nothing that is not abandoned is lost: a message all of whose fragments were handed over has been
delivered or sits complete in the queue. -/
theorem SkipInv.kept {S K q f c A P D} (h : SkipInv S K q f c A P D) (hS : S.WF) {k : Nat}
    (hk : k < S.msgs.length) (hK : K k = false) (hall : ∀ i, i < S.nf k → (k, i) ∈ P) :
    k ∈ D ∨ (k, List.range (S.nf k)) ∈ A :=
  h.core.kept hS hk hK hall

/-- when the application has drained the queue (`isReadable = false`), every message at or below the cursor
that is not abandoned and was handed over completely HAS been delivered. -/
theorem SkipInv.drained {S K q f c A P D} (h : SkipInv S K q f c A P D) (hS : S.WF)
    (hnr : q.isReadable = false) {k : Nat} (hk : k < S.msgs.length) (hkc : k ≤ c) (hK : K k = false)
    (hall : ∀ i, i < S.nf k → (k, i) ∈ P) : k ∈ D := by
  refine Decidable.byContradiction fun hD => ?_
  obtain ⟨e, rest, hA, hfull, hec⟩ := h.core.first_ready hS hk hkc hK hall hD
  have he : e ∈ A := by rw [hA]; exact List.mem_cons_self ..
  have hwin := h.tab.win e he
  have hfc := h.fc
  have hle : sna16LTE (S.concSet e).ssn q.nextSSN = true := by
    rw [h.cur]
    show sna16LTE (BitVec.ofNat 16 e.1) _ = true
    rw [Sna.lte16_ofNat _ _ (by omega) (by omega)]
    exact decide_eq_true hec
  unfold Q.isReadable at hnr
  simp only [h.il, Bool.false_eq_true, ↓reduceIte, h.un, List.length_nil, Nat.lt_irrefl, decide_false,
    h.tab.ord, hA, List.map_cons, (h.tab.ok.complete_iff hS he).2 hfull, hle] at hnr
  cases hnr

/-- picking strictly increasing indices out of a list gives a sublist. -/
theorem map_getD_sublist {α} (l : List α) (d : α) : ∀ (ks : List Nat) (lo : Nat), ks.Pairwise (· < ·) →
    (∀ k ∈ ks, lo ≤ k ∧ k < l.length) → (ks.map (fun k => l.getD k d)).Sublist (l.drop lo)
  | [], _, _, _ => by simp
  | k :: ks, lo, hs, hb => by
    rw [List.pairwise_cons] at hs
    obtain ⟨hlo, hlen⟩ := hb k (List.mem_cons_self ..)
    have ih := map_getD_sublist l d ks (k + 1) hs.2 (fun x hx => by
      have := hs.1 x hx
      exact ⟨by omega, (hb x (List.mem_cons_of_mem _ hx)).2⟩)
    have e1 : l.drop lo = (l.drop lo).take (k - lo) ++ (l.drop lo).drop (k - lo) := (List.take_append_drop _ _).symm
    have e2 : (l.drop lo).drop (k - lo) = l.drop k := by rw [List.drop_drop]; congr 1; omega
    have e3 : l.drop k = l[k] :: l.drop (k + 1) := List.drop_eq_getElem_cons hlen
    have e4 : l.getD k d = l[k] := by simp [List.getD_eq_getElem?_getD, List.getElem?_eq_getElem hlen]
    rw [e1, e2, e3, List.map_cons, e4]
    exact List.Sublist.trans (List.Sublist.cons_cons _ ih) (List.sublist_append_right _ _)

/-- the end of a run that started with nothing pushed and nothing delivered, in terms of its ops: `D` is
ascending and inside the stream, so what was read is a subsequence of what was written; a message that is not
abandoned and was handed over completely is delivered or held complete; and it is delivered once nothing is
readable (`hdr`), provided every earlier message was handed over completely or is covered by a skip. -/
theorem SkipCore.summary {S : Sender} {K : Nat → Bool} {W f c : Nat} {A : Tab} {P : List (Nat × Nat)} {D : List Nat}
    (h : SkipCore S K W f c A P D) (hS : S.WF) {ops : List SOp}
    (hP : ∀ x, x ∈ P ↔ x ∈ pushedS ops) (hsk : ∀ L ∈ skipsS ops, L < c) {r : Bool}
    (hdr : r = false → ∀ k, k < S.msgs.length → k ≤ c → K k = false → (∀ i, i < S.nf k → (k, i) ∈ P) → k ∈ D) :
    D.Pairwise (· < ·) ∧ (∀ k ∈ D, k < S.msgs.length) ∧
    (D.map (fun k => (S.msg k).out)).Sublist (S.msgs.map Msg.out) ∧
    (∀ k, k < S.msgs.length → K k = false → (∀ i, i < S.nf k → (k, i) ∈ pushedS ops) →
      k ∈ D ∨ (k, List.range (S.nf k)) ∈ A) ∧
    (r = false → ∀ k, k < S.msgs.length → K k = false → (∀ i, i < S.nf k → (k, i) ∈ pushedS ops) →
      (∀ k', k' < k → (K k' = false ∧ ∀ i, i < S.nf k' → (k', i) ∈ pushedS ops) ∨ (∃ L ∈ skipsS ops, k' ≤ L)) →
      k ∈ D) := by
  have hlen : ∀ k ∈ D, k < S.msgs.length := fun k hk => (h.dlt k hk).2.1
  have hall : ∀ k, (∀ i, i < S.nf k → (k, i) ∈ pushedS ops) → ∀ i, i < S.nf k → (k, i) ∈ P :=
    fun k h i hi => (hP _).2 (h i hi)
  refine ⟨h.dsorted, hlen, ?_, fun k hk hK hpush => h.kept hS hk hK (hall k hpush), fun hnr k hk hK hpush hpred => ?_⟩
  · have := map_getD_sublist (S.msgs.map Msg.out) (default : Msg).out D 0 h.dsorted
      (fun k hk => ⟨Nat.zero_le _, by simpa using hlen k hk⟩)
    rw [List.drop_zero] at this
    have e : D.map (fun k => (S.msg k).out) = D.map (fun k => (S.msgs.map Msg.out).getD k (default : Msg).out) := by
      apply List.map_congr_left
      intro k hk
      have := hlen k hk
      simp [Sender.msg, List.getD_eq_getElem?_getD, List.getElem?_eq_getElem this]
    rw [e]; exact this
  · -- the cursor cannot stand below `k`: the message it stands on would be delivered, or a skip has passed it
    have hkc : k ≤ c := Nat.le_of_not_lt fun hlt => by
      rcases hpred c hlt with ⟨hK', hp'⟩ | ⟨L, hL, hle⟩
      · have := (h.dlt c (hdr hnr c (by omega) (Nat.le_refl _) hK' (hall c hp'))).1
        omega
      · have := hsk L hL; omega
    exact hdr hnr k hk hkc hK (hall k hpush)

end Reasm
