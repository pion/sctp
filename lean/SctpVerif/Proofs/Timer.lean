import SctpVerif.Model.Rto
import Mathlib.Tactic.Positivity
import Mathlib.Tactic.Ring
import Mathlib.Tactic.NormNum
import Mathlib.Algebra.Order.Field.Rat
/-!
Helper lemmas for C19: clamp / back-off algebra over `Rat` on the translator-generated
arithmetic.
-/
namespace TimerProofs
open Gen

theorem gmin_eq_min (a b : Rat) : gmin a b = min a b := (min_def a b).symm
theorem gmax_eq_max (a b : Rat) : gmax a b = max a b := (max_def a b).symm
theorem gmin_le_left (a b : Rat) : gmin a b ≤ a := by rw [gmin_eq_min]; exact min_le_left a b

theorem rtoMin_val : Gen.rtoMin = 1000 := by decide

open Rto

/-- what every reachable manager of non-test code satisfies -/
structure MgrInv (m : Mgr Rat) : Prop where
  upd : m.noUpdate = false
  lo : Gen.rtoMin ≤ m.rto
  hi : m.rto ≤ m.rtoMax

theorem minv_new (rtoMax : Rat) (h : Gen.rtoMin ≤ (R.new rtoMax).rtoMax) : MgrInv (R.new rtoMax) :=
  ⟨rfl, le_refl Gen.rtoMin, h⟩

theorem setNewRTT_rtoMax (m : Mgr Rat) (x : Rat) : (R.setNewRTT m x).1.rtoMax = m.rtoMax := by simp only [R.setNewRTT]
theorem reset_rtoMax (m : Mgr Rat) : (R.reset m).rtoMax = m.rtoMax := by simp only [R.reset]

/-- shape of the generated `setNewRTT`: when updates are allowed the new rto is a clamp -/
theorem gen_setNewRTT_rto (srtt rttvar rto rtoMax rtt : Rat) :
    ∃ v, (rtoManager_setNewRTT_Rat srtt rttvar rto false rtoMax rtt).m_rto = min (max v Gen.rtoMin) rtoMax := by
  unfold rtoManager_setNewRTT_Rat
  simp only [Bool.false_eq_true, ↓reduceIte, rtoMin_val, gmin_eq_min, gmax_eq_max]
  split <;> exact ⟨_, rfl⟩

theorem minv_setNewRTT (m : Mgr Rat) (x : Rat) (h : MgrInv m) : MgrInv (R.setNewRTT m x).1 := by
  obtain ⟨v, hv⟩ := gen_setNewRTT_rto m.srtt m.rttvar m.rto m.rtoMax x
  have hrto : (R.setNewRTT m x).1.rto = min (max v Gen.rtoMin) m.rtoMax := by
    simp only [R.setNewRTT, h.upd]; exact hv
  exact ⟨h.upd, by rw [hrto]; exact le_min (le_max_right _ _) (le_trans h.lo h.hi), by rw [hrto]; exact min_le_right _ _⟩

theorem minv_reset (m : Mgr Rat) (h : MgrInv m) : MgrInv (R.reset m) := by
  have hrto : (R.reset m).rto = Gen.rtoMin := by
    simp only [R.reset, Gen.rtoManager_reset_Rat, h.upd, Bool.false_eq_true, ↓reduceIte, rtoMin_val]
  exact ⟨h.upd, hrto.ge, by rw [hrto]; exact le_trans h.lo h.hi⟩

theorem minv_apply (m : Mgr Rat) (o : R.Op) (h : MgrInv m) : MgrInv (R.apply m o) := by
  cases o with
  | rtt x => exact minv_setNewRTT m x h
  | reset => exact minv_reset m h

theorem apply_rtoMax (m : Mgr Rat) (o : R.Op) : (R.apply m o).rtoMax = m.rtoMax := by
  cases o with
  | rtt x => exact setNewRTT_rtoMax m x
  | reset => exact reset_rtoMax m

theorem minv_run (m : Mgr Rat) (os : List R.Op) (h : MgrInv m) : MgrInv (R.run m os) ∧ (R.run m os).rtoMax = m.rtoMax := by
  induction os generalizing m with
  | nil => exact ⟨h, rfl⟩
  | cons o os ih =>
    have := ih (R.apply m o) (minv_apply m o h)
    exact ⟨this.1, by rw [R.run, this.2, apply_rtoMax]⟩

theorem next_lt (rto rtoMax : Rat) (n : Nat) (h : n < 31) :
    calculateNextTimeout_Rat rto n rtoMax = min (rto * 2^n) rtoMax := by
  unfold calculateNextTimeout_Rat
  simp only [h, decide_true, ↓reduceIte, gmin_eq_min]
  congr 2
  push_cast; ring

theorem next_ge (rto rtoMax : Rat) (n : Nat) (h : 31 ≤ n) :
    calculateNextTimeout_Rat rto n rtoMax = rtoMax := by
  unfold calculateNextTimeout_Rat
  simp only [Nat.not_lt.mpr h, decide_false, Bool.false_eq_true, ↓reduceIte]

theorem min_two_mul (a : Rat) {M : Rat} (hM : 0 ≤ M) : min (2 * min a M) M = min (2 * a) M := by
  rcases le_total a M with h | h
  · rw [min_eq_left h]
  · have h2 : M ≤ 2 * M := le_mul_of_one_le_left hM one_le_two
    rw [min_eq_right h, min_eq_right h2, min_eq_right (le_trans h2 (mul_le_mul_of_nonneg_left h zero_le_two))]

theorem backoff_step (rto rtoMax : Rat) (n : Nat) (hmax : 0 ≤ rtoMax) (hbig : 30 ≤ n → rtoMax ≤ rto * 2^31) :
    calculateNextTimeout_Rat rto (n+1) rtoMax = min (2 * calculateNextTimeout_Rat rto n rtoMax) rtoMax := by
  rcases Nat.lt_or_ge n 31 with h | h
  · rw [next_lt _ _ n h, min_two_mul _ hmax, ← mul_assoc, mul_comm 2 rto, mul_assoc, ← pow_succ']
    rcases Nat.lt_or_ge (n + 1) 31 with h' | h'
    · exact next_lt _ _ _ h'
    · rw [next_ge _ _ _ h', show n + 1 = 31 by omega, min_eq_right (hbig (by omega))]
  · rw [next_ge _ _ _ h, next_ge _ _ _ (by omega), min_eq_right (le_mul_of_one_le_left hmax one_le_two)]

theorem backoff_mono (rto rtoMax : Rat) (n : Nat) (hrto : 0 ≤ rto) :
    calculateNextTimeout_Rat rto n rtoMax ≤ calculateNextTimeout_Rat rto (n+1) rtoMax := by
  rcases Nat.lt_or_ge (n + 1) 31 with h | h
  · rw [next_lt _ _ n (by omega), next_lt _ _ _ h]
    exact min_le_min (mul_le_mul_of_nonneg_left (pow_le_pow_right₀ (by norm_num) (Nat.le_succ n)) hrto) le_rfl
  · rw [next_ge _ _ _ h]
    rcases Nat.lt_or_ge n 31 with h' | h'
    · rw [next_lt _ _ n h']; exact min_le_right _ _
    · rw [next_ge _ _ n h']

theorem interval_bounds (rto rtoMax : Rat) (n : Nat) (hlo : Gen.rtoMin ≤ rto) (hmm : Gen.rtoMin ≤ rtoMax) :
    Gen.rtoMin ≤ calculateNextTimeout_Rat rto n rtoMax ∧ calculateNextTimeout_Rat rto n rtoMax ≤ rtoMax := by
  rcases Nat.lt_or_ge n 31 with h | h
  · rw [next_lt _ _ _ h]
    have h0 : (0 : Rat) ≤ rto := le_trans (by rw [rtoMin_val]; norm_num) hlo
    exact ⟨le_min (le_trans hlo (le_mul_of_one_le_right h0 (one_le_pow₀ (by norm_num)))) hmm, min_le_right _ _⟩
  · rw [next_ge _ _ _ h]; exact ⟨hmm, le_rfl⟩

end TimerProofs
