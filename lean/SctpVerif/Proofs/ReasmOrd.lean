import SctpVerif.Proofs.Reasm
/-!
Helper lemmas for C01 (ordered reassembly, DATA and I-DATA): correctness of Go's insertion sort under a total order, the honest
sender's chunk universe, `sort.Search` on a monotone predicate, and the refinement of the queue to a table of
messages with its push / read steps and the prefix theorem of runs. "Ord" = the ORDERED class, both framings: DATA
(SSN, `OrdInv`) and I-DATA (MID / FSN, `MidInv`). The vocabulary defined here is also that of the unordered files
(`Proofs/ReasmUnord*.lean`) and of the runs with skips (`Proofs/ReasmFwd*.lean`): `Msg`, `Sender`, `Tab`, `TabOK`,
`HOp`, `Sender.deliveries`, `goSort_map` / `goSort_sorted`. Serial-number comparisons of naturals inside a half-space
window are `Sna.lt16_ofNat` … (`Proofs/Sna.lean`).
-/
set_option linter.unusedVariables false
set_option linter.unusedSimpArgs false
namespace Reasm
open Gen

/-! ### Go's insertion sort sorts when the comparator is a strict total order on the elements -/

theorem insRev_map {α β} (f : β → α) (lt : α → α → Bool) (lt' : β → β → Bool) (x : β) (rev : List β)
    (h : ∀ b ∈ rev, lt (f x) (f b) = lt' x b) :
    insRev lt (f x) (rev.map f) = (insRev lt' x rev).map f := by
  induction rev with
  | nil => rfl
  | cons y ys ih =>
    simp only [List.map_cons, insRev]
    rw [h y (List.mem_cons_self ..)]
    split
    · rw [List.map_cons, ih (fun b hb => h b (List.mem_cons_of_mem _ hb))]
    · rfl

theorem insRev_mem {α} (lt : α → α → Bool) (x : α) (l : List α) (a : α) :
    a ∈ insRev lt x l ↔ a = x ∨ a ∈ l := by
  rw [(insRev_perm lt x l).mem_iff]; simp

theorem foldl_insRev_map {α β} (f : β → α) (lt : α → α → Bool) (lt' : β → β → Bool) (l acc : List β)
    (h : ∀ a, a ∈ l ∨ a ∈ acc → ∀ b, b ∈ l ∨ b ∈ acc → lt (f a) (f b) = lt' a b) :
    (l.map f).foldl (fun rev x => insRev lt x rev) (acc.map f) =
      (l.foldl (fun rev x => insRev lt' x rev) acc).map f := by
  induction l generalizing acc with
  | nil => rfl
  | cons x xs ih =>
    simp only [List.map_cons, List.foldl_cons]
    rw [insRev_map f lt lt' x acc (fun b hb => h x (.inl (List.mem_cons_self ..)) b (.inr hb))]
    apply ih
    intro a ha b hb
    apply h
    · rcases ha with ha | ha
      · exact .inl (List.mem_cons_of_mem _ ha)
      · rcases (insRev_mem lt' x acc a).1 ha with rfl | ha
        · exact .inl (List.mem_cons_self ..)
        · exact .inr ha
    · rcases hb with hb | hb
      · exact .inl (List.mem_cons_of_mem _ hb)
      · rcases (insRev_mem lt' x acc b).1 hb with rfl | hb
        · exact .inl (List.mem_cons_self ..)
        · exact .inr hb

/-- naturality: sorting images with `lt` = sorting pre-images with `lt'` when they agree on the elements. -/
theorem goSort_map {α β} (f : β → α) (lt : α → α → Bool) (lt' : β → β → Bool) (l : List β)
    (h : ∀ a ∈ l, ∀ b ∈ l, lt (f a) (f b) = lt' a b) :
    goSort lt (l.map f) = (goSort lt' l).map f := by
  unfold goSort
  have := foldl_insRev_map f lt lt' l [] (by
    intro a ha b hb
    rcases ha with ha | ha <;> rcases hb with hb | hb <;> simp_all)
  simp only [List.map_nil] at this
  rw [this, List.map_reverse]

/-- `insRev` keeps a list that is descending by `key` descending. -/
theorem insRev_desc {β} (key : β → Nat) (x : β) (rev : List β)
    (hs : rev.Pairwise (fun a b => key b < key a)) (hx : ∀ b ∈ rev, key b ≠ key x) :
    (insRev (fun a b => decide (key a < key b)) x rev).Pairwise (fun a b => key b < key a) := by
  induction rev with
  | nil => simp [insRev]
  | cons y ys ih =>
    simp only [insRev]
    rw [List.pairwise_cons] at hs
    split
    · rename_i hlt
      simp only [decide_eq_true_eq] at hlt
      rw [List.pairwise_cons]
      refine ⟨?_, ih hs.2 (fun b hb => hx b (List.mem_cons_of_mem _ hb))⟩
      intro a ha
      rcases (insRev_mem _ x ys a).1 ha with rfl | ha
      · exact hlt
      · exact hs.1 a ha
    · rename_i hlt
      simp only [decide_eq_true_eq] at hlt
      have hne := hx y (List.mem_cons_self ..)
      rw [List.pairwise_cons]
      refine ⟨?_, List.pairwise_cons.2 hs⟩
      intro a ha
      rcases List.mem_cons.1 ha with rfl | ha
      · omega
      · have := hs.1 a ha; omega

theorem foldl_insRev_desc {β} (key : β → Nat) (l acc : List β)
    (hacc : acc.Pairwise (fun a b => key b < key a))
    (hl : l.Pairwise (fun a b => key a ≠ key b)) (hla : ∀ a ∈ l, ∀ b ∈ acc, key b ≠ key a) :
    (l.foldl (fun rev x => insRev (fun a b => decide (key a < key b)) x rev) acc).Pairwise
      (fun a b => key b < key a) := by
  induction l generalizing acc with
  | nil => exact hacc
  | cons x xs ih =>
    simp only [List.foldl_cons]
    rw [List.pairwise_cons] at hl
    apply ih
    · exact insRev_desc key x acc hacc (fun b hb => hla x (List.mem_cons_self ..) b hb)
    · exact hl.2
    · intro a ha b hb
      rcases (insRev_mem _ x acc b).1 hb with rfl | hb
      · exact hl.1 a ha
      · exact hla a (List.mem_cons_of_mem _ ha) b hb

/-- sorting by a key with pairwise distinct keys yields a strictly ascending list. -/
theorem goSort_sorted {β} (key : β → Nat) (l : List β) (hl : l.Pairwise (fun a b => key a ≠ key b)) :
    (goSort (fun a b => decide (key a < key b)) l).Pairwise (fun a b => key a < key b) := by
  unfold goSort
  rw [List.pairwise_reverse]
  exact foldl_insRev_desc key l [] List.Pairwise.nil hl (by simp)

theorem goSort_mem {α} (lt : α → α → Bool) (l : List α) (a : α) : a ∈ goSort lt l ↔ a ∈ l :=
  (goSort_perm lt l).mem_iff

/-! ### the honest sender's universe (what `Stream.packetize` + TSN assignment produce) -/

/-- a user message: PPI and the pieces `packetize` cuts the payload into (at least one). -/
structure Msg where
  ppi   : PPI
  frags : List (List UInt8)
deriving Repr, DecidableEq, Inhabited

def Msg.nf (m : Msg) : Nat := m.frags.length
def Msg.payload (m : Msg) : List UInt8 := m.frags.flatten

structure Sender where
  si   : BitVec 16
  t0   : BitVec 32          -- TSN of the first fragment of the first message (any value)
  msgs : List Msg
  /-- TSNs used by OTHER streams of the association before message `k` of this one (the streams share the TSN
  space; the fragments of one message still get consecutive TSNs). Irrelevant to the reassembly queue. -/
  skip : Nat → Nat := fun _ => 0
deriving Inhabited

def Sender.msg (S : Sender) (k : Nat) : Msg := S.msgs.getD k default
def Sender.nf (S : Sender) (k : Nat) : Nat := (S.msg k).nf
/-- TSN offset (from `t0`) of the first fragment of message `k`: the fragments of all messages before it
(consecutive TSNs per message) plus the `skip k` TSNs of other streams. -/
def Sender.base (S : Sender) (k : Nat) : Nat := ((S.msgs.take k).map Msg.nf).sum + S.skip k

/-- ordered DATA fragment `i` of message `k`: SSN = `k` (mod 2^16), TSN consecutive, B/E at the ends,
every fragment carries the PPI. -/
def Sender.dataFrag (S : Sender) (k i : Nat) : Chunk :=
  { tsn := S.t0 + BitVec.ofNat 32 (S.base k + i), si := S.si, ssn := BitVec.ofNat 16 k,
    unordered := false, bf := i == 0, ef := i + 1 == S.nf k, iData := false,
    ppi := (S.msg k).ppi, userData := (S.msg k).frags.getD i [] }

/-- messages well formed: at least one fragment, fewer than 2^31 fragments each. -/
def Sender.WF (S : Sender) : Prop := ∀ m ∈ S.msgs, 1 ≤ m.nf ∧ m.nf < 2^31

theorem Sender.nf_pos (S : Sender) (h : S.WF) {k : Nat} (hk : k < S.msgs.length) :
    1 ≤ S.nf k ∧ S.nf k < 2^31 := by
  have : S.msg k ∈ S.msgs := by
    simp only [Sender.msg, List.getD_eq_getElem?_getD, List.getElem?_eq_getElem hk, Option.getD_some]
    exact List.getElem_mem hk
  exact h _ this

/-! ### a TSN-sorted set of fragments of one message is complete only if it is all of them -/

theorem dataFrag_tsn_inj (S : Sender) (k a b : Nat) (ha : a < 2^31) (hb : b < 2^31)
    (h : (S.dataFrag k a).tsn = (S.dataFrag k b).tsn) : a = b := by
  simp only [Sender.dataFrag] at h
  have h' : BitVec.ofNat 32 (S.base k + a) = BitVec.ofNat 32 (S.base k + b) := by bv_omega
  have := (Sna.ofNat32_eq_iff _ _ (by omega) (by omega)).1 h'
  omega

theorem getLast_map_range' {α} (f : Nat → α) (n s : Nat) (h) :
    ((List.range' s (n + 1)).map f).getLast h = f (s + n) := by
  induction n generalizing s with
  | zero => simp
  | succ n ih =>
    have e : List.range' s (n + 1 + 1) = s :: List.range' (s + 1) (n + 1) := by rw [List.range'_succ]
    simp only [e, List.map_cons]
    rw [List.getLast_cons (by simp)]
    rw [ih (s + 1)]
    congr 1; omega

section complete
/- `chunkSet.isComplete` and `chunkSetMID.isComplete` are one test: B on the first chunk, E on the last, a check `ok`
of the first chunk, and the key (TSN / FSN) of each chunk the successor of the previous one (`ct` = `tsnContig` /
`fsnContig`). `frag 0 … frag (n-1)` is a family whose keys are successors exactly along the index. -/
variable {cc : List Chunk → Bool} {ct : BitVec 32 → List Chunk → Bool} {key : Chunk → BitVec 32} {ok : Chunk → Bool}
  (hnil : ∀ l, ct l [] = true)
  (hcons : ∀ l c cs, ct l (c :: cs) = if key c != l + 1 then false else ct (key c) cs)
  {frag : Nat → Chunk} {n : Nat}
  (hstep : ∀ i j, i < n → j < n → (key (frag j) = key (frag i) + 1 ↔ j = i + 1))
include hnil hcons hstep

theorem contig_map_iff (i : Nat) (js : List Nat) (hi : i < n) (hjs : ∀ j ∈ js, j < n) :
    ct (key (frag i)) (js.map frag) = true ↔ js = List.range' (i + 1) js.length := by
  induction js generalizing i with
  | nil => exact ⟨fun _ => rfl, fun _ => hnil _⟩
  | cons j rest ih =>
    have hjN := hjs j (List.mem_cons_self ..)
    rw [List.map_cons, hcons, List.length_cons, List.range'_succ, List.cons.injEq]
    by_cases hj : j = i + 1
    · rw [if_neg (by rw [bne_iff_ne, Decidable.not_not]; exact (hstep i j hi hjN).2 hj),
        ih j hjN (fun x hx => hjs x (List.mem_cons_of_mem _ hx)), hj]
      exact ⟨fun h => ⟨rfl, h⟩, fun h => h.2⟩
    · rw [if_pos (by rw [bne_iff_ne]; exact fun h => hj ((hstep i j hi hjN).1 h))]
      exact ⟨fun h => (nomatch h), fun h => absurd h.1 hj⟩

theorem complete_map_iff (hcc0 : cc [] = false)
    (hcc : ∀ c0 rest, cc (c0 :: rest) =
      (c0.bf && ((c0 :: rest).getLast (List.cons_ne_nil _ _)).ef && ok c0 && ct (key c0) rest))
    (hbf : ∀ i, (frag i).bf = (i == 0)) (hef : ∀ i, (frag i).ef = (i + 1 == n)) (hok : ok (frag 0) = true)
    (hn : 1 ≤ n) (js : List Nat) (hjs : ∀ j ∈ js, j < n) :
    cc (js.map frag) = true ↔ js = List.range n := by
  have hlast : ∀ l h, (((List.range' 0 (l + 1)).map frag).getLast h).ef = (l + 1 == n) := by
    intro l h; rw [getLast_map_range', hef, Nat.zero_add]
  constructor
  · intro h
    cases js with
    | nil => rw [List.map_nil, hcc0] at h; cases h
    | cons j0 rest =>
      rw [List.map_cons, hcc] at h
      simp only [Bool.and_eq_true] at h
      obtain ⟨⟨⟨hb, he⟩, _⟩, hct⟩ := h
      rw [hbf] at hb
      have hb' : j0 = 0 := beq_iff_eq.1 hb
      subst hb'
      have hc := (contig_map_iff hnil hcons hstep 0 rest (hjs 0 (List.mem_cons_self ..))
        (fun j hj => hjs j (List.mem_cons_of_mem _ hj))).1 hct
      have e : frag 0 :: rest.map frag = (List.range' 0 (rest.length + 1)).map frag := by
        rw [List.range'_succ, List.map_cons, ← hc]
      simp only [e, hlast] at he
      rw [List.range_eq_range', ← beq_iff_eq.1 he, List.range'_succ, ← hc]
  · rintro rfl
    obtain ⟨m, rfl⟩ : ∃ m, n = m + 1 := ⟨n - 1, by omega⟩
    have e : frag 0 :: (List.range' (0 + 1) m).map frag = (List.range' 0 (m + 1)).map frag := by
      rw [List.range'_succ, List.map_cons]
    rw [List.range_eq_range', List.range'_succ, List.map_cons, hcc]
    simp only [Bool.and_eq_true]
    refine ⟨⟨⟨by rw [hbf]; rfl, by simp only [e, hlast]; exact beq_self_eq_true _⟩, hok⟩, ?_⟩
    exact (contig_map_iff hnil hcons hstep 0 _ (by omega) (fun j hj => by
      have := List.mem_range'_1.1 hj; omega)).2 (by rw [List.length_range'])

end complete

/-- `chunkSet.isComplete` on fragments `js` of message `k`: complete iff exactly all of them. -/
theorem complete_iff_all (S : Sender) (k : Nat) (hnf : 1 ≤ S.nf k ∧ S.nf k < 2^31) (js : List Nat)
    (hjs : ∀ j ∈ js, j < S.nf k) : chunksComplete (js.map (S.dataFrag k)) = true ↔ js = List.range (S.nf k) := by
  refine complete_map_iff (ct := tsnContig) (key := (·.tsn)) (ok := fun _ => true) (fun _ => rfl) (fun _ _ _ => rfl)
    (fun i j hi hj => ?_) rfl (fun c0 rest => ?_) (fun _ => rfl) (fun _ => rfl) rfl hnf.1 js hjs
  · have e0 : BitVec.ofNat 32 (S.base k + (i + 1)) = BitVec.ofNat 32 (S.base k + i) + 1 := by
      rw [← Nat.add_assoc, BitVec.ofNat_add]; rfl
    have e : (S.dataFrag k i).tsn + 1 = (S.dataFrag k (i + 1)).tsn := by
      simp only [Sender.dataFrag, e0, BitVec.add_assoc]
    rw [e]
    exact ⟨dataFrag_tsn_inj S k j (i + 1) (by omega) (by omega), fun h => by rw [h]⟩
  · rw [chunksComplete, Bool.and_true]
    cases c0.bf <;> cases ((c0 :: rest).getLast (List.cons_ne_nil _ _)).ef <;> rfl

/-! ### what a successful read copies -/

theorem copyLoop_err_true (buflen : Int) (cs : List Chunk) (n : Int) (out : List UInt8) :
    (copyLoop buflen cs n true out).2.1 = true := by
  induction cs generalizing n out with
  | nil => rfl
  | cons c cs ih => simp only [copyLoop]; split <;> exact ih ..

theorem copyLoop_ok (buflen : Int) (cs : List Chunk) (n : Int) (out : List UInt8)
    (h : (copyLoop buflen cs n false out).2.1 = false) :
    (copyLoop buflen cs n false out).2.2 = out ++ (cs.map (·.userData)).flatten := by
  induction cs generalizing n out with
  | nil => simp [copyLoop]
  | cons c cs ih =>
    simp only [copyLoop] at h ⊢
    split
    · rename_i hc; rw [if_pos hc, copyLoop_err_true] at h; cases h
    · rename_i hc; rw [if_neg hc] at h
      simp only [Bool.false_eq_true, ↓reduceIte] at h ⊢
      rw [ih _ _ h]; simp

theorem map_getD_range {α} (l : List α) (d : α) : (List.range l.length).map (fun i => l.getD i d) = l := by
  apply List.ext_getElem
  · simp
  · intro i h1 h2
    simp only [List.length_map, List.length_range] at h1
    simp [List.getD_eq_getElem?_getD, List.getElem?_eq_getElem h1]

theorem dataFrags_payload (S : Sender) (k : Nat) :
    (((List.range (S.nf k)).map (S.dataFrag k)).map (·.userData)).flatten = (S.msg k).payload := by
  simp only [List.map_map, Msg.payload]
  have : ((fun c : Chunk => c.userData) ∘ S.dataFrag k) = fun i => (S.msg k).frags.getD i [] := by
    funext i; simp [Sender.dataFrag]
  rw [this]
  simp only [Sender.nf, Msg.nf]
  rw [map_getD_range]

/-! ### the table of messages the ordered DATA containers refine -/

/-- abstract state: per message index the fragment indices held, ascending in both. -/
abbrev Tab := List (Nat × List Nat)

def Sender.concSet (S : Sender) (e : Nat × List Nat) : ChunkSet :=
  { ssn := BitVec.ofNat 16 e.1, ppi := (S.msg e.1).ppi, chunks := e.2.map (S.dataFrag e.1) }

theorem dataFrag_isFragmented (S : Sender) (k j : Nat) (hj : j < S.nf k) :
    (S.dataFrag k j).isFragmented = !(decide (S.nf k = 1)) := by
  simp only [Chunk.isFragmented, Sender.dataFrag]
  by_cases h1 : S.nf k = 1
  · have : j = 0 := by omega
    simp [h1, this]
  · by_cases h0 : j = 0
    · subst h0; simp [h1]; omega
    · simp [h0, h1]

/-- looking up the fragmented set of message `k` in the concrete list = looking `k` up in the table. -/
theorem findFragSet_conc (S : Sender) (k : Nat) (hfr : S.nf k ≠ 1) (A : Tab)
    (hwin : ∀ e ∈ A, e.1 < k + 2^15 ∧ k < e.1 + 2^15)
    (hwf : ∀ e ∈ A, e.2 ≠ [] ∧ ∀ j ∈ e.2, j < S.nf e.1) :
    ((∀ e ∈ A, e.1 ≠ k) ∧ findFragSet (BitVec.ofNat 16 k) (A.map S.concSet) = .notFound) ∨
    (∃ pre js post, A = pre ++ (k, js) :: post ∧
      findFragSet (BitVec.ofNat 16 k) (A.map S.concSet) = .found (pre.map S.concSet) (S.concSet (k, js)) (post.map S.concSet)) := by
  induction A with
  | nil => left; simp [findFragSet]
  | cons e rest ih =>
    have ihr := ih (fun x hx => hwin x (List.mem_cons_of_mem _ hx)) (fun x hx => hwf x (List.mem_cons_of_mem _ hx))
    obtain ⟨k', js'⟩ := e
    have hw := hwin (k', js') (List.mem_cons_self ..)
    have hf := hwf (k', js') (List.mem_cons_self ..)
    simp only [List.map_cons, findFragSet]
    by_cases hk : k' = k
    · subst hk
      right
      refine ⟨[], js', rest, rfl, ?_⟩
      simp only [Sender.concSet, beq_self_eq_true, ↓reduceIte, List.map_nil]
      cases js' with
      | nil => exact absurd rfl hf.1
      | cons j0 tl =>
        simp only [List.map_cons]
        rw [dataFrag_isFragmented S k' j0 (hf.2 j0 (List.mem_cons_self ..))]
        simp [hfr]
    · have hne : ((S.concSet (k', js')).ssn == BitVec.ofNat 16 k) = false := by
        simp only [Sender.concSet, beq_eq_false_iff_ne, ne_eq]
        rw [Sna.ofNat16_eq_iff _ _ hw.1 hw.2]; exact hk
      rw [hne]
      simp only [Bool.false_eq_true, ↓reduceIte]
      rcases ihr with ⟨hall, hnf⟩ | ⟨pre, js, post, hA, hfound⟩
      · left
        refine ⟨?_, by rw [hnf]; rfl⟩
        intro x hx
        rcases List.mem_cons.1 hx with rfl | hx
        · exact hk
        · exact hall x hx
      · right
        refine ⟨(k', js') :: pre, js, post, by rw [hA]; rfl, ?_⟩
        rw [hfound]; rfl

/-! ### tables: well-formedness, and what adding a fragment does -/

/-- a table inside the window of width `W` anchored at `f`: message indices ascending, fragment indices
ascending, non-empty and valid. -/
structure TabOK (S : Sender) (W f : Nat) (A : Tab) : Prop where
  sorted : A.Pairwise (fun a b => a.1 < b.1)
  win : ∀ e ∈ A, f ≤ e.1 ∧ e.1 < f + W ∧ e.1 < S.msgs.length
  wf : ∀ e ∈ A, e.2 ≠ [] ∧ e.2.Pairwise (· < ·) ∧ ∀ j ∈ e.2, j < S.nf e.1

/-- entries with the same message index are the same entry. -/
theorem tab_unique {A : Tab} (hs : A.Pairwise (fun a b => a.1 < b.1)) {k : Nat} {js1 js2 : List Nat}
    (h1 : (k, js1) ∈ A) (h2 : (k, js2) ∈ A) : js1 = js2 :=
  congrArg Prod.snd (ListAux.eq_of_pairwise hs h1 h2 (Nat.lt_irrefl k) (Nat.lt_irrefl k))

/-- a strictly ascending list of naturals below `n` that contains every natural below `n` is `range n`: both are
duplicate free with the same elements, and a sorted list is determined by its elements. -/
theorem sorted_all_eq_range (T : List Nat) (n : Nat) (hs : T.Pairwise (· < ·)) (hb : ∀ x ∈ T, x < n)
    (hall : ∀ j, j < n → j ∈ T) : T = List.range n := by
  refine List.Perm.eq_of_pairwise (fun a b _ _ h1 h2 => absurd h1 (Nat.lt_asymm h2)) hs List.pairwise_lt_range ?_
  rw [List.perm_ext_iff_of_nodup (hs.imp Nat.ne_of_lt) List.nodup_range]
  exact fun a => ⟨fun h => List.mem_range.2 (hb a h), fun h => hall a (List.mem_range.1 h)⟩

/-- `A'` is `A` with fragment `i` added to the entry of message `k` (a new entry if there was none). -/
structure Added (A A' : Tab) (k i : Nat) : Prop where
  old : ∀ e ∈ A', e ∈ A ∨ (e.1 = k ∧ ∀ j ∈ e.2, j = i ∨ ∃ js, (k, js) ∈ A ∧ j ∈ js)
  keep : ∀ e ∈ A, e.1 ≠ k → e ∈ A'
  new : ∃ js', (k, js') ∈ A' ∧ i ∈ js' ∧ ∀ js, (k, js) ∈ A → ∀ j ∈ js, j ∈ js'

theorem Added.pushed {A A' : Tab} {k i : Nat} (h : Added A A' k i) {P : List (Nat × Nat)}
    (hP : ∀ e ∈ A, ∀ j ∈ e.2, (e.1, j) ∈ P) : ∀ e ∈ A', ∀ j ∈ e.2, (e.1, j) ∈ (k, i) :: P := by
  intro e he j hj
  rcases h.old e he with he | ⟨hek, hjs⟩
  · exact List.mem_cons_of_mem _ (hP e he j hj)
  · rw [hek]
    rcases hjs j hj with rfl | ⟨js, hjs, hjj⟩
    · exact List.mem_cons_self ..
    · exact List.mem_cons_of_mem _ (hP _ hjs j hjj)

theorem mem_goSort_snoc {α} (lt : α → α → Bool) (l : List α) (x a : α) : a ∈ goSort lt (l ++ [x]) ↔ a ∈ l ∨ a = x := by
  rw [goSort_mem]; simp

/-- appending an element with a fresh key to an ascending list and sorting gives an ascending list. -/
theorem goSort_snoc_sorted {β} (key : β → Nat) (l : List β) (x : β)
    (hl : l.Pairwise (fun a b => key a < key b)) (hx : ∀ a ∈ l, key a ≠ key x) :
    (goSort (fun a b => decide (key a < key b)) (l ++ [x])).Pairwise (fun a b => key a < key b) := by
  apply goSort_sorted
  rw [List.pairwise_append]
  refine ⟨hl.imp (fun h => Nat.ne_of_lt h), List.pairwise_singleton _ _, fun a ha b hb => ?_⟩
  rw [List.mem_singleton.1 hb]; exact hx a ha

/-- a new entry `(k, [i])` put at its place. -/
theorem TabOK.insert {S W f A} {A' : Tab} (h : TabOK S W f A) {k i : Nat} (hk : k < S.msgs.length) (hi : i < S.nf k)
    (hfk : f ≤ k) (hw : k < f + W) (hfresh : ∀ e ∈ A, e.1 ≠ k)
    (hs : A'.Pairwise (fun a b => a.1 < b.1)) (hmem : ∀ e, e ∈ A' ↔ e ∈ A ∨ e = (k, [i])) :
    TabOK S W f A' ∧ Added A A' k i := by
  refine ⟨⟨hs, fun e he => ?_, fun e he => ?_⟩, fun e he => ?_, fun e he _ => (hmem e).2 (.inl he),
    [i], (hmem _).2 (.inr rfl), List.mem_singleton.2 rfl, fun js hjs => absurd rfl (hfresh _ hjs)⟩
  · rcases (hmem e).1 he with he | rfl
    · exact h.win e he
    · exact ⟨hfk, hw, hk⟩
  · rcases (hmem e).1 he with he | rfl
    · exact h.wf e he
    · exact ⟨List.cons_ne_nil _ _, List.pairwise_singleton _ _, fun j hj => by rw [List.mem_singleton.1 hj]; exact hi⟩
  · rcases (hmem e).1 he with he | rfl
    · exact .inl he
    · exact .inr ⟨rfl, fun j hj => .inl (List.mem_singleton.1 hj)⟩

/-- fragment `i` sorted into the entry of message `k`. -/
theorem TabOK.replace {S W f} {pre post : Tab} {k i : Nat} {js : List Nat}
    (h : TabOK S W f (pre ++ (k, js) :: post)) (hi : i < S.nf k) (hnotin : i ∉ js) :
    TabOK S W f (pre ++ (k, goSort (fun a b => decide (a < b)) (js ++ [i])) :: post) ∧
    Added (pre ++ (k, js) :: post) (pre ++ (k, goSort (fun a b => decide (a < b)) (js ++ [i])) :: post) k i := by
  have hin : (k, js) ∈ pre ++ (k, js) :: post := List.mem_append_right _ (List.mem_cons_self ..)
  have hwf := h.wf _ hin
  have hmem := mem_goSort_snoc (fun a b : Nat => decide (a < b)) js i
  have hs := h.sorted
  rw [List.pairwise_append, List.pairwise_cons] at hs
  -- the entries of the new table: the new one, or an old one other than `(k, js)`
  have hcases : ∀ e, e ∈ pre ++ (k, goSort (fun a b => decide (a < b)) (js ++ [i])) :: post →
      e = (k, goSort (fun a b => decide (a < b)) (js ++ [i])) ∨ (e ∈ pre ++ (k, js) :: post) := by
    intro e he
    rcases List.mem_append.1 he with he | he
    · exact .inr (List.mem_append_left _ he)
    · rcases List.mem_cons.1 he with rfl | he
      · exact .inl rfl
      · exact .inr (List.mem_append_right _ (List.mem_cons_of_mem _ he))
  refine ⟨⟨?_, fun e he => ?_, fun e he => ?_⟩, fun e he => ?_, fun e he hek => ?_, _, List.mem_append_right _ (List.mem_cons_self ..),
    (hmem i).2 (.inr rfl), fun js0 h0 j hj => ?_⟩
  · rw [List.pairwise_append, List.pairwise_cons]
    refine ⟨hs.1, ⟨hs.2.1.1, hs.2.1.2⟩, fun a ha b hb => ?_⟩
    rcases List.mem_cons.1 hb with rfl | hb
    · exact hs.2.2 a ha (k, js) (List.mem_cons_self ..)
    · exact hs.2.2 a ha b (List.mem_cons_of_mem _ hb)
  · rcases hcases e he with rfl | he
    · exact h.win (k, js) hin
    · exact h.win e he
  · rcases hcases e he with rfl | he
    · refine ⟨fun hnil => ?_, goSort_snoc_sorted (fun a : Nat => a) js i hwf.2.1 (fun a ha hai => hnotin (hai ▸ ha)), fun j hj => ?_⟩
      · have := (hmem i).2 (.inr rfl)
        simp only at hnil; rw [hnil] at this; cases this
      · rcases (hmem j).1 hj with hj | rfl
        · exact hwf.2.2 j hj
        · exact hi
    · exact h.wf e he
  · rcases hcases e he with rfl | he
    · exact .inr ⟨rfl, fun j hj => ((hmem j).1 hj).elim (fun hj => .inr ⟨js, hin, hj⟩) .inl⟩
    · exact .inl he
  · rcases List.mem_append.1 he with he | he
    · exact List.mem_append_left _ he
    · rcases List.mem_cons.1 he with rfl | he
      · exact absurd rfl hek
      · exact List.mem_append_right _ (List.mem_cons_of_mem _ he)
  · rw [tab_unique h.sorted h0 hin] at hj
    exact (hmem j).2 (.inl hj)

/-! ### ordered DATA: what `pushWithError` and `read` do to a queue whose `ordered` refines a table -/

/-- sorting sets by SSN = sorting table entries by message index, inside the window. -/
theorem sortSSN_conc (S : Sender) (A : Tab) (d : Nat) (h : ∀ e ∈ A, d ≤ e.1 ∧ e.1 < d + 2^15) :
    sortChunksBySSN (A.map S.concSet) = (goSort (fun a b => decide (a.1 < b.1)) A).map S.concSet := by
  unfold sortChunksBySSN
  apply goSort_map
  intro a ha b hb
  have := h a ha; have := h b hb
  simp only [Sender.concSet]
  exact Sna.lt16_ofNat _ _ (by omega) (by omega)

theorem pairwise_lt_ne {l : List Nat} (h : l.Pairwise (· < ·)) : l.Pairwise (fun a b => (id a) ≠ (id b)) :=
  h.imp (fun hab => by simp only [id]; omega)

theorem goSort_singleton {α} (lt : α → α → Bool) (x : α) : goSort lt [x] = [x] := by
  simp [goSort, insRev]

/-- the set the `cset == nil` path creates for fragment `i` of message `k`. -/
theorem newSet_conc (S : Sender) (k i : Nat) :
    ((newChunkSet (S.dataFrag k i).ssn (S.dataFrag k i).ppi).pushNoDuplicate (S.dataFrag k i)).1 = S.concSet (k, [i]) := by
  simp only [ChunkSet.pushNoDuplicate, newChunkSet, List.nil_append, sortChunksByTSN, goSort_singleton,
    Sender.concSet, List.map_cons, List.map_nil]
  simp [Sender.dataFrag]

/-- pushing fragment `i` into the set of message `k`: sorting the chunks by TSN = sorting the fragment indices. -/
theorem intoSet_conc (S : Sender) (k i : Nat) (js : List Nat) (h : ∀ j ∈ js, j < 2^31) (hi : i < 2^31) :
    ((S.concSet (k, js)).pushNoDuplicate (S.dataFrag k i)).1 =
      S.concSet (k, goSort (fun a b => decide (a < b)) (js ++ [i])) := by
  have h' : ∀ j ∈ js ++ [i], j < 2^31 := fun j hj => by
    rcases List.mem_append.1 hj with hj | hj
    · exact h j hj
    · rw [List.mem_singleton.1 hj]; exact hi
  simp only [ChunkSet.pushNoDuplicate, Sender.concSet, sortChunksByTSN]
  rw [← List.map_singleton, ← List.map_append]
  refine congrArg _ (goSort_map (S.dataFrag k) _ _ _ fun a ha b hb => ?_)
  have := h' a ha; have := h' b hb
  simp only [Sender.dataFrag]
  rw [Sna.lt32_add_left, Sna.lt32_ofNat _ _ (by omega) (by omega)]
  simp

/-- ordered DATA fragment `i` of message `k`, not held yet, message at or above the cursor `c`: either the entry
limit refuses it and nothing changes, or the table gains the fragment and the counter its bytes. -/
theorem pushData_conc {S : Sender} (hS : S.WF) {q : Q} {f c : Nat} {A : Tab} {k i : Nat}
    (hsi : q.si = S.si) (hcur : q.nextSSN = BitVec.ofNat 16 c) (hord : q.ordered = A.map S.concSet)
    (hT : TabOK S (2^15) f A) (hfc : f ≤ c) (hck : c ≤ k) (hw : k < f + 2^15)
    (hk : k < S.msgs.length) (hi : i < S.nf k) (hnew : ∀ js, (k, js) ∈ A → i ∉ js) :
    ((q.pushWithError (S.dataFrag k i)).1 = q ∧ (q.pushWithError (S.dataFrag k i)).2.2 = .dataLimit) ∨
    ∃ A', (q.pushWithError (S.dataFrag k i)).1 =
        { q with ordered := A'.map S.concSet, nBytes := q.nBytes + BitVec.ofNat 64 (S.dataFrag k i).len } ∧
      (q.pushWithError (S.dataFrag k i)).2.2 = .none ∧ TabOK S (2^15) f A' ∧ Added A A' k i := by
  have hnf := S.nf_pos hS hk
  have hwinA : ∀ e ∈ A, e.1 < k + 2^15 ∧ k < e.1 + 2^15 := fun e he => by have := hT.win e he; omega
  have hwfA : ∀ e ∈ A, e.2 ≠ [] ∧ ∀ j ∈ e.2, j < S.nf e.1 := fun e he => ⟨(hT.wf e he).1, (hT.wf e he).2.2⟩
  have c1 : (S.dataFrag k i).iData = false := rfl
  have c2 : ((S.dataFrag k i).si != q.si) = false := by simp [Sender.dataFrag, hsi]
  have c3 : (S.dataFrag k i).unordered = false := rfl
  have c4 : sna16LT (BitVec.ofNat 16 k) q.nextSSN = false := by
    rw [hcur, Sna.lt16_ofNat _ _ (by omega) (by omega)]; simp; omega
  have c5 : (S.dataFrag k i).ssn = BitVec.ofNat 16 k := rfl
  -- the new-set path, taken by an unfragmented message and by the first fragment to arrive
  have hnewset : (∀ e ∈ A, e.1 ≠ k) → ∃ A', sortChunksBySSN (A.map S.concSet ++
        [((newChunkSet (BitVec.ofNat 16 k) (S.dataFrag k i).ppi).pushNoDuplicate (S.dataFrag k i)).1]) = A'.map S.concSet ∧
      TabOK S (2^15) f A' ∧ Added A A' k i := by
    intro hfresh
    refine ⟨goSort (fun a b => decide (a.1 < b.1)) (A ++ [(k, [i])]), ?_,
      hT.insert hk hi (by omega) hw hfresh (goSort_snoc_sorted (fun e : Nat × List Nat => e.1) A _ hT.sorted hfresh)
        (mem_goSort_snoc _ A _)⟩
    rw [← c5, newSet_conc, ← List.map_singleton, ← List.map_append]
    refine sortSSN_conc S _ f (fun e he => ?_)
    rcases List.mem_append.1 he with he | he
    · have := hT.win e he; omega
    · rw [List.mem_singleton.1 he]; omega
  unfold Q.pushWithError
  simp only [c1, c2, c3, c4, c5, Bool.false_eq_true, ↓reduceIte]
  rw [dataFrag_isFragmented S k i hi, hord]
  have hfind : (∀ e ∈ A, e.1 ≠ k) ∧ (if (!decide (S.nf k = 1)) = true then findFragSet (BitVec.ofNat 16 k) (A.map S.concSet)
        else FindO.notFound) = .notFound ∨
      ∃ pre js post, A = pre ++ (k, js) :: post ∧ (if (!decide (S.nf k = 1)) = true then
        findFragSet (BitVec.ofNat 16 k) (A.map S.concSet) else FindO.notFound) =
          .found (pre.map S.concSet) (S.concSet (k, js)) (post.map S.concSet) := by
    by_cases hone : S.nf k = 1
    · -- an unfragmented message has one fragment, and that one is not held
      refine .inl ⟨fun e he hek => ?_, by simp [hone]⟩
      obtain ⟨hne, _, hlt⟩ := hT.wf e he
      obtain ⟨j0, hj0⟩ := List.exists_mem_of_ne_nil _ hne
      have := hlt j0 hj0
      rw [hek, hone] at this
      have e0 : i = j0 := by omega
      exact hnew e.2 (by rw [← hek]; exact he) (e0 ▸ hj0)
    · simp only [hone, decide_false, Bool.not_false, ↓reduceIte]
      exact findFragSet_conc S k hone A hwinA hwfA
  rcases hfind with ⟨hfresh, hnf'⟩ | ⟨pre, js, post, hA, hfound⟩
  · rw [hnf']
    simp only
    split
    · exact .inl ⟨rfl, rfl⟩
    · obtain ⟨A', hA', hT', hadd⟩ := hnewset hfresh
      exact .inr ⟨A', by simp only [hA', Q.addBytes], rfl, hT', hadd⟩
  · rw [hfound]
    simp only
    have hin : (k, js) ∈ A := by rw [hA]; exact List.mem_append_right _ (List.mem_cons_self ..)
    have hnotin := hnew js hin
    have hwf := hT.wf _ hin
    have hno : (S.concSet (k, js)).hasTSN (S.dataFrag k i).tsn = false := by
      simp only [ChunkSet.hasTSN, Sender.concSet, List.any_map, List.any_eq_false, Function.comp, beq_iff_eq]
      intro j hj heq
      have hj' := hwf.2.2 j hj
      simp only at hj'
      exact hnotin (dataFrag_tsn_inj S k j i (by omega) (by omega) heq ▸ hj)
    rw [hno]
    simp only [Bool.false_eq_true, ↓reduceIte]
    split
    · exact .inl ⟨rfl, rfl⟩
    · subst hA
      refine .inr ⟨_, ?_, rfl, hT.replace hi hnotin⟩
      rw [intoSet_conc S k i js (fun j hj => by have := hwf.2.2 j hj; simp only at this; omega) (by omega)]
      simp only [Q.addBytes, List.map_append, List.map_cons]

/-- a read on a queue whose `ordered` refines a table: either nothing is delivered and the queue is unchanged, or
the first set held — all fragments of a message `k` not above the cursor `c` — is delivered (PPI and payload) and
leaves the table; the cursor moves iff it stood on `k`. -/
theorem readData_conc {S : Sender} (hS : S.WF) {q : Q} {f c : Nat} {A : Tab}
    (hil : q.useInterleaving = false) (hun : q.unordered = []) (hcur : q.nextSSN = BitVec.ofNat 16 c)
    (hord : q.ordered = A.map S.concSet) (hT : TabOK S (2^15) f A) (hfc : f ≤ c ∧ c < f + 2^15) (n : Nat) :
    ((q.read n).2.err ≠ .ok ∧ (q.read n).1 = q) ∨
    ∃ k rest, A = (k, List.range (S.nf k)) :: rest ∧ k ≤ c ∧
      (q.read n).2.err = .ok ∧ (q.read n).2.ppi = (S.msg k).ppi ∧ (q.read n).2.data = (S.msg k).payload ∧
      ∃ nb, (q.read n).1 = { q with ordered := rest.map S.concSet, nBytes := nb,
                                    nextSSN := BitVec.ofNat 16 (if k = c then c + 1 else c) } := by
  unfold Q.read
  simp only [hil, Bool.false_eq_true, ↓reduceIte, hun, hord]
  cases hA : A with
  | nil => left; simp [ReadRes.tryAgain]
  | cons e rest =>
    obtain ⟨k, js⟩ := e
    subst hA
    have hin : (k, js) ∈ (k, js) :: rest := List.mem_cons_self ..
    have hwin := hT.win _ hin
    have hwf := hT.wf _ hin
    simp only at hwin hwf
    simp only [List.map_cons]
    by_cases hc : (S.concSet (k, js)).isComplete = true
    · simp only [hc, Bool.not_true, Bool.false_eq_true, ↓reduceIte]
      have hgt : sna16GT (S.concSet (k, js)).ssn q.nextSSN = decide (c < k) := by
        rw [hcur]; exact Sna.gt16_ofNat _ _ (by omega) (by omega)
      rw [hgt]
      by_cases hck : c < k
      · left; simp [hck, ReadRes.tryAgain]
      · simp only [hck, decide_false, Bool.false_eq_true, ↓reduceIte]
        have hall : js = List.range (S.nf k) :=
          (complete_iff_all S k (S.nf_pos hS hwin.2.2) js hwf.2.2).1 (by simpa [ChunkSet.isComplete, Sender.concSet] using hc)
        cases herr : (copyLoop (n : Int) (S.concSet (k, js)).chunks 0 false []).2.1 with
        | true => left; simp [herr]
        | false =>
          right
          have hdata := copyLoop_ok _ _ _ _ herr
          simp only [herr, Bool.false_eq_true, ↓reduceIte]
          have hcur' : (if (S.concSet (k, js)).ssn == q.nextSSN then q.nextSSN + 1 else q.nextSSN)
              = BitVec.ofNat 16 (if k = c then c + 1 else c) := by
            rw [hcur]; exact Sna.cursor16_step k c (by omega) (by omega)
          refine ⟨k, rest, by rw [hall], by omega, trivial, rfl, ?_, ?_⟩
          · rw [hdata]; simp only [Sender.concSet, List.nil_append, hall]
            exact dataFrags_payload S k
          · rw [← hcur']; exact ⟨_, rfl⟩
    · left
      simp only [Bool.not_eq_true] at hc
      simp [hc, ReadRes.tryAgain]

/-- refinement invariant for ordered DATA: `d` messages delivered, `A` the table held, `P` the
fragments pushed so far. -/
structure OrdInv (S : Sender) (q : Q) (d : Nat) (A : Tab) (P : List (Nat × Nat)) : Prop where
  si : q.si = S.si
  il : q.useInterleaving = false
  un : q.unordered = []
  cur : q.nextSSN = BitVec.ofNat 16 d
  ord : q.ordered = A.map S.concSet
  sorted : A.Pairwise (fun a b => a.1 < b.1)
  win : ∀ e ∈ A, d ≤ e.1 ∧ e.1 < d + 2^15 ∧ e.1 < S.msgs.length
  wf : ∀ e ∈ A, e.2 ≠ [] ∧ e.2.Pairwise (· < ·) ∧ ∀ j ∈ e.2, j < S.nf e.1
  pushed : ∀ e ∈ A, ∀ j ∈ e.2, (e.1, j) ∈ P
  done : ∀ k, k < d → ∀ i, i < S.nf k → (k, i) ∈ P

theorem OrdInv.mono {S q d A P} (h : OrdInv S q d A P) (x : Nat × Nat) : OrdInv S q d A (x :: P) :=
  { h with pushed := fun e he j hj => List.mem_cons_of_mem _ (h.pushed e he j hj),
           done := fun k hk i hi => List.mem_cons_of_mem _ (h.done k hk i hi) }

theorem OrdInv_new (S : Sender) (me : BitVec 32) : OrdInv S (new S.si me) 0 [] [] := by
  constructor <;> simp [new]

theorem OrdInv.push {S q d A P} (h : OrdInv S q d A P) (hS : S.WF) {k i : Nat}
    (hk : k < S.msgs.length) (hi : i < S.nf k) (hP : (k, i) ∉ P) (hw : k < d + 2^15) :
    ∃ A', OrdInv S (q.pushWithError (S.dataFrag k i)).1 d A' ((k, i) :: P) := by
  have hdk : d ≤ k := Nat.le_of_not_lt fun hlt => hP (h.done k hlt i hi)
  rcases pushData_conc hS h.si h.cur h.ord ⟨h.sorted, h.win, h.wf⟩ (Nat.le_refl d) hdk hw hk hi
    (fun js hjs hij => hP (h.pushed _ hjs i hij)) with ⟨hq, _⟩ | ⟨A', hq, _, hT, hadd⟩
  · rw [hq]; exact ⟨A, h.mono _⟩
  · rw [hq]
    exact ⟨A', { si := h.si, il := h.il, un := h.un, cur := h.cur, ord := rfl, sorted := hT.sorted, win := hT.win,
                 wf := hT.wf, pushed := hadd.pushed h.pushed,
                 done := fun k' hk' i' hi' => List.mem_cons_of_mem _ (h.done k' hk' i' hi') }⟩

/-- a read on a refined state: either nothing is delivered and the queue is unchanged, or exactly
message `d` is delivered (PPI and payload) and the state refines the table without it. -/
theorem OrdInv.read {S q d A P} (h : OrdInv S q d A P) (hS : S.WF) (n : Nat) :
    ((q.read n).2.err ≠ .ok ∧ (q.read n).1 = q) ∨
    ((q.read n).2.err = .ok ∧ d < S.msgs.length ∧ (q.read n).2.ppi = (S.msg d).ppi ∧
      (q.read n).2.data = (S.msg d).payload ∧ ∃ A', OrdInv S (q.read n).1 (d + 1) A' P) := by
  rcases readData_conc hS h.il h.un h.cur h.ord ⟨h.sorted, h.win, h.wf⟩ ⟨Nat.le_refl d, by omega⟩ n with
    hno | ⟨k, rest, hA, hkd, hok, hppi, hdata, nb, hq⟩
  · exact .inl hno
  · subst hA
    have hin : (k, List.range (S.nf k)) ∈ (k, List.range (S.nf k)) :: rest := List.mem_cons_self ..
    have hkd' : k = d := by have := h.win _ hin; omega
    subst hkd'
    have hs := List.pairwise_cons.1 h.sorted
    rw [if_pos rfl] at hq
    refine .inr ⟨hok, (h.win _ hin).2.2, hppi, hdata, rest, ?_⟩
    rw [hq]
    refine { si := h.si, il := h.il, un := h.un, cur := rfl, ord := rfl, sorted := hs.2,
             win := fun e he => ?_, wf := fun e he => h.wf e (List.mem_cons_of_mem _ he),
             pushed := fun e he => h.pushed e (List.mem_cons_of_mem _ he), done := fun k' hk' i hi => ?_ }
    · have := h.win e (List.mem_cons_of_mem _ he)
      have := hs.1 e he
      simp only at this; omega
    · rcases Nat.lt_or_ge k' k with hlt | hge
      · exact h.done k' hlt i hi
      · have : k' = k := by omega
        subst this
        exact h.pushed _ hin i (List.mem_range.2 hi)

/-- what an honest peer + network can do to the queue: deliver fragment `i` of message `k`, or the
application reads with a buffer of `buflen` bytes. -/
inductive HOp
  | push (k i : Nat)
  | read (buflen : Nat)
deriving Repr

/-- the `(PPI, payload)` pairs returned by the successful reads of a run, in order. -/
def Sender.deliveries (S : Sender) (frag : Nat → Nat → Chunk) : Q → List HOp → List (PPI × List UInt8)
  | _, [] => []
  | q, .push k i :: ops => S.deliveries frag (q.pushWithError (frag k i)).1 ops
  | q, .read n :: ops =>
    (if (q.read n).2.err = .ok then [((q.read n).2.ppi, (q.read n).2.data)] else []) ++
      S.deliveries frag (q.read n).1 ops

/-- admissible runs: valid indices; no fragment is handed over twice (the association's TSN filter,
C05); the sender is never `W` or more messages ahead of what the application has read
(`W = 2^15` for SSNs, `2^31` for MIDs). `d` = messages read so far, `P` = fragments pushed so far. -/
def Sender.Admissible (S : Sender) (frag : Nat → Nat → Chunk) (W : Nat) : Q → Nat → List (Nat × Nat) → List HOp → Prop
  | _, _, _, [] => True
  | q, d, P, .push k i :: ops =>
      k < S.msgs.length ∧ i < S.nf k ∧ (k, i) ∉ P ∧ k < d + W ∧
      S.Admissible frag W (q.pushWithError (frag k i)).1 d ((k, i) :: P) ops
  | q, d, P, .read n :: ops =>
      S.Admissible frag W (q.read n).1 (if (q.read n).2.err = .ok then d + 1 else d) P ops

instance Sender.decAdmissible (S : Sender) (frag : Nat → Nat → Chunk) (W : Nat) :
    ∀ q d P ops, Decidable (S.Admissible frag W q d P ops)
  | _, _, _, [] => isTrue trivial
  | q, d, P, .push k i :: ops =>
    have := Sender.decAdmissible S frag W (q.pushWithError (frag k i)).1 d ((k, i) :: P) ops
    by unfold Sender.Admissible; exact inferInstance
  | q, d, P, .read n :: ops =>
    have := Sender.decAdmissible S frag W (q.read n).1 (if (q.read n).2.err = .ok then d + 1 else d) P ops
    by unfold Sender.Admissible; exact inferInstance

def Msg.out (m : Msg) : PPI × List UInt8 := (m.ppi, m.payload)

/-- ordered I-DATA fragment `i` of message `k`: MID = `k` (mod 2^32), FSN = `i`, B/E at the ends,
only the first fragment carries the PPI (the others carry the FSN in that wire field; `unmarshal`
leaves `payloadType = 0`). The TSN `τ k i` is ARBITRARY: I-DATA reassembly never looks at it. -/
def Sender.idataFrag (S : Sender) (τ : Nat → Nat → BitVec 32) (k i : Nat) : Chunk :=
  { tsn := τ k i, si := S.si, ssn := BitVec.ofNat 16 k, mid := BitVec.ofNat 32 k, fsn := BitVec.ofNat 32 i,
    unordered := false, bf := i == 0, ef := i + 1 == S.nf k, iData := true,
    ppi := if i == 0 then (S.msg k).ppi else 0, userData := (S.msg k).frags.getD i [] }

/-! ### `sort.Search` on a monotone predicate returns the first `true` -/

theorem goSearch_spec (f : Nat → Bool) (n : Nat)
    (hmono : ∀ x y, x ≤ y → y < n → f x = true → f y = true) :
    ∀ fuel i j, i ≤ j → j ≤ n → j - i < fuel → (∀ x, x < i → f x = false) → (∀ x, j ≤ x → x < n → f x = true) →
      i ≤ goSearch f fuel i j ∧ goSearch f fuel i j ≤ j ∧ (∀ x, x < goSearch f fuel i j → f x = false) ∧
      (∀ x, goSearch f fuel i j ≤ x → x < n → f x = true) := by
  intro fuel
  induction fuel with
  | zero => intro i j _ _ h; omega
  | succ fuel ih =>
    intro i j hij hjn hfuel hlo hhi
    simp only [goSearch]
    by_cases hlt : i < j
    · simp only [hlt, ↓reduceIte]
      cases hf : f ((i + j) / 2) with
      | false =>
        simp only [Bool.not_false, ↓reduceIte]
        have := ih ((i + j) / 2 + 1) j (by omega) hjn (by omega)
          (by
            intro x hx
            rcases Nat.lt_or_ge x i with h | h
            · exact hlo x h
            · cases hfx : f x with
              | false => rfl
              | true =>
                have := hmono x ((i + j) / 2) (by omega) (by omega) hfx
                rw [hf] at this; cases this)
          hhi
        exact ⟨by omega, this.2.1, this.2.2⟩
      | true =>
        simp only [Bool.not_true, Bool.false_eq_true, ↓reduceIte]
        have := ih i ((i + j) / 2) (by omega) (by omega) (by omega) hlo
          (by
            intro x hx hxn
            exact hmono _ x hx hxn hf)
        exact ⟨this.1, by omega, this.2.2⟩
    · simp only [hlt, ↓reduceIte]
      have : i = j := by omega
      subst this
      exact ⟨Nat.le_refl _, Nat.le_refl _, hlo, hhi⟩

/-! ### one I-DATA message as a family of chunks

Everything `chunkSetMID` does with the fragments of one message depends on three fields only: FSN = index, B on the
first, E on the last. The lemmas are stated for any such family `frag`, whatever the other fields are. -/

/-- `frag 0 … frag (n-1)` are the fragments of one I-DATA message. -/
structure MsgFrags (frag : Nat → Chunk) (n : Nat) : Prop where
  fsn : ∀ i, (frag i).fsn = BitVec.ofNat 32 i
  bf : ∀ i, (frag i).bf = (i == 0)
  ef : ∀ i, (frag i).ef = (i + 1 == n)

/-- `chunkSetMID.isComplete` on fragments `js` of one message: complete iff exactly all of them. -/
theorem completeMID_iff_of {frag : Nat → Chunk} {n : Nat} (hf : MsgFrags frag n) (hn : 1 ≤ n ∧ n < 2^31) (js : List Nat)
    (hjs : ∀ j ∈ js, j < n) : chunksCompleteMID (js.map frag) = true ↔ js = List.range n := by
  refine complete_map_iff (ct := fsnContig) (key := (·.fsn)) (ok := fun c => c.fsn == 0) (fun _ => rfl)
    (fun _ _ _ => rfl) (fun i j hi hj => ?_) rfl (fun c0 rest => ?_) hf.bf hf.ef (by rw [hf.fsn]; rfl) hn.1 js hjs
  · show (frag j).fsn = (frag i).fsn + 1 ↔ _
    rw [hf.fsn, hf.fsn, show BitVec.ofNat 32 i + 1 = BitVec.ofNat 32 (i + 1) from by rw [BitVec.ofNat_add]; rfl]
    exact Sna.ofNat32_eq_iff _ _ (by omega) (by omega)
  · rw [chunksCompleteMID]
    cases c0.bf <;> cases ((c0 :: rest).getLast (List.cons_ne_nil _ _)).ef <;> try rfl
    cases h : (c0.fsn == 0) <;> simp only [bne, h] <;> rfl

theorem sortFSN_map {frag : Nat → Chunk} (hf : ∀ i, (frag i).fsn = BitVec.ofNat 32 i) (js : List Nat)
    (h : ∀ j ∈ js, j < 2^31) :
    sortChunksByFSN (js.map frag) = (goSort (fun a b => decide (a < b)) js).map frag := by
  unfold sortChunksByFSN
  apply goSort_map
  intro a ha b hb
  have := h a ha; have := h b hb
  rw [hf, hf]
  exact Sna.lt32_ofNat _ _ (by omega) (by omega)

/-- pushing fragment `i` into a (possibly empty) incomplete set holding fragments `js ∌ i` of the message. -/
theorem pushAndCheck_of {frag : Nat → Chunk} {n : Nat} (hf : MsgFrags frag n) (i : Nat) (js : List Nat) (s : ChunkSetMID)
    (hch : s.chunks = js.map frag) (hinc : s.isComplete = false)
    (hjs : ∀ j ∈ js, j < 2^31) (hi : i < 2^31) (hnotin : i ∉ js) :
    s.pushAndCheck (frag i) =
      ({ mid := s.mid, ppi := if i = 0 then (frag i).ppi else s.ppi,
         chunks := (goSort (fun a b => decide (a < b)) (js ++ [i])).map frag },
       chunksCompleteMID ((goSort (fun a b => decide (a < b)) (js ++ [i])).map frag), true) := by
  unfold ChunkSetMID.pushAndCheck
  have hdup : (s.chunks.any fun x => x.fsn == (frag i).fsn) = false := by
    rw [hch]
    simp only [List.any_map, List.any_eq_false, Function.comp, beq_iff_eq]
    intro j hj heq
    rw [hf.fsn, hf.fsn] at heq
    have := (Sna.ofNat32_eq_iff _ _ (by have := hjs j hj; omega) (by have := hjs j hj; omega)).1 heq
    exact hnotin (this ▸ hj)
  have e : s.chunks ++ [frag i] = (js ++ [i]).map frag := by rw [hch, List.map_append]; rfl
  rw [if_neg (by rw [hinc]; exact Bool.false_ne_true), if_neg (by rw [hdup]; exact Bool.false_ne_true), e,
    sortFSN_map hf.fsn _ (fun j hj => by
      rcases List.mem_append.1 hj with hj | hj
      · exact hjs j hj
      · rw [List.mem_singleton.1 hj]; exact hi), hf.bf]
  simp only [ChunkSetMID.isComplete, beq_iff_eq]

theorem idataFrag_msgFrags (S : Sender) (τ) (k : Nat) : MsgFrags (S.idataFrag τ k) (S.nf k) :=
  ⟨fun _ => rfl, fun _ => rfl, fun _ => rfl⟩

theorem idataFrags_payload (S : Sender) (τ) (k : Nat) :
    (((List.range (S.nf k)).map (S.idataFrag τ k)).map (·.userData)).flatten = (S.msg k).payload := by
  simp only [List.map_map, Msg.payload]
  have : ((fun c : Chunk => c.userData) ∘ S.idataFrag τ k) = fun i => (S.msg k).frags.getD i [] := by
    funext i; simp [Sender.idataFrag]
  rw [this]
  simp only [Sender.nf, Msg.nf]
  rw [map_getD_range]

/-! ### I-DATA: the table the ordered MID containers refine -/

def Sender.concSetMID (S : Sender) (τ : Nat → Nat → BitVec 32) (e : Nat × List Nat) : ChunkSetMID :=
  { mid := BitVec.ofNat 32 e.1, ppi := if 0 ∈ e.2 then (S.msg e.1).ppi else 0,
    chunks := e.2.map (S.idataFrag τ e.1) }

theorem findKey_conc (cs : Nat × List Nat → ChunkSetMID) (hmid : ∀ e, (cs e).mid = BitVec.ofNat 32 e.1)
    (k : Nat) (A : Tab) (hwin : ∀ e ∈ A, e.1 < k + 2^31 ∧ k < e.1 + 2^31) :
    ((∀ e ∈ A, e.1 ≠ k) ∧ (A.map cs).find? (fun s => s.mid == BitVec.ofNat 32 k) = none) ∨
    (∃ pre js post, A = pre ++ (k, js) :: post ∧ (∀ e ∈ pre, e.1 ≠ k) ∧
      (A.map cs).find? (fun s => s.mid == BitVec.ofNat 32 k) = some (cs (k, js))) := by
  induction A with
  | nil => left; simp
  | cons e rest ih =>
    have ihr := ih (fun x hx => hwin x (List.mem_cons_of_mem _ hx))
    obtain ⟨k', js'⟩ := e
    have hw := hwin (k', js') (List.mem_cons_self ..)
    simp only at hw
    by_cases hkk : k' = k
    · subst hkk
      right
      exact ⟨[], js', rest, rfl, fun _ h => (List.not_mem_nil h).elim, by simp [hmid]⟩
    · have hne : ((cs (k', js')).mid == BitVec.ofNat 32 k) = false := by
        rw [hmid]
        simp only [beq_eq_false_iff_ne, ne_eq]
        rw [Sna.ofNat32_eq_iff _ _ hw.1 hw.2]; exact hkk
      rcases ihr with ⟨hall, hnf⟩ | ⟨pre, js, post, hA, hpre, hfound⟩
      · left
        refine ⟨?_, ?_⟩
        · intro x hx
          rcases List.mem_cons.1 hx with rfl | hx
          · exact hkk
          · exact hall x hx
        · simp only [List.map_cons, List.find?_cons, hne]; exact hnf
      · right
        refine ⟨(k', js') :: pre, js, post, by rw [hA]; rfl, ?_, ?_⟩
        · intro x hx
          rcases List.mem_cons.1 hx with rfl | hx
          · exact hkk
          · exact hpre x hx
        · simp only [List.map_cons, List.find?_cons, hne]; exact hfound

/-- inserting a fresh MID by binary search = inserting the entry at its place in the sorted table. -/
theorem insertMID_conc (S : Sender) (τ) (x : Nat × List Nat) (A : Tab) (d : Nat)
    (hsorted : A.Pairwise (fun a b => a.1 < b.1))
    (hwin : ∀ e ∈ A, d ≤ e.1 ∧ e.1 < d + 2^31) (hx : d ≤ x.1 ∧ x.1 < d + 2^31)
    (hfresh : ∀ e ∈ A, e.1 ≠ x.1) :
    ∃ A' : Tab, insertChunkSetByMID (A.map (S.concSetMID τ)) (S.concSetMID τ x) = A'.map (S.concSetMID τ) ∧
      A'.Pairwise (fun a b => a.1 < b.1) ∧ (∀ e, e ∈ A' ↔ e ∈ A ∨ e = x) := by
  unfold insertChunkSetByMID
  -- the search predicate in terms of the table
  let f : Nat → Bool := fun i => match (A.map (S.concSetMID τ))[i]? with
    | some s => !sna32LT s.mid (S.concSetMID τ x).mid
    | none => true
  have hf : ∀ i (hi : i < A.length), f i = decide (x.1 < A[i].1) := by
    intro i hi
    simp only [f, List.getElem?_map, List.getElem?_eq_getElem hi, Option.map_some]
    have hw := hwin A[i] (List.getElem_mem hi)
    have hne := hfresh A[i] (List.getElem_mem hi)
    simp only [Sender.concSetMID]
    rw [Sna.lt32_ofNat _ _ (by omega) (by omega)]
    simp only [Bool.not_eq_eq_eq_not, Bool.not_not, decide_eq_decide] 
    by_cases h1 : A[i].1 < x.1
    · simp [h1]; omega
    · simp [h1]; omega
  have hmono : ∀ a b, a ≤ b → b < A.length → f a = true → f b = true := by
    intro a b hab hb hfa
    have ha : a < A.length := by omega
    rw [hf a ha] at hfa; rw [hf b hb]
    simp only [decide_eq_true_eq] at hfa ⊢
    rcases Nat.lt_or_ge a b with hlt | hge
    · have := List.pairwise_iff_getElem.1 hsorted a b ha hb hlt; omega
    · have : a = b := by omega
      subst this; exact hfa
  have hlen : (A.map (S.concSetMID τ)).length = A.length := by simp
  rw [hlen]
  obtain ⟨_, hr2, hr3, hr4⟩ := goSearch_spec f A.length hmono (A.length + 1) 0 A.length (by omega) (by omega) (by omega)
    (by intro x hx; omega) (by intro x h1 h2; omega)
  generalize goSearch f (A.length + 1) 0 A.length = r at hr2 hr3 hr4
  refine ⟨A.take r ++ x :: A.drop r, ?_, ?_, ?_⟩
  · simp [List.map_take, List.map_drop]
  · have hs := hsorted
    rw [← List.take_append_drop r A, List.pairwise_append] at hs
    rw [List.pairwise_append, List.pairwise_cons]
    refine ⟨hs.1, ⟨?_, hs.2.1⟩, ?_⟩
    · intro b hb
      obtain ⟨i, hi, rfl⟩ := List.mem_iff_getElem.1 hb
      simp only [List.length_drop] at hi
      rw [List.getElem_drop]
      have := hr4 (r + i) (by omega) (by omega)
      rw [hf _ (by omega)] at this
      simpa using this
    · intro a ha b hb
      rcases List.mem_cons.1 hb with rfl | hb
      · obtain ⟨i, hi, rfl⟩ := List.mem_iff_getElem.1 ha
        simp only [List.length_take] at hi
        rw [List.getElem_take]
        have := hr3 i (by omega)
        rw [hf _ (by omega)] at this
        simp only [decide_eq_false_iff_not] at this
        have hne := hfresh A[i] (List.getElem_mem (by omega))
        omega
      · exact hs.2.2 a ha b hb
  · intro e
    rw [List.perm_middle.mem_iff, List.take_append_drop, List.mem_cons, or_comm]

/-- the set the `cset == nil` path creates for I-DATA fragment `i` of message `k`. -/
theorem newSetMID_conc (S : Sender) (τ) (k i : Nat) (hi : i < 2^31) :
    ((newChunkSetMID (BitVec.ofNat 32 k) (S.idataFrag τ k i).ppi).pushAndCheck (S.idataFrag τ k i)).2.2 = true ∧
    ((newChunkSetMID (BitVec.ofNat 32 k) (S.idataFrag τ k i).ppi).pushAndCheck (S.idataFrag τ k i)).1
      = S.concSetMID τ (k, [i]) := by
  rw [pushAndCheck_of (idataFrag_msgFrags S τ k) i [] (newChunkSetMID (BitVec.ofNat 32 k) (S.idataFrag τ k i).ppi)
    rfl rfl (by simp) hi (by simp)]
  refine ⟨rfl, ?_⟩
  simp only [List.nil_append, goSort_singleton, newChunkSetMID, Sender.concSetMID, List.map_cons, List.map_nil,
    List.mem_singleton]
  congr 1
  by_cases h0 : i = 0
  · simp [h0, Sender.idataFrag]
  · simp [h0, Sender.idataFrag]; omega

theorem intoSetMID_conc (S : Sender) (τ) (k i : Nat) (js : List Nat) (hinc : (S.concSetMID τ (k, js)).isComplete = false)
    (hjs : ∀ j ∈ js, j < 2^31) (hi : i < 2^31) (hnotin : i ∉ js) :
    ((S.concSetMID τ (k, js)).pushAndCheck (S.idataFrag τ k i)).2.2 = true ∧
    ((S.concSetMID τ (k, js)).pushAndCheck (S.idataFrag τ k i)).1 =
      S.concSetMID τ (k, goSort (fun a b => decide (a < b)) (js ++ [i])) := by
  have hmem := mem_goSort_snoc (fun a b : Nat => decide (a < b)) js i
  rw [pushAndCheck_of (idataFrag_msgFrags S τ k) i js (S.concSetMID τ (k, js)) rfl hinc hjs hi hnotin]
  refine ⟨rfl, ?_⟩
  simp only [Sender.concSetMID]
  congr 1
  -- the PPI travels with fragment 0
  by_cases h0 : i = 0
  · subst h0; simp [(hmem 0).2 (.inr rfl), Sender.idataFrag]
  · have : 0 ∈ goSort (fun a b : Nat => decide (a < b)) (js ++ [i]) ↔ 0 ∈ js := by
      rw [hmem 0]; exact ⟨fun h => h.elim id (fun h => absurd h.symm h0), .inl⟩
    simp only [h0, ↓reduceIte, this]

/-- ordered I-DATA fragment `i` of message `k`, not held yet, message at or above the cursor `c`: either the MID
limit refuses it and the queue only learns that the peer interleaves, or the table gains the fragment and the
counter its bytes. -/
theorem pushIData_conc {S : Sender} (hS : S.WF) {τ : Nat → Nat → BitVec 32} {q : Q} {f c : Nat} {A : Tab} {k i : Nat}
    (hsi : q.si = S.si) (hcur : q.nextMID = BitVec.ofNat 32 c) (hord : q.orderedMID = A.map (S.concSetMID τ))
    (hT : TabOK S (2^31) f A) (hfc : f ≤ c) (hck : c ≤ k) (hw : k < f + 2^31)
    (hk : k < S.msgs.length) (hi : i < S.nf k) (hnew : ∀ js, (k, js) ∈ A → i ∉ js) :
    ((q.pushWithError (S.idataFrag τ k i)).1 = { q with useInterleaving := true } ∧
      (q.pushWithError (S.idataFrag τ k i)).2.2 = .midLimit) ∨
    ∃ A', (q.pushWithError (S.idataFrag τ k i)).1 =
        { q with useInterleaving := true, orderedMID := A'.map (S.concSetMID τ),
                 nBytes := q.nBytes + BitVec.ofNat 64 (S.idataFrag τ k i).len } ∧
      (q.pushWithError (S.idataFrag τ k i)).2.2 = .none ∧ TabOK S (2^31) f A' ∧ Added A A' k i := by
  have hnf := S.nf_pos hS hk
  have hwinA : ∀ e ∈ A, e.1 < k + 2^31 ∧ k < e.1 + 2^31 := fun e he => by have := hT.win e he; omega
  have c1 : (S.idataFrag τ k i).iData = true := rfl
  have c2 : ((S.idataFrag τ k i).si != q.si) = false := by simp [Sender.idataFrag, hsi]
  have c3 : (S.idataFrag τ k i).unordered = false := rfl
  have c5 : (S.idataFrag τ k i).mid = BitVec.ofNat 32 k := rfl
  have c4 : sna32LT (BitVec.ofNat 32 k) q.nextMID = false := by
    rw [hcur, Sna.lt32_ofNat _ _ (by omega) (by omega)]; simp; omega
  unfold Q.pushWithError
  simp only [c1, ↓reduceIte]
  unfold Q.pushIData
  simp only [c2, c3, Bool.false_eq_true, ↓reduceIte]
  unfold Q.pushOrderedIData
  simp only [c5, c4, Bool.false_eq_true, ↓reduceIte, hord]
  rcases findKey_conc (S.concSetMID τ) (fun _ => rfl) k A hwinA with ⟨hfresh, hnone⟩ | ⟨pre, js, post, hA, hpre, hsome⟩
  · rw [hnone]
    simp only
    split
    · exact .inl ⟨rfl, rfl⟩
    · obtain ⟨hacc, hset⟩ := newSetMID_conc S τ k i (by omega)
      simp only [hacc, Bool.not_true, Bool.false_eq_true, ↓reduceIte, hset]
      obtain ⟨A', hins, hsorted', hmem⟩ := insertMID_conc S τ (k, [i]) A f hT.sorted
        (fun e he => by have := hT.win e he; omega) ⟨by omega, hw⟩ hfresh
      exact .inr ⟨A', by simp only [hins, Q.addBytes], trivial, hT.insert hk hi (by omega) hw hfresh hsorted' hmem⟩
  · rw [hsome]
    simp only
    have hin : (k, js) ∈ A := by rw [hA]; exact List.mem_append_right _ (List.mem_cons_self ..)
    have hnotin := hnew js hin
    have hwf := hT.wf _ hin
    simp only at hwf
    have hinc : (S.concSetMID τ (k, js)).isComplete = false := by
      cases hc : (S.concSetMID τ (k, js)).isComplete with
      | false => rfl
      | true =>
        have := (completeMID_iff_of (idataFrag_msgFrags S τ k) hnf js hwf.2.2).1
          (by simpa [ChunkSetMID.isComplete, Sender.concSetMID] using hc)
        exact absurd (by rw [this]; exact List.mem_range.2 hi) hnotin
    obtain ⟨hacc, hset⟩ := intoSetMID_conc S τ k i js hinc (fun j hj => by have := hwf.2.2 j hj; omega) (by omega) hnotin
    subst hA
    have hl : ∀ x ∈ pre.map (S.concSetMID τ), (x.mid == BitVec.ofNat 32 k) = false := by
      intro x hx
      obtain ⟨e, he, rfl⟩ := List.mem_map.1 hx
      have hw := hwinA e (List.mem_append_left _ he)
      rw [beq_eq_false_iff_ne]
      exact fun h => hpre e he ((Sna.ofNat32_eq_iff _ _ hw.1 hw.2).1 h)
    have hupd : ∀ s', updMID (BitVec.ofNat 32 k) s'
        (pre.map (S.concSetMID τ) ++ S.concSetMID τ (k, js) :: post.map (S.concSetMID τ)) =
        pre.map (S.concSetMID τ) ++ s' :: post.map (S.concSetMID τ) := fun s' => updMID_at _ _ s' _ _ hl rfl
    simp only [hacc, Bool.not_true, Bool.false_eq_true, ↓reduceIte, hset, List.map_append, List.map_cons, hupd]
    exact .inr ⟨_, by simp only [Q.addBytes, List.map_append, List.map_cons], trivial, hT.replace hi hnotin⟩

/-- the I-DATA counterpart of `readData_conc` (the peer interleaves, no complete unordered message waits). -/
theorem readIData_conc {S : Sender} (hS : S.WF) {τ : Nat → Nat → BitVec 32} {q : Q} {f c : Nat} {A : Tab}
    (hil : q.useInterleaving = true) (hum : q.unorderedMID = []) (hcur : q.nextMID = BitVec.ofNat 32 c)
    (hord : q.orderedMID = A.map (S.concSetMID τ)) (hT : TabOK S (2^31) f A) (hfc : f ≤ c ∧ c < f + 2^31) (n : Nat) :
    ((q.read n).2.err ≠ .ok ∧ (q.read n).1 = q) ∨
    ∃ k rest, A = (k, List.range (S.nf k)) :: rest ∧ k ≤ c ∧
      (q.read n).2.err = .ok ∧ (q.read n).2.ppi = (S.msg k).ppi ∧ (q.read n).2.data = (S.msg k).payload ∧
      ∃ nb, (q.read n).1 = { q with orderedMID := rest.map (S.concSetMID τ), nBytes := nb,
                                    nextMID := BitVec.ofNat 32 (if k = c then c + 1 else c) } := by
  unfold Q.read
  simp only [hil, ↓reduceIte, hum, hord]
  cases hA : A with
  | nil => left; simp [ReadRes.tryAgain]
  | cons e rest =>
    obtain ⟨k, js⟩ := e
    subst hA
    have hin : (k, js) ∈ (k, js) :: rest := List.mem_cons_self ..
    have hwin := hT.win _ hin
    have hwf := hT.wf _ hin
    simp only at hwin hwf
    simp only [List.map_cons]
    by_cases hc : (S.concSetMID τ (k, js)).isComplete = true
    · simp only [hc, Bool.not_true, Bool.false_eq_true, ↓reduceIte]
      have hgt : sna32GT (S.concSetMID τ (k, js)).mid q.nextMID = decide (c < k) := by
        rw [hcur]; exact Sna.gt32_ofNat _ _ (by omega) (by omega)
      rw [hgt]
      by_cases hck : c < k
      · left; simp [hck, ReadRes.tryAgain]
      · simp only [hck, decide_false, Bool.false_eq_true, ↓reduceIte]
        have hnf := S.nf_pos hS hwin.2.2
        have hall : js = List.range (S.nf k) :=
          (completeMID_iff_of (idataFrag_msgFrags S τ k) hnf js hwf.2.2).1
            (by simpa [ChunkSetMID.isComplete, Sender.concSetMID] using hc)
        cases herr : (copyLoop (n : Int) (S.concSetMID τ (k, js)).chunks 0 false []).2.1 with
        | true => left; simp [herr]
        | false =>
          right
          have hdata := copyLoop_ok _ _ _ _ herr
          simp only [herr, Bool.false_eq_true, ↓reduceIte]
          have hcur' : (if (S.concSetMID τ (k, js)).mid == q.nextMID then q.nextMID + 1 else q.nextMID)
              = BitVec.ofNat 32 (if k = c then c + 1 else c) := by
            rw [hcur]; exact Sna.cursor32_step k c (by omega) (by omega)
          refine ⟨k, rest, by rw [hall], by omega, trivial, ?_, ?_, ?_⟩
          · have : 0 ∈ js := by rw [hall]; exact List.mem_range.2 hnf.1
            simp [Sender.concSetMID, this]
          · rw [hdata]; simp only [Sender.concSetMID, List.nil_append, hall]
            exact idataFrags_payload S τ k
          · rw [← hcur']; exact ⟨_, rfl⟩
    · left
      simp only [Bool.not_eq_true] at hc
      simp [hc, ReadRes.tryAgain]

/-- refinement invariant for ordered I-DATA: `d` messages delivered, `A` the table `orderedMID` refines, `P` the
fragments pushed so far. While the queue is not in interleaving mode the table is empty (`il`); `ordered`, `unordered` and `unorderedMID` stay empty. -/
structure MidInv (S : Sender) (τ : Nat → Nat → BitVec 32) (q : Q) (d : Nat) (A : Tab) (P : List (Nat × Nat)) : Prop where
  si : q.si = S.si
  il : q.useInterleaving = false → A = []
  un : q.unordered = []
  od : q.ordered = []
  um : q.unorderedMID = []
  cur : q.nextMID = BitVec.ofNat 32 d
  ord : q.orderedMID = A.map (S.concSetMID τ)
  sorted : A.Pairwise (fun a b => a.1 < b.1)
  win : ∀ e ∈ A, d ≤ e.1 ∧ e.1 < d + 2^31 ∧ e.1 < S.msgs.length
  wf : ∀ e ∈ A, e.2 ≠ [] ∧ e.2.Pairwise (· < ·) ∧ ∀ j ∈ e.2, j < S.nf e.1
  pushed : ∀ e ∈ A, ∀ j ∈ e.2, (e.1, j) ∈ P
  done : ∀ k, k < d → ∀ i, i < S.nf k → (k, i) ∈ P

theorem MidInv_new (S : Sender) (τ) (me : BitVec 32) : MidInv S τ (new S.si me) 0 [] [] := by
  constructor <;> simp [new]

theorem MidInv.push {S τ q d A P} (h : MidInv S τ q d A P) (hS : S.WF) {k i : Nat}
    (hk : k < S.msgs.length) (hi : i < S.nf k) (hP : (k, i) ∉ P) (hw : k < d + 2^31) :
    ∃ A', MidInv S τ (q.pushWithError (S.idataFrag τ k i)).1 d A' ((k, i) :: P) := by
  have hdk : d ≤ k := Nat.le_of_not_lt fun hlt => hP (h.done k hlt i hi)
  have hdone : ∀ k', k' < d → ∀ i', i' < S.nf k' → (k', i') ∈ (k, i) :: P :=
    fun k' hk' i' hi' => List.mem_cons_of_mem _ (h.done k' hk' i' hi')
  rcases pushIData_conc hS (τ := τ) h.si h.cur h.ord ⟨h.sorted, h.win, h.wf⟩ (Nat.le_refl d) hdk hw hk hi
    (fun js hjs hij => hP (h.pushed _ hjs i hij)) with ⟨hq, _⟩ | ⟨A', hq, _, hT, hadd⟩
  · rw [hq]
    exact ⟨A, { si := h.si, il := fun hc => Bool.noConfusion hc, un := h.un, od := h.od, um := h.um, cur := h.cur,
                ord := h.ord, sorted := h.sorted, win := h.win, wf := h.wf,
                pushed := fun e he j hj => List.mem_cons_of_mem _ (h.pushed e he j hj), done := hdone }⟩
  · rw [hq]
    exact ⟨A', { si := h.si, il := fun hc => Bool.noConfusion hc, un := h.un, od := h.od, um := h.um, cur := h.cur,
                 ord := rfl, sorted := hT.sorted, win := hT.win, wf := hT.wf, pushed := hadd.pushed h.pushed,
                 done := hdone }⟩

theorem MidInv.read {S τ q d A P} (h : MidInv S τ q d A P) (hS : S.WF) (n : Nat) :
    ((q.read n).2.err ≠ .ok ∧ (q.read n).1 = q) ∨
    ((q.read n).2.err = .ok ∧ d < S.msgs.length ∧ (q.read n).2.ppi = (S.msg d).ppi ∧
      (q.read n).2.data = (S.msg d).payload ∧ ∃ A', MidInv S τ (q.read n).1 (d + 1) A' P) := by
  cases hil : q.useInterleaving with
  | false =>
    left
    unfold Q.read
    simp [hil, h.un, h.od, ReadRes.tryAgain]
  | true =>
    rcases readIData_conc hS (τ := τ) hil h.um h.cur h.ord ⟨h.sorted, h.win, h.wf⟩ ⟨Nat.le_refl d, by omega⟩ n with
      hno | ⟨k, rest, hA, hkd, hok, hppi, hdata, nb, hq⟩
    · exact .inl hno
    · subst hA
      have hin : (k, List.range (S.nf k)) ∈ (k, List.range (S.nf k)) :: rest := List.mem_cons_self ..
      have hkd' : k = d := by have := h.win _ hin; omega
      subst hkd'
      have hs := List.pairwise_cons.1 h.sorted
      rw [if_pos rfl] at hq
      refine .inr ⟨hok, (h.win _ hin).2.2, hppi, hdata, rest, ?_⟩
      rw [hq]
      refine { si := h.si, il := fun hc => absurd (hil.symm.trans hc) (by decide), un := h.un, od := h.od, um := h.um,
               cur := rfl, ord := rfl, sorted := hs.2,
               win := fun e he => ?_, wf := fun e he => h.wf e (List.mem_cons_of_mem _ he),
               pushed := fun e he => h.pushed e (List.mem_cons_of_mem _ he), done := fun k' hk' i hi => ?_ }
      · have := h.win e (List.mem_cons_of_mem _ he)
        have := hs.1 e he
        simp only at this; omega
      · rcases Nat.lt_or_ge k' k with hlt | hge
        · exact h.done k' hlt i hi
        · have : k' = k := by omega
          subst this
          exact h.pushed _ hin i (List.mem_range.2 hi)

/-- the reads of an admissible run return a prefix of the messages not yet delivered — for any invariant that a
push keeps and that a successful read advances by one message. -/
theorem deliveries_prefix {S : Sender} {frag : Nat → Nat → Chunk} {W : Nat}
    {Inv : Q → Nat → Tab → List (Nat × Nat) → Prop}
    (hpush : ∀ {q d A P k i}, Inv q d A P → k < S.msgs.length → i < S.nf k → (k, i) ∉ P → k < d + W →
      ∃ A', Inv (q.pushWithError (frag k i)).1 d A' ((k, i) :: P))
    (hread : ∀ {q d A P} (n : Nat), Inv q d A P → ((q.read n).2.err ≠ .ok ∧ (q.read n).1 = q) ∨
      ((q.read n).2.err = .ok ∧ d < S.msgs.length ∧ (q.read n).2.ppi = (S.msg d).ppi ∧
        (q.read n).2.data = (S.msg d).payload ∧ ∃ A', Inv (q.read n).1 (d + 1) A' P))
    (ops : List HOp) {q d A P} (h : Inv q d A P) (hadm : S.Admissible frag W q d P ops) :
    S.deliveries frag q ops <+: (S.msgs.drop d).map Msg.out := by
  induction ops generalizing q d A P with
  | nil => simp [Sender.deliveries]
  | cons op ops ih =>
    cases op with
    | push k i =>
      obtain ⟨hk, hi, hP, hw, hrest⟩ := hadm
      obtain ⟨A', h'⟩ := hpush h hk hi hP hw
      exact ih h' hrest
    | read n =>
      simp only [Sender.Admissible] at hadm
      simp only [Sender.deliveries]
      rcases hread n h with ⟨hne, hq⟩ | ⟨hok, hd, hppi, hdata, A', h'⟩
      · rw [if_neg hne] at hadm ⊢
        rw [hq] at hadm ⊢
        simpa using ih h hadm
      · rw [if_pos hok] at hadm ⊢
        have hmsg : S.msg d = S.msgs[d] := by
          simp [Sender.msg, List.getD_eq_getElem?_getD, List.getElem?_eq_getElem hd]
        rw [List.drop_eq_getElem_cons hd, List.map_cons, hppi, hdata, hmsg]
        exact (List.prefix_cons_inj _).2 (ih h' hadm)

theorem OrdInv.prefix {S : Sender} (hS : S.WF) (ops : List HOp) {q d A P} (h : OrdInv S q d A P)
    (hadm : S.Admissible S.dataFrag (2^15) q d P ops) :
    S.deliveries S.dataFrag q ops <+: (S.msgs.drop d).map Msg.out :=
  deliveries_prefix (fun h => h.push hS) (fun n h => h.read hS n) ops h hadm

theorem MidInv.prefix {S : Sender} {τ} (hS : S.WF) (ops : List HOp) {q d A P} (h : MidInv S τ q d A P)
    (hadm : S.Admissible (S.idataFrag τ) (2^31) q d P ops) :
    S.deliveries (S.idataFrag τ) q ops <+: (S.msgs.drop d).map Msg.out :=
  deliveries_prefix (fun h => h.push hS) (fun n h => h.read hS n) ops h hadm

end Reasm
