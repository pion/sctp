import SctpVerif.Proofs.ReasmUnordUniv
/-!
C06, unordered reassembly: refinement of the unordered DATA containers
(`unorderedChunks`, `unordered`) to sets of fragment indices / message indices, the push step and the read step.
The invariant `UInv` is about the unordered class only (fields `si`, `useInterleaving`, `unorderedChunks`,
`unordered`); what its push and read steps do to the other fields is stated separately as a frame (`FrameU`), so the
same steps serve the mixed-class theorem of `Proofs/ReasmUnordMix.lean`. `read_only` (the fields `read` never writes)
is used there.
-/
set_option linter.unusedVariables false
set_option linter.unusedSimpArgs false
namespace Reasm
open Gen

/-- the complete set `findCompleteUnorderedChunkSet` builds for message `k`. -/
def Sender.uset (S : Sender) (σ : Nat → BitVec 16) (k : Nat) : ChunkSet :=
  { ssn := 0, ppi := (S.msg k).ppi, chunks := (msgIdx k (S.nf k)).map (S.ufrag σ) }

theorem ite_fst {α β : Type} {P : α → Prop} {c : Prop} [Decidable c] {a b : α × β} (ha : P a.1) (hb : P b.1) :
    P (if c then a else b).1 :=
  ite_elim (P := fun x : α × β => P x.1) ha hb

/-- `read` never writes `si`, `unorderedChunks`, `unorderedMIDMap`, `useInterleaving`, `maxEntries`. -/
theorem read_only (q : Q) (n : Nat) (P : Q → Prop)
    (hP : ∀ o u om um ns nm nb, P { q with
      ordered := o, unordered := u, orderedMID := om, unorderedMID := um, nextSSN := ns, nextMID := nm, nBytes := nb }) :
    P (q.read n).1 := by
  unfold Q.read
  refine ite_fst ?_ ?_
  · dsimp only
    cases q.unorderedMID with
    | cons s r => exact ite_fst (hP ..) (hP ..)
    | nil =>
      cases q.orderedMID with
      | nil => exact hP ..
      | cons s r => exact ite_fst (hP ..) (ite_fst (hP ..) (ite_fst (hP ..) (hP ..)))
  · dsimp only
    cases q.unordered with
    | cons s r => exact ite_fst (hP ..) (hP ..)
    | nil =>
      cases q.ordered with
      | nil => exact hP ..
      | cons s r => exact ite_fst (hP ..) (ite_fst (hP ..) (ite_fst (hP ..) (hP ..)))

/-- what the three outcomes of pushing an unordered DATA chunk of this stream are (the `panic` arm is dead). -/
theorem pushU_cases (q : Q) (c : Chunk) (h1 : c.iData = false) (h2 : c.si = q.si) (h3 : c.unordered = true) :
    (q.pushWithError c = (q, false, .dataLimit)) ∨
    (findCompleteUnorderedChunkSet (sortChunksByTSN (q.unorderedChunks ++ [c])) = .notFound ∧
      scanUnordered (sortChunksByTSN (q.unorderedChunks ++ [c])) 0 none 0 0 = none ∧
      q.pushWithError c =
        ({ q.addBytes c.len with unorderedChunks := sortChunksByTSN (q.unorderedChunks ++ [c]) }, false, .none)) ∨
    (∃ a r b c0 tl, sortChunksByTSN (q.unorderedChunks ++ [c]) = a ++ r ++ b ∧ BERun r ∧ r = c0 :: tl ∧
      q.pushWithError c =
        ({ q.addBytes c.len with unorderedChunks := a ++ b,
                                 unordered := q.unordered ++ [{ ssn := 0, ppi := c0.ppi, chunks := r }] }, true, .none)) := by
  have hsi : (c.si != q.si) = false := by simp [h2]
  unfold Q.pushWithError
  simp only [h1, hsi, h3, Bool.false_eq_true, ↓reduceIte]
  split
  · left; rfl
  · right
    rcases findCompleteUnordered_cases (sortChunksByTSN (q.unorderedChunks ++ [c])) with ⟨hnf, hsc⟩ | ⟨a, r, b, c0, tl, huc, hrun, hr, hf⟩
    · left
      refine ⟨hnf, hsc, ?_⟩
      rw [hnf]
    · right
      refine ⟨a, r, b, c0, tl, huc, hrun, hr, ?_⟩
      rw [hf]
      rfl

/-- sorting the slice after appending a fresh universe fragment = inserting its index pair. -/
theorem usort_conc (S : Sender) (hS : S.UWF) (σ) (U : List (Nat × Nat)) (p : Nat × Nat)
    (hU : ∀ x ∈ U, S.Valid x) (hp : S.Valid p) (hs : U.Pairwise (fun a b => S.pos a < S.pos b)) (hfresh : p ∉ U) :
    ∃ U' : List (Nat × Nat), sortChunksByTSN (U.map (S.ufrag σ) ++ [S.ufrag σ p]) = U'.map (S.ufrag σ) ∧
      U'.Pairwise (fun a b => S.pos a < S.pos b) ∧ (∀ x, x ∈ U' ↔ x ∈ U ∨ x = p) := by
  refine ⟨goSort (fun a b => decide (S.pos a < S.pos b)) (U ++ [p]), ?_, ?_, ?_⟩
  · have e : U.map (S.ufrag σ) ++ [S.ufrag σ p] = (U ++ [p]).map (S.ufrag σ) := by simp
    rw [e]
    unfold sortChunksByTSN
    apply goSort_map
    intro a ha b hb
    have hva : S.Valid a := by
      rcases List.mem_append.1 ha with h | h
      · exact hU a h
      · simp only [List.mem_singleton] at h; subst h; exact hp
    have hvb : S.Valid b := by
      rcases List.mem_append.1 hb with h | h
      · exact hU b h
      · simp only [List.mem_singleton] at h; subst h; exact hp
    exact ufrag_tsn_lt S hS σ hva hvb
  · apply goSort_sorted S.pos
    rw [List.pairwise_append]
    refine ⟨hs.imp (fun h => by omega), by simp, ?_⟩
    intro a ha b hb
    simp only [List.mem_singleton] at hb; subst hb
    intro heq
    exact hfresh ((S.pos_inj hS (hU a ha) hp heq.symm) ▸ ha)
  · intro x; rw [goSort_mem]; simp

/-- refinement invariant of the unordered DATA containers. `D` = messages read (in read order), `W` = complete
messages waiting in `unordered`, `U` = fragments in `unorderedChunks`, `P` = fragments handed over so far,
`G` ⊆ `P` those that `pushWithError` took without error. -/
structure UInv (S : Sender) (σ : Nat → BitVec 16) (q : Q) (D W : List Nat) (U P G : List (Nat × Nat)) : Prop where
  si : q.si = S.si
  il : q.useInterleaving = false
  uc : q.unorderedChunks = U.map (S.ufrag σ)
  un : q.unordered = W.map (S.uset σ)
  sorted : U.Pairwise (fun a b => S.pos a < S.pos b)
  valid : ∀ p ∈ U, S.Valid p
  upush : ∀ p ∈ U, p ∈ P
  nodup : (D ++ W).Nodup
  dwlen : ∀ k ∈ D ++ W, k < S.msgs.length
  dwpush : ∀ k ∈ D ++ W, ∀ i, i < S.nf k → (k, i) ∈ P
  disj : ∀ p ∈ U, p.1 ∉ D ++ W
  /-- no message is complete inside `unorderedChunks`: a complete one is extracted by the push that completes it -/
  nocomp : ∀ m, m < S.msgs.length → ¬ ∀ j, j < S.nf m → (m, j) ∈ U
  track : ∀ p ∈ G, p ∈ U ∨ p.1 ∈ D ++ W

theorem UInv_new (S : Sender) (hS : S.UWF) (σ) (me : BitVec 32) : UInv S σ (new S.si me) [] [] [] [] [] := by
  refine { si := rfl, il := rfl, uc := rfl, un := rfl, sorted := List.Pairwise.nil, valid := by simp,
           upush := by simp, nodup := by simp, dwlen := by simp, dwpush := by simp, disj := by simp,
           nocomp := ?_, track := by simp }
  intro m hm h
  have := (S.nf_pos hS.wf hm).1
  exact absurd (h 0 (by omega)) (by simp)

/-- a message all of whose fragments were taken has been read or waits complete in `unordered`. -/
theorem UInv.complete {S σ q D W U P G} (h : UInv S σ q D W U P G) {k : Nat} (hk : k < S.msgs.length)
    (hall : ∀ i, i < S.nf k → (k, i) ∈ G) : k ∈ D ∨ S.uset σ k ∈ q.unordered := by
  by_cases hin : k ∈ D ++ W
  · rcases List.mem_append.1 hin with hd | hw
    · exact .inl hd
    · right; rw [h.un]; exact List.mem_map.2 ⟨k, hw, rfl⟩
  · exfalso
    apply h.nocomp k hk
    intro j hj
    rcases h.track (k, j) (hall j hj) with hu | hdw
    · exact hu
    · exact absurd hdw hin

theorem mem_append_snoc {α} {D W : List α} {k x : α} : x ∈ D ++ (W ++ [k]) ↔ x ∈ D ++ W ∨ x = k := by
  rw [← List.append_assoc, List.mem_append, List.mem_singleton]

theorem nodup_append_snoc {α} {D W : List α} {k : α} (h : (D ++ W).Nodup) (hk : k ∉ D ++ W) :
    (D ++ (W ++ [k])).Nodup := by
  rw [← List.append_assoc, List.nodup_append]
  exact ⟨h, List.pairwise_singleton .., fun a ha b hb hab => hk (List.mem_singleton.1 hb ▸ hab ▸ ha)⟩

theorem nodup_of_sorted (S : Sender) {U : List (Nat × Nat)} (h : U.Pairwise (fun a b => S.pos a < S.pos b)) :
    U.Nodup :=
  h.imp (fun {a b} hab heq => by rw [heq] at hab; omega)

/-- the other fields a push of an unordered DATA chunk leaves alone (frame). -/
structure FrameU (q q' : Q) : Prop where
  si : q'.si = q.si
  il : q'.useInterleaving = q.useInterleaving
  ordered : q'.ordered = q.ordered
  nextSSN : q'.nextSSN = q.nextSSN
  nextMID : q'.nextMID = q.nextMID
  orderedMID : q'.orderedMID = q.orderedMID
  unorderedMID : q'.unorderedMID = q.unorderedMID
  unorderedMIDMap : q'.unorderedMIDMap = q.unorderedMIDMap
  maxEntries : q'.maxEntries = q.maxEntries

theorem FrameU.refl (q : Q) : FrameU q q := by constructor <;> rfl

/-- pushing a fresh unordered fragment of the universe: the refinement is kept; the fragment is either refused
(entry limit), inserted at its TSN position, or completes its message — then exactly the fragments of THAT message
leave `unorderedChunks` and the complete set is appended to `unordered`. -/
theorem UInv.push {S σ q D W U P G} (h : UInv S σ q D W U P G) (hS : S.UWF) {k i : Nat}
    (hk : k < S.msgs.length) (hi : i < S.nf k) (hP : (k, i) ∉ P) :
    FrameU q (q.pushWithError (S.udataFrag σ k i)).1 ∧
    ∃ W' U', UInv S σ (q.pushWithError (S.udataFrag σ k i)).1 D W' U' ((k, i) :: P)
      ((if (q.pushWithError (S.udataFrag σ k i)).2.2 = .none then [(k, i)] else []) ++ G) := by
  have hvp : S.Valid (k, i) := ⟨hk, hi⟩
  have hfresh : (k, i) ∉ U := fun hin => hP (h.upush _ hin)
  have hkDW : k ∉ D ++ W := fun hin => hP (h.dwpush k hin i hi)
  obtain ⟨U', hsort, hsorted', hmem⟩ := usort_conc S hS σ U (k, i) h.valid hvp h.sorted hfresh
  have hlift : ∀ {Q : Nat × Nat → Prop}, (∀ p ∈ U, Q p) → Q (k, i) → ∀ p ∈ U', Q p :=
    fun hQ hq p hp => ((hmem p).1 hp).elim (hQ p) (fun e => e ▸ hq)
  have hvalid' : ∀ p ∈ U', S.Valid p := hlift h.valid hvp
  have hupush' : ∀ p ∈ U', p ∈ (k, i) :: P :=
    hlift (fun p hp => List.mem_cons_of_mem _ (h.upush p hp)) (List.mem_cons_self ..)
  have hdisj' : ∀ p ∈ U', p.1 ∉ D ++ W := hlift h.disj hkDW
  have htrack' : ∀ p ∈ (k, i) :: G, p ∈ U' ∨ p.1 ∈ D ++ W := fun p hp =>
    (List.mem_cons.1 hp).elim (fun e => .inl ((hmem p).2 (.inr e)))
      (fun hp => (h.track p hp).imp_left (fun hin => (hmem p).2 (.inl hin)))
  have hc : S.udataFrag σ k i = S.ufrag σ (k, i) := rfl
  rcases pushU_cases q (S.udataFrag σ k i) rfl (by simp [Sender.udataFrag, Sender.dataFrag, h.si]) rfl with
    hlim | ⟨hnf, hscan, hres⟩ | ⟨a, r, b, c0, tl, huc, hrun, hr, hres⟩
  · -- refused: nothing changes
    rw [hlim]
    refine ⟨FrameU.refl q, W, U, ?_⟩
    simp only [reduceCtorEq, ↓reduceIte, List.nil_append]
    exact { h with upush := fun p hp => List.mem_cons_of_mem _ (h.upush p hp),
                   dwpush := fun k' hk' j hj => List.mem_cons_of_mem _ (h.dwpush k' hk' j hj) }
  · -- inserted, nothing complete
    rw [hres]
    refine ⟨by constructor <;> rfl, W, U', ?_⟩
    simp only [↓reduceIte, List.singleton_append]
    rw [h.uc, hc, hsort] at hscan
    exact
      { si := h.si, il := h.il, uc := by simp only [Q.addBytes]; rw [h.uc, hc, hsort], un := h.un,
        sorted := hsorted', valid := hvalid', upush := hupush', nodup := h.nodup, dwlen := h.dwlen,
        dwpush := fun k' hk' j hj => List.mem_cons_of_mem _ (h.dwpush k' hk' j hj),
        disj := hdisj',
        nocomp := by
          intro m hm hall
          obtain ⟨A, B, hAB⟩ := sorted_has_all S m (S.nf_pos hS.wf hm).1 U' hsorted' hall
          rw [hAB, List.map_append, List.map_append, List.append_assoc] at hscan
          exact scan_skip_prefix _ _ (scan_full S σ m (S.nf_pos hS.wf hm).1 _) _ _ _ _ hscan
        track := htrack' }
  · -- a message became complete and is extracted
    rw [hres]
    refine ⟨by constructor <;> rfl, ?_⟩
    simp only [↓reduceIte, List.singleton_append]
    rw [h.uc, hc, hsort] at huc
    -- pull the split back to index pairs
    rw [List.map_eq_append_iff] at huc
    obtain ⟨AR, B, hU', hAR, hB⟩ := huc
    rw [List.map_eq_append_iff] at hAR
    obtain ⟨A, R, rfl, hA, hR⟩ := hAR
    obtain ⟨k', hk', hRk⟩ := beRun_universe S hS σ hrun R hR.symm
      (fun p hp => hvalid' p (by rw [hU']; simp [hp]))
    have hnf' := S.nf_pos hS.wf hk'
    have hinR : ∀ j, j < S.nf k' → (k', j) ∈ U' := by
      intro j hj; rw [hU']
      have : (k', j) ∈ R := by rw [hRk]; exact mem_msgIdx.2 ⟨rfl, hj⟩
      simp [this]
    have hkk : k' = k := Decidable.byContradiction fun hne => h.nocomp k' hk' fun j hj =>
      ((hmem _).1 (hinR j hj)).resolve_right fun heq => hne (congrArg Prod.fst heq)
    subst hkk
    have hnd := nodup_of_sorted S hsorted'
    rw [hU'] at hnd
    have hnotAB : ∀ p, p ∈ A ++ B → p.1 ≠ k' := by
      intro p hp hpk
      have hv : S.Valid p := hvalid' p (by rw [hU']; rcases List.mem_append.1 hp with h | h <;> simp [h])
      have hpR : p ∈ R := by rw [hRk]; exact mem_msgIdx.2 ⟨hpk, by have := hv.2; rwa [hpk] at this⟩
      rw [List.nodup_append] at hnd
      obtain ⟨hndAR, _, hdisjB⟩ := hnd
      rw [List.nodup_append] at hndAR
      rcases List.mem_append.1 hp with hpa | hpb
      · exact hndAR.2.2 p hpa p hpR rfl
      · exact hdisjB p (by simp [hpR]) p hpb rfl
    have hsubAB : ∀ p, p ∈ A ++ B → p ∈ U' := by
      intro p hp; rw [hU']; rcases List.mem_append.1 hp with h | h <;> simp [h]
    have hset : ({ ssn := 0, ppi := c0.ppi, chunks := r } : ChunkSet) = S.uset σ k' := by
      have hc0 : c0 ∈ R.map (S.ufrag σ) := by rw [hR, hr]; exact List.mem_cons_self ..
      obtain ⟨p0, hp0, rfl⟩ := List.mem_map.1 hc0
      have : p0.1 = k' := by rw [hRk] at hp0; exact (mem_msgIdx.1 hp0).1
      simp only [Sender.uset, ← hR, hRk]
      congr 1
      simp [Sender.ufrag, Sender.udataFrag, Sender.dataFrag, this]
    refine ⟨W ++ [k'], A ++ B, ?_⟩
    exact
      { si := h.si, il := h.il,
        uc := by simp only [Q.addBytes]; rw [← hA, ← hB, List.map_append],
        un := by simp only [Q.addBytes]; rw [h.un, hset]; simp,
        sorted := by
          rw [hU'] at hsorted'
          exact hsorted'.sublist (by
            rw [List.append_assoc]
            exact (List.Sublist.refl A).append (List.sublist_append_right R B)),
        valid := fun p hp => hvalid' p (hsubAB p hp),
        upush := fun p hp => hupush' p (hsubAB p hp),
        nodup := nodup_append_snoc h.nodup hkDW,
        dwlen := by
          intro x hx
          rcases mem_append_snoc.1 hx with hx | rfl
          · exact h.dwlen x hx
          · exact hk
        dwpush := by
          intro x hx j hj
          rcases mem_append_snoc.1 hx with hx | rfl
          · exact List.mem_cons_of_mem _ (h.dwpush x hx j hj)
          · exact hupush' _ (hinR j hj)
        disj := by
          intro p hp hin
          rcases mem_append_snoc.1 hin with hin | heq
          · exact hdisj' p (hsubAB p hp) hin
          · exact hnotAB p hp heq
        nocomp := by
          intro m hm hall
          by_cases hmk : m = k'
          · subst hmk
            exact hnotAB _ (hall 0 (by omega)) rfl
          · exact h.nocomp m hm fun j hj =>
              ((hmem _).1 (hsubAB _ (hall j hj))).resolve_right fun heq => hmk (congrArg Prod.fst heq)
        track := by
          intro p hp
          rcases htrack' p hp with hin | hin
          · rw [hU'] at hin
            simp only [List.mem_append] at hin
            rcases hin with (hin | hin) | hin
            · exact .inl (by simp [hin])
            · rw [hRk] at hin; exact .inr (mem_append_snoc.2 (.inr (mem_msgIdx.1 hin).1))
            · exact .inl (by simp [hin])
          · exact .inr (mem_append_snoc.2 (.inl hin)) }

theorem ufrags_payload (S : Sender) (σ) (k : Nat) :
    (((msgIdx k (S.nf k)).map (S.ufrag σ)).map (·.userData)).flatten = (S.msg k).payload := by
  rw [← dataFrags_payload S k]
  simp [msgIdx, List.map_map, Function.comp_def, Sender.ufrag, Sender.udataFrag]

/-- `read` with a complete unordered message waiting (DATA framing, any queue): it serves the FIRST set of `unordered`,
whatever the ordered containers hold; either the buffer is too short and nothing changes, or exactly that set leaves and
the counter is the only other field written. -/
theorem read_unordered_head (q : Q) (hil : q.useInterleaving = false) {cset : ChunkSet} {rest : List ChunkSet}
    (hun : q.unordered = cset :: rest) (n : Nat) :
    ((q.read n).2.err = .shortBuffer ∧ (q.read n).1 = q) ∨
    ((q.read n).2.err = .ok ∧ (q.read n).2.ppi = cset.ppi ∧ (q.read n).2.data = (cset.chunks.map (·.userData)).flatten ∧
      ∃ nb, (q.read n).1 = { q with unordered := rest, nBytes := nb }) := by
  unfold Q.read
  simp only [hil, Bool.false_eq_true, ↓reduceIte, hun]
  cases herr : (copyLoop (n : Int) cset.chunks 0 false []).2.1 with
  | true => left; simp [herr]
  | false =>
    right
    simp only [herr, Bool.false_eq_true, ↓reduceIte, copyLoop_ok _ _ _ _ herr, List.nil_append]
    exact ⟨trivial, trivial, trivial, _, rfl⟩

/-- on a refined state that set is message `k`, the first of `W` -/
theorem UInv.read {S σ q D W U P G} (h : UInv S σ q D W U P G) {k : Nat} {W' : List Nat} (hW : W = k :: W') (n : Nat) :
    ((q.read n).2.err = .shortBuffer ∧ (q.read n).1 = q) ∨
    ((q.read n).2.err = .ok ∧ (q.read n).2.ppi = (S.msg k).ppi ∧ (q.read n).2.data = (S.msg k).payload ∧
      FrameU q (q.read n).1 ∧ (q.read n).1.unorderedChunks = q.unorderedChunks ∧
      UInv S σ (q.read n).1 (D ++ [k]) W' U P G) := by
  subst hW
  refine (read_unordered_head q h.il (h.un.trans (List.map_cons ..)) n).imp_right fun ⟨hok, hppi, hdata, nb, hq⟩ => ?_
  have e : (D ++ [k]) ++ W' = D ++ k :: W' := (List.append_cons ..).symm
  rw [hq]
  exact ⟨hok, hppi, hdata.trans (ufrags_payload S σ k), by constructor <;> rfl, rfl,
    { h with un := rfl, nodup := e ▸ h.nodup, dwlen := e ▸ h.dwlen, dwpush := e ▸ h.dwpush, disj := e ▸ h.disj,
             track := e ▸ h.track }⟩

end Reasm
