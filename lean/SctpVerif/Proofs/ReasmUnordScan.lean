import SctpVerif.Model.Reasm
/-!
C06, unordered reassembly, universe free: what the scan of `findCompleteUnorderedChunkSet` extracts from ANY slice. The scan restarts at every B, gives up a run at the
first TSN gap and stops at the first E: what it cuts out is a `BERun` — first chunk B, last chunk E, no E
before the last, every TSN the previous one + 1. (`chunksComplete` alone is weaker: it accepts B…E B…E with
consecutive TSNs, the splice of two adjacent messages; the scan never produces that.)
Second part: a scan that cannot end with `none` on a suffix cannot on the whole slice (`scan_skip_prefix`).
No lemma here uses the sender universe; `Sender` reaches `Proofs/ReasmUnordUniv.lean` through the import of
`Proofs/ReasmOrd.lean` above.
-/
set_option linter.unusedVariables false
set_option linter.unusedSimpArgs false
namespace Reasm
open Gen

/-- a run in progress: first chunk has B, nobody has E yet, TSNs consecutive; `last` = TSN of the last chunk. -/
inductive OpenRun : List Chunk → BitVec 32 → Prop
  | one (c : Chunk) : c.bf = true → c.ef = false → OpenRun [c] c.tsn
  | snoc {r : List Chunk} {last : BitVec 32} (c : Chunk) :
      OpenRun r last → c.tsn = last + 1 → c.ef = false → OpenRun (r ++ [c]) c.tsn

/-- what the scan extracts: `B … E`, TSN-consecutive, no `E` before the last chunk. -/
inductive BERun : List Chunk → Prop
  | single (c : Chunk) : c.bf = true → c.ef = true → BERun [c]
  | close {r : List Chunk} {last : BitVec 32} (c : Chunk) :
      OpenRun r last → c.tsn = last + 1 → c.ef = true → BERun (r ++ [c])

theorem OpenRun.ne_nil {r last} (h : OpenRun r last) : r ≠ [] := by
  cases h <;> simp

theorem BERun.ne_nil {r} (h : BERun r) : r ≠ [] := by
  cases h <;> simp

/-- soundness of the scan, both loop states (`startIdx < 0` / a run in progress). -/
theorem scan_found (cs : List Chunk) :
    (∀ (pre : List Chunk) (n : Nat) (last : BitVec 32) (s' n' : Nat),
      scanUnordered cs pre.length none n last = some (s', n') →
      ∃ a r b, pre ++ cs = a ++ r ++ b ∧ a.length = s' ∧ r.length = n' ∧ BERun r) ∧
    (∀ (pre r : List Chunk) (last : BitVec 32) (s' n' : Nat), OpenRun r last →
      scanUnordered cs (pre.length + r.length) (some pre.length) r.length last = some (s', n') →
      ∃ a r' b, pre ++ r ++ cs = a ++ r' ++ b ∧ a.length = s' ∧ r'.length = n' ∧ BERun r') := by
  induction cs with
  | nil => exact ⟨fun _ _ _ _ _ h => (by cases h), fun _ _ _ _ _ _ h => (by cases h)⟩
  | cons c cs ih =>
    obtain ⟨ih1, ih2⟩ := ih
    have hsnoc : ∀ l : List Chunk, l ++ [c] ++ cs = l ++ c :: cs := fun l => List.append_assoc ..
    have hlen : ∀ l : List Chunk, (l ++ [c]).length = l.length + 1 := fun l => List.length_append
    -- `c` carries B: a run starts here, whatever the loop state was
    have hB : ∀ (full : List Chunk) (s' n' : Nat), c.bf = true →
        (if c.ef = true then some (full.length, 1)
          else scanUnordered cs (full.length + 1) (some full.length) 1 c.tsn) = some (s', n') →
        ∃ a r b, full ++ c :: cs = a ++ r ++ b ∧ a.length = s' ∧ r.length = n' ∧ BERun r := by
      intro full s' n' hb h
      by_cases he : c.ef = true
      · rw [if_pos he] at h
        cases h
        exact ⟨full, [c], cs, (hsnoc full).symm, rfl, rfl, .single c hb he⟩
      · rw [if_neg he] at h
        exact hsnoc full ▸ ih2 full [c] c.tsn s' n' (.one c hb (Bool.eq_false_iff.2 he)) h
    constructor
    · intro pre n last s' n' h
      rw [scanUnordered] at h
      by_cases hb : c.bf = true
      · rw [if_pos hb] at h; exact hB pre s' n' hb h
      · rw [if_neg hb] at h
        exact hsnoc pre ▸ ih1 (pre ++ [c]) n last s' n' (hlen pre ▸ h)
    · intro pre r last s' n' hr h
      rw [scanUnordered, ← List.length_append] at h
      by_cases hb : c.bf = true
      · rw [if_pos hb] at h; exact hB (pre ++ r) s' n' hb h
      · rw [if_neg hb] at h
        by_cases ht : (c.tsn != last + 1) = true
        · rw [if_pos ht] at h
          exact hsnoc (pre ++ r) ▸ ih1 (pre ++ r ++ [c]) r.length last s' n' (hlen (pre ++ r) ▸ h)
        · rw [if_neg ht] at h
          have ht' : c.tsn = last + 1 := by simpa using ht
          have hcut : pre ++ r ++ c :: cs = pre ++ (r ++ [c]) ++ cs := by
            rw [← hsnoc, List.append_assoc pre r]
          by_cases he : c.ef = true
          · rw [if_pos he] at h; cases h
            exact ⟨pre, r ++ [c], cs, hcut, rfl, hlen r, .close c hr ht' he⟩
          · rw [if_neg he] at h
            refine hcut ▸ ih2 pre (r ++ [c]) c.tsn s' n' (.snoc c hr ht' (Bool.eq_false_iff.2 he)) ?_
            rw [hlen, ← Nat.add_assoc, ← List.length_append]
            exact h

/-- `findCompleteUnorderedChunkSet` never panics; it either finds nothing (the scan ran to the end) or cuts a
`BERun` out of the slice, leaving the rest in order; the set's PPI is the first chunk's. -/
theorem findCompleteUnordered_cases (uc : List Chunk) :
    (findCompleteUnorderedChunkSet uc = .notFound ∧ scanUnordered uc 0 none 0 0 = none) ∨
    (∃ a r b c0 tl, uc = a ++ r ++ b ∧ BERun r ∧ r = c0 :: tl ∧
      findCompleteUnorderedChunkSet uc = .found { ssn := 0, ppi := c0.ppi, chunks := r } (a ++ b)) := by
  unfold findCompleteUnorderedChunkSet
  cases hs : scanUnordered uc 0 none 0 0 with
  | none => left; exact ⟨rfl, rfl⟩
  | some sn =>
    obtain ⟨s, n⟩ := sn
    right
    obtain ⟨a, r, b, huc, ha, hr, hrun⟩ := (scan_found uc).1 [] 0 0 s n (by simpa using hs)
    simp only [List.nil_append] at huc
    have h1 : (uc.drop s).take n = r := by
      rw [huc, List.append_assoc, List.drop_left' ha, List.take_left' hr]
    have h2 : uc.take s = a := by rw [huc, List.append_assoc, List.take_left' ha]
    have h3 : uc.drop (s + n) = b := by
      rw [huc]; exact List.drop_left' (by simp [ha, hr])
    cases hrc : r with
    | nil => exact absurd hrc hrun.ne_nil
    | cons c0 tl =>
      refine ⟨a, r, b, c0, tl, huc, hrun, hrc, ?_⟩
      simp only [h1, h2, h3]
      rw [hrc]

/-! ### completeness of the scan (structural part): if the scan of a suffix `R` never ends with `none`, whatever the
loop state, neither does the scan of `A ++ R`. That the fragments of one message followed by anything are such an `R`
is `scan_full` in `Proofs/ReasmUnordUniv.lean`. -/

theorem ite_elim {α : Sort _} {P : α → Prop} {c : Prop} [Decidable c] {a b : α} (ha : P a) (hb : P b) :
    P (if c then a else b) :=
  iteInduction (fun _ => ha) fun _ => hb

/-- every arm of the loop body either stops with a result or goes on with the rest of the slice. -/
theorem scan_cons_ne_none {c : Chunk} {cs : List Chunk} (h : ∀ i st n last, scanUnordered cs i st n last ≠ none)
    (i st n last) : scanUnordered (c :: cs) i st n last ≠ none := by
  have hB := ite_elim (P := (· ≠ none)) (c := c.ef = true) (Option.some_ne_none (i, 1)) (h (i + 1) (some i) 1 c.tsn)
  cases st with
  | none =>
    rw [scanUnordered]
    exact ite_elim (P := (· ≠ none)) hB (h _ _ _ _)
  | some s =>
    rw [scanUnordered]
    exact ite_elim (P := (· ≠ none)) hB
      (ite_elim (P := (· ≠ none)) (h _ _ _ _) (ite_elim (P := (· ≠ none)) (Option.some_ne_none _) (h _ _ _ _)))

theorem scan_skip_prefix (A R : List Chunk) (hR : ∀ i st n last, scanUnordered R i st n last ≠ none) :
    ∀ i st n last, scanUnordered (A ++ R) i st n last ≠ none := by
  induction A with
  | nil => exact hR
  | cons c A ih => exact scan_cons_ne_none ih

end Reasm
