import SctpVerif.Proofs.ReasmOrd
import SctpVerif.Proofs.ReasmUnordScan
/-!
C06, unordered reassembly: the honest sender's universe of UNORDERED DATA fragments
(`Sender` of `Proofs/ReasmOrd.lean`: message `k` occupies the TSNs `t0 + base k + i`, `base k` = fragments of the
earlier messages + `skip k` TSNs of other traffic), what a `BERun` of such fragments is (exactly one message), and
that the scan finds a message whose fragments are all in the TSN-sorted slice.
-/
set_option linter.unusedVariables false
set_option linter.unusedSimpArgs false
namespace Reasm
open Gen

/-- unordered DATA fragment `i` of message `k`: as `dataFrag` with the U flag; the SSN field `σ k` is whatever the
sender put there (pion: the stream's current SSN, not incremented) — the unordered path never reads it. -/
def Sender.udataFrag (S : Sender) (σ : Nat → BitVec 16) (k i : Nat) : Chunk :=
  { S.dataFrag k i with unordered := true, ssn := σ k }

/-- offset of fragment `p = (k, i)` from `t0` in the TSN space. -/
def Sender.pos (S : Sender) (p : Nat × Nat) : Nat := S.base p.1 + p.2

def Sender.ufrag (S : Sender) (σ : Nat → BitVec 16) (p : Nat × Nat) : Chunk := S.udataFrag σ p.1 p.2

def Sender.Valid (S : Sender) (p : Nat × Nat) : Prop := p.1 < S.msgs.length ∧ p.2 < S.nf p.1

/-- the universe hypothesis for unordered DATA: messages well formed, disjoint TSN ranges in message order
(`skip` monotone: TSNs of other traffic in between, never overlapping), the whole universe inside one half-space
window of the TSN space. -/
structure Sender.UWF (S : Sender) : Prop where
  wf : S.WF
  mono : ∀ k, S.skip k ≤ S.skip (k + 1)
  span : S.base S.msgs.length ≤ 2^31

theorem Sender.base_succ (S : Sender) {k : Nat} (hk : k < S.msgs.length) :
    ((S.msgs.take (k + 1)).map Msg.nf).sum = ((S.msgs.take k).map Msg.nf).sum + S.nf k := by
  rw [List.take_add_one, List.getElem?_eq_getElem hk, Option.toList_some, List.map_append, List.sum_append]
  simp [Sender.nf, Sender.msg, List.getD_eq_getElem?_getD, List.getElem?_eq_getElem hk]

theorem Sender.base_step (S : Sender) (hS : S.UWF) {k : Nat} (hk : k < S.msgs.length) :
    S.base k + S.nf k ≤ S.base (k + 1) := by
  have := S.base_succ hk
  have := hS.mono k
  simp only [Sender.base] at *
  omega

theorem Sender.base_mono (S : Sender) (hS : S.UWF) {k k' : Nat} (h : k < k') (hk' : k' ≤ S.msgs.length) :
    S.base k + S.nf k ≤ S.base k' := by
  induction k' with
  | zero => omega
  | succ n ih =>
    rcases Nat.lt_or_ge k n with hlt | hge
    · have := ih hlt (by omega)
      have := S.base_step hS (k := n) (by omega)
      omega
    · have : k = n := by omega
      subst this
      exact S.base_step hS (by omega)

theorem Sender.pos_lt (S : Sender) (hS : S.UWF) {p : Nat × Nat} (hp : S.Valid p) : S.pos p < 2^31 := by
  have h1 := S.base_mono hS (k := p.1) (k' := S.msgs.length) hp.1 (Nat.le_refl _)
  have := hS.span
  have := hp.2
  simp only [Sender.pos]
  omega

/-- a valid fragment at offset `base k + j`, `j < nf k`, is fragment `j` of message `k`: the TSN ranges of the messages
are disjoint and in message order. -/
theorem Sender.pos_eq (S : Sender) (hS : S.UWF) {k j : Nat} {p' : Nat × Nat} (hk : k < S.msgs.length)
    (hj : j < S.nf k) (hp' : S.Valid p') (h : S.pos p' = S.base k + j) : p' = (k, j) := by
  obtain ⟨k', i'⟩ := p'
  simp only [Sender.pos, Sender.Valid] at *
  rcases Nat.lt_trichotomy k' k with hlt | heq | hgt
  · have := S.base_mono hS hlt (by omega); omega
  · subst heq
    have : i' = j := by omega
    rw [this]
  · have := S.base_mono hS hgt (by omega); omega

/-- the next TSN after fragment `p` (not the last of its message) belongs to the next fragment of the same message. -/
theorem Sender.pos_succ (S : Sender) (hS : S.UWF) {p p' : Nat × Nat} (hp : S.Valid p) (hp' : S.Valid p')
    (hnl : p.2 + 1 < S.nf p.1) (h : S.pos p' = S.pos p + 1) : p' = (p.1, p.2 + 1) :=
  S.pos_eq hS hp.1 hnl hp' h

theorem Sender.pos_inj (S : Sender) (hS : S.UWF) {p p' : Nat × Nat} (hp : S.Valid p) (hp' : S.Valid p')
    (h : S.pos p' = S.pos p) : p' = p :=
  S.pos_eq hS hp.1 hp.2 hp' h

theorem ufrag_tsn (S : Sender) (σ) (p : Nat × Nat) :
    (S.ufrag σ p).tsn = S.t0 + BitVec.ofNat 32 (S.pos p) := rfl

theorem ufrag_tsn_lt (S : Sender) (hS : S.UWF) (σ) {a b : Nat × Nat} (ha : S.Valid a) (hb : S.Valid b) :
    sna32LT (S.ufrag σ a).tsn (S.ufrag σ b).tsn = decide (S.pos a < S.pos b) := by
  have := S.pos_lt hS ha
  have := S.pos_lt hS hb
  rw [ufrag_tsn, ufrag_tsn, Sna.lt32_add_left, Sna.lt32_ofNat _ _ (by omega) (by omega)]

theorem ofNat32_succ (a : Nat) : BitVec.ofNat 32 (a + 1) = BitVec.ofNat 32 a + 1 := BitVec.ofNat_add ..

theorem ufrag_tsn_succ (S : Sender) (hS : S.UWF) (σ) {a b : Nat × Nat} (ha : S.Valid a) (hb : S.Valid b)
    (h : (S.ufrag σ b).tsn = (S.ufrag σ a).tsn + 1) : S.pos b = S.pos a + 1 := by
  have := S.pos_lt hS ha
  have := S.pos_lt hS hb
  rw [ufrag_tsn, ufrag_tsn, BitVec.add_assoc, ← ofNat32_succ, BitVec.add_right_inj] at h
  have h2 := congrArg BitVec.toNat h
  rw [BitVec.toNat_ofNat, BitVec.toNat_ofNat] at h2
  omega

theorem udataFrag_tsn_next (S : Sender) (σ) (k j : Nat) :
    (S.udataFrag σ k (j + 1)).tsn = (S.udataFrag σ k j).tsn + 1 := by
  show S.t0 + BitVec.ofNat 32 (S.base k + (j + 1)) = S.t0 + BitVec.ofNat 32 (S.base k + j) + 1
  rw [← Nat.add_assoc, ofNat32_succ, BitVec.add_assoc]

/-- the chunk whose TSN follows fragment `n` (not the last) of message `k` is fragment `n + 1` of message `k`. -/
theorem ufrag_next (S : Sender) (hS : S.UWF) (σ) {k n : Nat} {p : Nat × Nat} (hk : k < S.msgs.length)
    (hn : n + 1 < S.nf k) (hvp : S.Valid p) (ht : (S.ufrag σ p).tsn = (S.udataFrag σ k n).tsn + 1) : p = (k, n + 1) :=
  have hvk : S.Valid (k, n) := ⟨hk, Nat.lt_of_succ_lt hn⟩
  S.pos_succ hS hvk hvp hn (ufrag_tsn_succ S hS σ hvk hvp ht)

/-- the fragments of message `k`, as index pairs. -/
def msgIdx (k n : Nat) : List (Nat × Nat) := (List.range n).map (fun j => (k, j))

theorem msgIdx_succ (k n : Nat) : msgIdx k (n + 1) = msgIdx k n ++ [(k, n)] := by
  simp [msgIdx, List.range_succ]

theorem mem_msgIdx {k n : Nat} {p : Nat × Nat} : p ∈ msgIdx k n ↔ p.1 = k ∧ p.2 < n := by
  obtain ⟨a, b⟩ := p
  simp only [msgIdx, List.mem_map, List.mem_range, Prod.mk.injEq]
  constructor
  · rintro ⟨j, hj, rfl, rfl⟩; exact ⟨rfl, hj⟩
  · rintro ⟨rfl, h⟩; exact ⟨b, h, rfl, rfl⟩

theorem map_eq_snoc {α β} (f : α → β) {ps : List α} {r : List β} {c : β} (h : r ++ [c] = ps.map f) :
    ∃ ps0 p, ps = ps0 ++ [p] ∧ r = ps0.map f ∧ c = f p := by
  have h' := h.symm
  rw [List.map_eq_append_iff] at h'
  obtain ⟨l1, l2, rfl, h1, h2⟩ := h'
  rw [List.map_eq_singleton_iff] at h2
  obtain ⟨p, rfl, hp⟩ := h2
  exact ⟨l1, p, rfl, h1.symm, hp.symm⟩

/-- a run in progress made of universe fragments is the first `n` fragments of ONE message, `n < nf`. -/
theorem openRun_universe (S : Sender) (hS : S.UWF) (σ) {r : List Chunk} {last : BitVec 32} (h : OpenRun r last) :
    ∀ ps : List (Nat × Nat), r = ps.map (S.ufrag σ) → (∀ p ∈ ps, S.Valid p) →
      ∃ k n, ps = msgIdx k (n + 1) ∧ n + 1 < S.nf k ∧ k < S.msgs.length ∧ last = (S.udataFrag σ k n).tsn := by
  induction h with
  | one c hb he =>
    intro ps hps hv
    have hps' := hps.symm
    rw [List.map_eq_singleton_iff] at hps'
    obtain ⟨p, rfl, rfl⟩ := hps'
    obtain ⟨k, i⟩ := p
    have hvp := hv (k, i) (by simp)
    have hi : i = 0 := beq_iff_eq.1 hb
    subst hi
    have hne : 0 + 1 ≠ S.nf k := beq_eq_false_iff_ne.1 he
    have hnf : 0 < S.nf k := hvp.2
    exact ⟨k, 0, rfl, by omega, hvp.1, rfl⟩
  | snoc c hr ht he ih =>
    rename_i r0 last0
    intro ps hps hv
    obtain ⟨ps0, p, rfl, hr0, rfl⟩ := map_eq_snoc _ hps
    obtain ⟨k, n, rfl, hn, hk, hlast⟩ := ih ps0 hr0 (fun x hx => hv x (by simp [hx]))
    have hp := ufrag_next S hS σ hk hn (hv p (by simp)) (by rw [ht, hlast])
    subst hp
    have hne : n + 1 + 1 ≠ S.nf k := beq_eq_false_iff_ne.1 he
    exact ⟨k, n + 1, (msgIdx_succ k (n + 1)).symm, by omega, hk, rfl⟩

/-- ✱ the characterisation: a `B … E` run (as the scan extracts it) made of universe fragments is exactly ALL
fragments of ONE message — never a fragment, never a splice of two messages. -/
theorem beRun_universe (S : Sender) (hS : S.UWF) (σ) {r : List Chunk} (h : BERun r) (ps : List (Nat × Nat))
    (hps : r = ps.map (S.ufrag σ)) (hv : ∀ p ∈ ps, S.Valid p) :
    ∃ k, k < S.msgs.length ∧ ps = msgIdx k (S.nf k) := by
  cases h with
  | single c hb he =>
    have hps' := hps.symm
    rw [List.map_eq_singleton_iff] at hps'
    obtain ⟨p, rfl, rfl⟩ := hps'
    obtain ⟨k, i⟩ := p
    have hvp := hv (k, i) (by simp)
    have hi : i = 0 := beq_iff_eq.1 hb
    subst hi
    have hone : 0 + 1 = S.nf k := beq_iff_eq.1 he
    exact ⟨k, hvp.1, by rw [← hone]; rfl⟩
  | close c hr ht he =>
    rename_i r0 last0
    obtain ⟨ps0, p, rfl, hr0, rfl⟩ := map_eq_snoc _ hps
    obtain ⟨k, n, rfl, hn, hk, hlast⟩ := openRun_universe S hS σ hr ps0 hr0 (fun x hx => hv x (by simp [hx]))
    have hp := ufrag_next S hS σ hk hn (hv p (by simp)) (by rw [ht, hlast])
    subst hp
    have hlast' : n + 1 + 1 = S.nf k := beq_iff_eq.1 he
    exact ⟨k, hk, by rw [← hlast']; exact (msgIdx_succ k (n + 1)).symm⟩

/-! ### the scan finds a message whose fragments are all there -/

theorem scan_run (S : Sender) (σ) (m : Nat) (B : List Chunk) :
    ∀ (n j i s cnt : Nat), 1 ≤ j → j + n = S.nf m → 1 ≤ n →
      scanUnordered ((List.range' j n).map (S.udataFrag σ m) ++ B) i (some s) cnt (S.udataFrag σ m (j - 1)).tsn ≠ none := by
  intro n
  induction n with
  | zero => intro j i s cnt _ _ h; omega
  | succ n ih =>
    intro j i s cnt hj hjn _
    obtain ⟨j0, rfl⟩ : ∃ j0, j = j0 + 1 := ⟨j - 1, by omega⟩
    rw [List.range'_succ, List.map_cons, List.cons_append, scanUnordered,
      if_neg (show ¬ (S.udataFrag σ m (j0 + 1)).bf = true from Bool.false_ne_true),
      if_neg (by rw [bne_iff_ne, Decidable.not_not]; exact udataFrag_tsn_next S σ m j0)]
    by_cases hn : n = 0
    · rw [if_pos (show (S.udataFrag σ m (j0 + 1)).ef = true from beq_iff_eq.2 (by omega))]
      exact Option.some_ne_none _
    · rw [if_neg (show ¬ (S.udataFrag σ m (j0 + 1)).ef = true from fun h => hn (by have := beq_iff_eq.1 h; omega))]
      exact ih (j0 + 1 + 1) (i + 1) s (cnt + 1) (by omega) (by omega) (by omega)

theorem scan_full (S : Sender) (σ) (m : Nat) (hnf : 1 ≤ S.nf m) (B : List Chunk) :
    ∀ i st n last, scanUnordered ((msgIdx m (S.nf m)).map (S.ufrag σ) ++ B) i st n last ≠ none := by
  intro i st n last
  obtain ⟨n0, hn0⟩ : ∃ n0, S.nf m = n0 + 1 := ⟨S.nf m - 1, by omega⟩
  have e : (msgIdx m (S.nf m)).map (S.ufrag σ) = (List.range' 0 (n0 + 1)).map (S.udataFrag σ m) := by
    simp [msgIdx, hn0, List.range_eq_range', Sender.ufrag, Function.comp_def]
  rw [e, List.range'_succ, List.map_cons, List.cons_append]
  have hscan : (if (S.udataFrag σ m 0).ef = true then some (i, 1)
      else scanUnordered ((List.range' 1 n0).map (S.udataFrag σ m) ++ B) (i + 1) (some i) 1 (S.udataFrag σ m 0).tsn)
      ≠ none := by
    by_cases h1 : n0 = 0
    · rw [if_pos (show (S.udataFrag σ m 0).ef = true from beq_iff_eq.2 (by omega))]; exact Option.some_ne_none _
    · rw [if_neg (show ¬ (S.udataFrag σ m 0).ef = true from fun h => h1 (by have := beq_iff_eq.1 h; omega))]
      exact scan_run S σ m B n0 1 (i + 1) i 1 (by omega) (by omega) (by omega)
  cases st with
  | none => rw [scanUnordered, if_pos (show (S.udataFrag σ m 0).bf = true from rfl)]; exact hscan
  | some s => rw [scanUnordered, if_pos (show (S.udataFrag σ m 0).bf = true from rfl)]; exact hscan

/-- in a list strictly sorted by TSN offset, fragments `j … j+n-1` of message `m`, if all present and nothing in the
list lies below fragment `j`, are the first `n` elements. -/
theorem sorted_contig (S : Sender) (m : Nat) :
    ∀ (n j : Nat) (T : List (Nat × Nat)), T.Pairwise (fun a b => S.pos a < S.pos b) →
      (∀ p ∈ T, S.base m + j ≤ S.pos p) → (∀ j', j ≤ j' → j' < j + n → (m, j') ∈ T) →
      ∃ B, T = (List.range' j n).map (fun j => (m, j)) ++ B := by
  intro n
  induction n with
  | zero => intro j T _ _ _; exact ⟨T, by simp⟩
  | succ n ih =>
    intro j T hs hlo hall
    have hj := hall j (Nat.le_refl _) (by omega)
    cases T with
    | nil => simp at hj
    | cons h T' =>
      rw [List.pairwise_cons] at hs
      have hh : h = (m, j) := by
        rcases List.mem_cons.1 hj with e | hin
        · exact e.symm
        · have := hs.1 _ hin
          have := hlo h (List.mem_cons_self ..)
          simp only [Sender.pos] at *; omega
      subst hh
      obtain ⟨B, hB⟩ := ih (j + 1) T' hs.2
        (by intro p hp; have := hs.1 p hp; simp only [Sender.pos] at *; omega)
        (by
          intro j' h1 h2
          rcases List.mem_cons.1 (hall j' (by omega) (by omega)) with e | hin
          · simp only [Prod.mk.injEq] at e; omega
          · exact hin)
      exact ⟨B, by rw [List.range'_succ, List.map_cons, List.cons_append, ← hB]⟩

/-- a strictly sorted list that contains every fragment of message `m` has them side by side. -/
theorem sorted_has_all (S : Sender) (m : Nat) (hnf : 1 ≤ S.nf m) (U : List (Nat × Nat))
    (hs : U.Pairwise (fun a b => S.pos a < S.pos b)) (hall : ∀ j, j < S.nf m → (m, j) ∈ U) :
    ∃ A B, U = A ++ msgIdx m (S.nf m) ++ B := by
  obtain ⟨A, T, hU⟩ := List.append_of_mem (hall 0 (by omega))
  subst hU
  rw [List.pairwise_append] at hs
  obtain ⟨hA, hT, hAT⟩ := hs
  have hlow : ∀ a ∈ A, S.pos a < S.base m := by
    intro a ha
    have := hAT a ha (m, 0) (List.mem_cons_self ..)
    simpa [Sender.pos] using this
  obtain ⟨B, hB⟩ := sorted_contig S m (S.nf m) 0 ((m, 0) :: T) hT
    (by
      intro p hp
      rcases List.mem_cons.1 hp with rfl | hin
      · simp [Sender.pos]
      · rw [List.pairwise_cons] at hT
        have := hT.1 p hin
        simp only [Sender.pos] at *; omega)
    (by
      intro j' _ hj'
      rcases List.mem_append.1 (hall j' (by omega)) with hin | hin
      · have := hlow _ hin; simp only [Sender.pos] at this; omega
      · exact hin)
  refine ⟨A, B, ?_⟩
  rw [hB, List.append_assoc]
  simp [msgIdx, List.range_eq_range']

end Reasm
