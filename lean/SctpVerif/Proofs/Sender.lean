import SctpVerif.Proofs.Sender.Arith
import SctpVerif.Proofs.Sender.Gather
import SctpVerif.Proofs.Sender.Window
import SctpVerif.Proofs.Sender.QueueRel
import SctpVerif.Proofs.Sender.Step
import SctpVerif.Proofs.Sender.Frames
import SctpVerif.Proofs.Sender.Admit
import SctpVerif.Proofs.Sender.WinRun
import SctpVerif.Proofs.Sender.Queue
import SctpVerif.Proofs.Sender.Loss
import SctpVerif.Proofs.Sender.Books
import SctpVerif.Proofs.Sender.Acct
import SctpVerif.Proofs.Sender.Callback
import SctpVerif.Proofs.Sender.Seq
import SctpVerif.Proofs.Sender.Rtx
import SctpVerif.Proofs.Sender.Adv
import SctpVerif.Proofs.Sender.AdvMsg
import SctpVerif.Proofs.Sender.Progress
import SctpVerif.Proofs.Sender.Recover
import SctpVerif.Proofs.Sender.Wire
import SctpVerif.Proofs.Sender.MsgId
/-! Helper lemmas about the L0 sender model `Model/Sender.lean` (used by `Props/C10.lean`, `Props/C15.lean`):
`Arith` packet/chunk sizes · `Ops` every operation by its outcomes and the fields it writes · `Gather` the scan loops · `Window`/`Admit` admission of new DATA · `QueueRel` pointwise relations between queues, what a transition can make of a queued chunk · `Step` every operation as a sequence of atomic changes, in layers · `Frames` what the
bookkeeping layer leaves alone · `WinRun` window invariants over runs, the configuration never changes · `Queue` how the in-flight queue evolves along the operations: pointwise rewriting of flags, `markAsAcked`, a dropped prefix, appended new DATA · `Loss` loss response · `Books`/`Acct`
byte accounting · `Callback` low-threshold callback · `Seq` TSN contiguity, a validated SACK is applied completely · `Adv` partial reliability: abandonment, advanced peer
ack point, FORWARD-TSN contents · `AdvMsg` who can be abandoned, which retransmission paths test `abandoned()` (`Props/C07.lean`) · `Progress` T3 marks all, lowest flagged chunk retransmitted, zero-window probe, cumulative SACK, the drain rounds · `Recover` recovery against a peer that keeps nothing beyond its cumulative point (`Props/C02.lean`). -/
