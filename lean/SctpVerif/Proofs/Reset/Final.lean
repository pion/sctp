import SctpVerif.Proofs.Reset.GStep
/-!
The end-to-end consequence of the invariants: an object whose reader has been given EOF has handed out every message
its partner wrote. Also `Sys.Step.il`: a step keeps the framing flag of both endpoints equal.
-/
namespace Rs

/-- `R` holds the reader object `o` (EOF already reported), `S` is the peer. -/
theorem eof_after_data_core {S R : Ep} {H : List Msg} {taint : List Nat} {gen : Nat → Nat}
    (c : HCtx S R H taint gen) (hil : R.il = S.il)
    (ho : Nat) (o : Obj) (hobj : R.objs[ho]? = some o) (heof : o.eofSeen = true) (ht : o.sid ∉ taint) :
    ∃ (hw : Nat) (w : Obj), S.objs[hw]? = some w ∧ w.sid = o.sid ∧ w.gen = o.gen ∧ ¬ isOpen w ∧
      (wroteCls w false).Sublist (ordGot o) ∧ ∀ m, (m, true) ∈ w.wrote → (m, true) ∈ o.got := by
  obtain ⟨sS, wS, x, rR, gR, gS⟩ := c
  obtain ⟨hre, hnone⟩ := rR.eofErr ho o hobj heof
  have hrd := rR.reader ho o hobj
  obtain ⟨hw, w, hwo, hws, hwg, hdead, hall⟩ := gR.eofLink ho o hobj ht hre
  obtain ⟨rq, hrq, hmem, _⟩ := hdead
  obtain ⟨hlen, _, hrec⟩ := sS.recOK rq hrq
  obtain ⟨sd, hz⟩ := mem_wobjs_zip rq hlen hw hmem
  obtain ⟨w2, hw2, _, hclosed, _, hnopend, _⟩ := hrec _ hz
  simp only at hw2
  rw [hwo] at hw2; cases hw2
  -- every chunk the reader object holds was written by w
  have hfrom : ∀ c ∈ o.rx, c ∈ S.sent ∧ c.d.wobj = hw := by
    intro c hc
    obtain ⟨hcs, hsid, _⟩ := x.rx ho o hobj c hc
    have hi : c.d ∈ S.items := by unfold Ep.items; exact List.mem_append_left _ (List.mem_map_of_mem hcs)
    obtain ⟨w3, hw3, hs3, hg3, _, _⟩ := wS.item c.d hi
    have hg : c.d.gen = o.gen := gR.rxGen ho o hobj ht c hc
    have : c.d.wobj = hw := gS.uniq _ hw w3 w hw3 hwo (by rw [hs3, hsid]; exact ht) (by rw [hs3, hsid, hws]) (by rw [hg3, hg, hwg])
    exact ⟨hcs, this⟩
  -- the numbering of w's messages on the wire
  have hnum : ∀ c ∈ o.rx, ∀ u, c.d.unord = u → numbered S.il u = true → (wroteCls w u)[c.d.seq]? = some c.d.msg := by
    intro c hc u hu hn
    obtain ⟨hcs, hcw⟩ := hfrom c hc
    have hi : c.d ∈ S.items := by unfold Ep.items; exact List.mem_append_left _ (List.mem_map_of_mem hcs)
    obtain ⟨w3, hw3, _, _, _, hnum⟩ := wS.item c.d hi
    rw [hcw, hwo] at hw3; cases hw3
    rw [← hu]; exact hnum (by rw [hu]; exact hn)
  -- every data item of w is a chunk that was sent (nothing of a closed, requested object is pending): it is in o.rx
  have hitem : ∀ d ∈ S.items, d.wobj = hw → ∃ c ∈ o.rx, c.d = d := by
    intro d hd hdw
    unfold Ep.items at hd
    rcases List.mem_append.mp hd with h | h
    · obtain ⟨c, hc, rfl⟩ := List.mem_map.mp h
      exact ⟨c, hall c hc hdw, rfl⟩
    · exact absurd hdw (hnopend d ((mem_pendData _ _).mp h))
  refine ⟨hw, w, hwo, hws, hwg, hclosed, ?_, ?_⟩
  · -- ordered messages: the cursor has passed all of them, and what was handed out below the cursor is a prefix
    have hpre := hrd.pref (wroteCls w false) (fun c hc hu => hnum c hc false hu (by simp [numbered]))
    have hpast : (wroteCls w false).length ≤ o.nextSeq := by
      apply cursor_past R.il o hrd hnone
      intro k hk
      obtain ⟨d, hd, hdw, hdu, hds, _⟩ := wS.coverN hw w hwo false k _ (by simp [numbered]) (List.getElem?_eq_getElem hk)
      obtain ⟨c, hc, rfl⟩ := hitem d hd hdw
      exact ⟨c, hc, hdu, hds⟩
    rw [List.take_of_length_le hpast] at hpre
    exact hpre
  · intro m hm
    obtain ⟨d, hd, hdw, hdu, hdm⟩ := wS.cover hw w hwo m true hm
    obtain ⟨c, hc, rfl⟩ := hitem d hd hdw
    obtain ⟨c', hc', hu', r2, r3, hgot⟩ := unord_all_read R.il o hrd hnone c hc hdu
    cases hilv : R.il with
    | false =>
      have := r3 hilv; subst this
      rw [hdm] at hgot; exact hgot
    | true =>
      have hseq := r2 hilv
      have hn : numbered S.il true = true := by rw [← hil, hilv]; rfl
      have e1 := hnum c' hc' true hu' hn
      have e2 := hnum c hc true hdu hn
      rw [hseq, e2] at e1
      have : c'.d.msg = c.d.msg := (Option.some.inj e1).symm
      rw [this, hdm] at hgot; exact hgot

/-- both endpoints use the same framing -/
theorem Sys.Step.il {s s' : Sys} (st : Sys.Step s s') (h : s.a.il = s.b.il) : s'.a.il = s'.b.il := by
  have key : ∀ (z : Bool) (e' : Ep), e'.il = (s.ep z).il → (s.setEp z e').a.il = (s.setEp z e').b.il := by
    intro z e' he
    cases z <;> simp [Sys.setEp, Sys.ep] at he ⊢ <;> rw [he] <;> first | exact h | exact h.symm ▸ rfl
  cases st with
  | same => exact h
  | «local» z e' l => exact key z e' l.app.il
  | reopened z sid hl hq => exact key z _ rfl
  | tainted z sid hl => exact key z _ rfl
  | gathered z sel pre post sack e out hg =>
    obtain ⟨popped, left, _, _, _, _, _, rfl, _⟩ := gather_cases hg
    have := key z _ (gatherEp_fields (s.ep z) popped left).1
    cases z <;> simpa [Sys.put, Sys.setEp] using this
  | delivered x p _ => exact key (!x) _ (handle_frame _ p).1.il

end Rs
