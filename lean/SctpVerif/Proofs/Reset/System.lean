import SctpVerif.Proofs.Reset.Cross
/-!
The invariant of the two-endpoint system: both endpoints satisfy their local invariants (`SInv`, `WInv`, `RInv`) and both
directions satisfy `XInv`. How it is re-established after one endpoint moved (`SysInv.update`, `.local`, `.opened`).
`Sys.Step` / `step_cases`: the operations by what they do to the system; that every such step keeps the invariant
(`Sys.Step.inv`) is in `GStep.lean`, next to the same for the incarnations.
-/
namespace Rs

structure DirInv (s : Sys) (x : Bool) : Prop where
  si : SInv (s.ep x)
  wi : WInv (s.ep x)
  ri : RInv (s.ep x)
  xi : XInv (s.ep x) (s.ep (!x)) (s.hist x)

def SysInv (s : Sys) : Prop := ∀ x, DirInv s x

@[simp] theorem ep_setEp_self (s : Sys) (x : Bool) (e : Ep) : (s.setEp x e).ep x = e := by
  cases x <;> simp [Sys.setEp, Sys.ep]
@[simp] theorem ep_setEp_other (s : Sys) (x : Bool) (e : Ep) : (s.setEp x e).ep (!x) = s.ep (!x) := by
  cases x <;> simp [Sys.setEp, Sys.ep]
@[simp] theorem hist_setEp (s : Sys) (x y : Bool) (e : Ep) : (s.setEp x e).hist y = s.hist y := by
  cases x <;> cases y <;> simp [Sys.setEp, Sys.hist]
@[simp] theorem ep_put_self (s : Sys) (x : Bool) (e : Ep) (o : List Msg) : (s.put x e o).ep x = e := by
  cases x <;> simp [Sys.put, Sys.ep]
@[simp] theorem ep_put_other (s : Sys) (x : Bool) (e : Ep) (o : List Msg) : (s.put x e o).ep (!x) = s.ep (!x) := by
  cases x <;> simp [Sys.put, Sys.ep]
@[simp] theorem hist_put_self (s : Sys) (x : Bool) (e : Ep) (o : List Msg) : (s.put x e o).hist x = s.hist x ++ o := by
  cases x <;> simp [Sys.put, Sys.hist]
@[simp] theorem hist_put_other (s : Sys) (x : Bool) (e : Ep) (o : List Msg) : (s.put x e o).hist (!x) = s.hist (!x) := by
  cases x <;> simp [Sys.put, Sys.hist]

/-- the ghost fields do not matter for the endpoint invariants -/
theorem Sys.ep_ghost (s : Sys) (t : List Nat) (g : Nat → Nat) (x : Bool) : ({ s with taint := t, gen := g } : Sys).ep x = s.ep x := by
  cases x <;> rfl
theorem Sys.hist_ghost (s : Sys) (t : List Nat) (g : Nat → Nat) (x : Bool) : ({ s with taint := t, gen := g } : Sys).hist x = s.hist x := by
  cases x <;> rfl

/-- one endpoint `z` moved from `s.ep z` to `e'` (and put `out` on the wire): what has to be shown -/
theorem SysInv.update {s : Sys} (inv : SysInv s) (z : Bool) (e' : Ep) (out : List Msg)
    (hs : SInv e') (hw : WInv e') (hr : RInv e')
    (hsend : XInv e' (s.ep (!z)) (s.hist z ++ out))
    (hrecv : XInv (s.ep (!z)) e' (s.hist (!z))) : SysInv (s.put z e' out) := by
  intro x
  by_cases hx : x = z
  · subst hx
    refine ⟨by simpa using hs, by simpa using hw, by simpa using hr, ?_⟩
    simpa using hsend
  · have hxz : x = !z := by cases x <;> cases z <;> simp_all
    subst hxz
    have d := inv (!z)
    refine ⟨by simpa using d.si, by simpa using d.wi, by simpa using d.ri, ?_⟩
    have : (s.put z e' out).ep (!(!z)) = e' := by simp
    rw [this]
    simpa using hrecv

/-- the direction in which `z` receives -/
theorem SysInv.xiTo {s : Sys} (inv : SysInv s) (z : Bool) : XInv (s.ep (!z)) (s.ep z) (s.hist (!z)) := by
  simpa using (inv (!z)).xi

theorem put_nil (s : Sys) (z : Bool) (e : Ep) : s.put z e [] = s.setEp z e := by
  cases z <;> simp [Sys.put, Sys.setEp]

theorem setEp_self (s : Sys) (z : Bool) : s.setEp z (s.ep z) = s := by cases z <;> rfl

theorem SysInv.updateEp {s : Sys} (inv : SysInv s) (z : Bool) (e' : Ep)
    (hs : SInv e') (hw : WInv e') (hr : RInv e')
    (hsend : XInv e' (s.ep (!z)) (s.hist z))
    (hrecv : XInv (s.ep (!z)) e' (s.hist (!z))) : SysInv (s.setEp z e') := by
  rw [← put_nil]
  exact inv.update z e' [] hs hw hr (by simpa using hsend) hrecv

theorem close_fields (e : Ep) (h : Nat) :
    (close e h).1.sent = e.sent ∧ (close e h).1.reqLog = e.reqLog ∧ (close e h).1.nextTSN = e.nextTSN ∧
    (close e h).1.reconfigs = e.reconfigs ∧ (close e h).1.rreqs = e.rreqs ∧ (close e h).1.perf = e.perf ∧
    (close e h).1.rcv = e.rcv ∧ (close e h).1.cum = e.cum ∧ ObjsRel ReaderSame e.objs (close e h).1.objs := by
  unfold close
  split
  · exact ⟨rfl, rfl, rfl, rfl, rfl, rfl, rfl, rfl, ObjsRel.refl ReaderSame.refl _⟩
  · rename_i o ho
    split
    · exact ⟨rfl, rfl, rfl, rfl, rfl, rfl, rfl, rfl,
        ObjsRel.setSame ReaderSame.refl _ _ _ _ ho ⟨rfl, rfl, rfl, rfl, rfl, rfl, rfl, rfl, rfl⟩⟩
    · exact ⟨rfl, rfl, rfl, rfl, rfl, rfl, rfl, rfl, ObjsRel.refl ReaderSame.refl _⟩

/-- the part of a stream object the incarnation bookkeeping depends on -/
structure GSame (o o' : Obj) : Prop where
  sid : o'.sid = o.sid
  gen : o'.gen = o.gen
  rx : o'.rx = o.rx
  readErr : o'.readErr = o.readErr

theorem GSame.refl (o : Obj) : GSame o o := ⟨rfl, rfl, rfl, rfl⟩

/-- what an application call other than OpenStream, or a timer expiry, leaves untouched at its endpoint -/
structure AppSame (e e' : Ep) : Prop where
  il : e'.il = e.il
  sent : e'.sent = e.sent
  reqLog : e'.reqLog = e.reqLog
  nextTSN : e'.nextTSN = e.nextTSN
  reconfigs : e'.reconfigs = e.reconfigs
  rreqs : e'.rreqs = e.rreqs
  perf : e'.perf = e.perf
  rcv : e'.rcv = e.rcv
  cum : e'.cum = e.cum
  reg : e'.reg = e.reg
  objs : ObjsRel GSame e.objs e'.objs

theorem AppSame.of_objs {e : Ep} {l : List Obj} {p : List Item} {u : Bool} {q : List Nat} (h : ObjsRel GSame e.objs l) :
    AppSame e { e with objs := l, pend := p, unsup := u, acq := q } :=
  ⟨rfl, rfl, rfl, rfl, rfl, rfl, rfl, rfl, rfl, rfl, h⟩

theorem Local.app {e e' : Ep} (l : Local e e') : AppSame e e' := by
  cases l with
  | same => exact .of_objs (ObjsRel.refl GSame.refl _)
  | unsup => exact .of_objs (ObjsRel.refl GSame.refl _)
  | wrote h len u m o ho hop =>
    have r := bump_readerSame e.il o u
    exact .of_objs (ObjsRel.setSame GSame.refl _ _ _ _ ho ⟨r.sid, r.gen, r.rx, r.readErr⟩)
  | closed h o ho hop => exact .of_objs (ObjsRel.setSame GSame.refl _ _ _ _ ho ⟨rfl, rfl, rfl, rfl⟩)
  | read h o ho =>
    obtain ⟨s1, s2, s3, s4, _⟩ := drain_same (o.ord.length + o.unord.length) o []
    refine .of_objs (ObjsRel.setSame GSame.refl _ _ _ _ ho ?_)
    unfold readObj
    split <;> exact ⟨s1, s2, s4, s3⟩
  | accepted h rest ha => exact .of_objs (ObjsRel.refl GSame.refl _)
  | timer => exact ⟨rfl, rfl, rfl, rfl, rfl, rfl, rfl, rfl, rfl, rfl, ObjsRel.refl GSame.refl _⟩

/-- such a step at endpoint `z` keeps both directions of the system -/
theorem SysInv.local {s : Sys} (inv : SysInv s) (z : Bool) (e' : Ep) (l : Local (s.ep z) e') : SysInv (s.setEp z e') := by
  have f := l.app
  obtain ⟨hs, hw⟩ := l.inv (inv z).si (inv z).wi
  exact inv.updateEp z e' hs hw (l.rinv (inv z).ri) ((inv z).xi.senderSame f.sent f.reqLog f.nextTSN (fun _ hr => f.reconfigs ▸ hr))
    ((inv.xiTo z).recvRx f.rreqs f.perf f.rcv f.cum (f.objs.imp (fun _ _ r => ⟨r.sid, r.rx⟩)))

/-- OpenStream created an object at endpoint `z` -/
theorem SysInv.opened {s : Sys} (inv : SysInv s) (z : Bool) (sid gen : Nat) (hl : lookup sid (s.ep z).reg = none) :
    SysInv (s.setEp z (addObjEp (s.ep z) sid gen)) := by
  obtain ⟨hs, hw⟩ := addObjEp_inv (s.ep z) sid gen (inv z).si (inv z).wi
  exact inv.updateEp z _ hs hw ((inv z).ri.addObj sid gen hl rfl rfl rfl rfl rfl)
    ((inv z).xi.senderSame rfl rfl rfl (fun _ hr => hr)) ((inv.xiTo z).addObj { sid := sid, gen := gen } rfl rfl rfl rfl rfl rfl)

/-- What one operation does to the system: nothing; an application call or a timer expiry at one endpoint (`Local`);
OpenStream creating an object, for a new incarnation after both directions were reset or else too early; a pass of the
write loop; an inbound packet out of the sender's history. -/
inductive Sys.Step (s : Sys) : Sys → Prop
  | same : Sys.Step s s
  | «local» (z : Bool) (e' : Ep) (l : Local (s.ep z) e') : Sys.Step s (s.setEp z e')
  | reopened (z : Bool) (sid : Nat) (hl : lookup sid (s.ep z).reg = none) (hq : s.quiet sid = true) :
      Sys.Step s { s.setEp z (addObjEp (s.ep z) sid (s.gen sid + 1)) with gen := fun i => if i = sid then s.gen sid + 1 else s.gen i }
  | tainted (z : Bool) (sid : Nat) (hl : lookup sid (s.ep z).reg = none) :
      Sys.Step s { s.setEp z (addObjEp (s.ep z) sid (s.gen sid + 1)) with
        taint := sid :: (s.setEp z (addObjEp (s.ep z) sid (s.gen sid + 1))).taint }
  | gathered (z : Bool) (sel : List Nat) (pre post : List (List Nat)) (sack : Bool) (e : Ep) (out : List Msg)
      (hg : gather (s.ep z) sel pre post sack = some (e, out)) : Sys.Step s (s.put z e out)
  | delivered (x : Bool) (p : Msg) (hp : p ∈ s.hist x) : Sys.Step s (s.setEp (!x) (handle (s.ep (!x)) p))

theorem step_cases (s : Sys) (op : Op) : Sys.Step s (s.step op) := by
  cases op with
  | openS z sid =>
    simp only [Sys.step]
    cases hl : lookup sid (s.ep z).reg with
    | some h =>
      rw [openStream_some _ _ _ _ hl]
      simp only [Bool.false_eq_true, ↓reduceIte]
      rw [setEp_self]; exact .same
    | none =>
      rw [openStream_none _ _ _ hl]
      simp only [↓reduceIte]
      split
      · exact .reopened z sid hl ‹_›
      · exact .tainted z sid hl
  | write z h len u m => exact .local z _ (write_local _ h len u m)
  | close z h => exact .local z _ (close_local _ h)
  | gather z sel pre post sack =>
    simp only [Sys.step]
    split
    · exact .gathered z sel pre post sack _ _ ‹_›
    · exact .same
  | deliver x i =>
    simp only [Sys.step]
    split
    · exact .same
    · exact .delivered x _ (List.mem_of_getElem? ‹_›)
  | trc z => exact .local z _ .timer
  | t3 z => exact .same
  | read z h => exact .local z _ (read_local _ h)
  | accept z => exact .local z _ (accept_local _)

theorem init_inv (il : Bool) (tsnA tsnB : Nat) (ha : 0 < tsnA) (hb : 0 < tsnB) : SysInv (Sys.init il tsnA tsnB) := by
  have hS : ∀ e : Ep, e.pend = [] → e.sent = [] → e.reqLog = [] → e.objs = [] → e.ctl = [] → SInv e := by
    intro e h1 h2 h3 h4 h5
    refine ⟨?_, ?_, ?_, ?_, ?_, ?_, ?_, ?_, ?_, ?_⟩
    · rw [h2]; intro c hc; cases hc
    · rw [h2]; intro c hc; cases hc
    · rw [h1]; intro s h hm; cases hm
    · rw [h1]; exact List.Pairwise.nil
    · rw [h1]; exact List.Pairwise.nil
    · rw [h4]; intro h o ho; simp at ho
    · rw [h3]; intro r hr; cases hr
    · rw [h3]; intro r hr; cases hr
    · rw [h3]; intro r hr; cases hr
    · rw [h5]; intro p hp; cases hp
  have hW : ∀ e : Ep, e.pend = [] → e.sent = [] → e.objs = [] → WInv e := by
    intro e h1 h2 h4
    refine ⟨?_, ?_, ?_, ?_⟩
    · intro d hd; simp [Ep.items, h1, h2, pendData] at hd
    · rw [h4]; intro h o ho; simp at ho
    · rw [h4]; intro h o ho; simp at ho
    · rw [h4]; intro h o ho; simp at ho
  have hR : ∀ e : Ep, e.reg = [] → e.objs = [] → e.rcv = [] → RInv e := by
    intro e h1 h2 h3
    refine ⟨?_, ?_, ?_, ?_, ?_⟩
    · rw [h1]; intro sid h hl; simp [lookup] at hl
    · rw [h2]; intro h o ho; simp at ho
    · rw [h3]; intro t ht; cases ht
    · rw [h2]; intro h o ho; simp at ho
    · rw [h2]; intro h o ho; simp at ho
  have hX : ∀ S R : Ep, S.sent = [] → S.reconfigs = [] → R.rreqs = [] → R.perf = [] → R.rcv = [] → R.objs = [] →
      R.cum < S.nextTSN → XInv S R [] := by
    intro S R h1 h2 h3 h4 h5 h6 h7
    refine ⟨?_, ?_, ?_, ?_, ?_, ?_, h7, ?_, ?_⟩
    · intro p hp; cases hp
    · rw [h2]; intro r hr; cases hr
    · rw [h3]; intro r hr; cases hr
    · rw [h3]; exact List.Pairwise.nil
    · rw [h4]; intro r hr; cases hr
    · rw [h5]; intro r hr; cases hr
    · rw [h6]; intro h o ho; simp at ho
    · rw [h1]; intro c hc; cases hc
  intro x
  cases x
  · exact ⟨hS _ rfl rfl rfl rfl rfl, hW _ rfl rfl rfl, hR _ rfl rfl rfl,
      hX _ _ rfl rfl rfl rfl rfl rfl (by simp [Sys.init, Sys.ep]; omega)⟩
  · exact ⟨hS _ rfl rfl rfl rfl rfl, hW _ rfl rfl rfl, hR _ rfl rfl rfl,
      hX _ _ rfl rfl rfl rfl rfl rfl (by simp [Sys.init, Sys.ep]; omega)⟩

theorem SysInv.ghost {s : Sys} (inv : SysInv s) (t : List Nat) (g : Nat → Nat) : SysInv { s with taint := t, gen := g } := by
  intro x
  have d := inv x
  exact ⟨by rw [Sys.ep_ghost]; exact d.si, by rw [Sys.ep_ghost]; exact d.wi, by rw [Sys.ep_ghost]; exact d.ri,
    by rw [Sys.ep_ghost, Sys.ep_ghost, Sys.hist_ghost]; exact d.xi⟩

end Rs
