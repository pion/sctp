import SctpVerif.Model.Reset
import SctpVerif.Proofs.ListAux
/-!
Basic facts about the stream-reset model `Rs`: association-list helpers, and what the handlers of RE-CONFIG
parameters can and cannot touch (the local halves of C14: a performed request is only answered, a response never
touches an open stream, a reset leaves the receive queues alone). Performing a request and handling a response are
each described once by a `_shape` lemma — the result is the old endpoint with a new object table (pointwise related to
the old one) and two or three bookkeeping fields replaced — from which the later files read off their frame facts.
Functions with several ways through them are likewise opened once, by an outcome lemma that the invariant proofs of the
later files go through: `readOne_cases`, `handleReq_cases`, `handleData_cases` (with `Created` for `getOrCreateStream`),
`openStream_none` / `openStream_some`, and the relation `Local` for the application calls `write` / `close` / `read` /
`accept` and the expiry of the re-configuration timer (`write_open`, `close_open`, `read_obj`: the same as equations).
`drain_preserves`: a drain keeps what each of its reads keeps.
-/
namespace Rs

theorem split_at_getElem? {α : Type} {l : List α} {i : Nat} {x : α} (hi : l[i]? = some x) :
    l = l.take i ++ x :: l.drop (i + 1) := by
  obtain ⟨hlt, hx⟩ := List.getElem?_eq_some_iff.mp hi
  rw [← hx, List.getElem_cons_drop hlt, List.take_append_drop]

theorem getElem?_append_one {α : Type} {l : List α} {a : α} (h : Nat) (a' : α) (ha' : (l ++ [a])[h]? = some a') :
    l[h]? = some a' ∨ (h = l.length ∧ a' = a) := by
  rcases Nat.lt_or_ge h l.length with hl | hl
  · rw [List.getElem?_append_left hl] at ha'; exact Or.inl ha'
  · rw [List.getElem?_append_right hl] at ha'
    rcases Nat.eq_zero_or_pos (h - l.length) with h0 | h0
    · rw [h0] at ha'; simp at ha'; exact Or.inr ⟨by omega, ha'.symm⟩
    · rw [List.getElem?_eq_none (by simp; omega)] at ha'; cases ha'

theorem lookup_cons {β : Type} (k k' : Nat) (v : β) (l : List (Nat × β)) :
    lookup k ((k', v) :: l) = if k' = k then some v else lookup k l := rfl

theorem lookup_erase_self {β : Type} (k : Nat) (l : List (Nat × β)) : lookup k (erase k l) = none := by
  induction l with
  | nil => rfl
  | cons p rest ih =>
    obtain ⟨k', v⟩ := p
    unfold erase at ih ⊢
    by_cases h : k' = k
    · subst h; simpa [List.filter_cons] using ih
    · simp only [List.filter_cons, bne_iff_ne, ne_eq, h, not_false_eq_true, ↓reduceIte, lookup_cons]; exact ih

theorem lookup_erase_ne {β : Type} (k k' : Nat) (l : List (Nat × β)) (hne : k' ≠ k) :
    lookup k' (erase k l) = lookup k' l := by
  induction l with
  | nil => rfl
  | cons p rest ih =>
    obtain ⟨k'', v⟩ := p
    unfold erase at ih ⊢
    by_cases h : k'' = k
    · subst h
      have : ¬ k'' = k' := fun h => hne h.symm
      simpa [List.filter_cons, lookup_cons, this] using ih
    · simp only [List.filter_cons, bne_iff_ne, ne_eq, h, not_false_eq_true, ↓reduceIte, lookup_cons]
      rw [ih]

theorem lookup_insert_self {β : Type} (k : Nat) (v : β) (l : List (Nat × β)) : lookup k (insert k v l) = some v := by
  simp [insert, lookup_cons]

theorem lookup_insert_ne {β : Type} (k k' : Nat) (v : β) (l : List (Nat × β)) (hne : k' ≠ k) :
    lookup k' (insert k v l) = lookup k' l := by
  have : ¬ k = k' := fun h => hne h.symm
  simp [insert, lookup_cons, this, lookup_erase_ne k k' l hne]

theorem lookup_mem {β : Type} (k : Nat) (v : β) (l : List (Nat × β)) (h : lookup k l = some v) : (k, v) ∈ l := by
  induction l with
  | nil => simp [lookup] at h
  | cons p rest ih =>
    obtain ⟨k', v'⟩ := p
    rw [lookup_cons] at h
    split at h
    · rename_i hk; subst hk; cases h; exact List.mem_cons_self
    · exact List.mem_cons_of_mem _ (ih h)

theorem mem_erase {β : Type} (k : Nat) (l : List (Nat × β)) (p : Nat × β) : p ∈ erase k l ↔ p ∈ l ∧ p.1 ≠ k := by
  simp [erase]

/-! ### the application calls, by outcome -/

/-- a successful read hands out the oldest unordered message, or else the ordered head if it is not ahead of the cursor -/
theorem readOne_cases (o : Obj) (m : Nat × Bool) (o' : Obj) (h : readOne o = some (m, o')) :
    (∃ q rest, o.unord = q :: rest ∧ m = (q.msg, true) ∧ o' = { o with unord := rest }) ∨
    (∃ q rest, o.unord = [] ∧ o.ord = q :: rest ∧ q.seq ≤ o.nextSeq ∧ m = (q.msg, false) ∧
      o' = { o with ord := rest, nextSeq := if q.seq = o.nextSeq then o.nextSeq + 1 else o.nextSeq }) := by
  unfold readOne at h
  split at h
  · rename_i q rest hq
    simp only [Option.some.injEq, Prod.mk.injEq] at h
    exact Or.inl ⟨q, rest, hq, h.1.symm, h.2.symm⟩
  · rename_i hun
    split at h
    · cases h
    · rename_i q rest hq
      split at h
      · rename_i hle
        simp only [Option.some.injEq, Prod.mk.injEq] at h
        exact Or.inr ⟨q, rest, hun, hq, hle, h.1.symm, h.2.symm⟩
      · cases h

/-- … and nothing is handed out iff no unordered message is queued and the ordered queue is empty or its head is ahead of the cursor -/
theorem readOne_none_iff (o : Obj) : readOne o = none ↔ o.unord = [] ∧ (o.ord = [] ∨ ∃ q rest, o.ord = q :: rest ∧ o.nextSeq < q.seq) := by
  unfold readOne
  cases hu : o.unord with
  | cons q r => simp
  | nil =>
    cases ho : o.ord with
    | nil => simp
    | cons q r =>
      simp only [true_and, List.cons.injEq, reduceCtorEq, false_or]
      constructor
      · intro h
        split at h
        · cases h
        · rename_i hgt; exact ⟨q, r, ⟨rfl, rfl⟩, by omega⟩
      · rintro ⟨q', r', ⟨rfl, rfl⟩, hlt⟩
        rw [if_neg (by omega)]

/-- a drain is successful reads in turn, each recorded in `got`: a reflexive, transitive relation that holds across one of
them holds across the drain -/
theorem drain_preserves {R : Obj → Obj → Prop} (refl : ∀ o, R o o) (trans : ∀ {a b c}, R a b → R b c → R a c)
    (one : ∀ o m o', readOne o = some (m, o') → R o { o' with got := o'.got ++ [m] }) (fuel : Nat) (o : Obj) (acc : List Nat) :
    R o (drain fuel o acc).1 := by
  induction fuel generalizing o acc with
  | zero => exact refl o
  | succ n ih =>
    simp only [drain]
    split
    · rename_i m o' hr; exact trans (one o m o' hr) (ih _ _)
    · exact refl o

/-- the object `read` leaves behind: drained, and the reader told of the end if the read error is set -/
def readObj (o : Obj) : Obj :=
  if (drain (o.ord.length + o.unord.length) o []).1.readErr then { (drain (o.ord.length + o.unord.length) o []).1 with eofSeen := true }
  else (drain (o.ord.length + o.unord.length) o []).1

/-- the endpoint after the open object `o` (handle `h`) accepted a message of `len` bytes -/
def wroteEp (e : Ep) (h len : Nat) (u : Bool) (m : Nat) (o : Obj) : Ep :=
  { e with objs := e.objs.set h { bump e.il o u with wrote := o.wrote ++ [(m, u)] },
           pend := e.pend ++ [.data { sid := o.sid, unord := u, seq := seqOf e.il o u, msg := m, len := len, wobj := h, gen := o.gen }] }

/-- the endpoint after the open object `o` (handle `h`) was closed by its application -/
def closedEp (e : Ep) (h : Nat) (o : Obj) : Ep :=
  { e with objs := e.objs.set h { o with state := if o.readErr then Gen.StreamStateClosed else Gen.StreamStateClosing },
           pend := e.pend ++ [.marker o.sid h] }

/-- what an application call other than OpenStream, or the expiry of the re-configuration timer, does to its endpoint -/
inductive Local (e : Ep) : Ep → Prop
  | same : Local e e
  | unsup : Local e { e with unsup := true }
  | wrote (h len : Nat) (u : Bool) (m : Nat) (o : Obj) (ho : e.objs[h]? = some o) (hop : o.state = Gen.StreamStateOpen) :
      Local e (wroteEp e h len u m o)
  | closed (h : Nat) (o : Obj) (ho : e.objs[h]? = some o) (hop : o.state = Gen.StreamStateOpen) :
      Local e (closedEp e h o)
  | read (h : Nat) (o : Obj) (ho : e.objs[h]? = some o) : Local e { e with objs := e.objs.set h (readObj o) }
  | accepted (h : Nat) (rest : List Nat) (ha : e.acq = h :: rest) : Local e { e with acq := rest }
  | timer : Local e { e with wr := true }

theorem write_local (e : Ep) (h len : Nat) (u : Bool) (m : Nat) : Local e (write e h len u m).1 := by
  unfold write
  split
  · exact .same
  · rename_i o ho
    split
    · exact .same
    · rename_i hst
      split
      · exact .unsup
      · exact .wrote h _ u m o ho (by simpa using hst)

theorem close_local (e : Ep) (h : Nat) : Local e (close e h).1 := by
  unfold close
  split
  · exact .same
  · rename_i o ho
    split
    · rename_i hst; exact .closed h o ho (by simpa using hst)
    · exact .same

theorem read_local (e : Ep) (h : Nat) : Local e (read e h).1 := by
  unfold read
  split
  · exact .same
  · rename_i o ho; exact .read h o ho

theorem accept_local (e : Ep) : Local e (accept e).1 := by
  unfold accept
  split
  · exact .same
  · rename_i h rest ha; exact .accepted h rest ha

/-- the calls on an open object, as equations: a write of at most `mps` bytes, a close, a read -/
theorem write_open {e : Ep} {h : Nat} {o : Obj} (len : Nat) (u : Bool) (m : Nat) (ho : e.objs[h]? = some o)
    (hop : o.state = Gen.StreamStateOpen) (hlen : len ≤ e.mps) : (write e h len u m).1 = wroteEp e h (max len 4) u m o := by
  unfold write wroteEp
  rw [ho]
  simp [hop, Nat.not_lt.mpr hlen]

theorem close_open {e : Ep} {h : Nat} {o : Obj} (ho : e.objs[h]? = some o) (hop : o.state = Gen.StreamStateOpen) :
    (close e h).1 = closedEp e h o := by
  unfold close closedEp
  rw [ho]
  simp [hop]

theorem read_obj {e : Ep} {h : Nat} {o : Obj} (ho : e.objs[h]? = some o) :
    (read e h).1 = { e with objs := e.objs.set h (readObj o) } := by
  unfold read readObj
  rw [ho]

/-- the endpoint after OpenStream created an object -/
def addObjEp (e : Ep) (sid gen : Nat) : Ep :=
  { e with objs := e.objs ++ [{ sid := sid, gen := gen }], reg := insert sid e.objs.length e.reg }

theorem openStream_none (e : Ep) (sid gen : Nat) (h : lookup sid e.reg = none) :
    openStream e sid gen = (addObjEp e sid gen, e.objs.length, true) := by
  unfold openStream addObjEp; rw [h]

theorem openStream_some (e : Ep) (sid gen h : Nat) (hl : lookup sid e.reg = some h) :
    openStream e sid gen = (e, h, false) := by
  unfold openStream; rw [hl]

/-- OpenStream leaves the endpoint alone, or creates an object under an identifier that is not registered -/
theorem openStream_ep (e : Ep) (sid gen : Nat) :
    (openStream e sid gen).1 = e ∨ (lookup sid e.reg = none ∧ (openStream e sid gen).1 = addObjEp e sid gen) := by
  cases hl : lookup sid e.reg with
  | some h => exact Or.inl (by rw [openStream_some _ _ _ _ hl])
  | none => exact Or.inr ⟨rfl, by rw [openStream_none _ _ _ hl]⟩

/-! ### relations between object tables -/

theorem mem_insOrd (q x : QMsg) (l : List QMsg) : x ∈ insOrd q l ↔ x = q ∨ x ∈ l := by
  induction l with
  | nil => simp [insOrd]
  | cons y rest ih =>
    simp only [insOrd]
    split
    · simp only [List.mem_cons, ih]; exact or_left_comm
    · simp [List.mem_cons]

/-- everything the reader will be handed, and the identity of the object, is the same -/
structure QueueSame (o o' : Obj) : Prop where
  sid : o'.sid = o.sid
  gen : o'.gen = o.gen
  nextSeq : o'.nextSeq = o.nextSeq
  ord : o'.ord = o.ord
  unord : o'.unord = o.unord
  got : o'.got = o.got
  rx : o'.rx = o.rx
  wrote : o'.wrote = o.wrote
  eofSeen : o'.eofSeen = o.eofSeen

theorem QueueSame.refl (o : Obj) : QueueSame o o := ⟨rfl, rfl, rfl, rfl, rfl, rfl, rfl, rfl, rfl⟩

theorem inboundReset_queueSame (o : Obj) : QueueSame o (inboundReset o) := ⟨rfl, rfl, rfl, rfl, rfl, rfl, rfl, rfl, rfl⟩

/-- pointwise relation between two object tables -/
def ObjsRel (R : Obj → Obj → Prop) (l l' : List Obj) : Prop :=
  l'.length = l.length ∧ ∀ (h : Nat) (o : Obj), l[h]? = some o → ∃ o', l'[h]? = some o' ∧ R o o'

theorem ObjsRel.refl {R : Obj → Obj → Prop} (hr : ∀ o, R o o) (l : List Obj) : ObjsRel R l l :=
  ⟨rfl, fun _ o h => ⟨o, h, hr o⟩⟩

theorem ObjsRel.trans {R : Obj → Obj → Prop} (ht : ∀ a b c, R a b → R b c → R a c) {l l' l'' : List Obj}
    (h1 : ObjsRel R l l') (h2 : ObjsRel R l' l'') : ObjsRel R l l'' := by
  refine ⟨h2.1.trans h1.1, ?_⟩
  intro h o ho
  obtain ⟨o', ho', r1⟩ := h1.2 h o ho
  obtain ⟨o'', ho'', r2⟩ := h2.2 h o' ho'
  exact ⟨o'', ho'', ht _ _ _ r1 r2⟩

theorem ObjsRel.setSame {R : Obj → Obj → Prop} (hr : ∀ o, R o o) (l : List Obj) (h : Nat) (o o' : Obj)
    (ho : l[h]? = some o) (r : R o o') : ObjsRel R l (l.set h o') := by
  refine ⟨by simp, ?_⟩
  intro j oj hj
  by_cases hjh : h = j
  · subst hjh
    rw [ho] at hj; cases hj
    exact ⟨o', by simp [ListAux.lt_of_getElem? ho], r⟩
  · exact ⟨oj, by rw [List.getElem?_set_ne hjh]; exact hj, hr oj⟩

theorem ObjsRel.back {R : Obj → Obj → Prop} {l l' : List Obj} (r : ObjsRel R l l') (h : Nat) (o' : Obj) (ho' : l'[h]? = some o') :
    ∃ o, l[h]? = some o ∧ R o o' := by
  have hlt : h < l.length := by rw [← r.1]; exact ListAux.lt_of_getElem? ho'
  obtain ⟨o'', ho'', x⟩ := r.2 h _ (List.getElem?_eq_getElem hlt)
  rw [ho'] at ho''; cases ho''
  exact ⟨_, List.getElem?_eq_getElem hlt, x⟩

theorem ObjsRel.imp {R R' : Obj → Obj → Prop} (h : ∀ o o', R o o' → R' o o') {l l' : List Obj} (r : ObjsRel R l l') : ObjsRel R' l l' :=
  ⟨r.1, fun j o ho => by obtain ⟨o', ho', x⟩ := r.2 j o ho; exact ⟨o', ho', h _ _ x⟩⟩

/-! ### the reset handlers leave the receive queues alone (local half of `C14_received_stay_readable`) -/

theorem inboundReset_idem (o : Obj) : inboundReset (inboundReset o) = inboundReset o := by
  unfold inboundReset
  by_cases h : o.state = Gen.StreamStateClosing <;> simp [h]

/-- the object is as it was, or its inbound side was reset -/
def MaybeReset (o o' : Obj) : Prop := o' = o ∨ o' = inboundReset o

theorem MaybeReset.refl (o : Obj) : MaybeReset o o := Or.inl rfl

theorem MaybeReset.trans (a b c : Obj) (h1 : MaybeReset a b) (h2 : MaybeReset b c) : MaybeReset a c := by
  rcases h1 with rfl | rfl
  · exact h2
  · rcases h2 with rfl | rfl
    · exact Or.inr rfl
    · exact Or.inr (inboundReset_idem a)

theorem MaybeReset.queueSame {o o' : Obj} (h : MaybeReset o o') : QueueSame o o' := by
  rcases h with rfl | rfl
  · exact QueueSame.refl _
  · exact inboundReset_queueSame o

/-- performing a request changes the object table (inbound sides reset) and the stream table; nothing else -/
theorem resetOne_shape (e : Ep) (sid : Nat) :
    ∃ l rg, resetOne e sid = { e with objs := l, reg := rg } ∧ ObjsRel MaybeReset e.objs l := by
  unfold resetOne
  split
  · exact ⟨e.objs, e.reg, rfl, ObjsRel.refl MaybeReset.refl _⟩
  · split
    · exact ⟨e.objs, _, rfl, ObjsRel.refl MaybeReset.refl _⟩
    · rename_i h _ o ho
      exact ⟨_, _, rfl, ObjsRel.setSame MaybeReset.refl _ _ _ _ ho (Or.inr rfl)⟩

theorem foldl_resetOne_shape (sids : List Nat) (e : Ep) :
    ∃ l rg, sids.foldl resetOne e = { e with objs := l, reg := rg } ∧ ObjsRel MaybeReset e.objs l :=
  ListAux.foldl_rel (R := fun e e' => ∃ l rg, e' = { e with objs := l, reg := rg } ∧ ObjsRel MaybeReset e.objs l)
    (fun e => ⟨e.objs, e.reg, rfl, ObjsRel.refl MaybeReset.refl _⟩)
    (fun ⟨_, _, h1, r1⟩ ⟨l2, g2, h2, r2⟩ => by subst h1; exact ⟨l2, g2, h2, ObjsRel.trans MaybeReset.trans r1 r2⟩) resetOne_shape sids e

theorem foldl_resetOne_objs (sids : List Nat) (e : Ep) : ObjsRel QueueSame e.objs (sids.foldl resetOne e).objs := by
  obtain ⟨l, rg, h, rel⟩ := foldl_resetOne_shape sids e
  rw [h]; exact rel.imp (fun _ _ => MaybeReset.queueSame)

/-- the endpoint after it performed a request (Go: the first branch of resetStreamsIfAny) -/
def performEp (A : Ep) (rsn : Nat) (sids : List Nat) : Ep :=
  { sids.foldl resetOne A with rreqs := erase rsn (sids.foldl resetOne A).rreqs, perf := rsn :: (sids.foldl resetOne A).perf }

theorem performEp_shape (A : Ep) (rsn : Nat) (sids : List Nat) :
    ∃ l rg, performEp A rsn sids = { A with objs := l, reg := rg, rreqs := erase rsn A.rreqs, perf := rsn :: A.perf } ∧
      ObjsRel MaybeReset A.objs l := by
  obtain ⟨l, rg, h, rel⟩ := foldl_resetOne_shape sids A
  exact ⟨l, rg, by unfold performEp; rw [h], rel⟩

theorem resetStreamsIfAny_eq (R : Ep) (rsn last : Nat) (sids : List Nat) :
    (resetStreamsIfAny R rsn last sids).1 = if last ≤ R.cum then performEp R rsn sids else R := by
  unfold resetStreamsIfAny performEp
  split <;> rfl

theorem resetStreamsIfAny_objs (e : Ep) (rsn last : Nat) (sids : List Nat) :
    ObjsRel QueueSame e.objs (resetStreamsIfAny e rsn last sids).1.objs := by
  unfold resetStreamsIfAny
  split
  · exact foldl_resetOne_objs sids e
  · exact ObjsRel.refl QueueSame.refl _

/-- a request whose number was performed is answered, never performed again (local half of D10) -/
theorem handleReq_performed (e : Ep) (rsn last : Nat) (sids : List Nat) (h : rsn ∈ e.perf) :
    handleReq e rsn last sids = (e, [.resp rsn Gen.reconfigResultSuccessPerformed]) := by
  unfold handleReq
  simp [h]

/-- the ways through `handleReq`: the number was performed (answered again); too many requests are waiting already
(dropped); or the request is recorded and `resetStreamsIfAny` decides -/
theorem handleReq_cases (e : Ep) (rsn last : Nat) (sids : List Nat) :
    (rsn ∈ e.perf ∧ handleReq e rsn last sids = (e, [.resp rsn Gen.reconfigResultSuccessPerformed])) ∨
    (rsn ∉ e.perf ∧ e.cum < last ∧ handleReq e rsn last sids = (e, [])) ∨
    (rsn ∉ e.perf ∧ handleReq e rsn last sids =
      ((resetStreamsIfAny { e with rreqs := insert rsn (last, sids) e.rreqs } rsn last sids).1,
       [(resetStreamsIfAny { e with rreqs := insert rsn (last, sids) e.rreqs } rsn last sids).2])) := by
  by_cases hp : rsn ∈ e.perf
  · exact Or.inl ⟨hp, handleReq_performed e rsn last sids hp⟩
  · unfold handleReq
    rw [if_neg (by simpa using hp)]
    split
    · rename_i h
      simp only [Bool.and_eq_true, decide_eq_true_eq] at h
      exact Or.inr (Or.inl ⟨hp, h.1, rfl⟩)
    · exact Or.inr (Or.inr ⟨hp, rfl⟩)

/-- a reset request — performed, deferred, refused or repeated — never changes what an object holds for its reader -/
theorem handleReq_objs (e : Ep) (rsn last : Nat) (sids : List Nat) :
    ObjsRel QueueSame e.objs (handleReq e rsn last sids).1.objs := by
  rcases handleReq_cases e rsn last sids with ⟨_, h⟩ | ⟨_, _, h⟩ | ⟨_, h⟩ <;> rw [h]
  · exact ObjsRel.refl QueueSame.refl _
  · exact ObjsRel.refl QueueSame.refl _
  · exact resetStreamsIfAny_objs { e with rreqs := insert rsn (last, sids) e.rreqs } rsn last sids

/-- the endpoint after `getOrCreateStream(sid, accept = true)` created an object -/
def createdEp (e : Ep) (sid gen : Nat) : Ep :=
  { e with objs := e.objs ++ [{ sid := sid, gen := gen }], reg := insert sid e.objs.length e.reg, acq := e.acq ++ [e.objs.length] }

/-- Go: `getOrCreateStream(sid, accept = true)` succeeded: the stream is in the table, or an object was created, registered
and queued for AcceptStream -/
inductive Created (e : Ep) (c : Chunk) : Ep → Nat → Prop
  | known (h : Nat) (hl : lookup c.d.sid e.reg = some h) : Created e c e h
  | fresh (hl : lookup c.d.sid e.reg = none) (hacq : e.acq.length < e.accCap) :
      Created e c (createdEp e c.d.sid c.d.gen) e.objs.length

theorem Created.fields {e : Ep} {c : Chunk} {e1 : Ep} {h : Nat} (cr : Created e c e1 h) :
    lookup c.d.sid e1.reg = some h ∧ e1.cum = e.cum ∧ e1.il = e.il ∧ e1.rcv = e.rcv := by
  cases cr with
  | known h hl => exact ⟨hl, rfl, rfl, rfl⟩
  | fresh hl hacq => exact ⟨lookup_insert_self _ _ _, rfl, rfl, rfl⟩

/-- the ways through `handleData`: the chunk is not accepted by the payload queue (only the cumulative point is looked at
again); the accept queue is full; or the stream object is found or created and then either the run leaves the model
(`unsup`) or the chunk is pushed and the cumulative point advanced -/
theorem handleData_cases (e : Ep) (c : Chunk) :
    handleData e c = advance e.rcv.length e ∨ handleData e c = (e, []) ∨
    (c.tsn ∉ e.rcv ∧ e.cum < c.tsn) ∧ ∃ e1 h, Created e c e1 h ∧
      (handleData e c = ({ e1 with unsup := true }, []) ∨
       ∃ o, e1.objs[h]? = some o ∧
         handleData e c = advance (c.tsn :: e1.rcv).length { e1 with objs := e1.objs.set h (pushObj e1.il o c), rcv := c.tsn :: e1.rcv }) := by
  unfold handleData
  simp only
  split
  · rename_i hcan
    simp only [Bool.and_eq_true, Bool.not_eq_true', decide_eq_true_eq, List.contains_eq_mem, decide_eq_false_iff_not] at hcan
    split
    · exact Or.inr (Or.inl rfl)
    · rename_i r e1 h hr
      have cr : Created e c e1 h := by
        split at hr
        · rename_i h' hl; cases hr; exact .known h hl
        · rename_i hl
          split at hr
          · rename_i hacq; cases hr; exact .fresh hl hacq
          · cases hr
      refine Or.inr (Or.inr ⟨⟨hcan.1.1, hcan.1.2⟩, e1, h, cr, ?_⟩)
      split
      · exact Or.inl rfl
      · split
        · exact Or.inl rfl
        · rename_i o ho; exact Or.inr ⟨o, ho, rfl⟩
  · exact Or.inl rfl

/-! ### a response never touches a stream that is open (local half of D16) -/

/-- counters may have been rewound, and only on an object that is not open -/
def RewindRel (o o' : Obj) : Prop := o' = o ∨ (o.state ≠ Gen.StreamStateOpen ∧ o' = zeroCounters o)

theorem RewindRel.refl (o : Obj) : RewindRel o o := Or.inl rfl

theorem zeroCounters_idem (o : Obj) : zeroCounters (zeroCounters o) = zeroCounters o := rfl

theorem RewindRel.trans (a b c : Obj) (h1 : RewindRel a b) (h2 : RewindRel b c) : RewindRel a c := by
  rcases h1 with rfl | ⟨hs, rfl⟩
  · exact h2
  · rcases h2 with rfl | ⟨_, rfl⟩
    · exact Or.inr ⟨hs, rfl⟩
    · exact Or.inr ⟨hs, rfl⟩

/-- rewinding one identifier changes the object table only (counters of non-open objects may be rewound) -/
theorem rewindOne_shape (e : Ep) (sid : Nat) : ∃ l, rewindOne e sid = { e with objs := l } ∧ ObjsRel RewindRel e.objs l := by
  unfold rewindOne
  split
  · exact ⟨e.objs, rfl, ObjsRel.refl RewindRel.refl _⟩
  · split
    · exact ⟨e.objs, rfl, ObjsRel.refl RewindRel.refl _⟩
    · rename_i h _ o ho
      split
      · rename_i hst
        exact ⟨_, rfl, ObjsRel.setSame RewindRel.refl _ _ _ _ ho (Or.inr ⟨by simpa using hst, rfl⟩)⟩
      · exact ⟨e.objs, rfl, ObjsRel.refl RewindRel.refl _⟩

theorem foldl_rewindOne_shape (sids : List Nat) (e : Ep) :
    ∃ l, sids.foldl rewindOne e = { e with objs := l } ∧ ObjsRel RewindRel e.objs l :=
  ListAux.foldl_rel (R := fun e e' => ∃ l, e' = { e with objs := l } ∧ ObjsRel RewindRel e.objs l)
    (fun e => ⟨e.objs, rfl, ObjsRel.refl RewindRel.refl _⟩)
    (fun ⟨_, h1, r1⟩ ⟨l2, h2, r2⟩ => by subst h1; exact ⟨l2, h2, ObjsRel.trans RewindRel.trans r1 r2⟩) rewindOne_shape sids e

/-- a response changes the object table (counters of non-open objects may be rewound) and forgets outstanding
requests; nothing else -/
theorem handleResp_shape (e : Ep) (rsn result : Nat) :
    ∃ l rc, handleResp e rsn result = { e with objs := l, reconfigs := rc } ∧ ObjsRel RewindRel e.objs l ∧
      ∀ r ∈ rc, r ∈ e.reconfigs := by
  unfold handleResp
  split
  · exact ⟨e.objs, e.reconfigs, rfl, ObjsRel.refl RewindRel.refl _, fun _ h => h⟩
  · have keep : ∀ r ∈ erase rsn e.reconfigs, r ∈ e.reconfigs := fun r h => ((mem_erase _ _ _).mp h).1
    simp only
    split
    · split
      · rename_i r _
        obtain ⟨l, h, rel⟩ := foldl_rewindOne_shape r.2 e
        exact ⟨l, erase rsn e.reconfigs, by rw [h], rel, keep⟩
      · exact ⟨e.objs, _, rfl, ObjsRel.refl RewindRel.refl _, keep⟩
    · exact ⟨e.objs, _, rfl, ObjsRel.refl RewindRel.refl _, keep⟩

theorem handleResp_objs (e : Ep) (rsn result : Nat) : ObjsRel RewindRel e.objs (handleResp e rsn result).objs := by
  obtain ⟨l, rc, h, rel, _⟩ := handleResp_shape e rsn result
  rw [h]; exact rel

end Rs
