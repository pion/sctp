import SctpVerif.Proofs.Reset.RecvInv
/-!
`XInv S R H`: one direction of the two-endpoint system — `S` sends, `R` receives, `H` is every packet `S` ever put on
the wire. Packets only carry chunks that were sent and requests that were created; what `R` holds (TSNs, deferred and
performed requests, chunks handed to stream objects) comes from `S`; a request is only performed once the cumulative
point has reached its last TSN; and every chunk `R` counts as received was handed to one of its stream objects.
-/
namespace Rs

def Recvd (R : Ep) (t : Nat) : Prop := t ≤ R.cum ∨ t ∈ R.rcv

def ReqMatch (S : Ep) (rsn last : Nat) (sids : List Nat) : Prop :=
  ∃ rec ∈ S.reqLog, rec.rsn = rsn ∧ rec.last = last ∧ rec.sids = sids

def PktOK (S : Ep) : Msg → Prop
  | .data cs => ∀ c ∈ cs, c ∈ S.sent
  | .req rsn last sids => ReqMatch S rsn last sids
  | _ => True

structure XInv (S R : Ep) (H : List Msg) : Prop where
  hist : ∀ p ∈ H, PktOK S p
  reconf : ∀ r ∈ S.reconfigs, ReqMatch S r.1 r.2.1 r.2.2
  rreqs : ∀ r ∈ R.rreqs, ReqMatch S r.1 r.2.1 r.2.2 ∧ r.1 ∉ R.perf
  rreqUniq : R.rreqs.Pairwise (fun a b => a.1 ≠ b.1)
  perf : ∀ rsn ∈ R.perf, ∃ rec ∈ S.reqLog, rec.rsn = rsn ∧ rec.last ≤ R.cum
  rcvSent : ∀ t ∈ R.rcv, ∃ c ∈ S.sent, c.tsn = t
  cumLt : R.cum < S.nextTSN
  rx : ∀ (h : Nat) (o : Obj), R.objs[h]? = some o → ∀ c ∈ o.rx, c ∈ S.sent ∧ c.d.sid = o.sid ∧ Recvd R c.tsn
  complete : ∀ c ∈ S.sent, Recvd R c.tsn → ∃ (h : Nat) (o : Obj), R.objs[h]? = some o ∧ c ∈ o.rx

theorem ReqMatch.mono {S S' : Ep} (h : ∀ r ∈ S.reqLog, r ∈ S'.reqLog) {rsn last : Nat} {sids : List Nat}
    (m : ReqMatch S rsn last sids) : ReqMatch S' rsn last sids := by
  obtain ⟨rec, hr, x⟩ := m; exact ⟨rec, h rec hr, x⟩

theorem PktOK.mono {S S' : Ep} (hs : ∀ c ∈ S.sent, c ∈ S'.sent) (hr : ∀ r ∈ S.reqLog, r ∈ S'.reqLog) (p : Msg)
    (h : PktOK S p) : PktOK S' p := by
  cases p with
  | data cs => exact fun c hc => hs c (h c hc)
  | req rsn last sids => exact ReqMatch.mono hr h
  | sack c => trivial
  | resp r v => trivial

/-- the sender changed nothing the direction depends on (its outstanding requests may have shrunk) -/
theorem XInv.senderSame {S S' R : Ep} {H : List Msg} (inv : XInv S R H) (hsent : S'.sent = S.sent)
    (hlog : S'.reqLog = S.reqLog) (hnext : S'.nextTSN = S.nextTSN) (hrc : ∀ r ∈ S'.reconfigs, r ∈ S.reconfigs) : XInv S' R H := by
  obtain ⟨h1, h2, h3, h3', h4, h5, h6, h7, h8⟩ := inv
  have hm : ∀ rsn last sids, ReqMatch S rsn last sids → ReqMatch S' rsn last sids :=
    fun _ _ _ m => ReqMatch.mono (fun r hr => by rw [hlog]; exact hr) m
  refine ⟨?_, ?_, ?_, h3', ?_, ?_, ?_, ?_, ?_⟩
  · exact fun p hp => PktOK.mono (fun c hc => by rw [hsent]; exact hc) (fun r hr => by rw [hlog]; exact hr) p (h1 p hp)
  · exact fun r hr => hm _ _ _ (h2 r (hrc r hr))
  · exact fun r hr => ⟨hm _ _ _ (h3 r hr).1, (h3 r hr).2⟩
  · rw [hlog]; exact h4
  · rw [hsent]; exact h5
  · rw [hnext]; exact h6
  · rw [hsent]; exact h7
  · rw [hsent]; exact h8

def RxSame (o o' : Obj) : Prop := o'.sid = o.sid ∧ o'.rx = o.rx

/-- the receiver changed: what it holds above the cumulative point was sent, and the two statements about its stream
objects are re-established by the caller; the request bookkeeping and the cumulative point are as before -/
theorem XInv.recv {S R R' : Ep} {H : List Msg} (inv : XInv S R H) (hrreqs : R'.rreqs = R.rreqs) (hperf : R'.perf = R.perf)
    (hcum : R'.cum = R.cum) (hrcv : ∀ t ∈ R'.rcv, ∃ c ∈ S.sent, c.tsn = t)
    (hrx : ∀ (h : Nat) (o : Obj), R'.objs[h]? = some o → ∀ c ∈ o.rx, c ∈ S.sent ∧ c.d.sid = o.sid ∧ Recvd R' c.tsn)
    (hcomplete : ∀ c ∈ S.sent, Recvd R' c.tsn → ∃ (h : Nat) (o : Obj), R'.objs[h]? = some o ∧ c ∈ o.rx) : XInv S R' H :=
  ⟨inv.hist, inv.reconf, by rw [hrreqs, hperf]; exact inv.rreqs, by rw [hrreqs]; exact inv.rreqUniq,
    by rw [hperf, hcum]; exact inv.perf, hrcv, by rw [hcum]; exact inv.cumLt, hrx, hcomplete⟩

/-- the receiver changed nothing the direction depends on -/
theorem XInv.recvRx {S R R' : Ep} {H : List Msg} (inv : XInv S R H) (hrreqs : R'.rreqs = R.rreqs) (hperf : R'.perf = R.perf)
    (hrcv : R'.rcv = R.rcv) (hcum : R'.cum = R.cum) (hobjs : ObjsRel RxSame R.objs R'.objs) : XInv S R' H := by
  have hrec : ∀ t, Recvd R' t ↔ Recvd R t := by intro t; unfold Recvd; rw [hcum, hrcv]
  have h7 := inv.rx
  have h8 := inv.complete
  refine inv.recv hrreqs hperf hcum (hrcv ▸ inv.rcvSent) ?_ ?_
  · intro h o' ho' c hc
    obtain ⟨o, ho, r⟩ := hobjs.back h o' ho'
    obtain ⟨a, b, c'⟩ := h7 h o ho c (by rw [← r.2]; exact hc)
    exact ⟨a, by rw [r.1]; exact b, (hrec _).mpr c'⟩
  · intro c hc hr
    obtain ⟨h, o, ho, hco⟩ := h8 c hc ((hrec _).mp hr)
    obtain ⟨o', ho', r⟩ := hobjs.2 h o ho
    exact ⟨h, o', ho', by rw [r.2]; exact hco⟩

theorem XInv.recvSame {S R R' : Ep} {H : List Msg} (inv : XInv S R H) (hrreqs : R'.rreqs = R.rreqs) (hperf : R'.perf = R.perf)
    (hrcv : R'.rcv = R.rcv) (hcum : R'.cum = R.cum) (hobjs : ObjsRel ReaderSame R.objs R'.objs) : XInv S R' H :=
  inv.recvRx hrreqs hperf hrcv hcum (hobjs.imp (fun _ _ r => ⟨r.sid, r.rx⟩))

theorem XInv.recvQ {S R R' : Ep} {H : List Msg} (inv : XInv S R H) (hrreqs : R'.rreqs = R.rreqs) (hperf : R'.perf = R.perf)
    (hrcv : R'.rcv = R.rcv) (hcum : R'.cum = R.cum) (hobjs : ObjsRel QueueSame R.objs R'.objs) : XInv S R' H :=
  inv.recvRx hrreqs hperf hrcv hcum (hobjs.imp (fun _ _ r => ⟨r.sid, r.rx⟩))

theorem findAll_ok (sent : List Chunk) : ∀ (tsns : List Nat) (cs : List Chunk), findAll sent tsns = some cs → ∀ c ∈ cs, c ∈ sent := by
  intro tsns
  induction tsns with
  | nil => intro cs h c hc; simp only [findAll, Option.some.injEq] at h; subst h; cases hc
  | cons t rest ih =>
    intro cs h c hc
    simp only [findAll] at h
    split at h
    · rename_i c0 cs0 hf hr
      simp only [Option.some.injEq] at h; subst h
      rcases List.mem_cons.mp hc with rfl | hc
      · unfold findChunk at hf; exact List.mem_of_find?_eq_some hf
      · exact ih cs0 hr c hc
    · cases h

theorem mkData_ok (sent : List Chunk) (tsns : List Nat) (p : Msg) (h : mkData sent tsns = some p) :
    ∃ cs, p = Msg.data cs ∧ ∀ c ∈ cs, c ∈ sent := by
  unfold mkData at h
  cases hm : findAll sent tsns with
  | none => rw [hm] at h; cases h
  | some cs =>
    rw [hm] at h
    simp only [Option.map_some, Option.some.injEq] at h
    exact ⟨cs, h.symm, findAll_ok sent tsns cs hm⟩

theorem mkDatas_ok (sent : List Chunk) : ∀ (pkts : List (List Nat)) (ps : List Msg), mkDatas sent pkts = some ps →
    ∀ p ∈ ps, ∃ cs, p = Msg.data cs ∧ ∀ c ∈ cs, c ∈ sent := by
  intro pkts
  induction pkts with
  | nil => intro ps h p hp; simp only [mkDatas, Option.some.injEq] at h; subst h; cases hp
  | cons t rest ih =>
    intro ps h p hp
    simp only [mkDatas] at h
    split at h
    · rename_i m ms hm hr
      simp only [Option.some.injEq] at h; subst h
      rcases List.mem_cons.mp hp with rfl | hp
      · exact mkData_ok sent t _ hm
      · exact ih ms hr p hp
    · cases h

theorem XInv.gather {S R : Ep} {H : List Msg} (inv : XInv S R H) (hs : SInv S) (sel : List Nat) (pre post : List (List Nat))
    (sack : Bool) (S' : Ep) (out : List Msg) (hg : Rs.gather S sel pre post sack = some (S', out)) : XInv S' R (H ++ out) := by
  obtain ⟨popped, left, preP, postP, hp, hpre, hpost, rfl, rfl⟩ := gather_cases hg
  obtain ⟨h1, h2, h3, h3', h4, h5, h6, h7, h8⟩ := inv
  obtain ⟨a1, a2, a3, a4, a5⟩ := assign_spec popped S.nextTSN
  have hE := gatherEp_eq S popped left
  generalize hA : assign S.nextTSN popped = A at a1 a2 a3 a4 a5 hpre hpost hE
  have hsent : (gatherEp S popped left).sent = S.sent ++ A.1 := by rw [hE]
  have hnext : (gatherEp S popped left).nextTSN = A.2.2 := by rw [hE]
  have hlog : (gatherEp S popped left).reqLog = if A.2.1.isEmpty then S.reqLog else S.reqLog ++ [newReqRec S A.2.1 A.2.2] := by rw [hE]
  have hrc : (gatherEp S popped left).reconfigs = if A.2.1.isEmpty then S.reconfigs else S.reconfigs ++ [(S.nextRSN, A.2.2 - 1, A.2.1.map (·.1))] := by
    rw [hE]
  have hsentMono : ∀ c ∈ S.sent, c ∈ (gatherEp S popped left).sent := fun c hc => by rw [hsent]; exact List.mem_append_left _ hc
  have hlogMono : ∀ r ∈ S.reqLog, r ∈ (gatherEp S popped left).reqLog := by
    intro r hr; rw [hlog]; split
    · exact hr
    · exact List.mem_append_left _ hr
  have hm : ∀ rsn last sids, ReqMatch S rsn last sids → ReqMatch (gatherEp S popped left) rsn last sids :=
    fun _ _ _ m => ReqMatch.mono hlogMono m
  have hnewMatch : A.2.1.isEmpty = false → ReqMatch (gatherEp S popped left) S.nextRSN (A.2.2 - 1) (A.2.1.map (·.1)) := by
    intro hne
    refine ⟨newReqRec S A.2.1 A.2.2, ?_, rfl, rfl, rfl⟩
    rw [hlog, hne]; simp
  refine ⟨?_, ?_, ?_, h3', ?_, ?_, ?_, ?_, ?_⟩
  · intro p hp'
    rcases List.mem_append.mp hp' with hp' | hp'
    · exact PktOK.mono hsentMono hlogMono p (h1 p hp')
    · unfold gatherOut at hp'
      rw [hA] at hp'
      simp only [List.mem_append] at hp'
      rcases hp' with ((((hc | hc) | hc) | hc) | hc) | hc
      · obtain ⟨r, v, rfl⟩ := hs.ctlResp p hc; trivial
      · obtain ⟨cs, rfl, hcs⟩ := mkDatas_ok _ _ _ hpre p hc
        intro c hcc; rw [hsent]; exact hcs c hcc
      · split at hc
        · obtain ⟨r, hr, rfl⟩ := List.mem_map.mp hc
          exact hm _ _ _ (h2 r hr)
        · cases hc
      · split at hc
        · cases hc
        · rename_i hne
          simp only [List.mem_singleton] at hc; subst hc
          exact hnewMatch (by simpa using hne)
      · obtain ⟨cs, rfl, hcs⟩ := mkDatas_ok _ _ _ hpost p hc
        intro c hcc; rw [hsent]; exact hcs c hcc
      · split at hc
        · simp only [List.mem_singleton] at hc; subst hc; trivial
        · cases hc
  · intro r hr
    rw [hrc] at hr
    split at hr
    · exact hm _ _ _ (h2 r hr)
    · rename_i hne
      rcases List.mem_append.mp hr with hr | hr
      · exact hm _ _ _ (h2 r hr)
      · simp only [List.mem_singleton] at hr; subst hr
        exact hnewMatch (by simpa using hne)
  · exact fun r hr => ⟨hm _ _ _ (h3 r hr).1, (h3 r hr).2⟩
  · intro rsn hr
    obtain ⟨rec, hrec, x⟩ := h4 rsn hr
    exact ⟨rec, hlogMono rec hrec, x⟩
  · intro t ht
    obtain ⟨c, hc, x⟩ := h5 t ht
    exact ⟨c, hsentMono c hc, x⟩
  · rw [hnext, a3]; omega
  · intro h o ho c hc
    obtain ⟨x1, x2, x3⟩ := h7 h o ho c hc
    exact ⟨hsentMono c x1, x2, x3⟩
  · intro c hc hr
    rw [hsent] at hc
    rcases List.mem_append.mp hc with hc | hc
    · exact h8 c hc hr
    · exfalso
      have hge := (a4 c hc).1
      rcases hr with hr | hr
      · omega
      · obtain ⟨c', hc', heq⟩ := h5 _ hr
        have := hs.tsnLt c' hc'; omega

/-- a reset request that has reached its last TSN is performed -/
theorem XInv.perform {S R : Ep} {H : List Msg} (inv : XInv S R H) (rsn last : Nat) (sids : List Nat)
    (hm : ReqMatch S rsn last sids) (hle : last ≤ R.cum) : XInv S (performEp R rsn sids) H := by
  obtain ⟨l, rg, h, rel⟩ := performEp_shape R rsn sids
  rw [h]
  have base : XInv S { R with objs := l, reg := rg } H :=
    inv.recvQ rfl rfl rfl rfl (rel.imp (fun _ _ => MaybeReset.queueSame))
  obtain ⟨h1, h2, h3, h3', h4, h5, h6, h7, h8⟩ := base
  refine ⟨h1, h2, ?_, ?_, ?_, h5, h6, ?_, ?_⟩
  · intro r hr
    obtain ⟨hr1, hr2⟩ := (mem_erase _ _ _).mp hr
    refine ⟨(h3 r hr1).1, ?_⟩
    intro hmem
    rcases List.mem_cons.mp hmem with h | h
    · exact hr2 h
    · exact (h3 r hr1).2 h
  · exact h3'.sublist (by unfold erase; exact List.filter_sublist)
  · intro x hx
    rcases List.mem_cons.mp hx with rfl | hx
    · obtain ⟨rec, hrec, a, b, _⟩ := hm
      exact ⟨rec, hrec, a, by rw [b]; exact hle⟩
    · exact h4 x hx
  · intro h o ho c hc
    obtain ⟨a, b, c'⟩ := h7 h o ho c hc
    exact ⟨a, b, c'⟩
  · intro c hc hr
    exact h8 c hc hr

theorem resetStreamsIfAny_same (R : Ep) (rsn last : Nat) (sids : List Nat) :
    (resetStreamsIfAny R rsn last sids).1.cum = R.cum ∧ (resetStreamsIfAny R rsn last sids).1.rcv = R.rcv ∧
    (resetStreamsIfAny R rsn last sids).1.il = R.il ∧
    (∀ r ∈ (resetStreamsIfAny R rsn last sids).1.rreqs, r ∈ R.rreqs) := by
  rw [resetStreamsIfAny_eq]
  split
  · obtain ⟨l, rg, h, _⟩ := performEp_shape R rsn sids
    rw [h]
    exact ⟨rfl, rfl, rfl, fun r hr => ((mem_erase _ _ _).mp hr).1⟩
  · exact ⟨rfl, rfl, rfl, fun r hr => hr⟩

theorem recheck_same (l : List (Nat × Nat × List Nat)) : ∀ R : Ep,
    (recheck R l).1.cum = R.cum ∧ (recheck R l).1.rcv = R.rcv ∧ (recheck R l).1.il = R.il := by
  induction l with
  | nil => intro R; exact ⟨rfl, rfl, rfl⟩
  | cons r rest ih =>
    intro R
    simp only [recheck]
    obtain ⟨a, b, c⟩ := ih (resetStreamsIfAny R r.1 r.2.1 r.2.2).1
    obtain ⟨a', b', c', _⟩ := resetStreamsIfAny_same R r.1 r.2.1 r.2.2
    exact ⟨a.trans a', b.trans b', c.trans c'⟩

/-- the cumulative point moves over a TSN that is held -/
theorem XInv.bumpCum {S R : Ep} {H : List Msg} (inv : XInv S R H) (hs : SInv S) (hc : R.rcv.contains (R.cum + 1) = true) :
    XInv S { R with rcv := R.rcv.filter (· != R.cum + 1), cum := R.cum + 1 } H := by
  obtain ⟨h1, h2, h3, h3', h4, h5, h6, h7, h8⟩ := inv
  have hmem : R.cum + 1 ∈ R.rcv := by simpa using hc
  have hrec : ∀ t, Recvd { R with rcv := R.rcv.filter (· != R.cum + 1), cum := R.cum + 1 } t ↔ Recvd R t := by
    intro t
    unfold Recvd
    simp only [List.mem_filter, bne_iff_ne, ne_eq]
    constructor
    · rintro (h | ⟨h, _⟩)
      · rcases Nat.lt_or_ge t (R.cum + 1) with x | x
        · exact Or.inl (by omega)
        · have : t = R.cum + 1 := by omega
          rw [this]; exact Or.inr hmem
      · exact Or.inr h
    · rintro (h | h)
      · exact Or.inl (by omega)
      · by_cases ht : t = R.cum + 1
        · exact Or.inl (by omega)
        · exact Or.inr ⟨h, ht⟩
  refine ⟨h1, h2, h3, h3', ?_, ?_, ?_, ?_, ?_⟩
  · intro rsn hr
    obtain ⟨rec, hrec, a, b⟩ := h4 rsn hr
    exact ⟨rec, hrec, a, by simp only; omega⟩
  · intro t ht
    simp only [List.mem_filter] at ht
    exact h5 t ht.1
  · obtain ⟨c, hc', heq⟩ := h5 _ hmem
    have := hs.tsnLt c hc'
    simp only; omega
  · intro h o ho c hc'
    obtain ⟨a, b, c''⟩ := h7 h o ho c hc'
    exact ⟨a, b, (hrec _).mpr c''⟩
  · intro c hc' hr
    exact h8 c hc' ((hrec _).mp hr)

/-- a new, empty stream object -/
theorem XInv.addObj {S R R' : Ep} {H : List Msg} (inv : XInv S R H) (o : Obj) (ho : o.rx = [])
    (hrreqs : R'.rreqs = R.rreqs) (hperf : R'.perf = R.perf) (hrcv : R'.rcv = R.rcv) (hcum : R'.cum = R.cum)
    (hobjs : R'.objs = R.objs ++ [o]) : XInv S R' H := by
  have hrec : ∀ t, Recvd R' t ↔ Recvd R t := by intro t; unfold Recvd; rw [hcum, hrcv]
  have h7 := inv.rx
  have h8 := inv.complete
  refine inv.recv hrreqs hperf hcum (hrcv ▸ inv.rcvSent) ?_ ?_
  · intro h o' ho' c hc
    rw [hobjs] at ho'
    rcases getElem?_append_one h o' ho' with ho' | ⟨_, rfl⟩
    · obtain ⟨a, b, c'⟩ := h7 h o' ho' c hc
      exact ⟨a, b, (hrec _).mpr c'⟩
    · rw [ho] at hc; cases hc
  · intro c hc hr
    obtain ⟨h, o', ho', hco⟩ := h8 c hc ((hrec _).mp hr)
    exact ⟨h, o', by rw [hobjs, List.getElem?_append_left (ListAux.lt_of_getElem? ho')]; exact ho', hco⟩

/-- a chunk of the sender is handed to the stream object registered for its identifier -/
theorem XInv.push {S R R' : Ep} {H : List Msg} (inv : XInv S R H) (hs : SInv S) (h : Nat) (o : Obj) (c : Chunk) (ho : R.objs[h]? = some o)
    (hc : c ∈ S.sent) (hsid : o.sid = c.d.sid)
    (hrreqs : R'.rreqs = R.rreqs) (hperf : R'.perf = R.perf) (hrcv : R'.rcv = c.tsn :: R.rcv) (hcum : R'.cum = R.cum)
    (hobjs : R'.objs = R.objs.set h (pushObj R.il o c)) : XInv S R' H := by
  obtain ⟨h1, h2, h3, h3', h4, h5, h6, h7, h8⟩ := inv
  have hlt := ListAux.lt_of_getElem? ho
  have hget : R'.objs[h]? = some (pushObj R.il o c) := by rw [hobjs]; simp [hlt]
  have hother : ∀ j, j ≠ h → R'.objs[j]? = R.objs[j]? := fun j hj => by rw [hobjs]; exact List.getElem?_set_ne (Ne.symm hj)
  obtain ⟨p1, _, _, _, p5, _⟩ := pushObj_same R.il o c
  have hrec : ∀ t, Recvd R' t ↔ (t = c.tsn ∨ Recvd R t) := by
    intro t; unfold Recvd; rw [hcum, hrcv, List.mem_cons]; exact or_left_comm
  refine XInv.recv ⟨h1, h2, h3, h3', h4, h5, h6, h7, h8⟩ hrreqs hperf hcum ?_ ?_ ?_
  · rw [hrcv]
    intro t ht
    rcases List.mem_cons.mp ht with rfl | ht
    · exact ⟨c, hc, rfl⟩
    · exact h5 t ht
  · intro j oj hoj c' hc'
    by_cases hj : j = h
    · subst hj; rw [hget] at hoj; cases hoj
      rw [p5] at hc'
      rcases List.mem_append.mp hc' with hc' | hc'
      · obtain ⟨a, b, x⟩ := h7 j o ho c' hc'
        exact ⟨a, by rw [p1]; exact b, (hrec _).mpr (Or.inr x)⟩
      · simp only [List.mem_singleton] at hc'; subst hc'
        exact ⟨hc, by rw [p1]; exact hsid.symm, (hrec _).mpr (Or.inl rfl)⟩
    · rw [hother j hj] at hoj
      obtain ⟨a, b, x⟩ := h7 j oj hoj c' hc'
      exact ⟨a, b, (hrec _).mpr (Or.inr x)⟩
  · intro c' hc' hr
    rcases (hrec _).mp hr with heq | hr
    · -- the chunk with this TSN is c itself (one chunk per TSN at the sender): it is now in h
      have hcc : c' = c := hs.tsnInj c' hc' c hc heq
      subst hcc
      exact ⟨h, _, hget, by rw [p5]; exact List.mem_append_right _ (List.mem_singleton.mpr rfl)⟩
    · obtain ⟨j, oj, hoj, hco⟩ := h8 c' hc' hr
      by_cases hj : j = h
      · subst hj; rw [ho] at hoj; cases hoj
        exact ⟨j, _, hget, by rw [p5]; exact List.mem_append_left _ hco⟩
      · exact ⟨j, oj, by rw [hother j hj]; exact hoj, hco⟩

theorem Created.xinv {R : Ep} {c : Chunk} {e1 : Ep} {h : Nat} (cr : Created R c e1 h) {S : Ep} {H : List Msg} (inv : XInv S R H) :
    XInv S e1 H := by
  cases cr with
  | known h hl => exact inv
  | fresh hl hacq => exact inv.addObj { sid := c.d.sid, gen := c.d.gen } rfl rfl rfl rfl rfl rfl

theorem XInv.addRreq {S R : Ep} {H : List Msg} (inv : XInv S R H) (rsn last : Nat) (sids : List Nat)
    (hm : ReqMatch S rsn last sids) (hn : rsn ∉ R.perf) : XInv S { R with rreqs := insert rsn (last, sids) R.rreqs } H := by
  obtain ⟨h1, h2, h3, h3', h4, h5, h6, h7, h8⟩ := inv
  refine ⟨h1, h2, ?_, ?_, h4, h5, h6, h7, h8⟩
  · intro r hr
    simp only [insert, List.mem_cons] at hr
    rcases hr with rfl | hr
    · exact ⟨hm, hn⟩
    · exact h3 r ((mem_erase _ _ _).mp hr).1
  · unfold insert
    refine List.pairwise_cons.mpr ⟨?_, h3'.sublist (by unfold erase; exact List.filter_sublist)⟩
    intro r hr
    exact fun heq => ((mem_erase _ _ _).mp hr).2 heq.symm

/-- what a response does to the endpoint that receives it -/
theorem handleResp_spec (e : Ep) (rsn result : Nat) :
    (handleResp e rsn result).rreqs = e.rreqs ∧ (handleResp e rsn result).perf = e.perf ∧ (handleResp e rsn result).rcv = e.rcv ∧
    (handleResp e rsn result).cum = e.cum ∧ (handleResp e rsn result).reg = e.reg ∧
    ObjsRel ReaderSame e.objs (handleResp e rsn result).objs := by
  obtain ⟨l, rc, h, rel, _⟩ := handleResp_shape e rsn result
  rw [h]
  exact ⟨rfl, rfl, rfl, rfl, rfl, rel.imp (fun _ _ => RewindRel.readerSame)⟩

/-- the endpoint that handles a packet, seen as the SENDER of the opposite direction -/
theorem handle_xinv_send {S R : Ep} {H : List Msg} (inv : XInv S R H) (p : Msg) : XInv (handle S p) R H := by
  obtain ⟨same, _, _, rc, _⟩ := handle_frame S p
  exact inv.senderSame same.sent same.reqLog same.nextTSN rc

end Rs
