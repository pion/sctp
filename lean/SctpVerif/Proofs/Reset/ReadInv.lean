import SctpVerif.Proofs.Reset.SendInv
/-!
The receive queues of one stream object (`pushObj`, `readOne`, `drain`), unfragmented messages: what is queued comes
from what was received, ordered messages come out in sequence-number order without skipping one, and nothing that was
received is lost before it is read. Entirely local to the object (`ReaderInv`), whoever the writer is.
-/
namespace Rs

/-- ids of the ordered messages Read has returned, in order -/
def ordGot (o : Obj) : List Nat := (o.got.filter (fun p => !p.2)).map (·.1)

structure ReaderInv (il : Bool) (o : Obj) : Prop where
  sorted : o.ord.Pairwise (fun a b => a.seq ≤ b.seq)
  ordFrom : ∀ q ∈ o.ord, ∃ c ∈ o.rx, c.d.unord = false ∧ c.d.seq = q.seq ∧ c.d.msg = q.msg
  ordCover : ∀ c ∈ o.rx, c.d.unord = false → c.d.seq < o.nextSeq ∨ ∃ q ∈ o.ord, q.seq = c.d.seq
  unordFrom : ∀ q ∈ o.unord, ∃ c ∈ o.rx, c.d.unord = true ∧ c.d.seq = q.seq ∧ c.d.msg = q.msg
  unordCover : ∀ c ∈ o.rx, c.d.unord = true → ∃ c' ∈ o.rx, c'.d.unord = true ∧ (il = true → c'.d.seq = c.d.seq) ∧
      (il = false → c' = c) ∧ ((c'.d.msg, true) ∈ o.got ∨ ∃ q ∈ o.unord, q.msg = c'.d.msg)
  pref : ∀ W : List Nat, (∀ c ∈ o.rx, c.d.unord = false → W[c.d.seq]? = some c.d.msg) → (W.take o.nextSeq).Sublist (ordGot o)

/-- the part of a stream object the receive half depends on -/
structure ReaderSame (o o' : Obj) : Prop where
  sid : o'.sid = o.sid
  gen : o'.gen = o.gen
  readErr : o'.readErr = o.readErr
  nextSeq : o'.nextSeq = o.nextSeq
  ord : o'.ord = o.ord
  unord : o'.unord = o.unord
  got : o'.got = o.got
  eofSeen : o'.eofSeen = o.eofSeen
  rx : o'.rx = o.rx

theorem ReaderSame.refl (o : Obj) : ReaderSame o o := ⟨rfl, rfl, rfl, rfl, rfl, rfl, rfl, rfl, rfl⟩

/-- the invariant reads the cursor, the two queues, what was handed out and what was received, nothing else -/
theorem ReaderInv.of_fields {il : Bool} {o o' : Obj} (h : ReaderInv il o) (hn : o'.nextSeq = o.nextSeq) (ho : o'.ord = o.ord)
    (hu : o'.unord = o.unord) (hg : o'.got = o.got) (hr : o'.rx = o.rx) : ReaderInv il o' := by
  obtain ⟨h1, h2, h3, h4, h5, h6⟩ := h
  refine ⟨?_, ?_, ?_, ?_, ?_, ?_⟩
  · rw [ho]; exact h1
  · rw [ho, hr]; exact h2
  · rw [ho, hr, hn]; exact h3
  · rw [hu, hr]; exact h4
  · rw [hu, hr, hg]; exact h5
  · rw [hr, hn, ordGot, hg]; exact h6

theorem ReaderInv.transport {il : Bool} {o o' : Obj} (h : ReaderInv il o) (s : ReaderSame o o') : ReaderInv il o' :=
  h.of_fields s.nextSeq s.ord s.unord s.got s.rx

theorem readerInv_new (il : Bool) (sid gen : Nat) : ReaderInv il { sid := sid, gen := gen } :=
  ⟨List.Pairwise.nil, fun _ h => (by cases h), fun _ h => (by cases h), fun _ h => (by cases h), fun _ h => (by cases h),
   fun W _ => (by simp [ordGot])⟩

theorem sorted_insOrd (q : QMsg) (l : List QMsg) (h : l.Pairwise (fun a b => a.seq ≤ b.seq)) :
    (insOrd q l).Pairwise (fun a b => a.seq ≤ b.seq) := by
  induction l with
  | nil => simp [insOrd]
  | cons y rest ih =>
    obtain ⟨hy, hr⟩ := List.pairwise_cons.mp h
    simp only [insOrd]
    split
    · rename_i hle
      refine List.pairwise_cons.mpr ⟨?_, ih hr⟩
      intro x hx
      rcases (mem_insOrd q x rest).mp hx with rfl | hx
      · exact hle
      · exact hy x hx
    · rename_i hgt
      refine List.pairwise_cons.mpr ⟨?_, h⟩
      intro x hx
      rcases List.mem_cons.mp hx with rfl | hx
      · omega
      · have := hy x hx; omega

/-- a chunk is recorded and the queues grow: every new entry comes from the chunk, and the chunk is accounted for
(delivered before, queued, or a duplicate of something that is) -/
theorem ReaderInv.record {il : Bool} {o : Obj} (h : ReaderInv il o) (c : Chunk) (ord' unord' : List QMsg)
    (hsorted : ord'.Pairwise (fun a b => a.seq ≤ b.seq))
    (hordSub : ∀ q ∈ o.ord, q ∈ ord')
    (hordFrom : ∀ q ∈ ord', q ∈ o.ord ∨ (c.d.unord = false ∧ c.d.seq = q.seq ∧ c.d.msg = q.msg))
    (hunSub : ∀ q ∈ o.unord, q ∈ unord')
    (hunFrom : ∀ q ∈ unord', q ∈ o.unord ∨ (c.d.unord = true ∧ c.d.seq = q.seq ∧ c.d.msg = q.msg))
    (hcovO : c.d.unord = false → c.d.seq < o.nextSeq ∨ ∃ q ∈ ord', q.seq = c.d.seq)
    (hcovU : c.d.unord = true → ∃ c' ∈ o.rx ++ [c], c'.d.unord = true ∧ (il = true → c'.d.seq = c.d.seq) ∧ (il = false → c' = c) ∧
      ((c'.d.msg, true) ∈ o.got ∨ ∃ q ∈ unord', q.msg = c'.d.msg)) :
    ReaderInv il { o with rx := o.rx ++ [c], ord := ord', unord := unord' } := by
  obtain ⟨_, h2, h3, h4, h5, h6⟩ := h
  have hlast : c ∈ o.rx ++ [c] := List.mem_append_right _ (List.mem_singleton.mpr rfl)
  refine ⟨hsorted, ?_, ?_, ?_, ?_, fun W hW => h6 W (fun c' hc' => hW c' (List.mem_append_left _ hc'))⟩
  · intro q hq
    rcases hordFrom q hq with hq | hq
    · obtain ⟨c', hc', r⟩ := h2 q hq
      exact ⟨c', List.mem_append_left _ hc', r⟩
    · exact ⟨c, hlast, hq⟩
  · intro c' hc' hcu
    rcases List.mem_append.mp hc' with hc' | hc'
    · exact (h3 c' hc' hcu).imp id (fun ⟨q, hq, hqs⟩ => ⟨q, hordSub q hq, hqs⟩)
    · rw [List.mem_singleton] at hc'; subst hc'; exact hcovO hcu
  · intro q hq
    rcases hunFrom q hq with hq | hq
    · obtain ⟨c', hc', r⟩ := h4 q hq
      exact ⟨c', List.mem_append_left _ hc', r⟩
    · exact ⟨c, hlast, hq⟩
  · intro c' hc' hcu
    rcases List.mem_append.mp hc' with hc' | hc'
    · obtain ⟨c'', hc'', r1, r2, r3, r4⟩ := h5 c' hc' hcu
      exact ⟨c'', List.mem_append_left _ hc'', r1, r2, r3, r4.imp id (fun ⟨q, hq, hqm⟩ => ⟨q, hunSub q hq, hqm⟩)⟩
    · rw [List.mem_singleton] at hc'; subst hc'; exact hcovU hcu

theorem pushObj_readerInv (il : Bool) (o : Obj) (c : Chunk) (h : ReaderInv il o) : ReaderInv il (pushObj il o c) := by
  have hlast : c ∈ o.rx ++ [c] := List.mem_append_right _ (List.mem_singleton.mpr rfl)
  unfold pushObj
  simp only
  by_cases hu : c.d.unord = true
  · rw [if_pos hu]
    have hcovO : c.d.unord = false → c.d.seq < o.nextSeq ∨ ∃ q ∈ o.ord, q.seq = c.d.seq := fun hf => by rw [hu] at hf; cases hf
    by_cases hdup : (il && o.unord.any (fun x => x.seq == c.d.seq)) = true
    · -- an unordered I-DATA message with this MID is already queued: dropped
      rw [if_pos hdup]
      simp only [Bool.and_eq_true, List.any_eq_true, beq_iff_eq] at hdup
      obtain ⟨hil, q, hq, hqs⟩ := hdup
      refine h.record c o.ord o.unord h.sorted (fun _ hq => hq) (fun _ hq => Or.inl hq) (fun _ hq => hq) (fun _ hq => Or.inl hq) hcovO (fun _ => ?_)
      obtain ⟨c'', hc'', r1, r2, r3⟩ := h.unordFrom q hq
      exact ⟨c'', List.mem_append_left _ hc'', r1, fun _ => (by rw [r2, hqs]), fun hf => (by rw [hil] at hf; cases hf), Or.inr ⟨q, hq, r3.symm⟩⟩
    · rw [if_neg hdup]
      refine h.record c o.ord (o.unord ++ [_]) h.sorted (fun _ hq => hq) (fun _ hq => Or.inl hq) (fun q hq => List.mem_append_left _ hq) ?_ hcovO (fun _ => ?_)
      · intro q hq
        rcases List.mem_append.mp hq with hq | hq
        · exact Or.inl hq
        · rw [List.mem_singleton] at hq; subst hq; exact Or.inr ⟨hu, rfl, rfl⟩
      · exact ⟨c, hlast, hu, fun _ => rfl, fun _ => rfl, Or.inr ⟨_, List.mem_append_right _ (List.mem_singleton.mpr rfl), rfl⟩⟩
  · rw [if_neg hu]
    have hcovU : c.d.unord = true → ∃ c' ∈ o.rx ++ [c], c'.d.unord = true ∧ (il = true → c'.d.seq = c.d.seq) ∧ (il = false → c' = c) ∧
        ((c'.d.msg, true) ∈ o.got ∨ ∃ q ∈ o.unord, q.msg = c'.d.msg) := fun ht => absurd ht hu
    by_cases hold : c.d.seq < o.nextSeq
    · rw [if_pos hold]
      exact h.record c o.ord o.unord h.sorted (fun _ hq => hq) (fun _ hq => Or.inl hq) (fun _ hq => hq) (fun _ hq => Or.inl hq) (fun _ => Or.inl hold) hcovU
    · rw [if_neg hold]
      by_cases hdup : (il && o.ord.any (fun x => x.seq == c.d.seq)) = true
      · rw [if_pos hdup]
        simp only [Bool.and_eq_true, List.any_eq_true, beq_iff_eq] at hdup
        obtain ⟨_, q, hq, hqs⟩ := hdup
        exact h.record c o.ord o.unord h.sorted (fun _ hq => hq) (fun _ hq => Or.inl hq) (fun _ hq => hq) (fun _ hq => Or.inl hq) (fun _ => Or.inr ⟨q, hq, hqs⟩) hcovU
      · rw [if_neg hdup]
        refine h.record c (insOrd _ o.ord) o.unord (sorted_insOrd _ _ h.sorted) (fun q hq => (mem_insOrd _ q _).mpr (Or.inr hq)) ?_
          (fun _ hq => hq) (fun _ hq => Or.inl hq) (fun _ => Or.inr ⟨_, (mem_insOrd _ _ _).mpr (Or.inl rfl), rfl⟩) hcovU
        intro q hq
        rcases (mem_insOrd _ q _).mp hq with rfl | hq
        · exact Or.inr ⟨by simpa using hu, rfl, rfl⟩
        · exact Or.inl hq

theorem take_succ_of_getElem? (W : List Nat) (n m : Nat) (h : W[n]? = some m) : W.take (n + 1) = W.take n ++ [m] := by
  rw [List.take_add_one, h]; rfl

theorem readOne_readerInv (il : Bool) (o : Obj) (m : Nat × Bool) (o' : Obj) (hr : readOne o = some (m, o'))
    (h : ReaderInv il o) : ReaderInv il { o' with got := o'.got ++ [m] } := by
  obtain ⟨h1, h2, h3, h4, h5, h6⟩ := h
  rcases readOne_cases o m o' hr with ⟨q, rest, hq, rfl, rfl⟩ | ⟨q, rest, _, hq, hle, rfl, rfl⟩
  · -- an unordered message is handed out
    have hg : ordGot { o with unord := rest, got := o.got ++ [(q.msg, true)] } = ordGot o := by
      simp [ordGot, List.filter_append]
    refine ⟨h1, h2, h3, ?_, ?_, ?_⟩
    · intro q' hq'
      exact h4 q' (by rw [hq]; exact List.mem_cons_of_mem _ hq')
    · intro c hc hcu
      obtain ⟨c', hc', r1, r2, r3, r4⟩ := h5 c hc hcu
      refine ⟨c', hc', r1, r2, r3, ?_⟩
      rcases r4 with r4 | ⟨q', hq', r4⟩
      · exact Or.inl (List.mem_append_left _ r4)
      · rw [hq] at hq'
        rcases List.mem_cons.mp hq' with rfl | hq'
        · left; simp only [List.mem_append, List.mem_singleton]; right; rw [r4]
        · exact Or.inr ⟨q', hq', r4⟩
    · intro W hW
      simp only at hg ⊢
      rw [hg]; exact h6 W hW
  · have hsorted := List.pairwise_cons.mp (hq ▸ h1)
    have hg : ordGot { o with ord := rest, nextSeq := if q.seq = o.nextSeq then o.nextSeq + 1 else o.nextSeq, got := o.got ++ [(q.msg, false)] }
        = ordGot o ++ [q.msg] := by
      simp [ordGot, List.filter_append]
    refine ⟨hsorted.2, ?_, ?_, ?_, ?_, ?_⟩
    · intro q' hq'
      exact h2 q' (by rw [hq]; exact List.mem_cons_of_mem _ hq')
    · intro c hc hcu
      simp only
      rcases h3 c hc hcu with h | ⟨q', hq', hqs⟩
      · left; split <;> omega
      · rw [hq] at hq'
        rcases List.mem_cons.mp hq' with rfl | hq'
        · left; split <;> omega
        · exact Or.inr ⟨q', hq', hqs⟩
    · exact h4
    · intro c hc hcu
      obtain ⟨c', hc', r1, r2, r3, r4⟩ := h5 c hc hcu
      refine ⟨c', hc', r1, r2, r3, ?_⟩
      rcases r4 with r4 | r4
      · exact Or.inl (List.mem_append_left _ r4)
      · exact Or.inr r4
    · intro W hW
      simp only at hg ⊢
      rw [hg]
      have hp := h6 W hW
      split
      · rename_i heq
        obtain ⟨c, hc, r1, r2, r3⟩ := h2 q (by rw [hq]; exact List.mem_cons_self)
        have := hW c hc r1
        rw [r2, r3, heq] at this
        rw [take_succ_of_getElem? W o.nextSeq q.msg this]
        exact List.Sublist.append hp (List.Sublist.refl _)
      · exact hp.trans (List.sublist_append_left _ _)

theorem drain_readerInv (il : Bool) (fuel : Nat) (o : Obj) (acc : List Nat) (h : ReaderInv il o) : ReaderInv il (drain fuel o acc).1 :=
  drain_preserves (R := fun o o' => ReaderInv il o → ReaderInv il o') (fun _ h => h) (fun h1 h2 h => h2 (h1 h))
    (fun o m o' hr => readOne_readerInv il o m o' hr) fuel o acc h

/-- one successful read takes exactly one entry out of the two queues -/
theorem readOne_size (o : Obj) (m : Nat × Bool) (o' : Obj) (hr : readOne o = some (m, o')) :
    o'.ord.length + o'.unord.length + 1 = o.ord.length + o.unord.length := by
  rcases readOne_cases o m o' hr with ⟨q, rest, hq, _, rfl⟩ | ⟨q, rest, _, hq, _, _, rfl⟩ <;>
    (simp only [hq, List.length_cons]; omega)

/-- with enough fuel the drain stops only when nothing more is readable -/
theorem drain_done (fuel : Nat) : ∀ (o : Obj) (acc : List Nat), o.ord.length + o.unord.length ≤ fuel →
    readOne (drain fuel o acc).1 = none := by
  induction fuel with
  | zero =>
    intro o acc hle
    have h1 : o.ord = [] := List.eq_nil_of_length_eq_zero (by omega)
    have h2 : o.unord = [] := List.eq_nil_of_length_eq_zero (by omega)
    simp [drain, readOne, h1, h2]
  | succ n ih =>
    intro o acc hle
    simp only [drain]
    split
    · rename_i m o' hr
      have := readOne_size o m o' hr
      exact ih _ _ (by simp only; omega)
    · rename_i hnone; exact hnone

/-- the read error and the identity of the object are not touched by reading -/
theorem readOne_same (o : Obj) (m : Nat × Bool) (o' : Obj) (hr : readOne o = some (m, o')) :
    o'.sid = o.sid ∧ o'.gen = o.gen ∧ o'.readErr = o.readErr ∧ o'.rx = o.rx ∧ o'.eofSeen = o.eofSeen ∧ o'.got = o.got := by
  rcases readOne_cases o m o' hr with ⟨q, rest, _, _, rfl⟩ | ⟨q, rest, _, _, _, _, rfl⟩ <;>
    exact ⟨rfl, rfl, rfl, rfl, rfl, rfl⟩

theorem drain_same (fuel : Nat) (o : Obj) (acc : List Nat) :
    (drain fuel o acc).1.sid = o.sid ∧ (drain fuel o acc).1.gen = o.gen ∧ (drain fuel o acc).1.readErr = o.readErr ∧
    (drain fuel o acc).1.rx = o.rx ∧ (drain fuel o acc).1.eofSeen = o.eofSeen :=
  drain_preserves (R := fun o o' => o'.sid = o.sid ∧ o'.gen = o.gen ∧ o'.readErr = o.readErr ∧ o'.rx = o.rx ∧ o'.eofSeen = o.eofSeen)
    (fun _ => ⟨rfl, rfl, rfl, rfl, rfl⟩)
    (fun ⟨a, b, c, d, f⟩ ⟨a', b', c', d', f'⟩ => ⟨a'.trans a, b'.trans b, c'.trans c, d'.trans d, f'.trans f⟩)
    (fun o m o' hr => by obtain ⟨a, b, c, d, f, _⟩ := readOne_same o m o' hr; exact ⟨a, b, c, d, f⟩) fuel o acc

/-- nothing readable is left and every sequence number below `n` was received: the cursor is past `n` -/
theorem cursor_past (il : Bool) (o : Obj) (h : ReaderInv il o) (hnone : readOne o = none) (n : Nat)
    (hall : ∀ k, k < n → ∃ c ∈ o.rx, c.d.unord = false ∧ c.d.seq = k) : n ≤ o.nextSeq := by
  rcases Nat.lt_or_ge o.nextSeq n with hlt | hge
  · exfalso
    obtain ⟨c, hc, hcu, hcs⟩ := hall o.nextSeq hlt
    rcases h.ordCover c hc hcu with hx | ⟨q, hq, hqs⟩
    · omega
    · obtain ⟨_, hnil | ⟨q0, rest, hq0, hgt⟩⟩ := (readOne_none_iff o).mp hnone
      · rw [hnil] at hq; cases hq
      · have hs := h.sorted
        rw [hq0] at hs hq
        rcases List.mem_cons.mp hq with rfl | hq
        · omega
        · have := (List.pairwise_cons.mp hs).1 q hq; omega
  · exact hge

/-- nothing readable is left: every unordered message received has been handed out -/
theorem unord_all_read (il : Bool) (o : Obj) (h : ReaderInv il o) (hnone : readOne o = none) (c : Chunk) (hc : c ∈ o.rx)
    (hcu : c.d.unord = true) : ∃ c' ∈ o.rx, c'.d.unord = true ∧ (il = true → c'.d.seq = c.d.seq) ∧ (il = false → c' = c) ∧
      (c'.d.msg, true) ∈ o.got := by
  obtain ⟨c', hc', r1, r2, r3, r4⟩ := h.unordCover c hc hcu
  refine ⟨c', hc', r1, r2, r3, ?_⟩
  rcases r4 with r4 | ⟨q, hq, _⟩
  · exact r4
  · rw [((readOne_none_iff o).mp hnone).1] at hq; cases hq

end Rs
