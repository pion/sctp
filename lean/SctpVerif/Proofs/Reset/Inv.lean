import SctpVerif.Proofs.Reset.Pop
/-!
Invariants of one endpoint of the stream-reset model, sender half:
* `SInv` — structure of the pending queue, the sent log and the request log (TSNs, where the end-of-stream marker
  sits, what a request closes);
* `WInv` — how the messages an application wrote on a stream object are numbered on the wire.
Both only look at the "writer part" of the stream objects (`WriterSame`), so everything the receive half of the same
endpoint does to its objects leaves them intact (`SInv.transport`, `WInv.transport`).
-/
namespace Rs

def Ep.items (e : Ep) : List Data := e.sent.map (·.d) ++ pendData e.pend

/-- ids of the messages of one kind (ordered / unordered) written on an object, in order -/
def wroteCls (o : Obj) (u : Bool) : List Nat := (o.wrote.filter (fun p => p.2 == u)).map (·.1)

/-- does a chunk of this kind carry a sequence number of its own? (DATA: ordered only; I-DATA: both) -/
def numbered (il u : Bool) : Bool := il || !u

def isOpen (o : Obj) : Prop := o.state = Gen.StreamStateOpen

instance (o : Obj) : Decidable (isOpen o) := by unfold isOpen; infer_instance

/-- the part of a stream object the send half depends on -/
structure WriterSame (o o' : Obj) : Prop where
  sid : o'.sid = o.sid
  gen : o'.gen = o.gen
  wrote : o'.wrote = o.wrote
  openIff : isOpen o' ↔ isOpen o
  ctr : isOpen o → o'.ssn = o.ssn ∧ o'.omid = o.omid ∧ o'.umid = o.umid

theorem WriterSame.refl (o : Obj) : WriterSame o o := ⟨rfl, rfl, rfl, Iff.rfl, fun _ => ⟨rfl, rfl, rfl⟩⟩

theorem WriterSame.trans {a b c : Obj} (h1 : WriterSame a b) (h2 : WriterSame b c) : WriterSame a c :=
  ⟨h2.sid.trans h1.sid, h2.gen.trans h1.gen, h2.wrote.trans h1.wrote, h2.openIff.trans h1.openIff,
   fun ha => by
     obtain ⟨x1, x2, x3⟩ := h1.ctr ha
     obtain ⟨y1, y2, y3⟩ := h2.ctr (h1.openIff.mpr ha)
     exact ⟨y1.trans x1, y2.trans x2, y3.trans x3⟩⟩

/-- a stream object nobody has written to or closed yet -/
structure FreshW (o : Obj) : Prop where
  isOpen : isOpen o
  wrote : o.wrote = []
  ssn : o.ssn = 0
  omid : o.omid = 0
  umid : o.umid = 0

/-- object tables: old handles keep their writer part, new handles are fresh objects -/
structure ObjsStep (l l' : List Obj) : Prop where
  len : l.length ≤ l'.length
  old : ∀ (h : Nat) (o : Obj), l[h]? = some o → ∃ o', l'[h]? = some o' ∧ WriterSame o o'
  new : ∀ (h : Nat) (o' : Obj), l'[h]? = some o' → l.length ≤ h → FreshW o'

theorem ObjsStep.refl (l : List Obj) : ObjsStep l l :=
  ⟨Nat.le_refl _, fun _ o h => ⟨o, h, WriterSame.refl o⟩, fun h o' ho hl => by
    have := ListAux.lt_of_getElem? ho
    omega⟩

/-- an object of the new table is either an old one with the same writer part, or fresh -/
theorem ObjsStep.back {l l' : List Obj} (st : ObjsStep l l') (h : Nat) (o' : Obj) (ho : l'[h]? = some o') :
    (∃ o, l[h]? = some o ∧ WriterSame o o') ∨ (l.length ≤ h ∧ FreshW o') := by
  rcases Nat.lt_or_ge h l.length with hl | hl
  · left
    have : l[h]? = some l[h] := List.getElem?_eq_getElem hl
    obtain ⟨o'', ho'', ws⟩ := st.old h _ this
    rw [ho] at ho''; cases ho''
    exact ⟨_, this, ws⟩
  · exact Or.inr ⟨hl, st.new h o' ho hl⟩

theorem ObjsStep.ofRel {l l' : List Obj} {R : Obj → Obj → Prop} (hR : ∀ o o', R o o' → WriterSame o o')
    (h : ObjsRel R l l') : ObjsStep l l' := by
  refine ⟨Nat.le_of_eq h.1.symm, ?_, ?_⟩
  · intro j o ho
    obtain ⟨o', ho', r⟩ := h.2 j o ho
    exact ⟨o', ho', hR _ _ r⟩
  · intro j o' ho' hl
    have := ListAux.lt_of_getElem? ho'
    rw [h.1] at this
    omega

theorem ObjsStep.append (l : List Obj) (o : Obj) (hf : FreshW o) : ObjsStep l (l ++ [o]) := by
  refine ⟨by simp, ?_, ?_⟩
  · intro j oj hj
    exact ⟨oj, by rw [List.getElem?_append_left (ListAux.lt_of_getElem? hj)]; exact hj, WriterSame.refl _⟩
  · intro j o' ho' hl
    rcases getElem?_append_one j o' ho' with ho | ⟨_, rfl⟩
    · have := ListAux.lt_of_getElem? ho; omega
    · exact hf

structure SInv (e : Ep) : Prop where
  tsnLt : ∀ c ∈ e.sent, c.tsn < e.nextTSN
  tsnInj : ∀ c ∈ e.sent, ∀ c' ∈ e.sent, c.tsn = c'.tsn → c = c'
  markerClosed : ∀ s h, Item.marker s h ∈ e.pend → ∃ o, e.objs[h]? = some o ∧ o.sid = s ∧ ¬ isOpen o
  markerLast : e.pend.Pairwise MarkerBefore
  markerUniq : e.pend.Pairwise (fun a b => ∀ s h s', a = Item.marker s h → b ≠ Item.marker s' h)
  closedHas : ∀ (h : Nat) (o : Obj), e.objs[h]? = some o → ¬ isOpen o →
      (∃ s, Item.marker s h ∈ e.pend) ∨ (∃ rec ∈ e.reqLog, h ∈ rec.wobjs)
  recOK : ∀ rec ∈ e.reqLog, rec.sids.length = rec.wobjs.length ∧ rec.rsn < e.nextRSN ∧
      ∀ p ∈ rec.sids.zip rec.wobjs, ∃ o, e.objs[p.2]? = some o ∧ o.sid = p.1 ∧ ¬ isOpen o ∧
        (∀ s, Item.marker s p.2 ∉ e.pend) ∧ (∀ d, Item.data d ∈ e.pend → d.wobj ≠ p.2) ∧
        (∀ c ∈ e.sent, c.d.wobj = p.2 → c.tsn ≤ rec.last)
  rsnInj : ∀ r ∈ e.reqLog, ∀ r' ∈ e.reqLog, r.rsn = r'.rsn → r = r'
  recUniq : ∀ r ∈ e.reqLog, ∀ r' ∈ e.reqLog, ∀ h, h ∈ r.wobjs → h ∈ r'.wobjs → r = r'
  ctlResp : ∀ p ∈ e.ctl, ∃ r v, p = Msg.resp r v

/-- how written messages are numbered -/
structure WInv (e : Ep) : Prop where
  item : ∀ d ∈ e.items, ∃ o, e.objs[d.wobj]? = some o ∧ o.sid = d.sid ∧ o.gen = d.gen ∧ (d.msg, d.unord) ∈ o.wrote ∧
      (numbered e.il d.unord = true → (wroteCls o d.unord)[d.seq]? = some d.msg)
  cover : ∀ (h : Nat) (o : Obj), e.objs[h]? = some o → ∀ m u, (m, u) ∈ o.wrote →
      ∃ d ∈ e.items, d.wobj = h ∧ d.unord = u ∧ d.msg = m
  coverN : ∀ (h : Nat) (o : Obj), e.objs[h]? = some o → ∀ u k m, numbered e.il u = true → (wroteCls o u)[k]? = some m →
      ∃ d ∈ e.items, d.wobj = h ∧ d.unord = u ∧ d.seq = k ∧ d.msg = m
  ctr : ∀ (h : Nat) (o : Obj), e.objs[h]? = some o → isOpen o → ∀ u, numbered e.il u = true →
      seqOf e.il o u = (wroteCls o u).length

/-- the fields of an endpoint the send-half invariants read, apart from the object table -/
structure SendSame (e e' : Ep) : Prop where
  il : e'.il = e.il
  nextTSN : e'.nextTSN = e.nextTSN
  nextRSN : e'.nextRSN = e.nextRSN
  pend : e'.pend = e.pend
  sent : e'.sent = e.sent
  reqLog : e'.reqLog = e.reqLog

theorem wroteCls_same {o o' : Obj} (h : o'.wrote = o.wrote) (u : Bool) : wroteCls o' u = wroteCls o u := by
  unfold wroteCls; rw [h]

theorem seqOf_same {o o' : Obj} (il : Bool) (h : o'.ssn = o.ssn ∧ o'.omid = o.omid ∧ o'.umid = o.umid) (u : Bool) :
    seqOf il o' u = seqOf il o u := by
  unfold seqOf; rw [h.1, h.2.1, h.2.2]

theorem Ep.items_same {e e' : Ep} (h : SendSame e e') : e'.items = e.items := by
  unfold Ep.items; rw [h.pend, h.sent]

/-- the send-half structure survives anything that keeps the writer part of the objects (and may add fresh objects)
and only appends responses to the control queue -/
theorem SInv.transport {e e' : Ep} (inv : SInv e) (same : SendSame e e') (st : ObjsStep e.objs e'.objs)
    (hctl : ∀ p ∈ e'.ctl, ∃ r v, p = Msg.resp r v) : SInv e' := by
  obtain ⟨h1, h2, h3, h4, h5, h6, h7, h8, h9, _⟩ := inv
  refine ⟨?_, ?_, ?_, ?_, ?_, ?_, ?_, ?_, ?_, hctl⟩
  · rw [same.sent, same.nextTSN]; exact h1
  · rw [same.sent]; exact h2
  · rw [same.pend]
    intro s h hm
    obtain ⟨o, ho, hs, hc⟩ := h3 s h hm
    obtain ⟨o', ho', ws⟩ := st.old h o ho
    exact ⟨o', ho', ws.sid.trans hs, fun x => hc (ws.openIff.mp x)⟩
  · rw [same.pend]; exact h4
  · rw [same.pend]; exact h5
  · rw [same.pend, same.reqLog]
    intro h o' ho' hc
    rcases st.back h o' ho' with ⟨o, ho, ws⟩ | ⟨_, hf⟩
    · exact h6 h o ho (fun x => hc (ws.openIff.mpr x))
    · exact absurd hf.isOpen hc
  · rw [same.reqLog, same.nextRSN, same.pend, same.sent]
    intro rec hr
    obtain ⟨a, b, c⟩ := h7 rec hr
    refine ⟨a, b, ?_⟩
    intro p hp
    obtain ⟨o, ho, hs, hc, r1, r2, r3⟩ := c p hp
    obtain ⟨o', ho', ws⟩ := st.old p.2 o ho
    exact ⟨o', ho', ws.sid.trans hs, fun x => hc (ws.openIff.mp x), r1, r2, r3⟩
  · rw [same.reqLog]; exact h8
  · rw [same.reqLog]; exact h9

theorem WInv.transport {e e' : Ep} (inv : WInv e) (same : SendSame e e') (st : ObjsStep e.objs e'.objs) : WInv e' := by
  obtain ⟨h1, h2, h3, h4⟩ := inv
  have hitems := Ep.items_same same
  refine ⟨?_, ?_, ?_, ?_⟩
  · rw [hitems, same.il]
    intro d hd
    obtain ⟨o, ho, a, b, c, f⟩ := h1 d hd
    obtain ⟨o', ho', ws⟩ := st.old _ o ho
    refine ⟨o', ho', ws.sid.trans a, ws.gen.trans b, by rw [ws.wrote]; exact c, ?_⟩
    intro hn
    rw [wroteCls_same ws.wrote]; exact f hn
  · rw [hitems]
    intro h o' ho' m u hm
    rcases st.back h o' ho' with ⟨o, ho, ws⟩ | ⟨_, hf⟩
    · exact h2 h o ho m u (by rw [← ws.wrote]; exact hm)
    · rw [hf.wrote] at hm; cases hm
  · rw [hitems, same.il]
    intro h o' ho' u k m hn hk
    rcases st.back h o' ho' with ⟨o, ho, ws⟩ | ⟨_, hf⟩
    · exact h3 h o ho u k m hn (by rw [← wroteCls_same ws.wrote]; exact hk)
    · simp [wroteCls, hf.wrote] at hk
  · rw [same.il]
    intro h o' ho' hop u hn
    rcases st.back h o' ho' with ⟨o, ho, ws⟩ | ⟨_, hf⟩
    · have hop' := ws.openIff.mp hop
      rw [seqOf_same e.il (ws.ctr hop'), wroteCls_same ws.wrote]
      exact h4 h o ho hop' u hn
    · simp [seqOf, wroteCls, hf.wrote, hf.ssn, hf.omid, hf.umid]

end Rs
