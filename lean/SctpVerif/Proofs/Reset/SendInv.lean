import SctpVerif.Proofs.Reset.RecvFrame
/-!
`SInv` and `WInv` are kept by every operation of an endpoint: OpenStream (`addObjEp_inv`), the other application calls and the timer
expiry (`Local.inv`: only a write and a close, `wrote_inv` and `closed_inv`, move the send half), the write loop
(`gatherEp_inv`) and inbound packets (`handle_inv`).
-/
namespace Rs

/-- `WInv` only depends on WHICH data items exist, not on whether they are still pending -/
theorem WInv.transportItems {e e' : Ep} (inv : WInv e) (hil : e'.il = e.il) (hobjs : e'.objs = e.objs)
    (hitems : ∀ d, d ∈ e'.items ↔ d ∈ e.items) : WInv e' := by
  obtain ⟨h1, h2, h3, h4⟩ := inv
  refine ⟨?_, ?_, ?_, ?_⟩
  · rw [hil, hobjs]; intro d hd; exact h1 d ((hitems d).mp hd)
  · rw [hobjs]; intro h o ho m u hm
    obtain ⟨d, hd, r⟩ := h2 h o ho m u hm
    exact ⟨d, (hitems d).mpr hd, r⟩
  · rw [hil, hobjs]; intro h o ho u k m hn hk
    obtain ⟨d, hd, r⟩ := h3 h o ho u k m hn hk
    exact ⟨d, (hitems d).mpr hd, r⟩
  · rw [hil, hobjs]; exact h4

/-! ### OpenStream, handle, and what a read does to its object: nothing of the send half moves -/

theorem addObjEp_inv (e : Ep) (sid gen : Nat) (hs : SInv e) (hw : WInv e) :
    SInv (addObjEp e sid gen) ∧ WInv (addObjEp e sid gen) :=
  have st := ObjsStep.append e.objs { sid := sid, gen := gen } (freshW_new sid gen)
  ⟨hs.transport ⟨rfl, rfl, rfl, rfl, rfl, rfl⟩ st hs.ctlResp, hw.transport ⟨rfl, rfl, rfl, rfl, rfl, rfl⟩ st⟩

theorem readOne_writerSame (o : Obj) (m : Nat × Bool) (o' : Obj) (h : readOne o = some (m, o')) : WriterSame o o' := by
  rcases readOne_cases o m o' h with ⟨q, rest, _, _, rfl⟩ | ⟨q, rest, _, _, _, _, rfl⟩ <;>
    exact ⟨rfl, rfl, rfl, Iff.rfl, fun _ => ⟨rfl, rfl, rfl⟩⟩

theorem drain_writerSame (fuel : Nat) (o : Obj) (acc : List Nat) : WriterSame o (drain fuel o acc).1 :=
  drain_preserves WriterSame.refl WriterSame.trans
    (fun o m o' hr => (readOne_writerSame o m o' hr).trans ⟨rfl, rfl, rfl, Iff.rfl, fun _ => ⟨rfl, rfl, rfl⟩⟩) fuel o acc

theorem readObj_writerSame (o : Obj) : WriterSame o (readObj o) := by
  have := drain_writerSame (o.ord.length + o.unord.length) o []
  unfold readObj
  split
  · exact this.trans ⟨rfl, rfl, rfl, Iff.rfl, fun _ => ⟨rfl, rfl, rfl⟩⟩
  · exact this

theorem handle_inv (e : Ep) (p : Msg) (hs : SInv e) (hw : WInv e) : SInv (handle e p) ∧ WInv (handle e p) := by
  obtain ⟨same, st, hctl, _⟩ := handle_frame e p
  refine ⟨hs.transport same st ?_, hw.transport same st⟩
  intro q hq
  rcases hctl q hq with h | h
  · exact hs.ctlResp q h
  · exact h

theorem bump_state (il : Bool) (o : Obj) (u : Bool) : (bump il o u).state = o.state := by
  unfold bump; split
  · split <;> rfl
  · split <;> rfl

theorem bump_sid (il : Bool) (o : Obj) (u : Bool) : (bump il o u).sid = o.sid ∧ (bump il o u).gen = o.gen ∧ (bump il o u).wrote = o.wrote := by
  unfold bump; split
  · split <;> exact ⟨rfl, rfl, rfl⟩
  · split <;> exact ⟨rfl, rfl, rfl⟩

theorem wroteCls_append (o : Obj) (m : Nat) (u u' : Bool) (w : List (Nat × Bool)) (hw : w = o.wrote ++ [(m, u)]) :
    wroteCls { o with wrote := w } u' = wroteCls o u' ++ (if u = u' then [m] else []) := by
  subst hw
  unfold wroteCls
  simp only [List.filter_append, List.map_append]
  congr 1
  by_cases h : u = u'
  · subst h; simp
  · simp [h]

theorem seqOf_bump (il : Bool) (o : Obj) (u u' : Bool) (hn : numbered il u' = true) :
    seqOf il (bump il o u) u' = seqOf il o u' + (if u = u' then 1 else 0) := by
  unfold seqOf bump numbered at *
  cases il <;> cases u <;> cases u' <;> simp_all

/-- an entry is queued by the open object `h`, which becomes `o'`: data it wrote, or — if `o'` is closed — its
end-of-stream marker -/
theorem SInv.enqueue {e : Ep} (hs : SInv e) (h : Nat) (o o' : Obj) (it : Item) (ho : e.objs[h]? = some o) (hopen : isOpen o)
    (hitM : ∀ s j, it = Item.marker s j → j = h ∧ o'.sid = s ∧ ¬ isOpen o') (hitD : ∀ d, it = Item.data d → d.wobj = h)
    (hclosed : ¬ isOpen o' → ∃ s, it = Item.marker s h) :
    SInv { e with objs := e.objs.set h o', pend := e.pend ++ [it] } := by
  have hget : (e.objs.set h o')[h]? = some o' := by simp [ListAux.lt_of_getElem? ho]
  have hne : ∀ j, j ≠ h → (e.objs.set h o')[j]? = e.objs[j]? := fun j hj => List.getElem?_set_ne (Ne.symm hj)
  -- an object with a marker or a request is not open: it is not h
  have noMarker : ∀ s j, Item.marker s j ∈ e.pend → j ≠ h := by
    intro s j hm hj
    obtain ⟨o2, ho2, _, hc⟩ := hs.markerClosed s j hm
    rw [hj, ho] at ho2; cases ho2; exact hc hopen
  refine ⟨hs.tsnLt, hs.tsnInj, ?_, ?_, ?_, ?_, ?_, hs.rsnInj, hs.recUniq, hs.ctlResp⟩
  · intro s j hm
    rcases List.mem_append.mp hm with hm | hm
    · obtain ⟨o2, ho2, a, b⟩ := hs.markerClosed s j hm
      exact ⟨o2, by rw [hne j (noMarker s j hm)]; exact ho2, a, b⟩
    · obtain ⟨rfl, a, b⟩ := hitM s j (List.mem_singleton.mp hm).symm
      exact ⟨o', hget, a, b⟩
  · refine List.pairwise_append.mpr ⟨hs.markerLast, List.pairwise_singleton _ _, ?_⟩
    intro a ha b hb
    rw [List.mem_singleton] at hb; subst hb
    intro s j haj d hd
    rw [hitD d hd]; exact Ne.symm (noMarker s j (haj ▸ ha))
  · refine List.pairwise_append.mpr ⟨hs.markerUniq, List.pairwise_singleton _ _, ?_⟩
    intro a ha b hb
    rw [List.mem_singleton] at hb; subst hb
    intro s j s' haj hb
    exact noMarker s j (haj ▸ ha) (hitM s' j hb).1
  · intro j oj hoj hc
    by_cases hj : j = h
    · subst hj; rw [hget] at hoj; cases hoj
      obtain ⟨s, rfl⟩ := hclosed hc
      exact Or.inl ⟨s, by simp⟩
    · rw [hne j hj] at hoj
      exact (hs.closedHas j oj hoj hc).imp (fun ⟨s, hm⟩ => ⟨s, List.mem_append_left _ hm⟩) id
  · intro rec hr
    obtain ⟨a, b, c⟩ := hs.recOK rec hr
    refine ⟨a, b, ?_⟩
    intro p hp
    obtain ⟨o2, ho2, x1, x2, x3, x4, x5⟩ := c p hp
    have hph : p.2 ≠ h := by
      intro hj; rw [hj, ho] at ho2; cases ho2; exact x2 hopen
    refine ⟨o2, by rw [hne _ hph]; exact ho2, x1, x2, ?_, ?_, x5⟩
    · intro s hm
      rcases List.mem_append.mp hm with hm | hm
      · exact x3 s hm
      · exact hph (hitM s p.2 (List.mem_singleton.mp hm).symm).1
    · intro d hd
      rcases List.mem_append.mp hd with hd | hd
      · exact x4 d hd
      · rw [hitD d (List.mem_singleton.mp hd).symm]; exact Ne.symm hph

theorem wrote_inv {e : Ep} (h len : Nat) (unord : Bool) (msg : Nat) (o : Obj) (ho : e.objs[h]? = some o) (hopen : isOpen o)
    (hs : SInv e) (hw : WInv e) : SInv (wroteEp e h len unord msg o) ∧ WInv (wroteEp e h len unord msg o) := by
  unfold wroteEp
  generalize hd : ({ sid := o.sid, unord := unord, seq := seqOf e.il o unord, msg := msg, len := len, wobj := h, gen := o.gen } : Data) = d
  generalize ho' : ({ bump e.il o unord with wrote := o.wrote ++ [(msg, unord)] } : Obj) = o'
  have hlt : h < e.objs.length := ListAux.lt_of_getElem? ho
  have hget : (e.objs.set h o')[h]? = some o' := by simp [hlt]
  have hne : ∀ j, j ≠ h → (e.objs.set h o')[j]? = e.objs[j]? := fun j hj => List.getElem?_set_ne (Ne.symm hj)
  have ho'open : isOpen o' := by rw [← ho']; unfold isOpen; simp only; rw [bump_state]; exact hopen
  have ho'sid : o'.sid = o.sid ∧ o'.gen = o.gen := by rw [← ho']; exact ⟨(bump_sid _ _ _).1, (bump_sid _ _ _).2.1⟩
  have ho'wrote : o'.wrote = o.wrote ++ [(msg, unord)] := by rw [← ho']
  have hdw : d.wobj = h := by rw [← hd]
  have hsub : ∀ d2, d2 ∈ e.items → d2 ∈ ({ e with objs := e.objs.set h o', pend := e.pend ++ [Item.data d] } : Ep).items := by
    intro d2 h2
    unfold Ep.items at h2 ⊢
    simp only [pendData_append, List.mem_append] at h2 ⊢
    rcases h2 with h2 | h2
    · exact Or.inl h2
    · exact Or.inr (Or.inl h2)
  have hcls : ∀ u, wroteCls o' u = wroteCls o u ++ (if unord = u then [msg] else []) := by
    intro u
    have := wroteCls_append (bump e.il o unord) msg unord u _ (by rw [(bump_sid _ _ _).2.2])
    rw [ho'] at this
    rw [this, wroteCls_same (bump_sid _ _ _).2.2]
  refine ⟨hs.enqueue h o o' (Item.data d) ho hopen (fun _ _ hc => by cases hc) (fun d2 hd2 => by cases hd2; exact hdw)
    (fun hc => absurd ho'open hc), ⟨?_, ?_, ?_, ?_⟩⟩
  · -- item
    intro d2 hd2
    have : d2 ∈ e.items ∨ d2 = d := by
      unfold Ep.items at hd2 ⊢
      simp only [pendData_append, List.mem_append] at hd2 ⊢
      rcases hd2 with h1 | h1 | h1
      · exact Or.inl (Or.inl h1)
      · exact Or.inl (Or.inr h1)
      · right; simpa [pendData] using h1
    rcases this with hold | hnew
    · obtain ⟨o2, ho2, a, b, c, f⟩ := hw.item d2 hold
      by_cases hj : d2.wobj = h
      · rw [hj, ho] at ho2; cases ho2
        refine ⟨o', by rw [hj]; exact hget, ho'sid.1.trans a, ho'sid.2.trans b, by rw [ho'wrote]; exact List.mem_append_left _ c, ?_⟩
        intro hn
        rw [hcls]
        have := f hn
        rw [List.getElem?_append_left (ListAux.lt_of_getElem? this)]; exact this
      · exact ⟨o2, by rw [hne _ hj]; exact ho2, a, b, c, f⟩
    · rw [hnew]
      refine ⟨o', by rw [hdw]; exact hget, ?_, ?_, ?_, ?_⟩
      · rw [← hd]; exact ho'sid.1
      · rw [← hd]; exact ho'sid.2
      · rw [ho'wrote, ← hd]; simp
      · intro hn
        have hdu : d.unord = unord := by rw [← hd]
        have hds : d.seq = seqOf e.il o unord := by rw [← hd]
        have hdm : d.msg = msg := by rw [← hd]
        rw [hdu] at hn ⊢
        rw [hcls, hds, hw.ctr h o ho hopen unord hn, hdm]
        simp
  · -- cover
    intro j oj hoj m u hm
    by_cases hj : j = h
    · subst hj; rw [hget] at hoj; cases hoj
      rw [ho'wrote] at hm
      simp only [List.mem_append, List.mem_singleton, Prod.mk.injEq] at hm
      rcases hm with hm | ⟨rfl, rfl⟩
      · obtain ⟨d2, hd2, r⟩ := hw.cover j o ho m u hm
        exact ⟨d2, hsub d2 hd2, r⟩
      · refine ⟨d, ?_, hdw, by rw [← hd], by rw [← hd]⟩
        unfold Ep.items; simp [pendData]
    · rw [hne j hj] at hoj
      obtain ⟨d2, hd2, r⟩ := hw.cover j oj hoj m u hm
      exact ⟨d2, hsub d2 hd2, r⟩
  · -- coverN
    intro j oj hoj u k m hn hk
    by_cases hj : j = h
    · subst hj; rw [hget] at hoj; cases hoj
      rw [hcls] at hk
      rcases Nat.lt_or_ge k (wroteCls o u).length with hl | hl
      · rw [List.getElem?_append_left hl] at hk
        obtain ⟨d2, hd2, r⟩ := hw.coverN j o ho u k m hn hk
        exact ⟨d2, hsub d2 hd2, r⟩
      · rw [List.getElem?_append_right hl] at hk
        by_cases hu : unord = u
        · subst hu
          simp only [↓reduceIte] at hk
          have hk0 : k - (wroteCls o unord).length = 0 := by
            rcases Nat.eq_zero_or_pos (k - (wroteCls o unord).length) with h0 | h0
            · exact h0
            · rw [List.getElem?_eq_none (by simp; omega)] at hk; cases hk
          rw [hk0] at hk
          simp at hk
          refine ⟨d, ?_, hdw, by rw [← hd], ?_, by rw [← hd]; exact hk⟩
          · unfold Ep.items; simp [pendData]
          · rw [← hd]; simp only
            rw [hw.ctr j o ho hopen unord hn]; omega
        · simp [hu] at hk
    · rw [hne j hj] at hoj
      obtain ⟨d2, hd2, r⟩ := hw.coverN j oj hoj u k m hn hk
      exact ⟨d2, hsub d2 hd2, r⟩
  · -- ctr
    intro j oj hoj hop u hn
    by_cases hj : j = h
    · subst hj; rw [hget] at hoj; cases hoj
      have hseq : seqOf e.il o' u = seqOf e.il (bump e.il o unord) u := by rw [← ho']; rfl
      rw [hcls, hseq, seqOf_bump e.il o unord u hn, hw.ctr j o ho hopen u hn]
      split <;> simp
    · rw [hne j hj] at hoj
      exact hw.ctr j oj hoj hop u hn

theorem closed_inv {e : Ep} (h : Nat) (o : Obj) (ho : e.objs[h]? = some o) (hopen : isOpen o) (hs : SInv e) (hw : WInv e) :
    SInv (closedEp e h o) ∧ WInv (closedEp e h o) := by
  unfold closedEp
  generalize ho' : ({ o with state := if o.readErr then Gen.StreamStateClosed else Gen.StreamStateClosing } : Obj) = o'
  have hlt : h < e.objs.length := ListAux.lt_of_getElem? ho
  have hget : (e.objs.set h o')[h]? = some o' := by simp [hlt]
  have hne : ∀ j, j ≠ h → (e.objs.set h o')[j]? = e.objs[j]? := fun j hj => List.getElem?_set_ne (Ne.symm hj)
  have hclosed : ¬ isOpen o' := by
    rw [← ho']; unfold isOpen; simp only; split <;> decide
  have hsame : o'.sid = o.sid ∧ o'.gen = o.gen ∧ o'.wrote = o.wrote := by rw [← ho']; exact ⟨rfl, rfl, rfl⟩
  have hitems : ({ e with objs := e.objs.set h o', pend := e.pend ++ [Item.marker o.sid h] } : Ep).items = e.items := by
    unfold Ep.items; simp [pendData]
  refine ⟨hs.enqueue h o o' (Item.marker o.sid h) ho hopen (fun _ _ hm => by cases hm; exact ⟨rfl, hsame.1, hclosed⟩)
    (fun _ hd => by cases hd) (fun _ => ⟨o.sid, rfl⟩), ⟨?_, ?_, ?_, ?_⟩⟩
  · rw [hitems]
    intro d hd
    obtain ⟨o2, ho2, a, b, c, f⟩ := hw.item d hd
    by_cases hj : d.wobj = h
    · rw [hj, ho] at ho2; cases ho2
      refine ⟨o', by rw [hj]; exact hget, hsame.1.trans a, hsame.2.1.trans b, by rw [hsame.2.2]; exact c, ?_⟩
      intro hn; rw [wroteCls_same hsame.2.2]; exact f hn
    · exact ⟨o2, by rw [hne _ hj]; exact ho2, a, b, c, f⟩
  · rw [hitems]
    intro j oj hoj m u hm
    by_cases hj : j = h
    · subst hj; rw [hget] at hoj; cases hoj
      exact hw.cover j o ho m u (by rw [← hsame.2.2]; exact hm)
    · rw [hne j hj] at hoj; exact hw.cover j oj hoj m u hm
  · rw [hitems]
    intro j oj hoj u k m hn hk
    by_cases hj : j = h
    · subst hj; rw [hget] at hoj; cases hoj
      exact hw.coverN j o ho u k m hn (by rw [← wroteCls_same hsame.2.2]; exact hk)
    · rw [hne j hj] at hoj; exact hw.coverN j oj hoj u k m hn hk
  · intro j oj hoj hop u hn
    by_cases hj : j = h
    · subst hj; rw [hget] at hoj; cases hoj; exact absurd hop hclosed
    · rw [hne j hj] at hoj; exact hw.ctr j oj hoj hop u hn

/-- `SInv` and `WInv` across an application call or a timer expiry -/
theorem Local.inv {e e' : Ep} (l : Local e e') (hs : SInv e) (hw : WInv e) : SInv e' ∧ WInv e' := by
  have frame : ∀ {e' : Ep}, SendSame e e' → ObjsStep e.objs e'.objs → e'.ctl = e.ctl → SInv e' ∧ WInv e' :=
    fun same st hc => ⟨hs.transport same st (hc ▸ hs.ctlResp), hw.transport same st⟩
  cases l with
  | same => exact ⟨hs, hw⟩
  | unsup => exact frame ⟨rfl, rfl, rfl, rfl, rfl, rfl⟩ (ObjsStep.refl _) rfl
  | wrote h len u m o ho hop => exact wrote_inv h len u m o ho hop hs hw
  | closed h o ho hop => exact closed_inv h o ho hop hs hw
  | read h o ho => exact frame ⟨rfl, rfl, rfl, rfl, rfl, rfl⟩ (ObjsStep.set _ _ _ _ ho (readObj_writerSame o)) rfl
  | accepted h rest ha => exact frame ⟨rfl, rfl, rfl, rfl, rfl, rfl⟩ (ObjsStep.refl _) rfl
  | timer => exact frame ⟨rfl, rfl, rfl, rfl, rfl, rfl⟩ (ObjsStep.refl _) rfl

theorem close_inv (e : Ep) (h : Nat) (hs : SInv e) (hw : WInv e) : SInv (close e h).1 ∧ WInv (close e h).1 :=
  (close_local e h).inv hs hw

theorem zip_map_fst_snd {α β : Type} (l : List (α × β)) : (l.map (·.1)).zip (l.map (·.2)) = l := by
  induction l with
  | nil => rfl
  | cons x rest ih => simp [ih]

theorem gatherEp_inv (e : Ep) (sel : List Nat) (popped left : List Item)
    (hp : popSel e.il e.pend sel = some (popped, left)) (hs : SInv e) (hw : WInv e) :
    SInv (gatherEp e popped left) ∧ WInv (gatherEp e popped left) := by
  obtain ⟨a1, a2, a3, a4, a5⟩ := assign_spec popped e.nextTSN
  have hmem := popSel_mem e.il sel _ _ _ hp
  have hsub := popSel_sublist e.il sel _ _ _ hp
  have hperm := popSel_perm e.il sel _ _ _ hp
  generalize hA : assign e.nextTSN popped = A at a1 a2 a3 a4 a5
  have H_tsnLt : ∀ c ∈ e.sent ++ A.1, c.tsn < A.2.2 := by
    intro c hc
    rcases List.mem_append.mp hc with h | h
    · have := hs.tsnLt c h; omega
    · exact (a4 c h).2
  have H_tsnInj : ∀ c ∈ e.sent ++ A.1, ∀ c' ∈ e.sent ++ A.1, c.tsn = c'.tsn → c = c' := by
    intro c hc c' hc' heq
    rcases List.mem_append.mp hc with h | h <;> rcases List.mem_append.mp hc' with h' | h'
    · exact hs.tsnInj c h c' h' heq
    · have := hs.tsnLt c h; have := (a4 c' h').1; omega
    · have := hs.tsnLt c' h'; have := (a4 c h).1; omega
    · exact ListAux.eq_of_pairwise a5 h h' (by omega) (by omega)
  have H_mc : ∀ s h, Item.marker s h ∈ left → ∃ o, e.objs[h]? = some o ∧ o.sid = s ∧ ¬ isOpen o :=
    fun s h hm => hs.markerClosed s h (hsub.subset hm)
  have H_items : ∀ d, d ∈ (e.sent ++ A.1).map (·.d) ++ pendData left ↔ d ∈ e.items := by
    intro d
    unfold Ep.items
    simp only [List.map_append, List.mem_append, a1, mem_pendData]
    rw [hmem (Item.data d)]; exact or_assoc
  have hsid : ∀ s w d, Item.marker s w ∈ e.pend → Item.data d ∈ e.pend → d.wobj = w → d.sid = s := by
    intro s w d hm hd hdw
    obtain ⟨o, ho, hos, _⟩ := hs.markerClosed s w hm
    have hdi : d ∈ e.items := by unfold Ep.items; exact List.mem_append_right _ ((mem_pendData _ _).mpr hd)
    obtain ⟨o2, ho2, hs2, _⟩ := hw.item d hdi
    rw [hdw, ho] at ho2; cases ho2
    rw [← hs2, hos]
  -- old requests stay what they were
  have H_oldRec : ∀ rec ∈ e.reqLog, ∀ p ∈ rec.sids.zip rec.wobjs, ∃ o, e.objs[p.2]? = some o ∧ o.sid = p.1 ∧ ¬ isOpen o ∧
      (∀ s, Item.marker s p.2 ∉ left) ∧ (∀ d, Item.data d ∈ left → d.wobj ≠ p.2) ∧
      (∀ c ∈ e.sent ++ A.1, c.d.wobj = p.2 → c.tsn ≤ rec.last) := by
    intro rec hr p hpz
    obtain ⟨o, ho, x1, x2, x3, x4, x5⟩ := (hs.recOK rec hr).2.2 p hpz
    refine ⟨o, ho, x1, x2, fun s hm => x3 s (hsub.subset hm), fun d hd => x4 d (hsub.subset hd), ?_⟩
    intro c hc hcw
    rcases List.mem_append.mp hc with h | h
    · exact x5 c h hcw
    · exfalso
      have : c.d ∈ pendData popped := by rw [← a1]; exact List.mem_map_of_mem h
      have : Item.data c.d ∈ e.pend := (hmem _).mpr (Or.inl ((mem_pendData _ _).mp this))
      exact x4 c.d this hcw
  have hwinv : ∀ (e2 : Ep), e2.il = e.il → e2.objs = e.objs → e2.pend = left → e2.sent = e.sent ++ A.1 → WInv e2 := by
    intro e2 h1 h2 h3 h4
    apply hw.transportItems h1 h2
    intro d
    unfold Ep.items at *
    rw [h3, h4]; exact H_items d
  unfold gatherEp
  rw [hA]
  simp only
  by_cases hmk : A.2.1.isEmpty = true
  · -- no marker left the queue: no new request
    rw [if_pos hmk]
    have hnomark : ∀ s h, Item.marker s h ∉ popped := by
      intro s h hm
      have : (s, h) ∈ pendMarkers popped := (mem_pendMarkers _ _ _).mpr hm
      rw [← a2] at this
      have hnil : A.2.1 = [] := by simpa using hmk
      rw [hnil] at this; cases this
    refine ⟨⟨H_tsnLt, H_tsnInj, H_mc, hs.markerLast.sublist hsub, hs.markerUniq.sublist hsub, ?_, ?_, hs.rsnInj, hs.recUniq, ?_⟩,
      hwinv _ rfl rfl rfl rfl⟩
    · intro j oj hoj hc
      rcases hs.closedHas j oj hoj hc with ⟨s, hm⟩ | hr
      · rcases (hmem _).mp hm with h | h
        · exact absurd h (hnomark s j)
        · exact Or.inl ⟨s, h⟩
      · exact Or.inr hr
    · intro rec hr
      exact ⟨(hs.recOK rec hr).1, (hs.recOK rec hr).2.1, H_oldRec rec hr⟩
    · intro p hp; cases hp
  · -- markers were popped: the request that closes their objects
    rw [if_neg hmk]
    have hmarkers : ∀ s h, (s, h) ∈ A.2.1 ↔ Item.marker s h ∈ popped := by
      intro s h; rw [a2]; exact mem_pendMarkers _ _ _
    -- symmetric form of "one marker per object" moved along the permutation
    have huniq : ∀ s h s', Item.marker s h ∈ popped → Item.marker s' h ∉ left := by
      intro s h s' hpop hleft
      have hsym : (popped ++ left).Pairwise (fun a b => ∀ s h s', ¬ (a = Item.marker s h ∧ b = Item.marker s' h)) := by
        have hpw : e.pend.Pairwise (fun a b => ∀ s h s', ¬ (a = Item.marker s h ∧ b = Item.marker s' h)) := by
          refine hs.markerUniq.imp ?_
          intro a b hab s h s' ⟨ha, hb⟩
          exact hab s h s' ha hb
        refine (List.Perm.pairwise_iff ?_ hperm).mp hpw
        intro a b hab s h s' ⟨ha, hb⟩
        exact hab s' h s ⟨hb, ha⟩
      exact (List.pairwise_append.mp hsym).2.2 _ hpop _ hleft s h s' ⟨rfl, rfl⟩
    have hnew : ∀ p ∈ (newReqRec e A.2.1 A.2.2).sids.zip (newReqRec e A.2.1 A.2.2).wobjs,
        ∃ o, e.objs[p.2]? = some o ∧ o.sid = p.1 ∧ ¬ isOpen o ∧
        (∀ s, Item.marker s p.2 ∉ left) ∧ (∀ d, Item.data d ∈ left → d.wobj ≠ p.2) ∧
        (∀ c ∈ e.sent ++ A.1, c.d.wobj = p.2 → c.tsn ≤ (newReqRec e A.2.1 A.2.2).last) := by
      intro p hpz
      simp only [newReqRec, zip_map_fst_snd] at hpz
      have hpop : Item.marker p.1 p.2 ∈ popped := (hmarkers p.1 p.2).mp hpz
      obtain ⟨o, ho, x1, x2⟩ := hs.markerClosed p.1 p.2 ((hmem _).mpr (Or.inl hpop))
      refine ⟨o, ho, x1, x2, fun s => huniq p.1 p.2 s hpop, ?_, ?_⟩
      · exact popSel_marker e.il sel _ _ _ hp hs.markerLast hsid p.1 p.2 hpop
      · intro c hc _
        have := H_tsnLt c hc
        simp only [newReqRec]; omega
    refine ⟨⟨H_tsnLt, H_tsnInj, H_mc, hs.markerLast.sublist hsub, hs.markerUniq.sublist hsub, ?_, ?_, ?_, ?_, ?_⟩,
      hwinv _ rfl rfl rfl rfl⟩
    · intro j oj hoj hc
      rcases hs.closedHas j oj hoj hc with ⟨s, hm⟩ | ⟨rec, hr, hj⟩
      · rcases (hmem _).mp hm with h | h
        · refine Or.inr ⟨newReqRec e A.2.1 A.2.2, List.mem_append_right _ (List.mem_singleton.mpr rfl), ?_⟩
          simp only [newReqRec, List.mem_map]
          exact ⟨(s, j), (hmarkers s j).mpr h, rfl⟩
        · exact Or.inl ⟨s, h⟩
      · exact Or.inr ⟨rec, List.mem_append_left _ hr, hj⟩
    · intro rec hr
      rcases List.mem_append.mp hr with hr | hr
      · exact ⟨(hs.recOK rec hr).1, Nat.lt_succ_of_lt (hs.recOK rec hr).2.1, H_oldRec rec hr⟩
      · simp only [List.mem_singleton] at hr; subst hr
        exact ⟨by simp [newReqRec], by simp [newReqRec], hnew⟩
    · intro r hr r' hr' heq
      rcases List.mem_append.mp hr with h | h <;> rcases List.mem_append.mp hr' with h' | h'
      · exact hs.rsnInj r h r' h' heq
      · simp only [List.mem_singleton] at h'; subst h'
        have := (hs.recOK r h).2.1; simp only [newReqRec] at heq; omega
      · simp only [List.mem_singleton] at h; subst h
        have := (hs.recOK r' h').2.1; simp only [newReqRec] at heq; omega
      · simp only [List.mem_singleton] at h h'; rw [h, h']
    · -- an object is named by at most one request
      have hfresh : ∀ r ∈ e.reqLog, ∀ j, j ∈ r.wobjs → j ∉ (newReqRec e A.2.1 A.2.2).wobjs := by
        intro r hr j hj hjn
        simp only [newReqRec, List.mem_map] at hjn
        obtain ⟨⟨s, j'⟩, hsj, rfl⟩ := hjn
        have hpop := (hmarkers s j').mp hsj
        -- j' is the second component of some pair of r
        obtain ⟨hlen, _, hall⟩ := hs.recOK r hr
        obtain ⟨i, hi, hij⟩ := List.mem_iff_getElem.mp hj
        have hi' : i < r.sids.length := by omega
        have hz : (r.sids[i], r.wobjs[i]) ∈ r.sids.zip r.wobjs := by
          apply List.mem_iff_getElem.mpr
          refine ⟨i, by simp [List.length_zip]; omega, by simp⟩
        obtain ⟨_, _, _, _, x3, _, _⟩ := hall _ hz
        simp only [hij] at x3
        exact x3 s ((hmem _).mpr (Or.inl hpop))
      intro r hr r' hr' j hj hj'
      rcases List.mem_append.mp hr with h | h <;> rcases List.mem_append.mp hr' with h' | h'
      · exact hs.recUniq r h r' h' j hj hj'
      · simp only [List.mem_singleton] at h'; subst h'
        exact absurd hj' (hfresh r h j hj)
      · simp only [List.mem_singleton] at h; subst h
        exact absurd hj (hfresh r' h' j hj')
      · simp only [List.mem_singleton] at h h'; rw [h, h']
    · intro p hp; cases hp

end Rs
