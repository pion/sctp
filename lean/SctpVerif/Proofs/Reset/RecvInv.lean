import SctpVerif.Proofs.Reset.ReadInv
/-!
`RInv`: the receive half of one endpoint — the stream table points at objects that have not been reset, an object on
which the reader has seen EOF has nothing left to read, the TSNs held above the cumulative point are above it, and
every object's receive queues are consistent with what it was handed (`ReaderInv`). Here: the lemmas for the single
steps an inbound packet is made of (`addObj`, `push`, `resetOne_rinv`, …; they are put together once, in `HCtx.handle` of
`GStep.lean`) and `Local.rinv` for the application calls.
-/
namespace Rs

structure RInv (e : Ep) : Prop where
  regOK : ∀ sid h, lookup sid e.reg = some h → ∃ o, e.objs[h]? = some o ∧ o.sid = sid ∧ o.readErr = false
  eofErr : ∀ (h : Nat) (o : Obj), e.objs[h]? = some o → o.eofSeen = true → o.readErr = true ∧ readOne o = none
  rcvGt : ∀ t ∈ e.rcv, e.cum < t
  reader : ∀ (h : Nat) (o : Obj), e.objs[h]? = some o → ReaderInv e.il o
  unregErr : ∀ (h : Nat) (o : Obj), e.objs[h]? = some o → lookup o.sid e.reg = some h ∨ o.readErr = true

theorem readOne_none_same {o o' : Obj} (s : ReaderSame o o') (h : readOne o = none) : readOne o' = none := by
  rw [readOne_none_iff] at h ⊢
  rw [s.unord, s.ord, s.nextSeq]; exact h

/-- nothing the receive half looks at has changed -/
theorem RInv.same {e e' : Ep} (inv : RInv e) (hil : e'.il = e.il) (hcum : e'.cum = e.cum) (hrcv : e'.rcv = e.rcv)
    (hreg : e'.reg = e.reg) (hobjs : ObjsRel ReaderSame e.objs e'.objs) : RInv e' := by
  obtain ⟨h1, h2, h3, h4, h5⟩ := inv
  have back := hobjs.back
  refine ⟨?_, ?_, ?_, ?_, ?_⟩
  rotate_right
  · rw [hreg]
    intro h o' ho'
    obtain ⟨o, ho, r⟩ := back h o' ho'
    rw [r.sid, r.readErr]; exact h5 h o ho
  · rw [hreg]
    intro sid h hl
    obtain ⟨o, ho, a, b⟩ := h1 sid h hl
    obtain ⟨o', ho', r⟩ := hobjs.2 h o ho
    exact ⟨o', ho', r.sid.trans a, r.readErr.trans b⟩
  · intro h o' ho' hE
    obtain ⟨o, ho, r⟩ := back h o' ho'
    obtain ⟨a, b⟩ := h2 h o ho (by rw [← r.eofSeen]; exact hE)
    exact ⟨r.readErr.trans a, readOne_none_same r b⟩
  · rw [hrcv, hcum]; exact h3
  · rw [hil]
    intro h o' ho'
    obtain ⟨o, ho, r⟩ := back h o' ho'
    exact (h4 h o ho).transport r

/-- a new stream object enters the table (OpenStream, or the first DATA on an unknown identifier) -/
theorem RInv.addObj {e e' : Ep} (inv : RInv e) (sid gen : Nat) (hnone : lookup sid e.reg = none)
    (hil : e'.il = e.il) (hcum : e'.cum = e.cum) (hrcv : e'.rcv = e.rcv)
    (hreg : e'.reg = insert sid e.objs.length e.reg) (hobjs : e'.objs = e.objs ++ [{ sid := sid, gen := gen }]) : RInv e' := by
  obtain ⟨h1, h2, h3, h4, h5⟩ := inv
  have old : ∀ (h : Nat) (o : Obj), e.objs[h]? = some o → e'.objs[h]? = some o := by
    intro h o ho
    rw [hobjs, List.getElem?_append_left (ListAux.lt_of_getElem? ho)]; exact ho
  have back : ∀ (h : Nat) (o' : Obj), e'.objs[h]? = some o' → e.objs[h]? = some o' ∨ (h = e.objs.length ∧ o' = { sid := sid, gen := gen }) := by
    intro h o' ho'
    rw [hobjs] at ho'; exact getElem?_append_one h o' ho'
  refine ⟨?_, ?_, ?_, ?_, ?_⟩
  rotate_right
  · rw [hreg]
    intro h o' ho'
    rcases back h o' ho' with ho | ⟨hh, rfl⟩
    · by_cases hs : o'.sid = sid
      · right
        rcases h5 h o' ho with hl | hre
        · rw [hs, hnone] at hl; cases hl
        · exact hre
      · rw [lookup_insert_ne _ _ _ _ hs]; exact h5 h o' ho
    · left; rw [hh]; exact lookup_insert_self _ _ _
  · rw [hreg]
    intro sid' h hl
    by_cases hs : sid' = sid
    · subst hs
      rw [lookup_insert_self] at hl; cases hl
      exact ⟨{ sid := sid', gen := gen }, by rw [hobjs]; simp, rfl, rfl⟩
    · rw [lookup_insert_ne _ _ _ _ hs] at hl
      obtain ⟨o, ho, a, b⟩ := h1 sid' h hl
      exact ⟨o, old h o ho, a, b⟩
  · intro h o' ho' hE
    rcases back h o' ho' with ho | ⟨_, rfl⟩
    · exact h2 h o' ho hE
    · cases hE
  · rw [hrcv, hcum]; exact h3
  · rw [hil]
    intro h o' ho'
    rcases back h o' ho' with ho | ⟨_, rfl⟩
    · exact h4 h o' ho
    · exact readerInv_new _ _ _

theorem pushObj_same (il : Bool) (o : Obj) (c : Chunk) :
    (pushObj il o c).sid = o.sid ∧ (pushObj il o c).gen = o.gen ∧ (pushObj il o c).readErr = o.readErr ∧
    (pushObj il o c).eofSeen = o.eofSeen ∧ (pushObj il o c).rx = o.rx ++ [c] ∧ (pushObj il o c).got = o.got := by
  obtain ⟨_, _, h, _⟩ := pushObj_shape il o c
  rw [h]; exact ⟨rfl, rfl, rfl, rfl, rfl, rfl⟩

/-- one stream object is replaced: it keeps its identifier, its queues are consistent, EOF was only reported with the read
error set and nothing left to read; the stream table may have lost entries, and still points at `h` only if the new
object has no read error -/
theorem RInv.setObj {e e' : Ep} (inv : RInv e) (h : Nat) (o o' : Obj) (ho : e.objs[h]? = some o)
    (hil : e'.il = e.il) (hrcv : ∀ t ∈ e'.rcv, e'.cum < t) (hobjs : e'.objs = e.objs.set h o')
    (hsid : o'.sid = o.sid) (hrd : ReaderInv e.il o') (heof : o'.eofSeen = true → o'.readErr = true ∧ readOne o' = none)
    (hreg : ∀ sid j, lookup sid e'.reg = some j → lookup sid e.reg = some j)
    (hkeep : ∀ j oj, e.objs[j]? = some oj → j ≠ h → lookup oj.sid e.reg = some j → lookup oj.sid e'.reg = some j)
    (hself : lookup o.sid e'.reg = some h → o'.readErr = false)
    (hunreg : lookup o.sid e'.reg = some h ∨ o'.readErr = true) : RInv e' := by
  obtain ⟨h1, h2, _, h4, h5⟩ := inv
  have hget : e'.objs[h]? = some o' := by rw [hobjs]; simp [ListAux.lt_of_getElem? ho]
  have hother : ∀ j, j ≠ h → e'.objs[j]? = e.objs[j]? := fun j hj => by rw [hobjs]; exact List.getElem?_set_ne (Ne.symm hj)
  refine ⟨?_, ?_, hrcv, ?_, ?_⟩
  · intro sid j hl
    obtain ⟨oj, hoj, a, b⟩ := h1 sid j (hreg sid j hl)
    by_cases hj : j = h
    · subst hj; rw [ho] at hoj; cases hoj
      exact ⟨o', hget, hsid.trans a, hself (a ▸ hl)⟩
    · exact ⟨oj, by rw [hother j hj]; exact hoj, a, b⟩
  · intro j oj hoj hE
    by_cases hj : j = h
    · subst hj; rw [hget] at hoj; cases hoj; exact heof hE
    · rw [hother j hj] at hoj; exact h2 j oj hoj hE
  · rw [hil]
    intro j oj hoj
    by_cases hj : j = h
    · subst hj; rw [hget] at hoj; cases hoj; exact hrd
    · rw [hother j hj] at hoj; exact h4 j oj hoj
  · intro j oj hoj
    by_cases hj : j = h
    · subst hj; rw [hget] at hoj; cases hoj; rw [hsid]; exact hunreg
    · rw [hother j hj] at hoj
      exact (h5 j oj hoj).imp (hkeep j oj hoj hj) id

/-- a chunk above the cumulative point is handed to a stream that has not been reset -/
theorem RInv.push {e e' : Ep} (inv : RInv e) (h : Nat) (o : Obj) (c : Chunk) (ho : e.objs[h]? = some o)
    (hne : o.readErr = false) (hgt : e.cum < c.tsn)
    (hil : e'.il = e.il) (hcum : e'.cum = e.cum) (hrcv : e'.rcv = c.tsn :: e.rcv)
    (hreg : e'.reg = e.reg) (hobjs : e'.objs = e.objs.set h (pushObj e.il o c)) : RInv e' := by
  obtain ⟨p1, _, p3, p4, _, _⟩ := pushObj_same e.il o c
  refine inv.setObj h o _ ho hil ?_ hobjs p1 (pushObj_readerInv e.il o c (inv.reader h o ho)) ?_
    (fun _ _ hl => hreg ▸ hl) (fun _ _ _ _ hl => hreg ▸ hl) (fun _ => p3.trans hne) ?_
  · rw [hrcv, hcum]
    intro t ht
    rcases List.mem_cons.mp ht with rfl | ht
    · exact hgt
    · exact inv.rcvGt t ht
  · intro hE
    rw [p4] at hE
    rw [(inv.eofErr h o ho hE).1] at hne; cases hne
  · rw [hreg]
    exact (inv.unregErr h o ho).imp id (fun hre => by rw [hne] at hre; cases hre)

theorem inboundReset_readOne (o : Obj) : readOne (inboundReset o) = none ↔ readOne o = none := by
  rw [readOne_none_iff, readOne_none_iff]; rfl

/-- performing the reset of one identifier (`resetStreamsIfAny`, one iteration) keeps the receive-half invariant -/
theorem resetOne_rinv (e : Ep) (sid : Nat) (inv : RInv e) : RInv (resetOne e sid) := by
  unfold resetOne
  split
  · exact inv
  · rename_i h hl
    obtain ⟨o, ho, hos, _⟩ := inv.regOK sid h hl
    rw [ho]
    have hne : ∀ sid' j, lookup sid' (erase sid e.reg) = some j → sid' ≠ sid := by
      intro sid' j hl' hs; subst hs; rw [lookup_erase_self] at hl'; cases hl'
    refine inv.setObj h o (inboundReset o) ho rfl inv.rcvGt rfl rfl ((inv.reader h o ho).of_fields rfl rfl rfl rfl rfl)
      (fun hE => ⟨rfl, (inboundReset_readOne o).mpr (inv.eofErr h o ho hE).2⟩) ?_ ?_ ?_ (Or.inr rfl)
    · intro sid' j hl'
      rw [lookup_erase_ne _ _ _ (hne sid' j hl')] at hl'; exact hl'
    · intro j oj _ hj hlj
      have hs : oj.sid ≠ sid := by
        intro hs; rw [hs, hl] at hlj; cases hlj; exact hj rfl
      show lookup oj.sid (erase sid e.reg) = some j
      rw [lookup_erase_ne _ _ _ hs]; exact hlj
    · intro hl'
      exact absurd hos (hne o.sid h hl')

/-- fields the receive-half invariant does not read -/
theorem RInv.irrelevant {e e' : Ep} (inv : RInv e) (hil : e'.il = e.il) (hcum : e'.cum = e.cum) (hrcv : e'.rcv = e.rcv)
    (hreg : e'.reg = e.reg) (hobjs : e'.objs = e.objs) : RInv e' :=
  inv.same hil hcum hrcv hreg (hobjs ▸ ObjsRel.refl ReaderSame.refl _)

theorem foldl_resetOne_rinv (sids : List Nat) (e : Ep) (h : RInv e) : RInv (sids.foldl resetOne e) :=
  ListAux.foldl_inv (P := RInv) sids h fun e s _ h => resetOne_rinv e s h

theorem Created.rinv {e : Ep} {c : Chunk} {e1 : Ep} {h : Nat} (cr : Created e c e1 h) (inv : RInv e) : RInv e1 := by
  cases cr with
  | known h hl => exact inv
  | fresh hl hacq => exact inv.addObj c.d.sid c.d.gen hl rfl rfl rfl rfl rfl

theorem zeroCounters_readerSame (o : Obj) : ReaderSame o (zeroCounters o) := ⟨rfl, rfl, rfl, rfl, rfl, rfl, rfl, rfl, rfl⟩

theorem RewindRel.readerSame {o o' : Obj} (h : RewindRel o o') : ReaderSame o o' := by
  rcases h with rfl | ⟨_, rfl⟩
  · exact ReaderSame.refl _
  · exact zeroCounters_readerSame o

theorem handleResp_rinv (e : Ep) (rsn result : Nat) (inv : RInv e) : RInv (handleResp e rsn result) := by
  obtain ⟨l, rc, h, rel, _⟩ := handleResp_shape e rsn result
  rw [h]
  exact inv.same rfl rfl rfl rfl (rel.imp (fun _ _ => RewindRel.readerSame))

theorem bump_readerSame (il : Bool) (o : Obj) (u : Bool) : ReaderSame o (bump il o u) := by
  unfold bump; split
  · split <;> exact ⟨rfl, rfl, rfl, rfl, rfl, rfl, rfl, rfl, rfl⟩
  · split <;> exact ⟨rfl, rfl, rfl, rfl, rfl, rfl, rfl, rfl, rfl⟩

theorem gatherEp_fields (e : Ep) (popped left : List Item) :
    (gatherEp e popped left).il = e.il ∧ (gatherEp e popped left).cum = e.cum ∧ (gatherEp e popped left).rcv = e.rcv ∧
    (gatherEp e popped left).reg = e.reg ∧ (gatherEp e popped left).objs = e.objs ∧ (gatherEp e popped left).rreqs = e.rreqs ∧
    (gatherEp e popped left).perf = e.perf ∧ (gatherEp e popped left).acq = e.acq := by
  rw [gatherEp_eq]; exact ⟨rfl, rfl, rfl, rfl, rfl, rfl, rfl, rfl⟩

/-- reading: the queues stay consistent, and an EOF is only reported when nothing is left to read -/
theorem readObj_rinv {e : Ep} (h : Nat) (o : Obj) (ho : e.objs[h]? = some o) (inv : RInv e) :
    RInv { e with objs := e.objs.set h (readObj o) } := by
  unfold readObj
  obtain ⟨h1, h2, h3, h4, h5⟩ := inv
  generalize hD : drain (o.ord.length + o.unord.length) o [] = D
  have hsame := drain_same (o.ord.length + o.unord.length) o []
  have hdone := drain_done (o.ord.length + o.unord.length) o [] (Nat.le_refl _)
  have hrd := drain_readerInv e.il (o.ord.length + o.unord.length) o [] (h4 h o ho)
  rw [hD] at hsame hdone hrd
  obtain ⟨s1, s2, s3, s4, s5⟩ := hsame
  generalize ho'' : (if D.1.readErr then { D.1 with eofSeen := true } else D.1) = o''
  have hq : o''.sid = o.sid ∧ o''.readErr = o.readErr ∧ readOne o'' = none ∧ ReaderInv e.il o'' ∧ (o''.eofSeen = true → o''.readErr = true) := by
    rw [← ho'']
    split
    · rename_i hre
      refine ⟨s1, s3, ?_, ⟨hrd.sorted, hrd.ordFrom, hrd.ordCover, hrd.unordFrom, hrd.unordCover, hrd.pref⟩, fun _ => hre⟩
      rw [readOne_none_iff] at hdone ⊢; exact hdone
    · rename_i hre
      refine ⟨s1, s3, hdone, hrd, ?_⟩
      intro hE
      rw [s5] at hE
      have := (h2 h o ho hE).1
      rw [← s3] at this; exact absurd this hre
  obtain ⟨q1, q2, q3, q4, q5⟩ := hq
  refine RInv.setObj ⟨h1, h2, h3, h4, h5⟩ h o o'' ho rfl h3 rfl q1 q4 (fun hE => ⟨q5 hE, q3⟩) (fun _ _ hl => hl)
    (fun _ _ _ _ hl => hl) ?_ ?_
  · intro hl
    obtain ⟨o2, ho2, _, b⟩ := h1 o.sid h hl
    rw [ho] at ho2; cases ho2
    exact q2.trans b
  · rw [q2]; exact h5 h o ho

/-- `RInv` across an application call or a timer expiry -/
theorem Local.rinv {e e' : Ep} (l : Local e e') (inv : RInv e) : RInv e' := by
  cases l with
  | same => exact inv
  | unsup => exact inv.irrelevant rfl rfl rfl rfl rfl
  | wrote h len u m o ho hop =>
    obtain ⟨a1, a2, a3, a4, a5, a6, a7, a8, a9⟩ := bump_readerSame e.il o u
    exact inv.same rfl rfl rfl rfl (ObjsRel.setSame ReaderSame.refl _ _ _ _ ho ⟨a1, a2, a3, a4, a5, a6, a7, a8, a9⟩)
  | closed h o ho hop =>
    exact inv.same rfl rfl rfl rfl (ObjsRel.setSame ReaderSame.refl _ _ _ _ ho ⟨rfl, rfl, rfl, rfl, rfl, rfl, rfl, rfl, rfl⟩)
  | read h o ho => exact readObj_rinv h o ho inv
  | accepted h rest ha => exact inv.irrelevant rfl rfl rfl rfl rfl
  | timer => exact inv.irrelevant rfl rfl rfl rfl rfl

theorem close_rinv (e : Ep) (h : Nat) (inv : RInv e) : RInv (close e h).1 := (close_local e h).rinv inv

end Rs
