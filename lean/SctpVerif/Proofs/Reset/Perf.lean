import SctpVerif.Model.Reset
import SctpVerif.Proofs.Sna
/-!
The performed-request bookkeeping of the D10 fix (`rememberPerformedReset`, exact model `Rs.PerfSet`):
shift invariance for arbitrary call sequences, and the window that survives trimming for consecutive
request sequence numbers.
-/
namespace Rs
open Gen Sna

def PerfSet.shift (d : BitVec 32) (p : PerfSet) : PerfSet := { set := p.set.map (· + d), newest := p.newest + d }

/-- two states related by a shift: same set up to the constant; the watermark only matters once something is in the set -/
def ShiftRel (d : BitVec 32) (p p' : PerfSet) : Prop :=
  p'.set = p.set.map (· + d) ∧ (p.set ≠ [] → p'.newest = p.newest + d)

theorem remember_shiftRel (d : BitVec 32) (p p' : PerfSet) (r : BitVec 32) (h : ShiftRel d p p') :
    ShiftRel d (p.remember r) (p'.remember (r + d)) ∧ (p.remember r).newest + d = (p'.remember (r + d)).newest := by
  obtain ⟨hs, hn⟩ := h
  have hnew : (if p'.set.isEmpty || sna32LT p'.newest (r + d) then r + d else p'.newest)
      = (if p.set.isEmpty || sna32LT p.newest r then r else p.newest) + d := by
    rw [hs]
    cases hp : p.set with
    | nil => simp
    | cons x xs =>
      have : p'.newest = p.newest + d := hn (by simp [hp])
      simp only [List.map_cons, List.isEmpty_cons, Bool.false_or, this, lt32_shift]
      split <;> rfl
  have hset : (if p'.set.contains (r + d) then p'.set else (r + d) :: p'.set)
      = (if p.set.contains r then p.set else r :: p.set).map (· + d) := by
    rw [hs, contains_map_add_right]
    split <;> simp
  have hfilter : ∀ (l : List (BitVec 32)) (n : BitVec 32),
      (l.map (· + d)).filter (fun old => !sna32LT old (n + d - BitVec.ofNat 32 perfKeep))
        = (l.filter (fun old => !sna32LT old (n - BitVec.ofNat 32 perfKeep))).map (· + d) := by
    intro l n
    rw [List.filter_map]
    congr 1
    apply List.filter_congr
    intro x _
    simp only [Function.comp]
    have : n + d - BitVec.ofNat 32 perfKeep = (n - BitVec.ofNat 32 perfKeep) + d := by bv_omega
    rw [this, lt32_shift]
  generalize hN : (if p.set.isEmpty || sna32LT p.newest r then r else p.newest) = N at hnew
  generalize hS : (if p.set.contains r then p.set else r :: p.set) = S at hset
  have e1 : p.remember r = if S.length > 2 * perfKeep then
      { set := S.filter (fun old => !sna32LT old (N - BitVec.ofNat 32 perfKeep)), newest := N } else { set := S, newest := N } := by
    unfold PerfSet.remember; simp only [hN, hS]
  have e2 : p'.remember (r + d) = if S.length > 2 * perfKeep then
      { set := (S.map (· + d)).filter (fun old => !sna32LT old (N + d - BitVec.ofNat 32 perfKeep)), newest := N + d }
      else { set := S.map (· + d), newest := N + d } := by
    unfold PerfSet.remember; simp only [hnew, hset, List.length_map]
  rw [e1, e2]
  by_cases hl : S.length > 2 * perfKeep
  · simp only [hl, if_true]
    exact ⟨⟨hfilter _ _, fun _ => rfl⟩, trivial⟩
  · simp only [hl, if_false]
    exact ⟨⟨rfl, fun _ => rfl⟩, trivial⟩

theorem run_shiftRel (d : BitVec 32) (rs : List (BitVec 32)) (p p' : PerfSet) (h : ShiftRel d p p') :
    ShiftRel d (p.run rs) (p'.run (rs.map (· + d))) := by
  induction rs generalizing p p' with
  | nil => exact h
  | cons r rest ih =>
    simp only [PerfSet.run, List.map_cons, List.foldl_cons]
    exact ih _ _ (remember_shiftRel d p p' r h).1

/-! ### consecutive request sequence numbers: what survives the trim -/

def consec (start : BitVec 32) (n : Nat) : List (BitVec 32) := (List.range n).map (fun k => start + BitVec.ofNat 32 k)

structure ConsecInv (start : BitVec 32) (n : Nat) (p : PerfSet) : Prop where
  empty : n = 0 → p.set = []
  newest : 0 < n → p.newest = start + BitVec.ofNat 32 (n - 1)
  sub : ∀ x ∈ p.set, ∃ k, k < n ∧ x = start + BitVec.ofNat 32 k
  win : ∀ k, k < n → n ≤ k + 1025 → start + BitVec.ofNat 32 k ∈ p.set

theorem lt_next (start : BitVec 32) (n : Nat) (hn : 0 < n) :
    sna32LT (start + BitVec.ofNat 32 (n - 1)) (start + BitVec.ofNat 32 n) = true := by
  obtain ⟨m, rfl⟩ : ∃ m, n = m + 1 := ⟨n - 1, by omega⟩
  rw [Nat.add_sub_cancel, BitVec.ofNat_add, ← BitVec.add_assoc]
  exact (lt32_succ _).1

theorem not_lt_window (start : BitVec 32) (n k : Nat) (hk : k ≤ n) (hw : n ≤ k + 1024) :
    sna32LT (start + BitVec.ofNat 32 k) (start + BitVec.ofNat 32 n - BitVec.ofNat 32 perfKeep) = false := by
  rw [Bool.eq_false_iff]
  intro h
  rw [lt32_iff] at h
  simp only [BitVec.toNat_sub, BitVec.toNat_add, BitVec.toNat_ofNat, perfKeep] at h
  omega

theorem remember_consec (start : BitVec 32) (n : Nat) (p : PerfSet) (h : ConsecInv start n p) :
    ConsecInv start (n + 1) (p.remember (start + BitVec.ofNat 32 n)) := by
  obtain ⟨hE, hN, hS, hW⟩ := h
  -- the watermark moves to the number just remembered
  have hnew : (if p.set.isEmpty || sna32LT p.newest (start + BitVec.ofNat 32 n) then start + BitVec.ofNat 32 n else p.newest)
      = start + BitVec.ofNat 32 n := by
    rcases Nat.eq_zero_or_pos n with h0 | hpos
    · simp [hE h0]
    · rw [hN hpos, lt_next start n hpos]; simp
  generalize hSet : (if p.set.contains (start + BitVec.ofNat 32 n) then p.set else (start + BitVec.ofNat 32 n) :: p.set) = S
  have hmemS : ∀ x, x ∈ S ↔ x = start + BitVec.ofNat 32 n ∨ x ∈ p.set := by
    intro x
    rw [← hSet]
    split
    · rename_i hc
      have : start + BitVec.ofNat 32 n ∈ p.set := by simpa using hc
      constructor
      · exact Or.inr
      · rintro (rfl | h) <;> assumption
    · simp
  have e1 : p.remember (start + BitVec.ofNat 32 n) = if S.length > 2 * perfKeep then
      { set := S.filter (fun old => !sna32LT old (start + BitVec.ofNat 32 n - BitVec.ofNat 32 perfKeep)), newest := start + BitVec.ofNat 32 n }
      else { set := S, newest := start + BitVec.ofNat 32 n } := by
    unfold PerfSet.remember; simp only [hnew, hSet]
  have subS : ∀ x ∈ S, ∃ k, k < n + 1 ∧ x = start + BitVec.ofNat 32 k := by
    intro x hx
    rcases (hmemS x).mp hx with rfl | hx
    · exact ⟨n, Nat.lt_succ_self n, rfl⟩
    · obtain ⟨k, hk, rfl⟩ := hS x hx
      exact ⟨k, Nat.lt_succ_of_lt hk, rfl⟩
  have winS : ∀ k, k < n + 1 → n + 1 ≤ k + 1025 → start + BitVec.ofNat 32 k ∈ S := by
    intro k hk hw
    rcases Nat.lt_succ_iff_lt_or_eq.mp hk with hlt | rfl
    · exact (hmemS _).mpr (Or.inr (hW k hlt (by omega)))
    · exact (hmemS _).mpr (Or.inl rfl)
  rw [e1]
  by_cases hl : S.length > 2 * perfKeep
  · simp only [hl, if_true]
    refine ⟨by omega, fun _ => by simp, ?_, ?_⟩
    · intro x hx
      exact subS x (List.mem_filter.mp hx).1
    · intro k hk hw
      refine List.mem_filter.mpr ⟨winS k hk hw, ?_⟩
      rw [not_lt_window start n k (by omega) (by omega)]; rfl
  · simp only [hl, if_false]
    exact ⟨by omega, fun _ => by simp, subS, winS⟩

theorem consec_succ (start : BitVec 32) (n : Nat) : consec start (n + 1) = consec start n ++ [start + BitVec.ofNat 32 n] := by
  simp [consec, List.range_succ]

theorem run_consec (start : BitVec 32) (n : Nat) : ConsecInv start n (({} : PerfSet).run (consec start n)) := by
  induction n with
  | zero => exact ⟨fun _ => rfl, fun h => absurd h (Nat.lt_irrefl 0), fun x hx => by simp [PerfSet.run, consec] at hx, fun k hk => absurd hk (Nat.not_lt_zero k)⟩
  | succ n ih =>
    rw [consec_succ]
    simp only [PerfSet.run, List.foldl_append, List.foldl_cons, List.foldl_nil]
    exact remember_consec start n _ ih

end Rs
