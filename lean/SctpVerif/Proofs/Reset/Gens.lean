import SctpVerif.Proofs.Reset.System
/-!
Incarnations. Every stream object and every chunk carries (as ghost data) the incarnation number of its identifier.
For an identifier that the applications only re-open after both directions were reset (`sid ∉ taint`):
each endpoint has at most one object per incarnation; objects of earlier incarnations are dead (closed, their reset
request performed by the peer); the stream table only holds objects of the current incarnation; an object only ever
receives chunks of its own incarnation; and an object whose inbound side was reset received EVERY chunk its partner
(the peer's object of the same incarnation) ever sent.
`GDir A B` is this bookkeeping for the objects of `A` against the peer `B`; the lemmas here say how it moves when one of the
two endpoints changes in one of the ways the operations change it (`monoL` / `monoR` for what it does not notice, `addObj`,
`push`, `perform`, `gather`, and for OpenStream `taintMore`, `regen`, `openQuiet` with `sideQuiet_dead`). Where the objects of `A` keep
their handles, identifiers and incarnations (`monoL`, `push`, `perform`), four of the six clauses come from `GDir.ofIdent`.
-/
namespace Rs

/-- the object's outgoing side is closed and the peer has performed the request that closed it -/
def deadW (S R : Ep) (h : Nat) : Prop := ∃ rec ∈ S.reqLog, h ∈ rec.wobjs ∧ rec.rsn ∈ R.perf

structure GDir (A B : Ep) (taint : List Nat) (gen : Nat → Nat) : Prop where
  genLe : ∀ (h : Nat) (o : Obj), A.objs[h]? = some o → o.sid ∉ taint → o.gen ≤ gen o.sid
  uniq : ∀ (h h' : Nat) (o o' : Obj), A.objs[h]? = some o → A.objs[h']? = some o' → o.sid ∉ taint → o.sid = o'.sid → o.gen = o'.gen → h = h'
  oldDead : ∀ (h : Nat) (o : Obj), A.objs[h]? = some o → o.sid ∉ taint → o.gen < gen o.sid → deadW A B h
  regCur : ∀ (sid h : Nat) (o : Obj), sid ∉ taint → lookup sid A.reg = some h → A.objs[h]? = some o → o.gen = gen sid
  rxGen : ∀ (h : Nat) (o : Obj), A.objs[h]? = some o → o.sid ∉ taint → ∀ c ∈ o.rx, c.d.gen = o.gen
  eofLink : ∀ (h : Nat) (o : Obj), A.objs[h]? = some o → o.sid ∉ taint → o.readErr = true →
      ∃ (hw : Nat) (w : Obj), B.objs[hw]? = some w ∧ w.sid = o.sid ∧ w.gen = o.gen ∧ deadW B A hw ∧ ∀ c ∈ B.sent, c.d.wobj = hw → c ∈ o.rx

def GInv (s : Sys) : Prop := ∀ x, GDir (s.ep x) (s.ep (!x)) s.taint s.gen

theorem deadW.mono {S S' R R' : Ep} {h : Nat} (d : deadW S R h) (hlog : ∀ r ∈ S.reqLog, r ∈ S'.reqLog)
    (hperf : ∀ r ∈ R.perf, r ∈ R'.perf) : deadW S' R' h := by
  obtain ⟨rec, hr, a, b⟩ := d
  exact ⟨rec, hlog rec hr, a, hperf _ b⟩

/-- Every object of `A'` is an object of `A` under the same handle with the same identifier and incarnation, the stream table
has not grown and what was dead is dead: the four clauses about the identity of objects carry over. The two about what an
object received are the caller's. -/
theorem GDir.ofIdent {A A' B B' : Ep} {taint : List Nat} {gen : Nat → Nat} (g : GDir A B taint gen)
    (back : ∀ (h : Nat) (o' : Obj), A'.objs[h]? = some o' → ∃ o, A.objs[h]? = some o ∧ o'.sid = o.sid ∧ o'.gen = o.gen)
    (hreg : ∀ sid h, lookup sid A'.reg = some h → lookup sid A.reg = some h) (hdead : ∀ h, deadW A B h → deadW A' B' h)
    (rxGen : ∀ (h : Nat) (o : Obj), A'.objs[h]? = some o → o.sid ∉ taint → ∀ c ∈ o.rx, c.d.gen = o.gen)
    (eofLink : ∀ (h : Nat) (o : Obj), A'.objs[h]? = some o → o.sid ∉ taint → o.readErr = true →
      ∃ (hw : Nat) (w : Obj), B'.objs[hw]? = some w ∧ w.sid = o.sid ∧ w.gen = o.gen ∧ deadW B' A' hw ∧ ∀ c ∈ B'.sent, c.d.wobj = hw → c ∈ o.rx) :
    GDir A' B' taint gen := by
  refine ⟨?_, ?_, ?_, ?_, rxGen, eofLink⟩
  · intro h o' ho' ht
    obtain ⟨o, ho, a, b⟩ := back h o' ho'
    rw [a, b]; exact g.genLe h o ho (a ▸ ht)
  · intro h h' o1 o2 ho1 ho2 ht hs hg
    obtain ⟨p1, hp1, a1, b1⟩ := back h o1 ho1
    obtain ⟨p2, hp2, a2, b2⟩ := back h' o2 ho2
    exact g.uniq h h' p1 p2 hp1 hp2 (a1 ▸ ht) (by rw [← a1, ← a2]; exact hs) (by rw [← b1, ← b2]; exact hg)
  · intro h o' ho' ht hlt
    obtain ⟨o, ho, a, b⟩ := back h o' ho'
    exact hdead h (g.oldDead h o ho (a ▸ ht) (by rw [← a, ← b]; exact hlt))
  · intro sid h o' ht hl ho'
    obtain ⟨o, ho, _, b⟩ := back h o' ho'
    rw [b]; exact g.regCur sid h o ht (hreg sid h hl) ho

/-- changes at the endpoint itself that the incarnation bookkeeping does not notice -/
theorem GDir.monoL {A A' B : Ep} {taint : List Nat} {gen : Nat → Nat} (g : GDir A B taint gen)
    (hobjs : ObjsRel GSame A.objs A'.objs) (hreg : A'.reg = A.reg)
    (hlog : ∀ r ∈ A.reqLog, r ∈ A'.reqLog) (hperf : ∀ r ∈ A.perf, r ∈ A'.perf) : GDir A' B taint gen := by
  refine g.ofIdent (fun h o' ho' => (hobjs.back h o' ho').imp fun o r => ⟨r.1, r.2.sid, r.2.gen⟩) (fun _ _ hl => hreg ▸ hl)
    (fun _ d => d.mono hlog (fun _ x => x)) ?_ ?_
  · intro h o' ho' ht c hc
    obtain ⟨o, ho, r⟩ := hobjs.back h o' ho'
    rw [r.gen]; exact g.rxGen h o ho (by rw [← r.sid]; exact ht) c (by rw [← r.rx]; exact hc)
  · intro h o' ho' ht hre
    obtain ⟨o, ho, r⟩ := hobjs.back h o' ho'
    obtain ⟨hw, w, hw1, hw2, hw3, hw4, hw5⟩ := g.eofLink h o ho (by rw [← r.sid]; exact ht) (by rw [← r.readErr]; exact hre)
    exact ⟨hw, w, hw1, by rw [r.sid]; exact hw2, by rw [r.gen]; exact hw3, hw4.mono (fun _ x => x) hperf, by rw [r.rx]; exact hw5⟩

/-- changes at the peer that the incarnation bookkeeping does not notice: its objects keep handle, identifier and
incarnation, its logs only grow, and what it newly sent was not written by an object it had already closed -/
theorem GDir.monoR {A B B' : Ep} {taint : List Nat} {gen : Nat → Nat} (g : GDir A B taint gen)
    (hperf : ∀ r ∈ B.perf, r ∈ B'.perf)
    (hobjs : ∀ (hw : Nat) (w : Obj), B.objs[hw]? = some w → ∃ w', B'.objs[hw]? = some w' ∧ w'.sid = w.sid ∧ w'.gen = w.gen)
    (hlog : ∀ r ∈ B.reqLog, r ∈ B'.reqLog)
    (hsent : ∀ c ∈ B'.sent, c ∈ B.sent ∨ ∀ rec ∈ B.reqLog, c.d.wobj ∉ rec.wobjs) : GDir A B' taint gen := by
  obtain ⟨g1, g2, g3, g4, g5, g6⟩ := g
  refine ⟨g1, g2, fun h o ho ht hlt => (g3 h o ho ht hlt).mono (fun _ x => x) hperf, g4, g5, ?_⟩
  intro h o ho ht hre
  obtain ⟨hw, w, hw1, hw2, hw3, hw4, hw5⟩ := g6 h o ho ht hre
  obtain ⟨w', hw', a, b⟩ := hobjs hw w hw1
  refine ⟨hw, w', hw', a.trans hw2, b.trans hw3, hw4.mono hlog (fun _ x => x), ?_⟩
  intro c hc hcw
  rcases hsent c hc with hold | hnew
  · exact hw5 c hold hcw
  · obtain ⟨rec, hr, hmem, _⟩ := hw4
    exact absurd (hcw ▸ hmem) (hnew rec hr)

/-- none of the fields the bookkeeping reads has changed -/
theorem GDir.congrL {A A' B : Ep} {taint : List Nat} {gen : Nat → Nat} (g : GDir A B taint gen)
    (hobjs : A'.objs = A.objs) (hreg : A'.reg = A.reg) (hlog : A'.reqLog = A.reqLog) (hperf : A'.perf = A.perf) :
    GDir A' B taint gen :=
  g.monoL (hobjs ▸ ObjsRel.refl GSame.refl _) hreg (fun _ hr => hlog ▸ hr) (fun _ hr => hperf ▸ hr)

theorem GDir.congrR {A B B' : Ep} {taint : List Nat} {gen : Nat → Nat} (g : GDir A B taint gen)
    (hobjs : B'.objs = B.objs) (hlog : B'.reqLog = B.reqLog) (hperf : B'.perf = B.perf) (hsent : B'.sent = B.sent) :
    GDir A B' taint gen :=
  g.monoR (fun _ hr => hperf ▸ hr) (fun _ w h => ⟨w, hobjs ▸ h, rfl, rfl⟩) (fun _ hr => hlog ▸ hr) (fun _ hc => Or.inl (hsent ▸ hc))

/-- the peer got a new object, nothing else of it changed -/
theorem GDir.peerAddObj {A B B' : Ep} {taint : List Nat} {gen : Nat → Nat} (g : GDir A B taint gen) (o : Obj)
    (hobjs : B'.objs = B.objs ++ [o]) (hlog : B'.reqLog = B.reqLog) (hperf : B'.perf = B.perf) (hsent : B'.sent = B.sent) :
    GDir A B' taint gen :=
  g.monoR (fun _ hr => hperf ▸ hr)
    (fun _ w h => ⟨w, by rw [hobjs, List.getElem?_append_left (ListAux.lt_of_getElem? h)]; exact h, rfl, rfl⟩)
    (fun _ hr => hlog ▸ hr) (fun _ hc => Or.inl (hsent ▸ hc))

/-- a new object enters the table of `A` under an identifier that is not registered; for an identifier that is still
judged it must be of the current incarnation and the first of it at this endpoint -/
theorem GDir.addObj {A A' B : Ep} {taint : List Nat} {gen : Nat → Nat} (g : GDir A B taint gen) (ra : RInv A) (sid gn : Nat)
    (hcur : sid ∉ taint → gn = gen sid ∧ ∀ (h : Nat) (o : Obj), A.objs[h]? = some o → o.sid = sid → o.gen ≠ gen sid)
    (hreg : A'.reg = insert sid A.objs.length A.reg) (hobjs : A'.objs = A.objs ++ [{ sid := sid, gen := gn }])
    (hlog : A'.reqLog = A.reqLog) (hperf : A'.perf = A.perf) : GDir A' B taint gen := by
  obtain ⟨g1, g2, g3, g4, g5, g6⟩ := g
  have old : ∀ (h : Nat) (o : Obj), A.objs[h]? = some o → A'.objs[h]? = some o := by
    intro h o ho
    rw [hobjs, List.getElem?_append_left (ListAux.lt_of_getElem? ho)]; exact ho
  have back : ∀ (h : Nat) (o' : Obj), A'.objs[h]? = some o' → A.objs[h]? = some o' ∨ (h = A.objs.length ∧ o' = { sid := sid, gen := gn }) := by
    intro h o' ho'; rw [hobjs] at ho'; exact getElem?_append_one h o' ho'
  have hdead : ∀ h, deadW A B h → deadW A' B h := fun h d => d.mono (fun r hr => by rw [hlog]; exact hr) (fun _ x => x)
  refine ⟨?_, ?_, ?_, ?_, ?_, ?_⟩
  · intro h o' ho' ht
    rcases back h o' ho' with ho | ⟨_, rfl⟩
    · exact g1 h o' ho ht
    · exact Nat.le_of_eq (hcur ht).1
  · intro h h' o1 o2 ho1 ho2 ht hs hg
    rcases back h o1 ho1 with hp1 | ⟨e1, rfl⟩ <;> rcases back h' o2 ho2 with hp2 | ⟨e2, rfl⟩
    · exact g2 h h' o1 o2 hp1 hp2 ht hs hg
    · exfalso
      have hs' : o1.sid = sid := hs
      have ht' : sid ∉ taint := by rw [← hs']; exact ht
      exact (hcur ht').2 h o1 hp1 hs (by rw [hg]; exact (hcur ht').1)
    · exfalso
      have ht' : sid ∉ taint := ht
      exact (hcur ht').2 h' o2 hp2 hs.symm (by rw [← hg]; exact (hcur ht').1)
    · rw [e1, e2]
  · intro h o' ho' ht hlt
    rcases back h o' ho' with ho | ⟨_, rfl⟩
    · exact hdead h (g3 h o' ho ht hlt)
    · have := (hcur ht).1; simp only at hlt; omega
  · intro sid' h o' ht hl ho'
    rw [hreg] at hl
    by_cases hs : sid' = sid
    · subst hs
      rw [lookup_insert_self] at hl; cases hl
      rcases back _ o' ho' with ho | ⟨_, rfl⟩
      · exact absurd (ListAux.lt_of_getElem? ho) (Nat.lt_irrefl _)
      · exact (hcur ht).1
    · rw [lookup_insert_ne _ _ _ _ hs] at hl
      rcases back h o' ho' with ho | ⟨hh, _⟩
      · exact g4 sid' h o' ht hl ho
      · -- the handle registered for another identifier is an old one
        obtain ⟨o2, ho2, _, _⟩ := ra.regOK sid' h hl
        rw [hh] at ho2; exact absurd (ListAux.lt_of_getElem? ho2) (Nat.lt_irrefl _)
  · intro h o' ho' ht c hc
    rcases back h o' ho' with ho | ⟨_, rfl⟩
    · exact g5 h o' ho ht c hc
    · cases hc
  · intro h o' ho' ht hre
    rcases back h o' ho' with ho | ⟨_, rfl⟩
    · obtain ⟨hw, w, a1, a2, a3, a4, a5⟩ := g6 h o' ho ht hre
      exact ⟨hw, w, a1, a2, a3, a4.mono (fun _ x => x) (fun r hr => by rw [hperf]; exact hr), a5⟩
    · cases hre

/-- a chunk of the object's own incarnation is handed to a registered object -/
theorem GDir.push {A A' B : Ep} {taint : List Nat} {gen : Nat → Nat} (g : GDir A B taint gen) (h : Nat) (o : Obj) (c : Chunk)
    (ho : A.objs[h]? = some o) (hcg : o.sid ∉ taint → c.d.gen = o.gen)
    (hreg : A'.reg = A.reg) (hobjs : A'.objs = A.objs.set h (pushObj A.il o c))
    (hlog : A'.reqLog = A.reqLog) (hperf : A'.perf = A.perf) : GDir A' B taint gen := by
  have hlt := ListAux.lt_of_getElem? ho
  have hget : A'.objs[h]? = some (pushObj A.il o c) := by rw [hobjs]; simp [hlt]
  have hother : ∀ j, j ≠ h → A'.objs[j]? = A.objs[j]? := fun j hj => by rw [hobjs]; exact List.getElem?_set_ne (Ne.symm hj)
  obtain ⟨p1, p2, p3, _, p5, _⟩ := pushObj_same A.il o c
  -- every object of the new table is an object of the old one with the same identity
  have back : ∀ (j : Nat) (oj : Obj), A'.objs[j]? = some oj → ∃ o0, A.objs[j]? = some o0 ∧ oj.sid = o0.sid ∧ oj.gen = o0.gen ∧ oj.readErr = o0.readErr ∧
      (∀ c' ∈ oj.rx, c' ∈ o0.rx ∨ (j = h ∧ c' = c)) ∧ (∀ c' ∈ o0.rx, c' ∈ oj.rx) := by
    intro j oj hoj
    by_cases hj : j = h
    · subst hj; rw [hget] at hoj; cases hoj
      refine ⟨o, ho, p1, p2, p3, ?_, ?_⟩
      · intro c' hc'; rw [p5] at hc'
        rcases List.mem_append.mp hc' with x | x
        · exact Or.inl x
        · exact Or.inr ⟨rfl, by simpa using x⟩
      · intro c' hc'; rw [p5]; exact List.mem_append_left _ hc'
    · rw [hother j hj] at hoj
      exact ⟨oj, hoj, rfl, rfl, rfl, fun c' hc' => Or.inl hc', fun c' hc' => hc'⟩
  refine g.ofIdent (fun j oj hoj => (back j oj hoj).imp fun o0 r => ⟨r.1, r.2.1, r.2.2.1⟩)
    (fun _ _ hl => hreg ▸ hl) (fun _ d => d.mono (fun _ hr => hlog ▸ hr) (fun _ x => x)) ?_ ?_
  · intro j oj hoj ht c' hc'
    obtain ⟨o0, h0, a, b, _, r1, _⟩ := back j oj hoj
    rw [b]
    rcases r1 c' hc' with x | ⟨hj, rfl⟩
    · exact g.rxGen j o0 h0 (by rw [← a]; exact ht) c' x
    · subst hj; rw [ho] at h0; cases h0
      exact hcg (by rw [← a]; exact ht)
  · intro j oj hoj ht hre
    obtain ⟨o0, h0, a, b, e, _, r2⟩ := back j oj hoj
    obtain ⟨hw, w, a1, a2, a3, a4, a5⟩ := g.eofLink j o0 h0 (by rw [← a]; exact ht) (by rw [← e]; exact hre)
    exact ⟨hw, w, a1, by rw [a]; exact a2, by rw [b]; exact a3, a4.mono (fun _ x => x) (fun r hr => by rw [hperf]; exact hr),
      fun c' hc' hw' => r2 c' (a5 c' hc' hw')⟩

theorem mem_wobjs_zip (rec : ReqRec) (hlen : rec.sids.length = rec.wobjs.length) (h : Nat) (hh : h ∈ rec.wobjs) :
    ∃ sd, (sd, h) ∈ rec.sids.zip rec.wobjs := by
  obtain ⟨i, hi, hij⟩ := List.mem_iff_getElem.mp hh
  have hi' : i < rec.sids.length := by omega
  refine ⟨rec.sids[i], ?_⟩
  apply List.mem_iff_getElem.mpr
  refine ⟨i, by simp [List.length_zip]; omega, by simp [hij]⟩

theorem mem_sids_zip (rec : ReqRec) (hlen : rec.sids.length = rec.wobjs.length) (sd : Nat) (hh : sd ∈ rec.sids) :
    ∃ h, (sd, h) ∈ rec.sids.zip rec.wobjs := by
  obtain ⟨i, hi, hij⟩ := List.mem_iff_getElem.mp hh
  have hi' : i < rec.wobjs.length := by omega
  refine ⟨rec.wobjs[i], ?_⟩
  apply List.mem_iff_getElem.mpr
  refine ⟨i, by simp [List.length_zip]; omega, by simp [hij]⟩

/-- a chunk of a dead object was received long ago -/
theorem dead_chunk_recvd {S R : Ep} {H : List Msg} (sS : SInv S) (x : XInv S R H) (c : Chunk) (hc : c ∈ S.sent)
    (hd : deadW S R c.d.wobj) : c.tsn ≤ R.cum := by
  obtain ⟨rec, hrec, hmem, hperf⟩ := hd
  obtain ⟨rec', hrec', heq, hle⟩ := x.perf _ hperf
  have : rec' = rec := sS.rsnInj rec' hrec' rec hrec heq
  subst this
  obtain ⟨hlen, _, hall⟩ := sS.recOK rec' hrec
  obtain ⟨sd, hz⟩ := mem_wobjs_zip rec' hlen _ hmem
  obtain ⟨_, _, _, _, _, _, h5⟩ := hall _ hz
  have := h5 c hc rfl
  omega

/-- a chunk that was never received belongs to the current incarnation of its identifier -/
theorem fresh_gen {S R : Ep} {H : List Msg} {taint : List Nat} {gen : Nat → Nat} (gS : GDir S R taint gen) (sS : SInv S) (wS : WInv S)
    (x : XInv S R H) (c : Chunk) (hc : c ∈ S.sent) (hfresh : ¬ Recvd R c.tsn) (ht : c.d.sid ∉ taint) :
    c.d.gen = gen c.d.sid ∧ ∃ o, S.objs[c.d.wobj]? = some o ∧ o.sid = c.d.sid ∧ o.gen = c.d.gen := by
  have hi : c.d ∈ S.items := by unfold Ep.items; exact List.mem_append_left _ (List.mem_map_of_mem hc)
  obtain ⟨o, ho, hs, hg, _, _⟩ := wS.item c.d hi
  refine ⟨?_, o, ho, hs, hg⟩
  have hle := gS.genLe _ o ho (by rw [hs]; exact ht)
  rcases Nat.lt_or_ge o.gen (gen o.sid) with hlt | hge
  · exfalso
    have hd := gS.oldDead _ o ho (by rw [hs]; exact ht) hlt
    exact hfresh (Or.inl (dead_chunk_recvd sS x c hc hd))
  · rw [← hg, ← hs]; omega

def ResetRel (sids : List Nat) (o o' : Obj) : Prop := o' = o ∨ (o' = inboundReset o ∧ o.readErr = false ∧ o.sid ∈ sids)

theorem foldl_resetOne_spec (sids : List Nat) (e : Ep) (re : RInv e) :
    (∀ sid h, lookup sid (sids.foldl resetOne e).reg = some h → lookup sid e.reg = some h) ∧
    ObjsRel (ResetRel sids) e.objs (sids.foldl resetOne e).objs := by
  have trans : ∀ a b c, ResetRel sids a b → ResetRel sids b c → ResetRel sids a c := by
    intro a b c hab hbc
    rcases hab with rfl | ⟨rfl, h1, h2⟩
    · exact hbc
    · rcases hbc with rfl | ⟨_, h3, _⟩
      · exact Or.inr ⟨rfl, h1, h2⟩
      · simp [inboundReset] at h3
  refine (ListAux.foldl_inv (P := fun e' => RInv e' ∧ (∀ sid h, lookup sid e'.reg = some h → lookup sid e.reg = some h) ∧
    ObjsRel (ResetRel sids) e.objs e'.objs) sids ⟨re, fun _ _ h => h, ObjsRel.refl (fun o => Or.inl rfl) _⟩ ?_).2
  intro e' s hs ⟨re', hreg, rel⟩
  refine ⟨resetOne_rinv e' s re', ?_⟩
  unfold resetOne
  split
  · exact ⟨hreg, rel⟩
  · rename_i h hl
    obtain ⟨o, ho, hos, hoe⟩ := re'.regOK s h hl
    rw [ho]
    refine ⟨?_, ObjsRel.trans trans rel (ObjsRel.setSame (fun o => Or.inl rfl) _ _ _ _ ho (Or.inr ⟨rfl, hoe, hos ▸ hs⟩))⟩
    intro sid h' hl'
    by_cases hsid : sid = s
    · subst hsid; rw [lookup_erase_self] at hl'; cases hl'
    · rw [lookup_erase_ne _ _ _ hsid] at hl'; exact hreg sid h' hl'

theorem GDir.perform {A B : Ep} {H : List Msg} {taint : List Nat} {gen : Nat → Nat}
    (gA : GDir A B taint gen) (gB : GDir B A taint gen) (sB : SInv B) (wB : WInv B) (x : XInv B A H) (rA : RInv A)
    (rq : ReqRec) (hrec : rq ∈ B.reqLog) (hle : rq.last ≤ A.cum) (hfresh : rq.rsn ∉ A.perf) :
    GDir (performEp A rq.rsn rq.sids) B taint gen := by
  obtain ⟨regShrink, rel⟩ := foldl_resetOne_spec rq.sids A rA
  obtain ⟨l, rg, h, _⟩ := foldl_resetOne_shape rq.sids A
  unfold performEp
  rw [h] at regShrink rel ⊢
  have hdeadB : ∀ j, deadW B A j → deadW B { A with objs := l, reg := rg, rreqs := erase rq.rsn A.rreqs, perf := rq.rsn :: A.perf } j :=
    fun j d => d.mono (fun _ h => h) (fun _ hr => List.mem_cons_of_mem _ hr)
  have back : ∀ (j : Nat) (o' : Obj), l[j]? = some o' → ∃ o, A.objs[j]? = some o ∧ ResetRel rq.sids o o' ∧
      o'.sid = o.sid ∧ o'.gen = o.gen ∧ o'.rx = o.rx := by
    intro j o' ho'
    obtain ⟨o, ho, r⟩ := rel.back j o' ho'
    refine ⟨o, ho, r, ?_⟩
    rcases r with rfl | ⟨rfl, _, _⟩
    · exact ⟨rfl, rfl, rfl⟩
    · exact ⟨rfl, rfl, rfl⟩
  refine gA.ofIdent (fun j o' ho' => (back j o' ho').imp fun o r => ⟨r.1, r.2.2.1, r.2.2.2.1⟩) regShrink
    (fun _ d => d.mono (fun _ hr => hr) (fun _ h => h)) ?_ ?_
  · intro j o' ho' ht c hc
    obtain ⟨o, ho, _, a, b, d⟩ := back j o' ho'
    rw [b]; exact gA.rxGen j o ho (by rw [← a]; exact ht) c (by rw [← d]; exact hc)
  · intro j o' ho' ht hre
    obtain ⟨o, ho, r, a, b, d⟩ := back j o' ho'
    have hto : o.sid ∉ taint := by rw [← a]; exact ht
    rcases r with rfl | ⟨rfl, hoe, hmem⟩
    · -- was reset before: the old link, the peer's request log and our performed set only grew
      obtain ⟨hw, w, a1, a2, a3, a4, a5⟩ := gA.eofLink j o' ho hto hre
      exact ⟨hw, w, a1, a2, a3, hdeadB hw a4, a5⟩
    · -- reset now, by this request: its partner is the object the request names for this identifier
      obtain ⟨hlen, _, hall⟩ := sB.recOK rq hrec
      obtain ⟨hw, hz⟩ := mem_sids_zip rq hlen o.sid hmem
      obtain ⟨w, hwo, hws, _, _, _, hchunks⟩ := hall _ hz
      have hwmem : hw ∈ rq.wobjs := (List.of_mem_zip hz).2
      -- o is registered (it had not been reset): it is of the current incarnation
      have hreg : lookup o.sid A.reg = some j := by
        rcases rA.unregErr j o ho with h | h
        · exact h
        · rw [hoe] at h; cases h
      have hog : o.gen = gen o.sid := gA.regCur o.sid j o hto hreg ho
      -- so is w: otherwise it would be dead, i.e. this very request would have been performed already
      have hwt : w.sid ∉ taint := by simp only at hws; rw [hws]; exact hto
      have hwg : w.gen = gen o.sid := by
        have hle' := gB.genLe hw w hwo hwt
        simp only at hws
        rw [hws] at hle'
        rcases Nat.lt_or_ge w.gen (gen o.sid) with hlt | hge
        · exfalso
          obtain ⟨rq', hrec', hm', hp'⟩ := gB.oldDead hw w hwo hwt (by rw [hws]; exact hlt)
          have : rq' = rq := sB.recUniq rq' hrec' rq hrec hw hm' hwmem
          subst this
          exact hfresh hp'
        · omega
      refine ⟨hw, w, hwo, (by show w.sid = o.sid; simpa using hws), (by show w.gen = o.gen; rw [hwg]; exact hog.symm), ⟨rq, hrec, hwmem, List.mem_cons_self⟩, ?_⟩
      -- every chunk of w is at or below the request's last TSN, hence received, hence in SOME object of A of the same
      -- identifier and incarnation: that is o
      intro c hc hcw
      have hct : c.tsn ≤ A.cum := by have := hchunks c hc hcw; omega
      obtain ⟨j2, o2, ho2, hco2⟩ := x.complete c hc (Or.inl hct)
      obtain ⟨_, hsid2, _⟩ := x.rx j2 o2 ho2 c hco2
      have hi : c.d ∈ B.items := by unfold Ep.items; exact List.mem_append_left _ (List.mem_map_of_mem hc)
      obtain ⟨w2, hw2, hs2, hg2, _, _⟩ := wB.item c.d hi
      rw [hcw, hwo] at hw2; cases hw2
      simp only at hws
      have ho2sid : o2.sid = o.sid := by rw [← hsid2, ← hs2, hws]
      have ho2gen : o2.gen = o.gen := by
        rw [← gA.rxGen j2 o2 ho2 (by rw [ho2sid]; exact hto) c hco2, ← hg2, hwg, hog]
      have : j2 = j := gA.uniq j2 j o2 o ho2 ho (by rw [ho2sid]; exact hto) ho2sid ho2gen
      subst this
      rw [ho] at ho2; cases ho2
      exact hco2

/-- a pass of the write loop at `A`: its objects and its stream table are as they were, its request log has only grown, and
what it newly sent was pending until now, so not written by an object that a request had closed -/
theorem GDir.gather {A B : Ep} {taint : List Nat} {gen : Nat → Nat} (gA : GDir A B taint gen) (gB : GDir B A taint gen) (sA : SInv A)
    {sel : List Nat} {popped left : List Item} (hp : popSel A.il A.pend sel = some (popped, left)) :
    GDir (gatherEp A popped left) B taint gen ∧ GDir B (gatherEp A popped left) taint gen := by
  obtain ⟨_, _, _, a4, a5, _, a7, _⟩ := gatherEp_fields A popped left
  obtain ⟨b1, _⟩ := assign_spec popped A.nextTSN
  have hsent : (gatherEp A popped left).sent = A.sent ++ (assign A.nextTSN popped).1 := by rw [gatherEp_eq]
  have hlog : ∀ r ∈ A.reqLog, r ∈ (gatherEp A popped left).reqLog := by
    intro r hr; rw [gatherEp_eq]; dsimp only; split
    · exact hr
    · exact List.mem_append_left _ hr
  refine ⟨gA.monoL (a5 ▸ ObjsRel.refl GSame.refl _) a4 hlog (fun _ hr => a7 ▸ hr),
    gB.monoR (fun _ hr => a7 ▸ hr) (fun _ w h => ⟨w, a5 ▸ h, rfl, rfl⟩) hlog ?_⟩
  intro c hc
  rw [hsent] at hc
  rcases List.mem_append.mp hc with hc | hc
  · exact Or.inl hc
  · right
    intro rec hrec hmemw
    have hd : c.d ∈ pendData popped := by rw [← b1]; exact List.mem_map_of_mem hc
    have hdp : Item.data c.d ∈ A.pend := (popSel_mem A.il sel _ _ _ hp _).mpr (Or.inl ((mem_pendData _ _).mp hd))
    obtain ⟨hlen, _, hall⟩ := sA.recOK rec hrec
    obtain ⟨sd, hz⟩ := mem_wobjs_zip rec hlen _ hmemw
    obtain ⟨_, _, _, _, _, x4, _⟩ := hall _ hz
    exact x4 c.d hdp rfl

/-- when every identifier in sight is in `taint`, the incarnation bookkeeping says nothing -/
theorem GDir.unjudged {A : Ep} (B : Ep) {taint : List Nat} (gen : Nat → Nat) (rA : RInv A)
    (h : ∀ (j : Nat) (o : Obj), A.objs[j]? = some o → o.sid ∈ taint) : GDir A B taint gen := by
  refine ⟨fun j o ho ht => absurd (h j o ho) ht, fun j _ o _ ho _ ht => absurd (h j o ho) ht, fun j o ho ht => absurd (h j o ho) ht,
    ?_, fun j o ho ht => absurd (h j o ho) ht, fun j o ho ht => absurd (h j o ho) ht⟩
  intro sid j o ht hl ho
  obtain ⟨o2, ho2, hs, _⟩ := rA.regOK sid j hl
  rw [ho] at ho2; cases ho2
  exact absurd (hs ▸ h j o ho) ht

/-- fewer identifiers are judged -/
theorem GDir.taintMore {A B : Ep} {taint : List Nat} {gen : Nat → Nat} (g : GDir A B taint gen) (sid : Nat) :
    GDir A B (sid :: taint) gen := by
  obtain ⟨g1, g2, g3, g4, g5, g6⟩ := g
  have w : ∀ x, x ∉ sid :: taint → x ∉ taint := fun x hx h => hx (List.mem_cons_of_mem _ h)
  exact ⟨fun h o ho ht => g1 h o ho (w _ ht), fun h h' o o' a b ht => g2 h h' o o' a b (w _ ht),
    fun h o ho ht => g3 h o ho (w _ ht), fun s h o ht => g4 s h o (w _ ht), fun h o ho ht => g5 h o ho (w _ ht),
    fun h o ho ht => g6 h o ho (w _ ht)⟩

/-- the incarnation counter of an identifier moves on: nothing is registered under it and all its objects are dead -/
theorem GDir.regen {A B : Ep} {taint : List Nat} {gen : Nat → Nat} (g : GDir A B taint gen) (sid : Nat)
    (hnone : lookup sid A.reg = none) (dead : ∀ (h : Nat) (o : Obj), A.objs[h]? = some o → o.sid = sid → deadW A B h) :
    GDir A B taint (fun i => if i = sid then gen sid + 1 else gen i) := by
  obtain ⟨g1, g2, g3, g4, g5, g6⟩ := g
  refine ⟨?_, g2, ?_, ?_, g5, g6⟩
  · intro h o ho ht
    have := g1 h o ho ht
    show o.gen ≤ if o.sid = sid then gen sid + 1 else gen o.sid
    split
    · rename_i hs; rw [hs] at this; omega
    · exact this
  · intro h o ho ht hlt
    by_cases hs : o.sid = sid
    · exact dead h o ho hs
    · simp only [hs, ↓reduceIte] at hlt
      exact g3 h o ho ht hlt
  · intro sid' h o ht hl ho
    by_cases hs : sid' = sid
    · subst hs; rw [hnone] at hl; cases hl
    · simp only [hs, ↓reduceIte]; exact g4 sid' h o ht hl ho

/-- a new incarnation is opened at `A` after both directions were reset -/
theorem GDir.openQuiet {A A' B : Ep} {taint : List Nat} {gen : Nat → Nat} (gA : GDir A B taint gen) (gB : GDir B A taint gen)
    (ra : RInv A) (sid : Nat) (hnoneA : lookup sid A.reg = none) (hnoneB : lookup sid B.reg = none)
    (deadA : ∀ (h : Nat) (o : Obj), A.objs[h]? = some o → o.sid = sid → deadW A B h)
    (deadB : ∀ (h : Nat) (o : Obj), B.objs[h]? = some o → o.sid = sid → deadW B A h)
    (hreg : A'.reg = insert sid A.objs.length A.reg) (hobjs : A'.objs = A.objs ++ [{ sid := sid, gen := gen sid + 1 }])
    (hlog : A'.reqLog = A.reqLog) (hperf : A'.perf = A.perf) (hsent : A'.sent = A.sent) :
    GDir A' B taint (fun i => if i = sid then gen sid + 1 else gen i) ∧
    GDir B A' taint (fun i => if i = sid then gen sid + 1 else gen i) := by
  refine ⟨(gA.regen sid hnoneA deadA).addObj ra sid (gen sid + 1) ?_ hreg hobjs hlog hperf,
    (gB.regen sid hnoneB deadB).peerAddObj _ hobjs hlog hperf hsent⟩
  intro ht
  refine ⟨by simp, ?_⟩
  intro h o ho hs hg
  have := gA.genLe h o ho (hs ▸ ht)
  simp only [↓reduceIte] at hg
  rw [hs] at this
  omega

/-- "both directions reset" means: every object with this identifier, at either endpoint, is dead -/
theorem sideQuiet_dead (e peer : Ep) (sid : Nat) (hs : SInv e) (hq : sideQuiet e peer sid = true) :
    lookup sid e.reg = none ∧ ∀ (h : Nat) (o : Obj), e.objs[h]? = some o → o.sid = sid → deadW e peer h := by
  unfold sideQuiet at hq
  simp only [Bool.and_eq_true, Option.isNone_iff_eq_none, List.all_eq_true, Bool.or_eq_true, bne_iff_ne, ne_eq] at hq
  obtain ⟨⟨⟨hreg, hobjs⟩, hpend⟩, hreqs⟩ := hq
  refine ⟨hreg, ?_⟩
  intro h o ho hos
  have hclosed : ¬ isOpen o := by
    rcases hobjs o (List.mem_of_getElem? ho) with h1 | h1
    · exact absurd hos h1
    · exact h1
  rcases hs.closedHas h o ho hclosed with ⟨s, hm⟩ | ⟨rec, hrec, hmem⟩
  · exfalso
    obtain ⟨o2, ho2, hos2, _⟩ := hs.markerClosed s h hm
    rw [ho] at ho2; cases ho2
    have := hpend _ hm
    simp only [bne_iff_ne, ne_eq] at this
    exact this (hos2.symm.trans hos)
  · refine ⟨rec, hrec, hmem, ?_⟩
    obtain ⟨hlen, _, hall⟩ := hs.recOK rec hrec
    obtain ⟨sd, hz⟩ := mem_wobjs_zip rec hlen h hmem
    obtain ⟨o2, ho2, hos2, _⟩ := hall _ hz
    simp only at ho2 hos2
    rw [ho] at ho2; cases ho2
    have hsd : sd = sid := hos2.symm.trans hos
    have hmemS : sid ∈ rec.sids := hsd ▸ (List.of_mem_zip hz).1
    unfold reqsDone at hreqs
    simp only [List.all_eq_true, Bool.or_eq_true, Bool.not_eq_true', List.contains_eq_mem, decide_eq_false_iff_not, decide_eq_true_eq] at hreqs
    rcases hreqs rec hrec with h1 | h1
    · exact absurd hmemS h1
    · exact h1

end Rs
