import SctpVerif.Proofs.Reset.Gens
/-!
Every step of the two-endpoint system keeps `SysInv` (`Sys.Step.inv`) and, with it, the incarnation bookkeeping `GInv`
(`Sys.Step.ginv`); `run_all` for the reachable states.
One inbound packet is followed step by step for everything at once: `HCtx S R H taint gen` bundles what is known about
the direction `S → R` (sender invariants, `XInv`, the receiver invariant of `R`) with the incarnation bookkeeping of both
endpoints, and every micro-step of `handle` at `R` keeps it. This is the only walk of the receive chain that uses
invariants: `RInv` and `XInv` alone (`handle_recv`, for `Sys.Step.inv`) are the instance in which no identifier is judged.
`hctx_from` / `hctx_to` read the context off the two invariants of a state; the property theorems go through them.
-/
namespace Rs

structure HCtx (S R : Ep) (H : List Msg) (taint : List Nat) (gen : Nat → Nat) : Prop where
  sS : SInv S
  wS : WInv S
  x : XInv S R H
  rR : RInv R
  gR : GDir R S taint gen
  gS : GDir S R taint gen

theorem performEp_rinv (R : Ep) (rsn : Nat) (sids : List Nat) (inv : RInv R) : RInv (performEp R rsn sids) :=
  (foldl_resetOne_rinv sids R inv).irrelevant rfl rfl rfl rfl rfl

theorem HCtx.perform {S R : Ep} {H : List Msg} {taint : List Nat} {gen : Nat → Nat} (c : HCtx S R H taint gen)
    (rq : ReqRec) (hrq : rq ∈ S.reqLog) (hle : rq.last ≤ R.cum) (hfresh : rq.rsn ∉ R.perf) :
    HCtx S (performEp R rq.rsn rq.sids) H taint gen := by
  obtain ⟨sS, wS, x, rR, gR, gS⟩ := c
  refine ⟨sS, wS, x.perform rq.rsn rq.last rq.sids ⟨rq, hrq, rfl, rfl, rfl⟩ hle, performEp_rinv R _ _ rR,
    gR.perform gS sS wS x rR rq hrq hle hfresh, ?_⟩
  obtain ⟨l, rg, h, rel⟩ := performEp_shape R rq.rsn rq.sids
  rw [h]
  refine gS.monoR (fun _ hr => List.mem_cons_of_mem _ hr) ?_ (fun _ hr => hr) (fun _ hc => Or.inl hc)
  intro hw w hwo
  obtain ⟨w', hw', q⟩ := rel.2 hw w hwo
  exact ⟨w', hw', q.queueSame.sid, q.queueSame.gen⟩

theorem HCtx.reset {S R : Ep} {H : List Msg} {taint : List Nat} {gen : Nat → Nat} (c : HCtx S R H taint gen)
    (rsn last : Nat) (sids : List Nat) (hm : ReqMatch S rsn last sids) (hfresh : rsn ∉ R.perf) :
    HCtx S (resetStreamsIfAny R rsn last sids).1 H taint gen := by
  rw [resetStreamsIfAny_eq]
  split
  · rename_i hle
    obtain ⟨rq, hrq, rfl, rfl, rfl⟩ := hm
    exact c.perform rq hrq hle hfresh
  · exact c

/-- what performing does to the performed set: only this request's number is added -/
theorem resetStreamsIfAny_perf (R : Ep) (rsn last : Nat) (sids : List Nat) :
    ∀ r ∈ (resetStreamsIfAny R rsn last sids).1.perf, r = rsn ∨ r ∈ R.perf := by
  rw [resetStreamsIfAny_eq]
  split
  · obtain ⟨l, rg, h, _⟩ := performEp_shape R rsn sids
    rw [h]
    exact fun r hr => List.mem_cons.mp hr
  · exact fun r hr => Or.inr hr

theorem HCtx.recheck {S : Ep} {H : List Msg} {taint : List Nat} {gen : Nat → Nat} (l : List (Nat × Nat × List Nat))
    (hl : ∀ r ∈ l, ReqMatch S r.1 r.2.1 r.2.2) (hnd : l.Pairwise (fun a b => a.1 ≠ b.1)) :
    ∀ R, (∀ r ∈ l, r.1 ∉ R.perf) → HCtx S R H taint gen → HCtx S (Rs.recheck R l).1 H taint gen := by
  induction l with
  | nil => intro R _ c; exact c
  | cons r rest ih =>
    intro R hf c
    simp only [Rs.recheck]
    obtain ⟨hr, hrest⟩ := List.pairwise_cons.mp hnd
    apply ih (fun x hx => hl x (List.mem_cons_of_mem _ hx)) hrest
    · intro x hx hmem
      rcases resetStreamsIfAny_perf R r.1 r.2.1 r.2.2 _ hmem with h | h
      · exact hr x hx h.symm
      · exact hf x (List.mem_cons_of_mem _ hx) h
    · exact c.reset r.1 r.2.1 r.2.2 (hl r List.mem_cons_self) (hf r List.mem_cons_self)

theorem HCtx.bumpCum {S R : Ep} {H : List Msg} {taint : List Nat} {gen : Nat → Nat} (c : HCtx S R H taint gen)
    (hc : R.rcv.contains (R.cum + 1) = true) :
    HCtx S { R with rcv := R.rcv.filter (· != R.cum + 1), cum := R.cum + 1 } H taint gen := by
  obtain ⟨sS, wS, x, rR, gR, gS⟩ := c
  refine ⟨sS, wS, x.bumpCum sS hc, ?_, ?_, ?_⟩
  · obtain ⟨h1, h2, h3, h4, h5⟩ := rR
    refine ⟨h1, h2, ?_, h4, h5⟩
    intro t ht
    simp only [List.mem_filter, bne_iff_ne, ne_eq] at ht
    have := h3 t ht.1
    simp only; omega
  · exact gR.congrL rfl rfl rfl rfl
  · exact gS.congrR rfl rfl rfl rfl

theorem HCtx.advance {S : Ep} {H : List Msg} {taint : List Nat} {gen : Nat → Nat} (fuel : Nat) :
    ∀ R, HCtx S R H taint gen → HCtx S (Rs.advance fuel R).1 H taint gen := by
  induction fuel with
  | zero => intro R c; exact c
  | succ n ih =>
    intro R c
    simp only [Rs.advance]
    split
    · rename_i hc
      apply ih
      have c1 := c.bumpCum hc
      exact HCtx.recheck _ (fun r hr => (c1.x.rreqs r hr).1) c1.x.rreqUniq _ (fun r hr => (c1.x.rreqs r hr).2) c1
    · exact c

/-- fields no invariant of the direction reads -/
theorem HCtx.sameR {S R R' : Ep} {H : List Msg} {taint : List Nat} {gen : Nat → Nat} (c : HCtx S R H taint gen)
    (hil : R'.il = R.il) (hcum : R'.cum = R.cum) (hrcv : R'.rcv = R.rcv) (hreg : R'.reg = R.reg) (hobjs : R'.objs = R.objs)
    (hrreqs : R'.rreqs = R.rreqs) (hperf : R'.perf = R.perf) (hlog : R'.reqLog = R.reqLog) (hsent : R'.sent = R.sent) :
    HCtx S R' H taint gen := by
  obtain ⟨sS, wS, x, rR, gR, gS⟩ := c
  refine ⟨sS, wS, x.recvSame hrreqs hperf hrcv hcum (hobjs ▸ ObjsRel.refl ReaderSame.refl _), rR.irrelevant hil hcum hrcv hreg hobjs, ?_, ?_⟩
  · exact gR.congrL hobjs hreg hlog hperf
  · exact gS.congrR hobjs hlog hperf hsent

theorem Created.hctx {R : Ep} {ch : Chunk} {e1 : Ep} {h : Nat} (cr : Created R ch e1 h) {S : Ep} {H : List Msg} {taint : List Nat}
    {gen : Nat → Nat} (c : HCtx S R H taint gen) (hch : ch ∈ S.sent) (hfresh : ¬ Recvd R ch.tsn) : HCtx S e1 H taint gen := by
  obtain ⟨sS, wS, x, rR, gR, gS⟩ := c
  refine ⟨sS, wS, cr.xinv x, cr.rinv rR, ?_, ?_⟩
  · cases cr with
    | known h hl => exact gR
    | fresh hl hacq =>
      refine gR.addObj rR ch.d.sid ch.d.gen ?_ rfl rfl rfl rfl
      intro ht
      obtain ⟨hg, ow, how, hows, howg⟩ := fresh_gen gS sS wS x ch hch hfresh ht
      refine ⟨hg, ?_⟩
      intro j oj hoj hojs hojg
      -- an object of the current incarnation that is not registered was reset: its partner is dead, and the
      -- partner is the writer of this chunk — which would then have been received long ago
      have hre : oj.readErr = true := by
        rcases rR.unregErr j oj hoj with h | h
        · rw [hojs, hl] at h; cases h
        · exact h
      obtain ⟨hw, w, a1, a2, a3, a4, _⟩ := gR.eofLink j oj hoj (by rw [hojs]; exact ht) hre
      have : hw = ch.d.wobj := gS.uniq hw ch.d.wobj w ow a1 how (by rw [a2, hojs]; exact ht) (by rw [a2, hojs, hows])
        (by rw [a3, hojg, howg, hg])
      subst this
      exact hfresh (Or.inl (dead_chunk_recvd sS x ch hch a4))
  · cases cr with
    | known h hl => exact gS
    | fresh hl hacq => exact gS.peerAddObj _ rfl rfl rfl rfl

theorem HCtx.handleData {S R : Ep} {H : List Msg} {taint : List Nat} {gen : Nat → Nat} (c : HCtx S R H taint gen)
    (ch : Chunk) (hch : ch ∈ S.sent) : HCtx S (Rs.handleData R ch).1 H taint gen := by
  rcases handleData_cases R ch with h | h | ⟨⟨hn, hgt⟩, e1, j, cr, hpush⟩
  · rw [h]; exact HCtx.advance _ R c
  · rw [h]; exact c
  · have hfresh : ¬ Recvd R ch.tsn := fun hr => hr.elim (fun hle => by omega) hn
    have c1 := cr.hctx c hch hfresh
    obtain ⟨hl1, hcum1, _, hrcv1⟩ := cr.fields
    rcases hpush with h | ⟨o, ho, h⟩ <;> rw [h]
    · exact c1.sameR rfl rfl rfl rfl rfl rfl rfl rfl rfl
    · obtain ⟨o2, ho2, hsid, hne⟩ := c1.rR.regOK _ _ hl1
      rw [ho] at ho2; cases ho2
      apply HCtx.advance
      obtain ⟨sS, wS, x, rR, gR, gS⟩ := c1
      have hfresh1 : ¬ Recvd e1 ch.tsn := by unfold Recvd; rw [hcum1, hrcv1]; exact hfresh
      refine ⟨sS, wS, x.push sS j o ch ho hch hsid rfl rfl rfl rfl rfl,
        rR.push j o ch ho hne (by rw [hcum1]; exact hgt) rfl rfl rfl rfl rfl, ?_, ?_⟩
      · refine gR.push j o ch ho ?_ rfl rfl rfl rfl
        intro ht
        have ht' : ch.d.sid ∉ taint := by rw [← hsid]; exact ht
        obtain ⟨hg, _⟩ := fresh_gen gS sS wS x ch hch hfresh1 ht'
        rw [hg, gR.regCur ch.d.sid j o ht' hl1 ho]
      · obtain ⟨p1, p2, _⟩ := pushObj_same e1.il o ch
        refine gS.monoR (fun _ h => h) ?_ (fun _ h => h) (fun c hc => Or.inl hc)
        intro hw w hwo
        by_cases hj : hw = j
        · subst hj; rw [ho] at hwo; cases hwo
          exact ⟨_, by simp [ListAux.lt_of_getElem? ho], p1, p2⟩
        · exact ⟨w, by simp only; rw [List.getElem?_set_ne (Ne.symm hj)]; exact hwo, rfl, rfl⟩

theorem HCtx.handleDatas {S : Ep} {H : List Msg} {taint : List Nat} {gen : Nat → Nat} (cs : List Chunk) (hcs : ∀ c ∈ cs, c ∈ S.sent) :
    ∀ R, HCtx S R H taint gen → HCtx S (Rs.handleDatas R cs).1 H taint gen := by
  induction cs with
  | nil => intro R c; exact c
  | cons ch rest ih =>
    intro R c
    simp only [Rs.handleDatas]
    exact ih (fun x hx => hcs x (List.mem_cons_of_mem _ hx)) _ (c.handleData ch (hcs ch List.mem_cons_self))

theorem HCtx.handleReq {S R : Ep} {H : List Msg} {taint : List Nat} {gen : Nat → Nat} (c : HCtx S R H taint gen)
    (rsn last : Nat) (sids : List Nat) (hm : ReqMatch S rsn last sids) : HCtx S (Rs.handleReq R rsn last sids).1 H taint gen := by
  rcases handleReq_cases R rsn last sids with ⟨_, h⟩ | ⟨_, _, h⟩ | ⟨hnp, h⟩ <;> rw [h]
  · exact c
  · exact c
  · have c1 : HCtx S { R with rreqs := insert rsn (last, sids) R.rreqs } H taint gen := by
      obtain ⟨sS, wS, x, rR, gR, gS⟩ := c
      exact ⟨sS, wS, x.addRreq rsn last sids hm hnp, rR.irrelevant rfl rfl rfl rfl rfl, gR.congrL rfl rfl rfl rfl,
        gS.congrR rfl rfl rfl rfl⟩
    exact c1.reset rsn last sids hm hnp

theorem HCtx.handleResp {S R : Ep} {H : List Msg} {taint : List Nat} {gen : Nat → Nat} (c : HCtx S R H taint gen)
    (rsn result : Nat) : HCtx S (Rs.handleResp R rsn result) H taint gen := by
  obtain ⟨sS, wS, x, rR, gR, gS⟩ := c
  obtain ⟨a1, a2, a3, a4, a5, a7⟩ := handleResp_spec R rsn result
  have f := handleResp_frame R rsn result
  refine ⟨sS, wS, x.recvSame a1 a2 a3 a4 a7, handleResp_rinv R rsn result rR, ?_, ?_⟩
  · exact gR.monoL (a7.imp (fun _ _ r => ⟨r.sid, r.gen, r.rx, r.readErr⟩)) a5 (fun _ hr => f.same.reqLog ▸ hr) (fun _ hr => a2 ▸ hr)
  · refine gS.monoR (fun _ hr => a2 ▸ hr) ?_ (fun _ hr => f.same.reqLog ▸ hr) (fun _ hc => Or.inl (f.same.sent ▸ hc))
    intro hw w hwo
    obtain ⟨w', hw', r⟩ := a7.2 hw w hwo
    exact ⟨w', hw', r.sid, r.gen⟩

theorem HCtx.handle {S R : Ep} {H : List Msg} {taint : List Nat} {gen : Nat → Nat} (c : HCtx S R H taint gen)
    (p : Msg) (hp : PktOK S p) : HCtx S (Rs.handle R p) H taint gen := by
  cases p with
  | data cs => exact (HCtx.handleDatas cs hp R c).sameR rfl rfl rfl rfl rfl rfl rfl rfl rfl
  | sack cum => exact c
  | req rsn last sids => exact (c.handleReq rsn last sids hp).sameR rfl rfl rfl rfl rfl rfl rfl rfl rfl
  | resp rsn result => exact c.handleResp rsn result

/-- one inbound packet, the receive half and the direction it travelled in: `HCtx.handle` with no identifier judged -/
theorem handle_recv {S R : Ep} {H : List Msg} (sS : SInv S) (wS : WInv S) (rS : RInv S) (x : XInv S R H) (rR : RInv R)
    (p : Msg) (hp : PktOK S p) : RInv (handle R p) ∧ XInv S (handle R p) H := by
  have c : HCtx S R H ((R.objs ++ S.objs).map (·.sid)) (fun _ => 0) :=
    ⟨sS, wS, x, rR,
      .unjudged S _ rR (fun j o ho => List.mem_map_of_mem (List.mem_append_left _ (List.mem_of_getElem? ho))),
      .unjudged R _ rS (fun j o ho => List.mem_map_of_mem (List.mem_append_right _ (List.mem_of_getElem? ho)))⟩
  exact ⟨(c.handle p hp).rR, (c.handle p hp).x⟩

theorem Sys.Step.inv {s s' : Sys} (st : Sys.Step s s') (inv : SysInv s) : SysInv s' := by
  cases st with
  | same => exact inv
  | «local» z e' l => exact inv.local z e' l
  | reopened z sid hl hq => exact (inv.opened z sid _ hl).ghost _ _
  | tainted z sid hl => exact (inv.opened z sid _ hl).ghost _ _
  | gathered z sel pre post sack e out hg =>
    have d := inv z
    have hsend := d.xi.gather d.si sel pre post sack e out hg
    obtain ⟨popped, left, _, _, hp, _, _, rfl, _⟩ := gather_cases hg
    obtain ⟨a1, a2, a3, a4, a5, a6, a7, _⟩ := gatherEp_fields (s.ep z) popped left
    obtain ⟨i1, i2⟩ := gatherEp_inv _ sel popped left hp d.si d.wi
    exact inv.update z _ out i1 i2 (d.ri.irrelevant a1 a2 a3 a4 a5) hsend
      ((inv.xiTo z).recvSame a6 a7 a3 a2 (a5 ▸ ObjsRel.refl ReaderSame.refl _))
  | delivered x p hmem =>
    -- the endpoint !x handles a packet of x's history
    have d := inv x
    have d' := inv (!x)
    obtain ⟨i1, i2⟩ := handle_inv (s.ep (!x)) p d'.si d'.wi
    obtain ⟨i3, hrecv⟩ := handle_recv d.si d.wi d.ri d.xi d'.ri p (d.xi.hist p hmem)
    exact inv.updateEp (!x) _ i1 i2 i3 (handle_xinv_send d'.xi p) (by simpa using hrecv)

theorem run_inv_of (s : Sys) (ops : List Op) (h : SysInv s) : SysInv (s.run ops) :=
  ListAux.foldl_inv (P := SysInv) ops h fun s op _ h => (step_cases s op).inv h

theorem run_inv (il : Bool) (tsnA tsnB : Nat) (ha : 0 < tsnA) (hb : 0 < tsnB) (ops : List Op) :
    SysInv ((Sys.init il tsnA tsnB).run ops) :=
  run_inv_of _ ops (init_inv il tsnA tsnB ha hb)

theorem bool_not_eq {x z : Bool} (h : ¬ x = z) : x = !z := by cases x <;> cases z <;> simp_all

/-- endpoint `z` moved to `e'`, the other endpoint is as it was; ghost taint / incarnation counters possibly changed too -/
theorem GInv.of (s s' : Sys) (z : Bool) (e' : Ep) (t : List Nat) (gn : Nat → Nat) (hz : s'.ep z = e') (ho : s'.ep (!z) = s.ep (!z))
    (ht : s'.taint = t) (hg : s'.gen = gn) (h1 : GDir e' (s.ep (!z)) t gn) (h2 : GDir (s.ep (!z)) e' t gn) : GInv s' := by
  intro x
  rw [ht, hg]
  by_cases hx : x = z
  · subst hx; rw [hz, ho]; exact h1
  · have := bool_not_eq hx
    subst this
    rw [ho, Bool.not_not, hz]; exact h2

theorem GInv.update {s : Sys} (z : Bool) (e' : Ep) (t : List Nat) (gn : Nat → Nat)
    (h1 : GDir e' (s.ep (!z)) t gn) (h2 : GDir (s.ep (!z)) e' t gn) :
    GInv { s.setEp z e' with taint := t, gen := gn } :=
  GInv.of s _ z e' t gn (by cases z <;> rfl) (by cases z <;> rfl) rfl rfl h1 h2

theorem GInv.updateEp {s : Sys} (z : Bool) (e' : Ep)
    (h1 : GDir e' (s.ep (!z)) s.taint s.gen) (h2 : GDir (s.ep (!z)) e' s.taint s.gen) : GInv (s.setEp z e') :=
  GInv.of s _ z e' s.taint s.gen (by simp) (by simp) (by cases z <;> rfl) (by cases z <;> rfl) h1 h2

/-- the bookkeeping of the peer of `z` -/
theorem GInv.to {s : Sys} (g : GInv s) (z : Bool) : GDir (s.ep (!z)) (s.ep z) s.taint s.gen := by
  simpa using g (!z)

theorem GInv.same {s : Sys} (g : GInv s) (z : Bool) (e' : Ep) (f : AppSame (s.ep z) e') : GInv (s.setEp z e') := by
  apply GInv.updateEp
  · exact (g z).monoL f.objs f.reg (fun _ hr => f.reqLog ▸ hr) (fun _ hr => f.perf ▸ hr)
  · refine (g.to z).monoR (fun _ hr => f.perf ▸ hr) ?_ (fun _ hr => f.reqLog ▸ hr) (fun _ hc => Or.inl (f.sent ▸ hc))
    intro hw w hwo
    obtain ⟨w', hw', r⟩ := f.objs.2 hw w hwo
    exact ⟨w', hw', r.sid, r.gen⟩

/-- the two invariants of a state, seen from the direction in which `x` sends -/
theorem hctx_from {s : Sys} (inv : SysInv s) (g : GInv s) (x : Bool) : HCtx (s.ep x) (s.ep (!x)) (s.hist x) s.taint s.gen :=
  ⟨(inv x).si, (inv x).wi, (inv x).xi, (inv (!x)).ri, g.to x, g x⟩

/-- … and from the direction in which `x` receives -/
theorem hctx_to {s : Sys} (inv : SysInv s) (g : GInv s) (x : Bool) : HCtx (s.ep (!x)) (s.ep x) (s.hist (!x)) s.taint s.gen := by
  simpa using hctx_from inv g (!x)

theorem Sys.Step.ginv {s s' : Sys} (st : Sys.Step s s') (inv : SysInv s) (g : GInv s) : GInv s' := by
  cases st with
  | same => exact g
  | «local» z e' l => exact g.same z e' l.app
  | reopened z sid hl hq =>
    -- both directions were reset: a new incarnation
    have hq2 : sideQuiet (s.ep z) (s.ep (!z)) sid = true ∧ sideQuiet (s.ep (!z)) (s.ep z) sid = true := by
      unfold Sys.quiet at hq
      simp only [Bool.and_eq_true] at hq
      cases z
      · exact ⟨hq.1, hq.2⟩
      · exact ⟨hq.2, hq.1⟩
    obtain ⟨_, deadA⟩ := sideQuiet_dead _ _ sid (inv z).si hq2.1
    obtain ⟨hnB, deadB⟩ := sideQuiet_dead _ _ sid (inv (!z)).si hq2.2
    obtain ⟨r1, r2⟩ := GDir.openQuiet (A' := addObjEp (s.ep z) sid (s.gen sid + 1)) (g z) (g.to z) (inv z).ri sid hl hnB deadA deadB
      rfl rfl rfl rfl rfl
    exact GInv.of s _ z _ _ _ (by cases z <;> rfl) (by cases z <;> rfl) (by cases z <;> rfl) (by cases z <;> rfl) r1 r2
  | tainted z sid hl =>
    -- re-opened too early: the identifier is no longer judged
    refine GInv.of s _ z (addObjEp (s.ep z) sid (s.gen sid + 1)) (sid :: s.taint) s.gen (by cases z <;> rfl) (by cases z <;> rfl)
      (by cases z <;> rfl) (by cases z <;> rfl) ?_ ?_
    · exact ((g z).taintMore sid).addObj (A' := addObjEp (s.ep z) sid (s.gen sid + 1)) (inv z).ri sid (s.gen sid + 1)
        (fun h => absurd List.mem_cons_self h) rfl rfl rfl rfl
    · exact ((g.to z).taintMore sid).peerAddObj (B' := addObjEp (s.ep z) sid (s.gen sid + 1)) _ rfl rfl rfl rfl
  | gathered z sel pre post sack e out hg =>
    obtain ⟨popped, left, _, _, hp, _, _, rfl, _⟩ := gather_cases hg
    obtain ⟨r1, r2⟩ := (g z).gather (g.to z) (inv z).si hp
    exact GInv.of s _ z (gatherEp (s.ep z) popped left) s.taint s.gen (by cases z <;> rfl) (by cases z <;> rfl) (by cases z <;> rfl)
      (by cases z <;> rfl) r1 r2
  | delivered x p hmem =>
    have ctx' := (hctx_from inv g x).handle p ((inv x).xi.hist p hmem)
    apply GInv.updateEp
    · simp only [Bool.not_not]; exact ctx'.gR
    · simp only [Bool.not_not]; exact ctx'.gS

theorem init_ginv (il : Bool) (tsnA tsnB : Nat) : GInv (Sys.init il tsnA tsnB) := by
  intro x
  have : ∀ A B : Ep, A.objs = [] → GDir A B [] (fun _ => 0) := by
    intro A B h
    refine ⟨?_, ?_, ?_, ?_, ?_, ?_⟩ <;> (rw [h]; intros; simp_all)
  cases x <;> exact this _ _ rfl

theorem run_all_of (s : Sys) (ops : List Op) (h : SysInv s) (g : GInv s) : SysInv (s.run ops) ∧ GInv (s.run ops) :=
  ListAux.foldl_inv (P := fun s => SysInv s ∧ GInv s) ops ⟨h, g⟩ fun s op _ h => ⟨(step_cases s op).inv h.1, (step_cases s op).ginv h.1 h.2⟩

/-- every reachable state satisfies the system invariant and the incarnation bookkeeping -/
theorem run_all (il : Bool) (tsnA tsnB : Nat) (ha : 0 < tsnA) (hb : 0 < tsnB) (ops : List Op) :
    SysInv ((Sys.init il tsnA tsnB).run ops) ∧ GInv ((Sys.init il tsnA tsnB).run ops) :=
  run_all_of _ ops (init_inv il tsnA tsnB ha hb) (init_ginv il tsnA tsnB)

end Rs
