import SctpVerif.Proofs.Reset.Final
import SctpVerif.Proofs.Reset.Schedule
/-!
Evaluation lemmas for the reset handshake (request, perform, response, EOF) on endpoints of which only some fields
are known, and the explicit schedule "write, close, both resets complete, re-open, write" for every message count.
-/
namespace Rs

theorem mayPop_marker (il : Bool) (s h : Nat) : mayPop il [Item.marker s h] 0 = true := by
  unfold mayPop
  cases il <;> simp [Item.isUnord]

/-- the write loop pops the end-of-stream marker (nothing else is pending, no timer has fired) and sends the request -/
theorem gather_marker_eq (e : Ep) (sid h : Nat) (hp : e.pend = [Item.marker sid h]) (hwr : e.wr = false) :
    gather e [0] [] [] false = some ({ e with pend := [], ctl := [], wr := false, nextRSN := e.nextRSN + 1, reconfigs := e.reconfigs ++ [(e.nextRSN, e.nextTSN - 1, [sid])], reqLog := e.reqLog ++ [{ rsn := e.nextRSN, last := e.nextTSN - 1, sids := [sid], wobjs := [h] }] }, e.ctl ++ [Msg.req e.nextRSN (e.nextTSN - 1) [sid]]) := by
  have hpop : popSel e.il e.pend [0] = some ([Item.marker sid h], []) := by
    rw [hp]; simp [popSel, mayPop_marker]
  unfold gather
  rw [hpop]
  simp [assign, mkDatas, gatherEp, gatherOut, hwr, newReqRec]

/-- the write loop with nothing pending: only the control queue goes out -/
theorem gather_idle_eq (e : Ep) (hwr : e.wr = false) :
    gather e [] [] [] false = some ({ e with ctl := [] }, e.ctl) := by
  unfold gather
  simp only [popSel, mkDatas]
  simp only [gatherEp, gatherOut, assign, List.isEmpty_nil, ↓reduceIte, hwr, Bool.false_eq_true, List.append_nil]

/-- a fresh request for one registered identifier whose last TSN has been reached is performed at once -/
theorem handleReq_perform_eq (e : Ep) (rsn last sid h : Nat) (o : Obj) (hnp : rsn ∉ e.perf) (hle : last ≤ e.cum)
    (hl : lookup sid e.reg = some h) (ho : e.objs[h]? = some o) (hrr : e.rreqs = []) :
    handleReq e rsn last [sid] = ({ e with objs := e.objs.set h (inboundReset o), reg := erase sid e.reg, perf := rsn :: e.perf }, [Msg.resp rsn Gen.reconfigResultSuccessPerformed]) := by
  unfold handleReq
  have h1 : e.perf.contains rsn = false := by simpa using hnp
  have h2 : ¬ (e.cum < last) := by omega
  simp only [h1, Bool.false_eq_true, ↓reduceIte, h2, decide_false, Bool.false_and]
  unfold resetStreamsIfAny
  simp only [hle, ↓reduceIte, List.foldl_cons, List.foldl_nil]
  unfold resetOne
  simp only [hl, ho, hrr, insert, erase, List.filter_nil, List.filter_cons, bne_self_eq_false, Bool.false_eq_true, ↓reduceIte]

/-- the reader finds nothing queued and the stream reset: EOF -/
theorem read_eof_eq (e : Ep) (h : Nat) (o : Obj) (ho : e.objs[h]? = some o) (hord : o.ord = []) (hun : o.unord = []) (hre : o.readErr = true) :
    (read e h).1 = { e with objs := e.objs.set h { o with eofSeen := true } } := by
  rw [read_obj ho, readObj]
  simp [hord, hun, drain, hre]

/-- the response to my request arrives while the object it closed is still registered and not open: counters rewound -/
theorem handleResp_eq (e : Ep) (rsn last sid h : Nat) (o : Obj) (hrc : e.reconfigs = [(rsn, last, [sid])])
    (hl : lookup sid e.reg = some h) (ho : e.objs[h]? = some o) (hclosed : o.state ≠ Gen.StreamStateOpen) :
    handleResp e rsn Gen.reconfigResultSuccessPerformed = { e with objs := e.objs.set h (zeroCounters o), reconfigs := [] } := by
  unfold handleResp
  have : (Gen.reconfigResultSuccessPerformed == Gen.reconfigResultInProgress) = false := by decide
  simp only [this, Bool.false_eq_true, ↓reduceIte, beq_self_eq_true, hrc, lookup_cons, List.foldl_cons, List.foldl_nil]
  unfold rewindOne
  have hc : (o.state != Gen.StreamStateOpen) = true := by simpa using hclosed
  simp [hl, ho, hc, erase, hrc]

/-- … or after the stream has left the table: only the request is forgotten -/
theorem handleResp_unreg_eq (e : Ep) (rsn last sid : Nat) (hrc : e.reconfigs = [(rsn, last, [sid])]) (hl : lookup sid e.reg = none) :
    handleResp e rsn Gen.reconfigResultSuccessPerformed = { e with reconfigs := [] } := by
  unfold handleResp
  have : (Gen.reconfigResultSuccessPerformed == Gen.reconfigResultInProgress) = false := by decide
  simp only [this, Bool.false_eq_true, ↓reduceIte, beq_self_eq_true, hrc, lookup_cons, List.foldl_cons, List.foldl_nil]
  unfold rewindOne
  simp [hl, erase, hrc]

theorem step_close_a (s : Sys) (h : Nat) : s.step (.close false h) = { s with a := (close s.a h).1 } := rfl
theorem step_close_b (s : Sys) (h : Nat) : s.step (.close true h) = { s with b := (close s.b h).1 } := rfl
theorem step_read_a (s : Sys) (h : Nat) : s.step (.read false h) = { s with a := (read s.a h).1 } := rfl
theorem step_gather_b (s : Sys) (sel : List Nat) (pre post : List (List Nat)) (sack : Bool) (e : Ep) (out : List Msg)
    (hg : gather s.b sel pre post sack = some (e, out)) : s.step (.gather true sel pre post sack) = { s with b := e, hb := s.hb ++ out } := by
  simp only [Sys.step, Sys.ep, ↓reduceIte, hg, Sys.put]

theorem step_deliver_b (s : Sys) (i : Nat) (p : Msg) (hp : s.hb[i]? = some p) : s.step (.deliver true i) = { s with a := handle s.a p } := by
  simp only [Sys.step, Sys.hist, ↓reduceIte, hp, Bool.not_true, Sys.ep, Sys.setEp, Bool.false_eq_true]

theorem handle_req_eq (e : Ep) (rsn last : Nat) (sids : List Nat) (e' : Ep) (out : List Msg) (h : handleReq e rsn last sids = (e', out)) :
    handle e (Msg.req rsn last sids) = { e' with ctl := e'.ctl ++ out } := by
  simp [handle, h]

/-- the eleven operations that close stream 1 from both ends, A first -/
def resetOps (hA hB la lb : Nat) : List Op :=
  [.close false hA, .gather false [0] [] [] false, .deliver false la, .read true hB, .close true hB, .gather true [0] [] [] false,
   .deliver true lb, .deliver true (lb + 1), .read false hA, .gather false [] [] [] false, .deliver false (la + 1)]

theorem lookup_single (k v : Nat) : lookup k [(k, v)] = some v := by simp [lookup]

/-- Both applications close stream 1, A first; every packet arrives. Afterwards the identifier is in neither stream table,
both objects are closed, have been reset and their readers have seen EOF, nothing is pending or outstanding. -/
theorem handshake (s : Sys) (hA hB : Nat) (wo ro : Obj)
    (a1 : s.a.objs[hA]? = some wo) (a2 : wo.state = Gen.StreamStateOpen) (a3 : wo.sid = 1) (a4 : wo.readErr = false) (a5 : wo.ord = [])
    (a6 : wo.unord = []) (a7 : s.a.pend = []) (a8 : s.a.ctl = []) (a9 : s.a.wr = false) (a10 : s.a.reconfigs = [])
    (a11 : s.a.reg = [(1, hA)]) (a12 : s.a.rreqs = []) (a13 : s.b.nextRSN ∉ s.a.perf) (a14 : s.b.nextTSN - 1 ≤ s.a.cum)
    (b1 : s.b.objs[hB]? = some ro) (b2 : ro.state = Gen.StreamStateOpen) (b3 : ro.sid = 1) (_b4 : ro.readErr = false) (b5 : ro.ord = [])
    (b6 : ro.unord = []) (b7 : s.b.pend = []) (b8 : s.b.ctl = []) (b9 : s.b.wr = false) (b10 : s.b.reconfigs = [])
    (b11 : s.b.reg = [(1, hB)]) (b12 : s.b.rreqs = []) (b13 : s.a.nextRSN ∉ s.b.perf) (b14 : s.a.nextTSN - 1 ≤ s.b.cum) :
    s.run (resetOps hA hB s.ha.length s.hb.length) =
      { s with
        a := { s.a with objs := s.a.objs.set hA { wo with state := Gen.StreamStateClosed, ssn := 0, omid := 0, umid := 0, readErr := true, eofSeen := true },
                        reg := [], perf := s.b.nextRSN :: s.a.perf, nextRSN := s.a.nextRSN + 1,
                        reqLog := s.a.reqLog ++ [{ rsn := s.a.nextRSN, last := s.a.nextTSN - 1, sids := [1], wobjs := [hA] }] },
        b := { s.b with objs := s.b.objs.set hB { ro with state := Gen.StreamStateClosed, readErr := true, eofSeen := true },
                        reg := [], perf := s.a.nextRSN :: s.b.perf, nextRSN := s.b.nextRSN + 1,
                        reqLog := s.b.reqLog ++ [{ rsn := s.b.nextRSN, last := s.b.nextTSN - 1, sids := [1], wobjs := [hB] }] },
        ha := s.ha ++ [Msg.req s.a.nextRSN (s.a.nextTSN - 1) [1], Msg.resp s.b.nextRSN Gen.reconfigResultSuccessPerformed],
        hb := s.hb ++ [Msg.resp s.a.nextRSN Gen.reconfigResultSuccessPerformed, Msg.req s.b.nextRSN (s.b.nextTSN - 1) [1]] } := by
  have hltA := ListAux.lt_of_getElem? a1
  have hltB := ListAux.lt_of_getElem? b1
  simp only [resetOps, Sys.run, List.foldl_cons, List.foldl_nil]
  rw [step_close_a, close_open a1 a2, closedEp]
  rw [step_gather_a _ _ _ _ _ _ _ (gather_marker_eq _ 1 hA ?p ?w)]
  case p => simp [a7, a3]
  case w => exact a9
  dsimp only
  rw [step_deliver_a _ s.ha.length (Msg.req s.a.nextRSN (s.a.nextTSN - 1) [1]) (by simp [a8]),
    handle_req_eq _ _ _ _ _ _ (handleReq_perform_eq s.b s.a.nextRSN (s.a.nextTSN - 1) 1 hB ro b13 b14 (by rw [b11]; exact lookup_single 1 hB) b1 b12)]
  dsimp only
  rw [step_read_b, read_eof_eq _ hB (inboundReset ro) (by simp [hltB]) b5 b6 rfl]
  dsimp only
  rw [step_close_b, close_open (o := { inboundReset ro with eofSeen := true }) (by simp [hltB]) (by simp [inboundReset, b2]; decide), closedEp]
  simp only [List.set_set]
  rw [step_gather_b _ _ _ _ _ _ _ (gather_marker_eq _ 1 hB ?p ?w)]
  case p => simp [b7, inboundReset, b3]
  case w => exact b9
  dsimp only
  rw [step_deliver_b _ s.hb.length (Msg.resp s.a.nextRSN Gen.reconfigResultSuccessPerformed) (by simp [b8])]
  dsimp only [handle]
  rw [handleResp_eq _ s.a.nextRSN (s.a.nextTSN - 1) 1 hA { wo with state := if wo.readErr then Gen.StreamStateClosed else Gen.StreamStateClosing }
    (by simp [a10]) (by simp [a11, lookup]) (by simp [hltA]) (by simp [a4]; decide)]
  simp only [List.set_set]
  rw [step_deliver_b _ (s.hb.length + 1) (Msg.req s.b.nextRSN (s.b.nextTSN - 1) [1]) (by simp [b8])]
  dsimp only
  rw [handle_req_eq _ _ _ _ _ _ (handleReq_perform_eq _ s.b.nextRSN (s.b.nextTSN - 1) 1 hA
    (zeroCounters { wo with state := if wo.readErr then Gen.StreamStateClosed else Gen.StreamStateClosing }) (by exact a13) (by exact a14)
    (by simp [a11, lookup]) (by simp [hltA]) (by exact a12))]
  simp only [List.set_set]
  rw [step_read_a, read_eof_eq _ hA
    (inboundReset (zeroCounters { wo with state := if wo.readErr then Gen.StreamStateClosed else Gen.StreamStateClosing })) (by simp [hltA]) a5 a6 rfl]
  simp only [List.set_set]
  rw [step_gather_a _ _ _ _ _ _ _ (gather_idle_eq _ rfl)]
  dsimp only
  rw [step_deliver_a _ (s.ha.length + 1) (Msg.resp s.b.nextRSN Gen.reconfigResultSuccessPerformed) (by simp [a8])]
  dsimp only [handle]
  rw [handleResp_unreg_eq _ s.b.nextRSN (s.b.nextTSN - 1) 1 (by simp [b10]) (by simp [b11, erase, lookup])]
  simp [inboundReset, zeroCounters, erase, a3, a4, a7, a8, a9, a10, a11, b2, b3, b7, b8, b9, b10, b11]

/-- A opens stream 1 and sends `v1 :: ms1` one message at a time (write, write loop, delivery, read); both applications
close (A first), every RE-CONFIG packet arrives; A opens stream 1 again and sends `v2 :: ms2` the same way. -/
def scheduleOps (tsnA : Nat) (v1 : Nat) (ms1 : List Nat) (v2 : Nat) (ms2 : List Nat) : List Op :=
  [.openS false 1] ++ transferOps 0 0 tsnA 0 (v1 :: ms1) ++ resetOps 0 0 (ms1.length + 1) 0 ++ [.openS false 1] ++
    transferOps 1 1 (tsnA + (ms1.length + 1)) (ms1.length + 1 + 2) (v2 :: ms2)

theorem reopen_schedule (il : Bool) (tsnA tsnB : Nat) (ha : 0 < tsnA) (v1 : Nat) (ms1 : List Nat) (v2 : Nat) (ms2 : List Nat) :
    ∃ (o1 o2 w2 : Obj), (((Sys.init il tsnA tsnB).run (scheduleOps tsnA v1 ms1 v2 ms2)).ep true).objs = [o1, o2] ∧
      o1.eofSeen = true ∧ o1.got = (v1 :: ms1).map (fun m => (m, false)) ∧
      o2.got = (v2 :: ms2).map (fun m => (m, false)) ∧ o2.gen = 2 ∧ o2.readErr = false ∧ o2.nextSeq = ms2.length + 1 ∧
      (((Sys.init il tsnA tsnB).run (scheduleOps tsnA v1 ms1 v2 ms2)).ep false).objs[1]? = some w2 ∧
      w2.wrote = (v2 :: ms2).map (fun m => (m, false)) ∧ w2.gen = 2 ∧
      ((Sys.init il tsnA tsnB).run (scheduleOps tsnA v1 ms1 v2 ms2)).taint = [] := by
  obtain ⟨s1, hs1⟩ : ∃ x : Sys, x = (Sys.init il tsnA tsnB).step (.openS false 1) := ⟨_, rfl⟩
  have e1 : s1 = { a := { il := il, nextTSN := tsnA, nextRSN := tsnA, cum := tsnB - 1, objs := [{ sid := 1, gen := 1 }], reg := [(1, 0)] },
                   b := { il := il, nextTSN := tsnB, nextRSN := tsnB, cum := tsnA - 1 }, gen := fun i => if i = 1 then 1 else 0 } := by
    rw [hs1]; rfl
  obtain ⟨woN, roN, cs, pk, hrun2, p1, p2, p3, p4, p5, p6, p7, q1, q2, q3, q4, q5, q6, q7, q8, q9, r1, r2, r3, _⟩ :=
    transfer 0 1 v1 ms1 s1 { sid := 1, gen := 1 } (by rw [e1]; rfl) rfl rfl rfl (by rw [e1]; cases il <;> rfl) (by rw [e1]) (by rw [e1])
      (by rw [e1]) (by rw [e1]; show (8 : Nat) ≤ 1200; decide) (by rw [e1]; intro c hc; cases hc) (by rw [e1]) (by rw [e1]) (by rw [e1]; simp only; omega)
      (by rw [e1]; show (1 : Nat) ≤ 8448; decide) (by rw [e1]) (by rw [e1]; show (0 : Nat) < 1048576; decide) (by rw [e1]; show (0 : Nat) < Gen.acceptChSize; decide)
  obtain ⟨s2, hs2⟩ : ∃ x : Sys, x = s1.run (transferOps 0 s1.b.objs.length s1.a.nextTSN s1.ha.length (v1 :: ms1)) := ⟨_, rfl⟩
  rw [← hs2] at hrun2
  have hB0 : s1.b.objs.length = 0 := by rw [e1]; rfl
  have hT0 : s1.a.nextTSN = tsnA := by rw [e1]
  have hH0 : s1.ha.length = 0 := by rw [e1]; rfl
  rw [hB0, hT0, hH0] at hs2
  have hk := handshake s2 0 0 woN roN (by rw [hrun2, e1]; rfl) p3 p4 r1 r2 r3 (by rw [hrun2, e1]) (by rw [hrun2, e1]) (by rw [hrun2, e1])
    (by rw [hrun2, e1]) (by rw [hrun2, e1]) (by rw [hrun2, e1]) (by rw [hrun2, e1]; simp) (by rw [hrun2, e1]; simp)
    (by rw [hrun2, e1]; rfl) q9 q5 q4 q1 q2 (by rw [hrun2, e1]) (by rw [hrun2, e1]) (by rw [hrun2, e1]) (by rw [hrun2, e1])
    (by rw [hrun2, hB0]) (by rw [hrun2, e1]) (by rw [hrun2, e1]; simp) (by rw [hrun2, e1]; simp only; omega)
  have hl2 : s2.ha.length = ms1.length + 1 := by rw [hrun2, e1]; simp [p1]
  have hl2b : s2.hb.length = 0 := by rw [hrun2, e1]; rfl
  rw [hl2, hl2b] at hk
  obtain ⟨s3, hs3⟩ : ∃ x : Sys, x = s2.run (resetOps 0 0 (ms1.length + 1) 0) := ⟨_, rfl⟩
  rw [← hs3] at hk
  obtain ⟨woF, hwoF⟩ : ∃ x : Obj, x = { woN with state := Gen.StreamStateClosed, ssn := 0, omid := 0, umid := 0, readErr := true, eofSeen := true } := ⟨_, rfl⟩
  obtain ⟨roF, hroF⟩ : ∃ x : Obj, x = { roN with state := Gen.StreamStateClosed, readErr := true, eofSeen := true } := ⟨_, rfl⟩
  have a3objs : s3.a.objs = [woF] := by rw [hk, hrun2, e1, hwoF]; rfl
  have b3objs : s3.b.objs = [roF] := by rw [hk, hrun2, e1, hroF]; rfl
  have a3reg : s3.a.reg = [] := by rw [hk]
  have b3reg : s3.b.reg = [] := by rw [hk]
  have a3pend : s3.a.pend = [] := by rw [hk, hrun2, e1]
  have b3pend : s3.b.pend = [] := by rw [hk, hrun2, e1]
  have a3log : s3.a.reqLog = [{ rsn := tsnA, last := tsnA + (ms1.length + 1) - 1, sids := [1], wobjs := [0] }] := by rw [hk, hrun2, e1]; rfl
  have b3log : s3.b.reqLog = [{ rsn := tsnB, last := tsnB - 1, sids := [1], wobjs := [0] }] := by rw [hk, hrun2, e1]; rfl
  have a3perf : s3.a.perf = [tsnB] := by rw [hk, hrun2, e1]
  have b3perf : s3.b.perf = [tsnA] := by rw [hk, hrun2, e1]
  have g3 : s3.gen 1 = 1 := by rw [hk, hrun2, e1]; rfl
  have t3 : s3.taint = [] := by rw [hk, hrun2, e1]
  have hquiet : s3.quiet 1 = true := by
    unfold Sys.quiet sideQuiet reqsDone
    rw [a3objs, b3objs, a3reg, b3reg, a3pend, b3pend, a3log, b3log, a3perf, b3perf, hwoF, hroF]
    simp [lookup]
    exact ⟨Or.inr (by decide), Or.inr (by decide)⟩
  -- A opens the identifier again: a new object, the next incarnation
  obtain ⟨s4, hs4⟩ : ∃ x : Sys, x = s3.step (.openS false 1) := ⟨_, rfl⟩
  have e4 : s4 = { s3 with a := addObjEp s3.a 1 2, gen := fun i => if i = 1 then 2 else s3.gen i } := by
    rw [hs4]
    simp only [Sys.step, Sys.ep, Bool.false_eq_true, ↓reduceIte, openStream_none _ _ _ (by rw [a3reg]; rfl : lookup 1 s3.a.reg = none), hquiet, g3,
      Sys.setEp]
  have a3ctl : s3.a.ctl = [] := by rw [hk, hrun2, e1]
  have a3wr : s3.a.wr = false := by rw [hk, hrun2, e1]
  have a3mps : s3.a.mps = 1200 := by rw [hk, hrun2, e1]
  have a3next : s3.a.nextTSN = tsnA + (ms1.length + 1) := by rw [hk, hrun2, e1]
  have a3sent : s3.a.sent = cs := by rw [hk, hrun2, e1]; rfl
  have b3rcv : s3.b.rcv = [] := by rw [hk, hrun2, e1]
  have b3cum : s3.b.cum = tsnA - 1 + (ms1.length + 1) := by rw [hk, hrun2, e1]
  have b3off : s3.b.maxOff = 8448 := by rw [hk, hrun2, e1]
  have b3rr : s3.b.rreqs = [] := by rw [hk, hrun2, e1]
  have b3buf : s3.b.buf = 1048576 := by rw [hk, hrun2, e1]
  have b3acq : s3.b.acq = [0] := by rw [hk, hrun2, e1]; rfl
  have b3cap : s3.b.accCap = Gen.acceptChSize := by rw [hk, hrun2, e1]
  have e4a : s4.a = addObjEp s3.a 1 2 := by rw [e4]
  have e4b : s4.b = s3.b := by rw [e4]
  obtain ⟨w2N, r2N, cs2, pk2, hrun5, p1', p2', p3', p4', p5', p6', p7', q1', q2', q3', q4', q5', q6', q7', q8', q9', _, _, _, _⟩ :=
    transfer 1 2 v2 ms2 s4 { sid := 1, gen := 2 } (by rw [e4a]; simp [addObjEp, a3objs]) rfl rfl rfl
      (by rw [e4a]; cases hil : s3.a.il <;> simp [addObjEp, seqOf, hil])
      (by rw [e4a]; exact a3pend) (by rw [e4a]; exact a3ctl) (by rw [e4a]; exact a3wr)
      (by rw [e4a]; show 8 ≤ s3.a.mps; rw [a3mps]; decide)
      (by
        rw [e4a]
        show ∀ c ∈ s3.a.sent, c.tsn < s3.a.nextTSN
        rw [a3sent, a3next]
        intro c hc
        have := p2 c hc
        rw [hT0] at this
        exact this)
      (by rw [e4b]; exact b3reg) (by rw [e4b]; exact b3rcv)
      (by rw [e4b, e4a]; show s3.b.cum + 1 = s3.a.nextTSN; rw [b3cum, a3next]; omega)
      (by rw [e4b, b3off]; decide) (by rw [e4b]; exact b3rr) (by rw [e4b, b3buf]; decide)
      (by rw [e4b, b3acq, b3cap]; decide)
  have hB4 : s4.b.objs.length = 1 := by rw [e4]; simp [b3objs]
  have hT4 : s4.a.nextTSN = tsnA + (ms1.length + 1) := by rw [e4a]; exact a3next
  have hH4 : s4.ha.length = ms1.length + 1 + 2 := by rw [e4, hk]; simp [hl2]
  rw [hB4, hT4, hH4] at hrun5
  have hall : (Sys.init il tsnA tsnB).run (scheduleOps tsnA v1 ms1 v2 ms2) =
      s4.run (transferOps 1 1 (tsnA + (ms1.length + 1)) (ms1.length + 1 + 2) (v2 :: ms2)) := by
    unfold scheduleOps
    rw [run_append, run_append, run_append, run_append]
    have h1 : (Sys.init il tsnA tsnB).run [Op.openS false 1] = s1 := by rw [hs1]; rfl
    rw [h1, ← hs2, ← hs3]
    have h4 : s3.run [Op.openS false 1] = s4 := by rw [hs4]; rfl
    rw [h4]
  rw [hall, hrun5]
  refine ⟨roF, r2N, w2N, ?_, ?_, ?_, q8', q6', q4', q3', ?_, ?_, p5', ?_⟩
  · simp only [Sys.ep, ↓reduceIte]
    rw [e4]; simp [b3objs]
  · rw [hroF]
  · rw [hroF]; exact q8
  · simp only [Sys.ep, Bool.false_eq_true, ↓reduceIte]
    rw [e4]; simp [addObjEp, a3objs]
  · rw [p7']; simp
  · rw [e4]; exact t3

end Rs
