import SctpVerif.Proofs.Reset.Inv
/-!
Frame facts for the receive half (`handle` and what it is made of): they never touch the pending
queue, the sent log, the request log or the TSN / RSN counters, they keep the writer part of every stream object,
whatever they put into the control queue is a re-configuration response, and `handle` adds no outstanding request and
takes nothing out of a receive queue (`QueueKeeps`). All of it is one relation, `RFrame`, carried once through the
functions `handle` is made of; `handle_frame` is the summary the later files use. (The application calls go through the
relation `Local` of `Basic.lean`.)
-/
namespace Rs

theorem FreshW.transport {o o' : Obj} (hf : FreshW o) (ws : WriterSame o o') : FreshW o' := by
  obtain ⟨a, b, c⟩ := ws.ctr hf.isOpen
  exact ⟨ws.openIff.mpr hf.isOpen, ws.wrote.trans hf.wrote, a.trans hf.ssn, b.trans hf.omid, c.trans hf.umid⟩

theorem ObjsStep.trans {l l' l'' : List Obj} (h1 : ObjsStep l l') (h2 : ObjsStep l' l'') : ObjsStep l l'' := by
  refine ⟨Nat.le_trans h1.len h2.len, ?_, ?_⟩
  · intro h o ho
    obtain ⟨o', ho', w1⟩ := h1.old h o ho
    obtain ⟨o'', ho'', w2⟩ := h2.old h o' ho'
    exact ⟨o'', ho'', w1.trans w2⟩
  · intro h o'' ho'' hl
    rcases h2.back h o'' ho'' with ⟨o', ho', ws⟩ | ⟨_, hf⟩
    · exact (h1.new h o' ho' hl).transport ws
    · exact hf

/-- what is queued stays queued, what was handed out stays handed out -/
structure QueueKeeps (o o' : Obj) : Prop where
  got : o'.got = o.got
  nextSeq : o'.nextSeq = o.nextSeq
  ord : ∀ q ∈ o.ord, q ∈ o'.ord
  unord : ∀ q ∈ o.unord, q ∈ o'.unord
  rx : ∀ c ∈ o.rx, c ∈ o'.rx

theorem QueueKeeps.refl (o : Obj) : QueueKeeps o o := ⟨rfl, rfl, fun _ h => h, fun _ h => h, fun _ h => h⟩

theorem QueueKeeps.trans {a b c : Obj} (h1 : QueueKeeps a b) (h2 : QueueKeeps b c) : QueueKeeps a c :=
  ⟨h2.got.trans h1.got, h2.nextSeq.trans h1.nextSeq, fun q h => h2.ord q (h1.ord q h), fun q h => h2.unord q (h1.unord q h),
   fun q h => h2.rx q (h1.rx q h)⟩

theorem QueueSame.keeps {o o' : Obj} (h : QueueSame o o') : QueueKeeps o o' :=
  ⟨h.got, h.nextSeq, fun q hq => by rw [h.ord]; exact hq, fun q hq => by rw [h.unord]; exact hq, fun q hq => by rw [h.rx]; exact hq⟩

/-- pushing a chunk records it in `rx` and may add an entry to one of the two queues; nothing else of the object changes -/
theorem pushObj_shape (il : Bool) (o : Obj) (c : Chunk) : ∃ ord' unord',
    pushObj il o c = { o with rx := o.rx ++ [c], ord := ord', unord := unord' } ∧ (∀ q ∈ o.ord, q ∈ ord') ∧ ∀ q ∈ o.unord, q ∈ unord' := by
  unfold pushObj
  simp only
  split
  · split
    · exact ⟨_, _, rfl, fun _ h => h, fun _ h => h⟩
    · exact ⟨_, _, rfl, fun _ h => h, fun _ h => List.mem_append_left _ h⟩
  · split
    · exact ⟨_, _, rfl, fun _ h => h, fun _ h => h⟩
    · split
      · exact ⟨_, _, rfl, fun _ h => h, fun _ h => h⟩
      · exact ⟨_, _, rfl, fun q h => (mem_insOrd _ q _).mpr (Or.inr h), fun _ h => h⟩

theorem pushObj_keeps (il : Bool) (o : Obj) (c : Chunk) : QueueKeeps o (pushObj il o c) := by
  obtain ⟨_, _, h, ho, hu⟩ := pushObj_shape il o c
  rw [h]; exact ⟨rfl, rfl, ho, hu, fun _ h => List.mem_append_left _ h⟩

/-- old handles keep their object up to `QueueKeeps` (new handles may appear) -/
def KeepsRel (l l' : List Obj) : Prop := ∀ (h : Nat) (o : Obj), l[h]? = some o → ∃ o', l'[h]? = some o' ∧ QueueKeeps o o'

theorem KeepsRel.refl (l : List Obj) : KeepsRel l l := fun _ o h => ⟨o, h, QueueKeeps.refl o⟩

theorem KeepsRel.trans {a b c : List Obj} (h1 : KeepsRel a b) (h2 : KeepsRel b c) : KeepsRel a c := by
  intro h o ho
  obtain ⟨o', ho', k1⟩ := h1 h o ho
  obtain ⟨o'', ho'', k2⟩ := h2 h o' ho'
  exact ⟨o'', ho'', k1.trans k2⟩

theorem KeepsRel.ofQ {l l' : List Obj} (r : ObjsRel QueueSame l l') : KeepsRel l l' := by
  intro h o ho
  obtain ⟨o', ho', q⟩ := r.2 h o ho
  exact ⟨o', ho', q.keeps⟩

theorem KeepsRel.append (l : List Obj) (o : Obj) : KeepsRel l (l ++ [o]) :=
  fun _ oj hj => ⟨oj, by rw [List.getElem?_append_left (ListAux.lt_of_getElem? hj)]; exact hj, QueueKeeps.refl oj⟩

theorem KeepsRel.set (l : List Obj) (h : Nat) (o o' : Obj) (ho : l[h]? = some o) (k : QueueKeeps o o') : KeepsRel l (l.set h o') := by
  intro j oj hoj
  by_cases hj : j = h
  · subst hj; rw [ho] at hoj; cases hoj
    exact ⟨o', by simp [ListAux.lt_of_getElem? ho], k⟩
  · exact ⟨oj, by rw [List.getElem?_set_ne (Ne.symm hj)]; exact hoj, QueueKeeps.refl oj⟩

theorem RewindRel.keeps {o o' : Obj} (h : RewindRel o o') : QueueKeeps o o' := by
  rcases h with rfl | ⟨_, rfl⟩
  · exact QueueKeeps.refl _
  · exact ⟨rfl, rfl, fun _ h => h, fun _ h => h, fun _ h => h⟩

/-- send-half fields and writer parts untouched, no new outstanding request, nothing taken out of a receive queue -/
structure RFrame (e e' : Ep) : Prop where
  same : SendSame e e'
  objs : ObjsStep e.objs e'.objs
  ctl : e'.ctl = e.ctl
  rc : ∀ r ∈ e'.reconfigs, r ∈ e.reconfigs
  keeps : KeepsRel e.objs e'.objs

theorem RFrame.refl (e : Ep) : RFrame e e := ⟨⟨rfl, rfl, rfl, rfl, rfl, rfl⟩, ObjsStep.refl _, rfl, fun _ h => h, KeepsRel.refl _⟩

theorem SendSame.trans {a b c : Ep} (h1 : SendSame a b) (h2 : SendSame b c) : SendSame a c :=
  ⟨h2.il.trans h1.il, h2.nextTSN.trans h1.nextTSN, h2.nextRSN.trans h1.nextRSN, h2.pend.trans h1.pend,
   h2.sent.trans h1.sent, h2.reqLog.trans h1.reqLog⟩

theorem RFrame.trans {a b c : Ep} (h1 : RFrame a b) (h2 : RFrame b c) : RFrame a c :=
  ⟨h1.same.trans h2.same, h1.objs.trans h2.objs, h2.ctl.trans h1.ctl, fun r h => h1.rc r (h2.rc r h), h1.keeps.trans h2.keeps⟩

theorem inboundReset_writerSame (o : Obj) : WriterSame o (inboundReset o) := by
  refine ⟨rfl, rfl, rfl, ?_, fun _ => ⟨rfl, rfl, rfl⟩⟩
  unfold isOpen inboundReset
  simp only
  split
  · rename_i h
    have h : o.state = Gen.StreamStateClosing := by simpa using h
    rw [h]; decide
  · exact Iff.rfl

theorem zeroCounters_writerSame (o : Obj) (h : ¬ isOpen o) : WriterSame o (zeroCounters o) :=
  ⟨rfl, rfl, rfl, Iff.rfl, fun x => absurd x h⟩

theorem pushObj_writerSame (il : Bool) (o : Obj) (c : Chunk) : WriterSame o (pushObj il o c) := by
  obtain ⟨_, _, h, _⟩ := pushObj_shape il o c
  rw [h]; exact ⟨rfl, rfl, rfl, Iff.rfl, fun _ => ⟨rfl, rfl, rfl⟩⟩

theorem ObjsStep.set (l : List Obj) (h : Nat) (o o' : Obj) (ho : l[h]? = some o) (ws : WriterSame o o') :
    ObjsStep l (l.set h o') :=
  ObjsStep.ofRel (R := WriterSame) (fun _ _ x => x) (ObjsRel.setSame WriterSame.refl l h o o' ho ws)

theorem MaybeReset.writerSame {o o' : Obj} (h : MaybeReset o o') : WriterSame o o' := by
  rcases h with rfl | rfl
  · exact WriterSame.refl _
  · exact inboundReset_writerSame o

theorem foldl_resetOne_frame (sids : List Nat) (e : Ep) : RFrame e (sids.foldl resetOne e) := by
  obtain ⟨l, rg, h, rel⟩ := foldl_resetOne_shape sids e
  rw [h]
  exact ⟨⟨rfl, rfl, rfl, rfl, rfl, rfl⟩, ObjsStep.ofRel (fun _ _ => MaybeReset.writerSame) rel, rfl, fun _ h => h,
    KeepsRel.ofQ (rel.imp (fun _ _ => MaybeReset.queueSame))⟩

theorem resetStreamsIfAny_frame (e : Ep) (rsn last : Nat) (sids : List Nat) :
    RFrame e (resetStreamsIfAny e rsn last sids).1 ∧ ∃ v, (resetStreamsIfAny e rsn last sids).2 = Msg.resp rsn v := by
  unfold resetStreamsIfAny
  split
  · have := foldl_resetOne_frame sids e
    exact ⟨⟨⟨this.same.il, this.same.nextTSN, this.same.nextRSN, this.same.pend, this.same.sent, this.same.reqLog⟩, this.objs, this.ctl, this.rc, this.keeps⟩, _, rfl⟩
  · exact ⟨RFrame.refl e, _, rfl⟩

def AllResp (l : List Msg) : Prop := ∀ p ∈ l, ∃ r v, p = Msg.resp r v

theorem AllResp.append {a b : List Msg} (ha : AllResp a) (hb : AllResp b) : AllResp (a ++ b) := by
  intro p hp
  rcases List.mem_append.mp hp with h | h
  · exact ha p h
  · exact hb p h

theorem recheck_frame (l : List (Nat × Nat × List Nat)) : ∀ e, RFrame e (recheck e l).1 ∧ AllResp (recheck e l).2 := by
  induction l with
  | nil => intro e; exact ⟨RFrame.refl e, fun _ h => by cases h⟩
  | cons r rest ih =>
    intro e
    simp only [recheck]
    obtain ⟨f1, v, hv⟩ := resetStreamsIfAny_frame e r.1 r.2.1 r.2.2
    obtain ⟨f2, a2⟩ := ih (resetStreamsIfAny e r.1 r.2.1 r.2.2).1
    refine ⟨f1.trans f2, ?_⟩
    intro p hp
    rcases List.mem_cons.mp hp with h | h
    · exact ⟨_, _, h.trans hv⟩
    · exact a2 p h

theorem advance_frame (fuel : Nat) : ∀ e, RFrame e (advance fuel e).1 ∧ AllResp (advance fuel e).2 := by
  induction fuel with
  | zero => intro e; exact ⟨RFrame.refl e, fun _ h => by cases h⟩
  | succ n ih =>
    intro e
    simp only [advance]
    split
    · obtain ⟨f1, a1⟩ := recheck_frame ({ e with rcv := e.rcv.filter (· != e.cum + 1), cum := e.cum + 1 } : Ep).rreqs
        { e with rcv := e.rcv.filter (· != e.cum + 1), cum := e.cum + 1 }
      obtain ⟨f2, a2⟩ := ih (recheck { e with rcv := e.rcv.filter (· != e.cum + 1), cum := e.cum + 1 }
        ({ e with rcv := e.rcv.filter (· != e.cum + 1), cum := e.cum + 1 } : Ep).rreqs).1
      have f0 : RFrame e { e with rcv := e.rcv.filter (· != e.cum + 1), cum := e.cum + 1 } :=
        ⟨⟨rfl, rfl, rfl, rfl, rfl, rfl⟩, ObjsStep.refl _, rfl, fun _ h => h, KeepsRel.refl _⟩
      exact ⟨f0.trans (f1.trans f2), a1.append a2⟩
    · exact ⟨RFrame.refl e, fun _ h => by cases h⟩

theorem freshW_new (sid gen : Nat) : FreshW { sid := sid, gen := gen } := ⟨rfl, rfl, rfl, rfl, rfl⟩

theorem Created.frame {e : Ep} {c : Chunk} {e1 : Ep} {h : Nat} (cr : Created e c e1 h) : RFrame e e1 := by
  cases cr with
  | known h hl => exact RFrame.refl e
  | fresh hl hacq => exact ⟨⟨rfl, rfl, rfl, rfl, rfl, rfl⟩, ObjsStep.append _ _ (freshW_new _ _), rfl, fun _ h => h, KeepsRel.append _ _⟩

theorem handleData_frame (e : Ep) (c : Chunk) : RFrame e (handleData e c).1 ∧ AllResp (handleData e c).2 := by
  rcases handleData_cases e c with h | h | ⟨_, e1, j, cr, h | ⟨o, ho, h⟩⟩ <;> rw [h]
  · exact advance_frame _ e
  · exact ⟨RFrame.refl e, fun _ h => by cases h⟩
  · exact ⟨cr.frame.trans ⟨⟨rfl, rfl, rfl, rfl, rfl, rfl⟩, ObjsStep.refl _, rfl, fun _ h => h, KeepsRel.refl _⟩, fun _ h => by cases h⟩
  · have f2 : RFrame e1 { e1 with objs := e1.objs.set j (pushObj e1.il o c), rcv := c.tsn :: e1.rcv } :=
      ⟨⟨rfl, rfl, rfl, rfl, rfl, rfl⟩, ObjsStep.set _ _ _ _ ho (pushObj_writerSame _ _ _), rfl, fun _ h => h,
        KeepsRel.set _ _ _ _ ho (pushObj_keeps _ _ _)⟩
    obtain ⟨f3, a3⟩ := advance_frame (c.tsn :: e1.rcv).length { e1 with objs := e1.objs.set j (pushObj e1.il o c), rcv := c.tsn :: e1.rcv }
    exact ⟨cr.frame.trans (f2.trans f3), a3⟩

theorem handleDatas_frame (cs : List Chunk) : ∀ e, RFrame e (handleDatas e cs).1 ∧ AllResp (handleDatas e cs).2 := by
  induction cs with
  | nil => intro e; exact ⟨RFrame.refl e, fun _ h => by cases h⟩
  | cons c rest ih =>
    intro e
    simp only [handleDatas]
    obtain ⟨f1, a1⟩ := handleData_frame e c
    obtain ⟨f2, a2⟩ := ih (handleData e c).1
    exact ⟨f1.trans f2, a1.append a2⟩

theorem handleReq_frame (e : Ep) (rsn last : Nat) (sids : List Nat) :
    RFrame e (handleReq e rsn last sids).1 ∧ AllResp (handleReq e rsn last sids).2 := by
  rcases handleReq_cases e rsn last sids with ⟨_, h⟩ | ⟨_, _, h⟩ | ⟨_, h⟩ <;> rw [h]
  · exact ⟨RFrame.refl e, fun p h => by simp at h; exact ⟨_, _, h⟩⟩
  · exact ⟨RFrame.refl e, fun _ h => by cases h⟩
  · obtain ⟨f, v, hv⟩ := resetStreamsIfAny_frame { e with rreqs := insert rsn (last, sids) e.rreqs } rsn last sids
    have f0 : RFrame e { e with rreqs := insert rsn (last, sids) e.rreqs } := ⟨⟨rfl, rfl, rfl, rfl, rfl, rfl⟩, ObjsStep.refl _, rfl, fun _ h => h, KeepsRel.refl _⟩
    refine ⟨f0.trans f, ?_⟩
    intro p hp
    simp only [List.mem_singleton] at hp
    exact ⟨_, _, hp.trans hv⟩

theorem RewindRel.writerSame {o o' : Obj} (h : RewindRel o o') : WriterSame o o' := by
  rcases h with rfl | ⟨hc, rfl⟩
  · exact WriterSame.refl _
  · exact zeroCounters_writerSame o hc

theorem handleResp_frame (e : Ep) (rsn result : Nat) : RFrame e (handleResp e rsn result) := by
  obtain ⟨l, rc, h, rel, hrc⟩ := handleResp_shape e rsn result
  rw [h]
  exact ⟨⟨rfl, rfl, rfl, rfl, rfl, rfl⟩, ObjsStep.ofRel (fun _ _ => RewindRel.writerSame) rel, rfl, hrc,
    fun j o ho => by obtain ⟨o', ho', r⟩ := rel.2 j o ho; exact ⟨o', ho', r.keeps⟩⟩

theorem insSorted_mem (m : Msg) (l : List Msg) (p : Msg) : p ∈ insSorted m l ↔ p = m ∨ p ∈ l := by
  induction l with
  | nil => simp [insSorted]
  | cons x rest ih =>
    simp only [insSorted]
    split
    · simp only [List.mem_cons, ih]; exact or_left_comm
    · simp [List.mem_cons]

theorem sortReplies_mem (l : List Msg) (p : Msg) : p ∈ sortReplies l ↔ p ∈ l := by
  unfold sortReplies
  have : ∀ acc, p ∈ l.foldl (fun acc m => insSorted m acc) acc ↔ p ∈ acc ∨ p ∈ l := by
    induction l with
    | nil => intro acc; simp
    | cons x rest ih =>
      intro acc
      simp only [List.foldl_cons, ih, insSorted_mem, List.mem_cons]
      rw [or_comm (a := p = x), or_assoc]
  simpa using this []

/-- one inbound packet: send half untouched, writer parts kept, only responses are queued, no new outstanding request,
nothing taken out of a receive queue -/
theorem handle_frame (e : Ep) (p : Msg) :
    SendSame e (handle e p) ∧ ObjsStep e.objs (handle e p).objs ∧ (∀ q ∈ (handle e p).ctl, q ∈ e.ctl ∨ ∃ r v, q = Msg.resp r v) ∧
    (∀ r ∈ (handle e p).reconfigs, r ∈ e.reconfigs) ∧ KeepsRel e.objs (handle e p).objs := by
  cases p with
  | data cs =>
    obtain ⟨f, a⟩ := handleDatas_frame cs e
    refine ⟨⟨f.same.il, f.same.nextTSN, f.same.nextRSN, f.same.pend, f.same.sent, f.same.reqLog⟩, f.objs, ?_, f.rc, f.keeps⟩
    intro q hq
    simp only [handle] at hq
    rcases List.mem_append.mp hq with h | h
    · left; rw [f.ctl] at h; exact h
    · right; exact a q ((sortReplies_mem _ q).mp h)
  | sack c => exact ⟨⟨rfl, rfl, rfl, rfl, rfl, rfl⟩, ObjsStep.refl _, fun q h => Or.inl h, fun _ h => h, KeepsRel.refl _⟩
  | req rsn last sids =>
    obtain ⟨f, a⟩ := handleReq_frame e rsn last sids
    refine ⟨⟨f.same.il, f.same.nextTSN, f.same.nextRSN, f.same.pend, f.same.sent, f.same.reqLog⟩, f.objs, ?_, f.rc, f.keeps⟩
    intro q hq
    simp only [handle] at hq
    rcases List.mem_append.mp hq with h | h
    · left; rw [f.ctl] at h; exact h
    · right; exact a q h
  | resp rsn result =>
    have f := handleResp_frame e rsn result
    have hh : handle e (Msg.resp rsn result) = handleResp e rsn result := rfl
    rw [hh]
    exact ⟨f.same, f.objs, fun q h => Or.inl (by rw [f.ctl] at h; exact h), f.rc, f.keeps⟩

/-- no inbound packet removes a queued message or alters what was handed to the reader: only `read` consumes -/
theorem handle_keeps (e : Ep) (p : Msg) : KeepsRel e.objs (handle e p).objs := (handle_frame e p).2.2.2.2

end Rs
