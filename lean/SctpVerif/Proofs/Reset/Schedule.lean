import SctpVerif.Proofs.Reset.RecvInv
/-!
Evaluation lemmas: what single operations do on an endpoint of which only some fields are known. Each states its
result as a record update of the fields that really change (a field known to be empty before and after is not
mentioned), so that consecutive steps compose by rewriting. Used to run the explicit schedule "write, close, both
resets complete, re-open, write" for every message count.
-/
namespace Rs

theorem findChunk_new (sent : List Chunk) (c : Chunk) (h : ∀ x ∈ sent, x.tsn < c.tsn) : findChunk (sent ++ [c]) c.tsn = some c := by
  unfold findChunk
  induction sent with
  | nil => simp
  | cons x rest ih =>
    have hx : x.tsn < c.tsn := h x List.mem_cons_self
    have : (x.tsn == c.tsn) = false := by simp; omega
    simp only [List.cons_append, List.find?_cons, this]
    exact ih (fun y hy => h y (List.mem_cons_of_mem _ hy))

/-- the write loop of an otherwise idle endpoint sends the single pending ordered message in a packet of its own -/
theorem gather_one (e : Ep) (d : Data) (hu : d.unord = false) (hp : e.pend = []) (hctl : e.ctl = []) (hwr : e.wr = false)
    (hlt : ∀ c ∈ e.sent, c.tsn < e.nextTSN) :
    gather { e with pend := [Item.data d] } [0] [[e.nextTSN]] [] false =
      some ({ e with sent := e.sent ++ [{ tsn := e.nextTSN, d := d }], nextTSN := e.nextTSN + 1 }, [Msg.data [{ tsn := e.nextTSN, d := d }]]) := by
  have hpop : popSel e.il [Item.data d] [0] = some ([Item.data d], []) := by
    have hm : mayPop e.il [Item.data d] 0 = true := by
      unfold mayPop
      cases e.il <;> simp [Item.isUnord, hu]
    simp [popSel, hm]
  have hfind : findChunk (e.sent ++ [{ tsn := e.nextTSN, d := d }]) e.nextTSN = some { tsn := e.nextTSN, d := d } :=
    findChunk_new e.sent { tsn := e.nextTSN, d := d } hlt
  unfold gather
  simp only [hpop, assign, mkDatas, mkData, findAll, hfind, Option.map_some]
  simp [gatherEp, gatherOut, assign, hp, hctl, hwr]

theorem sum_map_zero {α : Type} (f : α → Nat) (l : List α) (h : ∀ p ∈ l, f p = 0) : (l.map f).sum = 0 := by
  induction l with
  | nil => rfl
  | cons x rest ih =>
    simp only [List.map_cons, List.sum_cons]
    rw [h x List.mem_cons_self, ih (fun p hp => h p (List.mem_cons_of_mem _ hp))]

theorem credit_pos_of_empty (e : Ep) (hb : 0 < e.buf)
    (hq : ∀ p ∈ e.reg, ∀ o, e.objs[p.2]? = some o → o.ord = [] ∧ o.unord = []) : credit e ≠ 0 := by
  unfold credit
  have h0 : ∀ f : Nat × Nat → Nat, (∀ p ∈ e.reg, f p = 0) →
      ¬ ((if (e.reg.map f).sum ≥ e.buf then 0 else e.buf - (e.reg.map f).sum) = 0) := by
    intro f hf
    rw [sum_map_zero f _ hf]
    have : ¬ 0 ≥ e.buf := by omega
    simp only [this, ↓reduceIte]
    omega
  apply h0
  intro p hp
  split
  · rename_i o ho
    obtain ⟨a, b⟩ := hq p hp o ho
    simp [objBytes, a, b]
  · rfl

/-- the next in-order chunk for a registered stream object, nothing held or deferred: the cumulative point moves by one -/
theorem handleData_inorder (e : Ep) (c : Chunk) (h : Nat) (o : Obj) (hrcv : e.rcv = []) (htsn : c.tsn = e.cum + 1) (hoff : 1 ≤ e.maxOff)
    (hl : lookup c.d.sid e.reg = some h) (ho : e.objs[h]? = some o) (hcr : credit e ≠ 0) (hrr : e.rreqs = []) :
    handleData e c = ({ e with objs := e.objs.set h (pushObj e.il o c), cum := e.cum + 1 }, []) := by
  unfold handleData
  have hcan : (!e.rcv.contains c.tsn && decide (e.cum < c.tsn) && decide (c.tsn ≤ e.cum + e.maxOff)) = true := by
    rw [hrcv, htsn]; simp; omega
  simp only [hcan, ↓reduceIte, hl]
  have hcr' : (credit e == 0) = false := by simpa using hcr
  simp only [hcr', Bool.false_eq_true, ↓reduceIte, ho]
  simp only [hrcv, List.length_cons, List.length_nil, Nat.zero_add, advance, htsn]
  simp [recheck, hrr]

/-- a chunk the payload queue accepts, for an identifier that is not in the stream table, is handled as if the object it
creates had been there before -/
theorem handleData_created (e : Ep) (c : Chunk) (hl : lookup c.d.sid e.reg = none) (hacq : e.acq.length < e.accCap)
    (hnew : c.tsn ∉ e.rcv) (hgt : e.cum < c.tsn) (hoff : c.tsn ≤ e.cum + e.maxOff) :
    handleData e c = handleData (createdEp e c.d.sid c.d.gen) c := by
  have hcan : (!e.rcv.contains c.tsn && decide (e.cum < c.tsn) && decide (c.tsn ≤ e.cum + e.maxOff)) = true := by simp [hnew, hgt, hoff]
  have hcan' : (!(createdEp e c.d.sid c.d.gen).rcv.contains c.tsn && decide ((createdEp e c.d.sid c.d.gen).cum < c.tsn) &&
      decide (c.tsn ≤ (createdEp e c.d.sid c.d.gen).cum + (createdEp e c.d.sid c.d.gen).maxOff)) = true := hcan
  have hl' : lookup c.d.sid (createdEp e c.d.sid c.d.gen).reg = some e.objs.length := lookup_insert_self _ _ _
  unfold handleData
  simp only [hcan, hcan', ↓reduceIte, hl, hl', hacq]
  rfl

/-- an ordered chunk with the expected sequence number enters an empty ordered queue -/
theorem pushObj_next (il : Bool) (o : Obj) (c : Chunk) (hu : c.d.unord = false) (hs : c.d.seq = o.nextSeq) (hord : o.ord = []) :
    pushObj il o c = { o with rx := o.rx ++ [c], ord := [{ seq := c.d.seq, msg := c.d.msg, len := c.d.len }] } := by
  unfold pushObj
  simp [hu, hs, hord, insOrd]

/-- reading exactly the one queued ordered message -/
theorem read_one (e : Ep) (h : Nat) (o : Obj) (q : QMsg) (ho : e.objs[h]? = some o) (hun : o.unord = []) (hord : o.ord = [q])
    (hs : q.seq = o.nextSeq) (hre : o.readErr = false) :
    (read e h).1 = { e with objs := e.objs.set h { o with ord := [], nextSeq := o.nextSeq + 1, got := o.got ++ [(q.msg, false)] } } := by
  rw [read_obj ho, readObj]
  simp only [hun, hord, List.length_cons, List.length_nil, Nat.zero_add, Nat.add_zero]
  simp [drain, readOne, hun, hord, hs, hre]

/-! ### one message through the fault-free path: write, send, deliver, read -/

theorem run_append (s : Sys) (l1 l2 : List Op) : s.run (l1 ++ l2) = (s.run l1).run l2 := by
  unfold Sys.run; rw [List.foldl_append]

/-- the chunk that carries message `v` written as the `k`-th ordered message of object `hA` (stream 1) -/
def chunkOf (tsn k v hA gn : Nat) : Chunk :=
  { tsn := tsn, d := { sid := 1, unord := false, seq := k, msg := v, len := 8, wobj := hA, gen := gn } }

theorem step_gather_a (s : Sys) (sel : List Nat) (pre post : List (List Nat)) (sack : Bool) (e : Ep) (out : List Msg)
    (hg : gather s.a sel pre post sack = some (e, out)) : s.step (.gather false sel pre post sack) = { s with a := e, ha := s.ha ++ out } := by
  simp only [Sys.step, Sys.ep, Bool.false_eq_true, ↓reduceIte, hg, Sys.put]

theorem step_deliver_a (s : Sys) (i : Nat) (p : Msg) (hp : s.ha[i]? = some p) : s.step (.deliver false i) = { s with b := handle s.b p } := by
  simp only [Sys.step, Sys.hist, Bool.false_eq_true, ↓reduceIte, hp, Bool.not_false, Sys.ep, Sys.setEp]

/-- A writes one ordered message on its open object and the write loop sends it in a packet of its own -/
theorem send_eq (s : Sys) (hA k v : Nat) (wo : Obj) (hwo : s.a.objs[hA]? = some wo) (hopen : wo.state = Gen.StreamStateOpen)
    (hsid : wo.sid = 1) (hseq : seqOf s.a.il wo false = k) (aPend : s.a.pend = []) (aCtl : s.a.ctl = []) (aWr : s.a.wr = false)
    (aMps : 8 ≤ s.a.mps) (hlt : ∀ c ∈ s.a.sent, c.tsn < s.a.nextTSN) :
    (s.step (.write false hA 8 false v)).step (.gather false [0] [[s.a.nextTSN]] [] false) =
      { s with a := { s.a with objs := s.a.objs.set hA { bump s.a.il wo false with wrote := wo.wrote ++ [(v, false)] }, sent := s.a.sent ++ [chunkOf s.a.nextTSN k v hA wo.gen], nextTSN := s.a.nextTSN + 1 }, ha := s.ha ++ [Msg.data [chunkOf s.a.nextTSN k v hA wo.gen]] } := by
  have hstep : s.step (.write false hA 8 false v) = { s with a := (write s.a hA 8 false v).1 } := rfl
  rw [hstep, write_open 8 false v hwo hopen aMps, wroteEp, aPend, hsid, hseq]
  exact step_gather_a _ _ _ _ _ _ _
    (gather_one { s.a with objs := s.a.objs.set hA { bump s.a.il wo false with wrote := wo.wrote ++ [(v, false)] } }
      (chunkOf s.a.nextTSN k v hA wo.gen).d rfl aPend aCtl aWr hlt)

theorem handle_data_one (e : Ep) (c : Chunk) (e' : Ep) (h : handleData e c = (e', [])) : handle e (Msg.data [c]) = e' := by
  simp [handle, handleDatas, h, sortReplies]

theorem step_read_b (s : Sys) (h : Nat) : s.step (.read true h) = { s with b := (read s.b h).1 } := rfl

/-- B gets the next in-order chunk for its registered object `hB` (queues empty) and its application reads the message -/
theorem recv_next_eq (s : Sys) (idx k v hA gn hB : Nat) (ro : Obj) (hidx : s.ha[idx]? = some (Msg.data [chunkOf (s.b.cum + 1) k v hA gn]))
    (hreg : s.b.reg = [(1, hB)]) (hro : s.b.objs[hB]? = some ro) (hord : ro.ord = []) (hun : ro.unord = []) (hns : ro.nextSeq = k)
    (hre : ro.readErr = false) (hrcv : s.b.rcv = []) (hoff : 1 ≤ s.b.maxOff) (hrr : s.b.rreqs = []) (hbuf : 0 < s.b.buf) :
    (s.step (.deliver false idx)).step (.read true hB) =
      { s with b := { s.b with objs := s.b.objs.set hB { ro with rx := ro.rx ++ [chunkOf (s.b.cum + 1) k v hA gn], nextSeq := k + 1, got := ro.got ++ [(v, false)] }, cum := s.b.cum + 1 } } := by
  have hcr : credit s.b ≠ 0 := by
    refine credit_pos_of_empty s.b hbuf ?_
    intro p hp o ho
    rw [hreg, List.mem_singleton] at hp
    subst hp
    rw [hro] at ho; cases ho
    exact ⟨hord, hun⟩
  have hd := handleData_inorder s.b (chunkOf (s.b.cum + 1) k v hA gn) hB ro hrcv rfl hoff (by rw [hreg]; rfl) hro hcr hrr
  rw [pushObj_next _ _ _ rfl hns.symm hord] at hd
  rw [step_deliver_a s idx _ hidx, handle_data_one _ _ _ hd, step_read_b,
    read_one _ hB { ro with rx := ro.rx ++ [chunkOf (s.b.cum + 1) k v hA gn], ord := [{ seq := k, msg := v, len := 8 }] }
      { seq := k, msg := v, len := 8 } _ hun rfl hns.symm hre]
  · simp [hns, hord, chunkOf]
  · simp [ListAux.lt_of_getElem? hro, chunkOf]

/-- the four operations that carry one message from A's application to B's -/
def block (hA hB v tsn idx : Nat) : List Op :=
  [.write false hA 8 false v, .gather false [0] [[tsn]] [] false, .deliver false idx, .read true hB]

def transferOps (hA hB : Nat) : Nat → Nat → List Nat → List Op
  | _, _, [] => []
  | tsn, idx, v :: rest => block hA hB v tsn idx ++ transferOps hA hB (tsn + 1) (idx + 1) rest

theorem set_self {α : Type} (l : List α) (i : Nat) (a : α) (h : l[i]? = some a) : l.set i a = l := by
  apply List.ext_getElem?
  intro j
  by_cases hj : i = j
  · subst hj; rw [List.getElem?_set_self (ListAux.lt_of_getElem? h), h]
  · rw [List.getElem?_set_ne hj]

theorem seqOf_bump_false (il : Bool) (o : Obj) : seqOf il { bump il o false with wrote := o.wrote ++ [(v, false)] } false = seqOf il o false + 1 := by
  have := seqOf_bump il o false false (by simp [numbered])
  simp only [↓reduceIte] at this
  rw [← this]; rfl

/-- what an ordered write leaves of the stream object -/
theorem written_fields (il : Bool) (wo : Obj) (v : Nat) (w : Obj)
    (hw : w = { bump il wo false with wrote := wo.wrote ++ [(v, false)] }) :
    w.state = wo.state ∧ w.sid = wo.sid ∧ w.gen = wo.gen ∧ seqOf il w false = seqOf il wo false + 1 ∧
    w.wrote = wo.wrote ++ [(v, false)] ∧ w.readErr = wo.readErr ∧ w.ord = wo.ord ∧ w.unord = wo.unord := by
  subst hw
  have r := bump_readerSame il wo false
  exact ⟨bump_state il wo false, (bump_sid il wo false).1, (bump_sid il wo false).2.1, seqOf_bump_false il wo, rfl,
    r.readErr, r.ord, r.unord⟩

/-- B already has its object: every further message goes the same way -/
theorem transfer_next (hA hB gn : Nat) (ms : List Nat) : ∀ (s : Sys) (k : Nat) (wo ro : Obj),
    s.a.objs[hA]? = some wo → wo.state = Gen.StreamStateOpen → wo.sid = 1 → wo.gen = gn → seqOf s.a.il wo false = k →
    s.a.pend = [] → s.a.ctl = [] → s.a.wr = false → 8 ≤ s.a.mps → (∀ c ∈ s.a.sent, c.tsn < s.a.nextTSN) →
    s.b.reg = [(1, hB)] → s.b.objs[hB]? = some ro → ro.ord = [] → ro.unord = [] → ro.nextSeq = k → ro.readErr = false →
    s.b.rcv = [] → s.b.cum + 1 = s.a.nextTSN → 1 ≤ s.b.maxOff → s.b.rreqs = [] → 0 < s.b.buf →
    ∃ (woN roN : Obj) (cs : List Chunk) (pk : List Msg),
      s.run (transferOps hA hB s.a.nextTSN s.ha.length ms) =
        { s with a := { s.a with objs := s.a.objs.set hA woN, sent := s.a.sent ++ cs, nextTSN := s.a.nextTSN + ms.length },
                 b := { s.b with objs := s.b.objs.set hB roN, cum := s.b.cum + ms.length }, ha := s.ha ++ pk } ∧
      pk.length = ms.length ∧ (∀ c ∈ cs, c.tsn < s.a.nextTSN + ms.length) ∧
      woN.state = Gen.StreamStateOpen ∧ woN.sid = 1 ∧ woN.gen = gn ∧ seqOf s.a.il woN false = k + ms.length ∧
      woN.wrote = wo.wrote ++ ms.map (fun m => (m, false)) ∧
      roN.ord = [] ∧ roN.unord = [] ∧ roN.nextSeq = k + ms.length ∧ roN.readErr = false ∧ roN.sid = ro.sid ∧ roN.gen = ro.gen ∧
      roN.eofSeen = ro.eofSeen ∧ roN.got = ro.got ++ ms.map (fun m => (m, false)) ∧ roN.state = ro.state ∧
      woN.readErr = wo.readErr ∧ woN.ord = wo.ord ∧ woN.unord = wo.unord := by
  induction ms with
  | nil =>
    intro s k wo ro h1 h2 h3 h4 h5 h6 h7 h8 h9 h10 h11 h12 h13 h14 h15 h16 h17 h18 h19 h20 h21
    refine ⟨wo, ro, [], [], ?_, rfl, (fun c hc => by cases hc), h2, h3, h4, (by rw [List.length_nil, Nat.add_zero]; exact h5), (by simp), h13, h14, (by rw [List.length_nil, Nat.add_zero]; exact h15), h16, rfl, rfl, rfl, (by simp), rfl, rfl, rfl, rfl⟩
    simp only [transferOps, Sys.run, List.foldl_nil, List.length_nil, Nat.add_zero, List.append_nil]
    rw [set_self _ _ _ h1, set_self _ _ _ h12]
  | cons v rest ih =>
    intro s k wo ro h1 h2 h3 h4 h5 h6 h7 h8 h9 h10 h11 h12 h13 h14 h15 h16 h17 h18 h19 h20 h21
    have e1 := send_eq s hA k v wo h1 h2 h3 h5 h6 h7 h8 h9 h10
    generalize hs1 : (s.step (.write false hA 8 false v)).step (.gather false [0] [[s.a.nextTSN]] [] false) = s1 at e1
    have hidx : s1.ha[s.ha.length]? = some (Msg.data [chunkOf (s1.b.cum + 1) k v hA gn]) := by
      rw [e1]; simp only [List.getElem?_append_right (Nat.le_refl _), Nat.sub_self, List.getElem?_cons_zero, h18, h4]
    have hb1 : s1.b = s.b := by rw [e1]
    have e2 := recv_next_eq s1 s.ha.length k v hA gn hB ro hidx (by rw [hb1]; exact h11) (by rw [hb1]; exact h12) h13 h14 h15 h16
      (by rw [hb1]; exact h17) (by rw [hb1]; exact h19) (by rw [hb1]; exact h20) (by rw [hb1]; exact h21)
    generalize hs2 : (s1.step (.deliver false s.ha.length)).step (.read true hB) = s2 at e2
    have hrun : s.run (transferOps hA hB s.a.nextTSN s.ha.length (v :: rest)) = s2.run (transferOps hA hB (s.a.nextTSN + 1) (s.ha.length + 1) rest) := by
      simp only [transferOps, block, run_append]
      simp only [Sys.run, List.foldl_cons, List.foldl_nil]
      rw [hs1, hs2]
    have hs2eq : s2 = { s with a := { s.a with objs := s.a.objs.set hA { bump s.a.il wo false with wrote := wo.wrote ++ [(v, false)] }, sent := s.a.sent ++ [chunkOf s.a.nextTSN k v hA wo.gen], nextTSN := s.a.nextTSN + 1 }, b := { s.b with objs := s.b.objs.set hB { ro with rx := ro.rx ++ [chunkOf (s.b.cum + 1) k v hA gn], nextSeq := k + 1, got := ro.got ++ [(v, false)] }, cum := s.b.cum + 1 }, ha := s.ha ++ [Msg.data [chunkOf s.a.nextTSN k v hA wo.gen]] } := by
      rw [e2, e1]
    have a2objs : s2.a.objs[hA]? = some { bump s.a.il wo false with wrote := wo.wrote ++ [(v, false)] } := by
      rw [hs2eq]; exact List.getElem?_set_self (ListAux.lt_of_getElem? h1)
    have b2objs : s2.b.objs[hB]? = some { ro with rx := ro.rx ++ [chunkOf (s.b.cum + 1) k v hA gn], nextSeq := k + 1, got := ro.got ++ [(v, false)] } := by
      rw [hs2eq]; exact List.getElem?_set_self (ListAux.lt_of_getElem? h12)
    subst hs2eq
    obtain ⟨w1, w2, w3, w4, w5, hwo1r⟩ := written_fields s.a.il wo v _ rfl
    rw [h2] at w1; rw [h3] at w2; rw [h4] at w3; rw [h5] at w4
    obtain ⟨woN, roN, cs, pk, hrest, p1, p2, p3, p4, p5, p6, p7, q1, q2, q3, q4, q5, q6, q7, q8, q9, r1, r2, r3⟩ :=
      ih _ (k + 1) _ _ a2objs w1 w2 w3 w4 h6 h7 h8 h9
        (by
          intro c hc
          simp only [List.mem_append, List.mem_singleton] at hc
          rcases hc with hc | rfl
          · have := h10 c hc; simp only; omega
          · simp [chunkOf])
        h11 b2objs h13 h14 rfl h16 h17 (by simp only; omega) h19 h20 h21
    simp only [List.length_append, List.length_cons, List.length_nil] at hrest
    refine ⟨woN, roN, chunkOf s.a.nextTSN k v hA wo.gen :: cs, Msg.data [chunkOf s.a.nextTSN k v hA wo.gen] :: pk, ?_, by simp [p1], ?_,
      p3, p4, p5, ?_, ?_, q1, q2, ?_, q4, q5, q6, q7, ?_, q9, r1.trans hwo1r.1, r2.trans hwo1r.2.1, r3.trans hwo1r.2.2⟩
    · rw [hrun, hrest]
      simp only [List.set_set, List.append_assoc, List.singleton_append, List.length_cons, Nat.add_assoc, Nat.add_comm 1]
    · intro c hc
      rcases List.mem_cons.mp hc with rfl | hc
      · simp [chunkOf]
      · have := p2 c hc; simp only [List.length_cons] at this ⊢; omega
    · rw [p6]; simp only [List.length_cons]; omega
    · rw [p7, w5]; simp
    · rw [q3]; simp only [List.length_cons]; omega
    · rw [q8]; simp

/-- a whole incarnation's worth of messages (at least one), starting with B not knowing the stream -/
theorem transfer (hA gn v : Nat) (ms : List Nat) (s : Sys) (wo : Obj)
    (h1 : s.a.objs[hA]? = some wo) (h2 : wo.state = Gen.StreamStateOpen) (h3 : wo.sid = 1) (h4 : wo.gen = gn) (h5 : seqOf s.a.il wo false = 0)
    (h6 : s.a.pend = []) (h7 : s.a.ctl = []) (h8 : s.a.wr = false) (h9 : 8 ≤ s.a.mps) (h10 : ∀ c ∈ s.a.sent, c.tsn < s.a.nextTSN)
    (h11 : s.b.reg = []) (h17 : s.b.rcv = []) (h18 : s.b.cum + 1 = s.a.nextTSN) (h19 : 1 ≤ s.b.maxOff) (h20 : s.b.rreqs = [])
    (h21 : 0 < s.b.buf) (h22 : s.b.acq.length < s.b.accCap) :
    ∃ (woN roN : Obj) (cs : List Chunk) (pk : List Msg),
      s.run (transferOps hA s.b.objs.length s.a.nextTSN s.ha.length (v :: ms)) =
        { s with a := { s.a with objs := s.a.objs.set hA woN, sent := s.a.sent ++ cs, nextTSN := s.a.nextTSN + (ms.length + 1) },
                 b := { s.b with reg := [(1, s.b.objs.length)], objs := s.b.objs ++ [roN], acq := s.b.acq ++ [s.b.objs.length], cum := s.b.cum + (ms.length + 1) },
                 ha := s.ha ++ pk } ∧
      pk.length = ms.length + 1 ∧ (∀ c ∈ cs, c.tsn < s.a.nextTSN + (ms.length + 1)) ∧
      woN.state = Gen.StreamStateOpen ∧ woN.sid = 1 ∧ woN.gen = gn ∧ seqOf s.a.il woN false = ms.length + 1 ∧
      woN.wrote = wo.wrote ++ (v :: ms).map (fun m => (m, false)) ∧
      roN.ord = [] ∧ roN.unord = [] ∧ roN.nextSeq = ms.length + 1 ∧ roN.readErr = false ∧ roN.sid = 1 ∧ roN.gen = gn ∧
      roN.eofSeen = false ∧ roN.got = (v :: ms).map (fun m => (m, false)) ∧ roN.state = Gen.StreamStateOpen ∧
      woN.readErr = wo.readErr ∧ woN.ord = wo.ord ∧ woN.unord = wo.unord ∧ roN.rx.length = roN.rx.length := by
  -- B creates its object when the first chunk arrives, and handles that chunk as if the object had been there: the run is
  -- that of the state in which it is
  have hsame : s.run (transferOps hA s.b.objs.length s.a.nextTSN s.ha.length (v :: ms)) =
      ({ s with b := createdEp s.b 1 gn } : Sys).run (transferOps hA s.b.objs.length s.a.nextTSN s.ha.length (v :: ms)) := by
    have e1 := send_eq s hA 0 v wo h1 h2 h3 h5 h6 h7 h8 h9 h10
    have e1' := send_eq { s with b := createdEp s.b 1 gn } hA 0 v wo h1 h2 h3 h5 h6 h7 h8 h9 h10
    have hd : handle s.b (Msg.data [chunkOf s.a.nextTSN 0 v hA wo.gen]) = handle (createdEp s.b 1 gn) (Msg.data [chunkOf s.a.nextTSN 0 v hA wo.gen]) := by
      have := handleData_created s.b (chunkOf s.a.nextTSN 0 v hA wo.gen) (by rw [h11]; rfl) h22 (by rw [h17]; exact List.not_mem_nil)
        (by simp only [chunkOf]; omega) (by simp only [chunkOf]; omega)
      simp only [handle, handleDatas, this]
      rw [← h4]; rfl
    simp only [transferOps, block, run_append]
    simp only [Sys.run, List.foldl_cons, List.foldl_nil]
    rw [e1, e1', step_deliver_a _ _ _ (List.getElem?_concat_length ..), step_deliver_a _ _ _ (List.getElem?_concat_length ..)]
    dsimp only
    rw [hd]
  obtain ⟨woN, roN, cs, pk, hrun, p1, p2, p3, p4, p5, p6, p7, q1, q2, q3, q4, q5, q6, q7, q8, q9, r1, r2, r3⟩ :=
    transfer_next hA s.b.objs.length gn (v :: ms) { s with b := createdEp s.b 1 gn } 0 wo { sid := 1, gen := gn } h1 h2 h3 h4 h5 h6 h7 h8 h9 h10
      (by simp [createdEp, h11, insert, erase]) (by simp [createdEp]) rfl rfl rfl rfl h17 h18 h19 h20 h21
  refine ⟨woN, roN, cs, pk, ?_, p1, p2, p3, p4, p5, by rw [p6, Nat.zero_add]; rfl, p7, q1, q2, by rw [q3, Nat.zero_add]; rfl, q4, q5, q6, q7,
    by rw [q8]; rfl, q9, r1, r2, r3, rfl⟩
  rw [hsame, hrun]
  simp [createdEp, h11, insert, erase]

end Rs
