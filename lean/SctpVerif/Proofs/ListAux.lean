/-!
Facts about lists that mention no model notion and are used from several directories. Core only.

* The fold kit. The `run` of most models is `List.foldl step`, or a hand recursion with the same two equations
  (`run_eq_foldl`), and most handlers contain `List.foldl` loops. "Every step keeps `P`, so the run keeps `P`" is
  `foldl_inv`; an unchanged view of the state (`foldl_view`) and a reflexive, transitive relation between the state before
  and after (`foldl_rel`) are its two usual instances.
* Entries identified by a key: in a list whose keys are pairwise different an entry is determined by its key
  (`eq_of_key_eq`) and found by it (`find?_key_of_mem`).
* Sums of a measure over a filtered list.
-/
namespace ListAux
variable {σ α β κ : Type _}

/-! ### folds -/

/-- An invariant of every step is an invariant of the fold. The step may use that its element is in the list. -/
theorem foldl_inv {P : σ → Prop} {f : σ → α → σ} (l : List α) {s : σ} (h : P s)
    (hf : ∀ s, ∀ a ∈ l, P s → P (f s a)) : P (l.foldl f s) := by
  induction l generalizing s with
  | nil => exact h
  | cons a l ih => exact ih (hf s a List.mem_cons_self h) fun s b hb => hf s b (List.mem_cons_of_mem a hb)

theorem foldl_view {v : σ → β} {f : σ → α → σ} (h : ∀ s a, v (f s a) = v s) (l : List α) (s : σ) :
    v (l.foldl f s) = v s :=
  foldl_inv (P := fun t => v t = v s) l rfl fun t a _ ht => (h t a).trans ht

theorem foldl_rel {R : σ → σ → Prop} (refl : ∀ s, R s s) (trans : ∀ {a b c}, R a b → R b c → R a c)
    {f : σ → α → σ} (hf : ∀ s a, R s (f s a)) (l : List α) (s : σ) : R s (l.foldl f s) :=
  foldl_inv (P := R s) l (refl s) fun t a _ ht => trans ht (hf t a)

theorem run_eq_foldl {step : σ → α → σ} {run : σ → List α → σ} (hnil : ∀ s, run s [] = s)
    (hcons : ∀ s a l, run s (a :: l) = run (step s a) l) (s : σ) (l : List α) : run s l = l.foldl step s := by
  induction l generalizing s with
  | nil => exact hnil s
  | cons a l ih => rw [hcons, ih, List.foldl_cons]

/-! ### positions -/

theorem lt_of_getElem? {l : List α} {i : Nat} {a : α} (h : l[i]? = some a) : i < l.length :=
  (List.getElem?_eq_some_iff.mp h).1

/-! ### entries identified by a key -/

/-- two members of a `Pairwise R` list that `R` relates in neither order are one entry -/
theorem eq_of_pairwise {R : α → α → Prop} {l : List α} (h : l.Pairwise R) {a b : α} (ha : a ∈ l) (hb : b ∈ l)
    (hab : ¬ R a b) (hba : ¬ R b a) : a = b := by
  induction l with
  | nil => cases ha
  | cons x r ih =>
    rw [List.pairwise_cons] at h
    rcases List.mem_cons.mp ha with rfl | ha' <;> rcases List.mem_cons.mp hb with rfl | hb'
    · rfl
    · exact absurd (h.1 b hb') hab
    · exact absurd (h.1 a ha') hba
    · exact ih h.2 ha' hb'

theorem eq_of_key_eq {f : α → κ} {l : List α} (h : l.Pairwise (fun a b => f a ≠ f b)) {a b : α} (ha : a ∈ l) (hb : b ∈ l)
    (e : f a = f b) : a = b :=
  eq_of_pairwise h ha hb (fun n => n e) (fun n => n e.symm)

theorem find?_key_of_mem [BEq κ] [LawfulBEq κ] {f : α → κ} {l : List α} (h : l.Pairwise (fun a b => f a ≠ f b)) {w : α}
    (hw : w ∈ l) : l.find? (fun a => f a == f w) = some w := by
  induction l with
  | nil => cases hw
  | cons a r ih =>
    rw [List.pairwise_cons] at h
    rcases List.mem_cons.mp hw with rfl | hw'
    · rw [List.find?_cons, beq_self_eq_true]
    · rw [List.find?_cons, beq_false_of_ne (h.1 w hw')]; exact ih h.2 hw'

/-- a map that keeps every key commutes with the lookup by key -/
theorem find?_map_key [BEq κ] (key : α → κ) (g : α → α) (hg : ∀ a, key (g a) = key a) (l : List α) (k : κ) :
    (l.map g).find? (key · == k) = (l.find? (key · == k)).map g := by
  rw [List.find?_map]
  exact congrArg (Option.map g) (congrArg (List.find? · l) (funext fun a => congrArg (· == k) (hg a)))

/-! ### sums over a filtered list -/

theorem sum_map_filter_add (f : α → Nat) (p : α → Bool) (l : List α) :
    ((l.filter p).map f).sum + ((l.filter fun x => !p x).map f).sum = (l.map f).sum := by
  rw [← List.sum_append, ← List.map_append]
  exact ((List.filter_append_perm p l).map f).sum_nat

theorem sum_map_filter_le (f : α → Nat) (p : α → Bool) (l : List α) : ((l.filter p).map f).sum ≤ (l.map f).sum :=
  Nat.le.intro (sum_map_filter_add f p l)

end ListAux
