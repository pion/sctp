import SctpVerif.Model.Shutdown
import SctpVerif.Proofs.ListAux
/-!
What each transition of the shutdown model `Sd` is, case by case, and what it leaves alone: the send half
(`snd`), the receive half (`rcv`), and the fields the control invariant reads (`ctlCore`). A transition built
from others (an inbound packet, a write-loop pass) preserves whatever its building blocks preserve.
-/
namespace Sd

@[simp] theorem close_snd (e : Ep) : (close e).snd = e.snd := rfl
@[simp] theorem close_rcv (e : Ep) : (close e).rcv = e.rcv := rfl
@[simp] theorem close_dead (e : Ep) : (close e).dead = true := rfl
@[simp] theorem close_st (e : Ep) : (close e).st = stClosed := rfl

/-- what `CtlInv` looks at -/
def ctlCore (e : Ep) : Snd × Nat × Bool × Bool × Bool × Nat × Bool × Nat :=
  (e.snd, e.st, e.wSC, e.scp, e.dead, e.sd, e.scr, e.callAt)

theorem core_snd {e e' : Ep} (h : ctlCore e' = ctlCore e) : e'.snd = e.snd := congrArg (·.1) h
theorem core_st {e e' : Ep} (h : ctlCore e' = ctlCore e) : e'.st = e.st := congrArg (·.2.1) h
theorem core_wSC {e e' : Ep} (h : ctlCore e' = ctlCore e) : e'.wSC = e.wSC := congrArg (·.2.2.1) h
theorem core_dead {e e' : Ep} (h : ctlCore e' = ctlCore e) : e'.dead = e.dead := congrArg (·.2.2.2.2.1) h

theorem advance_cases (e : Ep) (s : Nat) : advance e s = e ∨
    (e.hasData = false ∧ s = stShutdownPending ∧ advance e s = { e with wS := true, st := stShutdownSent }) ∨
    (e.hasData = false ∧ s = stShutdownReceived ∧ advance e s = { e with wSA := true, st := stShutdownAckSent }) := by
  unfold advance
  cases hd : e.hasData
  · by_cases h5 : s = stShutdownPending
    · exact Or.inr (Or.inl ⟨rfl, h5, by subst h5; rfl⟩)
    · by_cases h6 : s = stShutdownReceived
      · exact Or.inr (Or.inr ⟨rfl, h6, by subst h6; rfl⟩)
      · left; simp only [Bool.false_eq_true, if_false, beq_iff_eq, h5, h6]
  · exact Or.inl rfl

theorem advance_snd (e : Ep) (s : Nat) : (advance e s).snd = e.snd := by
  rcases advance_cases e s with h | ⟨-, -, h⟩ | ⟨-, -, h⟩ <;> rw [h]
theorem advance_rcv (e : Ep) (s : Nat) : (advance e s).rcv = e.rcv := by
  rcases advance_cases e s with h | ⟨-, -, h⟩ | ⟨-, -, h⟩ <;> rw [h]
theorem advance_dead (e : Ep) (s : Nat) : (advance e s).dead = e.dead := by
  rcases advance_cases e s with h | ⟨-, -, h⟩ | ⟨-, -, h⟩ <;> rw [h]
theorem advance_wSC (e : Ep) (s : Nat) : (advance e s).wSC = e.wSC := by
  rcases advance_cases e s with h | ⟨-, -, h⟩ | ⟨-, -, h⟩ <;> rw [h]

/-- `processAcknowledgement` accepts a cumulative ack only inside the in-flight range -/
theorem ackRange (e : Ep) (c : Nat) (h1 : ¬ c < e.snd.cum)
    (h2 : ¬ ((decide (e.snd.cum < c) && !(e.inflightHas e.snd.cum && e.inflightHas (c - 1))) = true))
    (hle : e.snd.cum ≤ e.snd.sentq.length) : c ≤ e.snd.sentq.length := by
  by_cases hlt : e.snd.cum < c
  · simp only [hlt, decide_true, Ep.inflightHas, Bool.true_and, Bool.not_eq_true', Bool.not_eq_false,
      Bool.and_eq_true, decide_eq_true_eq] at h2
    omega
  · omega

theorem handleData_core (e : Ep) (t m s k : Nat) : ctlCore (handleData e t m s k) = ctlCore e := by
  unfold handleData; split <;> rfl
theorem handleData_dead (e : Ep) (t m s k : Nat) : (handleData e t m s k).dead = e.dead :=
  core_dead (handleData_core e t m s k)

/-- a DATA chunk is refused by the state gate, or goes through `rcvData` -/
theorem handleData_rcv (e : Ep) (t m s k : Nat) :
    (handleData e t m s k).rcv = e.rcv ∨ ∃ can, (handleData e t m s k).rcv = rcvData e.rcv can t m s k := by
  unfold handleData
  split
  · exact Or.inl rfl
  · exact Or.inr ⟨_, rfl⟩

/-- a SACK is ignored, or moves the cumulative ack point to `c` inside the in-flight range and then lets the
shutdown advance (postprocessSack tests `hasData` once more than `advance` does) -/
theorem handleSack_cases (e : Ep) (c : Nat) (g : List (Nat × Nat)) : handleSack e c g = e ∨
    ((e.st = stEstablished ∨ e.st = stShutdownPending ∨ e.st = stShutdownReceived) ∧
      (e.snd.cum ≤ e.snd.sentq.length → c ≤ e.snd.sentq.length) ∧
      handleSack e c g = advance { e with snd := { e.snd with cum := c } } e.st) := by
  unfold handleSack
  by_cases hst : (!(e.st == stEstablished || e.st == stShutdownPending || e.st == stShutdownReceived)) = true
  · rw [if_pos hst]; exact Or.inl rfl
  rw [if_neg hst]
  by_cases h1 : c < e.snd.cum
  · rw [if_pos h1]; exact Or.inl rfl
  rw [if_neg h1]
  by_cases h2 : (decide (e.snd.cum < c) && !(e.inflightHas e.snd.cum && e.inflightHas (c - 1))) = true
  · rw [if_pos h2]; exact Or.inl rfl
  rw [if_neg h2]
  by_cases h3 : (g.any fun g => decide (g.1 < c) || decide (g.2 < g.1) || !e.inflightHas g.1 || !e.inflightHas g.2) = true
  · rw [if_pos h3]; exact Or.inl rfl
  rw [if_neg h3]
  refine Or.inr ⟨?_, ackRange e c h1 h2, ?_⟩
  · simpa only [Bool.not_eq_true', Bool.not_eq_false, Bool.or_eq_true, beq_iff_eq, or_assoc] using hst
  · dsimp only
    cases hd : ({ e with snd := { e.snd with cum := c } } : Ep).hasData
    · simp only [Ep.hasData, Bool.or_eq_false_iff, decide_eq_false_iff_not] at hd
      rw [if_neg hd.2, if_neg (by rw [hd.1]; exact Bool.false_ne_true)]
    · rw [advance, if_pos hd]
      simp only [Ep.hasData, Bool.or_eq_true, decide_eq_true_eq] at hd
      by_cases hl : c < e.snd.sentq.length
      · rw [if_pos hl]
      · rw [if_neg hl, if_pos (hd.resolve_right hl)]

theorem handleSack_rcv (e : Ep) (c : Nat) (g : List (Nat × Nat)) : (handleSack e c g).rcv = e.rcv := by
  rcases handleSack_cases e c g with h | ⟨-, -, h⟩ <;> rw [h]
  exact advance_rcv _ _
theorem handleSack_dead (e : Ep) (c : Nat) (g : List (Nat × Nat)) : (handleSack e c g).dead = e.dead := by
  rcases handleSack_cases e c g with h | ⟨-, -, h⟩ <;> rw [h]
  exact advance_dead _ _

/-- the acknowledgement of a SHUTDOWN chunk is an error, stale, or moves the cumulative ack point -/
theorem ackCum_cases (e e' : Ep) (c : Nat) (h : ackCum e c = some e') : e' = e ∨
    ((e.snd.cum ≤ e.snd.sentq.length → c ≤ e.snd.sentq.length) ∧ e' = { e with snd := { e.snd with cum := c } }) := by
  unfold ackCum at h
  split at h
  · exact Or.inl (Option.some.inj h).symm
  · split at h
    · cases h
    · exact Or.inr ⟨ackRange e c ‹_› ‹_›, (Option.some.inj h).symm⟩

theorem finishShutdown_cases (e : Ep) (s : Nat) : finishShutdown e s = e ∨
    (e.hasData = true ∧ finishShutdown e s = { e with st := stShutdownReceived }) ∨
    (e.hasData = false ∧ finishShutdown e s = { e with wSA := true, st := stShutdownAckSent }) := by
  unfold finishShutdown
  split
  · cases hd : e.hasData
    · exact Or.inr (Or.inr ⟨rfl, rfl⟩)
    · exact Or.inr (Or.inl ⟨rfl, rfl⟩)
  · exact Or.inl rfl

theorem finishShutdown_snd (e : Ep) (s : Nat) : (finishShutdown e s).snd = e.snd := by
  rcases finishShutdown_cases e s with h | ⟨-, h⟩ | ⟨-, h⟩ <;> rw [h]

theorem enterReceived_cases (e : Ep) : enterReceived e = e ∨
    ((e.st = stEstablished ∨ e.st = stShutdownPending) ∧ enterReceived e = { e with st := stShutdownReceived }) := by
  unfold enterReceived
  split
  · rename_i h
    exact Or.inr ⟨by simpa only [Bool.or_eq_true, beq_iff_eq] using h, rfl⟩
  · exact Or.inl rfl

theorem enterReceived_snd (e : Ep) : (enterReceived e).snd = e.snd := by
  rcases enterReceived_cases e with h | ⟨-, h⟩ <;> rw [h]

theorem retransmitShutdownAck_core (e : Ep) : ctlCore (retransmitShutdownAck e) = ctlCore e := by
  unfold retransmitShutdownAck; split <;> rfl

/-- a SHUTDOWN chunk only touches flags and the T2 timer (ignored, answered again in SHUTDOWN-ACK-SENT, or its
acknowledgement is an error and the state is put back); or it crosses our own SHUTDOWN; or its acknowledgement is
processed on the way to SHUTDOWN-RECEIVED and `finishShutdown` decides -/
theorem handleShutdown_cases (e : Ep) (c : Nat) :
    (ctlCore (handleShutdown e c) = ctlCore e ∧ (handleShutdown e c).rcv = e.rcv) ∨
    (e.scp = false ∧ e.st = stShutdownSent ∧
      handleShutdown e c = { e with t2 := t2stop e.t2, wS := false, wSA := true, st := stShutdownAckSent }) ∨
    (e.scp = false ∧ (e.st = stEstablished ∨ e.st = stShutdownPending ∨ e.st = stShutdownReceived) ∧
      ∃ e2, ackCum (enterReceived e) c = some e2 ∧ handleShutdown e c = finishShutdown e2 e.st) := by
  unfold handleShutdown
  by_cases hscp : e.scp = true
  · rw [if_pos hscp]; exact Or.inl ⟨rfl, rfl⟩
  rw [if_neg hscp]
  by_cases h4 : (e.st == stShutdownAckSent) = true
  · rw [if_pos h4]
    exact Or.inl ⟨retransmitShutdownAck_core e, by unfold retransmitShutdownAck; split <;> rfl⟩
  rw [if_neg h4]
  by_cases h7 : (e.st == stShutdownSent) = true
  · rw [if_pos h7]
    exact Or.inr (Or.inl ⟨Bool.eq_false_iff.2 hscp, beq_iff_eq.1 h7, rfl⟩)
  rw [if_neg h7]
  by_cases hst : (!(e.st == stEstablished || e.st == stShutdownPending || e.st == stShutdownReceived)) = true
  · rw [if_pos hst]; exact Or.inl ⟨rfl, rfl⟩
  rw [if_neg hst]
  cases ha : ackCum (enterReceived e) c with
  | none => refine Or.inl ⟨?_, ?_⟩ <;> rcases enterReceived_cases e with h | ⟨-, h⟩ <;> rw [h]
  | some e2 =>
    refine Or.inr (Or.inr ⟨Bool.eq_false_iff.2 hscp, ?_, e2, rfl, rfl⟩)
    simpa only [Bool.not_eq_true', Bool.not_eq_false, Bool.or_eq_true, beq_iff_eq, or_assoc] using hst

theorem handleShutdown_frame (e : Ep) (c : Nat) : (handleShutdown e c).rcv = e.rcv ∧ (handleShutdown e c).dead = e.dead := by
  rcases handleShutdown_cases e c with ⟨hc, hr⟩ | ⟨-, -, h⟩ | ⟨-, -, e2, ha, h⟩
  · exact ⟨hr, core_dead hc⟩
  · rw [h]; exact ⟨rfl, rfl⟩
  · have h2 : e2.rcv = e.rcv ∧ e2.dead = e.dead := by
      rcases ackCum_cases _ _ _ ha with h2 | ⟨-, h2⟩ <;> rw [h2] <;>
        rcases enterReceived_cases e with h1 | ⟨-, h1⟩ <;> rw [h1] <;> exact ⟨rfl, rfl⟩
    rw [h, ← h2.1, ← h2.2]
    rcases finishShutdown_cases e2 e.st with h3 | ⟨-, h3⟩ | ⟨-, h3⟩ <;> rw [h3] <;> exact ⟨rfl, rfl⟩
theorem handleShutdown_rcv (e : Ep) (c : Nat) : (handleShutdown e c).rcv = e.rcv := (handleShutdown_frame e c).1
theorem handleShutdown_dead (e : Ep) (c : Nat) : (handleShutdown e c).dead = e.dead := (handleShutdown_frame e c).2

theorem handleShutdownAck_snd (e : Ep) : (handleShutdownAck e).snd = e.snd := by
  unfold handleShutdownAck; split <;> rfl
theorem handleShutdownAck_rcv (e : Ep) : (handleShutdownAck e).rcv = e.rcv := by
  unfold handleShutdownAck; split <;> rfl
theorem handleShutdownAck_dead (e : Ep) : (handleShutdownAck e).dead = e.dead := by
  unfold handleShutdownAck; split <;> rfl

theorem handleShutdownComplete_snd (e : Ep) : (handleShutdownComplete e).snd = e.snd := by
  unfold handleShutdownComplete; split <;> rfl
theorem handleShutdownComplete_rcv (e : Ep) : (handleShutdownComplete e).rcv = e.rcv := by
  unfold handleShutdownComplete; split <;> rfl

theorem chunksEnd_core (e : Ep) : ctlCore (chunksEnd e) = ctlCore e := by
  unfold chunksEnd; split
  · rfl
  · split <;> rfl
theorem chunksEnd_rcv (e : Ep) : (chunksEnd e).rcv = e.rcv := by
  unfold chunksEnd; split
  · rfl
  · split <;> rfl

theorem handleChunk_rcv (e : Ep) (ch : Chunk) : (handleChunk e ch).rcv = e.rcv ∨
    ∃ can t m s k, ch = .data t m s k ∧ (handleChunk e ch).rcv = rcvData e.rcv can t m s k := by
  cases ch with
  | data t m s k =>
    rcases handleData_rcv e t m s k with h | ⟨can, h⟩
    · exact Or.inl h
    · exact Or.inr ⟨can, t, m, s, k, rfl, h⟩
  | sack c g => exact Or.inl (handleSack_rcv e c g)
  | shutdown c => exact Or.inl (handleShutdown_rcv e c)
  | shutdownAck => exact Or.inl (handleShutdownAck_rcv e)
  | shutdownComplete => exact Or.inl (handleShutdownComplete_rcv e)
  | abort => exact Or.inl rfl

/-- an inbound packet is its chunks handled in turn between `handleChunksStart` and `handleChunksEnd`: a reflexive,
transitive relation that holds across those two and across every chunk of the packet holds across the packet -/
theorem handlePkt_preserves {R : Ep → Ep → Prop} (refl : ∀ e, R e e) (trans : ∀ {a b c}, R a b → R b c → R a c)
    (start : ∀ e, R e { e with imm := false, del := false }) (fin : ∀ e, R e (chunksEnd e)) (p : Pkt)
    (chunk : ∀ ch ∈ p, ∀ e, R e (handleChunk e ch)) (e : Ep) : R e (handlePkt e p) := by
  exact trans (start e) (trans (ListAux.foldl_inv (P := R _) p (refl _) fun e' ch hm h => trans h (chunk ch hm e')) (fin _))

theorem gatherSack_core (e : Ep) : ctlCore (gatherSack e).1 = ctlCore e := by
  unfold gatherSack; split <;> rfl
theorem gatherSack_rcv (e : Ep) : (gatherSack e).1.rcv = e.rcv := by
  unfold gatherSack; split <;> rfl
theorem gatherSack_snd (e : Ep) : (gatherSack e).1.snd = e.snd := core_snd (gatherSack_core e)
theorem gatherSack_st (e : Ep) : (gatherSack e).1.st = e.st := core_st (gatherSack_core e)
theorem gatherSack_wSC (e : Ep) : (gatherSack e).1.wSC = e.wSC := core_wSC (gatherSack_core e)

/-- the terminal SHUTDOWN-COMPLETE, or (none being due) a SHUTDOWN-ACK, a SHUTDOWN, or nothing -/
theorem gatherShut_cases (e : Ep) :
    (e.wSC = true ∧ gatherShut e = ({ e with wSC := false, wSA := false, wS := false }, [[.shutdownComplete]], false)) ∨
    (e.wSC = false ∧ (gatherShut e = ({ e with wSA := false, wS := false, t2 := t2start e.t2 }, [[.shutdownAck]], true) ∨
      gatherShut e = ({ e with wS := false, t2 := t2start e.t2 }, [[.shutdown e.rcv.pl]], true) ∨
      gatherShut e = (e, [], true))) := by
  unfold gatherShut
  by_cases hC : e.wSC = true
  · rw [if_pos hC]; exact Or.inl ⟨hC, rfl⟩
  rw [if_neg hC]
  refine Or.inr ⟨Bool.eq_false_iff.2 hC, ?_⟩
  by_cases hA : e.wSA = true
  · rw [if_pos hA]; exact Or.inl rfl
  rw [if_neg hA]
  by_cases hS : e.wS = true
  · rw [if_pos hS]; exact Or.inr (Or.inl rfl)
  · rw [if_neg hS]; exact Or.inr (Or.inr rfl)

/-- whatever shutdown chunk goes out, `willSendShutdownComplete` is clear afterwards and nothing else the
control invariant reads has changed -/
theorem gatherShut_core (e : Ep) : ctlCore (gatherShut e).1 = ctlCore { e with wSC := false } := by
  have hc : e.wSC = false → ctlCore e = ctlCore { e with wSC := false } := fun hC => by simp only [ctlCore, hC]
  rcases gatherShut_cases e with ⟨-, h⟩ | ⟨hC, h | h | h⟩ <;> rw [h]
  · rfl
  all_goals exact hc hC
theorem gatherShut_rcv (e : Ep) : (gatherShut e).1.rcv = e.rcv := by
  rcases gatherShut_cases e with ⟨-, h⟩ | ⟨-, h | h | h⟩ <;> rw [h]
theorem gatherShut_snd (e : Ep) : (gatherShut e).1.snd = e.snd := core_snd (e := { e with wSC := false }) (gatherShut_core e)
theorem gatherShut_st (e : Ep) : (gatherShut e).1.st = e.st := core_st (e := { e with wSC := false }) (gatherShut_core e)
theorem gatherShut_wSC (e : Ep) : (gatherShut e).1.wSC = false := core_wSC (e := { e with wSC := false }) (gatherShut_core e)

theorem gatherShut_ok (e : Ep) : (gatherShut e).2.2 = !e.wSC := by
  rcases gatherShut_cases e with ⟨hC, h⟩ | ⟨hC, h | h | h⟩ <;> rw [h, hC] <;> rfl

/-- one DATA chunk asked of the write loop: nothing the code could do (dropped), a retransmission of what TSN `tm.1`
carries, or the pending message `c` taking the next TSN -/
theorem sendOne_cases (e : Ep) (tm : Nat × Nat) : sendOne e tm = (e, []) ∨
    (∃ c, e.snd.sentq[tm.1]? = some c ∧ sendOne e tm = (e, [.data tm.1 c.1 c.2.1 c.2.2])) ∨
    (∃ c, tm.1 = e.snd.sentq.length ∧ c ∈ e.snd.pend ∧
      sendOne e tm = ({ e with snd := { e.snd with pend := e.snd.pend.erase c, sentq := e.snd.sentq ++ [c] } },
        [.data tm.1 c.1 c.2.1 c.2.2])) := by
  unfold sendOne
  by_cases h1 : tm.1 < e.snd.sentq.length
  · rw [if_pos h1]
    by_cases h2 : e.snd.cum ≤ tm.1
    · rw [if_pos h2]
      cases hc : e.snd.sentq[tm.1]? with
      | none => exact Or.inl rfl
      | some c => exact Or.inr (Or.inl ⟨c, rfl, rfl⟩)
    · rw [if_neg h2]; exact Or.inl rfl
  rw [if_neg h1]
  by_cases h3 : (tm.1 == e.snd.sentq.length) = true
  · rw [if_pos h3]
    cases hf : e.snd.pend.find? (fun c => c.1 == tm.2) with
    | none => exact Or.inl rfl
    | some c => exact Or.inr (Or.inr ⟨c, beq_iff_eq.1 h3, List.mem_of_find?_eq_some hf, rfl⟩)
  · rw [if_neg h3]; exact Or.inl rfl

/-- the DATA of a pass is its chunks in turn: what holds across each of them holds across all -/
theorem sendData_preserves {R : Ep → Ep → Prop} (refl : ∀ e, R e e) (trans : ∀ {a b c}, R a b → R b c → R a c)
    (one : ∀ e tm, R e (sendOne e tm).1) (e : Ep) (d : List (List (Nat × Nat))) : R e (sendData e d).1 := by
  have hp : ∀ (l : List (Nat × Nat)) (e : Ep), R e (sendPkt e l).1 := by
    intro l
    induction l with
    | nil => exact refl
    | cons tm rest ih => exact fun e => trans (one e tm) (ih _)
  induction d generalizing e with
  | nil => exact refl e
  | cons p rest ih => exact trans (hp p e) (ih _)

theorem sendData_frame (e : Ep) (d : List (List (Nat × Nat))) : (sendData e d).1 = { e with snd := (sendData e d).1.snd } :=
  sendData_preserves (R := fun e e' => e' = { e with snd := e'.snd }) (fun _ => rfl) (fun h1 h2 => h2.trans (by rw [h1]))
    (fun e tm => by rcases sendOne_cases e tm with h | ⟨c, -, h⟩ | ⟨c, -, -, h⟩ <;> rw [h]) e d

theorem sendData_rcv (e : Ep) (d : List (List (Nat × Nat))) : (sendData e d).1.rcv = e.rcv := by rw [sendData_frame]
theorem sendData_st (e : Ep) (d : List (List (Nat × Nat))) : (sendData e d).1.st = e.st := by rw [sendData_frame]
theorem sendData_wSC (e : Ep) (d : List (List (Nat × Nat))) : (sendData e d).1.wSC = e.wSC := by rw [sendData_frame]

/-- a relation across the building blocks of `gatherOutbound`, with what each puts on the wire: the SACK, the shutdown
chunk, the DATA of the pass, the shutdown advancing from the current state, the ABORT -/
structure PassRel (R : Ep → Ep → List Pkt → Prop) : Prop where
  refl : ∀ e, R e e []
  trans : ∀ {a b c o1 o2}, R a b o1 → R b c o2 → R a c (o1 ++ o2)
  sack : ∀ e, R e (gatherSack e).1 (gatherSack e).2
  shut : ∀ e, R e (gatherShut e).1 (gatherShut e).2.1
  data : ∀ e d, R e (sendData e d).1 (sendData e d).2
  adv : ∀ e, R e (advance e e.st) []
  abort : ∀ e, R e { e with wAb := false } [[.abort]]

theorem PassRel.prio {R : Ep → Ep → List Pkt → Prop} (h : PassRel R) (e : Ep) : R e (gatherPrio e).1 (gatherPrio e).2 := by
  unfold gatherPrio
  split
  · exact h.shut e
  · split
    · exact h.trans (h.sack e) (h.shut _)
    · exact h.refl e

theorem PassRel.state {R : Ep → Ep → List Pkt → Prop} (h : PassRel R) (e : Ep) (d : List (List (Nat × Nat))) :
    R e (gatherState e d).1 (gatherState e d).2.1 := by
  unfold gatherState
  by_cases h3 : (e.st == stEstablished) = true
  · rw [if_pos h3]; exact h.trans (h.data e d) (h.sack _)
  rw [if_neg h3]
  by_cases h56 : (e.st == stShutdownPending || e.st == stShutdownReceived) = true
  · rw [if_pos h56]
    have := h.adv (sendData e d).1
    rw [sendData_st] at this
    simpa using h.trans (h.trans (h.trans (h.data e d) this) (h.sack _)) (h.shut _)
  rw [if_neg h56]
  by_cases h7 : (e.st == stShutdownSent) = true
  · rw [if_pos h7]; exact h.trans (h.sack e) (h.shut _)
  rw [if_neg h7]
  by_cases h4 : (e.st == stShutdownAckSent) = true
  · rw [if_pos h4]; exact h.shut e
  · rw [if_neg h4]; exact h.refl e

theorem PassRel.gather {R : Ep → Ep → List Pkt → Prop} (h : PassRel R) (e : Ep) (d : List (List (Nat × Nat))) :
    R e (Sd.gather e d).1 (Sd.gather e d).2.1 := by
  unfold Sd.gather
  split
  · exact h.abort e
  · split
    · exact h.shut e
    · exact h.trans (h.prio e) (h.state _ d)

theorem passRel_rcv : PassRel (fun e e' _ => e'.rcv = e.rcv) :=
  ⟨fun _ => rfl, fun h1 h2 => h2.trans h1, gatherSack_rcv, gatherShut_rcv, sendData_rcv, fun e => advance_rcv e _, fun _ => rfl⟩

theorem t2Fire_cases (e : Ep) : t2Fire e = e ∨ t2Fire e = { e with wS := true } ∨ t2Fire e = { e with wSA := true } := by
  unfold t2Fire
  split
  · exact Or.inl rfl
  split
  · exact Or.inl rfl
  split
  · exact Or.inr (Or.inl rfl)
  split
  · exact Or.inr (Or.inr rfl)
  · exact Or.inl rfl
theorem t2Fire_core (e : Ep) : ctlCore (t2Fire e) = ctlCore e := by
  rcases t2Fire_cases e with h | h | h <;> rw [h] <;> rfl
theorem t2Fire_rcv (e : Ep) : (t2Fire e).rcv = e.rcv := by
  rcases t2Fire_cases e with h | h | h <;> rw [h]
theorem ackFire_core (e : Ep) : ctlCore (ackFire e) = ctlCore e := by
  unfold ackFire; split <;> rfl
theorem ackFire_rcv (e : Ep) : (ackFire e).rcv = e.rcv := by
  unfold ackFire; split <;> rfl

end Sd
