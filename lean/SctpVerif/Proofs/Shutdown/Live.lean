import SctpVerif.Proofs.Shutdown.Frame
/-!
Exact effect of the steps of the shutdown sequence of the model `Sd` on an endpoint, and the explicit closing schedules
built from them: from a `Ready` (`ReadyBoth`) state the fault-free sequence, the crossed one, and each single loss recovered
by T2 end in `Done` (`DoneBoth`). Uses the model and `close_dead` of `Frame.lean` only, none of the invariants.
-/
namespace Sd

theorem hist_get (h : Array Pkt) (l : List Pkt) (i : Nat) : (h ++ l.toArray)[h.size + i]? = l[i]? := by
  simp [Array.getElem?_append_right]

/-- SHUTDOWN-SENT with SHUTDOWN due: one SHUTDOWN carrying the cumulative ack, T2 started -/
theorem wl_shutdown (e : Ep) (h0 : e.wAb = false) (h1 : e.dead = false) (h2 : e.wSC = false) (h3 : e.st = stShutdownSent) (h4 : e.wS = true)
    (h5 : e.wSA = false) (h6 : e.ack ≠ ackImmediate) :
    writeLoopPass e [] = ({ e with wS := false, t2 := t2start e.t2 }, [[.shutdown e.rcv.pl]]) := by
  have h6' : (e.ack == ackImmediate) = false := by simpa using h6
  simp [writeLoopPass, gather, gatherPrio, gatherState, gatherShut, gatherSack, h0, h1, h2, h3, h4, h5, h6',
    stShutdownSent, stShutdownAckSent, stEstablished, stShutdownPending, stShutdownReceived]

/-- SHUTDOWN-ACK-SENT with SHUTDOWN-ACK due: one SHUTDOWN-ACK, T2 started -/
theorem wl_shutdownAck (e : Ep) (h0 : e.wAb = false) (h1 : e.dead = false) (h2 : e.wSC = false) (h3 : e.st = stShutdownAckSent) (h4 : e.wSA = true) :
    writeLoopPass e [] = ({ e with wSA := false, wS := false, t2 := t2start e.t2 }, [[.shutdownAck]]) := by
  simp [writeLoopPass, gather, gatherPrio, gatherState, gatherShut, h0, h1, h2, h3, h4,
    stShutdownSent, stShutdownAckSent, stEstablished, stShutdownPending, stShutdownReceived]

/-- SHUTDOWN-COMPLETE due: it goes out alone and the write loop closes the association -/
theorem wl_shutdownComplete (e : Ep) (d : List (List (Nat × Nat))) (h0 : e.wAb = false) (h1 : e.dead = false) (h2 : e.wSC = true) :
    writeLoopPass e d = (close { e with wSC := false, wSA := false, wS := false }, [[.shutdownComplete]]) := by
  simp [writeLoopPass, gather, gatherShut, h0, h1, h2]

/-- SHUTDOWN whose cumulative ack is the current ack point, nothing queued or in flight: SHUTDOWN-ACK is due at once -/
theorem rx_shutdown_idle (e : Ep) (c : Nat) (h1 : e.st = stEstablished) (h2 : e.scp = false) (h3 : e.snd.pend = [])
    (h4 : e.snd.cum = e.snd.sentq.length) (h5 : c = e.snd.cum) :
    handlePkt e [.shutdown c] = { e with imm := false, del := false, st := stShutdownAckSent, wSA := true } := by
  subst h5
  simp [handlePkt, handleChunk, handleShutdown, enterReceived, ackCum, finishShutdown, Ep.hasData, chunksEnd, h1, h2, h3, h4,
    stShutdownSent, stShutdownAckSent, stEstablished, stShutdownPending, stShutdownReceived]
  cases hsnd : e.snd
  simp_all

/-- crossed SHUTDOWN in SHUTDOWN-SENT: SHUTDOWN-ACK at once -/
theorem rx_shutdown_sent (e : Ep) (c : Nat) (h1 : e.st = stShutdownSent) (h2 : e.scp = false) :
    handlePkt e [.shutdown c] =
      { e with imm := false, del := false, t2 := t2stop e.t2, wS := false, wSA := true, st := stShutdownAckSent } := by
  simp [handlePkt, handleChunk, handleShutdown, chunksEnd, h1, h2, stShutdownSent, stShutdownAckSent]

/-- retransmitted SHUTDOWN in SHUTDOWN-ACK-SENT: SHUTDOWN-ACK again -/
theorem rx_shutdown_ackSent (e : Ep) (c : Nat) (h1 : e.st = stShutdownAckSent) (h2 : e.scp = false) :
    handlePkt e [.shutdown c] = { e with imm := false, del := false, t2 := t2stop e.t2, wS := false, wSA := true } := by
  simp [handlePkt, handleChunk, handleShutdown, retransmitShutdownAck, chunksEnd, h1, h2, stShutdownAckSent]

theorem rx_shutdownAck (e : Ep) (h1 : e.st = stShutdownSent ∨ e.st = stShutdownAckSent) :
    handlePkt e [.shutdownAck] =
      { e with imm := false, del := false, t2 := t2stop e.t2, wS := false, wSA := false, scp := true, wSC := true } := by
  rcases h1 with h1 | h1 <;>
    simp [handlePkt, handleChunk, handleShutdownAck, chunksEnd, h1, stShutdownSent, stShutdownAckSent]

theorem rx_shutdownComplete (e : Ep) (h1 : e.st = stShutdownAckSent) :
    handlePkt e [.shutdownComplete] = close { e with imm := false, del := false, t2 := t2stop e.t2, scr := true } := by
  simp [handlePkt, handleChunk, handleShutdownComplete, chunksEnd, close, h1, stShutdownAckSent]

theorem t2_sent (e : Ep) (h1 : e.t2 = 1) (h2 : e.scp = false) (h3 : e.st = stShutdownSent) : t2Fire e = { e with wS := true } := by
  simp [t2Fire, h1, h2, h3, stShutdownSent]
theorem t2_ackSent (e : Ep) (h1 : e.t2 = 1) (h2 : e.scp = false) (h3 : e.st = stShutdownAckSent) : t2Fire e = { e with wSA := true } := by
  simp [t2Fire, h1, h2, h3, stShutdownSent, stShutdownAckSent]

theorem run_cons (s : Sys) (op : Op) (ops : List Op) : s.run (op :: ops) = (s.step op).run ops := rfl
theorem run_nil (s : Sys) : s.run [] = s := rfl

theorem ep_mk (a b : Ep) (ha hb : Array Pkt) (x : Bool) : Sys.ep ⟨a, b, ha, hb⟩ x = if x then b else a := rfl
theorem hist_mk (a b : Ep) (ha hb : Array Pkt) (x : Bool) : Sys.hist ⟨a, b, ha, hb⟩ x = if x then hb else ha := rfl
theorem put_mk (a b : Ep) (ha hb : Array Pkt) (x : Bool) (e : Ep) (o : List Pkt) :
    Sys.put ⟨a, b, ha, hb⟩ x e o = if x then ⟨a, e, ha, hb ++ o.toArray⟩ else ⟨e, b, ha ++ o.toArray, hb⟩ := rfl

theorem hist_get0 (h : Array Pkt) (p : Pkt) : (h ++ [p].toArray)[h.size]? = some p := by
  simp
theorem hist_get1 (h : Array Pkt) (p q : Pkt) : (h ++ [p].toArray ++ [q].toArray)[h.size + 1]? = some q := by
  have := hist_get (h ++ [p].toArray) [q] 0
  simpa using this
theorem hist_get2 (h : Array Pkt) (p q r : Pkt) : (h ++ [p].toArray ++ [q].toArray ++ [r].toArray)[h.size + 2]? = some r := by
  have := hist_get (h ++ [p].toArray ++ [q].toArray) [r] 0
  simpa using this

/-- side A has called Shutdown and is in SHUTDOWN-SENT with the SHUTDOWN still to be sent and its Shutdown call waiting
(nothing is said about A's send half). Side B is established with nothing queued or in flight, and what A has received from
B is exactly what B considers acknowledged. -/
structure Ready (s : Sys) : Prop where
  a_st : s.a.st = stShutdownSent
  a_wS : s.a.wS = true
  a_wSA : s.a.wSA = false
  a_wSC : s.a.wSC = false
  a_scp : s.a.scp = false
  a_dead : s.a.dead = false
  a_ack : s.a.ack ≠ ackImmediate
  a_sd : s.a.sd = 1
  a_t2 : s.a.t2 = 0
  a_wAb : s.a.wAb = false
  b_wAb : s.b.wAb = false
  b_st : s.b.st = stEstablished
  b_wSC : s.b.wSC = false
  b_scp : s.b.scp = false
  b_dead : s.b.dead = false
  b_t2 : s.b.t2 = 0
  b_pend : s.b.snd.pend = []
  b_cum : s.b.snd.cum = s.b.snd.sentq.length
  pl : s.a.rcv.pl = s.b.snd.cum

/-- what the explicit schedules establish: both closed, the caller's Shutdown returned nil; `connFailed` of the caller, its
send half, the peer's receive half and `callAt` are those of the start state `s0` -/
def Done (s0 s : Sys) : Prop :=
  s.a.dead = true ∧ s.a.st = stClosed ∧ s.a.sd = 2 ∧ s.a.connFailed = s0.a.connFailed ∧ s.b.dead = true ∧ s.b.st = stClosed ∧
    s.a.snd = s0.a.snd ∧ s.b.rcv = s0.b.rcv ∧ s.a.callAt = s0.a.callAt

/-- no fault: SHUTDOWN, SHUTDOWN-ACK, SHUTDOWN-COMPLETE each delivered once -/
def closingFaultFree (n m : Nat) : List Op :=
  [.gather false [], .deliver false n, .gather true [], .deliver true m, .gather false [], .deliver false (n + 1)]

theorem closing_fault_free (s : Sys) (h : Ready s) : Done s (s.run (closingFaultFree s.ha.size s.hb.size)) := by
  obtain ⟨a, b, ha, hb⟩ := s
  cases h
  dsimp only at *
  unfold closingFaultFree
  -- the schedule is run by rewriting: `Sys.step` on each operation, then the equation of the write-loop pass /
  -- inbound packet / T2 expiry it triggers, whose side conditions are fields of `Ready` or hold by `rfl` of the
  -- record the operation before it produced; a delivery finds its packet by `hist_get0/1/2`
  simp only [run_cons, run_nil, Sys.step, ep_mk, hist_mk, put_mk, Bool.false_eq_true, if_false, if_true,
    Bool.not_true, Bool.not_false, Array.append_empty,
    wl_shutdown, wl_shutdownAck, wl_shutdownComplete, rx_shutdown_idle,
    rx_shutdownAck, rx_shutdownComplete, t2start, beq_self_eq_true,
    hist_get0, hist_get1, true_or, not_false_eq_true, ne_eq, *]
  simp [Done, close]

/-- the first SHUTDOWN is lost; T2 expires at the caller and the SHUTDOWN is sent again -/
def closingShutdownLost (n m : Nat) : List Op :=
  [.gather false [], .t2 false, .gather false [], .deliver false (n + 1), .gather true [], .deliver true m,
   .gather false [], .deliver false (n + 2)]

theorem closing_shutdown_lost (s : Sys) (h : Ready s) : Done s (s.run (closingShutdownLost s.ha.size s.hb.size)) := by
  obtain ⟨a, b, ha, hb⟩ := s
  cases h
  dsimp only at *
  unfold closingShutdownLost
  simp only [run_cons, run_nil, Sys.step, ep_mk, hist_mk, put_mk, Bool.false_eq_true, if_false, if_true,
    Bool.not_true, Bool.not_false, Array.append_empty,
    wl_shutdown, wl_shutdownAck, wl_shutdownComplete, rx_shutdown_idle,
    rx_shutdownAck, rx_shutdownComplete, t2_sent, t2start, beq_self_eq_true,
    hist_get0, hist_get1, hist_get2, true_or, not_false_eq_true, ne_eq, *]
  simp [Done, close]

/-- the SHUTDOWN-ACK is lost; T2 expires at the caller, the retransmitted SHUTDOWN finds the peer in
SHUTDOWN-ACK-SENT, which answers again -/
def closingAckLost (n m : Nat) : List Op :=
  [.gather false [], .deliver false n, .gather true [], .t2 false, .gather false [], .deliver false (n + 1),
   .gather true [], .deliver true (m + 1), .gather false [], .deliver false (n + 2)]

theorem closing_ack_lost (s : Sys) (h : Ready s) : Done s (s.run (closingAckLost s.ha.size s.hb.size)) := by
  obtain ⟨a, b, ha, hb⟩ := s
  cases h
  dsimp only at *
  unfold closingAckLost
  simp only [run_cons, run_nil, Sys.step, ep_mk, hist_mk, put_mk, Bool.false_eq_true, if_false, if_true,
    Bool.not_true, Bool.not_false, Array.append_empty,
    wl_shutdown, wl_shutdownAck, wl_shutdownComplete, rx_shutdown_idle, rx_shutdown_ackSent,
    rx_shutdownAck, rx_shutdownComplete, t2_sent, t2start, beq_self_eq_true,
    hist_get0, hist_get1, hist_get2, true_or, not_false_eq_true, ne_eq, *]
  simp [Done, close]

/-- the SHUTDOWN-COMPLETE is lost: the caller is closed and gone; T2 at the peer retransmits SHUTDOWN-ACK to
nobody; the peer closes when its transport closes -/
def closingCompleteLost (n m : Nat) : List Op :=
  [.gather false [], .deliver false n, .gather true [], .deliver true m, .gather false [],
   .t2 true, .gather true [], .deliver true (m + 1), .closeConn true]

theorem closing_complete_lost (s : Sys) (h : Ready s) : Done s (s.run (closingCompleteLost s.ha.size s.hb.size)) := by
  obtain ⟨a, b, ha, hb⟩ := s
  cases h
  dsimp only at *
  unfold closingCompleteLost
  simp only [run_cons, run_nil, Sys.step, ep_mk, hist_mk, put_mk, Bool.false_eq_true, if_false, if_true,
    Bool.not_true, Bool.not_false, Array.append_empty,
    wl_shutdown, wl_shutdownAck, wl_shutdownComplete, rx_shutdown_idle,
    rx_shutdownAck, t2_ackSent, t2start, beq_self_eq_true, closeConn, close_dead,
    hist_get0, hist_get1, true_or, not_false_eq_true, ne_eq, *]
  simp [Done, close]

/-- both sides have called Shutdown: both in SHUTDOWN-SENT with their SHUTDOWN still to be sent -/
structure ReadyBoth (s : Sys) : Prop where
  a_st : s.a.st = stShutdownSent
  a_wS : s.a.wS = true
  a_wSA : s.a.wSA = false
  a_wSC : s.a.wSC = false
  a_scp : s.a.scp = false
  a_dead : s.a.dead = false
  a_ack : s.a.ack ≠ ackImmediate
  a_sd : s.a.sd = 1
  b_st : s.b.st = stShutdownSent
  b_wS : s.b.wS = true
  b_wSA : s.b.wSA = false
  b_wSC : s.b.wSC = false
  b_scp : s.b.scp = false
  b_dead : s.b.dead = false
  b_ack : s.b.ack ≠ ackImmediate
  b_sd : s.b.sd = 1
  a_wAb : s.a.wAb = false
  b_wAb : s.b.wAb = false

/-- crossed shutdown: both SHUTDOWNs on the wire at once, each answered by SHUTDOWN-ACK, each answered by SHUTDOWN-COMPLETE -/
def closingCrossed (n m : Nat) : List Op :=
  [.gather false [], .gather true [], .deliver false n, .deliver true m, .gather false [], .gather true [],
   .deliver false (n + 1), .deliver true (m + 1), .gather false [], .gather true []]

/-- both closed, both Shutdown calls returned nil, no transport failure added -/
def DoneBoth (s0 s : Sys) : Prop :=
  s.a.dead = true ∧ s.a.st = stClosed ∧ s.a.sd = 2 ∧ s.a.connFailed = s0.a.connFailed ∧
  s.b.dead = true ∧ s.b.st = stClosed ∧ s.b.sd = 2 ∧ s.b.connFailed = s0.b.connFailed

theorem closing_crossed (s : Sys) (h : ReadyBoth s) : DoneBoth s (s.run (closingCrossed s.ha.size s.hb.size)) := by
  obtain ⟨a, b, ha, hb⟩ := s
  cases h
  dsimp only at *
  unfold closingCrossed
  simp only [run_cons, run_nil, Sys.step, ep_mk, hist_mk, put_mk, Bool.false_eq_true, if_false, if_true,
    Bool.not_true, Bool.not_false, Array.append_empty,
    wl_shutdown, wl_shutdownAck, wl_shutdownComplete, rx_shutdown_sent,
    rx_shutdownAck, t2start,
    hist_get0, hist_get1, or_true, not_false_eq_true, ne_eq, *]
  simp [DoneBoth, close]

end Sd
