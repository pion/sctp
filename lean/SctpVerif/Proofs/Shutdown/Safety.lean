import SctpVerif.Proofs.Shutdown.Sys
/-!
How the association state moves in the shutdown model `Sd` (never back to ESTABLISHED, never to a handshake
state), and what the system invariant gives in any state that satisfies it (the property theorems in Props/C08
instantiate these at the states reachable by arbitrary operation lists).
-/
namespace Sd

/-- the state stays, or becomes CLOSED or one of the four shutdown states -/
def StStep (a b : Nat) : Prop := b = a ∨ b = 0 ∨ b = 4 ∨ b = 5 ∨ b = 6 ∨ b = 7

theorem StStep.refl (a : Nat) : StStep a a := Or.inl rfl
theorem StStep.of_eq {a b : Nat} (h : b = a) : StStep a b := Or.inl h
theorem StStep.to (a b : Nat) (h : b = 0 ∨ b = 4 ∨ b = 5 ∨ b = 6 ∨ b = 7 := by decide) : StStep a b := Or.inr h
theorem StStep.trans {a b c : Nat} (h1 : StStep a b) (h2 : StStep b c) : StStep a c := by
  rcases h2 with h2 | h2
  · rw [h2]; exact h1
  · exact Or.inr h2

theorem advance_stStep (e : Ep) (s : Nat) : StStep e.st (advance e s).st := by
  rcases advance_cases e s with h | ⟨-, -, h⟩ | ⟨-, -, h⟩ <;> rw [h]
  · exact .refl _
  · exact .to _ 7
  · exact .to _ 4

theorem handleSack_stStep (e : Ep) (c : Nat) (g : List (Nat × Nat)) : StStep e.st (handleSack e c g).st := by
  rcases handleSack_cases e c g with h | ⟨-, -, h⟩ <;> rw [h]
  · exact .refl _
  · exact advance_stStep _ _

theorem handleShutdown_stStep (e : Ep) (c : Nat) : StStep e.st (handleShutdown e c).st := by
  rcases handleShutdown_cases e c with ⟨h, -⟩ | ⟨-, -, h⟩ | ⟨-, -, e2, ha, h⟩
  · exact .of_eq (core_st h)
  · rw [h]; exact .to _ 4
  · have h1 : StStep e.st e2.st := by
      rcases ackCum_cases _ _ _ ha with h2 | ⟨-, h2⟩ <;> rw [h2] <;>
        rcases enterReceived_cases e with h1 | ⟨-, h1⟩ <;> rw [h1] <;> first | exact .refl _ | exact .to _ 6
    rw [h]
    refine h1.trans ?_
    rcases finishShutdown_cases e2 e.st with h3 | ⟨-, h3⟩ | ⟨-, h3⟩ <;> rw [h3]
    · exact .refl _
    · exact .to _ 6
    · exact .to _ 4

theorem handleChunk_stStep (e : Ep) (ch : Chunk) : StStep e.st (handleChunk e ch).st := by
  cases ch with
  | data t m s k => exact .of_eq (core_st (handleData_core e t m s k))
  | sack c g => exact handleSack_stStep e c g
  | shutdown c => exact handleShutdown_stStep e c
  | shutdownAck => simp only [handleChunk, handleShutdownAck]; split <;> exact .refl _
  | shutdownComplete =>
    simp only [handleChunk, handleShutdownComplete]
    split
    · exact .to _ 0
    · exact .refl _
  | abort => exact .to _ 0

theorem handlePkt_stStep (e : Ep) (p : Pkt) : StStep e.st (handlePkt e p).st :=
  handlePkt_preserves (R := fun e e' => StStep e.st e'.st) (fun _ => .refl _) .trans (fun _ => .refl _)
    (fun e => .of_eq (core_st (chunksEnd_core e))) p (fun ch _ e => handleChunk_stStep e ch) e

theorem passRel_stStep : PassRel (fun e e' _ => StStep e.st e'.st) :=
  ⟨fun _ => .refl _, .trans, fun e => .of_eq (gatherSack_st e), fun e => .of_eq (gatherShut_st e), fun e d => .of_eq (sendData_st e d),
    fun e => advance_stStep e _, fun _ => .refl _⟩

theorem writeLoopPass_stStep (e : Ep) (d : List (List (Nat × Nat))) : StStep e.st (writeLoopPass e d).1.st := by
  unfold writeLoopPass
  split
  · exact .refl _
  · dsimp only
    split
    · exact passRel_stStep.gather e d
    · exact .to _ 0

theorem EpStep.stStep {e e' : Ep} {hist : Array Pkt} {o : List Pkt} (h : EpStep e hist e' o) : StStep e.st e'.st := by
  cases h with
  | write sid => unfold Sd.write; split <;> exact .refl _
  | shutdown =>
    unfold Sd.shutdownCall
    split
    · dsimp only
      split
      · exact .to _ 5
      · exact .to _ 7
    · exact .refl _
  | gather d => exact writeLoopPass_stStep e d
  | deliver p _ _ => exact handlePkt_stStep e p
  | t2 => exact .of_eq (core_st (t2Fire_core e))
  | ackt => exact .of_eq (core_st (ackFire_core e))
  | read sid => exact .refl _
  | closeConn =>
    unfold Sd.closeConn
    split
    · exact .refl _
    · exact .to _ 0
  | closeApi =>
    unfold Sd.closeApi
    split
    · exact .refl _
    · exact .to _ 0
  | abort => exact .refl _

/-- every operation moves the state of each endpoint by `StStep` -/
theorem step_stStep (s : Sys) (op : Op) (x : Bool) : StStep (s.ep x).st ((s.step op).ep x).st := by
  rcases step_eq s op with h | ⟨y, e', o, hs, h⟩ <;> rw [h]
  · exact .refl _
  · rw [put_ep]
    split
    · rename_i hxy
      exact hxy ▸ hs.stStep
    · exact .refl _

/-- reachable states are CLOSED, ESTABLISHED or one of the four shutdown states -/
theorem run_stRange (ops : List Op) (x : Bool) :
    let st := ((Sys.init.run ops).ep x).st
    st = 0 ∨ st = 3 ∨ st = 4 ∨ st = 5 ∨ st = 6 ∨ st = 7 := by
  refine ListAux.foldl_inv (P := fun s : Sys => (s.ep x).st = 0 ∨ (s.ep x).st = 3 ∨ (s.ep x).st = 4 ∨ (s.ep x).st = 5 ∨ (s.ep x).st = 6 ∨ (s.ep x).st = 7)
    ops (by cases x <;> exact Or.inr (Or.inl rfl)) fun s op _ h => ?_
  have := step_stStep s op x
  simp only [StStep] at this
  omega

/-- **Shutdown returned nil ⇒ everything was delivered first, in order, before closure.**
In every state that satisfies the system invariant (hence in every reachable state: every interleaving, every fault
pattern, every choice of what the write loop sends): if the Shutdown call of side `x` has returned nil, then
(1) no message was accepted after the call, (2) every message `x` ever accepted has been handed to the peer's
streams (it sits complete in a reassembly queue or has been read), (3) what the peer has read from each stream is
a prefix, in order, of what `x` wrote to that stream, and (4) every stream of the peer on which closure has been
reported had delivered ALL messages written to it before. -/
theorem delivered_of_inv (s : Sys) (inv : SysInv s) (x : Bool) :
    (s.ep x).sd = 2 →
      (s.ep x).snd.wlog.length = (s.ep x).callAt ∧
      (∀ w ∈ (s.ep x).snd.wlog, Got (s.ep (!x)).rcv w) ∧
      (∀ sid, (s.ep (!x)).rcv.readOn sid =
        ((onStream (s.ep x).snd.wlog sid).take ((s.ep (!x)).rcv.readOn sid).length).map (·.1)) ∧
      (∀ sid k, (sid, k) ∈ (s.ep (!x)).rcv.eofs →
        (s.ep (!x)).rcv.readOn sid = (onStream (s.ep x).snd.wlog sid).map (·.1)) := by
  intro hsd
  obtain ⟨hme, hl⟩ := inv x
  have hpeer := (inv (!x)).1
  have hD : Drained (s.ep x).snd := hme.ctl.sdRet hsd
  have hpl : (s.ep (!x)).rcv.pl = (s.ep x).snd.sentq.length := by
    have h1 := hl.cumLe
    have h2 := hl.rel.plLe
    have h3 := hD.2
    omega
  have hall : ∀ w ∈ (s.ep x).snd.wlog, Got (s.ep (!x)).rcv w := by
    intro w hw
    have hin : w ∈ (s.ep x).snd.sentq := by
      rcases hme.snd.wlogIn w hw with h | h
      · exact h
      · rw [hD.1] at h; cases h
    obtain ⟨t, ht, hget⟩ := List.getElem_of_mem hin
    obtain ⟨c, hc, hg⟩ := hl.rel.got t (Or.inl (by rw [hpl]; exact ht))
    rw [List.getElem?_eq_getElem ht, hget] at hc
    cases hc
    exact hg
  have hpre : ∀ sid, (s.ep (!x)).rcv.readOn sid =
      ((onStream (s.ep x).snd.wlog sid).take ((s.ep (!x)).rcv.readOn sid).length).map (·.1) := by
    intro sid
    rw [readOn_length, readOn_eq]
    exact congrArg (List.map (·.1)) (hl.pre sid)
  refine ⟨(hme.ctl.sdGate (by rw [hsd]; decide)).2, hall, hpre, ?_⟩
  intro sid k hk
  obtain ⟨-, hk2, hk3⟩ := hpeer.eof sid k hk
  have hR := hl.pre sid
  -- all of the stream was read: otherwise the next message, whose sequence number is the number of reads, is
  -- neither in the queue (closure was reported with nothing readable left) nor among the reads (it would sit at
  -- an earlier index of the stream, under another sequence number)
  have hlen : (onStream (s.ep (!x)).rcv.rlog sid).length = (onStream (s.ep x).snd.wlog sid).length := by
    have hle : (onStream (s.ep (!x)).rcv.rlog sid).length ≤ (onStream (s.ep x).snd.wlog sid).length := by
      have := congrArg List.length hR
      simp only [List.length_take] at this
      omega
    refine Nat.le_antisymm hle (Nat.le_of_not_lt fun hlt => ?_)
    have hcW := List.getElem_mem hlt
    have hck := onStream_ssn _ hme.snd.wlogOk sid _ hlt
    generalize (onStream (s.ep x).snd.wlog sid)[(onStream (s.ep (!x)).rcv.rlog sid).length] = c at hcW hck
    have hcs : c.2.1 = sid := by simpa using (List.mem_filter.1 hcW).2
    rcases hall c (List.mem_filter.1 hcW).1 with hst | hrl
    · exact hk3 c hst ⟨hcs, by rw [hck, hk2, readOn_length]⟩
    · have hcR : c ∈ onStream (s.ep (!x)).rcv.rlog sid := List.mem_filter.2 ⟨hrl, by simp [hcs]⟩
      rw [hR] at hcR
      obtain ⟨j, hj, hget⟩ := List.getElem_of_mem hcR
      simp only [List.length_take] at hj
      rw [List.getElem_take] at hget
      have := onStream_ssn _ hme.snd.wlogOk sid j (by omega)
      rw [hget, hck] at this
      omega
  rw [readOn_eq, hR, hlen, List.take_length]

/-- **Writes (and OpenStream) after Shutdown began are rejected.** In every state that satisfies the system invariant in which a Shutdown
call of side `x` has passed its state gate: no message has been accepted since, a write on any stream is
rejected and queues nothing, and OpenStream is refused. -/
theorem no_write_of_inv (s : Sys) (inv : SysInv s) (x : Bool) (sid : Nat)
    (hr : (s.ep x).st = 0 ∨ (s.ep x).st = 3 ∨ (s.ep x).st = 4 ∨ (s.ep x).st = 5 ∨ (s.ep x).st = 6 ∨ (s.ep x).st = 7) :
    (s.ep x).sd ≠ 0 →
      (s.ep x).snd.wlog.length = (s.ep x).callAt ∧
      (write (s.ep x) sid).2 = false ∧
      (write (s.ep x) sid).1.snd.wlog = (s.ep x).snd.wlog ∧ (write (s.ep x) sid).1.snd.pend = (s.ep x).snd.pend ∧
      openOk (s.ep x) = false := by
  intro hsd
  obtain ⟨hne, hlen⟩ := (inv x).1.ctl.sdGate hsd
  have hne' : ((s.ep x).st == stEstablished) = false := by simpa using hne
  refine ⟨hlen, by simp [write, hne'], by simp [write, hne'], by simp [write, hne'], ?_⟩
  simp only [stEstablished] at hne
  have : (s.ep x).st = 0 ∨ (s.ep x).st = 4 ∨ (s.ep x).st = 5 ∨ (s.ep x).st = 6 ∨ (s.ep x).st = 7 := by
    omega
  simp only [openOk, stShutdownAckSent, stShutdownPending, stShutdownReceived, stShutdownSent, stClosed]
  rcases this with h | h | h | h | h <;> simp [h]

/-- what cannot change any more once the loops of an endpoint are gone -/
def deadCore (e : Ep) : Bool × Nat × Nat × Bool × List Msg × List Msg × List Msg × Nat × Nat × List Nat :=
  (e.dead, e.st, e.sd, e.scr, e.snd.wlog, e.snd.pend, e.snd.sentq, e.snd.cum, e.rcv.pl, e.rcv.rq)

theorem read_got (e : Ep) (sid : Nat) : ∀ c, Got e.rcv c → Got (read e sid).rcv c := by
  intro c hc
  have := drain_got e.rcv.store.length e.rcv sid c hc
  simp only [read]
  split <;> exact this

theorem read_deadCore (e : Ep) (sid : Nat) : deadCore (read e sid) = deadCore e := by
  have := drain_pl e.rcv.store.length e.rcv sid
  simp only [deadCore, read]
  split <;> simp [this.1, this.2]

theorem EpStep.dead {e e' : Ep} {hist : Array Pkt} {o : List Pkt} (h : EpStep e hist e' o) (hd : e.dead = true)
    (hst : e.st = 0) : deadCore e' = deadCore e ∧ o = [] ∧ ∀ c, Got e.rcv c → Got e'.rcv c := by
  -- most operations leave a dead endpoint exactly as it is
  have same : ∀ {e'}, e' = e → deadCore e' = deadCore e ∧ ([] : List Pkt) = [] ∧ ∀ c, Got e.rcv c → Got e'.rcv c :=
    fun h => h ▸ ⟨rfl, rfl, fun _ hc => hc⟩
  cases h with
  | write sid =>
    have : (Sd.write e sid).1 = { e with snd := { e.snd with attempts := e.snd.attempts + 1 } } := by
      simp [Sd.write, hst, stEstablished]
    rw [this]; exact ⟨rfl, rfl, fun _ hc => hc⟩
  | shutdown => exact same (by simp [shutdownCall, hst, stEstablished])
  | gather d =>
    have : writeLoopPass e d = (e, []) := by simp [writeLoopPass, hd]
    rw [this]; exact ⟨rfl, rfl, fun _ hc => hc⟩
  | deliver p _ hnd => rw [hd] at hnd; cases hnd
  | t2 =>
    have hc := t2Fire_core e
    have hr := t2Fire_rcv e
    simp only [ctlCore, Prod.mk.injEq] at hc
    obtain ⟨c1, c2, -, -, c5, c6, c7, -⟩ := hc
    exact ⟨by simp only [deadCore, c1, c2, c5, c6, c7, hr], rfl, fun c h => by rw [hr]; exact h⟩
  | ackt => exact same (by simp [ackFire, hd])
  | read sid => exact ⟨read_deadCore _ _, rfl, read_got _ _⟩
  | closeConn => exact same (by simp [Sd.closeConn, hd])
  | closeApi => exact same (by simp [Sd.closeApi, hd])
  | abort => exact ⟨rfl, rfl, fun _ hc => hc⟩

/-- a dead endpoint keeps everything `deadCore` lists (its readers still drain what was delivered, refused writes are
counted, and flags nothing reads any more may be set), whatever operation comes next, and puts nothing on the wire -/
theorem dead_step (s : Sys) (inv : SysInv s) (x : Bool) (op : Op) (hd : (s.ep x).dead = true) :
    deadCore ((s.step op).ep x) = deadCore (s.ep x) ∧ (s.step op).hist x = s.hist x ∧
      (∀ c, Got (s.ep x).rcv c → Got ((s.step op).ep x).rcv c) := by
  rcases step_eq s op with h | ⟨y, e', o, hs, h⟩ <;> rw [h]
  · exact ⟨rfl, rfl, fun _ hc => hc⟩
  · rw [put_ep, put_hist]
    by_cases hxy : x = y
    · subst hxy
      obtain ⟨h1, rfl, h3⟩ := hs.dead hd ((inv x).1.ctl.deadSt.1 hd)
      rw [if_pos rfl, if_pos rfl]
      exact ⟨h1, Array.append_empty, h3⟩
    · rw [if_neg hxy, if_neg hxy]
      exact ⟨rfl, rfl, fun _ hc => hc⟩

/-- inbound packets never touch what the readers have seen -/
theorem handlePkt_rlog (e : Ep) (p : Pkt) : (handlePkt e p).rcv.rlog = e.rcv.rlog ∧ (handlePkt e p).rcv.eofs = e.rcv.eofs :=
  handlePkt_preserves (R := fun e e' => e'.rcv.rlog = e.rcv.rlog ∧ e'.rcv.eofs = e.rcv.eofs) (fun _ => ⟨rfl, rfl⟩)
    (fun h1 h2 => ⟨h2.1.trans h1.1, h2.2.trans h1.2⟩) (fun _ => ⟨rfl, rfl⟩) (fun e => by rw [chunksEnd_rcv]; exact ⟨rfl, rfl⟩) p
    (fun ch _ e => by
      rcases handleChunk_rcv e ch with h | ⟨can, t, m, s, k, -, h⟩ <;> rw [h]
      · exact ⟨rfl, rfl⟩
      · exact ⟨rcvData_rlog _ _ _ _ _ _, rcvData_eofs _ _ _ _ _ _⟩) e

/-- delivering ANY packet ever sent (duplicate, reordered, stale) to the other side never takes away what was
delivered to its streams, changes nothing its readers have seen, and leaves the sending endpoint and both histories untouched -/
theorem deliver_harmless (s : Sys) (inv : SysInv s) (x : Bool) (i : Nat) :
    (∀ c, Got (s.ep (!x)).rcv c → Got ((s.step (.deliver x i)).ep (!x)).rcv c) ∧
    ((s.step (.deliver x i)).ep (!x)).rcv.rlog = (s.ep (!x)).rcv.rlog ∧
    ((s.step (.deliver x i)).ep (!x)).rcv.eofs = (s.ep (!x)).rcv.eofs ∧
    (s.step (.deliver x i)).ep x = s.ep x ∧ (s.step (.deliver x i)).hist x = s.hist x ∧
    (s.step (.deliver x i)).hist (!x) = s.hist (!x) := by
  rcases step_deliver s x i with h | ⟨p, hmem, -, h⟩ <;> rw [h]
  · exact ⟨fun c hc => hc, rfl, rfl, rfl, rfl, rfl⟩
  · have hx := (inv x).2
    have hl := handlePkt_rlog (s.ep (!x)) p
    simp only [put_ep, put_hist, if_true, Bool.eq_not_self, if_false]
    exact ⟨(handlePkt_rcvStep _ p _ _ hx.rel hx.pre (hx.data p hmem)).got, hl.1, hl.2, trivial, trivial, Array.append_empty⟩

theorem closed_of_inv (s : Sys) (inv : SysInv s) (x : Bool) (op : Op) (hd : (s.ep x).dead = true) :
    ((s.step op).ep x).dead = true ∧ ((s.step op).ep x).st = stClosed ∧ ((s.step op).ep x).sd = (s.ep x).sd ∧
    ((s.step op).ep x).snd.wlog = (s.ep x).snd.wlog ∧ ((s.step op).ep x).snd.sentq = (s.ep x).snd.sentq ∧
    ((s.step op).ep x).snd.cum = (s.ep x).snd.cum ∧ ((s.step op).ep x).rcv.pl = (s.ep x).rcv.pl ∧
    (s.step op).hist x = s.hist x ∧ (∀ c, Got (s.ep x).rcv c → Got ((s.step op).ep x).rcv c) := by
  obtain ⟨h1, h2, h3⟩ := dead_step _ inv x op hd
  have hst := (inv x).1.ctl.deadSt.1 hd
  simp only [deadCore, Prod.mk.injEq] at h1
  obtain ⟨c1, c2, c3, -, c5, -, c7, c8, c9, -⟩ := h1
  exact ⟨c1.trans hd, c2.trans hst, c3, c5, c7, c8, c9, h2, h3⟩

theorem stale_of_inv (s : Sys) (inv : SysInv s) (x : Bool) (i : Nat) :
    (∀ c, Got (s.ep (!x)).rcv c → Got ((s.step (.deliver x i)).ep (!x)).rcv c) ∧
    ((s.step (.deliver x i)).ep (!x)).rcv.rlog = (s.ep (!x)).rcv.rlog ∧
    ((s.step (.deliver x i)).ep (!x)).rcv.eofs = (s.ep (!x)).rcv.eofs ∧
    (s.step (.deliver x i)).ep x = s.ep x ∧ (s.step (.deliver x i)).hist x = s.hist x ∧
    (s.step (.deliver x i)).hist (!x) = s.hist (!x) ∧
    (∀ z, (s.ep z).st ≠ stEstablished → ((s.step (.deliver x i)).ep z).st ≠ stEstablished) ∧
    (∀ z, (s.ep z).st = stClosed → ((s.step (.deliver x i)).ep z).st = stClosed) ∧
    (∀ z, ((s.step (.deliver x i)).ep z).sd = 2 →
      ∀ w ∈ ((s.step (.deliver x i)).ep z).snd.wlog, Got ((s.step (.deliver x i)).ep (!z)).rcv w) := by
  obtain ⟨h1, h2, h3, h4, h5, h6⟩ := deliver_harmless _ inv x i
  refine ⟨h1, h2, h3, h4, h5, h6, ?_, ?_, ?_⟩
  · intro z hz
    have := step_stStep s (.deliver x i) z
    simp only [StStep, stEstablished] at this hz ⊢
    omega
  · intro z hz
    have hd := (inv z).1.ctl.deadSt.2 hz
    have := (dead_step _ inv z (.deliver x i) hd).1
    simp only [deadCore, Prod.mk.injEq] at this
    exact this.2.1.trans hz
  · intro z hz
    exact (delivered_of_inv _ (step_inv _ (.deliver x i) inv) z hz).2.1

theorem interrupted_of_inv (s : Sys) (inv : SysInv s) (x : Bool) (d : List (List (Nat × Nat)))
    (hsd : (s.ep x).sd = 1) (hscp : (s.ep x).scp = false) :
    ((s.step (.closeConn x)).ep x).sd = 3 ∧ ((s.step (.closeApi x)).ep x).sd = 3 ∧
    (((s.step (.abort x)).step (.gather x d)).ep x).sd = 3 ∧
    ((s.step (.abort x)).step (.gather x d)).hist x = s.hist x ++ #[[Chunk.abort]] := by
  have hctl := (inv x).1.ctl
  have hnd : (s.ep x).dead = false := by
    cases hd : (s.ep x).dead
    · rfl
    · exact absurd hsd (hctl.deadSd hd)
  have hscr : (s.ep x).scr = false := by
    cases hr : (s.ep x).scr
    · rfl
    · have := hctl.scrDead hr; rw [hnd] at this; cases this
  refine ⟨?_, ?_, ?_, ?_⟩
  · simp [Sys.step, put_ep, closeConn, close, hnd, hsd, hscp, hscr]
  · simp [Sys.step, put_ep, closeApi, close, hnd, hsd, hscp, hscr]
  · simp [Sys.step, put_ep, abortCall, writeLoopPass, gather, close, hnd, hsd, hscp, hscr]
  · simp [Sys.step, put_ep, put_hist, abortCall, writeLoopPass, gather, close, hnd]

end Sd
