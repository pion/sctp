import SctpVerif.Proofs.Shutdown.Live
/-!
An explicit schedule of the shutdown model `Sd` for EVERY message count `n`: side A writes `n` messages, calls
Shutdown with all of them still queued (SHUTDOWN-PENDING), and the data drains one message per round trip under
the shutdown; by induction on the rounds the system reaches the `Ready` state from which the explicit shutdown
sequences of Live.lean run.
-/
namespace Sd

/-- the `n` messages written on stream 0: (id, stream, sequence number) -/
def M (n : Nat) : List Msg := (List.range n).map (fun i => (i, 0, i))

theorem M_length (n : Nat) : (M n).length = n := by simp [M]
theorem M_succ (n : Nat) : M (n + 1) = M n ++ [(n, 0, n)] := by simp [M, List.range_succ]
theorem M_getElem (n j : Nat) (h : j < (M n).length) : (M n)[j] = (j, 0, j) := by simp [M]
theorem M_drop (n j : Nat) (h : j < n) : (M n).drop j = (j, 0, j) :: (M n).drop (j + 1) := by
  rw [List.drop_eq_getElem_cons (by rw [M_length]; exact h), M_getElem]
theorem M_take (n j : Nat) (h : j < n) : (M n).take (j + 1) = (M n).take j ++ [(j, 0, j)] := by
  rw [List.take_succ_eq_append_getElem (by rw [M_length]; exact h), M_getElem]
theorem M_take_length (n j : Nat) (h : j ≤ n) : ((M n).take j).length = j := by
  simp [M_length, Nat.min_eq_left h]
theorem M_onStream (n : Nat) : (M n).filter (fun w => w.2.1 == 0) = M n := by
  simp only [M, List.filter_map, Function.comp_def]
  congr 1
  exact List.filter_eq_self.2 (fun _ _ => rfl)

theorem maxOff_pos : 0 < maxOff := by decide

/-- after `k` writes on stream 0 -/
def formW (k : Nat) : Sys := { a := { snd := { attempts := k, wlog := M k, pend := M k } } }

def writes (n : Nat) : List Op := List.replicate n (.write false 0)

theorem run_append (s : Sys) (l1 l2 : List Op) : s.run (l1 ++ l2) = (s.run l1).run l2 := by
  simp [Sys.run, List.foldl_append]

theorem run_writes (n : Nat) : Sys.init.run (writes n) = formW n := by
  induction n with
  | zero => rfl
  | succ n ih =>
    have : writes (n + 1) = writes n ++ [.write false 0] := by simp [writes, List.replicate_succ']
    rw [this, run_append, ih]
    simp [Sys.run, Sys.step, Sys.ep, Sys.put, formW, write, Ep.nextSsn, M_onStream, M_length, M_succ, stEstablished]

/-- after the `n` writes, the Shutdown call and `j` rounds -/
def formR (n j : Nat) : Sys :=
  { a := { st := if j < n then stShutdownPending else stShutdownSent, wS := decide (n ≤ j), sd := 1, callAt := n,
           snd := { attempts := n, wlog := M n, pend := (M n).drop j, sentq := (M n).take j, cum := j } },
    b := { del := decide (0 < j), rcv := { pl := j, store := (M n).take j } },
    ha := ((List.range j).map (fun i => [Chunk.data i i 0 i])).toArray,
    hb := ((List.range j).map (fun i => [Chunk.sack (i + 1) []])).toArray }

theorem shutdown_formW (n : Nat) : (formW n).step (.shutdown false) = formR n 0 := by
  cases n with
  | zero => simp [Sys.step, Sys.ep, Sys.put, formW, formR, shutdownCall, Ep.hasData, M, stEstablished]
  | succ n =>
    simp [Sys.step, Sys.ep, Sys.put, formW, formR, shutdownCall, Ep.hasData, M_length, stEstablished, M_succ]

/-- one round: the next message goes out, arrives, is acknowledged after the delayed-ack timer, the SACK arrives -/
def round (j : Nat) : List Op :=
  [.gather false [[(j, j)]], .deliver false j, .ackt true, .gather true [], .deliver true j]

theorem round_step (n j : Nat) (hj : j < n) : (formR n j).run (round j) = formR n (j + 1) := by
  have hnj : ¬ n ≤ j := by omega
  have hmo := maxOff_pos
  have h1 : ¬ j + maxOff ≤ j := by omega
  have h0 : ¬ j + 1 < j := by omega
  have hdrop : (M n).drop (j + 1) = [] ↔ n ≤ j + 1 := by rw [List.drop_eq_nil_iff, M_length]
  have hlast : j + 1 < n ↔ ¬ n ≤ j + 1 := Nat.not_le.symm
  -- the five steps are evaluated; only the last depends on `n`: after the SACK of the last message A is drained
  -- and `advance` takes it to SHUTDOWN-SENT with the SHUTDOWN due
  by_cases hnl : n ≤ j + 1 <;>
    simp [round, formR, run_cons, run_nil, Sys.step, ep_mk, hist_mk, put_mk,
      writeLoopPass, gather, gatherPrio, gatherState, gatherShut, gatherSack, sendData, sendPkt, sendOne, advance, Ep.hasData,
      handlePkt, handleChunk, handleData, chunksEnd, rcvData, Ep.canPush, popLoop, ackFire, Ep.sackChunk, sortNat, runs,
      handleSack, Ep.inflightHas,
      M_take_length n j (Nat.le_of_lt hj), M_drop n j hj, M_take n j hj, ackImmediate, ackIdle, ackDelay,
      stShutdownSent, stShutdownAckSent, stEstablished, stShutdownPending, stShutdownReceived,
      hj, hnj, h1, h0, hlast, hdrop, hnl, List.range_succ]

/-- rounds 0 … j-1 -/
def rounds (j : Nat) : List Op := (List.range j).flatMap round

theorem run_rounds (n j : Nat) (hj : j ≤ n) : (formR n 0).run (rounds j) = formR n j := by
  induction j with
  | zero => rfl
  | succ j ih =>
    have : rounds (j + 1) = rounds j ++ round j := by simp [rounds, List.range_succ, List.flatMap_append]
    rw [this, run_append, ih (by omega), round_step n j (by omega)]

/-- `n` writes, the Shutdown call with all of them still queued, then the data drains round by round -/
def schedule (n : Nat) : List Op := writes n ++ [.shutdown false] ++ rounds n

theorem run_schedule (n : Nat) : Sys.init.run (schedule n) = formR n n := by
  simp only [schedule]
  rw [run_append, run_append, run_writes]
  show ((formW n).step (.shutdown false)).run (rounds n) = formR n n
  rw [shutdown_formW, run_rounds n n (Nat.le_refl _)]

theorem schedule_then (n : Nat) (tail : List Op) : Sys.init.run (schedule n ++ tail) = (formR n n).run tail := by
  rw [run_append, run_schedule]

/-- what `Done` after the schedule says about the run from the initial state -/
theorem schedule_done (n : Nat) (tail : List Op) (h : Done (formR n n) ((formR n n).run tail)) :
    let s := Sys.init.run (schedule n ++ tail)
    s.a.dead = true ∧ s.a.st = stClosed ∧ s.a.sd = 2 ∧ s.b.dead = true ∧ s.b.st = stClosed ∧
      s.a.snd.wlog = M n ∧ s.a.callAt = n ∧ s.b.rcv.store = M n := by
  intro s
  obtain ⟨d1, d2, d3, -, d5, d6, d7, d8, d9⟩ := h
  rw [show s = (formR n n).run tail from schedule_then n tail]
  exact ⟨d1, d2, d3, d5, d6, by rw [d7]; rfl, by rw [d9]; rfl,
    by rw [d8]; exact List.take_of_length_le (by rw [M_length]; exact Nat.le_refl _)⟩

theorem formR_ready (n : Nat) : Ready (formR n n) := by
  refine ⟨?_, ?_, rfl, rfl, rfl, rfl, ?_, rfl, rfl, rfl, rfl, rfl, rfl, rfl, rfl, rfl, rfl, rfl, rfl⟩
  · simp [formR]
  · simp [formR]
  · simp [formR, ackIdle, ackImmediate]

theorem formR_sizes (n : Nat) : (formR n n).ha.size = n ∧ (formR n n).hb.size = n := by simp [formR]

/-- the same with the peer calling Shutdown too, once the data has drained -/
theorem formR_readyBoth (n : Nat) : ReadyBoth ((formR n n).step (.shutdown true)) ∧
    ((formR n n).step (.shutdown true)).ha.size = n ∧ ((formR n n).step (.shutdown true)).hb.size = n ∧
    ((formR n n).step (.shutdown true)).a = (formR n n).a ∧ ((formR n n).step (.shutdown true)).b.rcv = (formR n n).b.rcv := by
  have hs : (formR n n).step (.shutdown true) =
      { formR n n with b := { (formR n n).b with st := stShutdownSent, wS := true, sd := 1, callAt := 0 } } := by
    simp [Sys.step, Sys.ep, Sys.put, formR, shutdownCall, Ep.hasData, stEstablished]
  rw [hs]
  refine ⟨⟨?_, ?_, rfl, rfl, rfl, rfl, ?_, rfl, rfl, rfl, rfl, rfl, rfl, rfl, ?_, rfl, rfl, rfl⟩, ?_, ?_, rfl, rfl⟩
  · simp [formR]
  · simp [formR]
  · simp [formR, ackIdle, ackImmediate]
  · simp [formR, ackIdle, ackImmediate]
  · simp [formR]
  · simp [formR]

end Sd
