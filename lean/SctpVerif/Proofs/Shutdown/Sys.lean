import SctpVerif.Proofs.Shutdown.Link
/-!
The system invariant of the shutdown model `Sd` (both endpoints, both packet histories) and its
preservation by every operation, hence by every operation list: every interleaving of writes, Shutdown
calls, write-loop passes with any choice of DATA to send, deliveries of ANY packet ever sent (loss,
duplication, reordering, stale replay), T2 / T3 / ack-timer expiries, reads, Close / Abort calls and transport failures.
-/
namespace Sd

structure Link (x y : Ep) (hx hy : Array Pkt) : Prop where
  data : ∀ p ∈ hx.toList, DataOk x.snd.sentq p
  acks : ∀ p ∈ hy.toList, AcksLe y.rcv.pl p
  rel : RcvRel x.snd.sentq y.rcv
  cumLe : x.snd.cum ≤ y.rcv.pl
  pre : PrefixOk x.snd.wlog y.rcv

/-- for each side `x`: its endpoint invariant, and the link from `x` as sender to the other side as receiver -/
def SysInv (s : Sys) : Prop := ∀ x : Bool, EpInv (s.ep x) ∧ Link (s.ep x) (s.ep (!x)) (s.hist x) (s.hist (!x))

theorem Link.snd_step {x y : Ep} {hx hy : Array Pkt} (h : Link x y hx hy) (x' : Ep) (out : List Pkt)
    (hext : ∃ l, x'.snd.sentq = x.snd.sentq ++ l) (hw : ∃ l, x'.snd.wlog = x.snd.wlog ++ l)
    (hc : x'.snd.cum ≤ y.rcv.pl) (ho : ∀ p ∈ out, DataOk x'.snd.sentq p) : Link x' y (hx ++ out.toArray) hy := by
  obtain ⟨l, hl⟩ := hext
  obtain ⟨lw, hlw⟩ := hw
  refine ⟨?_, h.acks, by rw [hl]; exact h.rel.ext l, hc, by rw [hlw]; exact h.pre.ext lw⟩
  intro p hp
  simp only [Array.toList_append, List.mem_append] at hp
  rcases hp with hp | hp
  · rw [hl]; exact (h.data p hp).ext l
  · exact ho p (by simpa using hp)

theorem Link.rcv_step {x y : Ep} {hx hy : Array Pkt} (h : Link x y hx hy) (y' : Ep) (out : List Pkt)
    (hs : RcvStep x.snd.sentq x.snd.wlog y.rcv y'.rcv) (ho : ∀ p ∈ out, AcksLe y'.rcv.pl p) :
    Link x y' hx (hy ++ out.toArray) := by
  refine ⟨h.data, ?_, hs.rel, Nat.le_trans h.cumLe hs.pl, hs.pre⟩
  intro p hp
  simp only [Array.toList_append, List.mem_append] at hp
  rcases hp with hp | hp
  · exact (h.acks p hp).mono hs.pl
  · exact ho p (by simpa using hp)

theorem put_ep (s : Sys) (y x : Bool) (e : Ep) (o : List Pkt) : (s.put y e o).ep x = if x = y then e else s.ep x := by
  cases x <;> cases y <;> rfl
theorem put_hist (s : Sys) (y x : Bool) (e : Ep) (o : List Pkt) :
    (s.put y e o).hist x = if x = y then s.hist x ++ o.toArray else s.hist x := by
  cases x <;> cases y <;> rfl

/-- replacing endpoint `x` by `e'` and appending `out` to its history keeps the system invariant, given the
endpoint invariant of `e'`, what its send half did relative to the peer and what its receive half did -/
theorem put_inv (s : Sys) (x : Bool) (e' : Ep) (out : List Pkt) (h : SysInv s) (he : EpInv e')
    (hext : ∃ l, e'.snd.sentq = (s.ep x).snd.sentq ++ l) (hw : ∃ l, e'.snd.wlog = (s.ep x).snd.wlog ++ l)
    (hc : e'.snd.cum ≤ (s.ep (!x)).rcv.pl) (ho : ∀ p ∈ out, DataOk e'.snd.sentq p)
    (hs : RcvStep (s.ep (!x)).snd.sentq (s.ep (!x)).snd.wlog (s.ep x).rcv e'.rcv)
    (ha : ∀ p ∈ out, AcksLe e'.rcv.pl p) : SysInv (s.put x e' out) := by
  intro z
  by_cases hz : z = x
  · subst hz
    simp only [put_ep, put_hist, if_true, Bool.not_eq_self, if_false]
    exact ⟨he, (h z).2.snd_step e' out hext hw hc ho⟩
  · have hz' : z = !x := by cases z <;> cases x <;> simp_all
    subst hz'
    simp only [put_ep, put_hist, Bool.not_not, if_true, Bool.not_eq_self, if_false]
    have := (h (!x)).2
    simp only [Bool.not_not] at this
    exact ⟨(h (!x)).1, this.rcv_step e' out hs ha⟩

theorem put_inv_quiet (s : Sys) (x : Bool) (e' : Ep) (h : SysInv s) (he : EpInv e')
    (hq : e'.snd.sentq = (s.ep x).snd.sentq) (hw : ∃ l, e'.snd.wlog = (s.ep x).snd.wlog ++ l)
    (hc : e'.snd.cum ≤ (s.ep (!x)).rcv.pl)
    (hs : RcvStep (s.ep (!x)).snd.sentq (s.ep (!x)).snd.wlog (s.ep x).rcv e'.rcv) : SysInv (s.put x e' []) :=
  put_inv s x e' [] h he ⟨[], by rw [hq, List.append_nil]⟩ hw hc nofun hs nofun

/-- the peer's view of the receive half of endpoint `x`, unchanged -/
theorem SysInv.rcvRefl {s : Sys} (h : SysInv s) (x : Bool) :
    RcvStep (s.ep (!x)).snd.sentq (s.ep (!x)).snd.wlog (s.ep x).rcv (s.ep x).rcv := by
  have hy := (h (!x)).2
  rw [Bool.not_not] at hy
  exact RcvStep.refl hy.rel hy.pre

theorem put_inv_flags (s : Sys) (x : Bool) (e' : Ep) (h : SysInv s) (he : EpInv e')
    (hsnd : e'.snd = (s.ep x).snd) (hrcv : e'.rcv = (s.ep x).rcv) : SysInv (s.put x e' []) :=
  put_inv_quiet s x e' h he (by rw [hsnd]) ⟨[], by rw [hsnd, List.append_nil]⟩ (by rw [hsnd]; exact (h x).2.cumLe)
    (hrcv ▸ h.rcvRefl x)

theorem put_inv_core (s : Sys) (x : Bool) (e' : Ep) (h : SysInv s) (hc : ctlCore e' = ctlCore (s.ep x))
    (hr : e'.rcv = (s.ep x).rcv) : SysInv (s.put x e' []) :=
  put_inv_flags s x e' h ((h x).1.congr hc hr) (core_snd hc) hr

theorem init_sysInv : SysInv Sys.init := by
  intro x
  have hL : Link ({} : Ep) ({} : Ep) #[] #[] := by
    refine ⟨by simp, by simp, ⟨by simp, by simp, ?_, by simp⟩, by simp, ?_⟩
    · intro t ht; simp at ht
    · intro s; simp [onStream]
  cases x <;> exact ⟨init_inv, hL⟩

theorem read_rcvStep (e : Ep) (sid : Nat) (sq wlog : List Msg) (h : RcvRel sq e.rcv) (hp : PrefixOk wlog e.rcv)
    (hw : WlogOk wlog) (hsq : ∀ c ∈ sq, c ∈ wlog) : RcvStep sq wlog e.rcv (read e sid).rcv := by
  obtain ⟨d1, d2⟩ := drain_rel e.rcv.store.length e.rcv sid sq wlog h hp hw hsq
  have d3 := drain_got e.rcv.store.length e.rcv sid
  have hpl := (drain_pl e.rcv.store.length e.rcv sid).1
  simp only [read]
  split
  · exact ⟨⟨d1.plLe, d1.rqLt, d1.got, d1.storeIn⟩, d2.of_rlog rfl, by show e.rcv.pl ≤ (drain _ _ _).pl; omega, d3⟩
  · exact ⟨d1, d2, by omega, d3⟩

/-- one operation seen from the endpoint `e` it acts on, whose peer has sent `hist` so far: the endpoint after it
and what it puts on the wire -/
inductive EpStep (e : Ep) (hist : Array Pkt) : Ep → List Pkt → Prop
  | write (sid : Nat) : EpStep e hist (write e sid).1 []
  | shutdown : EpStep e hist (shutdownCall e).1 []
  | gather (d : List (List (Nat × Nat))) : EpStep e hist (writeLoopPass e d).1 (writeLoopPass e d).2
  | deliver (p : Pkt) (hp : p ∈ hist.toList) (hd : e.dead = false) : EpStep e hist (handlePkt e p) []
  | t2 : EpStep e hist (t2Fire e) []
  | ackt : EpStep e hist (ackFire e) []
  | read (sid : Nat) : EpStep e hist (read e sid) []
  | closeConn : EpStep e hist (closeConn e) []
  | closeApi : EpStep e hist (closeApi e) []
  | abort : EpStep e hist (abortCall e) []

/-- a delivery finds no packet or a dead receiver, or hands a packet its sender has sent to the live receiver -/
theorem step_deliver (s : Sys) (x : Bool) (i : Nat) : s.step (.deliver x i) = s ∨
    ∃ p ∈ (s.hist x).toList, (s.ep (!x)).dead = false ∧
      s.step (.deliver x i) = s.put (!x) (handlePkt (s.ep (!x)) p) [] := by
  simp only [Sys.step]
  split
  · exact Or.inl rfl
  · rename_i p hp
    split
    · exact Or.inl rfl
    · rename_i hd
      exact Or.inr ⟨p, Array.mem_toList_iff.2 (Array.mem_of_getElem? hp), Bool.eq_false_iff.2 hd, rfl⟩

/-- every system step is nothing at all (T3, a delivery that finds no packet or a dead receiver) or an `EpStep` of one endpoint -/
theorem step_eq (s : Sys) (op : Op) : s.step op = s ∨
    ∃ y e' o, EpStep (s.ep y) (s.hist (!y)) e' o ∧ s.step op = s.put y e' o := by
  cases op with
  | write x sid => exact Or.inr ⟨x, _, _, .write sid, rfl⟩
  | shutdown x => exact Or.inr ⟨x, _, _, .shutdown, rfl⟩
  | gather x d => exact Or.inr ⟨x, _, _, .gather d, rfl⟩
  | deliver x i =>
    rcases step_deliver s x i with h | ⟨p, hp, hd, h⟩
    · exact Or.inl h
    · exact Or.inr ⟨!x, _, _, .deliver p (by rwa [Bool.not_not]) hd, h⟩
  | t2 x => exact Or.inr ⟨x, _, _, .t2, rfl⟩
  | t3 x => exact Or.inl rfl
  | ackt x => exact Or.inr ⟨x, _, _, .ackt, rfl⟩
  | read x sid => exact Or.inr ⟨x, _, _, .read sid, rfl⟩
  | closeConn x => exact Or.inr ⟨x, _, _, .closeConn, rfl⟩
  | closeApi x => exact Or.inr ⟨x, _, _, .closeApi, rfl⟩
  | abort x => exact Or.inr ⟨x, _, _, .abort, rfl⟩

theorem step_inv (s : Sys) (op : Op) (h : SysInv s) : SysInv (s.step op) := by
  rcases step_eq s op with h' | ⟨x, e', o, hs, h'⟩ <;> rw [h']
  · exact h
  cases hs with
  | write sid =>
    have hshape : (write (s.ep x) sid).1.snd.sentq = (s.ep x).snd.sentq ∧ (write (s.ep x) sid).1.snd.cum = (s.ep x).snd.cum ∧
        (∃ l, (write (s.ep x) sid).1.snd.wlog = (s.ep x).snd.wlog ++ l) ∧ (write (s.ep x) sid).1.rcv = (s.ep x).rcv := by
      unfold write
      split
      · exact ⟨rfl, rfl, ⟨_, rfl⟩, rfl⟩
      · exact ⟨rfl, rfl, ⟨[], (List.append_nil _).symm⟩, rfl⟩
    obtain ⟨w1, w2, w3, w4⟩ := hshape
    exact put_inv_quiet s x _ h (write_inv _ sid (h x).1) w1 w3 (by rw [w2]; exact (h x).2.cumLe) (w4 ▸ h.rcvRefl x)
  | shutdown => exact put_inv_flags s x _ h (shutdownCall_inv _ (h x).1) (shutdownCall_snd _) (shutdownCall_rcv _)
  | gather d =>
    obtain ⟨o1, o3, o2⟩ := writeLoopPass_out (s.ep x) d
    exact put_inv s x _ _ h (writeLoopPass_inv _ d (h x).1) o1.ext ⟨[], by rw [o1.wlog, List.append_nil]⟩
      (by rw [o1.cum]; exact (h x).2.cumLe) (fun p hp => (o2 p hp).1) (o3 ▸ h.rcvRefl x)
      (fun p hp => by rw [o3]; exact (o2 p hp).2)
  | deliver p hmem hnd =>
    have hx := (h x).2
    have hy := (h (!x)).2
    rw [Bool.not_not] at hy
    obtain ⟨s1, s2, s3⟩ := handlePkt_sndShape (s.ep x) p _ hx.cumLe (hx.acks p hmem)
    exact put_inv_quiet s x _ h (handlePkt_inv _ p (h x).1) s1 ⟨[], by rw [s2, List.append_nil]⟩ s3
      (handlePkt_rcvStep _ p _ _ hy.rel hy.pre (hy.data p hmem))
  | t2 => exact put_inv_core s x _ h (t2Fire_core _) (t2Fire_rcv _)
  | ackt => exact put_inv_core s x _ h (ackFire_core _) (ackFire_rcv _)
  | read sid =>
    have hy := (h (!x)).2
    rw [Bool.not_not] at hy
    exact put_inv_quiet s x _ h (read_inv _ sid (h x).1) rfl ⟨[], (List.append_nil _).symm⟩ (h x).2.cumLe
      (read_rcvStep _ sid _ _ hy.rel hy.pre (h (!x)).1.snd.wlogOk (h (!x)).1.snd.sentIn)
  | closeConn =>
    refine put_inv_flags s x _ h (closeConn_inv _ (h x).1) ?_ ?_ <;> unfold closeConn <;> split <;> rfl
  | closeApi =>
    refine put_inv_flags s x _ h (closeApi_inv _ (h x).1) ?_ ?_ <;> unfold closeApi <;> split <;> rfl
  | abort => exact put_inv_core s x _ h rfl rfl

theorem run_inv_from (s : Sys) (ops : List Op) (h : SysInv s) : SysInv (s.run ops) :=
  ListAux.foldl_inv (P := SysInv) ops h fun s op _ h => step_inv s op h

theorem run_inv (ops : List Op) : SysInv (Sys.init.run ops) := run_inv_from _ ops init_sysInv

end Sd
