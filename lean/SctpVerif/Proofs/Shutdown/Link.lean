import SctpVerif.Proofs.Shutdown.Inv
/-!
The ingredients of the relation between a sending endpoint, the receiving endpoint and the two packet histories of the
shutdown model `Sd` (`RcvRel`, `PrefixOk`, `RcvStep`, `OutOk`, `SndExt`, `PassOut`, `DataOut`) and their preservation; the
relation itself, `structure Link`, is assembled in `Sys.lean`.
-/
namespace Sd

/-- handed to the stream: still in its reassembly queue, or already read -/
def Got (r : Rcv) (c : Msg) : Prop := c ∈ r.store ∨ c ∈ r.rlog

/-- every DATA chunk of the packet carries the message the sender gave that TSN -/
def DataOk (sq : List Msg) (p : Pkt) : Prop := ∀ t m s k, Chunk.data t m s k ∈ p → sq[t]? = some (m, s, k)

/-- every cumulative acknowledgement in the packet is at most `b` -/
def AcksLe (b : Nat) (p : Pkt) : Prop := (∀ c g, Chunk.sack c g ∈ p → c ≤ b) ∧ (∀ c, Chunk.shutdown c ∈ p → c ≤ b)

/-- the receive half relative to the sender's TSN assignment `sq` -/
structure RcvRel (sq : List Msg) (r : Rcv) : Prop where
  plLe : r.pl ≤ sq.length
  rqLt : ∀ t ∈ r.rq, t < sq.length
  got : ∀ t, (t < r.pl ∨ t ∈ r.rq) → ∃ c, sq[t]? = some c ∧ Got r c
  storeIn : ∀ c ∈ r.store, c ∈ sq

/-- what was read from each stream is a prefix of what was written to it, in order -/
def PrefixOk (wlog : List Msg) (r : Rcv) : Prop :=
  ∀ s, onStream r.rlog s = (onStream wlog s).take (onStream r.rlog s).length

theorem readOn_eq (r : Rcv) (s : Nat) : r.readOn s = (onStream r.rlog s).map (·.1) := rfl
theorem readOn_length (r : Rcv) (s : Nat) : (r.readOn s).length = (onStream r.rlog s).length := by
  simp [Rcv.readOn, onStream]

theorem DataOk.ext {sq : List Msg} {p : Pkt} (h : DataOk sq p) (ext : List Msg) : DataOk (sq ++ ext) p := by
  intro t m s k hm
  have := h t m s k hm
  obtain ⟨hlt, -⟩ := List.getElem?_eq_some_iff.1 this
  rw [List.getElem?_append_left hlt]; exact this

theorem AcksLe.mono {b b' : Nat} {p : Pkt} (h : AcksLe b p) (hb : b ≤ b') : AcksLe b' p :=
  ⟨fun c g hm => Nat.le_trans (h.1 c g hm) hb, fun c hm => Nat.le_trans (h.2 c hm) hb⟩

theorem RcvRel.ext {sq : List Msg} {r : Rcv} (h : RcvRel sq r) (ext : List Msg) : RcvRel (sq ++ ext) r := by
  refine ⟨?_, ?_, ?_, ?_⟩
  · simp only [List.length_append]; have := h.plLe; omega
  · intro t ht; simp only [List.length_append]; have := h.rqLt t ht; omega
  · intro t ht
    obtain ⟨c, hc, hg⟩ := h.got t ht
    obtain ⟨hlt, -⟩ := List.getElem?_eq_some_iff.1 hc
    exact ⟨c, by rw [List.getElem?_append_left hlt]; exact hc, hg⟩
  · intro c hc; exact List.mem_append_left _ (h.storeIn c hc)

theorem PrefixOk.ext {wlog : List Msg} {r : Rcv} (h : PrefixOk wlog r) (ext : List Msg) : PrefixOk (wlog ++ ext) r := by
  intro s
  have hs := h s
  have hlen : (onStream r.rlog s).length ≤ (onStream wlog s).length := by
    have := congrArg List.length hs
    simp only [List.length_take] at this
    omega
  simp only [onStream, List.filter_append] at hs hlen ⊢
  rw [List.take_append_of_le_length hlen]
  exact hs

theorem Got.mono {r r' : Rcv} {c : Msg} (h : Got r c) (hs : ∀ x ∈ r.store, x ∈ r'.store ∨ x ∈ r'.rlog)
    (hl : ∀ x ∈ r.rlog, x ∈ r'.rlog) : Got r' c := by
  rcases h with h | h
  · exact hs c h
  · exact Or.inr (hl _ h)

theorem popLoop_spec (n pl : Nat) (rq : List Nat) (B : Nat) (hb : ∀ t ∈ rq, t < B) (hpl : pl ≤ B) :
    pl ≤ (popLoop n pl rq).1 ∧ (popLoop n pl rq).1 ≤ B ∧ (∀ t ∈ (popLoop n pl rq).2, t ∈ rq) ∧
    (∀ t, (t < (popLoop n pl rq).1 ∨ t ∈ (popLoop n pl rq).2) → (t < pl ∨ t ∈ rq)) := by
  induction n generalizing pl rq with
  | zero => exact ⟨Nat.le_refl _, hpl, fun t h => h, fun t h => h⟩
  | succ n ih =>
    simp only [popLoop]
    split
    · rename_i hc
      have hc : pl ∈ rq := by simpa using hc
      have hsub : ∀ t ∈ rq.erase pl, t ∈ rq := fun t ht => List.mem_of_mem_erase ht
      obtain ⟨i1, i2, i3, i4⟩ := ih (pl + 1) (rq.erase pl) (fun t ht => hb t (hsub t ht)) (hb pl hc)
      refine ⟨by omega, i2, fun t ht => hsub t (i3 t ht), ?_⟩
      intro t ht
      rcases i4 t ht with h | h
      · by_cases htp : t = pl
        · right; rw [htp]; exact hc
        · left; omega
      · right; exact hsub t h
    · exact ⟨Nat.le_refl _, hpl, fun t h => h, fun t h => h⟩

/-- the push: a chunk carrying what the sender gave TSN `t` joins the payload queue and its stream -/
theorem RcvRel.push {sq : List Msg} {r : Rcv} (h : RcvRel sq r) {t m s k : Nat} (hd : sq[t]? = some (m, s, k)) :
    RcvRel sq { r with rq := t :: r.rq, store := r.store ++ [(m, s, k)] } := by
  obtain ⟨hlt, hget⟩ := List.getElem?_eq_some_iff.1 hd
  refine ⟨h.plLe, fun t' ht' => ?_, fun t' ht' => ?_, fun c hc => ?_⟩
  · rcases List.mem_cons.1 ht' with rfl | ht'
    · exact hlt
    · exact h.rqLt t' ht'
  · by_cases hEq : t' = t
    · exact ⟨_, hEq ▸ hd, Or.inl (List.mem_append_right _ (List.mem_singleton_self _))⟩
    · obtain ⟨c, hc, hg⟩ := h.got t' (ht'.imp_right fun h' => (List.mem_cons.1 h').resolve_left hEq)
      exact ⟨c, hc, hg.imp (List.mem_append_left _) id⟩
  · rcases List.mem_append.1 hc with hc | hc
    · exact h.storeIn c hc
    · rw [List.mem_singleton.1 hc, ← hget]; exact List.getElem_mem hlt

/-- the pop loop: the cumulative point moves over what the queue holds contiguously -/
theorem RcvRel.pop {sq : List Msg} {r : Rcv} (h : RcvRel sq r) (n : Nat) :
    RcvRel sq { r with pl := (popLoop n r.pl r.rq).1, rq := (popLoop n r.pl r.rq).2 } ∧ r.pl ≤ (popLoop n r.pl r.rq).1 := by
  obtain ⟨p1, p2, p3, p4⟩ := popLoop_spec n r.pl r.rq sq.length h.rqLt h.plLe
  exact ⟨⟨p2, fun t ht => h.rqLt t (p3 t ht), fun t ht => h.got t (p4 t ht), h.storeIn⟩, p1⟩

theorem rcvData_rel (sq : List Msg) (r : Rcv) (can : Bool) (t m s k : Nat) (h : RcvRel sq r)
    (hd : sq[t]? = some (m, s, k)) :
    RcvRel sq (rcvData r can t m s k) ∧ r.pl ≤ (rcvData r can t m s k).pl ∧
      (∀ c, Got r c → Got (rcvData r can t m s k) c) := by
  cases can
  · exact ⟨(h.pop _).1, (h.pop _).2, fun _ hc => hc⟩
  · exact ⟨((h.push hd).pop _).1, ((h.push hd).pop _).2, fun _ hc => hc.imp (List.mem_append_left _) id⟩

/-- the `i`-th message written to a stream carries sequence number `i` -/
theorem onStream_ssn (l : List Msg) (hw : WlogOk l) (s i : Nat) (hi : i < (onStream l s).length) :
    ((onStream l s)[i]).2.2 = i := by
  have h2 : ((onStream l s).map (·.2.2))[i]'(by simpa using hi) = i := by
    simp only [hw s, List.getElem_range]
  simpa only [List.getElem_map] using h2

theorem onStream_nth (l : List Msg) (hw : WlogOk l) (c : Msg) (hc : c ∈ l) :
    ∃ h : c.2.2 < (onStream l c.2.1).length, (onStream l c.2.1)[c.2.2] = c := by
  have hm : c ∈ onStream l c.2.1 := List.mem_filter.2 ⟨hc, beq_self_eq_true _⟩
  obtain ⟨i, hi, hget⟩ := List.getElem_of_mem hm
  have := onStream_ssn l hw c.2.1 i hi
  rw [hget] at this
  subst this
  exact ⟨hi, hget⟩

theorem Got.read {r : Rcv} {x : Msg} (c : Msg) (hx : Got r x) : Got { r with store := r.store.erase c, rlog := r.rlog ++ [c] } x := by
  rcases hx with hx | hx
  · by_cases hxc : x = c
    · exact Or.inr (hxc ▸ List.mem_append_right _ (List.mem_singleton_self x))
    · exact Or.inl ((List.mem_erase_of_ne hxc).2 hx)
  · exact Or.inr (List.mem_append_left _ hx)

theorem drain_got (n : Nat) (r : Rcv) (s : Nat) : ∀ c, Got r c → Got (drain n r s) c :=
  drain_preserves (R := fun r r' => ∀ c, Got r c → Got r' c) (fun _ _ h => h) (fun h1 h2 c hc => h2 c (h1 c hc)) s
    (fun _ c _ _ _ _ hx => hx.read c) n r

theorem drain_rel (n : Nat) (r : Rcv) (s : Nat) (sq wlog : List Msg) (h : RcvRel sq r) (hp : PrefixOk wlog r)
    (hw : WlogOk wlog) (hsq : ∀ c ∈ sq, c ∈ wlog) : RcvRel sq (drain n r s) ∧ PrefixOk wlog (drain n r s) := by
  refine drain_preserves (R := fun r r' => RcvRel sq r ∧ PrefixOk wlog r → RcvRel sq r' ∧ PrefixOk wlog r')
    (fun _ h => h) (fun h1 h2 h => h2 (h1 h)) s (fun r c hc hcs hck ⟨h, hp⟩ => ⟨?_, ?_⟩) n r ⟨h, hp⟩
  · refine ⟨h.plLe, h.rqLt, fun t ht => ?_, fun x hx => h.storeIn x (List.mem_of_mem_erase hx)⟩
    obtain ⟨x, hx, hg⟩ := h.got t ht
    exact ⟨x, hx, hg.read c⟩
  · -- the message read is the next one written to its stream, since sequence numbers count the writes
    intro s'
    show onStream (r.rlog ++ [c]) s' = (onStream wlog s').take (onStream (r.rlog ++ [c]) s').length
    rw [onStream_append]
    by_cases hs : c.2.1 = s'
    · rw [hcs] at hs
      subst hs
      simp only [hcs, if_true, List.length_append, List.length_singleton]
      obtain ⟨hlt, hget⟩ := onStream_nth wlog hw c (hsq c (h.storeIn c hc))
      rw [readOn_length] at hck
      simp only [hcs, hck] at hlt hget
      rw [List.take_succ_eq_append_getElem hlt, ← hp s, hget]
    · simp only [hs, if_false]; exact hp s'

theorem advance_sndEq (e : Ep) (st : Nat) : (advance e st).snd = e.snd := advance_snd e st

theorem handleSack_sndShape (e : Ep) (c : Nat) (g : List (Nat × Nat)) :
    (handleSack e c g).snd = e.snd ∨ (handleSack e c g).snd = { e.snd with cum := c } := by
  rcases handleSack_cases e c g with h | ⟨-, -, h⟩ <;> rw [h]
  · exact Or.inl rfl
  · exact Or.inr (advance_snd _ _)

theorem handleShutdown_sndShape (e : Ep) (c : Nat) :
    (handleShutdown e c).snd = e.snd ∨ (handleShutdown e c).snd = { e.snd with cum := c } := by
  rcases handleShutdown_cases e c with ⟨h, -⟩ | ⟨-, -, h⟩ | ⟨-, -, e2, ha, h⟩
  · exact Or.inl (core_snd h)
  · rw [h]; exact Or.inl rfl
  · rw [h, finishShutdown_snd, ← enterReceived_snd e]
    rcases ackCum_cases _ _ _ ha with h2 | ⟨-, h2⟩ <;> rw [h2]
    · exact Or.inl rfl
    · exact Or.inr rfl

/-- an inbound chunk leaves the TSN assignment and the accepted writes alone and moves the cumulative ack point at
most to what the chunk acknowledges -/
theorem handleChunk_sndShape (e : Ep) (ch : Chunk) (B : Nat) (p : Pkt) (ha : AcksLe B p) (hm : ch ∈ p)
    (hB : e.snd.cum ≤ B) :
    (handleChunk e ch).snd.sentq = e.snd.sentq ∧ (handleChunk e ch).snd.wlog = e.snd.wlog ∧ (handleChunk e ch).snd.cum ≤ B := by
  have same : ∀ {x : Snd}, x = e.snd → x.sentq = e.snd.sentq ∧ x.wlog = e.snd.wlog ∧ x.cum ≤ B :=
    fun h => by rw [h]; exact ⟨rfl, rfl, hB⟩
  have moved : ∀ {x : Snd} {c : Nat}, x = { e.snd with cum := c } → c ≤ B →
      x.sentq = e.snd.sentq ∧ x.wlog = e.snd.wlog ∧ x.cum ≤ B := fun h hc => by rw [h]; exact ⟨rfl, rfl, hc⟩
  cases ch with
  | data t m s k => exact same (core_snd (handleData_core e t m s k))
  | sack c g =>
    rcases handleSack_sndShape e c g with h | h
    · exact same h
    · exact moved h (ha.1 c g hm)
  | shutdown c =>
    rcases handleShutdown_sndShape e c with h | h
    · exact same h
    · exact moved h (ha.2 c hm)
  | shutdownAck => exact same (handleShutdownAck_snd e)
  | shutdownComplete => exact same (handleShutdownComplete_snd e)
  | abort => exact ⟨rfl, rfl, hB⟩

theorem handlePkt_sndShape (e : Ep) (p : Pkt) (B : Nat) (hB : e.snd.cum ≤ B) (ha : AcksLe B p) :
    (handlePkt e p).snd.sentq = e.snd.sentq ∧ (handlePkt e p).snd.wlog = e.snd.wlog ∧ (handlePkt e p).snd.cum ≤ B :=
  handlePkt_preserves
    (R := fun e e' => e.snd.cum ≤ B → e'.snd.sentq = e.snd.sentq ∧ e'.snd.wlog = e.snd.wlog ∧ e'.snd.cum ≤ B)
    (fun _ h => ⟨rfl, rfl, h⟩)
    (fun h1 h2 h => ⟨((h2 (h1 h).2.2).1).trans (h1 h).1, ((h2 (h1 h).2.2).2.1).trans (h1 h).2.1, (h2 (h1 h).2.2).2.2⟩)
    (fun _ h => ⟨rfl, rfl, h⟩) (fun e h => by rw [core_snd (chunksEnd_core e)]; exact ⟨rfl, rfl, h⟩) p
    (fun ch hm e => handleChunk_sndShape e ch B p ha hm) e hB

theorem PrefixOk.of_rlog {wlog : List Msg} {r r' : Rcv} (h : PrefixOk wlog r) (hr : r'.rlog = r.rlog) : PrefixOk wlog r' := by
  intro s
  rw [hr]; exact h s

/-- what one inbound step does to the receive half, relative to the peer's send half -/
structure RcvStep (sq wlog : List Msg) (r r' : Rcv) : Prop where
  rel : RcvRel sq r'
  pre : PrefixOk wlog r'
  pl : r.pl ≤ r'.pl
  got : ∀ c, Got r c → Got r' c

theorem RcvStep.refl {sq wlog : List Msg} {r : Rcv} (h : RcvRel sq r) (hp : PrefixOk wlog r) : RcvStep sq wlog r r :=
  ⟨h, hp, Nat.le_refl _, fun _ hc => hc⟩

theorem RcvStep.trans {sq wlog : List Msg} {r r' r'' : Rcv} (h1 : RcvStep sq wlog r r') (h2 : RcvStep sq wlog r' r'') :
    RcvStep sq wlog r r'' :=
  ⟨h2.rel, h2.pre, Nat.le_trans h1.pl h2.pl, fun c hc => h2.got c (h1.got c hc)⟩

theorem handleChunk_rcvStep (e : Ep) (ch : Chunk) (sq wlog : List Msg) (p : Pkt) (hd : DataOk sq p) (hm : ch ∈ p)
    (h : RcvRel sq e.rcv) (hp : PrefixOk wlog e.rcv) : RcvStep sq wlog e.rcv (handleChunk e ch).rcv := by
  rcases handleChunk_rcv e ch with h' | ⟨can, t, m, s, k, rfl, h'⟩ <;> rw [h']
  · exact RcvStep.refl h hp
  · obtain ⟨r1, r2, r3⟩ := rcvData_rel sq e.rcv can t m s k h (hd t m s k hm)
    exact ⟨r1, hp.of_rlog (rcvData_rlog _ _ _ _ _ _), r2, r3⟩

theorem handlePkt_rcvStep (e : Ep) (p : Pkt) (sq wlog : List Msg) (h : RcvRel sq e.rcv) (hp : PrefixOk wlog e.rcv)
    (hd : DataOk sq p) : RcvStep sq wlog e.rcv (handlePkt e p).rcv :=
  handlePkt_preserves (R := fun e e' => RcvRel sq e.rcv → PrefixOk wlog e.rcv → RcvStep sq wlog e.rcv e'.rcv)
    (fun _ => RcvStep.refl) (fun h1 h2 h hp => (h1 h hp).trans (h2 (h1 h hp).rel (h1 h hp).pre))
    (fun _ => RcvStep.refl) (fun e h hp => (chunksEnd_rcv e).symm ▸ RcvStep.refl h hp) p
    (fun ch hm e => handleChunk_rcvStep e ch sq wlog p hd hm) e h hp

/-- every packet: DATA chunks carry what the sender assigned, acknowledgements are at most `b` -/
def OutOk (sq : List Msg) (b : Nat) (ps : List Pkt) : Prop := ∀ p ∈ ps, DataOk sq p ∧ AcksLe b p

theorem OutOk.nil (sq : List Msg) (b : Nat) : OutOk sq b [] := nofun
theorem OutOk.one {sq : List Msg} {b : Nat} {p : Pkt} (hd : DataOk sq p) (ha : AcksLe b p) : OutOk sq b [p] :=
  fun _ hq => List.mem_singleton.1 hq ▸ ⟨hd, ha⟩
theorem OutOk.append {sq : List Msg} {b : Nat} {p q : List Pkt} (h1 : OutOk sq b p) (h2 : OutOk sq b q) : OutOk sq b (p ++ q) :=
  fun x hx => (List.mem_append.1 hx).elim (h1 x) (h2 x)
theorem OutOk.ext {sq : List Msg} {b : Nat} {ps : List Pkt} (h : OutOk sq b ps) (ext : List Msg) : OutOk (sq ++ ext) b ps :=
  fun p hp => ⟨(h p hp).1.ext ext, (h p hp).2⟩

/-- a packet of one chunk that is neither DATA nor an acknowledgement above `b` -/
theorem OutOk.ctl (sq : List Msg) {b : Nat} {ch : Chunk} (hd : ∀ t m s k, ch ≠ .data t m s k)
    (hs : ∀ c g, ch = .sack c g → c ≤ b) (hsh : ∀ c, ch = .shutdown c → c ≤ b) : OutOk sq b [[ch]] :=
  .one (fun t m s k hm => absurd (List.mem_singleton.1 hm).symm (hd t m s k))
    ⟨fun c g hm => hs c g (List.mem_singleton.1 hm).symm, fun c hm => hsh c (List.mem_singleton.1 hm).symm⟩

/-- the send half after a sending step: TSN assignment extended, everything else as before -/
structure SndExt (x x' : Snd) : Prop where
  ext : ∃ l, x'.sentq = x.sentq ++ l
  wlog : x'.wlog = x.wlog
  cum : x'.cum = x.cum

theorem SndExt.refl (x : Snd) : SndExt x x := ⟨⟨[], (List.append_nil _).symm⟩, rfl, rfl⟩
theorem SndExt.trans {x x' x'' : Snd} (h1 : SndExt x x') (h2 : SndExt x' x'') : SndExt x x'' := by
  obtain ⟨l1, e1⟩ := h1.ext
  obtain ⟨l2, e2⟩ := h2.ext
  exact ⟨⟨l1 ++ l2, by rw [e2, e1, List.append_assoc]⟩, h2.wlog.trans h1.wlog, h2.cum.trans h1.cum⟩

/-- a stretch of a write-loop pass from `e` to `e'` putting `out` on the wire: the TSN assignment is only extended,
the receive half is not touched, DATA is as assigned and nothing acknowledges more than was received -/
structure PassOut (e e' : Ep) (out : List Pkt) : Prop where
  ext : SndExt e.snd e'.snd
  rcv : e'.rcv = e.rcv
  ok : OutOk e'.snd.sentq e.rcv.pl out

theorem PassOut.refl (e : Ep) : PassOut e e [] := ⟨.refl _, rfl, .nil _ _⟩

theorem PassOut.trans {e e' e'' : Ep} {o1 o2 : List Pkt} (h1 : PassOut e e' o1) (h2 : PassOut e' e'' o2) :
    PassOut e e'' (o1 ++ o2) := by
  refine ⟨h1.ext.trans h2.ext, h2.rcv.trans h1.rcv, .append ?_ (h1.rcv ▸ h2.ok)⟩
  obtain ⟨l, hl⟩ := h2.ext.ext
  rw [hl]; exact h1.ok.ext l

/-- the stretch may start after a step that touched neither half -/
theorem PassOut.after {e e1 e' : Ep} {out : List Pkt} (hs : e1.snd = e.snd) (hr : e1.rcv = e.rcv)
    (h : PassOut e1 e' out) : PassOut e e' out := ⟨hs ▸ h.ext, h.rcv.trans hr, hr ▸ h.ok⟩

theorem gatherSack_out (e : Ep) : PassOut e (gatherSack e).1 (gatherSack e).2 := by
  refine ⟨gatherSack_snd e ▸ .refl _, gatherSack_rcv e, ?_⟩
  unfold gatherSack
  split
  · exact .ctl _ nofun (fun c g h => by cases h; exact Nat.le_refl _) nofun
  · exact .nil _ _

theorem gatherShut_out (e : Ep) : PassOut e (gatherShut e).1 (gatherShut e).2.1 := by
  refine ⟨gatherShut_snd e ▸ .refl _, gatherShut_rcv e, ?_⟩
  rcases gatherShut_cases e with ⟨-, h⟩ | ⟨-, h | h | h⟩ <;> rw [h]
  · exact .ctl _ nofun nofun nofun
  · exact .ctl _ nofun nofun nofun
  · exact .ctl _ nofun nofun (fun c h => by cases h; exact Nat.le_refl _)
  · exact .nil _ _

theorem dataOnly_acks (b : Nat) (p : Pkt) (h : ∀ ch ∈ p, ∃ t m s k, ch = Chunk.data t m s k) : AcksLe b p := by
  constructor
  · intro c g hm; obtain ⟨t, m, s, k, he⟩ := h _ hm; cases he
  · intro c hm; obtain ⟨t, m, s, k, he⟩ := h _ hm; cases he

/-- what the DATA chunks of one packet do: the assignment is extended, each chunk carries what its TSN was given -/
structure DataOut (e e' : Ep) (p : Pkt) : Prop where
  ext : SndExt e.snd e'.snd
  rcv : e'.rcv = e.rcv
  ok : DataOk e'.snd.sentq p
  data : ∀ ch ∈ p, ∃ t m s k, ch = Chunk.data t m s k

theorem sendOne_out (e : Ep) (tm : Nat × Nat) : DataOut e (sendOne e tm).1 (sendOne e tm).2 := by
  rcases sendOne_cases e tm with h | ⟨c, hc, h⟩ | ⟨c, hlen, -, h⟩ <;> rw [h]
  · exact ⟨.refl _, rfl, nofun, nofun⟩
  · refine ⟨.refl _, rfl, fun t m s k hm => ?_, fun ch hm => ⟨_, _, _, _, List.mem_singleton.1 hm⟩⟩
    cases List.mem_singleton.1 hm; exact hc
  · refine ⟨⟨⟨[c], rfl⟩, rfl, rfl⟩, rfl, fun t m s k hm => ?_, fun ch hm => ⟨_, _, _, _, List.mem_singleton.1 hm⟩⟩
    cases List.mem_singleton.1 hm
    rw [hlen]; exact List.getElem?_concat_length

theorem sendPkt_out (e : Ep) (l : List (Nat × Nat)) : DataOut e (sendPkt e l).1 (sendPkt e l).2 := by
  induction l generalizing e with
  | nil => exact ⟨.refl _, rfl, nofun, nofun⟩
  | cons tm rest ih =>
    obtain ⟨a1, ar, a2, a3⟩ := sendOne_out e tm
    obtain ⟨b1, br, b2, b3⟩ := ih (sendOne e tm).1
    obtain ⟨l, hl⟩ := b1.ext
    exact ⟨a1.trans b1, br.trans ar, fun t m s k hm => (List.mem_append.1 hm).elim (hl ▸ (a2.ext l) t m s k) (b2 t m s k),
      fun ch hm => (List.mem_append.1 hm).elim (a3 ch) (b3 ch)⟩

theorem sendData_out (e : Ep) (d : List (List (Nat × Nat))) : PassOut e (sendData e d).1 (sendData e d).2 := by
  induction d generalizing e with
  | nil => exact .refl e
  | cons p rest ih =>
    obtain ⟨a1, ar, a2, a3⟩ := sendPkt_out e p
    have h1 : PassOut e (sendPkt e p).1 (if (sendPkt e p).2.isEmpty then [] else [(sendPkt e p).2]) := by
      refine ⟨a1, ar, ?_⟩
      split
      · exact .nil _ _
      · exact .one a2 (dataOnly_acks _ _ a3)
    exact h1.trans (ih _)

theorem passRel_out : PassRel PassOut :=
  ⟨.refl, .trans, gatherSack_out, gatherShut_out, sendData_out, fun _ => .after (advance_snd _ _) (advance_rcv _ _) (.refl _),
    fun _ => ⟨.refl _, rfl, .ctl _ nofun nofun nofun⟩⟩

theorem writeLoopPass_out (e : Ep) (d : List (List (Nat × Nat))) : PassOut e (writeLoopPass e d).1 (writeLoopPass e d).2 := by
  unfold writeLoopPass
  split
  · exact .refl e
  · obtain ⟨a1, a2, a3⟩ := passRel_out.gather e d
    dsimp only
    split
    · exact ⟨a1, a2, a3⟩
    · exact ⟨a1, a2, a3⟩

end Sd
