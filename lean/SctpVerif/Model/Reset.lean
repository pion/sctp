import SctpVerif.Gen.Consts
import SctpVerif.Gen.Funcs
/-!
L0 model of outgoing stream reset (RFC 6525 as pion/sctp implements it) between two ESTABLISHED associations:
stream.go (`Close`, `WriteSCTP`/`packetize`, `ReadSCTP`, `onInboundStreamReset`, `resetOutgoingStreamSequenceNumbers`),
association.go (`OpenStream`/`getOrCreateStream`/`createStream`, `sendResetRequest`, `popPendingDataChunksToSend`
for what concerns the end-of-stream marker, `gatherOutboundDataAndReconfigPackets`, `gatherOutboundReconfigPackets`,
`handleData`/`acceptPayloadData`/`handlePeerLastTSNAndAcknowledgement`, `handleReconfig`/`handleReconfigParam`,
`resetStreamsIfAny`, `rememberPerformedReset`, `resetOutgoingStreamSequenceNumbers`, T-reconfig expiry),
pending_queue.go (order in which entries may leave the queue), reassembly_queue.go for unfragmented messages.

Two endpoints and the history of every packet each side ever sent; `deliver x i` hands the i-th packet ever sent by
`x` to the other side: never choosing it is loss, twice is duplication, any order is reordering, an old index is a
stale replay. Stream objects are addressed by handle (index into `objs`): the application keeps its `*Stream` after the
association dropped it from `a.streams`.

What is abstracted (all quantified over in the theorems, recorded from the real code by the harness):
* congestion / flow control, RACK, T3: WHICH pending entries leave the queue in one `gatherOutbound` call (`sel`), and
  which already sent chunks are put on the wire again (`pre`, `post`) are inputs of `gather`; the model only insists
  that `sel` respects the queue discipline and that retransmitted TSNs were sent before;
* whether a SACK is due (`sack`); SACK processing at the sender changes nothing the model carries;
* TSN / RSN / SSN / MID are natural numbers (no wrap-around: fewer than 2^31 TSNs, 2^15 SSNs per run — C16's matter);
* messages are unfragmented (one chunk); the receive buffer is never full; `rememberPerformedReset` never prunes
  (fewer than 2048 reset requests per direction). Where the model meets one of the first two limits it sets `unsup`;
  the number of reset requests is not counted.
Core-only (linked into the driver).
-/
namespace Rs

/-- one unfragmented user message as a DATA / I-DATA chunk body -/
structure Data where
  sid : Nat
  unord : Bool
  seq : Nat      -- SSN (DATA) or MID (I-DATA)
  msg : Nat      -- message id (first four payload bytes)
  len : Nat
  wobj : Nat     -- ghost: handle (at the sender) of the stream object that wrote it
  gen : Nat := 0 -- ghost: incarnation number of that object
  deriving Repr, DecidableEq, Inhabited

/-- pending-queue entry: a message or the end-of-stream marker `sendResetRequest` queues (nil user data) -/
inductive Item where
  | data (d : Data)
  | marker (sid : Nat) (wobj : Nat)
  deriving Repr, DecidableEq, Inhabited

def Item.sid : Item → Nat
  | .data d => d.sid
  | .marker s _ => s

def Item.isUnord : Item → Bool
  | .data d => d.unord
  | .marker .. => false

structure Chunk where
  tsn : Nat
  d : Data
  deriving Repr, DecidableEq, Inhabited

/-- a packet on the wire -/
inductive Msg where
  | data (cs : List Chunk)
  | sack (cum : Nat)
  | req (rsn : Nat) (last : Nat) (sids : List Nat)   -- outgoing SSN reset request
  | resp (rsn : Nat) (result : Nat)                   -- re-configuration response
  deriving Repr, DecidableEq, Inhabited

/-- queued message of the reassembly queue -/
structure QMsg where
  seq : Nat
  msg : Nat
  len : Nat
  deriving Repr, DecidableEq, Inhabited

/-- a `*Stream` -/
structure Obj where
  sid : Nat
  state : Nat := Gen.StreamStateOpen
  ssn : Nat := 0          -- sequenceNumber
  omid : Nat := 0         -- nextOrderedMID
  umid : Nat := 0         -- nextUnorderedMID
  readErr : Bool := false -- io.EOF (set by onInboundStreamReset)
  nextSeq : Nat := 0      -- reassemblyQueue.nextSSN / nextMID
  ord : List QMsg := []   -- ordered messages, sorted by seq
  unord : List QMsg := [] -- complete unordered messages, arrival order
  -- ghost
  gen : Nat := 0                   -- incarnation of the identifier this object belongs to
  wrote : List (Nat × Bool) := []  -- messages Write accepted on this object: (id, unordered), in order
  got : List (Nat × Bool) := []    -- what Read has returned, in order: (id, came from the unordered queue)
  eofSeen : Bool := false          -- Read has returned EOF
  rx : List Chunk := []            -- every chunk handed to this object's reassembly queue
  deriving Repr, DecidableEq, Inhabited

/-! ### performed-request bookkeeping, exactly as in the code (uint32, serial-number comparison, trimming)

`Ep.perf` below is the abstraction the two-endpoint model uses (a request sequence number once performed stays
performed); `PerfSet` is the real thing: `performedResetRSNs` + `newestPerformedReset` with the trimming of
`rememberPerformedReset`. The driver keeps both and flags a run in which they disagree; `Props/C14` proves that
every RSN within 1024 of the newest one is still in the exact set, which is what makes the abstraction sound. -/

structure PerfSet where
  set : List (BitVec 32) := []   -- performedResetRSNs (nil map = empty)
  newest : BitVec 32 := 0        -- newestPerformedReset
  deriving Repr, DecidableEq, Inhabited

/-- Go: `const keep = 1024` -/
def perfKeep : Nat := 1024

/-- Go: rememberPerformedReset -/
def PerfSet.remember (p : PerfSet) (rsn : BitVec 32) : PerfSet :=
  let newest := if p.set.isEmpty || Gen.sna32LT p.newest rsn then rsn else p.newest
  let set := if p.set.contains rsn then p.set else rsn :: p.set
  if set.length > 2 * perfKeep then
    { set := set.filter (fun old => !Gen.sna32LT old (newest - BitVec.ofNat 32 perfKeep)), newest := newest }
  else { set := set, newest := newest }

/-- Go: `_, done := a.performedResetRSNs[rsn]` -/
def PerfSet.has (p : PerfSet) (rsn : BitVec 32) : Bool := p.set.contains rsn

def PerfSet.run (p : PerfSet) (rs : List (BitVec 32)) : PerfSet := rs.foldl PerfSet.remember p

/-- an outgoing reset request this side created (ghost part: which objects it closes) -/
structure ReqRec where
  rsn : Nat
  last : Nat
  sids : List Nat
  wobjs : List Nat
  deriving Repr, DecidableEq, Inhabited

structure Ep where
  il : Bool                 -- useInterleaving
  nextTSN : Nat
  nextRSN : Nat
  cum : Nat                 -- peerLastTSN()
  maxOff : Nat := 8448      -- payloadQueue.maxTSNOffset
  accCap : Nat := Gen.acceptChSize
  maxReq : Nat := Gen.maxReconfigRequests
  buf : Nat := 1048576      -- maxReceiveBufferSize
  mps : Nat := 1200         -- largest message the harness may write (unfragmented)
  pend : List Item := []    -- pendingQueue, push order
  sent : List Chunk := []   -- every chunk that ever got a TSN
  ctl : List Msg := []      -- controlQueue
  reconfigs : List (Nat × Nat × List Nat) := []  -- a.reconfigs: my requests awaiting a response, rsn ↦ (lastTSN, sids)
  wr : Bool := false        -- willRetransmitReconfig
  rcv : List Nat := []      -- TSNs above `cum` held by payloadQueue
  rreqs : List (Nat × Nat × List Nat) := []      -- a.reconfigRequests: the peer's requests not yet performed
  perf : List Nat := []     -- performedResetRSNs
  reg : List (Nat × Nat) := []   -- a.streams: sid ↦ handle
  objs : List Obj := []
  acq : List Nat := []      -- acceptCh
  unsup : Bool := false     -- the run left what the model covers (fragmentation, full receive buffer)
  -- ghost
  reqLog : List ReqRec := []
  deriving Repr, Inhabited

/-! ### small list helpers (association lists keyed by the first component) -/

def lookup {β : Type} (k : Nat) : List (Nat × β) → Option β
  | [] => none
  | (k', v) :: rest => if k' = k then some v else lookup k rest

def erase {β : Type} (k : Nat) (l : List (Nat × β)) : List (Nat × β) := l.filter (fun p => p.1 != k)

def insert {β : Type} (k : Nat) (v : β) (l : List (Nat × β)) : List (Nat × β) := (k, v) :: erase k l

/-- sort key of a reply: (rsn, result) -/
def respKey : Msg → Nat × Nat
  | .resp r v => (r, v)
  | _ => (0, 0)

def keyLe (a b : Nat × Nat) : Bool := a.1 < b.1 || (a.1 == b.1 && a.2 ≤ b.2)

/-- stable insertion of a reply into a list sorted by (rsn, result) -/
def insSorted (m : Msg) : List Msg → List Msg
  | [] => [m]
  | x :: rest => if keyLe (respKey x) (respKey m) then x :: insSorted m rest else m :: x :: rest

def sortReplies (l : List Msg) : List Msg := l.foldl (fun acc m => insSorted m acc) []

/-! ### application calls -/

/-- Go: OpenStream → getOrCreateStream(id, accept = false). Returns the handle and whether an object was created. -/
def openStream (e : Ep) (sid : Nat) (gen : Nat) : Ep × Nat × Bool :=
  match lookup sid e.reg with
  | some h => (e, h, false)
  | none => ({ e with objs := e.objs ++ [{ sid := sid, gen := gen }], reg := insert sid e.objs.length e.reg }, e.objs.length, true)

/-- Go: Stream.packetize — which counter numbers the message, and the counters afterwards -/
def seqOf (il : Bool) (o : Obj) (unord : Bool) : Nat :=
  if il then (if unord then o.umid else o.omid) else o.ssn

def bump (il : Bool) (o : Obj) (unord : Bool) : Obj :=
  if il then (if unord then { o with umid := o.umid + 1 } else { o with omid := o.omid + 1 })
  else if unord then o else { o with ssn := o.ssn + 1 }

inductive WriteRes where
  | ok (n : Nat) | noHandle | closed | unsupported
  deriving Repr, DecidableEq

/-- Go: Stream.WriteSCTP with a payload of 4 ≤ len ≤ maxPayloadSize bytes (association established, non-blocking) -/
def write (e : Ep) (h len : Nat) (unord : Bool) (msg : Nat) : Ep × WriteRes :=
  match e.objs[h]? with
  | none => (e, .noHandle)
  | some o =>
    if o.state != Gen.StreamStateOpen then (e, .closed)
    else if len > e.mps then ({ e with unsup := true }, .unsupported)
    else
      let len := max len 4
      let d : Data := { sid := o.sid, unord := unord, seq := seqOf e.il o unord, msg := msg, len := len, wobj := h, gen := o.gen }
      let o' := { bump e.il o unord with wrote := o.wrote ++ [(msg, unord)] }
      ({ e with objs := e.objs.set h o', pend := e.pend ++ [.data d] }, .ok len)

/-- Go: Stream.Close → sendResetRequest (queues the end-of-stream marker behind the stream's data). The result is `false` when there is no such handle. -/
def close (e : Ep) (h : Nat) : Ep × Bool :=
  match e.objs[h]? with
  | none => (e, false)
  | some o =>
    if o.state == Gen.StreamStateOpen then
      let o' := { o with state := if o.readErr then Gen.StreamStateClosed else Gen.StreamStateClosing }
      ({ e with objs := e.objs.set h o', pend := e.pend ++ [.marker o.sid h] }, true)
    else (e, true)

/-- Go: reassemblyQueue.read for complete single-chunk messages: unordered first, then the ordered head if it is
not ahead of the cursor (an entry BELOW the cursor is handed out too — duplicates of an SSN are not filtered) -/
def readOne (o : Obj) : Option ((Nat × Bool) × Obj) :=
  match o.unord with
  | q :: rest => some ((q.msg, true), { o with unord := rest })
  | [] =>
    match o.ord with
    | [] => none
    | q :: rest =>
      if q.seq ≤ o.nextSeq then some ((q.msg, false), { o with ord := rest, nextSeq := if q.seq = o.nextSeq then o.nextSeq + 1 else o.nextSeq })
      else none

/-- Go: repeated Stream.ReadSCTP until it would block or returns the read error -/
def drain : Nat → Obj → List Nat → Obj × List Nat
  | 0, o, acc => (o, acc)
  | fuel + 1, o, acc =>
    match readOne o with
    | some (m, o') => drain fuel { o' with got := o'.got ++ [m] } (acc ++ [m.1])
    | none => (o, acc)

/-- returns the ids read and whether the drain ended with EOF (`false`: it would block) -/
def read (e : Ep) (h : Nat) : Ep × Option (List Nat × Bool) :=
  match e.objs[h]? with
  | none => (e, none)
  | some o =>
    let r := drain (o.ord.length + o.unord.length) o []
    let o' := if r.1.readErr then { r.1 with eofSeen := true } else r.1
    ({ e with objs := e.objs.set h o' }, some (r.2, r.1.readErr))

/-- Go: AcceptStream without blocking -/
def accept (e : Ep) : Ep × Option Nat :=
  match e.acq with
  | [] => (e, none)
  | h :: rest => ({ e with acq := rest }, some h)

/-! ### the write loop -/

/-- may the pending entry at index `i` leave the queue now?
without interleaving (messagePendingQueuePolicy, no fragments): the oldest unordered chunk, else the head of the
ordered queue; with interleaving (per-stream FIFO schedulers): the oldest entry of its stream. -/
def mayPop (il : Bool) (pend : List Item) (i : Nat) : Bool :=
  match pend[i]? with
  | none => false
  | some it =>
    if il then (pend.take i).all (fun j => j.sid != it.sid)
    else if it.isUnord then (pend.take i).all (fun j => !j.isUnord)
    else pend.all (fun j => !j.isUnord) && i == 0

/-- pop the entries named by `sel` one after the other (indices refer to the shrinking queue) -/
def popSel (il : Bool) : List Item → List Nat → Option (List Item × List Item)
  | pend, [] => some ([], pend)
  | pend, i :: rest =>
    if mayPop il pend i then
      match pend[i]?, popSel il (pend.eraseIdx i) rest with
      | some it, some (out, left) => some (it :: out, left)
      | _, _ => none
    else none

/-- Go: movePendingDataChunkToInflightQueue for the data entries, `sisToReset` for the markers -/
def assign (next : Nat) : List Item → List Chunk × List (Nat × Nat) × Nat
  | [] => ([], [], next)
  | .data d :: rest => let r := assign (next + 1) rest; ({ tsn := next, d := d } :: r.1, r.2.1, r.2.2)
  | .marker s w :: rest => let r := assign next rest; (r.1, (s, w) :: r.2.1, r.2.2)

def findChunk (sent : List Chunk) (t : Nat) : Option Chunk := sent.find? (fun c => c.tsn == t)

def findAll (sent : List Chunk) : List Nat → Option (List Chunk)
  | [] => some []
  | t :: rest =>
    match findChunk sent t, findAll sent rest with
    | some c, some cs => some (c :: cs)
    | _, _ => none

/-- a DATA packet carrying the chunks with these TSNs (all sent before) -/
def mkData (sent : List Chunk) (tsns : List Nat) : Option Msg := (findAll sent tsns).map Msg.data

def mkDatas (sent : List Chunk) : List (List Nat) → Option (List Msg)
  | [] => some []
  | p :: rest =>
    match mkData sent p, mkDatas sent rest with
    | some m, some ms => some (m :: ms)
    | _, _ => none

def reqOf (r : Nat × Nat × List Nat) : Msg := .req r.1 r.2.1 r.2.2

/-- the request created for the markers popped in one pass (ghost part: the objects they belong to) -/
def newReqRec (e : Ep) (markers : List (Nat × Nat)) (next : Nat) : ReqRec :=
  { rsn := e.nextRSN, last := next - 1, sids := markers.map (·.1), wobjs := markers.map (·.2) }

/-- the endpoint after one pass of the write loop that took `popped` out of the pending queue and left `left` -/
def gatherEp (e : Ep) (popped left : List Item) : Ep :=
  let a := assign e.nextTSN popped
  let e1 : Ep := { e with pend := left, sent := e.sent ++ a.1, nextTSN := a.2.2, ctl := [], wr := false }
  if a.2.1.isEmpty then e1 else
    { e1 with nextRSN := e.nextRSN + 1, reconfigs := e.reconfigs ++ [(e.nextRSN, a.2.2 - 1, a.2.1.map (·.1))],
              reqLog := e.reqLog ++ [newReqRec e a.2.1 a.2.2] }

/-- what that pass puts on the wire: control queue, DATA (retransmissions and new chunks as the oracle bundled them),
RECONFIG (retransmissions if the timer fired, then the request for the markers popped in this pass with
senderLastTSN = myNextTSN − 1), fast retransmissions, SACK -/
def gatherOut (e : Ep) (popped : List Item) (preP postP : List Msg) (sack : Bool) : List Msg :=
  let a := assign e.nextTSN popped
  e.ctl ++ preP ++ (if e.wr then e.reconfigs.map reqOf else []) ++
    (if a.2.1.isEmpty then [] else [.req e.nextRSN (a.2.2 - 1) (a.2.1.map (·.1))]) ++ postP ++ (if sack then [.sack e.cum] else [])

/-- Go: gatherOutbound in state established. `none`: the oracle is impossible (an entry may not leave the queue yet,
or a TSN named for retransmission was never sent). -/
def gather (e : Ep) (sel : List Nat) (pre post : List (List Nat)) (sack : Bool) : Option (Ep × List Msg) :=
  match popSel e.il e.pend sel with
  | none => none
  | some (popped, left) =>
    let sent := e.sent ++ (assign e.nextTSN popped).1
    match mkDatas sent pre, mkDatas sent post with
    | some preP, some postP => some (gatherEp e popped left, gatherOut e popped preP postP sack)
    | _, _ => none

/-- Go: onRetransmissionTimeout(timerReconfig) -/
def trc (e : Ep) : Ep := { e with wr := true }

/-! ### the read loop -/

/-- Go: Stream.onInboundStreamReset -/
def inboundReset (o : Obj) : Obj :=
  { o with readErr := true, state := if o.state == Gen.StreamStateClosing then Gen.StreamStateClosed else o.state }

/-- one stream identifier of a request that is being performed -/
def resetOne (e : Ep) (sid : Nat) : Ep :=
  match lookup sid e.reg with
  | none => e
  | some h =>
    match e.objs[h]? with
    | none => { e with reg := erase sid e.reg }
    | some o => { e with objs := e.objs.set h (inboundReset o), reg := erase sid e.reg }

/-- Go: resetStreamsIfAny -/
def resetStreamsIfAny (e : Ep) (rsn last : Nat) (sids : List Nat) : Ep × Msg :=
  if last ≤ e.cum then
    let e1 := sids.foldl resetOne e
    ({ e1 with rreqs := erase rsn e1.rreqs, perf := rsn :: e1.perf }, .resp rsn Gen.reconfigResultSuccessPerformed)
  else (e, .resp rsn Gen.reconfigResultInProgress)

/-- every deferred request is looked at again (Go: the loop over a.reconfigRequests after each pop) -/
def recheck (e : Ep) : List (Nat × Nat × List Nat) → Ep × List Msg
  | [] => (e, [])
  | r :: rest =>
    let s := resetStreamsIfAny e r.1 r.2.1 r.2.2
    let t := recheck s.1 rest
    (t.1, s.2 :: t.2)

/-- Go: handlePeerLastTSNAndAcknowledgement — advance the cumulative point as far as possible -/
def advance : Nat → Ep → Ep × List Msg
  | 0, e => (e, [])
  | fuel + 1, e =>
    if e.rcv.contains (e.cum + 1) then
      let e1 := { e with rcv := e.rcv.filter (· != e.cum + 1), cum := e.cum + 1 }
      let s := recheck e1 e1.rreqs
      let t := advance fuel s.1
      (t.1, s.2 ++ t.2)
    else (e, [])

/-- insertion into a list sorted by sequence number, behind equal numbers -/
def insOrd (q : QMsg) : List QMsg → List QMsg
  | [] => [q]
  | x :: rest => if x.seq ≤ q.seq then x :: insOrd q rest else q :: x :: rest

/-- Go: reassemblyQueue.pushWithError / pushIData for a complete single-chunk message -/
def pushObj (il : Bool) (o : Obj) (c : Chunk) : Obj :=
  let q : QMsg := { seq := c.d.seq, msg := c.d.msg, len := c.d.len }
  let o := { o with rx := o.rx ++ [c] }
  if c.d.unord then
    if il && o.unord.any (·.seq == q.seq) then o     -- hasQueuedUnorderedMID
    else { o with unord := o.unord ++ [q] }
  else if c.d.seq < o.nextSeq then o                 -- already delivered
  else if il && o.ord.any (·.seq == q.seq) then o    -- the MID is already queued
  else { o with ord := insOrd q o.ord }

def objBytes (o : Obj) : Nat := (o.ord.map (·.len)).sum + (o.unord.map (·.len)).sum

/-- Go: getMyReceiverWindowCredit: only streams in a.streams count -/
def credit (e : Ep) : Nat :=
  let q := (e.reg.map (fun p => match e.objs[p.2]? with | some o => objBytes o | none => 0)).sum
  if q ≥ e.buf then 0 else e.buf - q

/-- Go: handleData (state established) -/
def handleData (e : Ep) (c : Chunk) : Ep × List Msg :=
  let canPush := !e.rcv.contains c.tsn && e.cum < c.tsn && c.tsn ≤ e.cum + e.maxOff
  if canPush then
    -- acceptPayloadData: getOrCreateStream(sid, accept = true)
    let r : Option (Ep × Nat) :=
      match lookup c.d.sid e.reg with
      | some h => some (e, h)
      | none =>
        if e.acq.length < e.accCap then
          some ({ e with objs := e.objs ++ [{ sid := c.d.sid, gen := c.d.gen }], reg := insert c.d.sid e.objs.length e.reg,
                         acq := e.acq ++ [e.objs.length] }, e.objs.length)
        else none
    match r with
    | none => (e, [])                       -- accept queue full: chunk discarded, nothing acknowledged
    | some (e1, h) =>
      if credit e1 == 0 then ({ e1 with unsup := true }, [])
      else
        match e1.objs[h]? with
        | none => ({ e1 with unsup := true }, [])
        | some o =>
          let e2 := { e1 with objs := e1.objs.set h (pushObj e1.il o c), rcv := c.tsn :: e1.rcv }
          advance e2.rcv.length e2
  else advance e.rcv.length e

def handleDatas (e : Ep) : List Chunk → Ep × List Msg
  | [] => (e, [])
  | c :: rest => let s := handleData e c; let t := handleDatas s.1 rest; (t.1, s.2 ++ t.2)

/-- Go: handleReconfigParam, case paramOutgoingResetRequest -/
def handleReq (e : Ep) (rsn last : Nat) (sids : List Nat) : Ep × List Msg :=
  if e.perf.contains rsn then (e, [.resp rsn Gen.reconfigResultSuccessPerformed])
  else if e.cum < last && e.rreqs.length ≥ e.maxReq then (e, [])     -- ErrTooManyReconfigRequests: dropped
  else
    let s := resetStreamsIfAny { e with rreqs := insert rsn (last, sids) e.rreqs } rsn last sids
    (s.1, [s.2])

/-- Go: Stream.resetOutgoingStreamSequenceNumbers -/
def zeroCounters (o : Obj) : Obj := { o with ssn := 0, omid := 0, umid := 0 }

def rewindOne (e : Ep) (sid : Nat) : Ep :=
  match lookup sid e.reg with
  | none => e
  | some h =>
    match e.objs[h]? with
    | none => e
    | some o => if o.state != Gen.StreamStateOpen then { e with objs := e.objs.set h (zeroCounters o) } else e

/-- Go: handleReconfigParam, case paramReconfigResponse -/
def handleResp (e : Ep) (rsn result : Nat) : Ep :=
  if result == Gen.reconfigResultInProgress then e     -- the timer is restarted
  else
    let e1 := if result == Gen.reconfigResultSuccessPerformed then
        (match lookup rsn e.reconfigs with
         | some r => r.2.foldl rewindOne e
         | none => e)
      else e
    { e1 with reconfigs := erase rsn e1.reconfigs }

/-- Go: handleInbound for one packet of the peer; replies go to the control queue -/
def handle (e : Ep) (p : Msg) : Ep :=
  match p with
  | .data cs => let s := handleDatas e cs; { s.1 with ctl := s.1.ctl ++ sortReplies s.2 }
  | .sack _ => e
  | .req rsn last sids => let s := handleReq e rsn last sids; { s.1 with ctl := s.1.ctl ++ s.2 }
  | .resp rsn result => handleResp e rsn result

/-! ### the two-endpoint system -/

structure Sys where
  a : Ep
  b : Ep
  ha : List Msg := []
  hb : List Msg := []
  taint : List Nat := []          -- ghost: identifiers re-opened before both directions had been reset
  gen : Nat → Nat := fun _ => 0   -- ghost: number of incarnations of each identifier so far

instance : Inhabited Sys := ⟨{ a := default, b := default }⟩

inductive Op where
  | openS (x : Bool) (sid : Nat)            -- false = A, true = B
  | write (x : Bool) (h len : Nat) (unord : Bool) (msg : Nat)
  | close (x : Bool) (h : Nat)
  | gather (x : Bool) (sel : List Nat) (pre post : List (List Nat)) (sack : Bool)
  | deliver (x : Bool) (i : Nat)            -- i-th packet ever sent by x goes to the other side
  | trc (x : Bool)
  | t3 (x : Bool)
  | read (x : Bool) (h : Nat)
  | accept (x : Bool)
  deriving Repr, DecidableEq

def Sys.init (il : Bool) (tsnA tsnB : Nat) : Sys :=
  { a := { il := il, nextTSN := tsnA, nextRSN := tsnA, cum := tsnB - 1 },
    b := { il := il, nextTSN := tsnB, nextRSN := tsnB, cum := tsnA - 1 } }

def Sys.ep (s : Sys) (x : Bool) : Ep := if x then s.b else s.a
def Sys.hist (s : Sys) (x : Bool) : List Msg := if x then s.hb else s.ha
def Sys.setEp (s : Sys) (x : Bool) (e : Ep) : Sys := if x then { s with b := e } else { s with a := e }
def Sys.put (s : Sys) (x : Bool) (e : Ep) (out : List Msg) : Sys :=
  if x then { s with b := e, hb := s.hb ++ out } else { s with a := e, ha := s.ha ++ out }

/-- every request of `e` that names `sid` has been performed by `peer` -/
def reqsDone (e peer : Ep) (sid : Nat) : Bool :=
  e.reqLog.all (fun r => !r.sids.contains sid || peer.perf.contains r.rsn)

def sideQuiet (e peer : Ep) (sid : Nat) : Bool :=
  (lookup sid e.reg).isNone &&
  e.objs.all (fun o => o.sid != sid || o.state != Gen.StreamStateOpen) &&
  e.pend.all (fun it => match it with | .marker s _ => s != sid | .data _ => true) &&
  reqsDone e peer sid

/-- "both directions of `sid` have been reset": the identifier is in neither stream table, no object with it is
still open for writing, no end-of-stream marker for it is queued, every reset request naming it was performed -/
def Sys.quiet (s : Sys) (sid : Nat) : Bool := sideQuiet s.a s.b sid && sideQuiet s.b s.a sid

def Sys.step (s : Sys) : Op → Sys
  | .openS x sid =>
    let r := openStream (s.ep x) sid (s.gen sid + 1)
    let s1 := s.setEp x r.1
    if r.2.2 then
      (if s.quiet sid then { s1 with gen := fun i => if i = sid then s.gen sid + 1 else s.gen i }
       else { s1 with taint := sid :: s1.taint })
    else s1
  | .write x h len unord msg => s.setEp x (write (s.ep x) h len unord msg).1
  | .close x h => s.setEp x (close (s.ep x) h).1
  | .gather x sel pre post sack =>
    match gather (s.ep x) sel pre post sack with
    | some (e, out) => s.put x e out
    | none => s
  | .deliver x i =>
    match (s.hist x)[i]? with
    | none => s
    | some p => s.setEp (!x) (handle (s.ep (!x)) p)
  | .trc x => s.setEp x (trc (s.ep x))
  | .t3 _ => s
  | .read x h => s.setEp x (read (s.ep x) h).1
  | .accept x => s.setEp x (accept (s.ep x)).1

def Sys.run (s : Sys) (ops : List Op) : Sys := ops.foldl Sys.step s

end Rs
