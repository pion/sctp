import SctpVerif.Gen.Funcs
/-!
L0 model of `reassemblyQueue` (reassembly_queue.go), function by function. Core-only (linked into
the driver).

Modelling decisions (each is checked by the correspondence harness `TestVerifReasm`):

* `*chunkPayloadData` → `Chunk` (value). Only the fields the receive path reads. `head` is always
  nil on the receive path (`unmarshal` never sets it), so `isFragmented() = !B || !E`.
  `userData []byte` → `List UInt8` (byte-exact reassembly can be stated; the driver regenerates
  the bytes from the (len, seed) pair of the op line).
* `sort.Slice` is not stable and its result for a comparator that is not a strict weak order is
  implementation-defined. `goSort` is Go's `insertionSort_func`, which is what `sort.Slice`
  runs for slices of at most 12 elements — for those the model is exact for ANY keys. For longer
  slices the model is exact whenever the comparator is a strict total order on the keys present
  (distinct keys inside a half-space window), because then the sorted result is unique. The
  invariant of an honest peer gives exactly that; the hostile generator keeps every sorted
  container at ≤ 12 elements.
* `sort.Search` (in `insertChunkSetByMID`) is modelled step by step (`goSearch`), exact for any keys.
* `orderedMIDMap` holds exactly the pointers of the slice `orderedMID` (every insertion and
  deletion site touches both: `pushOrderedIData`, `read`, `forwardTSNForOrderedMID`); the model
  keeps one copy (`orderedMID`) and derives the map lookup / `len` from it. The harness checks the
  bijection white-box after every op (`sync` token).
* `unorderedMIDMap` → association list keyed by `set.mid`; Go's random map iteration order in
  `forwardTSNForUnorderedMID` is not observable (clamped subtraction commutes).
* a new `chunkSet` is appended to `r.ordered`, the slice is sorted by SSN and THEN the chunk is
  pushed through the pointer; the comparator reads only `ssn`, so the model sorts the already
  filled set.
* the `== nil` map re-initialisations never fire after `newReassemblyQueue` and are omitted.
* Go would panic on `set.chunks[0]` of an empty set / `chunks[0]` of an empty run: the model
  returns `Err.panic` there (never totalised); `Proofs/ReasmTotal.lean` shows it unreachable.
* `nBytes uint64` → `BitVec 64`, `int` → `Int`/`Nat` (lengths and counts are never negative).
-/
namespace Reasm
open Gen

abbrev PPI := BitVec 32

structure Chunk where
  tsn       : BitVec 32 := 0
  si        : BitVec 16 := 0
  ssn       : BitVec 16 := 0
  mid       : BitVec 32 := 0
  fsn       : BitVec 32 := 0
  unordered : Bool := false
  bf        : Bool := false   -- beginningFragment
  ef        : Bool := false   -- endingFragment
  iData     : Bool := false
  ppi       : PPI := 0
  userData  : List UInt8 := []
deriving Repr, DecidableEq, Inhabited

/-- Go: `isFragmented` with `head == nil` (receive path). -/
def Chunk.isFragmented (c : Chunk) : Bool := !c.bf || !c.ef

/-- Go: `len(c.userData)`. -/
def Chunk.len (c : Chunk) : Nat := c.userData.length

/-! ### sorting and searching as Go does it -/

/-- inner loop of `insertionSort_func`: `rev` is the already processed prefix, REVERSED (last
element first); `x` moves towards the front while `less(x, previous)`. -/
def insRev {α : Type} (lt : α → α → Bool) (x : α) : List α → List α
  | [] => [x]
  | y :: ys => if lt x y then y :: insRev lt x ys else x :: y :: ys

/-- Go: `insertionSort_func(data, 0, n)` = `sort.Slice` for `n ≤ 12`. -/
def goSort {α : Type} (lt : α → α → Bool) (l : List α) : List α :=
  (l.foldl (fun rev x => insRev lt x rev) []).reverse

def sortChunksByTSN (a : List Chunk) : List Chunk := goSort (fun x y => sna32LT x.tsn y.tsn) a
def sortChunksByFSN (a : List Chunk) : List Chunk := goSort (fun x y => sna32LT x.fsn y.fsn) a

/-- Go: `sort.Search(n, f)`; `fuel` bounds the loop (`n+1` is always enough: `j - i` halves). -/
def goSearch (f : Nat → Bool) : Nat → Nat → Nat → Nat
  | 0, i, _ => i
  | fuel+1, i, j =>
    if i < j then
      let h := (i + j) / 2
      if !f h then goSearch f fuel (h + 1) j else goSearch f fuel i h
    else i

/-! ### chunkSet -/

structure ChunkSet where
  ssn    : BitVec 16
  ppi    : PPI
  chunks : List Chunk
deriving Repr, DecidableEq, Inhabited

def sortChunksBySSN (a : List ChunkSet) : List ChunkSet := goSort (fun x y => sna16LT x.ssn y.ssn) a

def newChunkSet (ssn : BitVec 16) (ppi : PPI) : ChunkSet := { ssn := ssn, ppi := ppi, chunks := [] }

/-- condition 3 of `isComplete`: every chunk's TSN is the previous one + 1. -/
def tsnContig : BitVec 32 → List Chunk → Bool
  | _, [] => true
  | last, c :: cs => if c.tsn != last + 1 then false else tsnContig c.tsn cs

/-- Go: `chunkSet.isComplete` on the chunk slice. -/
def chunksComplete : List Chunk → Bool
  | [] => false
  | c0 :: rest =>
    if !c0.bf then false
    else if !((c0 :: rest).getLast (List.cons_ne_nil _ _)).ef then false
    else tsnContig c0.tsn rest

def ChunkSet.isComplete (s : ChunkSet) : Bool := chunksComplete s.chunks

def ChunkSet.hasTSN (s : ChunkSet) (t : BitVec 32) : Bool := s.chunks.any (fun c => c.tsn == t)

/-- Go: `pushNoDuplicate`: append, sort by TSN, report completeness. -/
def ChunkSet.pushNoDuplicate (s : ChunkSet) (c : Chunk) : ChunkSet × Bool :=
  let s' := { s with chunks := sortChunksByTSN (s.chunks ++ [c]) }
  (s', s'.isComplete)

/-- Go: `chunkSet.push` (not used by the queue itself; kept for completeness). -/
def ChunkSet.push (s : ChunkSet) (c : Chunk) : ChunkSet × Bool :=
  if s.hasTSN c.tsn then (s, false) else s.pushNoDuplicate c

/-! ### chunkSetMID -/

structure ChunkSetMID where
  mid    : BitVec 32
  ppi    : PPI
  chunks : List Chunk
deriving Repr, DecidableEq, Inhabited

def newChunkSetMID (mid : BitVec 32) (ppi : PPI) : ChunkSetMID := { mid := mid, ppi := ppi, chunks := [] }

def fsnContig : BitVec 32 → List Chunk → Bool
  | _, [] => true
  | last, c :: cs => if c.fsn != last + 1 then false else fsnContig c.fsn cs

/-- Go: `chunkSetMID.isComplete`. -/
def chunksCompleteMID : List Chunk → Bool
  | [] => false
  | c0 :: rest =>
    if !c0.bf then false
    else if !((c0 :: rest).getLast (List.cons_ne_nil _ _)).ef then false
    else if c0.fsn != 0 then false
    else fsnContig c0.fsn rest

def ChunkSetMID.isComplete (s : ChunkSetMID) : Bool := chunksCompleteMID s.chunks

/-- Go: `pushAndCheck` → (set, complete, accepted). -/
def ChunkSetMID.pushAndCheck (s : ChunkSetMID) (c : Chunk) : ChunkSetMID × Bool × Bool :=
  if s.isComplete then (s, false, false)
  else if s.chunks.any (fun x => x.fsn == c.fsn) then (s, false, false)
  else
    let s' : ChunkSetMID :=
      { s with chunks := sortChunksByFSN (s.chunks ++ [c]), ppi := if c.bf then c.ppi else s.ppi }
    (s', s'.isComplete, true)

/-- Go: `insertChunkSetByMID`. -/
def insertChunkSetByMID (a : List ChunkSetMID) (cset : ChunkSetMID) : List ChunkSetMID :=
  let insertAt := goSearch (fun i => match a[i]? with
                                     | some s => !sna32LT s.mid cset.mid
                                     | none => true) (a.length + 1) 0 a.length
  a.take insertAt ++ cset :: a.drop insertAt

/-! ### reassemblyQueue -/

inductive Err | none | dataLimit | midLimit | panic
deriving Repr, DecidableEq, Inhabited

inductive RErr | ok | tryAgain | shortBuffer
deriving Repr, DecidableEq, Inhabited

structure Q where
  si              : BitVec 16
  nextSSN         : BitVec 16 := 0
  nextMID         : BitVec 32 := 0
  ordered         : List ChunkSet := []
  unordered       : List ChunkSet := []
  unorderedChunks : List Chunk := []
  orderedMID      : List ChunkSetMID := []      -- also stands for `orderedMIDMap` (same pointers)
  unorderedMID    : List ChunkSetMID := []
  unorderedMIDMap : List ChunkSetMID := []      -- map mid ↦ set, key = set.mid
  useInterleaving : Bool := false
  nBytes          : BitVec 64 := 0
  maxEntries      : BitVec 32
deriving Repr, Inhabited

/-- Go: `newReassemblyQueue`. -/
def new (si : BitVec 16) (maxEntries : BitVec 32) : Q := { si := si, maxEntries := maxEntries }

def Q.isDataLimitReached (q : Q) (n : Nat) : Bool := isReassemblyQueueLimitReached q.maxEntries (n : Int)
def Q.hasDataLimit (q : Q) : Bool := decide (q.maxEntries > 0#32)
def Q.isMIDLimitReached (q : Q) (n : Nat) : Bool := isReassemblyQueueLimitReached q.maxEntries (n : Int)

def countChunks (sets : List ChunkSet) : Nat := (sets.map (fun s => s.chunks.length)).sum

def Q.orderedDataEntryCount (q : Q) : Nat := countChunks q.ordered
def Q.unorderedDataEntryCount (q : Q) : Nat := q.unorderedChunks.length + countChunks q.unordered
def Q.unorderedMIDEntryCount (q : Q) : Nat := q.unorderedMIDMap.length + q.unorderedMID.length
def Q.hasQueuedUnorderedMID (q : Q) (mid : BitVec 32) : Bool := q.unorderedMID.any (fun s => s.mid == mid)

/-- Go: `atomic.AddUint64(&r.nBytes, uint64(len(chunk.userData)))`. -/
def Q.addBytes (q : Q) (n : Nat) : Q := { q with nBytes := q.nBytes + BitVec.ofNat 64 n }

/-- Go: `subtractNumBytes(nBytes int)` on the counter:
`if int(cur) >= nBytes { cur += -uint64(nBytes) } else { cur = 0 }`. -/
def subBytes (cur : BitVec 64) (n : Int) : BitVec 64 :=
  if cur.toInt ≥ n then cur + BitVec.ofInt 64 (-n) else 0

def Q.subtractNumBytes (q : Q) (n : Int) : Q := { q with nBytes := subBytes q.nBytes n }

def Q.getNumBytes (q : Q) : Int := q.nBytes.toInt

/-- the loop `for _, c := range set.chunks { r.subtractNumBytes(len(c.userData)) }` (touches only the counter). -/
def subChunks (cur : BitVec 64) : List Chunk → BitVec 64
  | [] => cur
  | c :: cs => subChunks (subBytes cur (c.len : Int)) cs

/-- Go: `findCompleteUnorderedChunkSet`, scan part. `start = none` is `startIdx = -1`.
Returns `(startIdx, nChunks)` when `found`. -/
def scanUnordered : List Chunk → Nat → Option Nat → Nat → BitVec 32 → Option (Nat × Nat)
  | [], _, _, _, _ => none
  | c :: cs, i, start, n, last =>
    if c.bf then
      if c.ef then some (i, 1) else scanUnordered cs (i + 1) (some i) 1 c.tsn
    else match start with
      | none => scanUnordered cs (i + 1) none n last
      | some s =>
        if c.tsn != last + 1 then scanUnordered cs (i + 1) none n last
        else if c.ef then some (s, n + 1)
        else scanUnordered cs (i + 1) (some s) (n + 1) c.tsn

inductive FoundU
  | notFound
  | found (set : ChunkSet) (rest : List Chunk)
  | panic

/-- Go: `findCompleteUnorderedChunkSet` on the slice `uc` → (set, remaining `unorderedChunks`). -/
def findCompleteUnorderedChunkSet (uc : List Chunk) : FoundU :=
  match scanUnordered uc 0 none 0 0 with
  | none => .notFound
  | some (start, n) =>
    let chunks := (uc.drop start).take n
    match chunks with
    | [] => .panic                      -- `chunks[0]` on an empty slice
    | c0 :: _ => .found { ssn := 0, ppi := c0.ppi, chunks := chunks } (uc.take start ++ uc.drop (start + n))

inductive FindO
  | notFound
  | found (pre : List ChunkSet) (s : ChunkSet) (post : List ChunkSet)
  | panic

def FindO.cons (s : ChunkSet) : FindO → FindO
  | .found pre x post => .found (s :: pre) x post
  | r => r

/-- the loop in `pushWithError` looking for a fragmented set with this SSN:
`set.ssn == ssn && set.chunks[0].isFragmented()` (index 0 of an empty slice panics).
`found pre s post`: the slice is `pre ++ s :: post` and `cset` points at `s`. -/
def findFragSet (ssn : BitVec 16) : List ChunkSet → FindO
  | [] => .notFound
  | s :: rest =>
    if s.ssn == ssn then
      match s.chunks with
      | [] => .panic
      | c0 :: _ => if c0.isFragmented then .found [] s rest else (findFragSet ssn rest).cons s
    else (findFragSet ssn rest).cons s

/-- `m[mid] = f(m[mid])` through the pointer: replaces the first (only) set with this MID. -/
def updMID (mid : BitVec 32) (s' : ChunkSetMID) : List ChunkSetMID → List ChunkSetMID
  | [] => []
  | s :: rest => if s.mid == mid then s' :: rest else s :: updMID mid s' rest

/-- `delete(m, mid)`: removes the first (only) set with this MID. -/
def delMID (mid : BitVec 32) : List ChunkSetMID → List ChunkSetMID
  | [] => []
  | s :: rest => if s.mid == mid then rest else s :: delMID mid rest

/-- Go: `pushOrderedIData`. -/
def Q.pushOrderedIData (q : Q) (c : Chunk) : Q × Bool × Err :=
  if sna32LT c.mid q.nextMID then (q, false, .none)
  else
    -- cset := r.orderedMIDMap[mid]
    match q.orderedMID.find? (fun s => s.mid == c.mid) with
    | some cset =>
      let (cset', complete, accepted) := cset.pushAndCheck c
      if !accepted then (q, false, .none)
      else
        let q := { q with orderedMID := updMID c.mid cset' q.orderedMID }
        (q.addBytes c.len, complete, .none)
    | none =>
      if q.isMIDLimitReached q.orderedMID.length then (q, false, .midLimit)
      else
        let cset := newChunkSetMID c.mid c.ppi
        let (cset', complete, accepted) := cset.pushAndCheck c
        -- the (still empty) set is inserted before the chunk is pushed through the pointer;
        -- `insertChunkSetByMID` reads only `mid`
        if !accepted then ({ q with orderedMID := insertChunkSetByMID q.orderedMID cset }, false, .none)
        else
          let q := { q with orderedMID := insertChunkSetByMID q.orderedMID cset' }
          (q.addBytes c.len, complete, .none)

/-- Go: `pushUnorderedIData`. -/
def Q.pushUnorderedIData (q : Q) (c : Chunk) : Q × Bool × Err :=
  if q.hasQueuedUnorderedMID c.mid then (q, false, .none)
  else
    let go (q : Q) (cset : ChunkSetMID) : Q × Bool × Err :=
      let (cset', complete, accepted) := cset.pushAndCheck c
      if !accepted then (q, false, .none)
      else
        let q := q.addBytes c.len
        if complete then
          ({ q with unorderedMIDMap := delMID c.mid q.unorderedMIDMap,
                    unorderedMID := q.unorderedMID ++ [cset'] }, true, .none)
        else
          ({ q with unorderedMIDMap := updMID c.mid cset' q.unorderedMIDMap },
           false, .none)
    match q.unorderedMIDMap.find? (fun s => s.mid == c.mid) with
    | some cset => go q cset
    | none =>
      if q.isMIDLimitReached q.unorderedMIDEntryCount then (q, false, .midLimit)
      else
        let cset := newChunkSetMID c.mid c.ppi
        go { q with unorderedMIDMap := q.unorderedMIDMap ++ [cset] } cset

/-- Go: `pushIData`. -/
def Q.pushIData (q : Q) (c : Chunk) : Q × Bool × Err :=
  if c.si != q.si then (q, false, .none)
  else if c.unordered then q.pushUnorderedIData c
  else q.pushOrderedIData c

/-- Go: `pushWithError` → (queue, complete, error). -/
def Q.pushWithError (q : Q) (c : Chunk) : Q × Bool × Err :=
  if c.iData then
    { q with useInterleaving := true }.pushIData c
  else if c.si != q.si then (q, false, .none)
  else if c.unordered then
    if q.hasDataLimit && q.isDataLimitReached q.unorderedDataEntryCount then (q, false, .dataLimit)
    else
      let uc := sortChunksByTSN (q.unorderedChunks ++ [c])
      let q := q.addBytes c.len
      match findCompleteUnorderedChunkSet uc with
      | .panic => ({ q with unorderedChunks := uc }, false, .panic)
      | .notFound => ({ q with unorderedChunks := uc }, false, .none)
      | .found cset rest => ({ q with unorderedChunks := rest, unordered := q.unordered ++ [cset] }, true, .none)
  else if sna16LT c.ssn q.nextSSN then (q, false, .none)
  else
    match (if c.isFragmented then findFragSet c.ssn q.ordered else FindO.notFound) with
    | .panic => (q, false, .panic)
    | .found pre cset post =>
      if cset.hasTSN c.tsn then (q, false, .none)
      else if q.hasDataLimit && q.isDataLimitReached q.orderedDataEntryCount then (q, false, .dataLimit)
      else
        let (cset', complete) := cset.pushNoDuplicate c
        ({ q with ordered := pre ++ cset' :: post }.addBytes c.len, complete, .none)
    | .notFound =>
      if q.hasDataLimit && q.isDataLimitReached q.orderedDataEntryCount then (q, false, .dataLimit)
      else
        let (cset', complete) := (newChunkSet c.ssn c.ppi).pushNoDuplicate c
        ({ q with ordered := sortChunksBySSN (q.ordered ++ [cset']) }.addBytes c.len, complete, .none)

/-- Go: `push`. -/
def Q.push (q : Q) (c : Chunk) : Q × Bool := let (q, b, _) := q.pushWithError c; (q, b)

/-- Go: `isReadable`. -/
def Q.isReadable (q : Q) : Bool :=
  if q.useInterleaving then
    if q.unorderedMID.length > 0 then true
    else match q.orderedMID with
      | cset :: _ => cset.isComplete && sna32LTE cset.mid q.nextMID
      | [] => false
  else if q.unordered.length > 0 then true
  else match q.ordered with
    | cset :: _ => cset.isComplete && sna16LTE cset.ssn q.nextSSN
    | [] => false

/-- the copy loop of `read`: `(nTotal, err, bytes copied so far)`; `buflen = len(buf)`.
`copy(buf[nTotal:], c.userData)` only runs when the chunk fits, so the copied bytes are contiguous
from offset 0 as long as `err` is unset. -/
def copyLoop (buflen : Int) : List Chunk → Int → Bool → List UInt8 → Int × Bool × List UInt8
  | [], nTotal, err, out => (nTotal, err, out)
  | c :: cs, nTotal, err, out =>
    if buflen - nTotal < (c.len : Int) then copyLoop buflen cs (nTotal + c.len) true out
    else copyLoop buflen cs (nTotal + c.len) err (if err then out else out ++ c.userData)

structure ReadRes where
  n    : Int
  ppi  : PPI
  err  : RErr
  data : List UInt8      -- `buf[:n]` when `err = ok`
deriving Repr, DecidableEq, Inhabited

def ReadRes.tryAgain : ReadRes := { n := 0, ppi := 0, err := .tryAgain, data := [] }

/-- Go: `read(buf)` with `len(buf) = buflen`. -/
def Q.read (q : Q) (buflen : Nat) : Q × ReadRes :=
  if q.useInterleaving then
    let fin (iSet : ChunkSetMID) (after : Q) : Q × ReadRes :=
      let (nTotal, err, out) := copyLoop buflen iSet.chunks 0 false []
      if err then (q, { n := nTotal, ppi := 0, err := .shortBuffer, data := [] })
      else (after.subtractNumBytes nTotal, { n := nTotal, ppi := iSet.ppi, err := .ok, data := out })
    match q.unorderedMID with
    | iSet :: rest => fin iSet { q with unorderedMID := rest }
    | [] =>
      match q.orderedMID with
      | iSet :: rest =>
        if !iSet.isComplete then (q, .tryAgain)
        else if sna32GT iSet.mid q.nextMID then (q, .tryAgain)
        else fin iSet { q with orderedMID := rest,
                               nextMID := if iSet.mid == q.nextMID then q.nextMID + 1 else q.nextMID }
      | [] => (q, .tryAgain)
  else
    let fin (cset : ChunkSet) (after : Q) : Q × ReadRes :=
      let (nTotal, err, out) := copyLoop buflen cset.chunks 0 false []
      if err then (q, { n := nTotal, ppi := 0, err := .shortBuffer, data := [] })
      else (after.subtractNumBytes nTotal, { n := nTotal, ppi := cset.ppi, err := .ok, data := out })
    match q.unordered with
    | cset :: rest => fin cset { q with unordered := rest }
    | [] =>
      match q.ordered with
      | cset :: rest =>
        if !cset.isComplete then (q, .tryAgain)
        else if sna16GT cset.ssn q.nextSSN then (q, .tryAgain)
        else fin cset { q with ordered := rest,
                               nextSSN := if cset.ssn == q.nextSSN then q.nextSSN + 1 else q.nextSSN }
      | [] => (q, .tryAgain)

/-- the `keep` loop of `forwardTSNForOrdered`: (counter, keep). -/
def fwdOrderedLoop (lastSSN : BitVec 16) : List ChunkSet → BitVec 64 → BitVec 64 × List ChunkSet
  | [], nb => (nb, [])
  | s :: rest, nb =>
    if sna16LTE s.ssn lastSSN && !s.isComplete then fwdOrderedLoop lastSSN rest (subChunks nb s.chunks)
    else let (nb', keep) := fwdOrderedLoop lastSSN rest nb; (nb', s :: keep)

/-- Go: `forwardTSNForOrdered`. -/
def Q.forwardTSNForOrdered (q : Q) (lastSSN : BitVec 16) : Q :=
  let (nb, keep) := fwdOrderedLoop lastSSN q.ordered q.nBytes
  { q with ordered := keep, nBytes := nb,
           nextSSN := if sna16LTE q.nextSSN lastSSN then lastSSN + 1 else q.nextSSN }

/-- number of leading chunks with `!sna32GT(c.tsn, newCumulativeTSN)` = `lastIdx + 1`. -/
def fwdUnorderedPrefix (t : BitVec 32) : List Chunk → Nat
  | [] => 0
  | c :: cs => if sna32GT c.tsn t then 0 else fwdUnorderedPrefix t cs + 1

/-- Go: `forwardTSNForUnordered`. -/
def Q.forwardTSNForUnordered (q : Q) (newCumulativeTSN : BitVec 32) : Q :=
  let k := fwdUnorderedPrefix newCumulativeTSN q.unorderedChunks
  if k > 0 then
    { q with nBytes := subChunks q.nBytes (q.unorderedChunks.take k), unorderedChunks := q.unorderedChunks.drop k }
  else q

def fwdOrderedMIDLoop (lastMID : BitVec 32) : List ChunkSetMID → BitVec 64 → BitVec 64 × List ChunkSetMID
  | [], nb => (nb, [])
  | s :: rest, nb =>
    if sna32LTE s.mid lastMID && !s.isComplete then fwdOrderedMIDLoop lastMID rest (subChunks nb s.chunks)
    else let (nb', keep) := fwdOrderedMIDLoop lastMID rest nb; (nb', s :: keep)

/-- Go: `forwardTSNForOrderedMID` (the `delete(r.orderedMIDMap, …)` is the same removal: one copy). -/
def Q.forwardTSNForOrderedMID (q : Q) (lastMID : BitVec 32) : Q :=
  let (nb, keep) := fwdOrderedMIDLoop lastMID q.orderedMID q.nBytes
  { q with orderedMID := keep, nBytes := nb,
           nextMID := if sna32LTE q.nextMID lastMID then lastMID + 1 else q.nextMID }

def fwdUnorderedMIDLoop (lastMID : BitVec 32) : List ChunkSetMID → BitVec 64 → BitVec 64 × List ChunkSetMID
  | [], nb => (nb, [])
  | s :: rest, nb =>
    if sna32LTE s.mid lastMID then fwdUnorderedMIDLoop lastMID rest (subChunks nb s.chunks)
    else let (nb', keep) := fwdUnorderedMIDLoop lastMID rest nb; (nb', s :: keep)

/-- Go: `forwardTSNForUnorderedMID` (map iteration in list order; the order is not observable). -/
def Q.forwardTSNForUnorderedMID (q : Q) (lastMID : BitVec 32) : Q :=
  let (nb, keep) := fwdUnorderedMIDLoop lastMID q.unorderedMIDMap q.nBytes
  { q with unorderedMIDMap := keep, nBytes := nb }

/-! ### white-box truth the harness computes by walking the Go structures -/

def bytesOf (cs : List Chunk) : Nat := (cs.map Chunk.len).sum
def bytesOfSets (ss : List ChunkSet) : Nat := (ss.map (fun s => bytesOf s.chunks)).sum
def bytesOfMIDSets (ss : List ChunkSetMID) : Nat := (ss.map (fun s => bytesOf s.chunks)).sum

/-- `Σ len(userData)` over every chunk held in the containers. -/
def Q.heldBytes (q : Q) : Nat :=
  bytesOfSets q.ordered + bytesOfSets q.unordered + bytesOf q.unorderedChunks +
  bytesOfMIDSets q.orderedMID + bytesOfMIDSets q.unorderedMID + bytesOfMIDSets q.unorderedMIDMap

/-! ### operations (the alphabet theorems quantify over) -/

inductive Op
  | push (c : Chunk)
  | read (buflen : Nat)
  | fwdO (ssn : BitVec 16)
  | fwdU (tsn : BitVec 32)
  | fwdOM (mid : BitVec 32)
  | fwdUM (mid : BitVec 32)
deriving Repr

def Q.step (q : Q) : Op → Q
  | .push c => (q.pushWithError c).1
  | .read n => (q.read n).1
  | .fwdO s => q.forwardTSNForOrdered s
  | .fwdU t => q.forwardTSNForUnordered t
  | .fwdOM m => q.forwardTSNForOrderedMID m
  | .fwdUM m => q.forwardTSNForUnorderedMID m

def Q.run (q : Q) (ops : List Op) : Q := ops.foldl Q.step q

end Reasm
