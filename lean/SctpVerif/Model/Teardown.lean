/-!
# `Teardown` — the close / abort / transport-failure choreography of one association (C09)

Core-only, executable. A transition system of the goroutines of ONE association over the shared objects the code uses:

* processes: `readLoop` (`RL`), `writeLoop` (`WL`), `timerLoop` (`TL`), a timer-callback goroutine (`TC`), the
  constructor call `Client/Server` (`CN`), and a LIST of API callers of arbitrary length (`Caller`): blocked reads (per
  stream), blocking writes, `AcceptStream`, `Shutdown`, `Close`, `Abort`;
* shared objects: the transport (`conn` closed by us, `rdFail`/`wrFail`), `closeWriteLoopCh` (`cw`), `readLoopCloseCh`
  (`rc`), `acceptCh` (`ac`), `abortSentCh`, `awakeWriteLoopCh` (one token), `handshakeCompletedCh` (a rendez-vous between
  `completeHandshake` and the constructor's select), `writeNotify` (`wn`), the per-stream condition variable (`woken`
  flags of the readers), `a.lock`.

**The choreography is a parameter** (`Choreo`): the ordered statements of `readLoop`'s deferred block, of `close()` and of
`Abort()`, the arms of every select, how readers are woken (Broadcast or Signal), whether a write error closes the
transport. `Model/ConcFacts.lean` reads it off the translator's facts; the theorems are proved for `Choreo.expected` and
`Props/C09.lean` decides that the two coincide.

**`a.lock`.** A critical section that contains no blocking operation is ONE step with guard "lock free"
(`C20_interleaving_refines_sequence`). The sections that do block while holding the lock — `completeHandshake` inside a
handler or inside the T1-failure callback (`Gen.blockingUnderLock`) — and the deferred block of `readLoop`, which is
interpreted statement by statement, hold it across steps (`Holder`).

**Environment** (`Act.env…`): everything that is not the package's own progress — a packet arriving, a timer firing, the
application issuing a call, data / a stream / window space arriving for a blocked caller, and the triggers themselves
(transport failure, write failure, context cancellation). Each consumes one unit of `fuel`, so every run is finite; the
no-stuck theorem does not count environment steps as progress.

Assumptions written into the model (not proved about the code): `completeHandshake` is attempted at most once per
association (`hsTried`; the code can in principle attempt it twice when the last T1 expiry races with the arrival of the
answer — then the second attempt holds `a.lock` until the transport is closed); one constructor call per association;
API methods are called only after the constructor returned the association (`hsDone`); `sync.Cond`, channels, `sync.Once`
behave as specified by Go.
-/
namespace Conc

/-- one statement of the deferred block of `readLoop`, of `close()` or of `Abort()` -/
inductive Op
  | closeCw        -- closeWriteLoopOnce.Do(close(closeWriteLoopCh))
  | lockA | unlockA
  | setClosed      -- setState(closed)
  | unregAll       -- for every registered stream: unregisterStream(s, closeErr)
  | unblockWrites  -- unblockPendingWrites()
  | closeAc | closeRc
  | closeConn      -- closeNetConn(): netConnCloseOnce.Do(netConn.Close())
  | closeTimers    -- closeAllTimers()
  | setAbort       -- lock; willSendAbort = true, cause; unlock
  | wrDeadline     -- netConn.SetWriteDeadline(now + 200 ms)
  | awake          -- awakeWriteLoop()
  | waitAbortSent  -- select { <-abortSentCh ; <-time.After(200 ms) }
  | readDeadline   -- netConn.SetReadDeadline(now): the pending and every later Read fails
  | waitRc         -- <-readLoopCloseCh
  deriving DecidableEq, Repr, Inhabited

inductive Wake | all | one
  deriving DecidableEq, Repr, Inhabited

structure Choreo where
  deferProg : List Op
  closeProg : List Op      -- close()
  closeApi  : List Op      -- Close() = close() then wait
  abortProg : List Op
  chSend : Bool  -- arms of completeHandshake's select
  chCw : Bool
  chRc : Bool
  wlAwake : Bool      -- arms of writeLoop's select
  wlCw : Bool
  wlCwChecksAbort : Bool   -- the closeWriteLoopCh arm re-reads willSendAbort under the lock and continues if set
  wlErrCloses : Bool       -- a write error calls closeNetConn
  tlCw : Bool              -- timerLoop selects on closeWriteLoopCh and returns
  shCw : Bool        -- arms of Shutdown's select
  shCwChecks : Bool  -- the closeWriteLoopCh arm reads the completion flags under a.lock: nil only if the peer's SHUTDOWN-ACK / SHUTDOWN-COMPLETE came
  shCtx : Bool
  cnHs : Bool   -- arms of the client constructor's select (ctx arm calls Close())
  cnRc : Bool
  cnCtx : Bool
  svHs : Bool         -- arms of the server constructor's select
  svRc : Bool
  wrNotify : Bool    -- arms of the blocking-write wait
  wrCtx : Bool
  accEof : Bool            -- AcceptStream returns EOF when acceptCh is closed
  unregWake : Wake
  resetWake : Wake
  unregSetsErr : Bool      -- unregisterStream stores the error unconditionally
  unregDeletes : Bool
  unblockCloses : Bool     -- unblockPendingWrites closes writeNotify
  dlKeepsTerminal : Bool   -- the helper goroutine of SetReadDeadline sets the deadline error only `if s.readErr == nil`
  deriving DecidableEq, Repr, Inhabited

def Choreo.expected : Choreo where
  deferProg := [.closeCw, .lockA, .setClosed, .unregAll, .unblockWrites, .unlockA, .closeAc, .closeRc]
  closeProg := [.setClosed, .closeConn, .closeTimers, .closeCw]
  closeApi := [.setClosed, .closeConn, .closeTimers, .closeCw, .waitRc]
  abortProg := [.setAbort, .wrDeadline, .awake, .waitAbortSent, .readDeadline, .waitRc, .waitAbortSent]
  chSend := true
  chCw := true
  chRc := true
  wlAwake := true
  wlCw := true
  wlCwChecksAbort := true
  wlErrCloses := true
  tlCw := true
  shCw := true
  shCwChecks := true
  shCtx := true
  cnHs := true
  cnRc := true
  cnCtx := true
  svHs := true
  svRc := true
  wrNotify := true
  wrCtx := true
  accEof := true
  unregWake := .all
  resetWake := .all
  unregSetsErr := true
  unregDeletes := true
  unblockCloses := true
  dlKeepsTerminal := true

inductive Holder | rlCH | tcCH | rlDefer
  deriving DecidableEq, Repr, Inhabited

/-- why a read / an API call failed -/
inductive Err
  | transport                -- netConn.Read failed (peer closed, injected failure, read deadline, our own Close)
  | abort (cause : String)   -- handleAbort: the error text lists the causes of the ABORT chunk
  | closedBeforeConn | handshake | ctx | notEstablished | shutdownNonEstablished
  | shutdownIncomplete       -- Shutdown: the association closed before the peer's SHUTDOWN-ACK / SHUTDOWN-COMPLETE arrived
  deriving DecidableEq, Repr, Inhabited

inductive Res
  | ok
  | eof
  | err (e : Err)
  | nil                      -- Shutdown returned nil
  deriving DecidableEq, Repr, Inhabited

inductive Pkt
  | data
  | hsFinal (err : Bool)     -- COOKIE-ECHO / COOKIE-ACK that completes the handshake (or fails to establish)
  | abort (cause : String)
  | reset (sid : Nat)        -- outgoing-reset request for stream sid performed now
  | shutdownComplete
  | shutdownAck              -- the peer's SHUTDOWN-ACK: shutdownCompletePending := true
  deriving DecidableEq, Repr, Inhabited

inductive RL
  | reading | handling (p : Pkt) | inCH (err : Bool) | defer (k : Nat) | done
  deriving DecidableEq, Repr, Inhabited

inductive WL
  | gather | write (n : Nat) (ok : Bool) (ab : Bool) | sel | cwArm | closing | exit | done
  deriving DecidableEq, Repr, Inhabited

inductive TL | sel | cb | done
  deriving DecidableEq, Repr, Inhabited

inductive TC | idle | spawned (fail : Bool) | inCH
  deriving DecidableEq, Repr, Inhabited

inductive CN
  | sel (client : Bool)      -- waiting in the constructor's select (a client also watches its context)
  | closing (k : Nat)        -- context cancelled: running Close()
  | fin (r : Res)
  deriving DecidableEq, Repr, Inhabited

inductive Kind | rd (sid : Nat) | wr | acc | sh | cl | ab (cause : String)
  deriving DecidableEq, Repr, Inhabited

inductive Caller
  | idle (k : Kind)                       -- the call has not been issued yet
  | rdWait (sid : Nat) (woken : Bool)     -- in readNotifier.Wait(); woken = a Signal/Broadcast has reached this waiter
  | wrBegin | wrWait
  | accWait
  | shBegin | shWait
  | cl (k : Nat)
  | ab (cause : String) (k : Nat)
  | fin (k : Kind) (r : Res)
  deriving DecidableEq, Repr, Inhabited

structure St where
  -- shared objects
  conn : Bool := false
  rdFail : Bool := false
  wrFail : Bool := false
  cw : Bool := false
  rc : Bool := false
  ac : Bool := false
  abortSent : Bool := false
  stClosed : Bool := false
  notEst : Bool := false            -- state ≠ established for good (closed, or a shutdown has begun)
  timersClosed : Bool := false
  wn : Bool := false
  unreg : Bool := false
  willAbort : Option String := none
  awake : Bool := false
  lock : Option Holder := none
  closeErr : Option Err := none
  gone : List Nat := []             -- streams already removed by an inbound reset
  hsTried : Bool := false
  hsDone : Bool := false
  ctxCancelled : Bool := false
  lost : List Nat := []             -- streams whose TERMINAL read error was replaced by a late read-deadline expiry (then cleared by the next SetReadDeadline)
  sdAcked : Bool := false           -- shutdownCompletePending || shutdownCompleteReceived: the peer acknowledged our SHUTDOWN
  -- processes
  rl : RL := .reading
  wl : WL := .sel
  tl : TL := .sel
  tc : TC := .idle
  cn : CN := .sel true
  callers : List Caller := []
  fuel : Nat := 0
  -- ghosts
  connCloses : Nat := 0             -- how often netConn.Close() was really called
  lateWrites : Nat := 0             -- netConn.Write calls issued after netConn.Close()
  wireAbort : Option String := none -- cause carried by the ABORT that was put on the wire
  deriving Repr, Inhabited

inductive Act
  -- environment
  | envPacket (p : Pkt) | envReadFail | envWriteFail | envCtxCancel | envFire (fail : Bool) | envPoke
  | envDeadline (sid : Nat)         -- a read deadline armed earlier on stream sid expires now (nobody need be reading)
  | envStart (i : Nat)              -- the application issues call i
  | envServe (i : Nat)              -- blocked caller i is served normally (data / a stream / window space arrives)
  -- the package
  | rlReadErr | rlHandle | rlCH (arm : Nat) | rlDefer
  | wlGather (n : Nat) (fin : Bool) | wlWrite | wlSel (arm : Nat) | wlCwArm | wlClosing | wlExit
  | tlExit | tlCb
  | tcRun | tcCH (arm : Nat)
  | cn (arm : Nat)
  | call (i : Nat) (arm : Nat)
  deriving DecidableEq, Repr, Inhabited

def Act.isEnv : Act → Bool
  | .envPacket _ | .envReadFail | .envWriteFail | .envCtxCancel | .envFire _ | .envPoke | .envStart _ | .envServe _ | .envDeadline _ => true
  | _ => false

/-- wake the readers waiting on the streams selected by `sel`: every such reader (`Wake.all`, Broadcast) or the first one per
stream (`Wake.one`, Signal) -/
def wakeReaders (mode : Wake) (sel : Nat → Bool) : List Caller → List Caller
  | [] => []
  | .rdWait sid false :: cs =>
    if sel sid then
      match mode with
      | .all => .rdWait sid true :: wakeReaders mode sel cs
      | .one => .rdWait sid true :: wakeReaders mode (fun s => s != sid && sel s) cs
    else .rdWait sid false :: wakeReaders mode sel cs
  | c :: cs => c :: wakeReaders mode sel cs

/-- effect of one non-blocking statement -/
def applyOp (ch : Choreo) (s : St) : Op → St
  | .closeCw => { s with cw := true }
  | .setClosed => { s with stClosed := true, notEst := true }
  | .unregAll =>
    { s with unreg := true, callers := wakeReaders ch.unregWake (fun sid => !s.gone.contains sid) s.callers }
  | .unblockWrites => if ch.unblockCloses then { s with wn := true } else s
  | .closeAc => { s with ac := true }
  | .closeRc => { s with rc := true }
  | .closeConn => { s with conn := true, rdFail := true, connCloses := if s.conn then s.connCloses else s.connCloses + 1 }
  | .closeTimers => { s with timersClosed := true }
  | .awake => { s with awake := true }
  | .readDeadline => { s with rdFail := true }
  | .unlockA => { s with lock := none }
  | _ => s

def applyOps (ch : Choreo) (s : St) (ops : List Op) : St := ops.foldl (applyOp ch) s

/-- a statement executed by a process that may have to wait: `none` = not enabled now -/
def execOp (ch : Choreo) (s : St) (cause : String) : Op → Option St
  | .lockA => if s.lock.isNone then some { s with lock := some .rlDefer } else none
  | .setAbort => if s.lock.isNone then some { s with willAbort := some cause } else none
  | .waitRc => if s.rc then some s else none
  | op => some (applyOp ch s op)

def setCaller (s : St) (i : Nat) (c : Caller) : St := { s with callers := s.callers.set i c }

def readRes (s : St) (sid : Nat) : Res :=
  if s.gone.contains sid then .eof else match s.closeErr with
    | some e => .err e
    | none => .err .transport

/-- the select of `completeHandshake` (`err` = the handshake failed); every arm that fires releases `a.lock` -/
def chArm (ch : Choreo) (s : St) (err : Bool) (arm : Nat) : Option St :=
  match arm with
  | 0 =>  -- send on handshakeCompletedCh: needs the constructor in its select
    match s.cn with
    | .sel client =>
      if ch.chSend && (if client then ch.cnHs else ch.svHs) then
        some { s with cn := .fin (if err then .err .handshake else .ok), hsDone := !err, lock := none }
      else none
    | _ => none
  | 1 => if ch.chCw && s.cw then some { s with lock := none } else none
  | 2 => if ch.chRc && s.rc then some { s with lock := none } else none
  | _ => none

def callerStep (ch : Choreo) (s : St) (i : Nat) (arm : Nat) : Option St :=
  match s.callers[i]? with
  | none => none
  | some c =>
    match c with
    | .idle _ => none
    | .fin _ _ => none
    | .rdWait sid woken => if woken && !s.lost.contains sid then some (setCaller s i (.fin (.rd sid) (readRes s sid))) else none
    | .wrBegin =>
      if s.lock.isNone then
        if s.notEst then some (setCaller s i (.fin .wr (.err .notEstablished)))
        else if arm == 1 then some (setCaller s i .wrWait)
        else some (setCaller { s with awake := true } i (.fin .wr .ok))
      else none
    | .wrWait =>
      if arm == 0 then (if ch.wrNotify && s.wn then some (setCaller s i .wrBegin) else none)
      else (if ch.wrCtx && s.ctxCancelled then some (setCaller s i (.fin .wr (.err .ctx))) else none)
    | .accWait => if ch.accEof && s.ac then some (setCaller s i (.fin .acc .eof)) else none
    | .shBegin =>
      if s.lock.isNone then
        if s.notEst then some (setCaller s i (.fin .sh (.err .shutdownNonEstablished)))
        else some (setCaller (applyOp ch { s with notEst := true, awake := true } .unblockWrites) i .shWait)
      else none
    | .shWait =>
      if arm == 0 then
        (if ch.shCw && s.cw then
          (if ch.shCwChecks then
            (if s.lock.isNone then some (setCaller s i (.fin .sh (if s.sdAcked then .nil else .err .shutdownIncomplete))) else none)
          else some (setCaller s i (.fin .sh .nil)))
        else none)
      else (if ch.shCtx && s.ctxCancelled then some (setCaller s i (.fin .sh (.err .ctx))) else none)
    | .cl k =>
      match ch.closeApi[k]? with
      | none => some (setCaller s i (.fin .cl .ok))
      | some op => (execOp ch s "" op).map fun s' => setCaller s' i (.cl (k+1))
    | .ab cause k =>
      match ch.abortProg[k]? with
      | none => some (setCaller s i (.fin (.ab cause) .ok))
      | some op => (execOp ch s cause op).map fun s' => setCaller s' i (.ab cause (k+1))

/-- the first program point of a call; a read on a stream whose error is already set does not wait -/
def startCaller (s : St) : Kind → Caller
  | .rd sid => .rdWait sid (s.unreg || s.gone.contains sid)
  | .wr => .wrBegin
  | .acc => .accWait
  | .sh => .shBegin
  | .cl => .cl 0
  | .ab cause => .ab cause 0

def step (ch : Choreo) (s : St) : Act → Option St
  -- environment ------------------------------------------------------------------------------------
  | .envPacket p =>
    if s.rl == .reading && !s.rdFail && s.fuel > 0 then some { s with rl := .handling p, fuel := s.fuel - 1 } else none
  | .envReadFail => if !s.rdFail && s.fuel > 0 then some { s with rdFail := true, fuel := s.fuel - 1 } else none
  | .envWriteFail => if !s.wrFail && s.fuel > 0 then some { s with wrFail := true, fuel := s.fuel - 1 } else none
  | .envCtxCancel => if !s.ctxCancelled && s.fuel > 0 then some { s with ctxCancelled := true, fuel := s.fuel - 1 } else none
  | .envFire f =>
    if s.tc == .idle && !s.timersClosed && s.fuel > 0 then some { s with tc := .spawned f, fuel := s.fuel - 1 } else none
  | .envPoke => if s.tl == .sel && s.fuel > 0 then some { s with tl := .cb, fuel := s.fuel - 1 } else none
  | .envDeadline sid =>
    -- before the stream has its terminal error this is the ordinary transient deadline error (not modelled: the reader
    -- just tries again); afterwards it must leave the terminal error alone
    if s.fuel > 0 then
      some { s with fuel := s.fuel - 1,
                    lost := if ch.dlKeepsTerminal || !(s.unreg || s.gone.contains sid) then s.lost else sid :: s.lost }
    else none
  | .envStart i =>
    if s.hsDone && s.fuel > 0 then
      match s.callers[i]? with
      | some (.idle k) => some (setCaller { s with fuel := s.fuel - 1 } i (startCaller s k))
      | _ => none
    else none
  | .envServe i =>
    if s.fuel > 0 then
      match s.callers[i]? with
      | some (.rdWait sid _) => some (setCaller { s with fuel := s.fuel - 1 } i (.fin (.rd sid) .ok))
      | some .accWait => if s.ac then none else some (setCaller { s with fuel := s.fuel - 1 } i (.fin .acc .ok))
      | some .wrWait => some (setCaller { s with fuel := s.fuel - 1 } i .wrBegin)
      | _ => none
    else none
  -- readLoop ---------------------------------------------------------------------------------------
  | .rlReadErr =>
    if s.rl == .reading && s.rdFail then some { s with rl := .defer 0, closeErr := some .transport } else none
  | .rlHandle =>
    match s.rl with
    | .handling p =>
      if s.lock.isNone then
        match p with
        | .data => some { s with rl := .reading, awake := true }
        | .hsFinal err =>
          if s.hsTried then some { s with rl := .reading }
          else some { s with rl := .inCH err, hsTried := true, lock := some .rlCH }
        | .abort cause => some { applyOps ch s ch.closeProg with rl := .defer 0, closeErr := some (.abort cause) }
        | .reset sid =>
          if s.gone.contains sid || s.unreg then some { s with rl := .reading }
          else some { s with rl := .reading, gone := sid :: s.gone, callers := wakeReaders ch.resetWake (fun x => x == sid) s.callers }
        | .shutdownComplete => some { applyOps ch s ch.closeProg with rl := .reading, sdAcked := true }
        | .shutdownAck => some { s with rl := .reading, sdAcked := true, awake := true }
      else none
    | _ => none
  | .rlCH arm =>
    match s.rl with
    | .inCH err => if s.lock == some .rlCH then (chArm ch s err arm).map fun s' => { s' with rl := .reading } else none
    | _ => none
  | .rlDefer =>
    match s.rl with
    | .defer k =>
      match ch.deferProg[k]? with
      | none => some { s with rl := .done }
      | some op => (execOp ch s "" op).map fun s' => { s' with rl := .defer (k+1) }
    | _ => none
  -- writeLoop --------------------------------------------------------------------------------------
  | .wlGather n fin =>
    if s.wl == .gather && s.lock.isNone then
      match s.willAbort with
      | some cause => some { s with wl := .write 1 false true, willAbort := none, wireAbort := some cause }
      | none => if n ≤ s.fuel then some { s with wl := .write n (!fin) false, fuel := s.fuel - n } else none
    else none
  | .wlWrite =>
    match s.wl with
    | .write 0 ok _ => some { s with wl := if ok then .sel else .closing }
    | .write (n+1) ok ab =>
      let s1 := if ab then { s with abortSent := true } else s
      if s.conn || s.wrFail then
        let s2 := { s1 with lateWrites := if s.conn then s1.lateWrites + 1 else s1.lateWrites, wl := .exit }
        some (if ch.wlErrCloses then applyOp ch s2 .closeConn else s2)
      else some { s1 with wl := .write n ok ab }
    | _ => none
  | .wlSel arm =>
    if s.wl == .sel then
      if arm == 0 then (if ch.wlAwake && s.awake then some { s with wl := .gather, awake := false } else none)
      else (if ch.wlCw && s.cw then some { s with wl := if ch.wlCwChecksAbort then .cwArm else .exit } else none)
    else none
  | .wlCwArm =>
    if s.wl == .cwArm && s.lock.isNone then some { s with wl := if s.willAbort.isSome then .gather else .exit } else none
  | .wlClosing => if s.wl == .closing then some { applyOps ch s ch.closeProg with wl := .done } else none
  | .wlExit => if s.wl == .exit then some { applyOps ch s [.setClosed, .closeTimers] with wl := .done } else none
  -- timerLoop --------------------------------------------------------------------------------------
  | .tlExit => if s.tl == .sel && ch.tlCw && s.cw then some { s with tl := .done } else none
  | .tlCb => if s.tl == .cb && s.lock.isNone then some { s with tl := .sel } else none
  -- timer callback ---------------------------------------------------------------------------------
  | .tcRun =>
    match s.tc with
    | .spawned fail =>
      if s.lock.isNone then
        if fail && !s.hsTried then some { s with tc := .inCH, hsTried := true, lock := some .tcCH }
        else some { s with tc := .idle, awake := true }
      else none
    | _ => none
  | .tcCH arm =>
    if s.tc == .inCH && s.lock == some .tcCH then (chArm ch s true arm).map fun s' => { s' with tc := .idle } else none
  -- constructor ------------------------------------------------------------------------------------
  | .cn arm =>
    match s.cn with
    | .sel client =>
      if arm == 0 then
        (if (if client then ch.cnRc else ch.svRc) && s.rc then some { s with cn := .fin (.err .closedBeforeConn) } else none)
      else (if client && ch.cnCtx && s.ctxCancelled then some { s with cn := .closing 0 } else none)
    | .closing k =>
      match ch.closeApi[k]? with
      | none => some { s with cn := .fin (.err .ctx) }
      | some op => (execOp ch s "" op).map fun s' => { s' with cn := .closing (k+1) }
    | .fin _ => none
  -- API callers ------------------------------------------------------------------------------------
  | .call i arm => callerStep ch s i arm

def run (ch : Choreo) : St → List Act → Option St
  | s, [] => some s
  | s, a :: as => match step ch s a with
    | some s' => run ch s' as
    | none => none

def Caller.quiet : Caller → Bool
  | .idle _ | .fin _ _ => true
  | _ => false

/-- no goroutine of the package is left and no call is pending -/
def St.done (s : St) : Bool :=
  s.rl == .done && s.wl == .done && s.tl == .done && s.tc == .idle &&
    (match s.cn with | .fin _ => true | _ => false) && s.callers.all Caller.quiet

def Caller.active : Caller → Bool
  | .cl _ | .ab _ _ => true
  | _ => false

/-- a teardown has been set off: the transport read side is failing, or a process that will make it fail is on its way -/
def St.triggered (s : St) : Bool :=
  s.rdFail || (match s.rl with | .defer _ | .done | .handling (.abort _) | .handling .shutdownComplete => true | _ => false) ||
    (match s.wl with | .closing => true | .write (_+1) _ _ => s.wrFail | _ => false) ||
    (match s.cn with | .closing _ => true | _ => false) || s.callers.any Caller.active

/-- the actions of the package itself (not of the environment) that `stuck` and `runGreedy` try in `s`: one representative
per process action (`wlGather` with `n = 0`, select arms 0 / 1 / 2) and `call i 0`, `call i 1` for every caller. That an
action outside this list is enabled only if one of the list is, is intended but not proved. -/
def procActs (s : St) : List Act :=
  [.rlReadErr, .rlHandle, .rlCH 0, .rlCH 1, .rlCH 2, .rlDefer, .wlGather 0 false, .wlWrite, .wlSel 0, .wlSel 1, .wlCwArm,
   .wlClosing, .wlExit, .tlExit, .tlCb, .tcRun, .tcCH 0, .tcCH 1, .tcCH 2, .cn 0, .cn 1] ++
  (List.range s.callers.length).flatMap fun i => [.call i 0, .call i 1]

/-- not finished, and nothing the package could do by itself -/
def St.stuck (ch : Choreo) (s : St) : Bool := !s.done && (procActs s).all fun a => (step ch s a).isNone

/-- greedy scheduler for experiments: always the first enabled action of the package -/
def runGreedy (ch : Choreo) : Nat → St → St
  | 0, s => s
  | n+1, s => match (procActs s).find? (fun a => (step ch s a).isSome) with
    | some a => match step ch s a with
      | some s' => runGreedy ch n s'
      | none => s
    | none => s

end Conc
