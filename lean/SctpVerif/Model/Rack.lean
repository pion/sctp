import SctpVerif.Gen.Funcs
/-!
# L0 model of RACK loss detection, the tail-loss probe (PTO) and the TLR burst budget
(association.go: `onRackAfterSACK`, `onRackTimeoutLocked`, `schedulePTOAfterSendLocked`, `onPTOTimerLocked`,
`rackInsert/rackRemove`, `start/stopRackTimer`, `start/stopPTOTimer`, the firing branch of `timerLoop`,
`tlr*Locked`, the RACK/RTT bookkeeping inside `processSelectiveAck`, and windowedmin.go). Core-only, executable, total.

The component is the RACK/PTO/TLR fields of `Association` plus the per-chunk data those functions read. The rest
of the association is its ENVIRONMENT:

* `Env` — what the functions read from outside: the four readings of `a.SRTT()` (`SrttView`: each code site
  evaluates `srttMs > 0` and `time.Duration(srttMs * 1e6)` itself; `SrttView.ofRat / ofFloat` are those very
  expressions, generated), `inFastRecovery`, `t3RTX.isRunning()`, `pendingQueue.size()`;
* environment OPERATIONS (`Op`): what the sender paths do to the data RACK reads — a new chunk enters the in-flight
  queue (`send` = the RACK part of `movePendingDataChunkToInflightQueue`), a chunk is retransmitted (`resend` = the
  five lines `nSent++ / since = now / rackRemove / rackInsert / checkPartialReliabilityStatus` of
  `getDataPacketsToRetransmit` and `gatherOutboundFastRetransmissionPackets`), a message becomes abandoned
  (`abandon`), T3 marks everything (`t3` = `markAllToRetrasmit`), the clock advances (`advance`).
  The theorems quantify over all operation lists and all `Env` values.

Generated arithmetic: EVERY condition and formula below that is not plain control flow is a `Gen.*` expression site
regenerated from the source on each run (go/extract/exprs.go, block "RACK / PTO / TLR"):
`psa_*` (RTT sampling and newest-delivered bookkeeping of both loops of `processSelectiveAck`), `cumAck_allAcked`,
`wmin_cutoff`, `rack_*` (all of `onRackAfterSACK`: high-watermark, delivered time, min-RTT, reordering window
initialisation / suppression / inflation / keep counter / SRTT clamp, the three tests of the marking loop, the timer
duration, the PTO), `ptoSend_*`, `rackTimer_* / ptoTimer_*` (deadline computation), `timerLoop_rackDue / ptoDue`,
`rackTimeout_*`, `pto_*`, `tlr_* / tlrPhase_* / tlrLoss_* / tlrFinish_* / tlrAllow_*`, `init_*`. Serial-number
comparisons are `Gen.sna32*`. Hand-written: the control flow, the two list walks, the queue look-ups.

Conventions.
* `time.Time` is `Int`: nanoseconds on one monotonic clock; the zero `Time` is `0` and every real reading is `> 0`
  (the harness logs Unix-style readings offset so that this holds). `time.Duration` is `Int` nanoseconds.
* A chunk is identified by its TSN (unique in the in-flight queue): `q` is the in-flight queue in queue order with the
  flags the functions read; `list` is the RACK list (`rackHead … rackTail`) as TSNs; `rackInList` is membership.
  A list entry without a chunk in `q` cannot arise (`rackRemove` accompanies every `pop`); the walks drop such an entry.
* `inflightQueue.get(cum+1+i)` for `i = 0, 1, …` until the first miss visits `q` from the offset of `cum+1`
  (`scanFrom`), as in `Model/Sender.lean`.
* `abandoned()` (read through the head fragment) is the per-chunk flag `abandoned`, refreshed by the `abandon` op.
* `awakeWriteLoop`, logging, the HEARTBEAT sent by an idle PTO (counted in the ghost `hbProbes`) are outside.
* Error returns of `processSelectiveAck` (TSN not in flight) are `none`; the state they leave behind is not described
  (they are unreachable when the in-flight TSNs are consecutive, see `Model/Sender.lean`).
-/
namespace Rack
open Gen


/-- `rackSettings` after defaulting + MTU -/
structure Cfg where
  mtu : BitVec 32 := 1200
  wcDelAck : Int := init_wcDelAckDefault       -- a.rack.rackWCDelAck
  reoWndFloor : Int := 0                        -- a.rack.rackReoWndFloor
  minRTTWindow : Int := 30000000000             -- a.rack.rackMinRTTWnd.rackMinRTTWnd
  deriving Inhabited, DecidableEq, Repr

/-- the fields of `chunkPayloadData` RACK / PTO / TLR read or write -/
structure Chunk where
  tsn : BitVec 32
  since : Int
  nSent : BitVec 32 := 1
  acked : Bool := false
  abandoned : Bool := false
  retransmit : Bool := false
  deriving Inhabited, DecidableEq, Repr

/-- what the four code sites compute from `a.SRTT()` -/
structure SrttView where
  rackValid : Bool := false     -- onRackAfterSACK, reordering-window clamp: `srttMs > 0`
  rackDur : Int := 0            --   `time.Duration(srttMs * 1e6)`
  ptoValid : Bool := false      -- onRackAfterSACK, PTO
  ptoDur : Int := 0
  sendValid : Bool := false     -- schedulePTOAfterSendLocked
  sendDur : Int := 0
  tlrValid : Bool := false      -- tlrFirstRTTDurationLocked
  tlrDur : Int := 0
  deriving Inhabited, DecidableEq, Repr

def SrttView.ofRat (x : Rat) : SrttView :=
  { rackValid := rack_srttValid_Rat x, rackDur := rack_srttDur_Rat x,
    ptoValid := rack_ptoSrttValid_Rat x, ptoDur := rack_ptoSrtt_Rat x,
    sendValid := ptoSend_srttValid_Rat x, sendDur := ptoSend_srtt_Rat x,
    tlrValid := tlr_srttValid_Rat x, tlrDur := tlr_firstRTTDur_Rat x }

def SrttView.ofFloat (x : Float) : SrttView :=
  { rackValid := rack_srttValid_Float x, rackDur := rack_srttDur_Float x,
    ptoValid := rack_ptoSrttValid_Float x, ptoDur := rack_ptoSrtt_Float x,
    sendValid := ptoSend_srttValid_Float x, sendDur := ptoSend_srtt_Float x,
    tlrValid := tlr_srttValid_Float x, tlrDur := tlr_firstRTTDur_Float x }

structure Env where
  srtt : SrttView := {}
  inFastRecovery : Bool := false
  t3Running : Bool := false        -- a.t3RTX.isRunning()
  pendingSize : Int := 0           -- a.pendingQueue.size()
  deriving Inhabited, DecidableEq, Repr

structure St where
  cfg : Cfg := {}
  now : Int := 1
  q : List Chunk := []                        -- inflightQueue
  cumAck : BitVec 32 := 0                           -- cumulativeTSNAckPoint
  myNextTSN : BitVec 32 := 0
  minTSN2MeasureRTT : BitVec 32 := 0
  list : List (BitVec 32) := []                       -- rackHead … rackTail
  reoWnd : Int := 0                           -- rackReoWnd
  minRTT : Int := 0                           -- rackMinRTT
  minWnd : List (Int × Int) := []            -- rack.rackMinRTTWnd.deque
  deliveredTime : Int := 0                   -- rackDeliveredTime
  hw : BitVec 32 := 0                               -- rackHighestDeliveredOrigTSN
  reorderingSeen : Bool := false
  keepInflated : Int := 0                     -- rackKeepInflatedRecoveries
  rackDeadline : Int := 0
  ptoDeadline : Int := 0
  tlrActive : Bool := false
  tlrFirstRTT : Bool := false
  tlrHadAdditionalLoss : Bool := false
  tlrEndTSN : BitVec 32 := 0
  tlrBurstFirst : Int := init_tlrFirst        -- tlrBurstFirstRTTUnits
  tlrBurstLater : Int := init_tlrLater        -- tlrBurstLaterRTTUnits
  tlrGoodOps : BitVec 32 := 0
  tlrStartTime : Int := 0
  hbProbes : Nat := 0                         -- ghost: HEARTBEATs sent by an idle PTO
  deriving Inhabited, DecidableEq, Repr

/-- the RACK / PTO / TLR part of `createAssociationFromConfigWithTsn(cfg, tsn)` at clock reading `now` -/
def init (cfg : Cfg) (tsn : BitVec 32) (now : Int) : St :=
  { cfg := cfg, now := now, cumAck := tsn - 1, myNextTSN := tsn, minTSN2MeasureRTT := tsn,
    hw := init_rackHighWatermark tsn, tlrBurstFirst := init_tlrFirst, tlrBurstLater := init_tlrLater }

/-! ## the chunk store and the RACK list -/

def find (q : List Chunk) (t : BitVec 32) : Option Chunk := q.find? (·.tsn == t)

def modify (q : List Chunk) (t : BitVec 32) (f : Chunk → Chunk) : List Chunk := q.map fun c => if c.tsn == t then f c else c

/-- `payloadQueue.get`: offset from the front chunk's TSN -/
def get (q : List Chunk) (tsn : BitVec 32) : Option Chunk :=
  match q with
  | [] => none
  | f :: _ => let off := (tsn - f.tsn).toNat; if off ≥ q.length then none else q[off]?

/-- the chunks `for i := 0; ; i++ { c, ok := get(first + i); if !ok { break } … }` visits -/
def scanFrom (q : List Chunk) (first : BitVec 32) : List Chunk :=
  match q with
  | [] => []
  | f :: _ => q.drop (first - f.tsn).toNat

/-- `rackInsert` -/
def rackInsert (s : St) (t : BitVec 32) : St := if s.list.contains t then s else { s with list := s.list ++ [t] }

/-- `rackRemove` -/
def rackRemove (s : St) (t : BitVec 32) : St := { s with list := s.list.filter (· != t) }

/-! ## timers -/

def startRackTimer (s : St) (dur : Int) : St :=
  { s with rackDeadline := if rackTimer_disarms dur then 0 else rackTimer_deadline (time_Now := s.now) (dur := dur) }

def stopRackTimer (s : St) : St := { s with rackDeadline := 0 }

def startPTOTimer (s : St) (dur : Int) : St :=
  { s with ptoDeadline := if ptoTimer_disarms dur then 0 else ptoTimer_deadline (time_Now := s.now) (dur := dur) }

def stopPTOTimer (s : St) : St := { s with ptoDeadline := 0 }

/-! ## windowedMin -/

/-- `sort.Search(n, f)` -/
def searchLoop (f : Nat → Bool) : Nat → Nat → Nat → Nat
  | 0, i, _ => i
  | fuel+1, i, j => if i < j then (let h := (i + j) / 2; if !f h then searchLoop f fuel (h+1) j else searchLoop f fuel i h) else i

def sortSearch (n : Nat) (f : Nat → Bool) : Nat := searchLoop f (n+1) 0 n

/-- `windowedMin.prune` -/
def wminPrune (window : Int) (dq : List (Int × Int)) (now : Int) : List (Int × Int) :=
  if dq.isEmpty then dq
  else
    let cutoff := wmin_cutoff (now := now) (window_rackMinRTTWnd := window)
    let k := sortSearch dq.length fun i => match dq[i]? with
      | some e => !decide (e.1 < cutoff)
      | none => true
    if k > 0 then dq.drop k else dq

/-- the back-to-front loop of `Push`: drop entries whose value is `>= v` -/
def wminPopBack (v : Int) : List (Int × Int) → List (Int × Int)
  | [] => []
  | e :: rest =>
    match wminPopBack v rest with
    | [] => if e.2 ≥ v then [] else [e]
    | r => e :: r

/-- `windowedMin.Push` -/
def wminPush (window : Int) (dq : List (Int × Int)) (now : Int) (v : Int) : List (Int × Int) :=
  wminPopBack v (wminPrune window dq now) ++ [(now, v)]

/-- `windowedMin.Min`: the pruned deque and the minimum (0 when empty) -/
def wminMin (window : Int) (dq : List (Int × Int)) (now : Int) : List (Int × Int) × Int :=
  let d := wminPrune window dq now
  match d with
  | [] => (d, 0)
  | e :: _ => (d, e.2)

/-! ## TLR -/

/-- `tlrFirstRTTDurationLocked` -/
def tlrFirstRTTDuration (env : Env) : Int := if env.srtt.tlrValid then env.srtt.tlrDur else tlr_firstRTTDefault

/-- `tlrUpdatePhaseLocked(currTime)` -/
def tlrUpdatePhase (s : St) (env : Env) (currTime : Int) : St :=
  if tlrPhase_skip (a_tlrActive := s.tlrActive) (a_tlrFirstRTT := s.tlrFirstRTT) then s
  else if tlrPhase_noStart (a_tlrStartTime := s.tlrStartTime) then s
  else if tlrPhase_firstOver (currTime := currTime) (a_tlrStartTime := s.tlrStartTime) (a_tlrFirstRTTDurationLocked := tlrFirstRTTDuration env)
    then { s with tlrFirstRTT := false }
  else s

/-- `tlrCurrentBurstUnitsLocked` -/
def tlrCurrentBurstUnits (s : St) (env : Env) : St × Int :=
  if !s.tlrActive then (s, 0)
  else
    let s1 := tlrUpdatePhase s env s.now
    (s1, if s1.tlrFirstRTT then s1.tlrBurstFirst else s1.tlrBurstLater)

/-- `tlrCurrentBurstBudgetScaledLocked`: what `gatherOutbound` starts with -/
def tlrBudgetScaled (s : St) (env : Env) : St × Int :=
  if !s.tlrActive then (s, 0)
  else
    let r := tlrCurrentBurstUnits s env
    (r.1, tlr_budgetScaled (units := r.2) (a_MTU := s.cfg.mtu))

/-- `tlrHighestOutstandingTSNLocked` -/
def tlrHighestOutstanding (s : St) : Option (BitVec 32) :=
  let n := (scanFrom s.q (tlr_scanTSN (a_cumulativeTSNAckPoint := s.cumAck) (i := 0))).length
  if n = 0 then none else some (tlr_scanTSN (a_cumulativeTSNAckPoint := s.cumAck) (i := BitVec.ofNat 32 (n - 1)))

/-- `tlrBeginLocked` -/
def tlrBegin (s : St) : St :=
  { s with tlrActive := true, tlrFirstRTT := true, tlrHadAdditionalLoss := false, tlrStartTime := s.now,
           tlrEndTSN := match tlrHighestOutstanding s with
             | some e => e
             | none => s.cumAck }

/-- `tlrApplyAdditionalLossLocked(currTime)` -/
def tlrApplyAdditionalLoss (s : St) (env : Env) (currTime : Int) : St :=
  if !s.tlrActive then s
  else
    let s1 := { tlrUpdatePhase s env currTime with tlrHadAdditionalLoss := true, tlrGoodOps := 0 }
    if s1.tlrFirstRTT then
      let u := tlrLoss_firstStepped (a_tlrBurstFirstRTTUnits := s1.tlrBurstFirst)
      { s1 with tlrBurstFirst := if tlrLoss_firstBelowMin (a_tlrBurstFirstRTTUnits := u) then tlrLoss_firstMin else u }
    else
      let u := tlrLoss_laterStepped (a_tlrBurstLaterRTTUnits := s1.tlrBurstLater)
      { s1 with tlrBurstLater := if tlrLoss_laterBelowMin (a_tlrBurstLaterRTTUnits := u) then tlrLoss_laterMin else u }

/-- `if a.tlrFirstRTT && ackProgress { a.tlrFirstRTT = false }` -/
def tlrLeaveFirst (s : St) (ackProgress : Bool) : St :=
  if tlrFinish_leavesFirst (a_tlrFirstRTT := s.tlrFirstRTT) (ackProgress := ackProgress) then { s with tlrFirstRTT := false } else s

/-- the good-operations counter at the end of an episode: 16 episodes without additional loss restore the default bursts -/
def tlrScore (s : St) : St :=
  if tlrFinish_clean (a_tlrHadAdditionalLoss := s.tlrHadAdditionalLoss) then
    (if tlrFinish_resetsBurst (a_tlrGoodOps := s.tlrGoodOps + 1) then
      { s with tlrBurstFirst := tlrFinish_firstDefault, tlrBurstLater := tlrFinish_laterDefault, tlrGoodOps := 0 }
    else { s with tlrGoodOps := s.tlrGoodOps + 1 })
  else { s with tlrGoodOps := 0 }

/-- the end of an episode -/
def tlrEnd (s : St) : St :=
  { tlrScore s with tlrActive := false, tlrFirstRTT := false, tlrHadAdditionalLoss := false, tlrEndTSN := 0 }

/-- `tlrMaybeFinishLocked(ackProgress)` -/
def tlrMaybeFinish (s : St) (ackProgress : Bool) : St :=
  if !s.tlrActive then s
  else if tlrFinish_done (a_cumulativeTSNAckPoint := s.cumAck) (a_tlrEndTSN := s.tlrEndTSN) then tlrEnd (tlrLeaveFirst s ackProgress)
  else tlrLeaveFirst s ackProgress

/-- `tlrAllowSendLocked(&budgetScaled, &consumed, estBytes)` with the non-nil pointers `gatherOutbound` passes:
the answer and the new `(budgetScaled, consumed)` -/
def tlrAllow (active : Bool) (b : Int × Bool) (est : Int) : Bool × (Int × Bool) :=
  if tlrAllow_inactive (a_tlrActive := active) (budgetScaled_eq_nil := false) (consumed_eq_nil := false) then (true, b)
  else if tlrAllow_free (estBytes := est) then (true, b)
  else
    let need := tlrAllow_need (estBytes := est)
    if tlrAllow_refuses (consumed := b.2) (budgetScaled := b.1) (needScaled := need) then (false, b)
    else
      let b1 := tlrAllow_spent (budgetScaled := b.1) (needScaled := need)
      (true, (if tlrAllow_clamps (budgetScaled := b1) then 0 else b1, true))

/-- one gather: the requests in the order the three loops make them; the answers and the final `(budget, consumed)` -/
def tlrAllowRun (active : Bool) : Int × Bool → List Int → List Bool × (Int × Bool)
  | b, [] => ([], b)
  | b, e :: es =>
    let r := tlrAllow active b e
    let rest := tlrAllowRun active r.2 es
    (r.1 :: rest.1, rest.2)

/-! ## PTO -/

/-- `schedulePTOAfterSendLocked` -/
def schedulePTOAfterSend (s : St) (env : Env) : St :=
  if ptoSend_idle (a_inflightQueue_size := (s.q.length : Int)) then stopPTOTimer s
  else
    let pto := if env.srtt.sendValid then
        let extra := if ptoSend_single (a_inflightQueue_size := (s.q.length : Int)) then s.cfg.wcDelAck else ptoSend_extra
        ptoSend_pto (srtt := env.srtt.sendDur) (extra := extra)
      else ptoSend_noRTT
    startPTOTimer s pto

/-- step 5 of `onRackAfterSACK` (the same computation, written a second time in the code) -/
def schedulePTOAfterSack (s : St) (env : Env) : St :=
  if rack_ptoIdle (a_inflightQueue_size := (s.q.length : Int)) then stopPTOTimer s
  else
    let pto := if env.srtt.ptoValid then
        let extra := if rack_ptoSingle (a_inflightQueue_size := (s.q.length : Int)) then s.cfg.wcDelAck else rack_ptoExtra
        rack_pto (srtt := env.srtt.ptoDur) (extra := extra)
      else rack_ptoNoRTT
    startPTOTimer s pto

/-- the chunk `onPTOTimerLocked` ends up with in `latest`: the last one of the scan that is neither acked nor abandoned -/
def ptoLatest (s : St) : Option Chunk :=
  ((scanFrom s.q (pto_scanTSN (a_cumulativeTSNAckPoint := s.cumAck) (i := 0))).filter
    fun c => !pto_skipDead (c_acked := c.acked) (c_abandoned := c.abandoned)).getLast?

/-- `if !a.tlrActive { a.tlrBeginLocked() } else { a.tlrApplyAdditionalLossLocked(currTime) }` of `onPTOTimerLocked` -/
def ptoTlr (s : St) (env : Env) : St :=
  if pto_beginsTLR (a_tlrActive := s.tlrActive) then tlrBegin s else tlrApplyAdditionalLoss s env s.now

/-- `onPTOTimerLocked`: new state and the TSNs it marked for retransmission (at most one) -/
def onPTOTimer (s : St) (env : Env) : St × List (BitVec 32) :=
  if pto_idle (a_inflightQueue_size := (s.q.length : Int)) then ({ stopPTOTimer s with hbProbes := s.hbProbes + 1 }, [])
  else
    let s1 := ptoTlr s env
    if pto_hasPending (a_pendingQueue_size := env.pendingSize) then (s1, [])      -- "PTO should just wake the writer"
    else match ptoLatest s1 with
      | none => (s1, [])
      | some c =>
        if pto_marks (latest_ne_nil := true) (latest_retransmit := c.retransmit) then
          ({ s1 with q := modify s1.q c.tsn fun c => { c with retransmit := true } }, [c.tsn])
        else (s1, [])

/-! ## the marking walk over the RACK list -/

/-- the three tests of the loop body; `onRackAfterSACK` and `onRackTimeoutLocked` each have their own copy in the code -/
structure WalkFns where
  skipDead : Bool → Bool → Bool
  skipResent : Bool → BitVec 32 → Bool
  tooNew : Int → Int → Int → Bool

def sackWalk : WalkFns :=
  { skipDead := fun a b => rack_skipDead (chunk_acked := a) (chunk_abandoned := b),
    skipResent := fun r n => rack_skipResent (chunk_retransmit := r) (chunk_nSent := n),
    tooNew := fun t w d => rack_tooNew (chunk_since := t) (a_rackReoWnd := w) (a_rackDeliveredTime := d) }

def timeoutWalk : WalkFns :=
  { skipDead := fun a b => rackTimeout_skipDead (chunk_acked := a) (chunk_abandoned := b),
    skipResent := fun r n => rackTimeout_skipResent (chunk_retransmit := r) (chunk_nSent := n),
    tooNew := fun t w d => rackTimeout_tooNew (chunk_since := t) (a_rackReoWnd := w) (a_rackDeliveredTime := d) }

structure WalkOut where
  list : List (BitVec 32)          -- the RACK list afterwards
  q : List Chunk
  marks : List (BitVec 32)         -- chunks marked lost, in list order

/-- `for chunk := a.rackHead; chunk != nil; { … }`: acked / abandoned entries are unlinked, chunks already flagged or
retransmitted before are skipped (kept), the walk stops at the first chunk that is too new, every other chunk is
flagged for retransmission and unlinked -/
def walk (f : WalkFns) (reoWnd : Int) (delivered : Int) : List (BitVec 32) → List Chunk → WalkOut
  | [], q => { list := [], q := q, marks := [] }
  | t :: rest, q =>
    match find q t with
    | none => walk f reoWnd delivered rest q
    | some c =>
      if f.skipDead c.acked c.abandoned then walk f reoWnd delivered rest q
      else if f.skipResent c.retransmit c.nSent then
        let r := walk f reoWnd delivered rest q
        { r with list := t :: r.list }
      else if f.tooNew c.since reoWnd delivered then { list := t :: rest, q := q, marks := [] }
      else
        let r := walk f reoWnd delivered rest (modify q t fun c => { c with retransmit := true })
        { r with marks := t :: r.marks }

/-- the tail shared by both callers: `if marked { if a.tlrActive { tlrApplyAdditionalLossLocked(now) } … }` -/
def afterMarks (s : St) (env : Env) (marked : Bool) : St :=
  if marked && s.tlrActive then tlrApplyAdditionalLoss s env s.now else s

/-- the walk's result written back, then `afterMarks` -/
def afterWalk (s : St) (env : Env) (r : WalkOut) : St :=
  afterMarks { s with list := r.list, q := r.q } env (!r.marks.isEmpty)

/-- `onRackTimeoutLocked` -/
def onRackTimeout (s : St) (env : Env) : St × List (BitVec 32) :=
  if rackTimeout_noDelivered (a_rackDeliveredTime := s.deliveredTime) then (s, [])
  else
    let r := walk timeoutWalk s.reoWnd s.deliveredTime s.list s.q
    (afterWalk s env r, r.marks)

/-! ## onRackAfterSACK -/

/-- step 1a: the high-watermark of delivered TSNs, or "reordering seen" when the newest delivered chunk is not above it -/
def rackHw (s : St) (newestTSN : BitVec 32) : St :=
  if rack_hwAdvances (a_rackHighestDeliveredOrigTSN := s.hw) (newestDeliveredOrigTSN := newestTSN)
    then { s with hw := newestTSN } else { s with reorderingSeen := true }

/-- step 1b: the latest send time among delivered chunks -/
def rackNewer (s : St) (newestTime : Int) : St :=
  if rack_newerDelivered (newestDeliveredSendTime := newestTime) (a_rackDeliveredTime := s.deliveredTime)
    then { s with deliveredTime := newestTime } else s

/-- step 1: high-watermark, reordering flag, delivered time -/
def rackDelivered (s : St) (found : Bool) (newestTime : Int) (newestTSN : BitVec 32) : St :=
  if found then rackNewer (rackHw s newestTSN) newestTime else s

/-- step 2a: `if minRTT := a.rack.rackMinRTTWnd.Min(currTime); minRTT > 0 { a.rackMinRTT = minRTT }` -/
def reoMinRTT (s : St) : St :=
  let m := wminMin s.cfg.minRTTWindow s.minWnd s.now
  { s with minWnd := m.1, minRTT := if rack_minRTTValid (minRTT := m.2) then m.2 else s.minRTT }

/-- `base`: a quarter of the min-RTT or the configured floor, 0 without a min-RTT -/
def reoBase (s : St) : Int :=
  if rack_haveMinRTT (a_rackMinRTT := s.minRTT) then rack_reoBase (a_rackMinRTT := s.minRTT) (a_rack_rackReoWndFloor := s.cfg.reoWndFloor) else 0

/-- step 2b: suppress the window during recovery while no reordering was ever seen, else initialise it from `base` -/
def reoInit (s : St) (env : Env) : St :=
  if rack_suppressReoWnd (a_rackReorderingSeen := s.reorderingSeen) (a_inFastRecovery := env.inFastRecovery) (a_t3RTX_isRunning := env.t3Running)
    then { s with reoWnd := 0 }
  else if rack_initReoWnd (a_rackReoWnd := s.reoWnd) (base := reoBase s) then { s with reoWnd := reoBase s } else s

/-- step 2c: duplicate TSNs reported (DSACK-style): inflate, keep inflated for 16 recoveries -/
def reoInflate (s : St) (nDups : Int) : St :=
  if rack_dupInflates (sack_duplicateTSN_len := nDups) (a_rackMinRTT := s.minRTT) then
    { s with reoWnd := rack_reoInflated (a_rackReoWnd := s.reoWnd) (a_rackMinRTT := s.minRTT) (a_rack_rackReoWndFloor := s.cfg.reoWndFloor),
             keepInflated := rack_keepInit }
  else s

/-- step 2d: count down the keep-inflated counter outside fast recovery; at 0 fall back to a quarter of the min-RTT -/
def reoKeep (s : St) (env : Env) : St :=
  if rack_keepDecrements (a_inFastRecovery := env.inFastRecovery) (a_rackKeepInflatedRecoveries := s.keepInflated) then
    let k := s.keepInflated - 1
    if rack_keepExpired (a_rackKeepInflatedRecoveries := k) (a_rackMinRTT := s.minRTT)
      then { s with keepInflated := k, reoWnd := rack_reoAfterKeep (a_rackMinRTT := s.minRTT) }
      else { s with keepInflated := k }
  else s

/-- step 2e: "the reordering window MUST be bounded by SRTT" -/
def reoClamp (s : St) (env : Env) : St :=
  if env.srtt.rackValid then
    (if rack_reoAboveSrtt (a_rackReoWnd := s.reoWnd) (srttDur := env.srtt.rackDur) then { s with reoWnd := env.srtt.rackDur } else s)
  else s

/-- step 2: min-RTT and the reordering window -/
def rackReoWnd (s : St) (env : Env) (nDups : Int) : St :=
  reoClamp (reoKeep (reoInflate (reoInit (reoMinRTT s) env) nDups) env) env

/-- step 3: loss marking -/
def rackMark (s : St) (env : Env) : St × List (BitVec 32) :=
  if rack_haveDelivered (a_rackDeliveredTime := s.deliveredTime) then
    let r := walk sackWalk s.reoWnd s.deliveredTime s.list s.q
    (afterWalk s env r, r.marks)
  else (s, [])

/-- step 4: the RACK timer -/
def rackArm (s : St) : St :=
  if rack_armTimer (a_rackHead_ne_nil := !s.list.isEmpty) (a_rackDeliveredTime := s.deliveredTime) then
    startRackTimer s (rack_timerDur (rackRTT := rack_rtt (a_rackDeliveredTime := s.deliveredTime) (time_Now := s.now)) (a_rackReoWnd := s.reoWnd))
  else stopRackTimer s

/-- `onRackAfterSACK(deliveredFound, newestDeliveredSendTime, newestDeliveredOrigTSN, sack)`; `nDups = len(sack.duplicateTSN)` -/
def onRackAfterSACK (s : St) (env : Env) (found : Bool) (newestTime : Int) (newestTSN : BitVec 32) (nDups : Int) : St × List (BitVec 32) :=
  let s2 := rackReoWnd (rackDelivered s found newestTime newestTSN) env nDups
  let r := rackMark s2 env
  (schedulePTOAfterSack (rackArm r.1) env, r.2)

/-! ## the RACK / RTT part of processSelectiveAck -/

structure AckAcc where
  newestTime : Int := 0          -- newestDeliveredSendTime (zero Int initially)
  newestTSN : BitVec 32 := 0            -- newestDeliveredOrigTSN
  found : Bool := false           -- deliveredFound
  samples : List Int := []        -- ghost output: the RTT samples handed to `rtoMgr.setNewRTT` / `rackMinRTTWnd.Push`, oldest first
  deriving Inhabited, DecidableEq, Repr

/-- the RTT sample inside `if !chunkPayload.acked { … }` (Karn: original transmissions only, once per round trip);
`gap` selects the copy of the code -/
def ackSample (gap : Bool) (s : St) (a : AckAcc) (c : Chunk) : St × AckAcc :=
  let measurable := if gap then psa_gapMeasurable (chunkPayload_tsn := c.tsn) (a_minTSN2MeasureRTT := s.minTSN2MeasureRTT)
                    else psa_cumMeasurable (chunkPayload_tsn := c.tsn) (a_minTSN2MeasureRTT := s.minTSN2MeasureRTT)
  let original := if gap then psa_gapOriginal (chunkPayload_nSent := c.nSent) else psa_cumOriginal (chunkPayload_nSent := c.nSent)
  if measurable && original then
    ({ s with minTSN2MeasureRTT := s.myNextTSN, minWnd := wminPush s.cfg.minRTTWindow s.minWnd s.now (s.now - c.since) },
     { a with samples := a.samples ++ [s.now - c.since] })
  else (s, a)

/-- "RACK.segment is the most recently sent segment that has been delivered": strictly later send time wins -/
def ackNewest (gap : Bool) (a : AckAcc) (c : Chunk) : AckAcc :=
  let newer := if gap then psa_gapNewer (chunkPayload_since := c.since) (newestDeliveredSendTime := a.newestTime)
               else psa_cumNewer (chunkPayload_since := c.since) (newestDeliveredSendTime := a.newestTime)
  if newer then { a with newestTime := c.since, newestTSN := c.tsn, found := true } else a

/-- the body of `if !chunkPayload.acked { … }` as far as RTT and RACK are concerned -/
def ackOne (gap : Bool) (s : St) (a : AckAcc) (c : Chunk) : St × AckAcc :=
  let r := ackSample gap s a c
  (r.1, ackNewest gap r.2 c)

/-- `for idx := cumAck+1; sna32LTE(idx, cum); idx++ { pop(idx); rackRemove; … }`; `none` = `ErrInflightQueueTSNPop` -/
def popCum : List Chunk → (idx cum : BitVec 32) → St → AckAcc → Option (List Chunk × St × AckAcc)
  | [], idx, cum, s, a => if sna32LTE idx cum then none else some ([], s, a)
  | c :: rest, idx, cum, s, a =>
    if sna32LTE idx cum then
      if c.tsn == idx then
        let s1 := rackRemove s c.tsn
        let r := if !c.acked then ackOne false s1 a c else (s1, a)
        popCum rest (idx + 1) cum r.1 r.2
      else none
    else some (c :: rest, s, a)

/-- the gap-ack loop for one TSN: `get`, `rackRemove`, `markAsAcked`, RTT / newest; `none` = `ErrTSNRequestNotExist` -/
def gapOne (q : List Chunk) (s : St) (a : AckAcc) (tsn : BitVec 32) : Option (List Chunk × St × AckAcc) :=
  match get q tsn with
  | none => none
  | some c =>
    let s1 := rackRemove s c.tsn
    if !c.acked then
      let r := ackOne true s1 a c
      some (modify q c.tsn (fun c => { c with acked := true, retransmit := false }), r.1, r.2)
    else some (q, s1, a)

def gapAll : List (BitVec 32) → List Chunk → St → AckAcc → Option (List Chunk × St × AckAcc)
  | [], q, s, a => some (q, s, a)
  | t :: ts, q, s, a =>
    match gapOne q s a t with
    | none => none
    | some r => gapAll ts r.1 r.2.1 r.2.2

/-- the cumulative-point update of `processAcknowledgement` and the timer part of `onCumulativeTSNAckPointAdvanced`:
the state and whether the point advanced (`old` = the cumulative point before the SACK) -/
def ackFinish (old cum : BitVec 32) (q : List Chunk) (s : St) : St × Bool :=
  if sna32LT old cum then
    (if cumAck_allAcked (a_inflightQueue_size := (q.length : Int)) then stopRackTimer (stopPTOTimer { s with q := q, cumAck := cum })
     else { s with q := q, cumAck := cum }, true)
  else ({ s with q := q }, false)

/-- `processSelectiveAck` + the cumulative-point update of `processAcknowledgement` + `onCumulativeTSNAckPointAdvanced`
(timers): state, what was found, whether the cumulative point advanced. `gapTsns` = `cum + i` for every `i` of every
gap block, in the order of the SACK. -/
def ackPhase (s : St) (cum : BitVec 32) (gapTsns : List (BitVec 32)) : Option (St × AckAcc × Bool) :=
  match popCum s.q (s.cumAck + 1) cum s {} with
  | none => none
  | some r1 =>
    match gapAll gapTsns r1.1 r1.2.1 r1.2.2 with
    | none => none
    | some r2 =>
      let f := ackFinish s.cumAck cum r2.1 r2.2.1
      some (f.1, r2.2.2, f.2)

def iter (f : St → St) : Nat → St → St
  | 0, s => s
  | n+1, s => iter f n (f s)

/-- everything `handleSack` does after `processAcknowledgement` that concerns this component: `nMiss3` chunks reached
three miss indications in `processFastRetransmission` (each: `if a.tlrActive { tlrApplyAdditionalLossLocked(now) }`),
then `onRackAfterSACK`, then `tlrMaybeFinishLocked(advanced || found)` -/
def afterAck (s : St) (env : Env) (a : AckAcc) (advanced : Bool) (nDups : Int) (nMiss3 : Nat) : St × List (BitVec 32) :=
  let s1 := iter (fun s => if s.tlrActive then tlrApplyAdditionalLoss s env s.now else s) nMiss3 s
  let r := onRackAfterSACK s1 env a.found a.newestTime a.newestTSN nDups
  (tlrMaybeFinish r.1 (advanced || a.found), r.2)

/-- a SACK that `handleSack` processes (state established, not stale, valid) -/
def sack (s : St) (env : Env) (cum : BitVec 32) (gapTsns : List (BitVec 32)) (nDups : Int) (nMiss3 : Nat) : Option (St × List (BitVec 32)) :=
  match ackPhase s cum gapTsns with
  | none => none
  | some r => some (afterAck r.1 env r.2.1 r.2.2 nDups nMiss3)

/-! ## environment operations -/

/-- `generateNextTSN`, `since = now`, `nSent = 1`, `inflightQueue.pushNoCheck` -/
def pushChunk (s : St) : St :=
  { s with myNextTSN := s.myNextTSN + 1, q := s.q ++ [{ tsn := s.myNextTSN, since := s.now, nSent := 1 }] }

/-- the RACK part of `movePendingDataChunkToInflightQueue`: `since = now`, `nSent = 1`, `checkPartialReliabilityStatus`
(`prFires`: it abandoned the message and called `rackRemove`, a no-op for a chunk not yet listed), `pushNoCheck`, `rackInsert` -/
def send (s : St) (prFires : Bool) : St :=
  rackInsert (pushChunk (if prFires then rackRemove s s.myNextTSN else s)) s.myNextTSN

/-- what a retransmission does to the chunk: `retransmit = false` (T3/RACK/PTO path only), `nSent++`, `since = now` -/
def retx (now : Int) (clearFlag : Bool) (c : Chunk) : Chunk :=
  { c with retransmit := (if clearFlag then false else c.retransmit), nSent := c.nSent + 1, since := now }

def touch (s : St) (t : BitVec 32) (clearFlag : Bool) : St := { s with q := modify s.q t (retx s.now clearFlag) }

/-- a retransmission (`clearFlag`: the T3/RACK/PTO path of `getDataPacketsToRetransmit` resets `retransmit`; the fast
retransmission path does not touch it): `nSent++`, `since = now`, `rackRemove`, `rackInsert`, `checkPartialReliabilityStatus` -/
def resend (s : St) (t : BitVec 32) (clearFlag prFires : Bool) : St :=
  if prFires then rackRemove (rackInsert (rackRemove (touch s t clearFlag) t) t) t
  else rackInsert (rackRemove (touch s t clearFlag) t) t

/-- `abandoned()` becomes true for these chunks (their message's head got `_abandoned` and `_allInflight`) -/
def abandon (s : St) (ts : List (BitVec 32)) : St :=
  { s with q := s.q.map fun c => if ts.contains c.tsn then { c with abandoned := true } else c }

/-- `payloadQueue.markAllToRetrasmit` (T3 expiry) -/
def t3 (s : St) : St :=
  { s with q := s.q.map fun c => if c.acked || c.abandoned then c else { c with retransmit := true } }

/-- the `case <-timer.C` branch of `timerLoop`: due deadlines are cleared, then `onRackTimeout`, then `onPTOTimer` -/
def timerFire (s : St) (env : Env) : St × List (BitVec 32) :=
  let fireRack := timerLoop_rackDue (a_rackDeadline := s.rackDeadline) (currTime := s.now)
  let firePTO := timerLoop_ptoDue (a_ptoDeadline := s.ptoDeadline) (currTime := s.now)
  let s1 := if fireRack then stopRackTimer s else s              -- `a.rackDeadline = time.Time{}`
  let s2 := if firePTO then stopPTOTimer s1 else s1              -- `a.ptoDeadline = time.Time{}`
  let r1 := if fireRack then onRackTimeout s2 env else (s2, [])
  let r2 := if firePTO then onPTOTimer r1.1 env else (r1.1, [])
  (r2.1, r1.2 ++ r2.2)

inductive Op where
  | advance (d : Nat)                                  -- the clock moves forward by `d` ns
  | send (prFires : Bool)
  | resend (t : BitVec 32) (clearFlag prFires : Bool)
  | abandon (ts : List (BitVec 32))
  | ptoAfterSend (env : Env)                           -- `schedulePTOAfterSendLocked` (a gather that sent new DATA)
  | budget (env : Env)                                 -- `tlrCurrentBurstBudgetScaledLocked` (start of `gatherOutbound`)
  | sack (env : Env) (cum : BitVec 32) (gapTsns : List (BitVec 32)) (nDups : Int) (nMiss3 : Nat)
  | t3
  | timerFire (env : Env)
  | rackTimeout (env : Env)                            -- `onRackTimeout` by itself (the callback may run late)
  | ptoTimeout (env : Env)

def step (s : St) : Op → St
  | .advance d => { s with now := s.now + (d : Int) }
  | .send p => send s p
  | .resend t c p => resend s t c p
  | .abandon ts => abandon s ts
  | .ptoAfterSend env => schedulePTOAfterSend s env
  | .budget env => (tlrBudgetScaled s env).1
  | .sack env cum gaps nd nm => match sack s env cum gaps nd nm with
    | some r => r.1
    | none => s
  | .t3 => t3 s
  | .timerFire env => (timerFire s env).1
  | .rackTimeout env => (onRackTimeout s env).1
  | .ptoTimeout env => (onPTOTimer s env).1

def run (s : St) : List Op → St
  | [] => s
  | op :: ops => run (step s op) ops

end Rack
