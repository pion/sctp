import SctpVerif.Model.Sender
import SctpVerif.Model.Receiver
/-!
# NetSys — the two halves of an association and an adversarial network between them (DESIGN §2.1)

COMPOSES the existing L0 models; nothing of them is re-modelled here:

* the sending endpoint is a `Sender.St` (association.go send / ack paths, stream.go write half),
* the receiving endpoint is a `Receiver.St` (association.go receive half, stream.go read half),
* the network is the HISTORY `wire` of every DATA / I-DATA chunk any `gather` of the sender ever put on the
  wire. `deliver is` hands the receiver ONE packet made of the history chunks with the indices `is` — any
  indices, any number of times, in any order (duplication, reordering, arbitrary bundling); an index that is
  never chosen is a lost chunk; an index beyond the history names nothing (skipped).

The SACKs the sender processes are NOT taken from the receiver: `Op.snd (.sack cum arwnd gaps marks)` carries
arbitrary values (so do the oracle inputs of `gather` / `tick`). Whatever is proved of all NetSys runs holds in
particular when the SACKs are the truthful ones; safety does not depend on them being truthful.

**Payload bytes.** The Sender model carries lengths and message identities only. NetSys adds the ghost
`pay : Nat → List UInt8` (message identity = value of the write counter `nextMsg` ↦ the bytes the application
hands to that `WriteSCTP` call). The only thing the sender model sees of it is the length: `Op.write si ppi`
performs `Sender.write si ppi (pay nextMsg).length`. `toWire` is what the receiver's decoder makes of a sender
chunk (chunk_payload_data.go `marshal` ∘ `unmarshal`): the header fields, and as user data the slice of
`pay c.msg` the fragment covers — fragment `i` of a message cut with payload limit `mp` starts at byte `i·mp`
(`packetize` cuts `min(mp, remaining)` bytes per round) and has the chunk's length. That `packetize` really
copies that slice is NOT proved here (it is the byte-copy observed by the e2e content hashes).

Core-only, executable.
-/
namespace NetSys

structure Params where
  cfg : Sender.Cfg
  tsn : BitVec 32 := 0             -- the sender's initial TSN = the receiver's `peerInitialTSN`
  peerRwnd : BitVec 32 := 65536    -- a_rwnd of the receiver's INIT
  pay : Nat → List UInt8           -- ghost: the bytes of the write with message identity `m`
  maxBuf : BitVec 32 := 65536      -- receiver: maxReceiveBufferSize
  maxEntries : BitVec 32 := 0      -- receiver: reassembly entry limit
  useFwd : Bool := true
  useIFwd : Bool := false
  ackMode : Int := 0

structure St where
  snd : Sender.St
  rcv : Receiver.St
  wire : List Sender.Chunk := []   -- history of every DATA chunk put on the wire, in order

/-- both endpoints after the handshake: same initial TSN on both sides, the negotiated chunk kind on both sides -/
def init (P : Params) : St :=
  { snd := Sender.init P.cfg P.tsn P.peerRwnd,
    rcv := Receiver.init P.maxBuf P.maxEntries P.cfg.useInterleaving P.useFwd P.useIFwd P.ackMode P.tsn }

/-- what the receiver's decoder makes of a DATA (`il = false`) / I-DATA (`il = true`) chunk of the sender:
DATA has no MID / FSN fields; I-DATA has no SSN field (`unmarshal` sets it to the low 16 bits of the MID), carries
the PPI in the first fragment only and the FSN in the others -/
def toWire (P : Params) (c : Sender.Chunk) : Reasm.Chunk :=
  let il := P.cfg.useInterleaving
  { tsn := c.tsn, si := c.si,
    ssn := if il then BitVec.setWidth 16 c.mid else c.ssn,
    mid := if il then c.mid else 0,
    fsn := if il && !c.bfrag then c.fsn else 0,
    unordered := c.unordered, bf := c.bfrag, ef := c.efrag, iData := il,
    ppi := if il && !c.bfrag then 0 else c.ppi,
    userData := ((P.pay c.msg).drop (c.fsn.toNat * P.cfg.maxPayload.toNat)).take c.len }

/-- the pieces `packetize` cuts a payload into: `min(mp, remaining)` bytes per round (mirrors `Sender.fragAux`) -/
def cutAux (mp : Nat) : Nat → List UInt8 → List (List UInt8)
  | 0, _ => []
  | fuel+1, bs => if bs.length = 0 ∨ mp = 0 then [] else bs.take mp :: cutAux mp fuel (bs.drop mp)

def cut (mp : Nat) (bs : List UInt8) : List (List UInt8) := cutAux mp bs.length bs

inductive Op where
  /-- the application writes the bytes `pay nextMsg` with this PPI on stream `si` -/
  | write (si : BitVec 16) (ppi : BitVec 32)
  /-- every other operation of the sender model, with arbitrary arguments: `openS`, `unreg`, `setEstablished`,
  `gather` (any budget oracle, any selection), `sack` (ANY cumulative TSN, window, gap blocks, loss marks), `t3`,
  `tick`. (A `.write` here would bypass the payload ghost: it is not an operation of NetSys and does nothing.) -/
  | snd (op : Sender.Op)
  /-- one packet reaches the receiver: the history chunks with these indices, each with an arbitrary I-bit -/
  | deliver (is : List (Nat × Bool))
  /-- every operation of the receiver model that is not a packet: `read`, `accept`, `open`, `gather`, `tick`,
  `setState`. (A `.pkt` here would inject chunks nobody sent: it is not an operation of NetSys and does nothing.) -/
  | rcv (op : Receiver.Op)

/-- the sender operation a NetSys operation performs (depends on the sender's write counter only) -/
def sndOp (P : Params) (s : Sender.St) : Op → Option Sender.Op
  | .write si ppi => some (.write si ppi (P.pay s.nextMsg).length)
  | .snd (.write _ _ _) => none
  | .snd op => some op
  | _ => none

/-- the DATA chunks a sender operation puts on the wire -/
def emits (s : Sender.St) : Sender.Op → List Sender.Chunk
  | .gather orc sel => (Sender.gather s orc sel).2.packets.flatten
  | _ => []

/-- the packet `deliver is` builds from the history -/
def packetOf (P : Params) (wire : List Sender.Chunk) (is : List (Nat × Bool)) : List Receiver.InChunk :=
  is.filterMap fun x => (wire[x.1]?).map fun c => Receiver.InChunk.data (toWire P c) x.2

/-- the receiver operation a NetSys operation performs -/
def rcvOp (P : Params) (wire : List Sender.Chunk) : Op → Option Receiver.Op
  | .deliver is => some (.pkt (packetOf P wire is))
  | .rcv (.pkt _) => none
  | .rcv op => some op
  | _ => none

def step (P : Params) (s : St) (op : Op) : St :=
  match sndOp P s.snd op with
  | some o => { s with snd := Sender.step s.snd o, wire := s.wire ++ emits s.snd o }
  | none =>
    match rcvOp P s.wire op with
    | some o => { s with rcv := Receiver.step s.rcv o }
    | none => s

def run (P : Params) (s : St) : List Op → St
  | [] => s
  | op :: ops => run P (step P s op) ops

/-! ## what the two applications see -/

/-- an accepted write: stream, PPI, message identity -/
structure Write where
  si : BitVec 16
  ppi : BitVec 32
  msg : Nat
  deriving Repr, DecidableEq, Inhabited

/-- `WriteSCTP` accepted the message: it returned `(len, nil)` for a non-empty payload (the fragments were queued) -/
def accepts (s : Sender.St) (si : BitVec 16) (ppi : BitVec 32) (len : Nat) : Bool :=
  len != 0 && (match (Sender.write s si ppi len).2.2 with | .none => true | _ => false)

def writeOut (P : Params) (s : St) : Op → List Write
  | .write si ppi => if accepts s.snd si ppi (P.pay s.snd.nextMsg).length then [⟨si, ppi, s.snd.nextMsg⟩] else []
  | _ => []

/-- the accepted writes of a run, in order -/
def writes (P : Params) : St → List Op → List Write
  | _, [] => []
  | s, op :: ops => writeOut P s op ++ writes P (step P s op) ops

/-- `(PPI, bytes)` of the accepted writes on stream `si`, in write order -/
def writesOn (P : Params) (si : BitVec 16) (s : St) (ops : List Op) : List (BitVec 32 × List UInt8) :=
  ((writes P s ops).filter (·.si == si)).map fun w => (w.ppi, P.pay w.msg)

def readOut (si : BitVec 16) (s : St) : Op → List (BitVec 32 × List UInt8)
  | .rcv (.read nm n) => if nm.1 = si then
      (match (Receiver.read s.rcv nm n).2 with | .ok _ ppi data => [(ppi, data)] | _ => []) else []
  | _ => []

/-- `(PPI, bytes)` of every successful `ReadSCTP` on stream `si` (any stream object of that id), in order -/
def readsOn (P : Params) (si : BitVec 16) : St → List Op → List (BitVec 32 × List UInt8)
  | _, [] => []
  | s, op :: ops => readOut si s op ++ readsOn P si (step P s op) ops

/-- the chunks a sender operation moves from the pending queue to in flight (each gets the next TSN) -/
def movedOut (s : Sender.St) : Sender.Op → List Sender.Chunk
  | .gather orc sel => (Sender.gather s orc sel).2.admits.map (·.chunk)
  | _ => []

/-! ## hypotheses of the composition theorems, as decidable predicates on the run -/

/-- every stream the sender opens is reliable and ordered, and the peer never resets one (`unreg`) -/
def ReliableOp : Op → Bool
  | .snd (.openS _ unordered relType _ _) => !unordered && relType == 0
  | .snd (.unreg _) => false
  | _ => true

def Reliable (ops : List Op) : Bool := ops.all ReliableOp

/-- the D15 window: at every step, the messages written on `si` are at most `W` ahead of those read on it -/
def WinOk (P : Params) (si : BitVec 16) (W : Nat) (s : St) (ops : List Op) : Bool :=
  (List.range (ops.length + 1)).all fun n =>
    decide ((writesOn P si s (ops.take n)).length ≤ (readsOn P si s (ops.take n)).length + W)

end NetSys
