/-!
# `Conc` — the logic under the goroutines (C20, C09)

Core-only. Two parts:

* **Lock graph**: an executable acyclicity test for the lock-order edge list the translator derives from the
  source (`Gen.lockOrderEdges`), by repeatedly removing the edges that end in a sink.
* **Critical sections**: threads whose only access to shared state is inside sections guarded by ONE mutex
  (`fstep`: acquire / one micro-operation / release, arbitrarily interleaved) against the coarse system whose
  steps are whole sections (`cstep`). `Proofs/Conc.lean` shows every fine run is a coarse run in the order of the
  acquisitions, so theorems proved for sequences of steps hold for concurrent callers.

`Model/Teardown.lean` uses nothing of this file; it only shares the namespace.

What is NOT here and cannot be: data races (a property of the Go memory model), the Go scheduler, `sync.Mutex`
fairness. The runs of the harness sample those.
-/
namespace Conc

/-! ## lock graph -/

abbrev Edge := String × String

/-- forget the `where` component of the generated triples -/
def edgesOf (es : List (String × String × String)) : List Edge := es.map fun e => (e.1, e.2.1)

/-- no edge leaves `v` -/
def isSink (es : List Edge) (v : String) : Bool := !es.any (fun f => f.1 == v)

/-- drop every edge whose target is a sink (such an edge lies on no cycle) -/
def elimStep (es : List Edge) : List Edge := es.filter (fun e => !isSink es e.2)

def acyclicFuel : Nat → List Edge → Bool
  | _, [] => true
  | 0, _ :: _ => false
  | n+1, e :: es => acyclicFuel n (elimStep (e :: es))

/-- `true` iff sink elimination empties the edge list (in at most `length` rounds) -/
def acyclic (es : List Edge) : Bool := acyclicFuel es.length es

/-- a path of at least one edge -/
inductive Reach (es : List Edge) : String → String → Prop
  | edge {a b} : (a, b) ∈ es → Reach es a b
  | step {a b c} : (a, b) ∈ es → Reach es b c → Reach es a c

/-! ## critical sections under one mutex -/

/-- a micro-operation executed while holding the mutex: reads and writes the shared state and the thread's own local state -/
abbrev MicroOp (S L : Type) := S × L → S × L

/-- a critical section = the micro-operations between Lock and Unlock -/
abbrev Section (S L : Type) := List (MicroOp S L)

def runOps {S L : Type} : Section S L → S × L → S × L
  | [], x => x
  | f :: fs, x => runOps fs (f x)

def upd {α : Type} (f : Nat → α) (t : Nat) (v : α) : Nat → α := fun i => if i = t then v else f i

structure Sys (S L : Type) where
  shared : S
  locals : Nat → L
  progs  : Nat → List (Section S L)        -- per thread: the critical sections it still has to run
  holder : Option (Nat × Section S L)      -- who holds the mutex, and what is left of its section

inductive Ev | acq (t : Nat) | op (t : Nat) | rel (t : Nat)
  deriving DecidableEq, Repr

/-- fine-grained step: any thread may acquire the free mutex; only the holder touches the shared state -/
def fstep {S L : Type} (y : Sys S L) : Ev → Option (Sys S L)
  | .acq t =>
    match y.holder, y.progs t with
    | none, c :: rest => some { y with holder := some (t, c), progs := upd y.progs t rest }
    | _, _ => none
  | .op t =>
    match y.holder with
    | some (t', f :: fs) =>
      if t' = t then
        let r := f (y.shared, y.locals t)
        some { y with shared := r.1, locals := upd y.locals t r.2, holder := some (t, fs) }
      else none
    | _ => none
  | .rel t =>
    match y.holder with
    | some (t', []) => if t' = t then some { y with holder := none } else none
    | _ => none

def frun {S L : Type} : Sys S L → List Ev → Option (Sys S L)
  | y, [] => some y
  | y, e :: es => match fstep y e with
    | some y' => frun y' es
    | none => none

/-- coarse step: thread `t` runs its next critical section as ONE atomic action -/
def cstep {S L : Type} (y : Sys S L) (t : Nat) : Option (Sys S L) :=
  match y.holder, y.progs t with
  | none, c :: rest =>
    let r := runOps c (y.shared, y.locals t)
    some { y with shared := r.1, locals := upd y.locals t r.2, progs := upd y.progs t rest }
  | _, _ => none

def crun {S L : Type} : Sys S L → List Nat → Option (Sys S L)
  | y, [] => some y
  | y, t :: ts => match cstep y t with
    | some y' => crun y' ts
    | none => none

/-- the order in which the sections were entered -/
def acqs : List Ev → List Nat
  | [] => []
  | .acq t :: es => t :: acqs es
  | _ :: es => acqs es

/-- abstraction: a section in progress counts as already completed -/
def absSys {S L : Type} (y : Sys S L) : Sys S L :=
  match y.holder with
  | none => y
  | some (t, fs) =>
    let r := runOps fs (y.shared, y.locals t)
    { y with shared := r.1, locals := upd y.locals t r.2, holder := none }

end Conc
