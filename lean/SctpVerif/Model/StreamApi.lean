import SctpVerif.Model.Sender
import SctpVerif.Model.Reasm
/-!
# L0 model of the STREAM API layer (stream.go, the API-facing parts of association.go). Core-only, executable, total.

It sits ON TOP of the two existing models and forks neither:
* `Sender` (Model/Sender.lean) — `packetize`, `rollback`, `pushPending`, `checkPR`, `gather`, `sack`, `t3`, `openStream`
  are REUSED as they are (the send half of an association incl. the abandonment decision with `firstSent`);
* `Reasm` (Model/Reasm.lean) — `Q.pushWithError`, `Q.read`, `Q.isReadable` are REUSED for the read half of a Stream.

What is added here, function by function:
* `Stream.WriteSCTP` → `write`: size check, stream-state check, empty write, (blocking mode) the per-stream write lock,
  `packetize`, then `Association.sendPayloadData` → state gate, the blocking-write gate `blockWrite ∧ writePending` with
  its deadline, push, and the failure branch of `WriteSCTP` (`rollbackStream`);
* a blocking write that has to wait is a `Waiter` parked in `sendPayloadData`'s `select` (its SSN/MID and buffered bytes
  are already taken: `packetize` ran); it leaves through `wake` (a `writeNotify` token: re-check state and flag, then push)
  or `failWaiter` (deadline: roll back);
* `popPendingDataChunksToSend`'s release of blocked writers (`notifyBlockWritable`) → the end of `gather`;
* `Stream.Close` + `sendResetRequest` → `closeStream`; `Stream.onInboundStreamReset` → `reof`;
* `Stream.ReadSCTP` → `read` (`tryRead` = one pass of its loop, `readDone` = its deferred function),
  `Stream.handleData` → `rpush`, `Stream.SetReadDeadline` and its timer goroutine → `rdeadline` / `fireTimer`;
* `createForwardTSN` / `createIForwardTSN` → `forwardTsn`.

Conditions are NOT re-typed: they are the expression sites the translator regenerates from the source on every run
(go/extract/exprs.go), added for this model: `Gen.write_tooLarge / write_notOpen / write_empty` (the three tests of
`WriteSCTP`), `Gen.send_notEstablished[AfterWait]` (state gate before and after waiting), `Gen.send_gated` /
`Gen.send_waits` (`if a.blockWrite`, `for a.writePending`), `Gen.popPending_notifyWritable` (who releases blocked
writers), `Gen.reset_notEstablished`, `Gen.close_isOpen`, `Gen.close_noReadErr`. The pieces reused from `Sender` are
hand-typed there; they are tied to the sites by property theorems: `C18_packetize_sites` (`Props/C18.lean`) for
`Gen.packetize_unordered / _ssnAdvances` (equal to what `Sender.packetize` computes) and `Gen.packetize_fragmentSize /
_beginning / _ending` (their closed forms), `C06_abandon_decision` and `C06_abandoned_skipped` (`Props/C06.lean`) for
`Gen.checkPR_*`, `Gen.abandoned_*` and the `…_skips / …_stops / miss_eligible` sites of every retransmission path (new
site kinds for these: `kv` = a composite-literal field, `ret` = a returned expression, `for` = a loop condition).

Single-threaded abstraction (what the harness can drive deterministically under testing/synctest): one call at a time;
after every op everything that became runnable has run. Consequences, each mirrored by the harness:
* a second `WriteSCTP` on a stream whose writer is parked would wait for `writeLock` before doing anything: `busy`;
  a second `ReadSCTP` on a stream with a parked reader: `busy` (which of two readers a `Signal` wakes is up to the runtime);
* the `writeNotify` channel is not state of the model: a token only matters to a parked writer, a parked writer has
  consumed any stale token when it parked (and found `writePending` still set), so a parked writer wakes up for good
  exactly when a gather notifies; WHICH parked writer gets the token is an oracle input (`woke`);
* time is the virtual millisecond clock of `Sender.St.now`; deadlines are absolute ms.

Never totalised: `maxPayload = 0` makes `packetize` loop forever (`hang`), no Stream object → `noStream`.
-/
namespace Sapi
open Gen

/-! ## state -/

inductive WErr | tooLarge | streamClosed | notEstablished | deadline
  deriving BEq, Repr, Inhabited, DecidableEq

/-- result of a `WriteSCTP` call -/
inductive WRes
  | ok (n : Nat)          -- `(n, nil)`
  | err (e : WErr)        -- `(0, err)`
  | blocked (wid : Nat)   -- the call is parked in `sendPayloadData`
  | busy                  -- the stream's write lock is held by a parked call
  | noStream
  | hang                  -- `packetize` would never return (`maxPayloadSize = 0`)
  deriving BEq, Repr, Inhabited, DecidableEq

def WRes.isErr : WRes → Bool
  | .err _ => true
  | _ => false

/-- a `WriteSCTP` call parked in the `select` of `sendPayloadData` -/
structure Waiter where
  wid : Nat
  si : BitVec 16
  chunks : List Sender.Chunk      -- what `packetize` built
  unordered : Bool
  n : Nat                         -- `len(payload)`
  deadline : Option Nat           -- the stream's write deadline (absolute ms), if any
  deriving Inhabited

inductive RdErr | eof | deadline
  deriving BEq, Repr, Inhabited, DecidableEq

/-- the read half of a Stream object -/
structure RStream where
  q : Reasm.Q
  readErr : Option RdErr := none
  timer : Option Nat := none               -- read-deadline goroutine waiting for its timer (fires at this ms); = `readTimeoutCancel != nil`
  reader : Option (Nat × Nat) := none      -- a parked `ReadSCTP`: (call id, `len(buf)`)
  deriving Inhabited

structure St where
  snd : Sender.St
  state : BitVec 32 := BitVec.ofNat 32 established     -- `a.getState()`; `snd.established` is kept equal to `state == established`
  blockWrite : Bool := false
  writePending : Bool := false
  sstate : BitVec 16 → Int := fun _ => (StreamStateOpen : Int)    -- `Stream.state`
  waiters : List Waiter := []
  nextWid : Nat := 0
  rd : BitVec 16 → Option RStream := fun _ => none
  nextRid : Nat := 0
  sids : List (BitVec 16) := []            -- streams that have a Stream object, in creation order
  deriving Inhabited

def init (cfg : Sender.Cfg) (blockWrite : Bool) (tsn peerRwnd : BitVec 32) : St :=
  { snd := Sender.init cfg tsn peerRwnd, blockWrite := blockWrite }

def isEstablished (state : BitVec 32) : Bool := state == BitVec.ofNat 32 established

/-- `a.setState(n)` -/
def setState (s : St) (n : BitVec 32) : St :=
  { s with state := n, snd := { s.snd with established := isEstablished n } }

def setRd (s : St) (si : BitVec 16) (r : RStream) : St :=
  { s with rd := fun k => if k = si then some r else s.rd k }

/-! ## write -/

/-- the failure branch of `WriteSCTP`: `bufferedAmount -= n`, the counter `packetize` advanced is put back -/
def rollbackStream (s : St) (si : BitVec 16) (unordered : Bool) (n : Nat) : St :=
  match s.snd.streams si with
  | none => s
  | some st => { s with snd := Sender.setStream s.snd si (Sender.rollback s.snd.cfg st unordered n) }

def hasWaiter (s : St) (si : BitVec 16) : Bool := s.waiters.any (·.si == si)

/-- the loop `for a.writePending { select { case <-ctx.Done(): …; case <-writeNotify: } }` is entered -/
def mustWait (s : St) : Bool := send_gated s.blockWrite && send_waits s.writePending

/-- `ctx.Done()` is already closed: the write deadline is not in the future -/
def deadlinePassed (now : Nat) : Option Nat → Bool
  | none => false
  | some d => decide (d ≤ now)

/-- the tail of `sendPayloadData`: `if a.blockWrite { a.writePending = true }`, push every chunk -/
def pushChunks (s : St) (cs : List Sender.Chunk) : St :=
  { s with snd := Sender.pushPending s.snd cs, writePending := if send_gated s.blockWrite then true else s.writePending }

/-- `Stream.WriteSCTP(payload of len bytes, ppi)` with the stream's write deadline `dl` (absolute ms) -/
def write (s : St) (si : BitVec 16) (ppi : BitVec 32) (len : Nat) (dl : Option Nat) : St × WRes :=
  match s.snd.streams si with
  | none => (s, .noStream)
  | some st =>
    if write_tooLarge (len : Int) s.snd.cfg.maxMessageSize then (s, .err .tooLarge)
    else if write_notOpen (s.sstate si) then (s, .err .streamClosed)
    else if write_empty (len : Int) then (s, .ok 0)
    else if hasWaiter s si then (s, .busy)                      -- `s.writeLock.Lock()` would wait for the parked call
    else if s.snd.cfg.maxPayload = 0 then (s, .hang)
    else
      -- chunks, unordered := s.packetize(payload, ppi)
      let p := Sender.packetize s.snd.cfg st si s.snd.nextMsg ppi len
      let s1 : St := { s with snd := Sender.setStream s.snd si p.st }
      -- err := s.association.sendPayloadData(s.writeDeadline, chunks)
      if send_notEstablished s.state then (rollbackStream s1 si p.unordered len, .err .notEstablished)
      else if mustWait s then
        if deadlinePassed s.snd.now dl then (rollbackStream s1 si p.unordered len, .err .deadline)
        else
          ({ s1 with snd := { s1.snd with nextMsg := s.snd.nextMsg + 1 },
                     waiters := s.waiters ++ [{ wid := s.nextWid, si := si, chunks := p.chunks, unordered := p.unordered, n := len, deadline := dl }],
                     nextWid := s.nextWid + 1 }, .blocked s.nextWid)
      else
        (pushChunks { s1 with snd := { s1.snd with nextMsg := s.snd.nextMsg + 1, wrapBuf := s.snd.wrapBuf || p.wrap } } p.chunks, .ok len)

def dropWaiter (s : St) (wid : Nat) : St := { s with waiters := s.waiters.filter (·.wid != wid) }

/-- a parked call gives up (`ctx.Done()`, or the state gate after a wake-up): the failure branch of `WriteSCTP` -/
def failWaiter (s : St) (w : Waiter) : St := rollbackStream (dropWaiter s w.wid) w.si w.unordered w.n

/-- a parked call received the `writeNotify` token: state gate, then the loop condition again, then the push -/
def wake (s : St) (wid : Nat) : St × Option WRes :=
  match s.waiters.find? (·.wid == wid) with
  | none => (s, none)
  | some w =>
    if send_notEstablishedAfterWait s.state then (failWaiter s w, some (.err .notEstablished))
    else if send_waits s.writePending then (s, none)                       -- goes round the loop: parked again
    else (pushChunks (dropWaiter s wid) w.chunks, some (.ok w.n))

/-- parked calls whose deadline has been reached, in call order: each returns `ctx.Err()` -/
def expireWaiters (s : St) : St × List (Nat × WRes) :=
  let due := s.waiters.filter fun w => deadlinePassed s.snd.now w.deadline
  (due.foldl failWaiter s, due.map fun w => (w.wid, .err .deadline))

/-! ## gather -/

/-- the stream/sequence list of a FORWARD-TSN: greatest SSN (serial order) per stream over the ORDERED chunks, by stream id -/
def fwdInsert (m : List (BitVec 16 × BitVec 16)) (si ssn : BitVec 16) : List (BitVec 16 × BitVec 16) :=
  match m with
  | [] => [(si, ssn)]
  | (k, v) :: r =>
    if k = si then (k, if sna16LT v ssn then ssn else v) :: r
    else if si < k then (si, ssn) :: (k, v) :: r
    else (k, v) :: fwdInsert r si ssn

/-- same for I-FORWARD-TSN: per (stream, unordered) the greatest MID; ordered entry of a stream before its unordered one -/
def ifwdInsert (m : List (BitVec 16 × Bool × BitVec 32)) (si : BitVec 16) (u : Bool) (mid : BitVec 32) : List (BitVec 16 × Bool × BitVec 32) :=
  match m with
  | [] => [(si, u, mid)]
  | (k, ku, v) :: r =>
    if k = si ∧ ku = u then (k, ku, if sna32LT v mid then mid else v) :: r
    else if si < k ∨ (si = k ∧ !u ∧ ku) then (si, u, mid) :: (k, ku, v) :: r
    else (k, ku, v) :: ifwdInsert r si u mid

/-- the chunks `for i := cumAck+1; sna32LTE(i, advPeerAck); i++ { c, ok := get(i); if !ok break … }` visits -/
def fwdScan (s : Sender.St) : Nat → BitVec 32 → List Sender.Chunk
  | 0, _ => []
  | fuel+1, i =>
    if sna32LTE i s.advPeerAck then
      match Sender.get s.inflight i with
      | none => []
      | some (_, c) => c :: fwdScan s fuel (i + 1)
    else []

inductive Fwd
  | none
  | fwd (cum : BitVec 32) (streams : List (BitVec 16 × BitVec 16))               -- FORWARD-TSN
  | ifwd (cum : BitVec 32) (streams : List (BitVec 16 × Bool × BitVec 32))       -- I-FORWARD-TSN
  deriving BEq, Repr, Inhabited

/-- `gatherOutboundForwardTSNPackets` on the state left by the data part of the gather; `armed` = `willSendForwardTSN` before -/
def forwardTsn (s : Sender.St) (armed : Bool) : Fwd :=
  if armed && sna32GT s.advPeerAck s.cumAck && s.cfg.prEnabled then
    let cs := fwdScan s (s.inflight.length + 1) (s.cumAck + 1)
    if s.cfg.useInterleaving then
      .ifwd s.advPeerAck (cs.foldl (fun m c => ifwdInsert m c.si c.unordered c.mid) [])
    else
      .fwd s.advPeerAck ((cs.filter (!·.unordered)).foldl (fun m c => fwdInsert m c.si c.ssn) [])
  else .none

structure GatherOut where
  out : Sender.GatherOut := {}
  fwd : Fwd := .none
  notified : Bool := false                 -- `notifyBlockWritable` ran
  woken : List (Nat × WRes) := []          -- parked calls that returned because of it

/-- `gatherOutbound`: the data part is `Sender.gather`; at the end of `popPendingDataChunksToSend` blocked writers are
released (`Gen.popPending_notifyWritable`: blocking mode ∧ (something was sent ∨ the flag is up) ∧ the queue is empty) -/
def gather (s : St) (orc : Sender.Oracle) (sel : List Nat) (woke : Option Nat) : St × GatherOut :=
  let r := Sender.gather s.snd orc sel
  let notify := s.snd.established &&
    popPending_notifyWritable s.blockWrite (r.2.admits.length : Int) s.writePending r.1.penChunks
  let s1 : St := { s with snd := r.1, writePending := if notify then false else s.writePending }
  let fwd := if s.snd.established then forwardTsn r.1 s.snd.willSendForwardTSN else .none
  match (if notify then woke else none) with
  | some wid =>
    let w := wake s1 wid
    (w.1, { out := r.2, fwd := fwd, notified := notify, woken := w.2.toList.map fun x => (wid, x) })
  | none => (s1, { out := r.2, fwd := fwd, notified := notify })

/-! ## close -/

inductive CloseRes | ok | notEstablished | noStream
  deriving BEq, Repr, Inhabited, DecidableEq

/-- the end-of-stream marker `sendResetRequest` queues: a DATA chunk without user data -/
def resetMarker (si : BitVec 16) (msg : Nat) : Sender.Chunk := { si := si, len := 0, msg := msg, bfrag := true, efrag := true }

/-- `Stream.Close()`: open → closing (closed if the read side already ended), then `sendResetRequest`, which fails outside
`established` AFTER the state change -/
def closeStream (s : St) (si : BitVec 16) : St × CloseRes :=
  match s.snd.streams si with
  | none => (s, .noStream)
  | some _ =>
    if close_isOpen (s.sstate si) then
      let noErr := match s.rd si with
        | some r => r.readErr.isNone
        | none => true
      let st' : Int := if close_noReadErr noErr then (StreamStateClosing : Int) else (StreamStateClosed : Int)
      let s1 : St := { s with sstate := fun k => if k = si then st' else s.sstate k }
      if reset_notEstablished s.state then (s1, .notEstablished)
      else ({ s1 with snd := Sender.pushPending { s1.snd with nextMsg := s1.snd.nextMsg + 1 } [resetMarker si s1.snd.nextMsg] }, .ok)
    else (s, .ok)

/-! ## read half -/

/-- result of a `ReadSCTP` call -/
inductive RRes
  | data (n : Int) (ppi : BitVec 32) (bytes : List UInt8)    -- `(n, ppi, nil)`
  | short (n : Int)                                          -- `(n, 0, io.ErrShortBuffer)`: n = length of the message
  | err (e : RdErr)                                          -- `(0, 0, readErr)`
  | blocked (rid : Nat)
  | busy
  | noStream
  deriving BEq, Repr, Inhabited

/-- one pass of the loop of `ReadSCTP`; `none` = `readNotifier.Wait()` -/
def tryRead (r : RStream) (buflen : Nat) : RStream × Option RRes :=
  let x := r.q.read buflen
  match x.2.err with
  | .ok => ({ r with q := x.1 }, some (.data x.2.n x.2.ppi x.2.data))
  | .shortBuffer => ({ r with q := x.1 }, some (.short x.2.n))
  | .tryAgain =>
    match r.readErr with
    | some e => (r, some (.err e))
    | none => (r, none)

/-- the deferred function of `ReadSCTP`: a read-deadline goroutine that can no longer matter is cancelled -/
def readDone (r : RStream) : RStream := if r.timer.isSome && r.readErr.isSome then { r with timer := none } else r

/-- a parked reader is signalled: it runs the loop again -/
def wakeReader (r : RStream) : RStream × List (Nat × RRes) :=
  match r.reader with
  | none => (r, [])
  | some (rid, buflen) =>
    match tryRead r buflen with
    | (r', some res) => (readDone { r' with reader := none }, [(rid, res)])
    | (r', none) => (r', [])

/-- `Stream.ReadSCTP(buf)` with `len(buf) = buflen` -/
def read (s : St) (si : BitVec 16) (buflen : Nat) : St × RRes :=
  match s.rd si with
  | none => (s, .noStream)
  | some r =>
    if r.reader.isSome then (s, .busy)
    else match tryRead r buflen with
      | (r', some res) => (setRd s si (readDone r'), res)
      | (r', none) => ({ setRd s si { r' with reader := some (s.nextRid, buflen) } with nextRid := s.nextRid + 1 }, .blocked s.nextRid)

/-- `Stream.handleData`: push; a complete message that makes the queue readable signals the reader -/
def rpush (s : St) (si : BitVec 16) (c : Reasm.Chunk) : St × Reasm.Err × List (Nat × RRes) :=
  match s.rd si with
  | none => (s, .none, [])
  | some r =>
    let x := r.q.pushWithError c
    if x.2.2 != .none then (s, x.2.2, [])                       -- `return err` (the model's queue is unchanged on a limit error)
    else
      let r1 := { r with q := x.1 }
      if x.2.1 && x.1.isReadable then
        let w := wakeReader r1
        (setRd s si w.1, .none, w.2)
      else (setRd s si r1, .none, [])

/-- the read-deadline goroutine's timer fires: `readErr` becomes the deadline error unless one is set, the reader is signalled -/
def fireTimer (r : RStream) : RStream × List (Nat × RRes) :=
  wakeReader { r with readErr := (if r.readErr.isNone then some .deadline else r.readErr), timer := none }

/-- `Stream.SetReadDeadline(t)`; `at` = `none` for the zero time, otherwise the absolute ms -/
def rdeadline (s : St) (si : BitVec 16) (at_ : Option Nat) : St × List (Nat × RRes) :=
  match s.rd si with
  | none => (s, [])
  | some r =>
    let r1 := { r with timer := none }                                    -- close(readTimeoutCancel)
    match (match r1.readErr with
           | some e => if e != .deadline then none else some { r1 with readErr := none }
           | none => some r1) with
    | none => (setRd s si r1, [])                                          -- EOF stays; `return nil`
    | some r2 =>
      match at_ with
      | none => (setRd s si r2, [])
      | some t =>
        if t ≤ s.snd.now then let f := fireTimer r2; (setRd s si f.1, f.2)     -- `time.NewTimer(≤ 0)` fires at once
        else (setRd s si { r2 with timer := some t }, [])

/-- `Stream.onInboundStreamReset()`: `readErr = io.EOF`, every reader is woken, closing → closed -/
def reof (s : St) (si : BitVec 16) : St × List (Nat × RRes) :=
  match s.rd si with
  | none => (s, [])
  | some r =>
    let w := wakeReader { r with readErr := some .eof }
    let s1 := setRd s si w.1
    ({ s1 with sstate := fun k => if k = si ∧ s.sstate si = (StreamStateClosing : Int) then (StreamStateClosed : Int) else s1.sstate k }, w.2)

/-- the read-deadline timer of a stream has reached its instant -/
def timerDue (r : RStream) (now : Nat) : Bool :=
  match r.timer with
  | some t => decide (t ≤ now)
  | none => false

/-- read-deadline timers that are due, stream by stream -/
def fireTimers (s : St) : List (BitVec 16) → St × List (Nat × RRes)
  | [] => (s, [])
  | si :: rest =>
    match s.rd si with
    | some r =>
      if timerDue r s.snd.now then
        let f := fireTimer r
        let x := fireTimers (setRd s si f.1) rest
        (x.1, f.2 ++ x.2)
      else fireTimers s rest
    | none => fireTimers s rest

/-! ## streams, clock -/

inductive OpenRes | ok | closed
  deriving BEq, Repr, Inhabited, DecidableEq

/-- `OpenStream` refuses in the shutdown states and in `closed` -/
def openRefused (state : BitVec 32) : Bool :=
  state == BitVec.ofNat 32 shutdownAckSent || state == BitVec.ofNat 32 shutdownPending ||
  state == BitVec.ofNat 32 shutdownReceived || state == BitVec.ofNat 32 shutdownSent || state == BitVec.ofNat 32 closed

/-- `OpenStream(si)` + `SetReliabilityParams(unordered, relType, relVal)`; an existing Stream object is kept -/
def openStream (s : St) (si : BitVec 16) (unordered : Bool) (relType : BitVec 8) (relVal : BitVec 32) : St × OpenRes :=
  if openRefused s.state then (s, .closed)
  else
    let s1 : St := { s with snd := Sender.openStream s.snd si unordered relType relVal 0 }
    match s.snd.streams si with
    | some _ => (s1, .ok)
    | none =>
      ({ setRd s1 si { q := Reasm.new si 0 } with
           sstate := fun k => if k = si then (StreamStateOpen : Int) else s.sstate k, sids := s.sids ++ [si] }, .ok)

/-- `Stream.SetReliabilityParams` on an existing Stream object -/
def setRel (s : St) (si : BitVec 16) (unordered : Bool) (relType : BitVec 8) (relVal : BitVec 32) : St :=
  match s.snd.streams si with
  | none => s
  | some st => { s with snd := Sender.setStream s.snd si { st with unordered := unordered, relType := relType, relVal := relVal } }

/-- the clock advances: T3 expiries and RACK/PTO marks (oracles, as in `Sender`), then write deadlines, then read deadlines -/
def tick (s : St) (ms nT3 : Nat) (marks : List (BitVec 32)) : St × List (Nat × WRes) × List (Nat × RRes) :=
  let s1 : St := { s with snd := Sender.step s.snd (.tick ms nT3 marks) }
  let w := expireWaiters s1
  let r := fireTimers w.1 w.1.sids
  (r.1, w.2, r.2)

/-! ## operations (the alphabet the theorems quantify over) -/

inductive Op where
  | setState (n : BitVec 32)
  | openS (si : BitVec 16) (unordered : Bool) (relType : BitVec 8) (relVal : BitVec 32)
  | setRel (si : BitVec 16) (unordered : Bool) (relType : BitVec 8) (relVal : BitVec 32)
  | write (si : BitVec 16) (ppi : BitVec 32) (len : Nat) (dl : Option Nat)
  | gather (orc : Sender.Oracle) (sel : List Nat) (woke : Option Nat)
  | sack (cum arwnd : BitVec 32) (gaps : List (BitVec 16 × BitVec 16)) (marks : List (BitVec 32))
  | t3
  | tick (ms nT3 : Nat) (marks : List (BitVec 32))
  | close (si : BitVec 16)
  | rpush (si : BitVec 16) (c : Reasm.Chunk)
  | read (si : BitVec 16) (buflen : Nat)
  | rdeadline (si : BitVec 16) (at_ : Option Nat)
  | reof (si : BitVec 16)

def step (s : St) : Op → St
  | .setState n => setState s n
  | .openS si u rt rv => (openStream s si u rt rv).1
  | .setRel si u rt rv => setRel s si u rt rv
  | .write si ppi len dl => (write s si ppi len dl).1
  | .gather orc sel woke => (gather s orc sel woke).1
  | .sack cum arwnd gaps marks => { s with snd := (Sender.sack s.snd cum arwnd gaps marks).1 }
  | .t3 => { s with snd := Sender.t3 s.snd }
  | .tick ms n marks => (tick s ms n marks).1
  | .close si => (closeStream s si).1
  | .rpush si c => (rpush s si c).1
  | .read si n => (read s si n).1
  | .rdeadline si t => (rdeadline s si t).1
  | .reof si => (reof s si).1

def run (s : St) : List Op → St
  | [] => s
  | op :: ops => run (step s op) ops

end Sapi
