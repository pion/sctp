import SctpVerif.Proofs.Sender
/-!
# C01 / C06 (sender half) — what goes on the wire is what the application wrote

Property theorems only, about the L0 sender model `Model/Sender.lean` (tied to association.go / stream.go by the direct-drive
correspondence: every `as` line of the real Association is replayed through it).

C01 says every message is delivered "intact"; C06 says every message handed to the reader is "byte-for-byte one of the
messages written on that stream with its identifier … never … a splice of several messages". The receiver-side theorems
(`C01_reasm_ordered`, `C11`) assume that the chunks arriving are fragments of the written messages. This file proves that
assumption for the sender, for ALL runs: whatever happens between writing and sending (window stalls, zero-window probes,
T3 expiries, RACK / PTO marks, fast retransmissions, SACKs with arbitrary contents, partial-reliability abandonment),
every DATA / I-DATA chunk that any `gather` puts on the wire

* is a faithful copy of a chunk created by an accepted `write` of that run: same stream, message identity, PPI, U/B/E flags,
  SSN, MID, FSN and payload length (`Chunk.frag`, `len`); only its TSN and its transmission bookkeeping were added;
* is not a chunk the peer has already acknowledged (`acked = false`: acknowledged chunks have released their payload —
  `markAsAcked` sets `userData = nil` — so retransmitting one would put an EMPTY fragment of the message on the wire).

and the chunks a write creates are exactly the fragments of ONE message: consecutive FSNs from 0, `B` on the first, `E` on
the last, lengths between 1 and the payload limit that sum to the message length, one SSN / MID, one message identity.

The payload BYTES are not in this model (only lengths): that a chunk's bytes are the corresponding slice of the written
buffer is a fact about `packetize` copying slices, observed by the end-to-end runs (`P_C01` compares content hashes).
-/
namespace C01
open Gen Sender SenderProofs

/-- **Faithful wire.** Every chunk any gather of any run puts on the wire is an un-acknowledged, faithful copy of a chunk
created by an accepted write of that run. ALL configurations, initial TSNs and windows, ALL operation lists
(`openS / unreg / setEstablished / write / gather / sack / t3 / tick` with arbitrary SACK contents and oracle values). -/
theorem C01_wire_faithful (cfg : Cfg) (tsn peerRwnd : BitVec 32) (ops : List Op) :
    ∀ e ∈ wire (init cfg tsn peerRwnd) ops,
      e.acked = false ∧ ∃ w ∈ written (init cfg tsn peerRwnd) ops, Chunk.frag e = Chunk.frag w ∧ e.len = w.len := by
  intro e he
  have := run_wire (W := []) (init cfg tsn peerRwnd) ops (init_wire cfg tsn peerRwnd) e he
  simpa [Emitted] using this

/-- the same from ANY state whose queues are already faithful (e.g. any reachable one): later operations cannot corrupt
a queued chunk -/
theorem C01_wire_faithful_from (W : List Chunk) (s : St) (hw : WireInv W s) (ops : List Op) :
    ∀ e ∈ wire s ops, e.acked = false ∧ ∃ w ∈ W ++ written s ops, Chunk.frag e = Chunk.frag w ∧ e.len = w.len :=
  fun e he => run_wire s ops hw e he

/-- **An acknowledged chunk is never flagged for retransmission** in any reachable state (T3 marking, RACK / PTO marks
and fast retransmit all skip it), and every queued chunk is a copy of a written one. -/
theorem C01_acked_never_marked (cfg : Cfg) (tsn peerRwnd : BitVec 32) (ops : List Op) :
    ∀ c ∈ (run (init cfg tsn peerRwnd) ops).inflight, c.acked = true → c.retransmit = false := by
  have key : ∀ (ops : List Op) (W : List Chunk) (s : St), WireInv W s → ∃ W', WireInv W' (run s ops) := by
    intro ops
    induction ops with
    | nil => intro W s h; exact ⟨W, h⟩
    | cons op ops ih => intro W s h; exact ih _ _ (step_wire s op h).1
  obtain ⟨W', h⟩ := key ops [] _ (init_wire cfg tsn peerRwnd)
  exact fun c hc => (h.inf c hc).2

/-- **A write creates the fragments of exactly one message.** For every state and every accepted write (`writeChunks`
non-empty), the i-th chunk carries FSN `i`, `B` iff `i = 0`, `E` iff it is the last, the write's message identity, one
SSN and MID, the PPI, and `unordered` only if the stream is unordered and the PPI is not DCEP (C06: data-channel control
messages are always ordered); the lengths are between 1 and the payload limit and sum to the message length. -/
theorem C01_write_fragments (s : St) (si : BitVec 16) (ppi : BitVec 32) (len : Nat) (st : Stream)
    (hs : s.streams si = some st) (hne : writeChunks s si ppi len ≠ []) :
    let p := packetize s.cfg st si s.nextMsg ppi len
    writeChunks s si ppi len = p.chunks ∧
    sumLen p.chunks = len ∧
    (∀ c ∈ p.chunks, 0 < c.len ∧ c.len ≤ s.cfg.maxPayload.toNat) ∧
    (∀ i c, p.chunks[i]? = some c →
      c.si = si ∧ c.msg = s.nextMsg ∧ c.ppi = ppi ∧
      c.unordered = (ppi != BitVec.ofNat 32 PayloadTypeWebRTCDCEP && st.unordered) ∧
      c.fsn = BitVec.ofNat 32 i ∧ c.bfrag = (i == 0) ∧ c.efrag = (i + 1 == p.chunks.length) ∧
      c.ssn = (p.chunks.headD c).ssn ∧ c.mid = (p.chunks.headD c).mid) := by
  intro p
  have hwc : writeChunks s si ppi len = p.chunks ∧ s.cfg.maxPayload ≠ 0 := by
    unfold writeChunks at hne ⊢
    simp only [hs] at hne ⊢
    split at hne
    · exact absurd rfl hne
    · split at hne
      · exact absurd rfl hne
      · rename_i h1 h2
        split at hne
        · exact absurd rfl hne
        · rename_i h3
          split at hne
          · rename_i h4; simp only [h1, h2, h3, h4, if_false, if_true]; exact ⟨rfl, h3⟩
          · exact absurd rfl hne
  obtain ⟨hw, hmp⟩ := hwc
  obtain ⟨_, _, _, hsum, _, hlen, _⟩ := packetize_spec s.cfg st si s.nextMsg ppi len hmp
  refine ⟨hw, hsum, fun c hc => ⟨(hlen c hc).1, (hlen c hc).2.1⟩, ?_⟩
  intro i c hic
  have hlenEq : p.chunks.length = (fragSizes s.cfg.maxPayload.toNat len).length := by
    simp only [p, packetize]; exact (mkChunks_spec _ _ _ _ _ _ _ _ _).2.2.1
  have hg := mkChunks_get _ _ _ _ _ _ _ _ _ i c (by simpa only [p, packetize] using hic)
  obtain ⟨g1, g2, g3, g4, g5, g6, g7, g8, g9, _⟩ := hg
  have hhead : ∀ h0, p.chunks[0]? = some h0 → h0.ssn = c.ssn ∧ h0.mid = c.mid := by
    intro h0 hh
    have := mkChunks_get _ _ _ _ _ _ _ _ _ 0 h0 (by simpa only [p, packetize] using hh)
    exact ⟨this.2.2.2.2.1.trans g5.symm, this.2.2.2.2.2.1.trans g6.symm⟩
  refine ⟨g1, g2, g3, g4, by simpa using g7, by simpa using g8, by rw [hlenEq]; exact g9, ?_, ?_⟩
  · cases hq : p.chunks with
    | nil => rfl
    | cons h0 r => simp only [List.headD_cons]; exact ((hhead h0 (by simp [hq])).1).symm
  · cases hq : p.chunks with
    | nil => rfl
    | cons h0 r => simp only [List.headD_cons]; exact ((hhead h0 (by simp [hq])).2).symm

/-- **Message identity.** Two chunks created by the writes of a run that carry the same message identity were created by
the same write: same stream, PPI, ordering flag, SSN and MID; with the same FSN they are the same chunk. Together with
`C01_wire_faithful`: the chunks on the wire that carry identity `m` are copies of the fragments of exactly one written
message — no gather can splice fragments of two messages under one (stream, SSN / MID). -/
theorem C01_message_identity (cfg : Cfg) (tsn peerRwnd : BitVec 32) (ops : List Op) :
    ∀ a ∈ written (init cfg tsn peerRwnd) ops, ∀ b ∈ written (init cfg tsn peerRwnd) ops, a.msg = b.msg →
      a.si = b.si ∧ a.ppi = b.ppi ∧ a.unordered = b.unordered ∧ a.ssn = b.ssn ∧ a.mid = b.mid ∧ (a.fsn = b.fsn → a = b) :=
  written_same_msg _ ops

-- non-vacuity (tests, by evaluation): a 2500-byte message is written, sent as 3 fragments, the first one is lost and
-- retransmitted after T3; the wire then carries 4 chunks, all of message 0, FSNs 0,1,2,0.
private def cfg0 : Cfg := { mtu := 1200, maxPayload := 1168 }
private def ops0 : List Op :=
  [.openS 1 false 0 0 0, .write 1 53 2500, .gather freeOracle [0, 0, 0], .sack 100 65536 [(2, 3)] [], .t3, .gather freeOracle []]
example : (wire (init cfg0 101 65536) ops0).map (fun c => (c.tsn, c.msg, c.fsn, c.len, c.bfrag, c.efrag)) =
    [(101#32, 0, 0#32, 1168, true, false), (102#32, 0, 1#32, 1168, false, false), (103#32, 0, 2#32, 164, false, true),
     (101#32, 0, 0#32, 1168, true, false)] := by decide +kernel
example : (written (init cfg0 101 65536) ops0).map (·.len) = [1168, 1168, 164] := by decide +kernel
example : writeChunks (run (init cfg0 101 65536) [.openS 1 false 0 0 0]) 1 53 2500 ≠ [] := by decide +kernel

end C01
