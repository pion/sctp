import SctpVerif.Props.C01wire
/-!
# C06 (sender half) — "byte-for-byte one of the messages written … never a fragment or a splice of several messages"

The statement of C06 holds "whatever ordering and reliability policy a stream uses". The sender-side content of that clause
is policy-independent and is proved in `Props/C01wire.lean` for ALL runs, which include every policy (`openS` with any
reliability type / value, ordered or unordered), abandonment and FORWARD-TSN episodes. This file states it under the C06
name for the PARTIALLY RELIABLE case explicitly, so that the obligation is counted and audited with C06.
-/
namespace C06
open Gen Sender SenderProofs

/-- Whatever the reliability policy of the streams (the op list may open streams with any `relType` / `relVal`, ordered or
not, and abandon messages at will), every chunk on the wire is an un-acknowledged faithful copy of a written fragment, and
all written chunks with one message identity come from one write. -/
theorem C06_wire_never_splices (cfg : Cfg) (tsn peerRwnd : BitVec 32) (ops : List Op) :
    (∀ e ∈ wire (init cfg tsn peerRwnd) ops,
      e.acked = false ∧ ∃ w ∈ written (init cfg tsn peerRwnd) ops, Chunk.frag e = Chunk.frag w ∧ e.len = w.len) ∧
    (∀ a ∈ written (init cfg tsn peerRwnd) ops, ∀ b ∈ written (init cfg tsn peerRwnd) ops, a.msg = b.msg →
      a.si = b.si ∧ a.ppi = b.ppi ∧ a.unordered = b.unordered ∧ a.ssn = b.ssn ∧ a.mid = b.mid ∧ (a.fsn = b.fsn → a = b)) :=
  ⟨C01.C01_wire_faithful cfg tsn peerRwnd ops, C01.C01_message_identity cfg tsn peerRwnd ops⟩

/-- **DCEP is always ordered** (sender side): a write with the data-channel control PPI creates ordered chunks whatever
the stream's ordering flag says. -/
theorem C06_dcep_chunks_ordered (s : St) (si : BitVec 16) (len : Nat) :
    ∀ c ∈ writeChunks s si (BitVec.ofNat 32 PayloadTypeWebRTCDCEP) len, c.unordered = false := by
  intro c hc
  cases hs : s.streams si with
  | none => simp [writeChunks, hs] at hc
  | some st =>
    have hne : writeChunks s si (BitVec.ofNat 32 PayloadTypeWebRTCDCEP) len ≠ [] := List.ne_nil_of_mem hc
    obtain ⟨hw, _, _, hget⟩ := C01.C01_write_fragments s si _ len st hs hne
    rw [hw] at hc
    obtain ⟨i, hi⟩ := List.getElem?_of_mem hc
    have := (hget i c hi).2.2.2.1
    simpa using this

-- non-vacuity (test, by evaluation): an unordered, rexmit-0 stream; a DCEP write and a data write
example :
    let s := run (init { mtu := 1200, maxPayload := 1168 } 100 65536) [.openS 1 true 1 0 0]
    ((writeChunks s 1 (BitVec.ofNat 32 PayloadTypeWebRTCDCEP) 10).map (·.unordered), (writeChunks s 1 53 10).map (·.unordered)) =
      ([false], [true]) := by decide +kernel

end C06
