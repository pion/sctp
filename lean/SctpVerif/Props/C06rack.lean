import SctpVerif.Proofs.Rack.Marks
/-!
# C06 / C07 — loss recovery never touches an acknowledged or abandoned chunk (RACK, RACK timer, PTO, TLR)

Property theorems only, on `Model/Rack.lean`. A chunk whose message was abandoned (partial reliability) or that the
peer has acknowledged must never be flagged for retransmission again: a flagged chunk is put on the wire by the next
`getDataPacketsToRetransmit` without any further test of `abandoned()`. The four places that set the flag are
`onRackAfterSACK`, `onRackTimeoutLocked`, `onPTOTimerLocked` (and `timerLoop`, which calls the last two); TLR only
gates sending and selects nothing but the TSN that ends the episode.

`Rack.Outstanding q t`: in the store `q` the TSN `t` names a chunk that is neither acked nor abandoned.
`Rack.flagged q m`: `q` with the retransmit flag set on the chunks whose TSN is in `m`, nothing else changed.
-/
namespace C06
open Rack Gen

/-- ✱ Every marking path flags only chunks that are neither acknowledged nor abandoned, and changes NOTHING else in the
chunk store — for every state, every environment reading and every SACK summary:
`onRackAfterSACK`, the RACK timer callback, the PTO callback (`timerLoop` does nothing but call the last two). -/
theorem C06_rack_skips_abandoned (s : St) (env : Env) (found : Bool) (nt : Int) (ntsn : BitVec 32) (nd : Int) :
    -- RACK on a SACK
    ((onRackAfterSACK s env found nt ntsn nd).1.q = flagged s.q (onRackAfterSACK s env found nt ntsn nd).2 ∧
      ∀ t ∈ (onRackAfterSACK s env found nt ntsn nd).2, Outstanding s.q t) ∧
    -- RACK timer
    ((onRackTimeout s env).1.q = flagged s.q (onRackTimeout s env).2 ∧ ∀ t ∈ (onRackTimeout s env).2, Outstanding s.q t) ∧
    -- PTO: at most one chunk, and it is in the store, unacknowledged, not abandoned
    ((onPTOTimer s env).2 = [] ∧ (onPTOTimer s env).1.q = s.q ∨
      ∃ c ∈ s.q, c.acked = false ∧ c.abandoned = false ∧ (onPTOTimer s env).2 = [c.tsn] ∧
        (onPTOTimer s env).1.q = flagged s.q [c.tsn]) := by
  refine ⟨⟨onRackAfterSACK_q _ _ _ _ _ _, fun t ht => ?_⟩, ⟨onRackTimeout_q _ _, fun t ht => ?_⟩, ?_⟩
  · exact (onRackAfterSACK_marks _ _ _ _ _ _ t ht).2.1.outstanding sackWalk_std
  · rw [onRackTimeout_eq] at ht; exact (markWith_marks timeoutWalk_std _ _ t ht).2.1.outstanding timeoutWalk_std
  · refine onPTOTimer_rule (P := fun r => r.2 = [] ∧ r.1.q = s.q ∨
        ∃ c ∈ s.q, c.acked = false ∧ c.abandoned = false ∧ r.2 = [c.tsn] ∧ r.1.q = flagged s.q [c.tsn])
      (fun _ => .inl ⟨rfl, rfl⟩) (fun _ _ => .inl ⟨rfl, ptoTlr_q s env⟩) fun c hl _ _ => ?_
    have hs := ptoLatest_spec s c hl
    exact .inr ⟨c, hs.1, hs.2.1, hs.2.2, rfl, rfl⟩

/-- with distinct TSNs in the in-flight queue (they are consecutive in the code) this reads: an acknowledged or abandoned
chunk comes out of every marking path exactly as it went in -/
theorem C06_rack_dead_chunks_untouched (s : St) (env : Env) (found : Bool) (nt : Int) (ntsn : BitVec 32) (nd : Int)
    (hnd : (s.q.map (·.tsn)).Nodup) (c : Chunk) (hc : c ∈ s.q) (hdead : c.acked = true ∨ c.abandoned = true) :
    c ∈ (onRackAfterSACK s env found nt ntsn nd).1.q ∧ c ∈ (onRackTimeout s env).1.q ∧ c ∈ (onPTOTimer s env).1.q := by
  have hfind : find s.q c.tsn = some c := find_of_mem_nodup hnd hc
  have notOut : ¬ Outstanding s.q c.tsn := by
    rintro ⟨c', hc', ha, hb⟩
    rw [hfind] at hc'; cases hc'
    rcases hdead with h | h <;> simp_all
  have keep : ∀ m : List (BitVec 32), (∀ t ∈ m, Outstanding s.q t) → c ∈ flagged s.q m := by
    intro m hm
    unfold flagged
    refine List.mem_map.mpr ⟨c, hc, ?_⟩
    have : c.tsn ∉ m := fun h => notOut (hm _ h)
    simp [this]
  have h := C06_rack_skips_abandoned s env found nt ntsn nd
  refine ⟨?_, ?_, ?_⟩
  · rw [h.1.1]; exact keep _ h.1.2
  · rw [h.2.1.1]; exact keep _ h.2.1.2
  · rcases h.2.2 with ⟨_, hq⟩ | ⟨c', hc', ha, hb, _, hq⟩
    · rw [hq]; exact hc
    · rw [hq]
      apply keep
      intro t ht
      simp only [List.mem_singleton] at ht
      subst ht
      exact ⟨c', find_of_mem_nodup hnd hc', ha, hb⟩

/-- the SACK as a whole (`processSelectiveAck` bookkeeping, `onRackAfterSACK`, `tlrMaybeFinishLocked`): every TSN it
reports as marked names a chunk that is outstanding in the queue as the SACK left it -/
theorem C06_rack_sack_marks_outstanding (s : St) (env : Env) (cum : BitVec 32) (gaps : List (BitVec 32)) (nd : Int) (nm : Nat)
    (s' : St) (marks : List (BitVec 32)) (h : sack s env cum gaps nd nm = some (s', marks)) :
    ∀ t ∈ marks, Outstanding s'.q t := by
  obtain ⟨p, _, e⟩ := sack_some h
  simp only [afterAck, Prod.mk.injEq] at e
  obtain ⟨rfl, rfl⟩ := e
  intro t ht
  rw [tlrMaybeFinish_q, onRackAfterSACK_q, outstanding_flagged]
  exact (onRackAfterSACK_marks _ _ _ _ _ _ t ht).2.1.outstanding sackWalk_std

/-- T3 (`markAllToRetrasmit`), the remaining writer of the flag, skips them too -/
theorem C06_t3_skips_abandoned (s : St) (c : Chunk) (hc : c ∈ s.q) (hdead : c.acked = true ∨ c.abandoned = true) :
    c ∈ (t3 s).q := by
  unfold t3
  refine List.mem_map.mpr ⟨c, hc, ?_⟩
  rcases hdead with h | h <;> simp [h]

-- non-vacuity: a SACK-time walk over an abandoned and a live chunk, both overdue: only the live one is marked
example :
    (onRackAfterSACK { (default : St) with now := 100, deliveredTime := 50, list := [1, 2], q := [({ tsn := 1, since := 10, abandoned := true } : Chunk), ({ tsn := 2, since := 10 } : Chunk)] } {} false 0 0 0).2 = [2] := by decide +kernel

-- the hypothesis of C06_rack_dead_chunks_untouched (distinct TSNs) holds for queues the code builds
example : (([({ tsn := 1, since := 10, abandoned := true } : Chunk), ({ tsn := 2, since := 10 } : Chunk)]).map (·.tsn)).Nodup := by decide +kernel

end C06
