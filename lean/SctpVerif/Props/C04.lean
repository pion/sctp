import SctpVerif.Proofs.Handshake
/-!
# C04 — handshake reaches agreement under packet faults; stale handshake packets are harmless

Property theorems only, about the L0 model `Hs` (Model/Handshake.lean), which the direct-drive
correspondence `TestVerifHandshake` replays line by line against two real associations.
`ops : List Op` is an arbitrary interleaving of: either side starting, delivering ANY packet
ever sent by either side (so loss, duplication, reordering and arbitrary delay are all
included), T1-init / T1-cookie expiries (retransmitting at once, or queued and marshalled by a later write-loop pass).
-/
namespace C04
open Hs

/-- the model's state numbers are the code's (translator-generated constants) -/
theorem C04_state_constants :
    stClosed = Gen.closed ∧ stCookieWait = Gen.cookieWait ∧ stCookieEchoed = Gen.cookieEchoed ∧
    stEstablished = Gen.established := by decide +kernel

/-- Agreement (safety, every fault schedule, both start orders, all 16 option combinations):
whenever an endpoint is established it uses interleaving exactly when both sides enabled it, the
forward-TSN variant matches, and it sends zero checksums only if the peer declared them acceptable. -/
theorem C04_agreement (ilA zcA ilB zcB : Bool) (ops : List Op) :
    let s := (Sys.init ilA zcA ilB zcB).run ops
    (s.a.st = stEstablished →
      s.a.uil = (ilA && ilB) ∧ s.a.uifwd = (ilA && ilB) ∧ s.a.ufwd = !(ilA && ilB) ∧ (s.a.sendZero = true → zcB = true)) ∧
    (s.b.st = stEstablished →
      s.b.uil = (ilA && ilB) ∧ s.b.uifwd = (ilA && ilB) ∧ s.b.ufwd = !(ilA && ilB) ∧ (s.b.sendZero = true → zcA = true)) := by
  intro s
  have h := run_inv ilA zcA ilB zcB ops
  refine ⟨fun he => established_flags _ _ _ _ _ _ h.a he, fun he => ?_⟩
  have := established_flags _ _ _ _ _ _ h.b he
  rwa [Bool.and_comm ilB ilA] at this

/-- both established ⇒ both use the same framing -/
theorem C04_same_framing (ilA zcA ilB zcB : Bool) (ops : List Op) :
    let s := (Sys.init ilA zcA ilB zcB).run ops
    s.a.st = stEstablished → s.b.st = stEstablished → s.a.uil = s.b.uil ∧ s.a.uifwd = s.b.uifwd ∧ s.a.ufwd = s.b.ufwd := by
  intro s ha hb
  have h := C04_agreement ilA zcA ilB zcB ops
  obtain ⟨a1, a2, a3, -⟩ := h.1 ha
  obtain ⟨b1, b2, b3, -⟩ := h.2 hb
  exact ⟨a1.trans b1.symm, a2.trans b2.symm, a3.trans b3.symm⟩

/-- what negotiation and data transfer depend on -/
def core (e : Ep) : Nat × Bool × Bool × Bool × Bool × Bool × Bool × Bool × Bool :=
  (e.st, e.pil, e.pfwd, e.pifwd, e.sendZero, e.uil, e.ufwd, e.uifwd, e.hasCookie)

/-- Stale or duplicated handshake packets never disturb an established endpoint: ANY INIT, INIT-ACK,
COOKIE-ECHO or COOKIE-ACK (arbitrary field values, with or without checksum) leaves it unchanged;
the only possible reply is a COOKIE-ACK to a COOKIE-ECHO carrying its own cookie. -/
theorem C04_stale_harmless (e : Ep) (p : Pkt) (he : e.st = stEstablished) :
    (handle e p).1 = e ∧
    ((handle e p).2 = [] ∨ (∃ c, p.msg = .cookieEcho c ∧ c = e.id ∧ (handle e p).2 = [.cookieAck])) :=
  (handle_cases e p).established he

/-- established is absorbing for the handshake machinery: no further handshake event (delivery of any old
packet, timer expiry, queued retransmission, write-loop pass, a second start) takes an endpoint out of it or
changes anything it negotiated. -/
theorem C04_established_stable (s : Sys) (op : Op) :
    (s.a.st = stEstablished → core (s.step op).a = core s.a) ∧
    (s.b.st = stEstablished → core (s.step op).b = core s.b) := by
  exact ⟨fun he => (congrArg core (established_absorbing s [op] false he) :),
    fun he => (congrArg core (established_absorbing s [op] true he) :)⟩

/-- Reachability (non-vacuity and the fault-free liveness case): with no faults the four-packet
exchange establishes both sides, for every option combination, client/server … -/
theorem C04_fault_free_establishes (ilA zcA ilB zcB : Bool) :
    let s := (Sys.init ilA zcA ilB zcB).run [.start false, .deliver false 0, .deliver true 0, .deliver false 1, .deliver true 1]
    s.a.st = stEstablished ∧ s.b.st = stEstablished := by
  revert ilA zcA ilB zcB
  decide +kernel

/-- … and when both sides start as clients (crossed INITs). -/
theorem C04_both_clients_establish (ilA zcA ilB zcB : Bool) :
    let s := (Sys.init ilA zcA ilB zcB).run
      [.start false, .start true, .deliver false 0, .deliver true 0, .deliver false 1, .deliver true 1,
       .deliver false 2, .deliver true 2, .deliver false 3, .deliver true 3]
    s.a.st = stEstablished ∧ s.b.st = stEstablished := by
  revert ilA zcA ilB zcB
  decide +kernel

/-- A lost packet is recovered by the retransmission timers: INIT lost once, INIT-ACK lost once,
COOKIE-ECHO lost once, COOKIE-ACK lost once — still established on both sides. -/
theorem C04_recovers_from_single_losses (ilA zcA ilB zcB : Bool) :
    let s := (Sys.init ilA zcA ilB zcB).run
      [.start false, .t1Init false, .deliver false 1, .t1Init false, .deliver false 2, .deliver true 1,
       .t1Cookie false, .deliver false 4, .t1Cookie false, .deliver false 5, .deliver true 3]
    s.a.st = stEstablished ∧ s.b.st = stEstablished := by
  revert ilA zcA ilB zcB
  decide +kernel

/-- **No handshake timer survives the handshake.** For every run (any interleaving of starts, deliveries of any packet ever
sent, T1 expiries, delayed write-loop passes) and both endpoints: T1-init runs only in COOKIE-WAIT and T1-cookie only in
COOKIE-ECHOED; in particular an ESTABLISHED endpoint has neither running — also when it was established directly from
COOKIE-WAIT by the peer's COOKIE-ECHO (crossed INITs). A T1 timer left running would exhaust its retry budget minutes later
and fail the "connect" of an association that is in use. The harness logs `isRunning()` of both timers after every step. -/
theorem C04_established_no_t1 (ilA zcA ilB zcB : Bool) (ops : List Op) :
    let s := (Sys.init ilA zcA ilB zcB).run ops
    (∀ x, ((s.ep x).t1i = true → (s.ep x).st = stCookieWait) ∧ ((s.ep x).t1c = true → (s.ep x).st = stCookieEchoed)) ∧
    (∀ x, (s.ep x).st = stEstablished → (s.ep x).t1i = false ∧ (s.ep x).t1c = false) := by
  intro s
  have h := tinv_of_init_run ilA zcA ilB zcB ops
  exact ⟨h, fun x hx => ⟨Bool.eq_false_iff.2 fun ht => absurd (((h x).1 ht).symm.trans hx) (by decide),
    Bool.eq_false_iff.2 fun ht => absurd (((h x).2 ht).symm.trans hx) (by decide)⟩⟩

-- non-vacuity (test): crossed INITs, B's INIT-ACK never reaches A: A is established directly from COOKIE-WAIT (T1-init running)
-- by B's COOKIE-ECHO, and its T1-init is stopped
example :
    let s := (Sys.init true false true false).run [.start false, .start true, .deliver false 0, .deliver true 0, .deliver false 1, .deliver true 2]
    (s.a.st, s.a.t1i, s.a.t1c, s.b.st, s.b.t1i, s.b.t1c) = (stEstablished, false, false, stCookieEchoed, false, true) := by decide +kernel

end C04
