import SctpVerif.Proofs.Conc
import SctpVerif.Gen.Facts
/-!
# C20 — the public API is safe for concurrent use

Property theorems only. **What they are about.** `Gen.lockOrderEdges`, `Gen.callbackSites`, `Gen.observerSites`,
`Gen.entryPointsLocked`, `Gen.blockingUnderLock`, … are REGENERATED from /repo by the translator on every run
(`go/extract/facts_conc.go`): event trees of every function, an abstract interpretation of the lock state along every
path, entry contexts propagated over the call graph (interface calls resolved by method set), with the two
drop-and-reacquire idioms handled precisely. The theorems below are decided on that data, so a change of the locking
structure of the package changes what they say — and breaks them if it breaks the discipline.

**What this is not.** The analysis is syntactic and intra-package: mutexes are identified by (receiver type, field), so all
streams share one node; `sync/atomic` accesses and plain unsynchronised accesses are invisible to it. *Data-race freedom
is a property of the Go memory model and cannot be expressed by an executable Lean model*: it is sampled by the race
detector runs of the thorough tier and reported as supporting evidence only. Real goroutine interleavings are sampled by
the storm scenarios (`TestVerifE2EStorm`), not enumerated. Liveness of the one place that blocks while holding the
association lock (`completeHandshake`) is the subject of C09's teardown model.
-/
namespace C20
open Conc

/-! ## (a) lock order -/

/-- **The lock-acquisition graph of the package has no cycle.** Nodes: `Association.lock`, `Stream.lock`,
`Stream.writeLock`, `Association.timerMu`, `rtxTimer.mutex`, `ackTimer.mutex`, `rtoManager.mutex`; edge `x → y` when some
path through the package acquires `y` while `x` is held (a mutex released for a while inside a callee is not held in that
window). No vertex reaches itself; in particular there is no self edge (no path re-locks a mutex of the same kind while
holding one) and — since `Association.lock → Stream.lock` exists (`unregisterStream`, `checkPartialReliabilityStatus`) —
no `Stream.lock → Association.lock` edge. -/
theorem C20_lock_graph_acyclic :
    (∀ v, ¬ Reach (edgesOf Gen.lockOrderEdges) v v) ∧
    ("Association.lock", "Stream.lock") ∈ edgesOf Gen.lockOrderEdges ∧
    ("Stream.lock", "Association.lock") ∉ edgesOf Gen.lockOrderEdges := by
  have h : acyclic (edgesOf Gen.lockOrderEdges) = true := by decide +kernel
  exact ⟨acyclic_sound h, by decide +kernel, acyclic_no_inversion h (by decide +kernel)⟩

/-- the translator's own consistency facts: no path returns with a mutex it took (or without one of its caller's), no
path unlocks a mutex that is not held, no function re-locks a mutex it holds — with ONE documented exception, the
conditional `if s.association.isBlockWrite() { s.writeLock.Lock() } … if s.association.isBlockWrite() { s.writeLock.Unlock() }`
in `Stream.WriteSCTP`: both tests read the same immutable configuration flag, which a path-insensitive analysis cannot
know. The mutex is dropped and re-acquired around a call in exactly the two documented places. -/
theorem C20_lock_discipline :
    Gen.unbalancedFuncs = ["Stream.WriteSCTP returns with +[Stream.writeLock] -[]", "Stream.WriteSCTP returns with +[] -[Stream.writeLock]"] ∧
    Gen.unlockUnheld = [("Stream.WriteSCTP", "Unlock Stream.writeLock", [])] ∧
    Gen.relockedLocally = [] ∧
    Gen.lockDropSites = ["Association.processAcknowledgement: Association.lock", "Association.resetStreamsIfAny: Association.lock"] := by
  decide +kernel

/-! ## (b) callbacks -/

/-- the scheduler factory supplied through `WithInterleavingStreamSchedulerFactory`: by design a plug-in that is built and
then driven (`Push/Peek/Pop/Reset`, see `Gen.pluginSites`) INSIDE the association's critical section; it is created while
the handshake completes, before the application holds the association. Not a notification callback. -/
def schedulerFactorySite : String × String × List String :=
  ("pendingQueue.setInterleaving", "pendingQueue.newStreamScheduler", ["Association.lock"])

/-- **Callbacks run without internal locks.** Every call of a function VALUE in the package (user callbacks, option
functions, factories) is made with an empty lock set in every calling context — the buffered-amount-low handler among
them (`Stream.onBufferReleased` copies it under `s.lock`, unlocks, then calls; its caller has dropped `a.lock`) —
except the one plug-in site above, which is listed so that a second one cannot appear unnoticed. -/
theorem C20_callbacks_unlocked :
    (Gen.callbackSites.all fun s => s.2.2 == [] || s == schedulerFactorySite) = true ∧
    ("Stream.onBufferReleased", "f", []) ∈ Gen.callbackSites ∧
    (Gen.callbackSites.filter fun s => s.1 == "Stream.onBufferReleased").length = 1 := by
  decide +kernel

/-! ## (c) steps are critical sections -/

/-- entry points that are made of more than one critical section on a mutex, with the sections they consist of -/
def multiSection : List (String × String × List String) := [
  -- Shutdown: the state change under the lock; then, after closeWriteLoopCh is closed, a read-only section that tests
  -- whether the peer acknowledged the SHUTDOWN (52b27be)
  ("Association.Shutdown", "Association.lock", ["Association.Shutdown:sections:2"]),
  -- blocking-write gate: lock, test, (unlock, wait, lock, re-test)*, enqueue, unlock — the state test is repeated in
  -- every section and the enqueue happens in the last one
  ("Stream.Write", "Association.lock", ["Association.sendPayloadData:sections:2"]),
  ("Stream.WriteSCTP", "Association.lock", ["Association.sendPayloadData:sections:2"]),
  -- state test; sequence-number assignment + buffered amount (packetize); roll-back after a failed enqueue
  ("Stream.Write", "Stream.lock", ["Stream.State:whole", "Stream.WriteSCTP:sections:1", "Stream.packetize:whole"]),
  ("Stream.WriteSCTP", "Stream.lock", ["Stream.State:whole", "Stream.WriteSCTP:sections:1", "Stream.packetize:whole"])]

/-- `x` ends with `s` (on character lists: reducible by the kernel) -/
def hasSuffix (x s : String) : Bool := (x.toList.drop (x.length - s.length)) == s.toList

def isSingle (acq : List String) : Bool :=
  match acq with
  | [] => true           -- does not take the mutex at all (atomics only)
  | [x] => hasSuffix x ":whole" || hasSuffix x ":sections:1"   -- exactly one function with exactly one critical section
  | _ => false

def rowOk (r : String × String × String × String × String × List String × List String) : Bool :=
  let (name, cls, m, shape, holds, acq, drops) := r
  if cls == "handler" then
    shape == "none" && holds == "always" && acq == [] &&
      drops.all (fun d => d == "Association.processAcknowledgement" || d == "Association.resetStreamsIfAny")
  else if cls == "dispatch" then
    shape == "whole" && holds == "never" && acq == [name ++ ":whole"] &&
      drops.all (fun d => d == "Association.processAcknowledgement" || d == "Association.resetStreamsIfAny")
  else if cls == "timer" then
    shape == "whole" && holds == "never" && acq == [name ++ ":whole"] && drops == []
  else
    drops == [] && (isSingle acq || multiSection.contains (name, m, acq))

/-- **Every step is one critical section.** Read off the regenerated entry-point table:
* every chunk handler called from `handleChunk`'s type switch never touches `a.lock` itself and is entered with it held
  in every calling context; `handleChunk`, `handleChunksStart/End` and `gatherOutbound` lock in their first statement,
  `defer` the unlock in the second and never release in between — so one inbound chunk / one writer iteration is one
  critical section, split only at the two documented drop sites (around the buffered-amount callback and the inbound-reset
  notification: the handler is then two or more consecutive sections, each under the lock);
* every timer callback (`onRetransmissionTimeout`, `onRetransmissionFailure`, `onAckTimeout`, `onRackTimeout`,
  `onPTOTimer`) is one whole-body section with no drop site;
* every exported method of `Association` / `Stream` takes each mutex in at most ONE section — whole-body or explicit —
  except the write path listed in `multiSection`.
The association STATE word is additionally written outside `a.lock` only as `closed` (`Gen.stateWriteSites`: `close()`
from `Close`/`writeLoop`): an atomic store of the terminal value. -/
theorem C20_steps_atomic :
    Gen.entryPointsLocked.all rowOk = true ∧
    15 ≤ (Gen.entryPointsLocked.filter fun r => r.2.1 == "handler").length ∧
    5 ≤ (Gen.entryPointsLocked.filter fun r => r.2.1 == "timer").length ∧
    (Gen.stateWriteSites.all fun s => s.2.2.contains "Association.lock" || s.2.1 == "Association.setState(closed)") = true := by
  decide +kernel

/-! ## (d) timers -/

def timerMutexes : List String := ["rtxTimer.mutex", "ackTimer.mutex"]

/-- **No re-entrant timer.** The observer (`onRetransmissionTimeout / onRetransmissionFailure / onAckTimeout`) is called with
NO mutex held — `timeout()` defers the call and releases the timer's mutex first — and nothing at all is ever acquired
while a timer mutex is held (they are sinks of the lock graph; in particular not `a.lock`, which the observers take, and
not a timer mutex again). `start/stop/close` hold the mutex for their whole body and return without it
(`C20_lock_discipline`), so no observer path can call them on the calling timer while that timer's mutex is held. -/
theorem C20_no_reentrant_timer :
    (Gen.observerSites.all fun s => s.2.2 == []) = true ∧ 3 ≤ Gen.observerSites.length ∧
    (Gen.lockOrderEdges.all fun e => !timerMutexes.contains e.1) = true ∧
    (Gen.entryPointsLocked.filter fun r => r.2.1 == "timer").all (fun r => r.2.2.2.2.2.2 == []) = true := by
  decide +kernel

/-- the operations that can block while a mutex is held are exactly three: the handshake hand-over inside a handler /
T1-failure callback (`completeHandshake`: released by `closeWriteLoopCh` / `readLoopCloseCh` — liveness is C09's model),
the transport's `Close` when the peer's ABORT / SHUTDOWN-COMPLETE is handled, and the blocking-write wait, which holds only
the per-stream `writeLock` that serialises blocking writers (bounded by the write deadline and by teardown). -/
theorem C20_blocking_under_lock :
    Gen.blockingUnderLock = [
      ("Association.closeNetConn", "net.Conn.Close", ["Association.lock"]),
      ("Association.completeHandshake",
        "select send Association.handshakeCompletedCh / recv Association.closeWriteLoopCh / recv Association.readLoopCloseCh", ["Association.lock"]),
      ("Association.sendPayloadData", "select recv ctx.Done() / recv writeNotify", ["Stream.writeLock"])] := by
  decide +kernel

/-! ## linearisation -/

/-- **Interleaved critical sections are a sequence of steps.** Threads that touch the shared state only inside sections
guarded by one mutex (which is what `C20_steps_atomic` establishes for `a.lock`): for EVERY interleaving of acquisitions,
micro-operations and releases that starts and ends with the mutex free, the final state — shared state, every thread's
local state, every thread's remaining program — is exactly the state reached by running the sections one after the other
as atomic steps, in the order in which they were entered. Hence the theorems of the other properties, which quantify
over all SEQUENCES of steps (operation lists), apply to concurrent callers. -/
theorem C20_interleaving_refines_sequence {S L : Type} (y y' : Sys S L) (es : List Ev)
    (h0 : y.holder = none) (hrun : frun y es = some y') (h1 : y'.holder = none) :
    crun y (acqs es) = some y' := by
  have := frun_abs es y y' hrun
  rwa [absSys_free y h0, absSys_free y' h1] at this

/-- non-vacuity: two threads, each incrementing a shared counter in two micro-operations (read into the local, write
back + 1); interleaved at the finest grain the mutex allows, the result is the sequential one (2), not a lost update -/
example :
    let inc : Section Nat Nat := [fun (s, _) => (s, s), fun (_, l) => (l + 1, l)]
    let y0 : Sys Nat Nat := { shared := 0, locals := fun _ => 0, progs := fun t => if t < 2 then [inc] else [], holder := none }
    (frun y0 [.acq 1, .op 1, .op 1, .rel 1, .acq 0, .op 0, .op 0, .rel 0]).map (·.shared) = some 2 ∧
    (frun y0 [.acq 1, .op 1, .acq 0]).isNone = true := by
  decide +kernel

end C20
