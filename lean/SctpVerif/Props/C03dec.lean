import SctpVerif.Proofs.Codec
/-!
# C03 (decoder part) — no byte string makes the decoder panic or loop

Property theorems only. `Codec.dec` is the L0 model of `packet.unmarshal` (Model/Codec.lean): every Go
index / slice expression is a checked read whose failure is the outcome `Res.panic`, every Go loop
runs on explicit fuel whose exhaustion is the outcome `Res.loop`. The theorems say neither outcome
is reachable, for ALL byte strings and both flag values — also with any checksum function.

What this does not cover: Go's own memory safety and the correspondence of the model with the code
(tied by the differential runs of `TestVerifCodec`, where every decode also runs under `recover()`
and a time box). The state-machine part of C03 lives elsewhere.
-/
namespace C03
open Codec

/-- decoding is total: never a panic outcome, whatever the bytes, the flag and the CRC function -/
theorem C03_decode_total (crc : Bytes → BitVec 32) (doChecksum : Bool) (raw : Bytes) :
    decWith crc doChecksum raw ≠ .panic :=
  (decWith_spec crc doChecksum raw).ne_panic

/-- the same for the decoder the driver runs (real CRC32c) -/
theorem C03_decode_total_crc32c (doChecksum : Bool) (raw : Bytes) : dec doChecksum raw ≠ .panic :=
  C03_decode_total _ _ _

/-- bounded work. (1) The chunk loop is given `len/4 + 1` units of fuel (one per loop-condition test)
and never runs out: at most `len/4` chunks are decoded from a packet of `len` bytes. The same holds
for the inner loops with the fuel they are given in the model (`len(value)/4 + 1` for parameters,
error causes and FORWARD-TSN streams, `len/2 + 1` for HMAC identifiers).
(2)–(4) Every iteration of the chunk, parameter and cause loops advances by at least 4 bytes and
stays inside the buffer. -/
theorem C03_decode_work (crc : Bytes → BitVec 32) (doChecksum : Bool) (raw : Bytes) :
    decWith crc doChecksum raw ≠ .loop ∧
    (∀ (rem : Bytes) (c : Chunk) (vl : Nat), 4 ≤ rem.length → decChunk rem = .ok (c, vl) →
        4 ≤ 4 + vl + pad4 vl ∧ 4 + vl ≤ rem.length) ∧
    (∀ (r : Bytes) (t : BitVec 16) (v : Bytes) (n : Nat), paramHeaderUnmarshal r = .ok (t, v, n) → 4 ≤ n ∧ n ≤ r.length) ∧
    (∀ (r : Bytes) (c : Cause) (l : Nat), 4 ≤ r.length → buildErrorCause r = .ok (c, l) → 4 ≤ l ∧ l ≤ r.length) := by
  refine ⟨(decWith_spec crc doChecksum raw).ne_loop, ?_, ?_, ?_⟩
  · intro rem c vl h4 h
    exact ⟨by omega, ((decChunk_spec rem h4).of_ok h).1⟩
  · intro r t v n h
    have := (paramHeaderUnmarshal_spec r).of_ok h
    exact ⟨this.1, this.2.1⟩
  · intro r c l h4 h
    have := (buildErrorCause_spec r h4).of_ok h
    exact ⟨by omega, this.2.2⟩

/-- each decoder of a chunk body, parameter and error cause on its own is total as well (they are
also called by the association on stored bytes) -/
theorem C03_decode_parts_total (t f : Byte) (v : Bytes) (pt : BitVec 16) :
    decBody t f v ≠ .panic ∧ decBody t f v ≠ .loop ∧ buildParam pt v ≠ .panic ∧ buildParam pt v ≠ .loop :=
  ⟨(decBody_spec t f v).ne_panic, (decBody_spec t f v).ne_loop, (buildParam_spec pt v).ne_panic, (buildParam_spec pt v).ne_loop⟩

/-- non-vacuity / sanity: the model does have panic outcomes — an unguarded read panics — so the
theorems above are not true by construction of `Res`. -/
example : u16At [0x01#8] 0 = .panic := by decide +kernel
example : initCommonUnmarshal [] = .panic := by decide +kernel
/-- test (not a theorem about all inputs): a truncated INIT is rejected, not a panic -/
example : decWith (fun _ => 0#32) true ([0,0,0,0, 0,0,0,0, 0,0,0,0, 1,0,0,8, 0,0,0,0].map (BitVec.ofNat 8))
    = .err .ErrChunkValueNotLongEnough := by decide +kernel

end C03
