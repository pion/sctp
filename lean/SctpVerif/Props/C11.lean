import SctpVerif.Proofs.Reasm
/-!
# C11 — receive-window accounting is exact and inbound memory is bounded (reassembly-queue part)

Property theorems only; all are about the L0 model `Model/Reasm.lean` of `reassemblyQueue`
(tied to reassembly_queue.go by the correspondence run `TestVerifReasm`, which also compares the
real `getNumBytes()` with a white-box walk of the real containers after every operation).

`Reasm.Op` is the whole mutation alphabet of the component: `push` of an ARBITRARY chunk (any
kind DATA/I-DATA, flags, stream id, TSN/SSN/MID/FSN, payload), `read` with any buffer size, and the
four forward handlers with any argument. `Q.run` folds them from `newReassemblyQueue`.
`Q.heldBytes` is `Σ len(userData)` over every chunk in `ordered`, `unordered`, `unorderedChunks`,
`orderedMID` (= `orderedMIDMap`), `unorderedMID` and `unorderedMIDMap`.
-/
namespace C11
open Reasm

/-- ✱ (a) The per-stream counter is exact: after ANY sequence of operations `nBytes` equals the
user bytes actually held in the containers. Hypothesis: fewer than 2^63 user bytes were ever pushed
(`nBytes` is a `uint64` that `subtractNumBytes` reads through `int(...)`; the sum of `len` of
in-memory slices cannot reach 2^63). -/
theorem C11_counter_exact (si : BitVec 16) (maxEntries : BitVec 32) (ops : List Op)
    (h : pushedBytes ops < 2^63) :
    (((new si maxEntries).run ops).nBytes.toNat = ((new si maxEntries).run ops).heldBytes) ∧
    ((new si maxEntries).run ops).getNumBytes = (((new si maxEntries).run ops).heldBytes : Int) := by
  have hinv := CInv_run (CInv_new si maxEntries) ops (by omega)
  obtain ⟨h1, h2⟩ := hinv
  refine ⟨h1, ?_⟩
  unfold Q.getNumBytes
  rw [BitVec.toInt_eq_toNat_cond, if_pos (by omega), h1]

/-- the arithmetic of `subtractNumBytes`: a subtraction of `n` that the counter covers (`n ≤ cur`, `cur`
below 2^63) takes the exact branch, not the clamp to 0. That every call site subtracts bytes the counter
covers is not part of this statement: it is shown call site by call site in the proof of `C11_counter_step`
(`CInv_step`), through `subBytes_exact`, which is this statement. -/
theorem C11_clamp_never_fires (cur : BitVec 64) (n : Nat) (hle : n ≤ cur.toNat) (hlt : cur.toNat < 2^63) :
    (subBytes cur (n : Int)).toNat = cur.toNat - n := subBytes_exact cur n hle hlt

/-- every operation keeps the invariant "counter = held bytes ≤ B" (the inductive step of
`C11_counter_exact`, for an arbitrary state — not only states reachable from `new`). -/
theorem C11_counter_step (q : Q) (B : Nat) (op : Op) (hinv : q.nBytes.toNat = q.heldBytes ∧ q.heldBytes ≤ B)
    (hB : B + op.bytes < 2^63) :
    (q.step op).nBytes.toNat = (q.step op).heldBytes ∧ (q.step op).heldBytes ≤ B + op.bytes :=
  CInv_step hinv op hB

/-- ✱ With an entry limit `maxEntries > 0`, after ANY sequence of operations: queued ordered DATA
chunks, queued unordered DATA chunks (fragments + completed sets), ordered I-DATA MIDs and unordered
I-DATA MIDs each stay within `maxEntries`. (The code limits MIDs, not fragments per MID.) -/
theorem C11_entry_limit (si : BitVec 16) (maxEntries : BitVec 32) (hpos : maxEntries > 0#32) (ops : List Op) :
    let q := (new si maxEntries).run ops
    q.orderedDataEntryCount ≤ maxEntries.toNat ∧ q.unorderedDataEntryCount ≤ maxEntries.toNat ∧
    q.orderedMID.length ≤ maxEntries.toNat ∧ q.unorderedMIDEntryCount ≤ maxEntries.toNat := by
  have h := LInv_run (q := new si maxEntries) hpos (LInv_new si maxEntries) ops
  simpa [LInv, run_maxEntries, new] using h

/-- the limit is checked BEFORE insertion: a push can only grow one of the limited counts if that
count was below the limit, and then by exactly one. -/
theorem C11_limit_checked_before_insert (q : Q) (c : Chunk) (hpos : q.maxEntries > 0#32) :
    let q' := (q.pushWithError c).1
    (q'.orderedDataEntryCount = q.orderedDataEntryCount ∨
      (q'.orderedDataEntryCount = q.orderedDataEntryCount + 1 ∧ q.orderedDataEntryCount < q.maxEntries.toNat)) ∧
    (q'.unorderedDataEntryCount = q.unorderedDataEntryCount ∨
      (q'.unorderedDataEntryCount = q.unorderedDataEntryCount + 1 ∧ q.unorderedDataEntryCount < q.maxEntries.toNat)) ∧
    (q'.orderedMID.length = q.orderedMID.length ∨
      (q'.orderedMID.length = q.orderedMID.length + 1 ∧ q.orderedMID.length < q.maxEntries.toNat)) ∧
    (q'.unorderedMIDEntryCount = q.unorderedMIDEntryCount ∨
      (q'.unorderedMIDEntryCount = q.unorderedMIDEntryCount + 1 ∧ q.unorderedMIDEntryCount < q.maxEntries.toNat)) := by
  have e := pushWithError_effect q c
  exact ⟨e.oe.lt hpos, e.ue.lt hpos, e.om.lt hpos, e.um.lt hpos⟩

/-- a push that reports one of the two limit errors has changed neither a container nor the counter
(rejected chunks are not counted). -/
theorem C11_limit_error_rejects (q : Q) (c : Chunk)
    (he : (q.pushWithError c).2.2 = .dataLimit ∨ (q.pushWithError c).2.2 = .midLimit) :
    (q.pushWithError c).1 = { q with useInterleaving := q.useInterleaving || c.iData } :=
  limit_error_no_change q c he

/-- the limit error IS reported: an unordered DATA chunk for this stream arriving when the unordered
count is at the limit is rejected with `errReassemblyQueueLimitExceeded`. -/
theorem C11_limit_reported_unordered (q : Q) (c : Chunk) (hpos : q.maxEntries > 0#32)
    (hd : c.iData = false) (hsi : c.si = q.si) (hu : c.unordered = true)
    (hfull : q.maxEntries.toNat ≤ q.unorderedDataEntryCount) :
    q.pushWithError c = (q, false, .dataLimit) := by
  have h1 : (q.hasDataLimit && q.isDataLimitReached q.unorderedDataEntryCount) = true := by
    simp only [Q.hasDataLimit, Q.isDataLimitReached, Gen.isReassemblyQueueLimitReached, Bool.and_eq_true,
      decide_eq_true_eq]
    exact ⟨hpos, hpos, by omega⟩
  unfold Q.pushWithError
  simp [hd, hsi, hu, h1]

-- non-vacuity / sanity (tests, by evaluation): a 3-fragment message pushed out of order, read, and a
-- forward purge keep the counter at the truth.
private def f (t : Nat) (b e : Bool) : Chunk :=
  { tsn := BitVec.ofNat 32 t, si := 1, ssn := 0, bf := b, ef := e, ppi := 51, userData := [1, 2, 3] }
example : ((new 1 0).run [.push (f 12 false true), .push (f 10 true false)]).nBytes.toNat = 6 := by decide +kernel
example : ((new 1 0).run [.push (f 12 false true), .push (f 10 true false), .fwdO 0]).heldBytes = 0 := by decide +kernel
example : ((new 1 2).run [.push (f 10 true false), .push (f 11 false false), .push (f 12 false true)]).orderedDataEntryCount = 2 := by
  decide +kernel

end C11
