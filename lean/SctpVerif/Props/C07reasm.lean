import SctpVerif.Proofs.ReasmFwdMid
/-!
# C07, receiver reassembly — what the reassembly queue does with a skip

Property theorems only, about the L0 model `Model/Reasm.lean` of `reassemblyQueue` (tied to reassembly_queue.go by
the correspondence run `TestVerifReasm`: every op — the four forward handlers included — is replayed and compared).
The sender side (`Props/C07.lean`) proves that the FORWARD-TSN names exactly the abandoned messages; `Props/C07recv.lean`
that the association takes a FORWARD-TSN completely or not at all. Here: what the per-stream queue removes, keeps and
still delivers.

**Part 1 — the four handlers, exactly** (any queue state, any argument; `purgedO` / `purgedOM` / `purgedUM` are the tests
of the code):
* `forwardTSNForOrdered lastSSN` removes exactly the sets that are INCOMPLETE and whose SSN is serially ≤ `lastSSN`;
  every complete set (also one at or below the skip point that the application has not read yet) and every set with a
  later SSN stays, same chunks, same order; the cursor moves to `lastSSN + 1` iff it was serially ≤ `lastSSN`, never
  backwards, and ends up past `lastSSN`; the byte counter drops by exactly the bytes removed; no other container changes.
* likewise `forwardTSNForOrderedMID` (I-DATA, ordered), `forwardTSNForUnorderedMID` (I-DATA, unordered: every set still
  in the MID map — those are the incomplete ones — at or below `lastMID`; completed unordered messages waiting in
  `unorderedMID` are untouched) and `forwardTSNForUnordered` (DATA, unordered: the LEADING run of fragments with TSN
  serially ≤ `newCumulativeTSN`; with the slice TSN-sorted inside a half-space window that is every such fragment;
  completed unordered messages in `unordered` are untouched).

**Part 2 — honest runs with skips** (vocabulary of `Proofs/ReasmOrd.lean` + `Proofs/ReasmFwdOrd.lean`):
`Sender` = stream id, initial TSN, the messages written (`Msg` = PPI + the pieces `packetize` cut); `K k` = message `k`
is abandoned. `SOp`: `push k i` hands fragment `i` of message `k` to `pushWithError`, `read n` calls `read` with an
`n`-byte buffer, `skip L` calls the forward handler with `L` mod 2^16 (the stream's entry of a FORWARD-TSN).
`S.AdmissibleS K F q f c P ops` — the honest-sender premise, a decidable predicate on the run:
* pushes: valid indices, no fragment twice (TSN filter, C05), the message fewer than `W` = 2^15 ahead of the floor `f`
  (oldest message the queue holds or waits for — the hypothesis the 16-bit SSN forces, D15) and, for late fragments of
  messages the cursor has passed, fewer than `W` behind the cursor; the push does not hit `maxEntries`;
* reads: any buffer size, at any time;
* `skip L`: `L` a message of the stream inside the window and EVERY MESSAGE UP TO `L` THAT IS NOT ABANDONED HAS BEEN
  HANDED OVER COMPLETELY (`allPushed`) — a FORWARD-TSN moves the cumulative point only over abandoned chunks
  (`C07_skip_only_abandoned`), so everything else below it has been received. Abandoned messages may have had any
  subset of their fragments pushed, before or after the skip; skips may be repeated or stale; `K L` is not required.
Arrival order, interleaving of pushes, reads and skips are otherwise arbitrary, so "first message of the stream
abandoned", "abandoned message partially received" and "skip before / after fragments of later messages" are instances.
NOT in the run theorems: unordered messages, i.e. streams that mix ordered and unordered messages (Part 1 gives the frame: the
handler of one class touches no container of the other class), and the composition with sender and network.
-/
namespace C07
open Reasm Gen

/-! ## Part 1: the handlers, exactly -/

/-- ✱ `forwardTSNForOrdered` (DATA, ordered, SSN), first bullet of Part 1 above; any queue, any `lastSSN`. Only the
byte clause uses `hc` (the counter covers the bytes of `ordered`) and `hb` (the `int` conversion is exact). -/
theorem C07_reasm_purge_exact_ordered (q : Q) (lastSSN : BitVec 16)
    (hc : bytesOfSets q.ordered ≤ q.nBytes.toNat) (hb : q.nBytes.toNat < 2^63) :
    let q' := q.forwardTSNForOrdered lastSSN
    -- removed: exactly the incomplete sets at or below the skip point; kept: the others, in order
    q'.ordered = q.ordered.filter (fun s => !(sna16LTE s.ssn lastSSN && !s.isComplete)) ∧
    q'.ordered.Sublist q.ordered ∧
    (∀ s ∈ q.ordered, s.isComplete = true → s ∈ q'.ordered) ∧
    (∀ s ∈ q.ordered, sna16LTE s.ssn lastSSN = false → s ∈ q'.ordered) ∧
    (∀ s ∈ q.ordered, s ∉ q'.ordered → s.isComplete = false ∧ sna16LTE s.ssn lastSSN = true) ∧
    -- cursor
    q'.nextSSN = (if sna16LTE q.nextSSN lastSSN then lastSSN + 1 else q.nextSSN) ∧
    (q'.nextSSN - q.nextSSN).toNat ≤ 2^15 ∧ sna16LTE q'.nextSSN lastSSN = false ∧
    -- bytes
    q'.nBytes.toNat + bytesOfSets (q.ordered.filter (fun s => sna16LTE s.ssn lastSSN && !s.isComplete)) = q.nBytes.toNat ∧
    -- frame
    q'.unordered = q.unordered ∧ q'.unorderedChunks = q.unorderedChunks ∧ q'.orderedMID = q.orderedMID ∧
    q'.unorderedMID = q.unorderedMID ∧ q'.unorderedMIDMap = q.unorderedMIDMap ∧ q'.nextMID = q.nextMID := by
  intro q'
  have hcur : q'.nextSSN = (if sna16LTE q.nextSSN lastSSN then lastSSN + 1 else q.nextSSN) := fwdO_nextSSN q lastSSN
  obtain ⟨_, _, r3, r4, r5, r6, r7, r8, _⟩ := fwdO_rest q lastSSN
  obtain ⟨p2, p3, p4, p5⟩ := purge_filter_spec (fun s : ChunkSet => sna16LTE s.ssn lastSSN) (·.isComplete) q.ordered
  rw [show q'.ordered = _ from fwdO_ordered q lastSSN]
  refine ⟨rfl, p2, p3, p4, p5, hcur, ?_, ?_, ?_, r3, r4, r5, r6, r7, r8⟩
  · rw [hcur]
    split
    · rename_i hle
      have := (Sna.lte16_iff _ _).1 hle
      have e : lastSSN + 1 - q.nextSSN = (lastSSN - q.nextSSN) + 1 := by bv_omega
      rw [e]; bv_omega
    · simp
  · rw [hcur]
    split
    · rw [Sna.lte16_eq_not_gt16, (Sna.lt16_succ lastSSN).2]; rfl
    · rename_i h; simpa using h
  · exact fwdOrderedLoop_bytes lastSSN q.ordered q.nBytes hc hb

/-- ✱ `forwardTSNForOrderedMID` (I-DATA, ordered, MID): the clauses of `C07_reasm_purge_exact_ordered` with
`orderedMID` / `nextMID` / 2^31 for `ordered` / `nextSSN` / 2^15. -/
theorem C07_reasm_purge_exact_ordered_mid (q : Q) (lastMID : BitVec 32)
    (hc : bytesOfMIDSets q.orderedMID ≤ q.nBytes.toNat) (hb : q.nBytes.toNat < 2^63) :
    let q' := q.forwardTSNForOrderedMID lastMID
    q'.orderedMID = q.orderedMID.filter (fun s => !(sna32LTE s.mid lastMID && !s.isComplete)) ∧
    q'.orderedMID.Sublist q.orderedMID ∧
    (∀ s ∈ q.orderedMID, s.isComplete = true → s ∈ q'.orderedMID) ∧
    (∀ s ∈ q.orderedMID, sna32LTE s.mid lastMID = false → s ∈ q'.orderedMID) ∧
    (∀ s ∈ q.orderedMID, s ∉ q'.orderedMID → s.isComplete = false ∧ sna32LTE s.mid lastMID = true) ∧
    q'.nextMID = (if sna32LTE q.nextMID lastMID then lastMID + 1 else q.nextMID) ∧
    (q'.nextMID - q.nextMID).toNat ≤ 2^31 ∧ sna32LTE q'.nextMID lastMID = false ∧
    q'.nBytes.toNat + bytesOfMIDSets (q.orderedMID.filter (fun s => sna32LTE s.mid lastMID && !s.isComplete))
      = q.nBytes.toNat ∧
    q'.ordered = q.ordered ∧ q'.unordered = q.unordered ∧ q'.unorderedChunks = q.unorderedChunks ∧
    q'.unorderedMID = q.unorderedMID ∧ q'.unorderedMIDMap = q.unorderedMIDMap ∧ q'.nextSSN = q.nextSSN := by
  intro q'
  have hcur : q'.nextMID = (if sna32LTE q.nextMID lastMID then lastMID + 1 else q.nextMID) := fwdOM_nextMID q lastMID
  obtain ⟨p2, p3, p4, p5⟩ := purge_filter_spec (fun s : ChunkSetMID => sna32LTE s.mid lastMID) (·.isComplete) q.orderedMID
  rw [show q'.orderedMID = _ from fwdOM_orderedMID q lastMID]
  refine ⟨rfl, p2, p3, p4, p5, hcur, ?_, ?_, ?_, rfl, rfl, rfl, rfl, rfl, rfl⟩
  · rw [hcur]
    split
    · rename_i hle
      have := (Sna.lte32_iff _ _).1 hle
      have e : lastMID + 1 - q.nextMID = (lastMID - q.nextMID) + 1 := by bv_omega
      rw [e]; bv_omega
    · simp
  · rw [hcur]
    split
    · rw [Sna.lte32_eq_not_gt32, (Sna.lt32_succ lastMID).2]; rfl
    · rename_i h; simpa using h
  · exact fwdOrderedMIDLoop_bytes lastMID q.orderedMID q.nBytes hc hb

/-- ✱ I-DATA, unordered (MID): every set still in the MID map at or below the skip point is removed — the map holds
only sets that are not complete yet (`pushUnorderedIData` moves a set to `unorderedMID` the moment it completes);
complete unordered messages waiting to be read, the ordered containers and both cursors are untouched. -/
theorem C07_reasm_purge_exact_unordered_mid (q : Q) (lastMID : BitVec 32)
    (hc : bytesOfMIDSets q.unorderedMIDMap ≤ q.nBytes.toNat) (hb : q.nBytes.toNat < 2^63) :
    let q' := q.forwardTSNForUnorderedMID lastMID
    q'.unorderedMIDMap = q.unorderedMIDMap.filter (fun s => !sna32LTE s.mid lastMID) ∧
    q'.unorderedMIDMap.Sublist q.unorderedMIDMap ∧
    (∀ s ∈ q.unorderedMIDMap, sna32LTE s.mid lastMID = false → s ∈ q'.unorderedMIDMap) ∧
    (∀ s ∈ q.unorderedMIDMap, s ∉ q'.unorderedMIDMap → sna32LTE s.mid lastMID = true) ∧
    q'.nBytes.toNat + bytesOfMIDSets (q.unorderedMIDMap.filter (fun s => sna32LTE s.mid lastMID)) = q.nBytes.toNat ∧
    q'.unorderedMID = q.unorderedMID ∧ q'.orderedMID = q.orderedMID ∧ q'.nextMID = q.nextMID ∧
    q'.ordered = q.ordered ∧ q'.unordered = q.unordered ∧ q'.unorderedChunks = q.unorderedChunks ∧
    q'.nextSSN = q.nextSSN := by
  intro q'
  have hord : q'.unorderedMIDMap = q.unorderedMIDMap.filter (fun s => !sna32LTE s.mid lastMID) := by
    show (q.forwardTSNForUnorderedMID lastMID).unorderedMIDMap = _
    simp only [Q.forwardTSNForUnorderedMID]; exact fwdUnorderedMIDLoop_keep ..
  refine ⟨hord, by rw [hord]; exact List.filter_sublist, ?_, ?_, ?_, rfl, rfl, rfl, rfl, rfl, rfl, rfl⟩
  · intro s hs hle; rw [hord, List.mem_filter]; exact ⟨hs, by simp [hle]⟩
  · intro s hs hnot
    rw [hord, List.mem_filter, not_and] at hnot
    simpa using hnot hs
  · exact fwdUnorderedMIDLoop_bytes lastMID q.unorderedMIDMap q.nBytes hc hb

/-- ✱ DATA, unordered (TSN): the code removes the LEADING run of fragments whose TSN is not serially after
`newCumulativeTSN` (it stops at the first later one), for ANY `unorderedChunks`; completed unordered messages
(`unordered`), the ordered containers and both cursors are untouched.
UNDER THE HYPOTHESIS that "later than the new cumulative TSN" is monotone along the slice (third clause), that leading
run is EVERY fragment at or below the point, and every later fragment is kept. The hypothesis is not derived from
`pushWithError` here; `C07_reasm_purge_exact_unordered_window` discharges it for a TSN-sorted slice inside a half-space
window. -/
theorem C07_reasm_purge_exact_unordered (q : Q) (t : BitVec 32)
    (hc : bytesOf q.unorderedChunks ≤ q.nBytes.toNat) (hb : q.nBytes.toNat < 2^63) :
    let q' := q.forwardTSNForUnordered t
    q'.unorderedChunks = q.unorderedChunks.dropWhile (fun c => !sna32GT c.tsn t) ∧
    q'.nBytes.toNat + bytesOf (q.unorderedChunks.takeWhile (fun c => !sna32GT c.tsn t)) = q.nBytes.toNat ∧
    (q.unorderedChunks.Pairwise (fun a b => sna32GT a.tsn t = true → sna32GT b.tsn t = true) →
      q'.unorderedChunks = q.unorderedChunks.filter (fun c => sna32GT c.tsn t) ∧
      q'.nBytes.toNat + bytesOf (q.unorderedChunks.filter (fun c => !sna32GT c.tsn t)) = q.nBytes.toNat) ∧
    q'.unordered = q.unordered ∧ q'.ordered = q.ordered ∧ q'.nextSSN = q.nextSSN ∧
    q'.orderedMID = q.orderedMID ∧ q'.unorderedMID = q.unorderedMID ∧ q'.unorderedMIDMap = q.unorderedMIDMap ∧
    q'.nextMID = q.nextMID := by
  intro q'
  have hq' : q' = _ := forwardTSNForUnordered_eq q t
  have hbytes : q'.nBytes.toNat + bytesOf (q.unorderedChunks.takeWhile (fun c => !sna32GT c.tsn t)) = q.nBytes.toNat := by
    rw [hq']
    have hle : bytesOf (q.unorderedChunks.takeWhile (fun c => !sna32GT c.tsn t)) ≤ q.nBytes.toNat := by
      have := bytesOf_take_drop q.unorderedChunks (fwdUnorderedPrefix t q.unorderedChunks)
      rw [take_fwdUnorderedPrefix] at this
      omega
    have := subChunks_exact _ q.nBytes hle hb
    simp only
    omega
  refine ⟨by rw [hq'], hbytes, ?_, by rw [hq'], by rw [hq'], by rw [hq'], by rw [hq'], by rw [hq'], by rw [hq'],
    by rw [hq']⟩
  intro hmono
  refine ⟨?_, ?_⟩
  · rw [hq']; exact dropWhile_not_eq_filter _ _ hmono
  · rw [← takeWhile_not_eq_filter _ _ hmono]; exact hbytes

/-- the premise of the third clause of `C07_reasm_purge_exact_unordered` is what an honest peer gives: fragments with TSNs
`t0 + o`, offsets strictly increasing and below 2^31 (the slice is TSN-sorted by `pushWithError`, the association's window),
new cumulative TSN `t0 + τ` with `τ < 2^31`. Then EXACTLY the fragments at or below the point are removed and their bytes given
back, every later fragment is kept in order. -/
theorem C07_reasm_purge_exact_unordered_window (q : Q) (t0 : BitVec 32) (τ : Nat) (hτ : τ < 2^31) (offs : List Nat)
    (hmap : q.unorderedChunks.map (·.tsn) = offs.map (fun o => t0 + BitVec.ofNat 32 o))
    (hs : offs.Pairwise (· < ·)) (hlt : ∀ o ∈ offs, o < 2^31)
    (hc : bytesOf q.unorderedChunks ≤ q.nBytes.toNat) (hb : q.nBytes.toNat < 2^63) :
    let t := t0 + BitVec.ofNat 32 τ
    let q' := q.forwardTSNForUnordered t
    q'.unorderedChunks = q.unorderedChunks.filter (fun c => sna32GT c.tsn t) ∧
    q'.nBytes.toNat + bytesOf (q.unorderedChunks.filter (fun c => !sna32GT c.tsn t)) = q.nBytes.toNat :=
  (C07_reasm_purge_exact_unordered q (t0 + BitVec.ofNat 32 τ) hc hb).2.2.1
    (unordered_window_mono t0 τ hτ q.unorderedChunks offs hmap hs hlt)

/-! ## Part 2: honest runs with skips — ordered DATA (SSN, window 2^15) and ordered I-DATA (MID, window 2^31) -/

/-- ✱ **headline.** For every admissible run (pushes in any order, reads of any size, skips) from the empty queue there
is a list `D` of message indices such that
1. the successful reads returned exactly the messages `D`, in this order, each with its PPI and its whole payload;
2. `D` is strictly increasing and inside the stream — so the reads are a SUBSEQUENCE of the written messages in write
   order: nothing twice, nothing out of order, nothing truncated or spliced;
3. nothing that was not abandoned is lost because of a skip: a message that is not abandoned and whose fragments were
   all handed over is in `D` or sits complete in `ordered` (where a later read finds it);
4. and it IS in `D` once the application has drained the queue (`isReadable = false`), provided every earlier message
   was either handed over completely (and is not abandoned) or is covered by a skip of the run. -/
theorem C07_reasm_skip_then_deliver (S : Sender) (hS : S.WF) (K : Nat → Bool) (maxEntries : BitVec 32)
    (ops : List SOp)
    (hadm : S.AdmissibleS K S.dataFr (new S.si maxEntries) 0 0 [] ops) :
    ∃ D : List Nat,
      S.dataFr.deliveries (new S.si maxEntries) ops = D.map (fun k => (S.msg k).out) ∧
      D.Pairwise (· < ·) ∧ (∀ k ∈ D, k < S.msgs.length) ∧
      (S.dataFr.deliveries (new S.si maxEntries) ops).Sublist (S.msgs.map Msg.out) ∧
      (∀ k, k < S.msgs.length → K k = false → (∀ i, i < S.nf k → (k, i) ∈ pushedS ops) →
        k ∈ D ∨ S.concSet (k, List.range (S.nf k)) ∈ (S.dataFr.run (new S.si maxEntries) ops).ordered) ∧
      ((S.dataFr.run (new S.si maxEntries) ops).isReadable = false →
        ∀ k, k < S.msgs.length → K k = false → (∀ i, i < S.nf k → (k, i) ∈ pushedS ops) →
          (∀ k', k' < k → (K k' = false ∧ ∀ i, i < S.nf k' → (k', i) ∈ pushedS ops) ∨ (∃ L ∈ skipsS ops, k' ≤ L)) →
          k ∈ D) := by
  obtain ⟨f', c', A', P', D, hinv, hdel, hP', _, hsk⟩ := SkipInv.run hS K ops (SkipInv_new S K maxEntries) hadm
  simp only [List.nil_append, List.not_mem_nil, false_or] at hinv hP'
  obtain ⟨h1, h2, h3, h4, h5⟩ := hinv.core.summary hS hP' hsk
    (fun hnr k hk hkc hK hall => hinv.drained hS hnr hk hkc hK hall)
  exact ⟨D, hdel, h1, h2, by rw [hdel]; exact h3,
    fun k hk hK hp => (h4 k hk hK hp).imp_right fun h => by rw [hinv.tab.ord]; exact List.mem_map_of_mem h, h5⟩

/-- ✱ **headline, I-DATA** (MID / FSN reassembly, `forwardTSNForOrderedMID`, window 2^31; the TSNs `τ` are arbitrary — I-DATA
reassembly never looks at them). The four points of `C07_reasm_skip_then_deliver` above, with the framing
`S.idataFr τ` for `S.dataFr` and, in point 3, the complete set `S.concSetMID τ (k, …)` in `orderedMID` for
`S.concSet (k, …)` in `ordered`. -/
theorem C07_reasm_skip_then_deliver_idata (S : Sender) (hS : S.WF) (τ : Nat → Nat → BitVec 32) (K : Nat → Bool)
    (maxEntries : BitVec 32)
    (ops : List SOp)
    (hadm : S.AdmissibleS K (S.idataFr τ) (new S.si maxEntries) 0 0 [] ops) :
    ∃ D : List Nat,
      (S.idataFr τ).deliveries (new S.si maxEntries) ops = D.map (fun k => (S.msg k).out) ∧
      D.Pairwise (· < ·) ∧ (∀ k ∈ D, k < S.msgs.length) ∧
      ((S.idataFr τ).deliveries (new S.si maxEntries) ops).Sublist (S.msgs.map Msg.out) ∧
      (∀ k, k < S.msgs.length → K k = false → (∀ i, i < S.nf k → (k, i) ∈ pushedS ops) →
        k ∈ D ∨ S.concSetMID τ (k, List.range (S.nf k)) ∈ ((S.idataFr τ).run (new S.si maxEntries) ops).orderedMID) ∧
      (((S.idataFr τ).run (new S.si maxEntries) ops).isReadable = false →
        ∀ k, k < S.msgs.length → K k = false → (∀ i, i < S.nf k → (k, i) ∈ pushedS ops) →
          (∀ k', k' < k → (K k' = false ∧ ∀ i, i < S.nf k' → (k', i) ∈ pushedS ops) ∨ (∃ L ∈ skipsS ops, k' ≤ L)) →
          k ∈ D) := by
  obtain ⟨f', c', A', P', D, hinv, hdel, hP', _, hsk⟩ := SkipInvM.run hS K ops (SkipInvM_new S τ K maxEntries) hadm
  simp only [List.nil_append, List.not_mem_nil, false_or] at hinv hP'
  obtain ⟨h1, h2, h3, h4, h5⟩ := hinv.core.summary hS hP' hsk
    (fun hnr k hk hkc hK hall => hinv.drained hS hnr hk hkc hK hall)
  exact ⟨D, hdel, h1, h2, by rw [hdel]; exact h3,
    fun k hk hK hp => (h4 k hk hK hp).imp_right fun h => by rw [hinv.tab.ord]; exact List.mem_map_of_mem h, h5⟩

/-- one step of the handler, any queue state, any `lastSSN`: a COMPLETE set that is the FIRST set of `ordered` is
still the first set after `forwardTSNForOrdered lastSSN` (whatever its SSN is relative to `lastSSN`; for a complete
set elsewhere in `ordered` see the third clause of `C07_reasm_purge_exact_ordered`), and the queue is readable right
after the skip IF the set's SSN is serially ≤ the cursor the skip leaves — that comparison is a hypothesis here, it is
not derived from the position of the set relative to the skip point. This is the step behind "complete but not yet
read messages survive a skip"; that they are kept and then delivered along honest runs is points 3 and 4 of
`C07_reasm_skip_then_deliver`. -/
theorem C07_reasm_complete_survives_skip (q : Q) (lastSSN : BitVec 16) (s : ChunkSet) (rest : List ChunkSet)
    (hq : q.ordered = s :: rest) (hcomp : s.isComplete = true)
    (hil : q.useInterleaving = false) :
    ∃ rest', (q.forwardTSNForOrdered lastSSN).ordered = s :: rest' ∧
      ((q.forwardTSNForOrdered lastSSN).unordered = [] →
        (sna16LTE s.ssn (q.forwardTSNForOrdered lastSSN).nextSSN = true →
          (q.forwardTSNForOrdered lastSSN).isReadable = true)) := by
  have ho : (q.forwardTSNForOrdered lastSSN).ordered = s :: rest.filter (fun s => !purgedO lastSSN s) := by
    rw [fwdO_ordered, hq, List.filter_cons]; simp [purgedO, hcomp]
  refine ⟨_, ho, fun hun hcur => ?_⟩
  · unfold Q.isReadable
    rw [(fwdO_rest q lastSSN).2.1, hil, hun, ho]
    simp [hcomp, hcur]

/-! ## non-vacuity (tests, by evaluation)

Four messages on stream 3, starting at the TSN wrap: message 0 (2 fragments) ABANDONED, nothing of it ever arrives —
the first message of the stream; message 1 (1 fragment) reliable; message 2 (3 fragments) ABANDONED after one fragment
arrived; message 3 (2 fragments) reliable, one fragment arrives before the skips and one after. A late fragment of
message 2 arrives after its skip. -/
private def S1 : Sender :=
  { si := 3, t0 := 0xFFFFFFFE#32,
    msgs := [{ ppi := 50, frags := [[1], [2]] }, { ppi := 51, frags := [[3, 4]] },
             { ppi := 52, frags := [[5], [6], [7]] }, { ppi := 53, frags := [[8], [9]] }] }
private def K1 : Nat → Bool := fun k => k == 0 || k == 2
private def ops1 : List SOp :=
  [.push 1 0, .push 2 1, .push 3 1, .read 100, .skip 0, .read 100, .skip 2, .push 3 0, .push 2 0, .read 1, .read 100,
   .read 100]
example : S1.WF := by unfold Sender.WF; decide +kernel
example : S1.AdmissibleS K1 S1.dataFr (new S1.si 0) 0 0 [] ops1 := by decide +kernel
example : S1.dataFr.deliveries (new S1.si 0) ops1 = [(51, [3, 4]), (53, [8, 9])] := by decide +kernel
example : (S1.dataFr.run (new S1.si 0) ops1).isReadable = false := by decide +kernel
example : (S1.dataFr.run (new S1.si 0) ops1).nBytes = 0 := by decide +kernel
-- a skip that passes a complete, unread, reliable message: it is kept and still delivered
private def ops2 : List SOp := [.push 1 0, .skip 0, .skip 2, .read 100, .push 3 0, .push 3 1, .read 100]
example : S1.AdmissibleS K1 S1.dataFr (new S1.si 0) 0 0 [] ops2 := by decide +kernel
example : S1.dataFr.deliveries (new S1.si 0) ops2 = [(51, [3, 4]), (53, [8, 9])] := by decide +kernel
-- the premise is needed: a skip over a reliable message that has NOT arrived completely is not admissible
example : ¬ S1.AdmissibleS K1 S1.dataFr (new S1.si 0) 0 0 [] [.skip 2] := by decide +kernel

-- ... and what it protects from (component-level shadow of known finding D24, where the entry stems from another stream
-- incarnation): a skip that passes the reliable message 1 before it has arrived makes the queue drop it at the door
private def opsBad : List SOp := [.skip 2, .push 1 0, .read 100, .push 3 0, .push 3 1, .read 100]
example : ¬ S1.AdmissibleS K1 S1.dataFr (new S1.si 0) 0 0 [] opsBad := by decide +kernel
example : S1.dataFr.deliveries (new S1.si 0) opsBad = [(53, [8, 9])] := by decide +kernel

-- I-DATA: first message abandoned (nothing received), message 2 abandoned after one fragment, 1 and 3 reliable
private def ops3 : List SOp := [.push 1 0, .push 2 1, .skip 0, .read 100, .skip 2, .push 3 1, .push 3 0, .read 100]
example : S1.AdmissibleS K1 (S1.idataFr fun _ _ => 7) (new S1.si 0) 0 0 [] ops3 := by decide +kernel
example : (S1.idataFr fun _ _ => 7).deliveries (new S1.si 0) ops3 = [(51, [3, 4]), (53, [8, 9])] := by decide +kernel

end C07
