import SctpVerif.Proofs.Receiver.Forward
/-!
# C07, receive side — the skip a FORWARD-TSN announces for a stream is never lost

Property theorems only, about the L0 model `Model/Receiver.lean` of the receive half (tied to association.go by
`TestVerifAssocReceiver`: every op replayed through the model; the generator fills the accept backlog with more than
16 unaccepted streams, sends a FORWARD-TSN / I-FORWARD-TSN naming further streams, accepts, and repeats it; the
executable predicate tagged `[C07]` checks on the real association that after a FORWARD-TSN that moved the
cumulative point every stream it names is registered, and that a dropped one changed nothing).

Background (deviation D23, fixed in /repo 349533d): a stream the chunk names may have to be created (the skipped
message was the first on it); with a full accept backlog it cannot be. Before the fix the chunk was taken anyway and
that stream's skip was lost: ordered delivery on it never started. Now `handleForwardTSN` / `handleIForwardTSN`
first make sure every named stream exists (`ensureStreams`) and otherwise drop the WHOLE chunk, so the peer
retransmits it.

`Grown s s'`: `s'` is `s` with fresh, empty stream objects appended to the table (accept queue and object counters
accordingly) — receive queue, ack state, timer, triggers, control queue, deleted objects, pending resets, ABORT flag
and association state untouched. `pastSSN q n` / `pastMID q m`: the stream's delivery cursor is serially after `n` / `m`.
-/
namespace C07
open Gen Receiver

/-- ✱ FORWARD-TSN (enabled, ahead of the cumulative point) is taken completely or not at all.
*Not at all*: if some named stream can neither be found nor created, the handler returns the state it met, up to
the streams it created before the failing one — no cumulative advance, no purge, no acknowledgement scheduled.
*Completely*: otherwise the handler is `handlePeerLastTSNAndAcknowledgement` run on a state `s1` in which the
cumulative point has been advanced to the new value, EVERY named stream is registered, and (one entry per stream, as
`createForwardTSN` builds them) each named stream's cursor is past the skipped sequence number. With no reset
request pending the acknowledgement step keeps the stream table, so this is the state after the chunk. -/
theorem C07_forward_needs_stream (s : St) (c : TSN) (es : List (BitVec 16 × BitVec 16))
    (hil : s.il = false) (hf : s.useFwd = true) (hns : fwd_stale c s.pq.cum = false) :
    let e := ensureStreams s (es.map (·.1))
    Grown s e.1 ∧
    (e.2 = false → handleFwd s c es = e.1) ∧
    (e.2 = true → ∃ s1, handleFwd s c es = ackStep s1 false ∧ s1.pq = RecvQ.advance s.pq c ∧
      (∀ p ∈ es, (getS s1.streams p.1).isSome) ∧
      ((es.map (·.1)).Nodup → ∀ p ∈ es, ∃ x, getS s1.streams p.1 = some x ∧ pastSSN x.q p.2) ∧
      (s.resetReqs = [] → (ackStep s1 false).streams = s1.streams)) := by
  intro e
  have hg : Grown s e.1 := ensureStreams_grown _ s
  have hpq : e.1.pq = s.pq := ensureStreams_pq _ s
  have hunf : handleFwd s c es = if !e.2 then e.1 else
      ackStep { es.foldl fwdEntry { e.1 with pq := RecvQ.advance e.1.pq c } with
        streams := (es.foldl fwdEntry { e.1 with pq := RecvQ.advance e.1.pq c }).streams.map
          (fun x => { x with q := x.q.forwardTSNForUnordered c }) } false := by
    unfold handleFwd
    simp only [hil, Bool.false_eq_true, if_false, hf, Bool.not_true, hns]
    rfl
  refine ⟨hg, ?_, ?_⟩
  · intro h2; rw [hunf, h2]; rfl
  · intro h2
    rw [hunf, h2]
    simp only [Bool.not_true, Bool.false_eq_true, if_false]
    obtain ⟨k1, k2, k3, k4⟩ := skipLoop_taken (α := BitVec 16 × BitVec 16) (·.1) (fun p q => q.forwardTSNForOrdered p.2) s c es h2
    have hgsi : ∀ y : Stream, ({ y with q := y.q.forwardTSNForUnordered c } : Stream).si = y.si := fun _ => rfl
    refine ⟨_, rfl, k1, ?_, ?_, ?_⟩
    · intro p hp
      show (getS (List.map _ _) p.1).isSome
      rw [getS_map _ _ hgsi, Option.isSome_map]
      exact k3 p hp
    · intro hnd p hp
      obtain ⟨x0, x, hx, hq⟩ := k4 hnd p hp
      show ∃ x, getS (List.map _ _) p.1 = some x ∧ _
      rw [getS_map _ _ hgsi]
      refine ⟨_, congrArg _ hx, ?_⟩
      show pastSSN (x.q.forwardTSNForUnordered c) p.2
      unfold pastSSN
      rw [fwdU_nextSSN, hq]
      exact fwdO_past x0.q p.2
    · intro hr
      refine congrArg (fun t => t.1) (ackStep_tbl _ false ?_)
      exact k2.trans hr

/-- ✱ the same for I-FORWARD-TSN (negotiated, ahead of the cumulative point): dropped whole when a named stream
cannot be created; otherwise the cumulative point is advanced, every named stream is registered and, for ordered
entries (one entry per stream), the stream's cursor is past the skipped message identifier. -/
theorem C07_iforward_needs_stream (s : St) (c : TSN) (es : List (BitVec 16 × Bool × BitVec 32))
    (hf : s.useIFwd = true) (hns : ifwd_stale c s.pq.cum = false) :
    let e := ensureStreams s (es.map (·.1))
    Grown s e.1 ∧
    (e.2 = false → handleIFwd s c es = e.1) ∧
    (e.2 = true → ∃ s1, handleIFwd s c es = ackStep s1 false ∧ s1.pq = RecvQ.advance s.pq c ∧
      (∀ p ∈ es, (getS s1.streams p.1).isSome) ∧
      ((es.map (·.1)).Nodup → ∀ p ∈ es, p.2.1 = false → ∃ x, getS s1.streams p.1 = some x ∧ pastMID x.q p.2.2) ∧
      (s.resetReqs = [] → (ackStep s1 false).streams = s1.streams)) := by
  intro e
  have hg : Grown s e.1 := ensureStreams_grown _ s
  have hpq : e.1.pq = s.pq := ensureStreams_pq _ s
  have hunf : handleIFwd s c es = if !e.2 then e.1 else
      ackStep (es.foldl ifwdEntry { e.1 with pq := RecvQ.advance e.1.pq c }) false := by
    unfold handleIFwd
    simp only [hf, Bool.not_true, Bool.false_eq_true, if_false, hns]
    rfl
  refine ⟨hg, ?_, ?_⟩
  · intro h2; rw [hunf, h2]; rfl
  · intro h2
    rw [hunf, h2]
    simp only [Bool.not_true, Bool.false_eq_true, if_false]
    obtain ⟨k1, k2, k3, k4⟩ := skipLoop_taken (α := BitVec 16 × Bool × BitVec 32) (·.1) (fun p q =>
      if p.2.1 then q.forwardTSNForUnorderedMID p.2.2 else q.forwardTSNForOrderedMID p.2.2) s c es h2
    refine ⟨_, rfl, k1, k3, ?_, fun hr => congrArg (fun t => t.1) (ackStep_tbl _ false (k2.trans hr))⟩
    intro hnd p hp ho
    obtain ⟨x0, x, hx, hq⟩ := k4 hnd p hp
    simp only [ho, Bool.false_eq_true, if_false] at hq
    exact ⟨x, hx, by rw [hq]; exact fwdOM_past x0.q p.2.2⟩

/-- the pre-check fails only for want of room in the accept queue: when it fails, the accept backlog of the
returned state is full (`acceptChSize` = 16 objects waiting for `AcceptStream`). (One direction: a full backlog
does not make it fail when every named stream is already registered.) -/
theorem C07_forward_dropped_only_when_backlog_full (s : St) (ids : List (BitVec 16)) (h : (ensureStreams s ids).2 = false) :
    (ensureStreams s ids).1.acceptQ.length ≥ acceptChSize := by
  induction ids generalizing s with
  | nil => simp [ensureStreams] at h
  | cons i ids ih =>
    simp only [ensureStreams] at h ⊢
    split at h
    · exact ih s h
    · split at h
      · rename_i hc; rw [if_pos hc]; exact ih _ h
      · rename_i hc
        rw [if_neg hc]
        unfold createStream at hc ⊢
        simp only [if_true] at hc ⊢
        split
        · rename_i hlt; rw [if_pos hlt] at hc; simp at hc
        · rename_i hlt; dsimp only; omega

-- non-vacuity (tests, by evaluation): 16 unaccepted streams; a FORWARD-TSN naming stream 300 is dropped (cumulative
-- point unchanged, stream 300 not registered); after one `accept` the same chunk is taken: the cumulative point moves
-- and stream 300 is registered with its cursor past SSN 4 (an ordered message with SSN 5 is then the next one read)
private def dk (t si : Nat) : Reasm.Chunk :=
  { tsn := BitVec.ofNat 32 t, si := BitVec.ofNat 16 si, ssn := 0, bf := true, ef := true, ppi := 51, userData := [7] }
private def full : St := run (init 65536 0 false true false 0 1000#32) ((List.range 16).map fun i => Op.data (dk (1001 + i) (201 + i)))
/-- Both tests on `full`, decided together: the kernel keeps what it has evaluated only within one declaration, and the sixteen
packets that lead to `full` are most of the work. -/
private structure EvalFull : Prop where
  dropped : full.acceptQ.length = 16 ∧ (ensureStreams full [300]).2 = false ∧
    (handleFwd full 1000#32 [(300, 4)]).pq.cum = 999#32 ∧ (getS (handleFwd full 1000#32 [(300, 4)]).streams 300).isSome = false
  taken : (ensureStreams (accept full).1 [300]).2 = true ∧ (handleFwd (accept full).1 1000#32 [(300, 4)]).pq.cum = 1016#32 ∧
    ((getS (handleFwd (accept full).1 1000#32 [(300, 4)]).streams 300).map (·.q.nextSSN)) = some 5#16

private theorem evalFull : EvalFull := by
  refine (fun ⟨h1, h2⟩ => ⟨h1, h2⟩ : _ ∧ _ → EvalFull) ?_
  decide +kernel

set_option maxRecDepth 1000000 in
example : full.acceptQ.length = 16 ∧ (ensureStreams full [300]).2 = false ∧
    (handleFwd full 1000#32 [(300, 4)]).pq.cum = 999#32 ∧ (getS (handleFwd full 1000#32 [(300, 4)]).streams 300).isSome = false :=
  evalFull.dropped
set_option maxRecDepth 1000000 in
example : let s := (accept full).1
    (ensureStreams s [300]).2 = true ∧ (handleFwd s 1000#32 [(300, 4)]).pq.cum = 1016#32 ∧
    ((getS (handleFwd s 1000#32 [(300, 4)]).streams 300).map (·.q.nextSSN)) = some 5#16 :=
  evalFull.taken

/-! ### D24 (known finding): a forward entry of an incarnation that is already reset acts on the next one

A decided run of the model (replayed on the real code: `corpus/C01/known/d24_forward_tsn_after_reset.ops`). Stream 4:
SSN 0 delivered and read, SSN 1 (TSN 1001) abandoned; reset request (last TSN 1001) deferred, FORWARD-TSN 1001 [4/1] taken,
the retransmitted request performed: stream 4 is gone. The sender's next FORWARD-TSN still lists 4/1 (its cumulative ack
lags): taken, stream 4 is re-created as a NEW object `(4, 1)` whose cursor is 2. SSN 0 and SSN 1 of the new incarnation are
then acknowledged (cumulative point 1003, 1004) and not kept (no byte held, nothing readable); SSN 2 is delivered. -/
private def dm (t si ssn : Nat) : Reasm.Chunk :=
  { tsn := BitVec.ofNat 32 t, si := BitVec.ofNat 16 si, ssn := BitVec.ofNat 16 ssn, bf := true, ef := true, ppi := 51, userData := [7] }
private def rst : Op := .pkt [.reset { rsn := 77#32, lastTSN := 1001#32, ids := [4#16] }]
/-- up to the performed reset -/
private def d24a : St :=
  run (init 1500 0 false true false 0 1000#32) [Op.data (dm 1000 4 0), .accept, .read (4#16, 0) 65536, rst, Op.fwd 1001#32 [(4, 1)], rst]
/-- the late FORWARD-TSN -/
private def d24b : St := step d24a (Op.fwd 1002#32 [(4, 1), (1, 0)])

theorem C07_forward_after_reset_witness :
    -- the reset of the first incarnation has been performed: stream 4 is not in the table
    d24a.performed.contains 77#32 = true ∧ (getS d24a.streams 4#16).isSome = false ∧ d24a.pq.cum = 1001#32 ∧
    -- the FORWARD-TSN is taken and re-creates stream 4 as a new object with its cursor past the entry
    d24b.pq.cum = 1002#32 ∧ ((getS d24b.streams 4#16).map fun x => (x.inc, x.q.nextSSN)) = some (1, 2#16) ∧
    -- SSN 0 and SSN 1 of the new incarnation: acknowledged, not kept
    (let s := step d24b (Op.data (dm 1003 4 0))
     s.pq.cum = 1003#32 ∧ heldRegistered s = 0 ∧ (read s (4#16, 1) 65536).2 = .block ∧
     (let s' := step s (Op.data (dm 1004 4 1))
      s'.pq.cum = 1004#32 ∧ heldRegistered s' = 0 ∧ (read s' (4#16, 1) 65536).2 = .block ∧
      -- SSN 2 is the first one delivered
      (let s'' := step s' (Op.data (dm 1005 4 2))
       s''.pq.cum = 1005#32 ∧ heldRegistered s'' = 1))) := by
  decide +kernel

end C07
