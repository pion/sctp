import SctpVerif.Proofs.Receiver.Ack
import SctpVerif.Proofs.Receiver.Sack
/-!
# C19 at association level — acknowledgements are prompt; heartbeats are echoed

Property theorems only, about the ack state machine of the L0 model `Model/Receiver.lean`
(`handlePeerLastTSNAndAcknowledgement`, `handleChunksStart/End`, `onAckTimeout`, the SACK part of
`gatherOutbound`), which embeds the proved ack-timer automaton `Timer.AckSys` of `Props/C19.lean` as its
timer. Tied to association.go by `TestVerifAssocReceiver` (ack state, timer running, virtual time after every
op; the executable predicate checks on the real association that a running ack timer expires within 200 ms
of being armed, immediacy on gap / duplicate, and the HEARTBEAT echo).

`run (init …) ops` below is any state reachable from a fresh association by any op list; the theorems stated for
a bare `s : St` hold in every state. A packet takes no time in the model (`timer.now` is the arrival instant);
time passes in `tick`.
-/
namespace C19
open Gen Receiver Timer

/-- the chunk is not ignored, not answered with an ABORT, and not silently discarded for want of a stream
object or because a reassembly limit was hit: `handleData` runs to its acknowledgement step -/
def Handled (s : St) (c : Reasm.Chunk) : Prop :=
  c.userData ≠ [] ∧ data_canHandle s.scp s.state = true ∧ c.iData = s.il ∧
  (RecvQ.canPush s.pq c.tsn = true → (acceptPayloadData (chunksStart s) c).2 = true)

instance (s : St) (c : Reasm.Chunk) : Decidable (Handled s c) := by unfold Handled; infer_instance

theorem packet_now (s : St) (cs : List InChunk) : (packet s cs).timer.now = s.timer.now := by
  have hp := foldl_pktAck cs s
  unfold packet
  generalize cs.foldl handleChunk (chunksStart s) = x at hp ⊢
  have hx : x.timer.now = s.timer.now := by
    rcases hp.timer with ⟨ht, _⟩ | ⟨ht, _⟩
    · rw [ht]
    · rw [ht, stop_now]
  unfold chunksEnd
  split
  · show x.timer.stop.now = _; rw [stop_now, hx]
  · split
    · show x.timer.start.1.now = _
      unfold AckSys.start; split <;> simpa using hx
    · exact hx

/-- ✱ the 200 ms bound. In every reachable state, for every inbound packet arriving at instant `now`:
* if afterwards the acknowledgement is being delayed (`ackState = delay`), the ack timer is started and armed
  with a deadline `≤ now + 200 ms` (`ackInterval` is the translator-generated constant);
* an already running ack timer is never pushed back: if the acknowledgement was being delayed before the packet
  and still is after it, the timer — armed deadline included — is untouched;
* when the clock reaches that deadline (`tick`), the ack state becomes `immediate` and the timer is stopped
  (one shot); that a `gather` in state `immediate` sends the SACK is `C19_immediate_ack_is_sent`. -/
theorem C19_ack_delay_bound (maxBuf maxEntries : BitVec 32) (il f g : Bool) (am : Int) (t : BitVec 32)
    (ops : List Receiver.Op) (cs : List InChunk) :
    let s := run (init maxBuf maxEntries il f g am t) ops
    let s' := packet s cs
    ackInterval = 200000000 ∧ s'.timer.now = s.timer.now ∧
    (s'.ackState = 2 → s'.timer.t.state = .started ∧
        ∃ dl tag, s'.timer.g.armed = some (dl, tag) ∧ dl ≤ s.timer.now + ackInterval ∧
          ∀ d, dl ≤ s'.timer.now + d → (tick s' d).ackState = 1 ∧ (tick s' d).timer.t.state = .stopped) ∧
    (s.ackState = 2 → s'.ackState = 2 → s'.timer = s.timer) := by
  intro s s'
  have hs : AckInv s := run_ackInv ops (init_ackInv maxBuf maxEntries il f g am t)
  have hs' : AckInv s' := packet_ackInv hs cs
  have hnow := packet_now s cs
  refine ⟨by decide +kernel, hnow, ?_, ?_⟩
  · intro h2
    have hst := hs'.delay_iff.mpr h2
    obtain ⟨tag, harm, hsince, hpend⟩ := hs'.started hst
    have hnow' : s'.timer.now = s.timer.now := hnow
    refine ⟨hst, _, tag, harm, by omega, ?_⟩
    intro d hd
    unfold tick
    simp only [harm]
    rw [if_pos hd]
    have hrun : (({ s'.timer with now := s'.timer.since + ackInterval } : AckSys).fire.run 0) =
        ({ s'.timer with now := s'.timer.since + ackInterval, g := { armed := none, spawned := [] },
                          t := { pending := 0, state := .stopped } }, some .ack) := by
      simp [AckSys.fire, AckSys.run, AckSys.timeout, GoTimer.fire, harm, hs'.nospawn, hst, hpend]
    rw [hrun]
    simp [ackTimeout, ackStateImmediate]
  · intro h2 h2'
    have hp := foldl_pktAck cs s
    show (chunksEnd (cs.foldl handleChunk (chunksStart s))).timer = s.timer
    have hae : (chunksEnd (cs.foldl handleChunk (chunksStart s))).ackState = 2 := h2'
    generalize cs.foldl handleChunk (chunksStart s) = x at hp hae
    have hnd : x.delTrig = false := by
      cases hd : x.delTrig with
      | false => rfl
      | true => have := hp.delWhy hd; omega
    unfold chunksEnd at hae ⊢
    cases hi : x.immTrig with
    | true => simp [hi, ackStateImmediate] at hae
    | false =>
      simp only [hi, hnd, Bool.false_eq_true, if_false] at hae ⊢
      rcases hp.timer with ⟨ht, _⟩ | ⟨_, ha⟩
      · exact ht
      · omega

/-- after a packet whose (single) DATA chunk was handled, an acknowledgement is on its way: the ack state is
`immediate` (SACK at the next `gather`) or `delay` (timer armed, previous theorem) — never `idle`. -/
theorem C19_ack_scheduled (maxBuf maxEntries : BitVec 32) (il f g : Bool) (am : Int) (t : BitVec 32)
    (ops : List Receiver.Op) (c : Reasm.Chunk) (imm : Bool) :
    let s := run (init maxBuf maxEntries il f g am t) ops
    Handled s c → (packet s [.data c imm]).ackState = 1 ∨ (packet s [.data c imm]).ackState = 2 := by
  intro s hh
  obtain ⟨hne, hst, hk, hacc⟩ := hh
  exact (packet_data_acked s c imm hne hst hk hacc).1

/-- ✱ a handled DATA chunk that `canPush` admits and whose TSN leaves a gap above the cumulative point (serially
after `cum + 1`), alone in its packet, is acknowledged at once: the ack state after the packet is `immediate`. -/
theorem C19_ack_immediate_on_gap (s : St) (c : Reasm.Chunk) (imm : Bool) (hh : Handled s c)
    (hcp : RecvQ.canPush s.pq c.tsn = true) (hgap : sna32GT c.tsn (s.pq.cum + 1#32) = true) :
    (packet s [.data c imm]).ackState = 1 := by
  obtain ⟨hne, hst, hk, hacc⟩ := hh
  refine (packet_data_acked s c imm hne hst hk hacc).2 ?_
  unfold dataSackNow
  split
  · rfl
  · rw [dataTaken_cum]
    simp only [data_sackNow, data_gapDetected, data_expectedTSN, show (chunksStart s).pq = s.pq from rfl, hgap, Bool.or_true,
      Bool.true_or]

/-- ✱ a DATA chunk that carries nothing new — a duplicate (at or below the cumulative point, or already held) or
a TSN beyond the tracking window: exactly the chunks `canPush` refuses — is acknowledged at once. -/
theorem C19_ack_immediate_on_dup (s : St) (c : Reasm.Chunk) (imm : Bool) (hne : c.userData ≠ [])
    (hst : data_canHandle s.scp s.state = true) (hk : c.iData = s.il) (hcp : RecvQ.canPush s.pq c.tsn = false) :
    (packet s [.data c imm]).ackState = 1 := by
  refine (packet_data_acked s c imm hne hst hk (fun h => absurd h (by simp [hcp]))).2 ?_
  unfold dataSackNow
  split
  · rfl
  · simp [data_sackNow, hcp]

/-- what `canPush` refuses, in terms of the abstract receive set (from the C05 refinement): a TSN is refused iff
it is not strictly inside the window `(cum, cum + maxTSNOffset]` or is already held. -/
theorem C19_dup_meaning (q : RecvQ.Q) (I : RecvQ.Inv q) (hm : q.maxOff.toNat < 2^31) (t : BitVec 32) :
    RecvQ.canPush q t = false ↔
      ¬ (1 ≤ (t - q.cum).toNat ∧ (t - q.cum).toNat ≤ q.maxOff.toNat) ∨ RecvQ.heldAt q (t - q.cum).toNat := by
  rw [Bool.eq_false_iff, Ne, RecvQ.canPush_iff I, RecvQ.held_iff_heldAt, RecvQ.admissible_small hm,
    Classical.not_and_iff_not_or_not, Classical.not_not]

/-- an immediate acknowledgement is sent by the next `gather` (state sends SACKs, no ABORT pending): one SACK
with the current cumulative TSN, and the ack state returns to `idle`. -/
theorem C19_immediate_ack_is_sent (s : St) (h1 : s.ackState = 1) (hab : s.willSendAbort = false)
    (hst : s.state = 3#32 ∨ s.state = 5#32 ∨ s.state = 6#32 ∨ s.state = 7#32) :
    (∃ arw, (gather s).2.1 = s.control.map Out.ctl ++ [Out.sack s.pq.cum arw (RecvQ.gaps s.pq) s.pq.dups]) ∧
    (gather s).1.ackState = 0 := by
  have hs : (s.state == 3#32 || s.state == 5#32 || s.state == 6#32 || s.state == 7#32) = true := by
    rcases hst with h | h | h | h <;> simp [h]
  have hsk : sacks s = true := by simp [sacks, hab, hs, sack_pending, h1]
  constructor
  · exact ⟨credit s, by rw [gather_out, if_neg (by simp [hab]), if_pos hsk]⟩
  · simp [gather, hab, hs, sack_pending, h1, createSack, ackStateIdle]

/-- ✱ a HEARTBEAT is answered with a HEARTBEAT-ACK that carries the same information, in every association
state: the handler queues it and the next `gather` (no ABORT pending) sends it. -/
theorem C19_heartbeat_echo (s : St) (info : String) (hab : s.willSendAbort = false) :
    (handleChunk s (.hb info)).control = s.control ++ [.hback info] ∧
    Out.ctl (.hback info) ∈ (gather (packet s [.hb info])).2.1 := by
  refine ⟨rfl, ?_⟩
  have hc : (packet s [.hb info]).control = s.control ++ [.hback info] := by
    unfold packet chunksEnd
    simp only [List.foldl_cons, List.foldl_nil, handleChunk]
    repeat' split
    all_goals rfl
  have hw : (packet s [.hb info]).willSendAbort = false := by
    unfold packet chunksEnd
    simp only [List.foldl_cons, List.foldl_nil, handleChunk]
    repeat' split
    all_goals exact hab
  unfold gather
  rw [if_neg (by simp [hw])]
  dsimp only
  split <;> simp [hc]

-- non-vacuity (tests, by evaluation): in-order DATA on an idle association is delayed with the timer armed for
-- +200 ms; a second in-order DATA packet makes the ack immediate; a duplicate is acknowledged at once
private def d0 (t : Nat) : Reasm.Chunk :=
  { tsn := BitVec.ofNat 32 t, si := 1, ssn := BitVec.ofNat 16 (t - 10), bf := true, ef := true, ppi := 51, userData := [7] }
private def a0 : St := init 65536 0 false true false 0 10#32
set_option maxRecDepth 100000 in
example : Handled a0 (d0 10) := by decide +kernel
set_option maxRecDepth 100000 in
example : (packet a0 [.data (d0 10) false]).ackState = 2 ∧
    (packet a0 [.data (d0 10) false]).timer.g.armed = some (200000000, 1) := by decide +kernel
set_option maxRecDepth 100000 in
example : (packet (packet a0 [.data (d0 10) false]) [.data (d0 11) false]).ackState = 1 := by decide +kernel
set_option maxRecDepth 100000 in
example : RecvQ.canPush (packet a0 [.data (d0 10) false]).pq (d0 10).tsn = false := by decide +kernel

end C19
