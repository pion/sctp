import SctpVerif.Proofs.Rack.Reo
import SctpVerif.Proofs.Rack.Tlr
import SctpVerif.Proofs.Rack.Inv
/-!
# C02 — loss recovery (RACK, RACK timer, PTO, TLR) makes progress and is sound, on `Model/Rack.lean`

Property theorems only. They hold for EVERY state of the component, every environment reading (`Rack.Env`) and every
SACK summary unless a hypothesis says otherwise; hypotheses are invariants of the reachable states (`Rack.Inv`,
proved for every admissible run in `C02_rack_invariant`) or facts about the environment (`Rack.EnvOK`: a valid SRTT reading is not negative —
proved for the `Rat` twin of the generated conversion, `Rack.envOK_ofRat`; the code evaluates the same expression in
float64, `SrttView.ofFloat`, for which there is no such lemma).

What the code does, as the theorems state it:
* RACK marks a chunk on a SACK only if it is in the send-time list, not acked, not abandoned, not already flagged, an
  original transmission, and `since + reoWnd < deliveredTime` (strict), where `deliveredTime` is the latest send time
  among chunks delivered so far (`C02_rack_marks_only_outstanding`, `C02_rack_loss_sound`). Ties in send time are never
  marked; TSN plays no role in the test. The converse is stated for reachable states only: there no entry left in the
  list satisfies the test (`Quiet`, part of `C02_rack_invariant`); in an arbitrary state the walk stops at the first
  entry that is too new, whatever lies behind it.
* After a SACK the RACK timer is armed `max (now - deliveredTime) 0 + reoWnd` ahead when the list is non-empty, a
  delivered time is on record and that duration is positive; otherwise it is stopped (`C02_rack_timer_armed`).
* PTO with nothing pending flags the LAST outstanding chunk of the in-flight queue; with anything pending it flags
  nothing (see `C02_pto_no_probe_when_pending`).
-/
namespace C02
open Rack Gen

/-- the delivered time `onRackAfterSACK` works with -/
theorem C02_rack_delivered_time (s : St) (env : Env) (found : Bool) (nt : Int) (ntsn : BitVec 32) (nd : Int) :
    (onRackAfterSACK s env found nt ntsn nd).1.deliveredTime =
      if found = true ∧ s.deliveredTime < nt then nt else s.deliveredTime := by
  rw [onRackAfterSACK_deliveredTime]
  unfold beforeMark
  rw [rackReoWnd_frame]
  exact rackDelivered_deliveredTime s found nt ntsn

/-- ✱ RACK marks only chunks that are outstanding: in the send-time list, in the in-flight queue, not acknowledged,
not abandoned, not already flagged for retransmission and never retransmitted before -/
theorem C02_rack_marks_only_outstanding (s : St) (env : Env) (found : Bool) (nt : Int) (ntsn : BitVec 32) (nd : Int)
    (t : BitVec 32) (ht : t ∈ (onRackAfterSACK s env found nt ntsn nd).2) :
    t ∈ s.list ∧ ∃ c, find s.q t = some c ∧ c.acked = false ∧ c.abandoned = false ∧ c.retransmit = false ∧ c.nSent ≤ 1 := by
  obtain ⟨hl, ⟨c, hc, hd, hr, _⟩, _⟩ := onRackAfterSACK_marks s env found nt ntsn nd t ht
  rw [sackWalk_std.dead] at hd
  rw [sackWalk_std.resent] at hr
  simp only [Bool.or_eq_false_iff, decide_eq_false_iff_not] at hd hr
  exact ⟨hl, c, hc, hd.1, hd.2, hr.1, by bv_omega⟩

/-- ✱ Soundness of the loss decision: a chunk is marked only if some chunk sent LATER has been delivered and more than
the reordering window lies between the two send times: `since + reoWnd < deliveredTime`, strictly, with the window and
the delivered time this SACK left behind. -/
theorem C02_rack_loss_sound (s : St) (env : Env) (found : Bool) (nt : Int) (ntsn : BitVec 32) (nd : Int)
    (t : BitVec 32) (ht : t ∈ (onRackAfterSACK s env found nt ntsn nd).2) :
    ∃ c, find s.q t = some c ∧
      c.since + (onRackAfterSACK s env found nt ntsn nd).1.reoWnd < (onRackAfterSACK s env found nt ntsn nd).1.deliveredTime ∧
      (onRackAfterSACK s env found nt ntsn nd).1.deliveredTime ≠ 0 := by
  obtain ⟨_, ⟨c, hc, _, _, hn⟩, h0⟩ := onRackAfterSACK_marks s env found nt ntsn nd t ht
  rw [sackWalk_std.tooNew] at hn
  simp only [Bool.not_eq_eq_eq_not, Bool.not_false, decide_eq_true_eq] at hn
  exact ⟨c, hc, hn, h0⟩

/-- … hence RACK never marks the most recently sent chunk on its own: a chunk sent at or after every delivered chunk
(`deliveredTime ≤ since`) is not marked, whatever the reordering window (it is never negative) -/
theorem C02_rack_never_marks_newest (s : St) (env : Env) (found : Bool) (nt : Int) (ntsn : BitVec 32) (nd : Int)
    (he : EnvOK env) (hf : 0 ≤ s.cfg.reoWndFloor) (hw : 0 ≤ s.reoWnd)
    (c : Chunk) (t : BitVec 32) (hc : find s.q t = some c)
    (hnew : (onRackAfterSACK s env found nt ntsn nd).1.deliveredTime ≤ c.since) :
    t ∉ (onRackAfterSACK s env found nt ntsn nd).2 := by
  intro ht
  obtain ⟨c', hc', hlt, _⟩ := C02_rack_loss_sound s env found nt ntsn nd t ht
  rw [hc] at hc'; cases hc'
  have hb := (beforeMark_bounds s env found nt ntsn nd he hf hw).1
  rw [onRackAfterSACK_reoWnd] at hlt
  omega

/-- ✱ The reordering window a SACK leaves behind is never negative and never above a valid SRTT reading
("MUST be bounded by SRTT"); without an SRTT reading there is no upper bound other than the growth per SACK:
from `max old base` by one inflation step `max (minRTT/4) floor` -/
theorem C02_reownd_bounded (s : St) (env : Env) (found : Bool) (nt : Int) (ntsn : BitVec 32) (nd : Int)
    (he : EnvOK env) (hf : 0 ≤ s.cfg.reoWndFloor) (hw : 0 ≤ s.reoWnd) :
    0 ≤ (onRackAfterSACK s env found nt ntsn nd).1.reoWnd ∧
    (env.srtt.rackValid = true → (onRackAfterSACK s env found nt ntsn nd).1.reoWnd ≤ env.srtt.rackDur) ∧
    (onRackAfterSACK s env found nt ntsn nd).1.reoWnd ≤
      max s.reoWnd (reoBase (reoMinRTT s)) + Gen.gmax (Int.tdiv (reoMinRTT s).minRTT 4) s.cfg.reoWndFloor := by
  rw [onRackAfterSACK_reoWnd]
  have hb := beforeMark_bounds s env found nt ntsn nd he hf hw
  exact ⟨hb.1, hb.2, beforeMark_growth s env found nt ntsn nd hf hw⟩

/-- ✱ The RACK timer after a SACK, exactly: with chunks left in the send-time list and a delivered time on record it is
armed `max (now - deliveredTime) 0 + reoWnd` from now (disarmed only when that is not positive: with the window not
negative and the delivered time not ahead of the clock, as in every reachable state, that means the newest delivered
chunk was sent at this very instant and the window is 0); otherwise — empty list or no delivered time yet — it is stopped.
(What the wake-up then does: `C02_rack_timer_inert`.) -/
theorem C02_rack_timer_armed (s : St) (env : Env) (found : Bool) (nt : Int) (ntsn : BitVec 32) (nd : Int) :
    let r := (onRackAfterSACK s env found nt ntsn nd).1
    r.rackDeadline =
      if r.list ≠ [] ∧ r.deliveredTime ≠ 0 then
        (if max (r.now - r.deliveredTime) 0 + r.reoWnd ≤ 0 then 0 else r.now + (max (r.now - r.deliveredTime) 0 + r.reoWnd))
      else 0 := by
  intro r
  have hr : r = schedulePTOAfterSack (rackArm (rackMark (beforeMark s env found nt ntsn nd) env).1) env := rfl
  rw [hr, rearm_frame]
  exact rackArm_deadline _

/-- ✱ The probe timeout, as RFC 8985 §7.2 states it and exactly as both copies of the computation in the code give it
(after new data was sent, and after a SACK): with data in flight the PTO is armed at `now + 2·SRTT + 2 ms`, at
`now + 2·SRTT + WCDelAckT` when a single chunk is in flight, at `now + 1 s` without an RTT sample (disarmed if that
duration is not positive); with nothing in flight it is stopped. -/
theorem C02_pto_deadline (s : St) (env : Env) :
    (schedulePTOAfterSend s env).ptoDeadline =
      (if s.q.length = 0 then 0 else
        let pto := if env.srtt.sendValid then 2 * env.srtt.sendDur + (if s.q.length = 1 then s.cfg.wcDelAck else 2000000) else 1000000000
        if pto ≤ 0 then 0 else s.now + pto) ∧
    (schedulePTOAfterSack s env).ptoDeadline =
      (if s.q.length = 0 then 0 else
        let pto := if env.srtt.ptoValid then 2 * env.srtt.ptoDur + (if s.q.length = 1 then s.cfg.wcDelAck else 2000000) else 1000000000
        if pto ≤ 0 then 0 else s.now + pto) := by
  exact ⟨ptoDeadline_eq s s.q.length env.srtt.sendValid env.srtt.sendDur,
    ptoDeadline_eq s s.q.length env.srtt.ptoValid env.srtt.ptoDur⟩

/-- ✱ PTO makes progress when nothing is pending: with data in flight and an empty pending queue, the LAST chunk of the
in-flight queue that is neither acknowledged nor abandoned carries the retransmit flag afterwards (it is flagged now or
was already) and is still neither acked nor abandoned; if there is no such chunk, everything in flight from the
cumulative point on is acked or abandoned. -/
theorem C02_pto_probe_progress_partial (s : St) (env : Env) (hq : s.q ≠ []) (hp : env.pendingSize ≤ 0) :
    (∃ c, ptoLatest s = some c ∧ c ∈ s.q ∧ c.acked = false ∧ c.abandoned = false ∧
        ∃ x ∈ (onPTOTimer s env).1.q, x.tsn = c.tsn ∧ x.retransmit = true ∧ x.acked = false ∧ x.abandoned = false) ∨
    (ptoLatest s = none ∧ ∀ c ∈ scanFrom s.q (s.cumAck + 1), c.acked = true ∨ c.abandoned = true) := by
  cases hl : ptoLatest s with
  | none => right; exact ⟨rfl, ptoLatest_none s hl⟩
  | some c =>
    left
    have hs := ptoLatest_spec s c hl
    refine ⟨c, rfl, hs.1, hs.2.1, hs.2.2, ?_⟩
    rw [onPTOTimer_eq s env hq]
    have hp' : ¬ 0 < env.pendingSize := by omega
    simp only [hp', ↓reduceIte, hl]
    cases hr : c.retransmit
    · simp only [Bool.false_eq_true, ↓reduceIte]
      refine ⟨setRtx c, ?_, rfl, rfl, hs.2.1, hs.2.2⟩
      simp only [Rack.modify, List.mem_map]
      exact ⟨c, hs.1, by simp⟩
    · simp only [↓reduceIte, ptoTlr_q]
      exact ⟨c, hs.1, rfl, hr, hs.2.1, hs.2.2⟩

/-- ✗ The full statement ("whenever the PTO fires with data outstanding, a chunk is flagged or new data goes out") is
FALSE: with anything in the pending queue the PTO flags nothing and only wakes the writer, which sends new data only if
cwnd and rwnd allow — the code does not look. Witness: one chunk in flight (TSN 11, unacknowledged, sent at 1 s), one
chunk pending, PTO due: no mark, store unchanged, and the PTO timer is left disarmed (`timerLoop` cleared it; it is
re-armed only by the next send or SACK). What then recovers the chunk is T3. -/
theorem C02_pto_no_probe_when_pending :
    let s : St := { (default : St) with now := 2000000000, cumAck := 10, myNextTSN := 12, list := [11], ptoDeadline := 2000000000, q := [({ tsn := 11, since := 1000000000 } : Chunk)] }
    let env : Env := { pendingSize := 1 }
    (timerFire s env).2 = [] ∧ (timerFire s env).1.q = s.q ∧ (timerFire s env).1.ptoDeadline = 0 ∧ (timerFire s env).1.rackDeadline = 0 := by
  decide +kernel

/-- ✱ TLR can never refuse forever: whatever the episode's state and budget, the FIRST request of every gather
(`consumed = false`) is admitted (so each `gatherOutbound` lets at least one chunk through the gate); and in a state
whose cumulative ack point has reached the episode's end TSN, `tlrMaybeFinishLocked` — the last step of the processing of
a SACK (`Rack.afterAck`) — ends the episode, after which every request is admitted. Both are facts about one call; that
the ack point gets there is not part of the statement. -/
theorem C02_tlr_not_forever (s : St) (budget est : Int) (b : Int × Bool) (p : Bool) :
    (tlrAllow s.tlrActive (budget, false) est).1 = true ∧
    (s.tlrActive = true → sna32GTE s.cumAck s.tlrEndTSN = true → tlrAllow (tlrMaybeFinish s p).tlrActive b est = (true, b)) := by
  refine ⟨tlrAllow_first _ _ _, fun ha hd => ?_⟩
  have : (tlrMaybeFinish s p).tlrActive = false := by
    rw [tlrMaybeFinish_tlrActive s p ha, tlrFinish_done, hd]; rfl
  exact tlrAllow_free_cases _ _ _ (Or.inl this)

/-- ✱ The invariant of the component, for every run: starting from `createAssociation…` at a non-negative clock reading
with a non-negative window floor (the option rejects negative values), after ANY list of operations that the
environment can produce (`RunOK`: fresh TSNs for new chunks, retransmissions only of chunks in flight, SRTT readings
that are not negative when valid) the RACK list is in send-time order and names only chunks in flight, no send time and
no delivered time is ahead of the clock, the reordering window is not negative, and no list entry satisfies the loss
test (`Quiet`). -/
theorem C02_rack_invariant (cfg : Cfg) (tsn : BitVec 32) (now : Int) (hn : 0 ≤ now) (hf : 0 ≤ cfg.reoWndFloor)
    (ops : List Op) (hok : RunOK (init cfg tsn now) ops) : Inv (run (init cfg tsn now) ops) :=
  (Inv.init cfg tsn now hn hf).run ops hok

/-- ✗ FINDING (the full-strength form of "the RACK timer saves a wake-up" is false): in EVERY reachable state the RACK
timer callback `onRackTimeoutLocked` marks NOTHING. It evaluates `since + reoWnd < deliveredTime` — the same test, with
the same window and the same delivered time, that `onRackAfterSACK` applied to the same list when it armed the timer; the
test does not mention the clock, everything sent since is newer than `deliveredTime`, so nothing can have become
"overdue" in between. RFC 8985 §7.2 declares a segment lost once `now ≥ xmit_ts + RACK.rtt + reo_wnd`; the code has no
such clause. The timer is armed (`C02_rack_timer_armed`), fires, cleans the list of acked / abandoned entries, and the
chunk inside the reordering window waits for the next SACK, the PTO or T3 (`C02_rack_timer_overdue_witness`). -/
theorem C02_rack_timer_inert (cfg : Cfg) (tsn : BitVec 32) (now : Int) (hn : 0 ≤ now) (hf : 0 ≤ cfg.reoWndFloor)
    (ops : List Op) (hok : RunOK (init cfg tsn now) ops) (env : Env) :
    (onRackTimeout (run (init cfg tsn now) ops) env).2 = [] ∧
    (onRackTimeout (run (init cfg tsn now) ops) env).1.q = (run (init cfg tsn now) ops).q := by
  have h := (C02_rack_invariant cfg tsn now hn hf ops hok).onRackTimeout env
  refine ⟨h.1, ?_⟩
  rw [onRackTimeout_q, h.1, flagged_nil]

/-- the witness, as a run of the model that the implementation reproduces line by line (corpus/C02/rack_timer_inert.ops):
RTT 100 ms, reordering seen, TSN 1002 sent at 1.100 s, TSN 1003 sent at 1.105 s and delivered; the SACK at 1.205 s leaves
1002 unmarked (inside the 25 ms window) and arms the timer for 1.330 s. By RFC 8985 TSN 1002 is lost at
1.100 + 0.100 + 0.025 = 1.225 s. At 1.330 s the timer fires: nothing is marked, 1002 is still unflagged. -/
theorem C02_rack_timer_overdue_witness :
    let envW : Env := { srtt := { rackValid := true, rackDur := 100000000, ptoValid := true, ptoDur := 100000000, sendValid := true, sendDur := 100000000, tlrValid := true, tlrDur := 100000000 }, t3Running := true }
    let ops : List Op := [.send false, .send false, .ptoAfterSend {}, .advance 100000000, .sack envW 999 [1001] 0 0, .sack envW 1001 [] 0 0, .send false, .ptoAfterSend envW, .advance 5000000, .send false, .ptoAfterSend envW, .advance 100000000, .sack envW 1001 [1003] 0 0, .advance 125000000]
    let s := run (init {} 1000 1000000000) ops
    s.now = 1330000000 ∧ s.rackDeadline = s.now ∧ s.reoWnd = 25000000 ∧ s.deliveredTime = 1105000000 ∧ s.list = [1002] ∧
    (s.q.map fun c => (c.tsn, c.since, c.acked, c.retransmit)) = [(1002, 1100000000, false, false), (1003, 1105000000, true, false)] ∧
    (1100000000 : Int) + 100000000 + s.reoWnd ≤ s.now ∧
    (timerFire s envW).2 = [] ∧ (timerFire s envW).1.rackDeadline = 0 ∧
    ((timerFire s envW).1.q.map fun c => (c.tsn, c.retransmit)) = [(1002, false), (1003, false)] := by
  decide +kernel

-- non-vacuity
example : RunOK (init {} 1000 1) [.send false, .advance 5, .resend 1000 true false, .sack {} 1000 [] 0 0] := by
  refine ⟨?_, trivial, ?_, ?_, trivial⟩
  · intro c hc; cases hc
  · exact ⟨_, List.mem_cons_self, rfl⟩
  · intro h; cases h
example : (onRackAfterSACK { (default : St) with now := 100, deliveredTime := 50, list := [1, 2], q := [({ tsn := 1, since := 10 } : Chunk), ({ tsn := 2, since := 50 } : Chunk)] } {} false 0 0 0).2 = [1] := by decide +kernel
example : EnvOK {} := by intro h; cases h
-- the hypotheses of C02_rack_never_marks_newest / C02_reownd_bounded hold in the initial state and for a positive SRTT
example : EnvOK { srtt := SrttView.ofRat 80, inFastRecovery := false, t3Running := true, pendingSize := 0 } := envOK_ofRat 80 false true 0
example : (0 : Int) ≤ (init {} 7 1).cfg.reoWndFloor ∧ (0 : Int) ≤ (init {} 7 1).reoWnd := by decide +kernel
-- C02_pto_probe_progress_partial: a state with data in flight, nothing pending, an outstanding chunk
example : (onPTOTimer { (default : St) with now := 9, cumAck := 10, q := [({ tsn := 11, since := 1 } : Chunk), ({ tsn := 12, since := 1, acked := true } : Chunk)] } {}).2 = [11] := by decide +kernel

end C02
