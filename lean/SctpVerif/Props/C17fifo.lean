import SctpVerif.Proofs.NetSys.SelPendQ
/-!
# C17 — the message policy with ordered chunks only is ONE first-in-first-out queue

Property theorems only; about the L0 model `PendQ` of pending_queue.go (tied to the Go code by `TestVerifPendQ`), like
`Props/C17.lean`. It is the PendQ-side justification of the hypothesis `SelFifo` of `C01.C01_netsys_prefix_fifo`
(`Props/C01sel.lean`).

**What links the two worlds.** In `Model/Sender.lean` the pending queue is the list `pending` in PUSH order
(`pushPending` appends the fragments `packetize` made; `popPend` erases the index `peek` named), and the index `peek`
returns is the oracle `sel`. Here the queue is `PQ.contents` (for the message policy: the unordered queue followed by the
ordered queue), and `C17_ordered_only_fifo` says: if only ordered chunks are ever pushed (what `Stream.packetize` produces
on ordered streams: `unordered = ppi != DCEP && s.unordered`), then pushes = pops ++ contents in push order, and every
`peek` / `pop` is handed `contents.head?` — the OLDEST queued chunk, which in a list kept in push order is index 0.
So the real queue's answer, expressed as an index into `Sender.St.pending`, is `0` every time: `SelFifo`.

**The composition.** `Model/NetSysQ.lean` puts the two models together: the message policy `MsgPol` runs next to the sender
state, is pushed every chunk a write queues, and a gather's selection list is what draining it hands out, each chunk looked
up by identity in the pending list. `C01.C01_netsysq_selfifo` / `C01_netsysq_prefix` / `C01_netsysq_no_queue_error`
(`Props/C01sel.lean`) are about that composed model (their proofs use the invariant `QI` of `Proofs/NetSys/SelQ.lean`, the
step-by-step form of the theorem below).

**What is still not a theorem.** That the REAL queue and the real pending-order bookkeeping behave as the models say.
`PendQ` is tied to pending_queue.go by `TestVerifPendQ`; the oracle values are tied by the `as` correspondence harness:
`go/harness/assoc_test.go` keeps a white-box shadow of the real queue in push order and logs, per gather, the shadow
indices of the chunks the REAL `pendingQueue` handed out (`as ora … sel=`); the driver replays them through
`Sender.gather` (DIFF on any disagreement in the packets) and the predicate `[C01,C17]` of `Driver/Assoc.lean` checks on
the implementation's own log that in a non-interleaved sequence whose streams are all ordered every logged index is 0.
-/
namespace C17
open PendQ

variable {α : Type} [Num α]

/-- **Ordered-only traffic under the message policy is globally FIFO.** Take any scheduler factory and any list of
push / peek / pop operations on a fresh queue (no `setInterleaving`: the message policy) in which every pushed chunk is
ordered. Then (i) the chunks pushed so far are the chunks popped so far, in the same order, followed by the queue
contents — pops come out in PUSH order across all streams; (ii) the next `peek` returns the oldest queued chunk (nil
iff the queue is empty); (iii) the next `pop` (as the association does it: peek, then pop what was peeked) is handed the
oldest queued chunk. Since `ops` is arbitrary, (ii) and (iii) hold at every point of every run. No hypothesis on how
messages are fragmented (B / E flags arbitrary). -/
theorem C17_ordered_only_fifo (f : Factory) (ops : List Op) (hops : ∀ o ∈ ops, o.basic = true)
    (hord : ∀ c ∈ pushesOf ((PQ.new f : PQ α).run ops).2, c.unordered = false) :
    let r := (PQ.new f : PQ α).run ops
    pushesOf r.2 = popsOf r.2 ++ r.1.contents ∧
    (r.1.step .peek).2 = .peeked (.chunk r.1.contents.head?) ∧
    ∃ res, (r.1.step .pop).2 = .popped r.1.contents.head? res :=
  ordered_only_fifo f ops hops hord

/-- **… expressed as an index: 0.** Let `pend` be ANY list kept in push order whose image under a view `v` is the queue
contents (the list `Sender.St.pending` of the sender model with `v` = the scheduler-visible fields of a chunk; the harness'
white-box shadow of the real queue). Under the hypotheses of `C17_ordered_only_fifo` the chunk the next `peek` returns
and the chunk the next `pop` is handed are the view of `pend[0]` — the selection oracle of the sender model is index 0. -/
theorem C17_ordered_only_index_zero {β : Type} (f : Factory) (ops : List Op) (hops : ∀ o ∈ ops, o.basic = true)
    (hord : ∀ c ∈ pushesOf ((PQ.new f : PQ α).run ops).2, c.unordered = false)
    (pend : List β) (v : β → Chunk) (hv : pend.map v = ((PQ.new f : PQ α).run ops).1.contents) :
    let r := (PQ.new f : PQ α).run ops
    (r.1.step .peek).2 = .peeked (.chunk (pend[0]?.map v)) ∧
    ∃ res, (r.1.step .pop).2 = .popped (pend[0]?.map v) res := by
  obtain ⟨_, h2, h3⟩ := ordered_only_fifo f ops hops hord
  have hh : ((PQ.new f : PQ α).run ops).1.contents.head? = pend[0]?.map v := by
    rw [← hv, List.head?_map, List.head?_eq_getElem?]
  rw [hh] at h2 h3
  exact ⟨h2, h3⟩

/-! ## tests by evaluation and non-vacuity (`decide` on a concrete run — a test, not a theorem) -/

-- two ordered streams, a fragmented message on each, pops in between, a stale peek
private def exOrd : List Op :=
  [.push ⟨0, 1, false, true, false, 5⟩, .push ⟨1, 1, false, false, true, 3⟩, .pop, .peek,
   .push ⟨2, 2, false, true, false, 4⟩, .push ⟨3, 2, false, false, true, 4⟩, .pop, .pop]

example : popsOf ((PQ.new .none : PQ Rat).run exOrd).2 =
      [⟨0, 1, false, true, false, 5⟩, ⟨1, 1, false, false, true, 3⟩, ⟨2, 2, false, true, false, 4⟩] ∧
    ((PQ.new .none : PQ Rat).run exOrd).1.contents = [⟨3, 2, false, false, true, 4⟩] := by decide +kernel

-- non-vacuity: the hypotheses hold for this run
example : ∃ res, ((((PQ.new .none : PQ Rat).run exOrd).1.step .pop).2 = .popped (some ⟨3, 2, false, false, true, 4⟩) res) := by
  have h := (C17_ordered_only_fifo (α := Rat) .none exOrd (by decide +kernel) (by decide +kernel)).2.2
  have hc : ((PQ.new .none : PQ Rat).run exOrd).1.contents.head? = some ⟨3, 2, false, false, true, 4⟩ := by decide +kernel
  rw [hc] at h
  exact h

-- test: with an unordered chunk queued the policy is NOT globally FIFO (the unordered message overtakes)
example : popsOf ((PQ.new .none : PQ Rat).run
    [.push ⟨0, 1, false, true, true, 5⟩, .push ⟨1, 2, true, true, true, 3⟩, .pop]).2 = [⟨1, 2, true, true, true, 3⟩] := by decide +kernel

end C17
