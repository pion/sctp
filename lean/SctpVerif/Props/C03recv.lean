import SctpVerif.Proofs.Receiver.Total
/-!
# C03 — no inbound packet can crash or corrupt the receive half (association level)

Property theorems only, about the L0 model `Model/Receiver.lean` (tied to association.go / stream.go by the
correspondence run `TestVerifAssocReceiver`: every op replayed through the model, every packet run under
`recover()`; hostile generator: TSNs anywhere in the number space, duplicates, zero-length DATA, wrong chunk
kinds, FORWARD-TSNs behind / far beyond the cumulative point, unknown streams, > 16 unaccepted streams, raw
mutated packets). Where Go would panic the model sets `panicked` (never totalised): the only such places in
the receive half are the two empty-slice accesses inside `reassemblyQueue.pushWithError`.
-/
namespace C03
open Gen Receiver

/-- ✱ no op list — any packets with any chunks in any order, any reads, gathers, clock ticks, state changes —
drives the receive half into a panic outcome, from any configuration. -/
theorem C03_recv_total (maxBuf maxEntries : BitVec 32) (il f g : Bool) (am : Int) (t : BitVec 32) (ops : List Op) :
    (run (init maxBuf maxEntries il f g am t) ops).panicked = false :=
  (run_noPanic ops (init_noPanic maxBuf maxEntries il f g am t)).1

/-- the reason: in every reachable state no reassembly queue holds an empty ordered chunk set, and from such a
queue `pushWithError` takes no panic branch, whatever the chunk. -/
theorem C03_reasm_push_total (maxBuf maxEntries : BitVec 32) (il f g : Bool) (am : Int) (t : BitVec 32) (ops : List Op)
    (c : Reasm.Chunk) :
    ∀ x ∈ (run (init maxBuf maxEntries il f g am t) ops).streams ++ (run (init maxBuf maxEntries il f g am t) ops).gone,
      (x.q.pushWithError c).2.2 ≠ .panic := by
  intro x hx
  have h := (run_noPanic ops (init_noPanic maxBuf maxEntries il f g am t)).2
  rcases List.mem_append.mp hx with hx | hx
  · exact Reasm.pushWithError_no_panic _ _ (h.1 x hx)
  · exact Reasm.pushWithError_no_panic _ _ (h.2 x hx)

/-- ✱ a FORWARD-TSN whose new cumulative TSN is at or behind the cumulative point (serially) changes NOTHING
of the transfer state — receive queue, stream table, reassembly queues, accept queue, control queue, pending
resets, ABORT flag — in any association state; it only forces an acknowledgement: after the packet the ack
state is `immediate` and the ack timer is stopped. -/
theorem C03_stale_fwdtsn_noop (s : St) (newCum : TSN) (es : List (BitVec 16 × BitVec 16))
    (hil : s.il = false) (hf : s.useFwd = true) (hst : sna32LTE newCum s.pq.cum = true) :
    packet s [.fwd newCum es] =
      { s with ackState := ackStateImmediate, timer := s.timer.stop, immTrig := false, delTrig := false } := by
  simp [packet, handleChunk, handleFwd, hil, hf, fwd_stale, hst, staleFwd, chunksStart, chunksEnd]

/-- the same for I-FORWARD-TSN -/
theorem C03_stale_ifwdtsn_noop (s : St) (newCum : TSN) (es : List (BitVec 16 × Bool × BitVec 32))
    (hf : s.useIFwd = true) (hst : sna32LTE newCum s.pq.cum = true) :
    packet s [.ifwd newCum es] =
      { s with ackState := ackStateImmediate, timer := s.timer.stop, immTrig := false, delTrig := false } := by
  simp [packet, handleChunk, handleIFwd, hf, ifwd_stale, hst, staleFwd, chunksStart, chunksEnd]

/-- … and the acknowledgement is sent by the next `gather` (in a state that sends SACKs, no ABORT pending). -/
theorem C03_stale_fwdtsn_acked (s : St) (newCum : TSN) (es : List (BitVec 16 × BitVec 16))
    (hil : s.il = false) (hf : s.useFwd = true) (hst : sna32LTE newCum s.pq.cum = true)
    (hab : s.willSendAbort = false) (hs : s.state = 3#32) :
    ∃ arw, Out.sack s.pq.cum arw (RecvQ.gaps s.pq) s.pq.dups ∈ (gather (packet s [.fwd newCum es])).2.1 := by
  rw [C03_stale_fwdtsn_noop s newCum es hil hf hst]
  refine ⟨credit s, ?_⟩
  simp [gather, hab, hs, sack_pending, ackStateImmediate, createSack, credit, RecvQ.popDuplicates]

/-- ✱ a DATA / I-DATA chunk without user data is answered with an ABORT and nothing else happens: the chunk's
`check()` fails before any handler runs, in every association state. -/
theorem C03_zero_length_abort (s : St) (c : Reasm.Chunk) (imm : Bool) (h : c.userData = []) :
    handleChunk s (.data c imm) = { s with willSendAbort := true } := by
  simp [handleChunk, h, abortPV]

/-- DATA in a state that does not receive data (anything but ESTABLISHED, SHUTDOWN-PENDING, SHUTDOWN-SENT,
or with SHUTDOWN-COMPLETE pending) is ignored: the state is unchanged. -/
theorem C03_data_ignored_outside_receive_states (s : St) (c : Reasm.Chunk) (imm : Bool) (hne : c.userData ≠ [])
    (hst : data_canHandle s.scp s.state = false) : handleChunk s (.data c imm) = s := by
  simp [handleChunk, hne, handleData, hst]

-- non-vacuity: the hypotheses are satisfiable (a fresh association, stale FORWARD-TSN; closed state)
example : sna32LTE 5#32 (init 65536 0 false true false 0 10#32).pq.cum = true := by decide +kernel
example : data_canHandle false 0#32 = false := by decide +kernel

end C03
