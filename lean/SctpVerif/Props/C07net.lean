import SctpVerif.Proofs.NetSys.PRSafe
import SctpVerif.Proofs.NetSys.PRLost
import SctpVerif.Proofs.NetSys.PRLostFwd
import SctpVerif.Proofs.NetSys.PRFifo
import SctpVerif.Proofs.NetSys.Proj
/-!
# C07 — the composition with FORWARD-TSN: sender half + adversarial network + receiver half (`NetSysPR`)

Property theorems only. `Model/NetSysPR.lean` is `Model/NetSys.lean` (the two L0 models `Sender` and `Receiver`, tied to the
code by the direct-drive runs `as` / `ar`, and the HISTORY network between them) with streams of ANY reliability policy and a
history that also holds every FORWARD-TSN / I-FORWARD-TSN chunk a gather emitted (`GatherOut.fwd`); `deliver` hands the
receiver any history items — DATA or FORWARD-TSN — any number of times, in any order, in any bundling; never = loss.

**The question.** `C07_reasm_skip_then_deliver` (Props/C07reasm.lean) needs the honest-sender premise `allPushed`: when a skip
names SSN `L` of a stream, every message of that stream at or below `L` that is not abandoned has been handed to the reassembly
queue completely. Can loss and reordering break it in the composed system? **Answer (proved below): no, provided the SACKs the
sender processes are SOUND** — never acknowledge cumulatively more than the receiver's cumulative point (`SackSound`, decidable
on the run; `C05_assoc_sack_sound` proves every SACK of the real receive half carries exactly its own cumulative point).
Nothing is asked of gap blocks: `advLoop` stops at the first NON-ABANDONED chunk, gap-acked or not (`C07_skip_only_abandoned`),
so gap reports never move the advanced peer ack point over a chunk that is not abandoned.
**Soundness cannot be dropped**: `C07_netsys_unsound_sack_witness` is a run with one SACK that acknowledges a TSN the receiver never
got — the FORWARD-TSN built afterwards makes the receiver skip a RELIABLE message that never arrived (decided by `decide`).
This is not a finding about pion/sctp (its receive half never builds such a SACK); it is why the hypothesis is there.

**Argument (Proofs/NetSys/PRSnd.lean, Proofs/Receiver/Dedup.lean, Proofs/NetSys/PRSafe.lean).** One invariant of the composed state, with the
unwrapped counts `a` (TSNs cumulatively acked at the sender) and `A` (TSNs at or below the receiver's cumulative point):
`a ≤ A` (sound SACKs; `validate` keeps `a` inside the chunks sent); every TSN offset `< A` was accepted by the receive queue —
then `handleData` handed the chunk to `pushPayloadDataToStream` (`Receiver.pushes`) — or was skipped by a FORWARD-TSN, then it
is abandoned (ghost sets of `Proofs/RecvQ/History.lean`); every FORWARD-TSN in the history has new cumulative TSN `t0 + n` for a
chunk `n` that was sent, and every offset `≤ n` is abandoned or `< A` (when built: abandoned by `AdvInv`, or `< a ≤ A`;
abandonment is permanent, `A` only grows). That no stream is reset is not needed for this part (TSNs are never reused); it is
what makes "SSN `L` of stream `s`" name ONE message — D24 is the known counterexample otherwise — and is part of `OrdOnly`
(no `unreg`), the hypothesis of the end-to-end theorems below.

Hypotheses (`RunOk`, each decidable on the run, satisfied by the examples): `CfgOk` (MTU < 2^30) and PR negotiated, as in
Props/C07.lean; `SackSound`; `InflightOk` (< 2^31 chunks in flight in every state: the premise `TsnOk` of Props/C07.lean);
fewer than 2^31 TSNs assigned in all.
-/
namespace C07
open NetSysPR
open NetSys (Params Op toWire)
open SenderProofs SenderTsn

/-- ✱ **A skip is safe (TSN level).** In every reachable state of NetSysPR, at any point inside a packet (`pre` = the history
items of the packet handled so far), for EVERY FORWARD-TSN / I-FORWARD-TSN `f` of the history — hence for the one the receiver
takes next, first copy or late duplicate —: every chunk the sender ever sent with a TSN serially at or below `f`'s new
cumulative TSN, on ANY stream, is abandoned by the sender or has been handed to the reassembly queue of its stream
(`pushed`: the TSNs for which `handleData` reached `pushPayloadDataToStream`; a TSN names one fragment: `C01_wire_tsn_stable`).
And every entry of `f` is (stream, SSN) of an abandoned ORDERED chunk (resp. (stream, U, MID) of an abandoned chunk) with a TSN
at or below that point. So nothing that is not abandoned is below a skip without having been received. -/
theorem C07_netsys_skip_is_safe (P : Params) (ops : List Op) (hok : RunOk P ops)
    (pre : List (Item × Bool)) (hpre : ∀ x ∈ pre, x.1 ∈ (run P (init P) ops).wire)
    (f : Sender.Fwd) (hf : Item.fwd f ∈ (run P (init P) ops).wire) :
    (∀ m ∈ moved P (init P) ops, Gen.sna32LTE m.tsn (fwdCum f) = true →
      (run P (init P) ops).snd.abandoned m = true ∨
      m.tsn ∈ pushed P (init P) ops ++ pushedIn P (Receiver.chunksStart (run P (init P) ops).rcv) pre) ∧
    Ent (run P (init P) ops).snd (moved P (init P) ops) f :=
  skip_safe P ops hok pre hpre f hf

/-- The TSN clause of `C07_netsys_skip_is_safe` at an intermediate state: `o1` is a prefix of a run `o1 ++ o2` with `RunOk`
(of the whole run), between two packets (`pre = []`). The clause about the entries of `f` is not repeated. -/
theorem C07_netsys_skip_is_safe_prefix (P : Params) (o1 o2 : List Op) (hok : RunOk P (o1 ++ o2))
    (f : Sender.Fwd) (hf : Item.fwd f ∈ (run P (init P) o1).wire) :
    ∀ m ∈ moved P (init P) o1, Gen.sna32LTE m.tsn (fwdCum f) = true →
      (run P (init P) o1).snd.abandoned m = true ∨ m.tsn ∈ pushed P (init P) o1 := by
  have := (skip_safe P o1 hok.take [] (by simp) f hf).1
  simpa [pushedIn] using this

/-- per-stream FIFO of the TSN assignment, on the run's moved list: a chunk of the same stream written in an EARLIER message
(`W` = the chunks the writes created; a fragment is identified by message identity and FSN) was moved to in flight — got its TSN — before. This is what `C17_fragment_order` /
`C17_ordered_only_fifo` prove of the pending queue (the `sel` oracle of the Sender model is arbitrary). Decidable. -/
def TsnFifo (mv W : List Sender.Chunk) : Bool :=
  mv.all fun (m : Sender.Chunk) => W.all fun (w : Sender.Chunk) => !(decide (w.si = m.si) && decide (w.msg < m.msg)) ||
    mv.any fun (m' : Sender.Chunk) => decide (m'.msg = w.msg ∧ m'.fsn = w.fsn) && Gen.sna32LT m'.tsn m.tsn

theorem TsnFifo.spec {mv W : List Sender.Chunk} (h : TsnFifo mv W = true) :
    ∀ m ∈ mv, ∀ w ∈ W, w.si = m.si → w.msg < m.msg → ∃ m' ∈ mv, (m'.msg = w.msg ∧ m'.fsn = w.fsn) ∧ Gen.sna32LT m'.tsn m.tsn = true := by
  intro m hm w hw hsi hlt
  have h1 := List.all_eq_true.1 (List.all_eq_true.1 h m hm) w hw
  rw [Bool.or_eq_true] at h1
  rcases h1 with h2 | h2
  · simp [hsi, hlt] at h2
  · obtain ⟨m', hm', h3⟩ := List.any_eq_true.1 h2
    simp only [Bool.and_eq_true, decide_eq_true_eq] at h3
    exact ⟨m', hm', h3.1, h3.2⟩

/-- ✱ **The content of the `allPushed` premise, in the sender's vocabulary (stream level, FORWARD-TSN).** With per-stream FIFO TSN
assignment: for every entry `(s, L)` of a FORWARD-TSN of the history there is an abandoned ordered chunk `m` of stream `s` with
SSN `L` such that every fragment `w` written on `s` in a message BEFORE `m`'s (SSNs are assigned in write order:
`C01_ssn_assignment`; when no stream is reset that is "every message of the stream below `L`") has been sent, and is abandoned
or has been handed to the reassembly queue. The message of `m` itself is abandoned. The same in the receiver's vocabulary
(`FwdOk`: SSNs as indices of the stream's message list) is `fwdok_of_run` (`Proofs/NetSys/PRLostFwd.lean`). -/
theorem C07_netsys_skip_all_pushed (P : Params) (ops : List Op) (hok : RunOk P ops)
    (hfifo : TsnFifo (moved P (init P) ops) (written (init P).snd (NetSys.sndOps P (init P).snd ops)) = true)
    (pre : List (Item × Bool)) (hpre : ∀ x ∈ pre, x.1 ∈ (run P (init P) ops).wire)
    (nc : BitVec 32) (es : List (BitVec 16 × BitVec 16)) (hf : Item.fwd (.fwd nc es) ∈ (run P (init P) ops).wire) :
    ∀ e ∈ es, ∃ m ∈ moved P (init P) ops, (run P (init P) ops).snd.abandoned m = true ∧ m.unordered = false ∧ m.si = e.1 ∧ m.ssn = e.2 ∧
      ∀ w ∈ written (init P).snd (NetSys.sndOps P (init P).snd ops), w.si = e.1 → w.msg < m.msg →
        ∃ m' ∈ moved P (init P) ops, (m'.msg = w.msg ∧ m'.fsn = w.fsn) ∧
          ((run P (init P) ops).snd.abandoned m' = true ∨
           m'.tsn ∈ pushed P (init P) ops ++ pushedIn P (Receiver.chunksStart (run P (init P) ops).rcv) pre) := by
  obtain ⟨h1, h2⟩ := skip_safe P ops hok pre hpre (.fwd nc es) hf
  intro e he
  obtain ⟨m, hm, a1, a2, a3, a4, a5⟩ := h2 e he
  refine ⟨m, hm, a1, a3, a4, a5, ?_⟩
  intro w hw hsi hlt
  obtain ⟨m', hm', hfr, hlt'⟩ := TsnFifo.spec hfifo m hm w hw (hsi.trans a4.symm) hlt
  refine ⟨m', hm', hfr, h1 m' hm' ?_⟩
  -- TSN(m') < TSN(m) ≤ nc, all inside one half-space
  obtain ⟨htsn, n, c1, c2, _, _⟩ := skip_safe_idx P ops hok pre hpre (.fwd nc es) hf
  obtain ⟨j, hj⟩ := List.getElem?_of_mem hm
  obtain ⟨i, hi⟩ := List.getElem?_of_mem hm'
  have hjl : j < (moved P (init P) ops).length := (List.getElem?_eq_some_iff.1 hj).1
  have hil : i < (moved P (init P) ops).length := (List.getElem?_eq_some_iff.1 hi).1
  have hsm := hok.small
  have oj : (m.tsn - P.tsn).toNat = j := Sna.off_of_eq (by omega) (htsn j m hj)
  have oi : (m'.tsn - P.tsn).toNat = i := Sna.off_of_eq (by omega) (htsn i m' hi)
  have on : (nc - P.tsn).toNat = n := Sna.off_of_eq (by omega) c1
  have l1 := (Sna.lte32_iff_off P.tsn _ _ (by omega) (by omega)).mp a2
  have l2 := (Sna.lt32_iff_off P.tsn _ _ (by omega) (by omega)).mp hlt'
  show Gen.sna32LTE m'.tsn nc = true
  exact (Sna.lte32_iff_off P.tsn _ _ (by omega) (by omega)).mpr (by omega)

/-! ## nothing that is not abandoned is lost: the receive half with skips, and its transport to NetSysPR -/

/-- ✱ **Receive half, ordered DATA, WITH FORWARD-TSN** (the association-level form of `C07_reasm_skip_then_deliver`; proof:
the simulation of `Proofs/Receiver/Prefix.lean` with a skip step, `Proofs/Receiver/PrefixSkip*.lean`). Peer described by
the universe `U` (per stream a message list cut into fragments, all TSNs `t + offset`, fewer than 2^31 in all, as in
`C01_receiver_prefix`). Take ANY op list — packets bundling, in any order, any number of times, with any loss, DATA fragments
of the universe and FORWARD-TSN chunks (any stream lists), interleaved with reads of any size on any stream object, `accept`,
`open`, `gather`, clock ticks, state changes — such that
* `GoodChunkS`: the TSN of every DATA chunk names no other fragment of the stream under study (a TSN names one fragment:
  `C01_wire_tsn_stable`), the new cumulative TSN of every FORWARD-TSN is a TSN of the universe;
* `FwdOk`: every FORWARD-TSN the receiver TAKES (not stale, streams creatable) satisfies the honest-sender premise for the
  stream — each entry naming it is the SSN of a message `L` of the stream, and every message up to `L` that is not abandoned
  (`K`) has had ALL its fragments handed to the reassembly queue before (`pushedT`: `handleData` reached
  `pushPayloadDataToStream`) — of the composed system this is `fwdok_of_run` (`Proofs/NetSys/PRLostFwd.lean`), and
  `C07_netsys_skip_all_pushed` is its content in the sender's vocabulary;
* fewer than 2^15 messages on the stream (D15, in its plain form) and no entry limit (`maxEntries = 0`, the default).
Then the successful reads on the stream are `D.map (message ·)` for a STRICTLY INCREASING list `D` of message indices: a
subsequence of the written messages, in write order, each at most once, each with its PPI and whole payload (the duplicate
filter of the receive queue is part of the model: duplicated, reordered, late DATA and stale / repeated FORWARD-TSN change
nothing); and every message that is not abandoned and all of whose fragments were handed over has been read or sits
complete in the queue, where the next reads find it. -/
theorem C07_receiver_skip_then_deliver (U : Receiver.UnivS) (S : Reasm.Sender) (hS : S ∈ U.senders) (hlen : S.msgs.length < 2^15)
    (K : Nat → Bool) (maxBuf : BitVec 32) (il f g : Bool) (am : Int) (ops : List Receiver.Op)
    (hgood : ∀ cs, Receiver.Op.pkt cs ∈ ops → ∀ ch ∈ cs, Receiver.GoodChunkS U S ch)
    (hfw : Receiver.FwdOk S K (Receiver.init maxBuf 0 il f g am U.t) [] ops) :
    ∃ D : List Nat,
      Receiver.delivs S.si (Receiver.init maxBuf 0 il f g am U.t) ops = D.map (fun k => Reasm.Msg.out (S.msg k)) ∧
      D.Pairwise (· < ·) ∧ (∀ k ∈ D, k < S.msgs.length) ∧
      (Receiver.delivs S.si (Receiver.init maxBuf 0 il f g am U.t) ops).Sublist (S.msgs.map Reasm.Msg.out) ∧
      (∀ k, k < S.msgs.length → K k = false →
        (∀ i, i < S.nf k → (S.dataFrag k i).tsn ∈ Receiver.pushedT (Receiver.init maxBuf 0 il f g am U.t) ops) →
        k ∈ D ∨ S.concSet (k, List.range (S.nf k)) ∈
          (Receiver.qOf (Receiver.run (Receiver.init maxBuf 0 il f g am U.t) ops) S.si).ordered) :=
  Receiver.skip_receiver U S hS hlen K maxBuf il f g am ops hgood hfw

/-- **NetSysPR, ordered DATA: reads are a subsequence of the writes, nothing that is not abandoned is lost — PARTIAL: two
premises on the run are hypotheses here.** For the message list of a stream `S` (`S.si = si`) of a universe `U`, and EVERY run
of NetSysPR (any SACKs, any loss / duplication / reordering of DATA and FORWARD-TSN items): the reads `readsOn P si` are a
subsequence of `S.msgs` in write order, each message at most once and intact, containing every message with `K k = false` all
of whose fragments were handed over (read, or complete in the queue). The two premises, both derived from decidable run
predicates in `C07_netsys_nothing_lost`:
* `hgood` — the universe link: every history item a `deliver` hands over decodes to a chunk that is `GoodChunkS U S`
  (for DATA: `toWire P c` is a fragment `S'.dataFrag k i` of the universe whose TSN names no other fragment of `S`). With
  `U` = the run's own writes (`streamOf`, `S.msgs.map out = writesOn`) it is `hgood_of_run` (`Proofs/NetSys/PRLostFwd.lean`,
  from the universe facts of `Proofs/NetSys/PRUniv*.lean`, incl. the TSN injectivity of moved fragments);
* `hfw` — the honest-sender premise for every FORWARD-TSN the receiver takes, in the receiver's vocabulary (`FwdOk` on the
  receiver projection `rcvOps`). `C07_netsys_skip_all_pushed` states its content in the sender's vocabulary (message
  identities, TSNs in `pushed`; `pushed_eq`: `pushed` IS `pushedT` of the projection); the translation of an entry's SSN into
  the index `L` of the universe and of "fragment written before" into `k ≤ L` is `fwdok_of_run`.
Also restricted: fewer than 2^15 messages on the stream in all (instead of a sliding window), `maxEntries = 0`, DATA / FORWARD-TSN
(not I-DATA / I-FORWARD-TSN), kept-complete instead of read-after-drain. -/
theorem C07_netsys_nothing_lost_partial (P : Params) (ops : List Op) (hme : P.maxEntries = 0)
    (U : Receiver.UnivS) (hUt : U.t = P.tsn) (S : Reasm.Sender) (hS : S ∈ U.senders) (hlen : S.msgs.length < 2^15) (K : Nat → Bool)
    (hgood : ∀ o1 is o2, ops = o1 ++ Op.deliver is :: o2 →
      ∀ x ∈ pick (run P (init P) o1).wire is, Receiver.GoodChunkS U S (inChunk P x.1 x.2))
    (hfw : Receiver.FwdOk S K (init P).rcv [] (rcvOps P (init P) ops)) :
    ∃ D : List Nat,
      readsOn P S.si (init P) ops = D.map (fun k => Reasm.Msg.out (S.msg k)) ∧
      D.Pairwise (· < ·) ∧ (∀ k ∈ D, k < S.msgs.length) ∧
      (readsOn P S.si (init P) ops).Sublist (S.msgs.map Reasm.Msg.out) ∧
      (∀ k, k < S.msgs.length → K k = false →
        (∀ i, i < S.nf k → (S.dataFrag k i).tsn ∈ pushed P (init P) ops) →
        k ∈ D ∨ S.concSet (k, List.range (S.nf k)) ∈ (Receiver.qOf (run P (init P) ops).rcv S.si).ordered) := by
  have hinit : (init P).rcv = Receiver.init P.maxBuf 0 P.cfg.useInterleaving P.useFwd P.useIFwd P.ackMode U.t := by
    rw [hUt, ← hme]; rfl
  rw [hinit] at hfw
  have hg : ∀ cs, Receiver.Op.pkt cs ∈ rcvOps P (init P) ops → ∀ ch ∈ cs, Receiver.GoodChunkS U S ch := by
    intro cs hcs ch hch
    obtain ⟨o1, is, o2, e, rfl⟩ := rcvOps_pkt P (init P) ops cs hcs
    simp only [packetOf, List.mem_map] at hch
    obtain ⟨x, hx, rfl⟩ := hch
    exact hgood o1 is o2 e x hx
  obtain ⟨D, d1, d2, d3, d4, d5⟩ := Receiver.skip_receiver U S hS hlen K P.maxBuf P.cfg.useInterleaving P.useFwd P.useIFwd P.ackMode
    (rcvOps P (init P) ops) hg hfw
  rw [← hinit] at d1 d4 d5
  refine ⟨D, by rw [reads_eq]; exact d1, d2, d3, by rw [reads_eq]; exact d4, ?_⟩
  intro k hk hK hall
  rw [run_rcv]
  exact d5 k hk hK (fun i hi => by rw [← pushed_eq]; exact hall i hi)

/-! ## tests by evaluation and non-vacuity (`decide` on concrete runs — these are tests, not theorems) -/

private def bytes (m : Nat) : List UInt8 :=
  match m with
  | 0 => [1, 2, 3]
  | 1 => [7]
  | 2 => [9, 8]
  | _ => []

/-- stream 2 allows NO retransmission (rexmit 0), stream 1 is reliable; both ordered. Initial TSN 2^32 − 2: the TSNs wrap.
Message 0 (stream 2, the FIRST message of its stream, 2 fragments: TSN 2^32−2, 2^32−1), message 1 (stream 1: TSN 0), message 2
(stream 2: TSN 1) are sent in one gather, interleaved in the TSN space; the messages of stream 2 are abandoned at once. The network loses
the first fragment of message 0: the receiver gets its SECOND fragment (partially received abandoned message) and message 1. A
sound SACK (cumulative point unmoved, gap blocks for what arrived) makes the sender advance over message 0 only — it stops at
the reliable message 1 although that one is gap-acked — and the next gather emits FORWARD-TSN(2^32−1, [(2, 0)]). The receiver takes
it, purges the fragment, delivers message 1; message 2 arrives late and is delivered (SSN 1 after the skip of SSN 0); a late
duplicate of the FORWARD-TSN and a late copy of the lost fragment change nothing. -/
private def PX : Params := { cfg := { mtu := 1200, maxPayload := 2 }, tsn := 4294967294#32, pay := bytes }
private def opsX : List Op :=
  [.snd (.openS 1 false 0 0 0), .snd (.openS 2 false 1 0 0), .write 2 60, .write 1 61, .write 2 62,
   .snd (.gather Sender.freeOracle [0, 0, 0, 0]),
   .deliver [(1, false), (2, false)],
   .snd (.sack 4294967293#32 65536 [(2, 3)] []),
   .snd (.gather Sender.freeOracle []),
   .deliver [(4, false)], .rcv (.read (1, 0) 100),
   .deliver [(3, false)], .rcv (.read (2, 0) 100),
   .deliver [(4, false), (0, false)], .rcv (.read (2, 0) 100), .rcv (.read (1, 0) 100)]

/-- What the tests below ask of the run `opsX`. -/
private structure EvalX : Prop where
  wire : (run PX (init PX) opsX).wire.map (fun it => match it with
      | .data c => (c.tsn, c.si, c.msg)
      | .fwd f => (fwdCum f, 0#16, 99)) =
    [(4294967294#32, 2#16, 0), (4294967295#32, 2#16, 0), (0#32, 1#16, 1), (1#32, 2#16, 2), (4294967295#32, 0#16, 99)] ∧
    (run PX (init PX) opsX).wire[4]? = some (Item.fwd (.fwd 4294967295#32 [(2, 0)]))
  reads : readsOn PX 1 (init PX) opsX = [(61, [7])] ∧ readsOn PX 2 (init PX) opsX = [(62, [9, 8])] ∧
    (run PX (init PX) opsX).rcv.pq.cum = 1#32 ∧ Receiver.heldRegistered (run PX (init PX) opsX).rcv = 0
  sound : SackSound PX (init PX) opsX = true
  infl : InflightOk PX (init PX) opsX = true
  small : (moved PX (init PX) opsX).length < 2^31
  fwdSent : Item.fwd (.fwd 4294967295#32 [(2, 0)]) ∈ (run PX (init PX) opsX).wire
  tsnFifo : TsnFifo (moved PX (init PX) opsX) (written (init PX).snd (NetSys.sndOps PX (init PX).snd opsX)) = true
  pushed : pushed PX (init PX) opsX = [4294967295#32, 0#32, 1#32]

-- NetSysPR: the run `opsX` above (stream 2 rexmit 0: message 0 = two fragments, TSN 2^32−2, 2^32−1, and message 2, TSN 1, both abandoned;
-- stream 1 reliable: message 1, TSN 0). Universe: the two streams with the fragments `packetize` cut (payload limit 2) at the TSN
-- offsets the run assigned.
private def S2 : Reasm.Sender :=
  { si := 2, t0 := 4294967294#32, msgs := [{ ppi := 60, frags := [[1, 2], [3]] }, { ppi := 62, frags := [[9, 8]] }],
    skip := fun k => if k == 1 then 1 else 0 }
private def S1 : Reasm.Sender :=
  { si := 1, t0 := 4294967294#32, msgs := [{ ppi := 61, frags := [[7]] }], skip := fun _ => 2 }
private def UX : Receiver.UnivS :=
  { t := 4294967294#32, N := 4, hN := by decide +kernel, senders := [S2, S1],
    wf := by intro S hS; simp at hS; rcases hS with rfl | rfl <;> (unfold Reasm.Sender.WF; decide +kernel),
    t0 := by intro S hS; simp at hS; rcases hS with rfl | rfl <;> rfl,
    idx := by
      intro S hS k i hk hi
      simp at hS
      rcases hS with rfl | rfl
      · have h : ∀ k, k < S2.msgs.length → ∀ i, i < S2.nf k → S2.base k + i < 4 := by decide +kernel
        exact h k hk i hi
      · have h : ∀ k, k < S1.msgs.length → ∀ i, i < S1.nf k → S1.base k + i < 4 := by decide +kernel
        exact h k hk i hi,
    si := by
      intro S hS S' hS' h
      simp at hS hS'
      rcases hS with rfl | rfl <;> rcases hS' with rfl | rfl
      · rfl
      · exact absurd h (by decide +kernel)
      · exact absurd h (by decide +kernel)
      · rfl }
/-- What the tests further down ask of the run `opsX` read against the universe `UX`. -/
private structure EvalXU : Prop where
  good2 : goodRunD PX UX S2 (init PX) opsX = true
  good1 : goodRunD PX UX S1 (init PX) opsX = true
  fwd2 : Receiver.fwdOkR S2 (fun _ => true) (init PX).rcv [] (rcvOps PX (init PX) opsX) = true
  fwd1 : Receiver.fwdOkR S1 (fun _ => false) (init PX).rcv [] (rcvOps PX (init PX) opsX) = true
  univ : S2.msgs.map Reasm.Msg.out = writesOn PX 2 (init PX) opsX ∧ S1.msgs.map Reasm.Msg.out = writesOn PX 1 (init PX) opsX ∧
    readsOn PX 2 (init PX) opsX = [1].map (fun k => Reasm.Msg.out (S2.msg k)) ∧
    readsOn PX 1 (init PX) opsX = [0].map (fun k => Reasm.Msg.out (S1.msg k))
  ord : NetSys.OrdOnly opsX = true ∧ NetSys.SelContig PX opsX = true ∧ NetSys.chunksWritten PX opsX < 2^31 ∧
    (writesOn PX 2 (init PX) opsX).length < 2^15 ∧ (writesOn PX 1 (init PX) opsX).length < 2^15 ∧
    FifoU PX opsX 2 = true ∧ FifoU PX opsX 1 = true
  kOf : KOf PX opsX 2 0 = true ∧ KOf PX opsX 2 1 = true ∧ KOf PX opsX 1 0 = false
  selFifo : NetSys.SelFifo opsX = true

private instance : Decidable EvalX :=
  decidable_of_iff (_ ∧ _ ∧ _ ∧ _ ∧ _ ∧ _ ∧ _ ∧ _)
    ⟨fun ⟨h1, h2, h3, h4, h5, h6, h7, h8⟩ => ⟨h1, h2, h3, h4, h5, h6, h7, h8⟩,
     fun ⟨h1, h2, h3, h4, h5, h6, h7, h8⟩ => ⟨h1, h2, h3, h4, h5, h6, h7, h8⟩⟩

private instance : Decidable EvalXU :=
  decidable_of_iff (_ ∧ _ ∧ _ ∧ _ ∧ _ ∧ _ ∧ _ ∧ _)
    ⟨fun ⟨h1, h2, h3, h4, h5, h6, h7, h8⟩ => ⟨h1, h2, h3, h4, h5, h6, h7, h8⟩,
     fun ⟨h1, h2, h3, h4, h5, h6, h7, h8⟩ => ⟨h1, h2, h3, h4, h5, h6, h7, h8⟩⟩

/-- Both groups in ONE declaration: the kernel keeps what it has evaluated only within the declaration it is checking, and nearly
all of the work is the receiver half of the run, so the run is evaluated once for the two of them. Each group has a `Decidable`
instance of its own because instance synthesis for a single conjunction of all the leaves exceeds its default size. -/
private theorem evalXAll : EvalX ∧ EvalXU := by decide +kernel

private theorem evalX : EvalX := evalXAll.1
private theorem evalXU : EvalXU := evalXAll.2

-- test: what went on the wire: four DATA chunks (TSN, stream, message), then the FORWARD-TSN naming (stream 2, SSN 0) up to TSN 2^32 − 1
set_option maxRecDepth 1000000 in
example : (run PX (init PX) opsX).wire.map (fun it => match it with
      | .data c => (c.tsn, c.si, c.msg)
      | .fwd f => (fwdCum f, 0#16, 99)) =
    [(4294967294#32, 2#16, 0), (4294967295#32, 2#16, 0), (0#32, 1#16, 1), (1#32, 2#16, 2), (4294967295#32, 0#16, 99)] ∧
    (run PX (init PX) opsX).wire[4]? = some (Item.fwd (.fwd 4294967295#32 [(2, 0)])) := evalX.wire

-- test: the reliable message and the later message of the rexmit-0 stream are delivered, the abandoned one is not; nothing is held
set_option maxRecDepth 1000000 in
example : readsOn PX 1 (init PX) opsX = [(61, [7])] ∧ readsOn PX 2 (init PX) opsX = [(62, [9, 8])] ∧
    (run PX (init PX) opsX).rcv.pq.cum = 1#32 ∧ Receiver.heldRegistered (run PX (init PX) opsX).rcv = 0 := evalX.reads

-- non-vacuity: the hypotheses of `C07_netsys_skip_is_safe` / `C07_netsys_skip_all_pushed`, each decided on the run: `RunOk`,
-- the FORWARD-TSN is in the history, the TSN assignment is FIFO
private theorem okX : RunOk PX opsX := ⟨by unfold CfgOk; decide +kernel, rfl, evalX.sound, evalX.infl, evalX.small⟩
set_option maxRecDepth 1000000 in
example : Item.fwd (.fwd 4294967295#32 [(2, 0)]) ∈ (run PX (init PX) opsX).wire := evalX.fwdSent
set_option maxRecDepth 1000000 in
example : TsnFifo (moved PX (init PX) opsX) (written (init PX).snd (NetSys.sndOps PX (init PX).snd opsX)) = true := evalX.tsnFifo
-- test: the ghost `pushed` — TSN 2^32−1 (the partially received fragment), 0, 1, and the late copy of 2^32−2 is NOT pushed (below the point)
set_option maxRecDepth 1000000 in
example : pushed PX (init PX) opsX = [4294967295#32, 0#32, 1#32] := evalX.pushed

/-- the universe of a NetSysPR run: per stream the messages the application wrote on it, cut as `packetize` cuts them, at the
TSN offsets the run assigned (`senderD` of `Proofs/NetSys/UnivD.lean`) -/
def streamOf (P : Params) (ops : List Op) (si : BitVec 16) : Reasm.Sender :=
  NetSys.senderD P (accepted (init P).snd (NetSys.sndOps P (init P).snd ops)) (SenderTsn.moved (init P).snd (NetSys.sndOps P (init P).snd ops)) si

/-- **NetSysPR, ordered DATA — the universe link DERIVED; one stated premise left (`hfw`).** For every run of NetSysPR over
ordered streams of ANY reliability policy (`OrdOnly`: no unordered stream, no stream reset), DATA / FORWARD-TSN
(no interleaving), with `RunOk`, a message-contiguous per-stream FIFO selection (`SelContig`, what C17 proves of the pending
queue), fewer than 2^31 chunks written, no entry limit, fewer than 2^15 messages written on the stream: IF every FORWARD-TSN
the receiver takes satisfies the honest-sender premise in the receiver's vocabulary (`hfw`: `FwdOk` on the receiver
projection, `K` = any labelling) THEN the reads on the stream are `D.map message` for a strictly increasing `D` — a
subsequence of `writesOn P si`, the application's own writes — and every message with `K k = false` all of whose fragments
were handed over has been read or sits complete in the queue. The universe (`streamOf`: the run's writes, `S.msgs.map out =
writesOn`), `GoodChunkS` for every delivered item and the TSN injectivity of moved fragments are derived
(`Proofs/NetSys/PRUniv*.lean`, `PRLostFwd.lean`). -/
theorem C07_netsys_nothing_lost_fwdok_partial (P : Params) (ops : List Op) (si : BitVec 16) (K : Nat → Bool)
    (hil : P.cfg.useInterleaving = false) (hifw : P.cfg.useIForwardTSN = false) (hme : P.maxEntries = 0)
    (hok : RunOk P ops) (hord : NetSys.OrdOnly ops = true) (hsel : NetSys.SelContig P ops = true)
    (hN : NetSys.chunksWritten P ops < 2^31) (hlen : (writesOn P si (init P) ops).length < 2^15)
    (hfw : Receiver.FwdOk (streamOf P ops si) K (init P).rcv [] (rcvOps P (init P) ops)) :
    (streamOf P ops si).msgs.map Reasm.Msg.out = writesOn P si (init P) ops ∧
    ∃ D : List Nat,
      readsOn P si (init P) ops = D.map (fun k => Reasm.Msg.out ((streamOf P ops si).msg k)) ∧
      D.Pairwise (· < ·) ∧ (∀ k ∈ D, k < (writesOn P si (init P) ops).length) ∧
      (readsOn P si (init P) ops).Sublist (writesOn P si (init P) ops) ∧
      (∀ k, k < (writesOn P si (init P) ops).length → K k = false →
        (∀ i, i < (streamOf P ops si).nf k → ((streamOf P ops si).dataFrag k i).tsn ∈ pushed P (init P) ops) →
        k ∈ D ∨ (streamOf P ops si).concSet (k, List.range ((streamOf P ops si).nf k)) ∈
          (Receiver.qOf (run P (init P) ops).rcv si).ordered) := by
  have hu := NetSys.ufacts P ops hil hord hsel hN
  have hw := univ_writes hu si
  have hl : (streamOf P ops si).msgs.length = (writesOn P si (init P) ops).length := univ_msgs_length hu si
  obtain ⟨D, d1, d2, d3, d4, d5⟩ := C07_netsys_nothing_lost_partial P ops hme (univOf hu si) rfl (streamOf P ops si)
    (univOf_mem hu si) (by rw [hl]; exact hlen) K (hgood_of_run P ops hifw hok hu si) hfw
  refine ⟨hw, D, d1, d2, fun k hk => by rw [← hl]; exact d3 k hk, by rw [← hw]; exact d4, fun k hk => d5 k (by rw [hl]; exact hk)⟩

/-- ✱ **NetSysPR, ordered DATA: nothing that is not abandoned is lost — premises are decidable RUN predicates only.**
For every run of NetSysPR (sender + history network carrying DATA and FORWARD-TSN with loss, duplication, reordering, late
copies + receiver; arbitrary gap blocks, a_rwnd, RACK marks, T3, burst budgets) such that
* `RunOk`: MTU < 2^30, PR negotiated, SOUND SACKs (`SackSound`), < 2^31 chunks in flight / TSNs assigned;
* `OrdOnly`: every stream ordered, ANY reliability policy, no stream reset (no `unreg`);
* DATA / FORWARD-TSN (no interleaving, no I-FORWARD-TSN), no entry limit, < 2^31 chunks written;
* `SelContig` (message-contiguous per-stream FIFO selection: `C17_contiguous`, `C17_fragment_order`) and `FifoU` (the same FIFO
  read off the TSN offsets of the universe: a chunk of the stream with SSN `L` gets its TSN after every fragment of the stream's
  messages below `L`) — `FifoU` is implied by FIFO selection but is taken as a (decidable) premise, not derived from `SelContig`;
* fewer than 2^15 messages written on the stream (D15 in its plain form):
on the stream `si`, with `K k` = "message `k` of the stream is abandoned by the sender at the end of the run" (`KOf`), the reads
are `D.map message` for a STRICTLY INCREASING `D`: a subsequence of `writesOn P si` — the application's own writes, in write
order, each at most once, whole — and every message that is NOT abandoned and all of whose fragments were handed to the
reassembly queue has been read or sits complete in the queue where the next reads find it. Both premises of
`C07_netsys_nothing_lost_partial` are derived: the universe link (`hgood_of_run`) and the honest-sender premise of every
FORWARD-TSN the receiver takes (`fwdok_of_run`, from the composed invariant behind `C07_netsys_skip_is_safe`, `moved_ident`,
`C07_abandonment_monotone`, `pushed_eq`). -/
theorem C07_netsys_nothing_lost (P : Params) (ops : List Op) (si : BitVec 16)
    (hil : P.cfg.useInterleaving = false) (hifw : P.cfg.useIForwardTSN = false) (hme : P.maxEntries = 0)
    (hok : RunOk P ops) (hord : NetSys.OrdOnly ops = true) (hsel : NetSys.SelContig P ops = true)
    (hN : NetSys.chunksWritten P ops < 2^31) (hlen : (writesOn P si (init P) ops).length < 2^15)
    (hfifo : FifoU P ops si = true) :
    (streamOf P ops si).msgs.map Reasm.Msg.out = writesOn P si (init P) ops ∧
    ∃ D : List Nat,
      readsOn P si (init P) ops = D.map (fun k => Reasm.Msg.out ((streamOf P ops si).msg k)) ∧
      D.Pairwise (· < ·) ∧ (∀ k ∈ D, k < (writesOn P si (init P) ops).length) ∧
      (readsOn P si (init P) ops).Sublist (writesOn P si (init P) ops) ∧
      (∀ k, k < (writesOn P si (init P) ops).length → KOf P ops si k = false →
        (∀ i, i < (streamOf P ops si).nf k → ((streamOf P ops si).dataFrag k i).tsn ∈ pushed P (init P) ops) →
        k ∈ D ∨ (streamOf P ops si).concSet (k, List.range ((streamOf P ops si).nf k)) ∈
          (Receiver.qOf (run P (init P) ops).rcv si).ordered) := by
  have hu := NetSys.ufacts P ops hil hord hsel hN
  have hl : (streamOf P ops si).msgs.length = (writesOn P si (init P) ops).length := univ_msgs_length hu si
  exact C07_netsys_nothing_lost_fwdok_partial P ops si (KOf P ops si) hil hifw hme hok hord hsel hN hlen
    (fwdok_of_run P ops hok hu si (by rw [← hl] at hlen; exact hlen) hfifo)

/-- ✱ **`C07_netsys_nothing_lost` with FIFO selection.** The statement of `C07_netsys_nothing_lost` with the two selection
premises `SelContig` and `FifoU` replaced by `SelFifo` — every gather of the run takes the OLDEST pending chunk, every time —,
which is what `messagePendingQueuePolicy` does when only ordered chunks are queued (`C17.C17_ordered_only_fifo`; with partially
reliable ORDERED-only traffic the pending queue still holds ordered chunks only). Both are derived
(`Proofs/NetSys/PRFifo.lean`): `C01_fifo_tsn_order` — written = moved ++ pending as fragment identities, any policy — makes
the moves a prefix of the fragments listed message after message, hence message-contiguous, per-stream FIFO, and every fragment
of an earlier message of the stream sits at a smaller TSN offset. -/
theorem C07_netsys_nothing_lost_fifo (P : Params) (ops : List Op) (si : BitVec 16)
    (hil : P.cfg.useInterleaving = false) (hifw : P.cfg.useIForwardTSN = false) (hme : P.maxEntries = 0)
    (hok : RunOk P ops) (hord : NetSys.OrdOnly ops = true) (hsel : NetSys.SelFifo ops = true)
    (hN : NetSys.chunksWritten P ops < 2^31) (hlen : (writesOn P si (init P) ops).length < 2^15) :
    (streamOf P ops si).msgs.map Reasm.Msg.out = writesOn P si (init P) ops ∧
    ∃ D : List Nat,
      readsOn P si (init P) ops = D.map (fun k => Reasm.Msg.out ((streamOf P ops si).msg k)) ∧
      D.Pairwise (· < ·) ∧ (∀ k ∈ D, k < (writesOn P si (init P) ops).length) ∧
      (readsOn P si (init P) ops).Sublist (writesOn P si (init P) ops) ∧
      (∀ k, k < (writesOn P si (init P) ops).length → KOf P ops si k = false →
        (∀ i, i < (streamOf P ops si).nf k → ((streamOf P ops si).dataFrag k i).tsn ∈ pushed P (init P) ops) →
        k ∈ D ∨ (streamOf P ops si).concSet (k, List.range ((streamOf P ops si).nf k)) ∈
          (Receiver.qOf (run P (init P) ops).rcv si).ordered) :=
  C07_netsys_nothing_lost P ops si hil hifw hme hok hord (NetSys.selFifo_selContig_ord P ops hsel hord) hN hlen
    (NetSys.fifoU_of_selFifo P ops si hil hsel hord hN)

/-! ### non-vacuity of `C07_receiver_skip_then_deliver`, `C07_netsys_nothing_lost_partial`, `C07_netsys_nothing_lost` and
`C07_netsys_nothing_lost_fifo`: concrete runs that MEET ALL their hypotheses

The premises `GoodChunkS` / `FwdOk` (incl. `EntOk`) / `hgood` quantify over decompositions of the run; they are exhibited through
their executable forms `goodOpsD` / `fwdOkR` / `goodRunD` (`Proofs/Receiver/PrefixSkipDec.lean`, `Proofs/NetSys/PRLost.lean`,
each with a soundness lemma), evaluated by `decide` on the concrete run. -/

-- receive half: stream 3, TSNs from 100: message 0 (TSN 100) ABANDONED, the first of the stream, nothing of it ever arrives;
-- message 1 (101) reliable; message 2 (102, 103) ABANDONED, partially received (second fragment only); message 3 (104, 105) reliable.
private def SN : Reasm.Sender :=
  { si := 3, t0 := 100, msgs := [{ ppi := 60, frags := [[1]] }, { ppi := 61, frags := [[2]] },
                                 { ppi := 62, frags := [[3], [4]] }, { ppi := 63, frags := [[5], [6]] }] }
private def KN : Nat → Bool := fun k => k == 0 || k == 2
private def UN : Receiver.UnivS :=
  { t := 100, N := 10, hN := by decide +kernel, senders := [SN],
    wf := by intro S hS; simp at hS; subst hS; unfold Reasm.Sender.WF; decide +kernel,
    t0 := by intro S hS; simp at hS; subst hS; rfl,
    idx := by
      intro S hS k i hk hi
      simp at hS; subst hS
      have h : ∀ k, k < SN.msgs.length → ∀ i, i < SN.nf k → SN.base k + i < 10 := by decide +kernel
      exact h k hk i hi,
    si := by intro S hS S' hS' _; simp at hS hS'; rw [hS, hS'] }
-- the FORWARD-TSN naming (3, SSN 0) arrives BEFORE any DATA of the stream (the stream does not exist yet); message 1; the second
-- fragment of the abandoned message 2; the last fragment of message 3 with a duplicate; the FORWARD-TSN naming (3, SSN 2) — taken:
-- message 1, the only non-abandoned message at or below it, was handed over before —; both FORWARD-TSNs again (stale); the first
-- fragment of message 3; reads.
private def opsN : List Receiver.Op :=
  [.pkt [.fwd 100 [(3, 0)]], .pkt [.data (SN.dataFrag 1 0) false], .pkt [.data (SN.dataFrag 2 1) false],
   .pkt [.data (SN.dataFrag 3 1) false, .data (SN.dataFrag 3 1) false], .pkt [.fwd 103 [(3, 2)]],
   .pkt [.fwd 103 [(3, 2)], .fwd 100 [(3, 0)]], .pkt [.data (SN.dataFrag 3 0) false],
   .read (3, 0) 100, .read (3, 0) 100, .read (3, 0) 100]
/-- What the tests below ask of the run `opsN` of the receive half, decided together. -/
private structure EvalN : Prop where
  good : Receiver.goodOpsD UN SN opsN = true
  fwd : Receiver.fwdOkR SN KN (Receiver.init 65536 0 false true false 0 UN.t) [] opsN = true
  delivs : Receiver.delivs SN.si (Receiver.init 65536 0 false true false 0 UN.t) opsN = [1, 3].map (fun k => Reasm.Msg.out (SN.msg k)) ∧
    [1, 3].map (fun k => Reasm.Msg.out (SN.msg k)) = [(61, [2]), (63, [5, 6])] ∧
    Receiver.pushedT (Receiver.init 65536 0 false true false 0 UN.t) opsN = [101#32, 103#32, 105#32, 104#32]

private theorem evalN : EvalN := by
  refine (fun ⟨h1, h2, h3⟩ => ⟨h1, h2, h3⟩ : _ ∧ _ ∧ _ → EvalN) ?_
  decide +kernel

private theorem goodN : Receiver.goodOpsD UN SN opsN = true := evalN.good
private theorem fwdN : Receiver.fwdOkR SN KN (Receiver.init 65536 0 false true false 0 UN.t) [] opsN = true := evalN.fwd
-- all hypotheses hold (universe membership, < 2^15 messages, maxEntries = 0 is the literal 0, GoodChunkS, FwdOk incl. EntOk) …
example : ∃ D : List Nat,
    Receiver.delivs SN.si (Receiver.init 65536 0 false true false 0 UN.t) opsN = D.map (fun k => Reasm.Msg.out (SN.msg k)) ∧
    D.Pairwise (· < ·) ∧ (∀ k ∈ D, k < SN.msgs.length) ∧
    (Receiver.delivs SN.si (Receiver.init 65536 0 false true false 0 UN.t) opsN).Sublist (SN.msgs.map Reasm.Msg.out) ∧
    (∀ k, k < SN.msgs.length → KN k = false →
      (∀ i, i < SN.nf k → (SN.dataFrag k i).tsn ∈ Receiver.pushedT (Receiver.init 65536 0 false true false 0 UN.t) opsN) →
      k ∈ D ∨ SN.concSet (k, List.range (SN.nf k)) ∈
        (Receiver.qOf (Receiver.run (Receiver.init 65536 0 false true false 0 UN.t) opsN) SN.si).ordered) :=
  C07_receiver_skip_then_deliver UN SN (by simp [UN]) (by decide +kernel) KN 65536 false true false 0 opsN
    (Receiver.goodOpsD.sound (by simp [UN]) goodN) (Receiver.fwdOkR.sound _ _ _ fwdN)
-- … and the `D` of the conclusion is [1, 3]: the two reliable messages, whole, in order; the abandoned ones are not delivered; the
-- FORWARD-TSN that came first and the stale copies changed nothing else; what was handed over: TSN 101, 103, 105, 104
set_option maxRecDepth 1000000 in
example : Receiver.delivs SN.si (Receiver.init 65536 0 false true false 0 UN.t) opsN = [1, 3].map (fun k => Reasm.Msg.out (SN.msg k)) ∧
    [1, 3].map (fun k => Reasm.Msg.out (SN.msg k)) = [(61, [2]), (63, [5, 6])] ∧
    Receiver.pushedT (Receiver.init 65536 0 false true false 0 UN.t) opsN = [101#32, 103#32, 105#32, 104#32] := evalN.delivs

-- the run `opsX` read against its universe `UX` (both above)
private theorem goodX2 : goodRunD PX UX S2 (init PX) opsX = true := evalXU.good2
private theorem goodX1 : goodRunD PX UX S1 (init PX) opsX = true := evalXU.good1
private theorem fwdX2 : Receiver.fwdOkR S2 (fun _ => true) (init PX).rcv [] (rcvOps PX (init PX) opsX) = true := evalXU.fwd2
private theorem fwdX1 : Receiver.fwdOkR S1 (fun _ => false) (init PX).rcv [] (rcvOps PX (init PX) opsX) = true := evalXU.fwd1
-- the rexmit-0 stream 2 (every message abandoned: `K ≡ true`): all premises hold; its reads are a subsequence of its writes
example : ∃ D : List Nat, readsOn PX S2.si (init PX) opsX = D.map (fun k => Reasm.Msg.out (S2.msg k)) ∧ D.Pairwise (· < ·) ∧
    (∀ k ∈ D, k < S2.msgs.length) ∧ (readsOn PX S2.si (init PX) opsX).Sublist (S2.msgs.map Reasm.Msg.out) ∧
    (∀ k, k < S2.msgs.length → (fun _ => true) k = false → (∀ i, i < S2.nf k → (S2.dataFrag k i).tsn ∈ pushed PX (init PX) opsX) →
      k ∈ D ∨ S2.concSet (k, List.range (S2.nf k)) ∈ (Receiver.qOf (run PX (init PX) opsX).rcv S2.si).ordered) :=
  C07_netsys_nothing_lost_partial PX opsX rfl UX rfl S2 (by simp [UX]) (by decide +kernel) (fun _ => true)
    (goodRunD.sound (by simp [UX]) opsX (init PX) goodX2) (Receiver.fwdOkR.sound _ _ _ fwdX2)
-- the reliable stream 1 sharing the association (`K ≡ false`): all premises hold; its message was handed over, hence read or kept
example : ∃ D : List Nat, readsOn PX S1.si (init PX) opsX = D.map (fun k => Reasm.Msg.out (S1.msg k)) ∧ D.Pairwise (· < ·) ∧
    (∀ k ∈ D, k < S1.msgs.length) ∧ (readsOn PX S1.si (init PX) opsX).Sublist (S1.msgs.map Reasm.Msg.out) ∧
    (∀ k, k < S1.msgs.length → (fun _ => false) k = false → (∀ i, i < S1.nf k → (S1.dataFrag k i).tsn ∈ pushed PX (init PX) opsX) →
      k ∈ D ∨ S1.concSet (k, List.range (S1.nf k)) ∈ (Receiver.qOf (run PX (init PX) opsX).rcv S1.si).ordered) :=
  C07_netsys_nothing_lost_partial PX opsX rfl UX rfl S1 (by simp [UX]) (by decide +kernel) (fun _ => false)
    (goodRunD.sound (by simp [UX]) opsX (init PX) goodX1) (Receiver.fwdOkR.sound _ _ _ fwdX1)
-- the universe describes the run: its message lists ARE the writes, and the `D`s are [1] (stream 2: the later message; the
-- abandoned first one is skipped) and [0] (stream 1)
set_option maxRecDepth 1000000 in
example : S2.msgs.map Reasm.Msg.out = writesOn PX 2 (init PX) opsX ∧ S1.msgs.map Reasm.Msg.out = writesOn PX 1 (init PX) opsX ∧
    readsOn PX 2 (init PX) opsX = [1].map (fun k => Reasm.Msg.out (S2.msg k)) ∧
    readsOn PX 1 (init PX) opsX = [0].map (fun k => Reasm.Msg.out (S1.msg k)) := evalXU.univ

-- `C07_netsys_nothing_lost` on the run `opsX`: every premise is a decidable predicate of the run and holds
private theorem ordX : NetSys.OrdOnly opsX = true ∧ NetSys.SelContig PX opsX = true ∧ NetSys.chunksWritten PX opsX < 2^31 ∧
    (writesOn PX 2 (init PX) opsX).length < 2^15 ∧ (writesOn PX 1 (init PX) opsX).length < 2^15 ∧
    FifoU PX opsX 2 = true ∧ FifoU PX opsX 1 = true := evalXU.ord
-- stream 2 (rexmit 0; both messages end up abandoned) and the reliable stream 1 (not abandoned: `KOf … 0 = false`)
set_option maxRecDepth 1000000 in
example : KOf PX opsX 2 0 = true ∧ KOf PX opsX 2 1 = true ∧ KOf PX opsX 1 0 = false := evalXU.kOf
example := C07_netsys_nothing_lost PX opsX 2 rfl rfl rfl okX ordX.1 ordX.2.1 ordX.2.2.1 ordX.2.2.2.1 ordX.2.2.2.2.2.1
example := C07_netsys_nothing_lost PX opsX 1 rfl rfl rfl okX ordX.1 ordX.2.1 ordX.2.2.1 ordX.2.2.2.2.1 ordX.2.2.2.2.2.2

-- `C07_netsys_nothing_lost_fifo` on `opsX`: its gathers select the oldest pending chunk (`SelFifo`), all other premises as above
example : NetSys.SelFifo opsX = true := evalXU.selFifo
example := C07_netsys_nothing_lost_fifo PX opsX 2 rfl rfl rfl okX ordX.1 evalXU.selFifo ordX.2.2.1 ordX.2.2.2.1
example := C07_netsys_nothing_lost_fifo PX opsX 1 rfl rfl rfl okX ordX.1 evalXU.selFifo ordX.2.2.1 ordX.2.2.2.2.1

-- test (receive half alone, by evaluation): stream 3, message 0 (one fragment) abandoned and never delivered, message 1 (two
-- fragments) reliable. The FORWARD-TSN naming (3, SSN 0) arrives FIRST (the stream does not exist yet), then the fragments
-- of message 1 in reverse order with a duplicate, then a stale copy of the FORWARD-TSN: message 1 is read, whole, once.
private def SR : Reasm.Sender := { si := 3, t0 := 100, msgs := [{ ppi := 60, frags := [[1]] }, { ppi := 61, frags := [[2], [3]] }] }
private def opsR : List Receiver.Op :=
  [.pkt [.fwd 100 [(3, 0)]], .pkt [.data (SR.dataFrag 1 1) false, .data (SR.dataFrag 1 1) false], .read (3, 0) 100,
   .pkt [.data (SR.dataFrag 1 0) false, .fwd 100 [(3, 0)]], .read (3, 0) 100, .read (3, 0) 100]
set_option maxRecDepth 1000000 in
example : Receiver.delivs 3 (Receiver.init 65536 0 false true false 0 100) opsR = [(61, [2, 3])] ∧
    Receiver.pushedT (Receiver.init 65536 0 false true false 0 100) opsR = [102#32, 101#32] := by decide +kernel

/-- **Soundness of the SACKs is necessary.** Same workload; nothing of the first gather reaches the receiver, yet a SACK
acknowledges TSN 0 cumulatively (NOT sound: the receiver's point is 2^32 − 3). The sender pops message 0 and the RELIABLE message 1,
advances over the abandoned message 2 and emits FORWARD-TSN(1, [(2, 1)]); the receiver takes it and its cumulative point passes
TSN 0 — the reliable message 1, which it never received; the late copy is dropped as a duplicate. -/
private def opsU : List Op :=
  [.snd (.openS 1 false 0 0 0), .snd (.openS 2 false 1 0 0), .write 2 60, .write 1 61, .write 2 62,
   .snd (.gather Sender.freeOracle [0, 0, 0, 0]),
   .snd (.sack 0#32 65536 [] []),
   .snd (.gather Sender.freeOracle []),
   .deliver [(4, false)], .deliver [(2, false)], .rcv (.read (1, 0) 100)]

theorem C07_netsys_unsound_sack_witness :
    SackSound PX (init PX) opsU = false ∧
    Item.fwd (.fwd 1#32 [(2, 1)]) ∈ (run PX (init PX) opsU).wire ∧
    (run PX (init PX) opsU).rcv.pq.cum = 1#32 ∧
    -- the reliable message 1 (TSN 0) is not abandoned, was never handed over, and is never delivered
    ((moved PX (init PX) opsU).filter (fun m => m.tsn == 0#32)).map (fun m => (m.si, (run PX (init PX) opsU).snd.abandoned m)) = [(1#16, false)] ∧
    pushed PX (init PX) opsU = [] ∧ readsOn PX 1 (init PX) opsU = [] := by decide +kernel

end C07
