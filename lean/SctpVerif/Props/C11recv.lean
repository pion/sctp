import SctpVerif.Proofs.Receiver.Credit
import SctpVerif.Proofs.Receiver.Bound
import SctpVerif.Props.C05
/-!
# C11 at association level — the advertised window is buffer minus bytes held; admission is window-bounded

Property theorems only, about the L0 model `Model/Receiver.lean` (tied to association.go / stream.go by
`TestVerifAssocReceiver`: the a_rwnd of every SACK the real association emits and `getMyReceiverWindowCredit()`
after every op are compared with the configured buffer minus the user bytes found by WALKING the real
reassembly structures of every Stream object — including objects already deleted from `a.streams` —, and
`acc=/stored=` of every DATA chunk are judged against the tracking window and the zero-window rule).

`heldRegistered s` = Σ over the streams in the association's table of `Reasm.Q.heldBytes` (Σ len(userData) over
all five containers); `heldAll s` additionally counts the stream objects an inbound reset deleted from the
table while the application still holds them. The credit formula is about `heldRegistered`: that the deleted
objects' unread bytes are NOT counted is deviation D13 (known finding, witness in corpus/C11/known).
-/
namespace C11
open Gen Receiver

/-- ✱ (b) `getMyReceiverWindowCredit()` — the a_rwnd of every SACK — is the configured receive buffer minus the
user bytes held by the registered streams, clamped at 0; in particular it is the full buffer whenever the
registered streams hold nothing. Every per-stream counter it sums is exact (`C11_counter_exact` lifted to
association runs). Hypotheses: the DATA chunks of the op list carry fewer than 2^63 user bytes in total (the
counter is a `uint64` read through `int(…)`), and the sum is below 2^32 (`bytesQueued` is a `uint32`; it follows
from `C11_bytes_bound` under its sizing condition `buffer + 40000·M < 2^32`: `C11_credit_formula_bounded`). -/
theorem C11_credit_formula (maxBuf maxEntries : BitVec 32) (il f g : Bool) (am : Int) (t : BitVec 32) (ops : List Op)
    (hb : (ops.map opBytes).sum < 2^63) :
    let s := run (init maxBuf maxEntries il f g am t) ops
    (∀ x ∈ s.streams ++ s.gone, x.q.getNumBytes = (x.q.heldBytes : Int)) ∧
    (heldRegistered s < 2^32 →
      (credit s).toNat = maxBuf.toNat - heldRegistered s ∧
      (heldRegistered s = 0 → credit s = maxBuf) ∧
      ∀ cum arw gaps dups, Out.sack cum arw gaps dups ∈ (gather s).2.1 → arw.toNat = maxBuf.toNat - heldRegistered s) := by
  intro s
  have hex : Exact s := run_exact maxBuf maxEntries il f g am t ops hb
  have hmb : s.maxBuf = maxBuf := by show (run _ ops).maxBuf = _; rw [run_maxBuf]; rfl
  refine ⟨?_, ?_⟩
  · intro x hx
    rcases List.mem_append.mp hx with hx | hx
    · exact getNumBytes_exact _ (hex.1 x hx)
    · exact getNumBytes_exact _ (hex.2 x hx)
  · intro hsum
    have hc := credit_eq s hex.1 hsum
    rw [hmb] at hc
    refine ⟨hc, ?_, ?_⟩
    · intro h0
      apply BitVec.eq_of_toNat_eq
      rw [hc, h0]; rfl
    · intro cum arw gaps dups hmem
      rw [(sack_mem_gather hmem).2.1, hc]

/-- ✱ (d, first half) nothing beyond the tracking window is ever stored. For every reachable state and every
DATA / I-DATA chunk: the user bytes held by all stream objects grow by at most the chunk's length, and they
grow ONLY IF the chunk's TSN lies in `(cum, cum + maxTSNOffset]` (serially, `maxTSNOffset ≤ 40000`), is not
already held, a stream object is available, and there is credit or the TSN is below the highest TSN received. -/
theorem C11_window_admission (maxBuf maxEntries : BitVec 32) (il f g : Bool) (am : Int) (t : BitVec 32) (ops : List Op)
    (c : Reasm.Chunk) (imm : Bool) :
    let s := run (init maxBuf maxEntries il f g am t) ops
    let s' := handleChunk s (.data c imm)
    heldAll s' ≤ heldAll s + c.len ∧
    (heldAll s < heldAll s' →
      1 ≤ (c.tsn - s.pq.cum).toNat ∧ (c.tsn - s.pq.cum).toNat ≤ s.pq.maxOff.toNat ∧ s.pq.maxOff.toNat ≤ 40000 ∧
      ¬ RecvQ.heldAt s.pq (c.tsn - s.pq.cum).toNat ∧ stores s c = true) := by
  intro s s'
  obtain ⟨hI, hm⟩ := run_pq_inv maxBuf maxEntries il f g am t ops
  have hd := handleData_heldAll s c imm
  have hle : heldAll s' ≤ heldAll s + (if RecvQ.canPush s.pq c.tsn && stores s c then c.len else 0) := by
    show heldAll (handleChunk s (.data c imm)) ≤ _
    simp only [handleChunk]
    split
    · simp only [abortPV, heldAll]; omega
    · exact hd
  constructor
  · split at hle <;> omega
  · intro hlt
    have hcs : (RecvQ.canPush s.pq c.tsn && stores s c) = true := by
      cases hb : (RecvQ.canPush s.pq c.tsn && stores s c) with
      | true => rfl
      | false => rw [hb] at hle; simp at hle; omega
    rw [Bool.and_eq_true] at hcs
    obtain ⟨h1, h2, h3, _⟩ := C05.C05_refines_set_ops hI
    have hp : (RecvQ.push s.pq c.tsn).2 = true := by rw [← h1]; exact hcs.1
    obtain ⟨ha, hnh⟩ := (h2 c.tsn).mp hp
    have := (h3 (by omega) c.tsn).mp ha
    exact ⟨this.1, this.2, hm, hnh, hcs.2⟩

/-- ✱ (d, second half) the zero-window rule: when the advertised credit is zero, a chunk adds to the bytes held
only if the receive queue is non-empty and the chunk's TSN is serially BELOW the highest TSN received — it
fills a gap; a peer that ignores the window cannot make the endpoint store data above what it already has. -/
theorem C11_zero_window_admission (maxBuf maxEntries : BitVec 32) (il f g : Bool) (am : Int) (t : BitVec 32)
    (ops : List Op) (c : Reasm.Chunk) (imm : Bool) :
    let s := run (init maxBuf maxEntries il f g am t) ops
    credit s = 0 → heldAll s < heldAll (handleChunk s (.data c imm)) →
      ∃ last, RecvQ.lastTSN s.pq = some last ∧ sna32LT c.tsn last = true := by
  intro s h0 hlt
  obtain ⟨_, h⟩ := C11_window_admission maxBuf maxEntries il f g am t ops c imm
  obtain ⟨_, _, _, _, hst⟩ := h hlt
  obtain ⟨_, hor⟩ := (stores_iff s c).mp hst
  rcases hor with hc | hl
  · rw [h0] at hc; simp at hc
  · exact hl

/-- ✱ **inbound memory is bounded against a peer that ignores the window.** For ANY op list — any chunks, any
TSNs, duplicates, FORWARD-TSNs, resets, streams never read — whose DATA chunks carry at most `M` user bytes each
(`M ≤ 65519` on the wire), the user bytes held by the streams registered in the association never exceed
`buffer + maxTSNOffset · M`, with `maxTSNOffset ≤ 40000` the tracking window of the receive queue.
Why: with credit left a stored chunk leaves the total below `buffer + M`; at zero credit a chunk is stored only
into an unset slot below the highest TSN received, there are fewer than `maxTSNOffset` such slots, and nothing but
storing above the highest TSN (impossible at zero credit) creates new ones (`RecvQ.unset`).
Side conditions: `buffer + 40000·M < 2^32` (the credit is computed in `uint32`) and fewer than 2^63 user bytes
in total. The bound is about the REGISTERED streams: bytes of streams the peer reset while unread are not
counted by the implementation either (D13), so a peer that resets and re-opens streams can exceed it. -/
theorem C11_bytes_bound (M : Nat) (maxBuf maxEntries : BitVec 32) (il f g : Bool) (am : Int) (t : BitVec 32) (ops : List Op)
    (hM : ∀ cs, Op.pkt cs ∈ ops → ∀ ch ∈ cs, chunkBytes ch ≤ M)
    (hsmall : maxBuf.toNat + 40000 * M < 2^32) (hb : (ops.map opBytes).sum < 2^63) :
    let s := run (init maxBuf maxEntries il f g am t) ops
    heldRegistered s ≤ maxBuf.toNat + s.pq.maxOff.toNat * M ∧ s.pq.maxOff.toNat ≤ 40000 ∧ heldRegistered s < 2^32 := by
  intro s
  have h0 := init_binv M maxBuf maxEntries il f g am t hsmall
  have h := run_binv ops h0 hM (by omega)
  have hmb : s.maxBuf = maxBuf := by show (run _ ops).maxBuf = _; rw [run_maxBuf]; rfl
  have hbd : heldRegistered s ≤ s.maxBuf.toNat + s.pq.maxOff.toNat * M := h.bound
  have hmo : s.pq.maxOff.toNat ≤ 40000 := (run_pq_inv maxBuf maxEntries il f g am t ops).2
  rw [hmb] at hbd
  refine ⟨hbd, hmo, ?_⟩
  have := Nat.mul_le_mul_right M hmo
  omega

/-- the credit formula without the separate no-wrap hypothesis: under the sizing condition of `C11_bytes_bound` the
a_rwnd of every SACK is the buffer minus the user bytes held by the registered streams, in every reachable state. -/
theorem C11_credit_formula_bounded (M : Nat) (maxBuf maxEntries : BitVec 32) (il f g : Bool) (am : Int) (t : BitVec 32)
    (ops : List Op) (hM : ∀ cs, Op.pkt cs ∈ ops → ∀ ch ∈ cs, chunkBytes ch ≤ M)
    (hsmall : maxBuf.toNat + 40000 * M < 2^32) (hb : (ops.map opBytes).sum < 2^63) :
    let s := run (init maxBuf maxEntries il f g am t) ops
    (credit s).toNat = maxBuf.toNat - heldRegistered s ∧
    ∀ cum arw gaps dups, Out.sack cum arw gaps dups ∈ (gather s).2.1 → arw.toNat = maxBuf.toNat - heldRegistered s := by
  intro s
  obtain ⟨_, _, hlt⟩ := C11_bytes_bound M maxBuf maxEntries il f g am t ops hM hsmall hb
  obtain ⟨_, h⟩ := C11_credit_formula maxBuf maxEntries il f g am t ops hb
  obtain ⟨h1, _, h3⟩ := h hlt
  exact ⟨h1, h3⟩

-- non-vacuity (tests, by evaluation): buffer 1500; TSN 12 (1200 bytes) leaves credit 300; TSN 14 (500 bytes) is
-- stored (credit > 0) and exhausts it; TSN 16 is refused at zero credit (not below the highest TSN, 14);
-- TSN 13 is stored at zero credit (fills a gap below 14).
private def dc (t n : Nat) : Reasm.Chunk :=
  { tsn := BitVec.ofNat 32 t, si := 1, ssn := BitVec.ofNat 16 (t - 10), bf := true, ef := true, ppi := 51,
    userData := List.replicate n 7 }
private def z0 : St := run (init 1500 0 false true false 0 10#32) [.data (dc 12 1200), .data (dc 14 500)]
-- the sizing condition `hsmall` of `C11_bytes_bound` holds for chunks of at most 1200 bytes and buffer 1500 (the run of
-- `z0` has two chunks of 1200 and 500 bytes; `hM`, `hb` are not instantiated here)
example : (1500#32).toNat + 40000 * 1200 < 2^32 := by decide +kernel
set_option maxRecDepth 1000000 in
example : credit z0 = 0 ∧ heldAll z0 = 1700 := by decide +kernel
set_option maxRecDepth 1000000 in
example : heldAll (handleChunk z0 (.data (dc 16 10) false)) = 1700 ∧ heldAll (handleChunk z0 (.data (dc 13 10) false)) = 1710 := by
  decide +kernel

end C11
