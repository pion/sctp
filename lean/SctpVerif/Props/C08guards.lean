import SctpVerif.Gen.Facts
import SctpVerif.Gen.Consts
/-!
# C08 — state guards of the code, pinned

`Gen.stateTests` is REGENERATED from /repo on every run by the translator (`go/extract/facts_state.go`): per function,
every comparison of the association state with a state constant, every `case` over state constants and every `setState`
call, in source order. This file pins that list for the shutdown sequence (Shutdown API, SHUTDOWN / SHUTDOWN-ACK / SHUTDOWN-COMPLETE handlers, the writer's state switch, T2 expiry, OpenStream refusal).
The hand-written L0 models mirror exactly these guards; the correspondence harnesses compare behaviour. A change of a guard
in the code breaks this obligation at once (a syntactic tie: a harmless rewrite breaks it too — then the expectation here is
to be updated after checking the models), and the harness jobs of C08 look for a concrete failing input.
-/
namespace C08

theorem C08_state_guards_pinned :
    Gen.stateTests.filter (fun p => ["Association.OpenStream", "Association.Shutdown", "Association.advanceShutdownAfterDataDrain", "Association.close", "Association.finishShutdownHandling", "Association.gatherOutbound", "Association.gatherOutboundPriorityPackets", "Association.handleShutdown", "Association.handleShutdownAck", "Association.handleShutdownComplete", "Association.onShutdownTimeout", "entersShutdownReceived", "isShutdownHandleState"].contains p.1) =
    [("Association.OpenStream", ["case shutdownAckSent,shutdownPending,shutdownReceived,shutdownSent,closed"]),
     ("Association.Shutdown", ["state != established", "setState shutdownPending", "setState shutdownSent"]),
     ("Association.advanceShutdownAfterDataDrain", ["case shutdownPending", "setState shutdownSent", "case shutdownReceived", "setState shutdownAckSent"]),
     ("Association.close", ["setState closed"]),
     ("Association.finishShutdownHandling", ["case established,shutdownPending,shutdownReceived", "setState shutdownReceived", "setState shutdownAckSent"]),
     ("Association.gatherOutbound", ["case established", "case shutdownPending,shutdownReceived", "case shutdownSent", "case shutdownAckSent"]),
     ("Association.gatherOutboundPriorityPackets", ["a.getState() == shutdownAckSent", "a.getState() == shutdownSent"]),
     ("Association.handleShutdown", ["state == shutdownAckSent", "state == shutdownSent", "setState shutdownAckSent", "setState shutdownReceived", "setState state"]),
     ("Association.handleShutdownAck", ["state == shutdownSent", "state == shutdownAckSent"]),
     ("Association.handleShutdownComplete", ["state == shutdownAckSent"]),
     ("Association.onShutdownTimeout", ["case shutdownSent", "case shutdownAckSent"]),
     ("entersShutdownReceived", ["state == established", "state == shutdownPending"]),
     ("isShutdownHandleState", ["case established,shutdownPending,shutdownReceived,shutdownSent"])] := by decide +kernel

/-- **T2-shutdown has no retry limit** (regenerated timer-creation fact): the T2 timer is created with `noMaxRetrans = 0`, and a timer with that budget never reports failure and keeps an expiry on its way while started (`C19_never_gives_up`), so SHUTDOWN / SHUTDOWN-ACK keep being retransmitted until answered. On the `Sd` model `C08_recovers_from_single_losses` proves completion for one loss per chunk; more losses are not a theorem. -/
theorem C08_t2_never_gives_up :
    ("timerT2Shutdown", "noMaxRetrans") ∈ Gen.rtxTimerSites ∧ Gen.noMaxRetrans = 0 := by decide +kernel

end C08
