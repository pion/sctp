import SctpVerif.Proofs.Handshake
import SctpVerif.Proofs.PendQWfqLag
/-!
# C17 — scheduler half: fragment order, contiguity without interleaving, round robin, WFQ, accounting; and the negotiated
# chunk kind on the handshake model (`C17_kind_as_negotiated`, the reason for importing `Proofs/Handshake.lean`)

Property theorems only. They are about the L0 model `PendQ` of pending_queue.go (tied to the Go code
by the correspondence run `TestVerifPendQ`). An *operation list* is any list of
`push c | peek | pop | setil b` (`pop` = what the association does: `c := peek(); if c != nil { pop(c) }`);
`PQ.run` executes it and records `(op, result)`; `pushesOf` / `popsOf` are the chunks pushed /
successfully popped, in order. Theorems without a number type hold for every `Num α`
(in particular for the `Float` instance the driver runs and for `Rat`).
-/
namespace C17
open PendQ

variable {α : Type} [Num α]

/-- `ops` contains only operations the association performs (no raw pop of an arbitrary chunk, no `pop(nil)`). -/
def Proper (ops : List Op) : Prop := ∀ o ∈ ops, o.proper = true

/-- **Fragment order under every policy.** For every scheduler factory, every operation list
(including `setInterleaving` calls at any point) and every stream `s` and ordering class `u`:
the chunks of `(s, u)` pushed so far are exactly the chunks of `(s, u)` popped so far, in the same
order, followed by the chunks of `(s, u)` still queued, in queue order. Hence the pops of one stream
and class come out in push order, each chunk exactly once — in particular the fragments of every
message (same stream, same U flag) are sent in fragment order. -/
theorem C17_fragment_order (f : Factory) (ops : List Op) (hops : Proper ops) (s : Nat) (u : Bool) :
    let r := (PQ.new f : PQ α).run ops
    (pushesOf r.2).filter (key s u) = (popsOf r.2).filter (key s u) ++ r.1.policy.queued s u ∧
    ((popsOf r.2).filter (key s u)) <+: ((pushesOf r.2).filter (key s u)) := by
  have h := inv_run (inv_new f : Inv (PQ.new f : PQ α) [] []) ops hops
  simp only [List.nil_append] at h
  exact ⟨h.fifo s u, ⟨_, (h.fifo s u).symm⟩⟩

/-- **Accounting is exact** for all operation lists: `size()` is the number of chunks the policy
holds, `getNumBytes()` the sum of their payload lengths. (That the `< 0` clamp in `pop` never fires is
shown inside the step lemma `inv_step`; it is not part of this statement.) -/
theorem C17_accounting_exact (f : Factory) (ops : List Op) (hops : Proper ops) :
    let r := (PQ.new f : PQ α).run ops
    r.1.nChunks = r.1.policy.count ∧ r.1.nBytes = r.1.policy.bytes := by
  have h := inv_run (inv_new f : Inv (PQ.new f : PQ α) [] []) ops hops
  exact ⟨h.cnt, h.byt⟩

/-- **The policy is switched only when nothing is queued.** In any reachable state,
`setInterleaving(b)` with chunks queued leaves policy, counters and flag untouched (and, when it
would have to switch, reports `ErrPendingQueueModeChangeNonEmpty`). Together with
`C17_accounting_exact` "nChunks ≠ 0" means "some chunk is really queued". -/
theorem C17_mode_switch_only_empty (q : PQ α) (b : Bool) (hne : q.nChunks ≠ 0) :
    (q.setInterleaving b).1 = q ∧
    (q.interleaving ≠ b → (q.setInterleaving b).2 = some .modeChangeNonEmpty) := by
  unfold PQ.setInterleaving
  by_cases h1 : q.interleaving = b
  · simp [h1]
  · simp [h1, hne]

/-- **Without interleaving a message's fragments stay adjacent.** Take any scheduler factory and any
list of push / peek / pop operations on a fresh queue (no `setInterleaving`: the message policy).
Assume the push list keeps fragments together — every non-final fragment (`e = false`) is immediately
followed, in the push list, by a chunk of the same ordering class, which is what `sendPayloadData`
guarantees by pushing all fragments of a message under one lock hold. Then whenever a non-final
fragment `x` is popped, `x` and the very next chunk popped also occur next to each other in the push
list (`AdjIn`; chunks being told apart by their ids, the next chunk popped is the one pushed right
after `x`), i.e. the next fragment of the same message: pushes of other messages, on other streams or of the
other class, never get in between. Since TSNs are assigned in pop order, the fragments of one
message occupy consecutive TSNs. -/
theorem C17_contiguous (f : Factory) (ops : List Op) (hops : ∀ o ∈ ops, o.basic = true)
    (hkeep : KeepsTogether (pushesOf ((PQ.new f : PQ α).run ops).2)) (x y : Chunk)
    (hadj : AdjIn x y (popsOf ((PQ.new f : PQ α).run ops).2)) (hx : x.e = false) :
    AdjIn x y (pushesOf ((PQ.new f : PQ α).run ops).2) := by
  obtain ⟨m', _, hc⟩ := cinv_run (q := (PQ.new f : PQ α)) (m := {}) rfl MsgPol.cinv_empty ops hops
  simp only [List.nil_append] at hc
  exact adj_of_filter x.unordered _ hkeep (hc.good x y hadj hx) hx rfl

/-- only push / peek / pop (no `setInterleaving`, so the installed scheduler stays) -/
def Basic (ops : List Op) : Prop := ∀ o ∈ ops, o.basic = true

/-- **Round robin serves backlogged streams one chunk each per round.** Start from
`newPendingQueue(rr)`, `setInterleaving(true)`, then any operation list `pre` (any reachable state).
Suppose the next pop serves stream `s` (chunk `c1`), then an arbitrary operation list `mid` runs
without serving `s`, then the next pop serves `s` again (chunk `c2`). If `s` and another stream `t`
have queued data in every state from just after the first service to just before the second, then
`t` was served exactly once in between. -/
theorem C17_rr_round (pre mid : List Op) (hpre : Basic pre) (hmid : Basic mid) (s t : Nat) (hst : t ≠ s)
    (c1 c2 : Chunk) :
    let q1 := ((rrFresh : PQ α).run pre).1
    let e1 := q1.step .pop
    let r2 := e1.1.run mid
    let e2 := r2.1.step .pop
    e1.2 = .popped (some c1) .ok → c1.sid = s → e2.2 = .popped (some c2) .ok → c2.sid = s →
    (∀ c ∈ popsOf r2.2, c.sid ≠ s) →
    PQ.AllStates (fun q => q.backlogged s ∧ q.backlogged t) e1.1 mid →
    ((popsOf r2.2).filter (·.sid == t)).length = 1 := by
  intro q1 e1 r2 e2 h1 hc1 h2 hc2 hnos hall
  obtain ⟨r1, hq1, hwf1, _⟩ := rr_run_inv (fun _ => True) pre (rrFresh : PQ α) {} rrFresh_policy RR.wf_empty hpre
    (fun _ _ => trivial) (fun _ _ => trivial)
  exact rr_round hq1 hwf1 mid hmid s t hst c1 c2 h1 hc1 h2 hc2 hnos hall

/-- **Round robin starves nobody.** In any reachable round-robin state, let chunk `c` sit at depth
`d` of its stream's queue (`d` chunks ahead of it) and let `N` bound the stream identifiers in use
(all pushes, before and after, have `sid < N`, so at most `N` streams take turns). Then whatever is
pushed or peeked meanwhile, `c` has been popped once `(d + 1) · N` pops have been done. -/
theorem C17_rr_no_starvation (N : Nat) (pre ops : List Op) (hpre : Basic pre) (hops : Basic ops)
    (c : Chunk) (s d : Nat) (l1 l2 : List Chunk) :
    let q1 := ((rrFresh : PQ α).run pre).1
    let r := q1.run ops
    (∀ c' ∈ pushesOf ((rrFresh : PQ α).run pre).2, c'.sid < N) → (∀ c' ∈ pushesOf r.2, c'.sid < N) →
    q1.policy.streamQ s = l1 ++ c :: l2 → l1.length = d →
    (d + 1) * N ≤ (popsOf r.2).length → c ∈ popsOf r.2 := by
  intro q1 r hNpre hNops hq hd hmany
  exact rr_no_starvation N pre ops hpre hops hNpre hNops c s d l1 l2 hq hd hmany

/-- **Under the interleaving schedulers every stream is FIFO as a whole** (ordered and unordered
chunks together): with round robin (any number type) or WFQ (rationals), after any basic operation
list the chunks pushed on stream `s` are the chunks of `s` popped so far followed by its queue. -/
theorem C17_stream_fifo_interleaved (ops : List Op) (hops : Basic ops) (s : Nat) :
    (let r := (rrFresh : PQ α).run ops
     (pushesOf r.2).filter (·.sid == s) = (popsOf r.2).filter (·.sid == s) ++ r.1.policy.streamQ s) ∧
    (∀ ws : AMap Nat, let r := (wfqFresh ws).run ops
     (pushesOf r.2).filter (·.sid == s) = (popsOf r.2).filter (·.sid == s) ++ r.1.policy.streamQ s) := by
  constructor
  · have := rr_stream_fifo ops (rrFresh : PQ α) {} [] [] rrFresh_policy RR.wf_empty hops (by simp [RR.sq]) s
    simpa using this
  · intro ws
    have := wfq_stream_fifo ops (wfqFresh ws) _ [] [] (wfqFresh_policy ws) (WFQ.wf_new ws) hops
      (by simp [WFQ.sq, WFQ.new]) s
    simpa using this

/-! ### weighted fair queueing (finish tags over exact rationals)

`wfqFresh ws` is `newPendingQueue` with the WFQ factory for weights `ws` followed by
`setInterleaving(true)`. `w.sq s` is the queue of stream `s` as `(chunk, finish tag)` pairs, `w.fin s`
is `streamFinish[s]`, `w.vtime` the virtual time, `WFQ.wt w s` the weight of `s` (1 if none or 0 is
configured). -/

/-- **WFQ tags are monotone.** After any list of push / peek / pop operations (stale peeks included):
along every stream queue the finish tags are non-decreasing, `streamFinish[s]` is the tag of the
newest chunk of `s` and bounds all its queued tags, the virtual time is non-negative and the start
tag (finish − len/weight) of every head chunk is at most the virtual time. -/
theorem C17_wfq_tags_monotone (ws : AMap Nat) (ops : List Op) (hops : Basic ops) (w : WFQ Rat)
    (hq : ((wfqFresh ws).run ops).1.policy = .wfq w) (s : Nat) :
    (w.sq s).Pairwise (fun x y => x.2 ≤ y.2) ∧ (∀ x ∈ w.sq s, x.2 ≤ w.fin s) ∧
    (∀ l x, w.sq s = l ++ [x] → w.fin s = x.2) ∧ 0 ≤ w.vtime ∧
    (∀ c f tl, w.sq s = (c, f) :: tl → f - (c.len : Rat) / WFQ.wt w s ≤ w.vtime) := by
  have hg := (wfq_fresh_ginv ws ops hops hq).1
  exact ⟨hg.t1 s, hg.t2 s, hg.t2l s, hg.v0, hg.a s⟩

/-- **With atomic peek-pop every queued tag is at least the virtual time.** If no push happens
between a `peek` and the `pop` of the chunk it selected (`PQ.Atomic`), then in every reachable state
all head tags — hence all queued tags — are `≥ vtime`, and inside a backlogged stream the start tag of
each chunk is the finish tag of its predecessor. -/
theorem C17_wfq_heads_ge_V (ws : AMap Nat) (ops : List Op) (hops : Basic ops) (hat : PQ.Atomic (wfqFresh ws) ops)
    (w : WFQ Rat) (hq : ((wfqFresh ws).run ops).1.policy = .wfq w) (s : Nat) :
    (∀ c f tl, w.sq s = (c, f) :: tl → w.vtime ≤ f) ∧
    (∀ l1 c1 f1 c2 f2 l2, w.sq s = l1 ++ (c1, f1) :: (c2, f2) :: l2 → f2 - (c2.len : Rat) / WFQ.wt w s = f1) := by
  have ha := wfq_fresh_ainv ws ops hops hat hq
  exact ⟨ha.b s, ha.ce s⟩

/-- **WFQ serves the least finish tag, ties by stream id.** In any reachable state `w` (any basic
operation list): if the next `pop` hands out chunk `c`, then `c` is the head of its stream's queue
and (i) when no selection is cached its `(finish tag, stream id)` is lexicographically least among all
heads — so Go's random map iteration order cannot show; (ii) when a selection is cached it is the
head of the cached stream. Along atomic operation lists the tag of the served chunk is in both cases
`≤` every head tag. -/
theorem C17_wfq_serves_min (ws : AMap Nat) (ops : List Op) (hops : Basic ops) (w : WFQ Rat)
    (hq : ((wfqFresh ws).run ops).1.policy = .wfq w) (c : Chunk)
    (hpop : (((wfqFresh ws).run ops).1.step .pop).2 = .popped (some c) .ok) :
    ∃ f tl, w.sq c.sid = (c, f) :: tl ∧ (w.sel = false → WFQ.IsMin w c.sid f) ∧
      (w.sel = true → c.sid = w.selStream) ∧
      (PQ.Atomic (wfqFresh ws) ops → ∀ s' c' f' tl', w.sq s' = (c', f') :: tl' → f ≤ f') := by
  obtain ⟨w', _, _, hstep, _⟩ := wfq_step_obs hq (wfq_fresh_ginv ws ops hops hq).2.1 .pop rfl
  rw [evPop_eq_of_popped hpop] at hstep
  rcases hstep.2 with ⟨hpo, _⟩ | ⟨s0, c0, f, tl, hq0, hpo, hcs, hselT, hselF, _⟩
  · simp at hpo
  · simp at hpo; subst hpo; subst hcs
    refine ⟨f, tl, hq0, hselF, hselT, ?_⟩
    exact fun hat => (wfq_fresh_ainv ws ops hops hat hq).served_min hq0 hselT hselF

/-- **WFQ fairness, the statement's bound — holds when peek and pop are atomic.** Build the scheduler
with any weights, run any basic operation list `pre` (reachable state), then any basic operation list
`mid` such that streams `i` and `j` have queued data in every state along `mid`, and such that over
`pre ++ mid` no push happens between a `peek` and the `pop` of the chunk it selected (`PQ.Atomic`).
Let `S_i`, `S_j` be the payload bytes of `i`, `j` popped during `mid`, `w_i`, `w_j` their weights and
`L_i`, `L_j` bounds on the chunk sizes pushed on `i`, `j`. Then
`|S_i/w_i − S_j/w_j| ≤ L_i/w_i + L_j/w_j` — one maximum-size chunk per stream, weight-normalised.

*Partial*: the hypothesis `PQ.Atomic` cannot be dropped — the association does push between a `peek`
that found cwnd full and the later `pop` — see `C17_wfq_stated_bound_fails_with_stale_peek`; what
holds for all operation lists is `C17_wfq_fair_partial`. -/
theorem C17_wfq_fair_atomic_partial (ws : AMap Nat) (pre mid : List Op) (hpre : Basic pre) (hmid : Basic mid)
    (hat : PQ.Atomic (wfqFresh ws) (pre ++ mid)) (i j : Nat) (Li Lj : Nat)
    (hLi : ∀ c ∈ pushesOf ((wfqFresh ws).run (pre ++ mid)).2, c.sid = i → c.len ≤ Li)
    (hLj : ∀ c ∈ pushesOf ((wfqFresh ws).run (pre ++ mid)).2, c.sid = j → c.len ≤ Lj)
    (hall : PQ.AllStates (fun q => q.backlogged i ∧ q.backlogged j) ((wfqFresh ws).run pre).1 mid) :
    let tr := (((wfqFresh ws).run pre).1.run mid).2
    let wi := WFQ.wt (WFQ.new ws : WFQ Rat) i
    let wj := WFQ.wt (WFQ.new ws : WFQ Rat) j
    |(served tr i : Rat) / wi - (served tr j : Rat) / wj| ≤ (Li : Rat) / wi + (Lj : Rat) / wj := by
  intro tr wi wj
  obtain ⟨w1, hq1⟩ := wfq_fresh_policy ws pre hpre
  have ha1 := wfq_fresh_ainv ws pre hpre ((atomic_append _ pre mid).mp hat).1 hq1
  have hb := PQ.AllStates.head hall
  have h := wfq_fair_fresh ws pre mid hpre hmid i j Li Lj hLi hLj hall hq1
  -- along an atomic run no stream is late
  rw [WFQ.lam_eq_zero ha1 ((backlogged_wfq hq1 i).mp hb.1), WFQ.lam_eq_zero ha1 ((backlogged_wfq hq1 j).mp hb.2),
    max_self] at h
  simpa only [add_zero] using h

/-- **WFQ fairness for every operation list — the bound the code really achieves.** As above, but
`pre` and `mid` are arbitrary lists of push / peek / pop: pushes may slip in between a `peek` and the
`pop` of the chunk it selected, as happens whenever `popPendingDataChunksToSend` stops on a full
window. If `D` bounds the weight-normalised size `len/weight` of every chunk pushed (on any stream),
then `|S_i/w_i − S_j/w_j| ≤ L_i/w_i + L_j/w_j + D`: the statement's bound plus one maximum-size chunk of
an arbitrary third stream, normalised by THAT stream's weight.

*Partial*: weaker than the property statement by the term `D`. The term is needed
(`C17_wfq_stated_bound_fails_with_stale_peek`); it is the lateness `WFQ.lam` the two streams carry
into the interval (`wfq_fair_fresh` proves the bound with `max (lam i) (lam j)` in place of `D`),
which is 0 along atomic runs. -/
theorem C17_wfq_fair_partial (ws : AMap Nat) (pre mid : List Op) (hpre : Basic pre) (hmid : Basic mid)
    (i j : Nat) (Li Lj : Nat) (D : Rat)
    (hLi : ∀ c ∈ pushesOf ((wfqFresh ws).run (pre ++ mid)).2, c.sid = i → c.len ≤ Li)
    (hLj : ∀ c ∈ pushesOf ((wfqFresh ws).run (pre ++ mid)).2, c.sid = j → c.len ≤ Lj)
    (hD : ∀ c ∈ pushesOf ((wfqFresh ws).run (pre ++ mid)).2, (c.len : Rat) / WFQ.wt (WFQ.new ws : WFQ Rat) c.sid ≤ D)
    (hall : PQ.AllStates (fun q => q.backlogged i ∧ q.backlogged j) ((wfqFresh ws).run pre).1 mid) :
    let tr := (((wfqFresh ws).run pre).1.run mid).2
    let wi := WFQ.wt (WFQ.new ws : WFQ Rat) i
    let wj := WFQ.wt (WFQ.new ws : WFQ Rat) j
    |(served tr i : Rat) / wi - (served tr j : Rat) / wj| ≤ (Li : Rat) / wi + (Lj : Rat) / wj + D := by
  intro tr wi wj
  have hD' : ∀ c ∈ pushesOf ((wfqFresh ws).run pre).2, (c.len : Rat) / WFQ.wt (WFQ.new ws : WFQ Rat) c.sid ≤ D := by
    intro c hc
    refine hD c ?_
    rw [(run_append (wfqFresh ws) pre mid).2, pushesOf_append]
    exact List.mem_append_left _ hc
  obtain ⟨w1, hq1⟩ := wfq_fresh_policy ws pre hpre
  have hb := PQ.AllStates.head hall
  exact le_trans (wfq_fair_fresh ws pre mid hpre hmid i j Li Lj hLi hLj hall hq1) (add_le_add (le_refl _)
    (max_le (wfq_lam_le_fresh ws pre hpre D hD' hq1 ((backlogged_wfq hq1 i).mp hb.1))
      (wfq_lam_le_fresh ws pre hpre D hD' hq1 ((backlogged_wfq hq1 j).mp hb.2))))

/-! The statement's bound does NOT hold for all operation lists. Witness (three streams; weights
1, 3, 3; all chunks 3 bytes): stream 0 pushes one chunk (tag 3) and `peek` selects it; nothing is
popped (as when cwnd is full). Stream 1 now pushes four chunks: tags 1, 2, 3, 4 — below the selected
tag. The pop serves the stale selection, the virtual time jumps to 3. Stream 2 becomes backlogged
(tag 4). Streams 1 and 2 have equal weights and are both backlogged from here on, yet the next three
pops all serve stream 1: `|S_1/w_1 − S_2/w_2| = 3 > 2 = L/w_1 + L/w_2`. The same run with larger
numbers is `corpus/C17/known/wfq_stale_peek_three_streams.ops`, replayed on the Go code by the check. -/

private def ch (id sid len : Nat) : Chunk := ⟨id, sid, false, true, true, len⟩
private def wW : AMap Nat := [(0, 1), (1, 3), (2, 3)]
private def preW : List Op :=
  [.push (ch 0 0 3), .peek, .push (ch 1 1 3), .push (ch 2 1 3), .push (ch 3 1 3), .push (ch 4 1 3), .pop,
   .push (ch 5 2 3)]
private def midW : List Op := [.pop, .pop, .pop]

theorem C17_wfq_stated_bound_fails_with_stale_peek :
    ∃ (ws : AMap Nat) (pre mid : List Op) (i j Li Lj : Nat), Basic pre ∧ Basic mid ∧
      (∀ c ∈ pushesOf ((wfqFresh ws).run (pre ++ mid)).2, c.sid = i → c.len ≤ Li) ∧
      (∀ c ∈ pushesOf ((wfqFresh ws).run (pre ++ mid)).2, c.sid = j → c.len ≤ Lj) ∧
      PQ.AllStates (fun q => q.backlogged i ∧ q.backlogged j) ((wfqFresh ws).run pre).1 mid ∧
      ¬ (|(served (((wfqFresh ws).run pre).1.run mid).2 i : Rat) / WFQ.wt (WFQ.new ws : WFQ Rat) i -
          (served (((wfqFresh ws).run pre).1.run mid).2 j : Rat) / WFQ.wt (WFQ.new ws : WFQ Rat) j| ≤
        (Li : Rat) / WFQ.wt (WFQ.new ws : WFQ Rat) i + (Lj : Rat) / WFQ.wt (WFQ.new ws : WFQ Rat) j) := by
  refine ⟨wW, preW, midW, 1, 2, 3, 3, ?_⟩
  unfold Basic
  decide +kernel

-- `C17_wfq_fair_atomic_partial` is not vacuous: the same pushes without the stale `peek` are an atomic
-- run in which streams 1 and 2 stay backlogged
private def preA : List Op :=
  [.push (ch 0 0 3), .push (ch 1 1 3), .push (ch 2 1 3), .push (ch 3 1 3), .push (ch 4 1 3), .pop,
   .push (ch 5 2 3), .push (ch 6 2 3)]
example : PQ.Atomic (wfqFresh wW) (preA ++ [.pop, .pop]) := by
  decide +kernel
example : PQ.AllStates (fun q => q.backlogged 1 ∧ q.backlogged 2) ((wfqFresh wW).run preA).1 [.pop, .pop] := by
  decide +kernel

-- `C17_fragment_order`, `C17_accounting_exact`, `C17_mode_switch_only_empty` are not vacuous: a run that fragments, switches
-- mode and interleaves
private def exOps : List Op :=
  [.push ⟨0, 1, false, true, false, 5⟩, .push ⟨1, 1, false, false, true, 3⟩, .pop, .setil true, .pop, .setil true,
   .push ⟨2, 7, true, true, true, 4⟩, .peek, .pop]
example : popsOf ((PQ.new .rr : PQ Rat).run exOps).2 =
      [⟨0, 1, false, true, false, 5⟩, ⟨1, 1, false, false, true, 3⟩, ⟨2, 7, true, true, true, 4⟩] ∧
    ((PQ.new .rr : PQ Rat).run exOps).1.nChunks = 0 ∧ ((PQ.new .rr : PQ Rat).run exOps).1.interleaving = true := by
  decide +kernel


-- test of the conclusion of `C17_contiguous`: two fragmented messages (ordered on stream 1, unordered on stream 2)
-- pushed one after the other, pops in between: the pops come out in push order, neither message is split
private def exMsgOps : List Op :=
  [.push ⟨0, 1, false, true, false, 5⟩, .push ⟨1, 1, false, false, true, 3⟩, .pop,
   .push ⟨2, 2, true, true, false, 4⟩, .push ⟨3, 2, true, false, true, 4⟩, .pop, .pop, .pop]
example : popsOf ((PQ.new .none : PQ Rat).run exMsgOps).2 =
    [⟨0, 1, false, true, false, 5⟩, ⟨1, 1, false, false, true, 3⟩, ⟨2, 2, true, true, false, 4⟩, ⟨3, 2, true, false, true, 4⟩] := by
  decide +kernel

-- `C17_rr_round` is not vacuous: streams 1, 2, 3 backlogged; between two services of stream 1 streams 2 and 3
-- are served once each (`AllStates` is decided for streams 1 and 2; the bound of `C17_rr_no_starvation` is not
-- instantiated here)
private def exRRPre : List Op :=
  [.push ⟨0, 1, false, true, true, 1⟩, .push ⟨1, 1, false, true, true, 1⟩, .push ⟨2, 1, false, true, true, 1⟩,
   .push ⟨3, 2, false, true, true, 1⟩, .push ⟨4, 2, false, true, true, 1⟩,
   .push ⟨6, 3, false, true, true, 1⟩, .push ⟨5, 3, false, true, true, 1⟩, .push ⟨7, 3, false, true, true, 1⟩]
example : popsOf ((((rrFresh : PQ Rat).run exRRPre).1.step .pop).1.run [.pop, .peek, .pop, .pop]).2 =
      [⟨3, 2, false, true, true, 1⟩, ⟨6, 3, false, true, true, 1⟩, ⟨1, 1, false, true, true, 1⟩] ∧
    PQ.AllStates (fun q => q.backlogged 1 ∧ q.backlogged 2) (((rrFresh : PQ Rat).run exRRPre).1.step .pop).1 [.pop, .peek, .pop] := by
  decide +kernel

/-- Negotiation half: in every run of the handshake model (any loss, duplication, reordering, timer expiry,
all option combinations) an established endpoint uses I-DATA / I-FORWARD-TSN framing exactly when BOTH sides
enabled interleaving, and DATA / FORWARD-TSN otherwise — so both ends use the same kind. -/
theorem C17_kind_as_negotiated (ilA zcA ilB zcB : Bool) (ops : List Hs.Op) :
    let s := (Hs.Sys.init ilA zcA ilB zcB).run ops
    (s.a.st = Hs.stEstablished → s.a.uil = (ilA && ilB) ∧ s.a.uifwd = (ilA && ilB) ∧ s.a.ufwd = !(ilA && ilB)) ∧
    (s.b.st = Hs.stEstablished → s.b.uil = (ilA && ilB) ∧ s.b.uifwd = (ilA && ilB) ∧ s.b.ufwd = !(ilA && ilB)) := by
  intro s
  have h := Hs.run_inv ilA zcA ilB zcB ops
  constructor
  · intro he
    have := Hs.established_flags _ _ _ _ _ _ h.a he
    exact ⟨this.1, this.2.1, this.2.2.1⟩
  · intro he
    have := Hs.established_flags _ _ _ _ _ _ h.b he
    rw [Bool.and_comm ilB ilA] at this
    exact ⟨this.1, this.2.1, this.2.2.1⟩

end C17
