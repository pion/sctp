import SctpVerif.Proofs.NetSys.LiveRound
import SctpVerif.Proofs.NetSys.LiveTaken
import SctpVerif.Proofs.NetSys.LiveRoundOk
import SctpVerif.Proofs.NetSys.LiveHonest
import SctpVerif.Proofs.NetSys.LiveNoCap
import SctpVerif.Proofs.NetSys.Data
import SctpVerif.Proofs.NetSys.SelFifo
/-!
# C02 on the composed model — the receiver's own SACKs make the sender-side progress theorems applicable

Property theorems only, about `Model/NetSys.lean` (sender half `Sender`, history network, receiver half `Receiver`; both
L0 models are tied to the code by the direct-drive correspondence runs `as` / `ar`). `Props/C02.lean` proves that the
SENDER drains when it is handed suitable SACKs; there the SACKs are inputs of the schedule. Here they are the RECEIVER
model's: `truthfulSack r` is what `createSelectiveAckChunk` (`Receiver.createSack`) builds in receiver state `r` —
cumulative TSN = `payloadQueue` cumulative point, a_rwnd = `getMyReceiverWindowCredit()`, gap blocks = `getGapAckBlocks`.

**The healed round** (`healedRound P s`, `Proofs/NetSys/LiveDefs.lean`) is an explicit operation list computed from the
state: the receiving application drains the accept backlog; the sender's T3 expires (only if something is in flight); the
sender gathers (free burst budget, FIFO selection as in `Props/C01sel.lean`); every chunk that gather put on the wire is
delivered, one packet per chunk, in wire order; the application accepts the new streams and reads every registered stream
until nothing is readable; the ack-timer interval passes and the receiver gathers; the truthful SACK of the receiver state
is processed by the sender (RACK / PTO marks empty).

What is proved. "Every reachable NetSys state" = the state after every operation list from `init`: arbitrary loss,
duplication, reordering, bundling, ARBITRARY earlier SACKs — truthful or not —, zero-window episodes, any number of T3
expiries, any oracle values; a theorem that restricts the run says so.
* `C02_netsys_truthful_sack_accepted` — the truthful SACK is never rejected by `Sender.validate`: it is processed (`ok`) or
  stale. The receiver acknowledges only TSNs the sender has assigned and not yet released (or already released):
  `NetSysLive.run_qb` — every TSN at or below the receiver's cumulative point or held in its receive queue is among the first
  `tsnsUsed` TSNs — and `NetSysLive.snd_idx` — cumulative ack point + in-flight = `tsnsUsed`.
* `C02_netsys_round_progress_partial` — one healed round never adds to `pending + in flight`, and releases at least one
  chunk if, when the SACK is built, the receiver's cumulative point is ahead of the sender's cumulative ack point
  (`Taken`); then the sender's cumulative ack point IS the receiver's cumulative point afterwards.
* `C02_netsys_drains_partial` — `n ≥ pending + in flight` healed rounds, each of which starts with nothing outstanding or
  is `Taken` (`TakenN`), end with both sender queues empty, `BufferedAmount()` 0 for the association and (C15's D9 premise)
  for every stream.
* `C02_netsys_lowest_on_wire` (sender half of `Taken`, every reachable established state): after the round's "T3 (if
  something is in flight); gather (free budget, FIFO)" the LOWEST outstanding chunk — head of the in-flight queue, TSN =
  cumulative ack point + 1 — is gap-acked or is the FIRST chunk that gather put on the wire, whatever cwnd / rwnd are (T3
  flags it and `getDataPacketsToRetransmit` exempts loop index 0 from the window test; nothing in flight ⇒ zero-window
  probe). Sender-model facts behind it: `C02_rtx_progress_partial` (1), `C02_probe_when_blocked`, assembled in
  `SenderProofs.roundF_progress`.
* `C02_netsys_receiver_takes` (receiver half of `Taken`, every reachable state with the receiver established): handed a chunk
  of the history with TSN = cumulative point + 1 — and a stream object available — `handleData` moves the cumulative point
  forward when `Room` holds (credit > 0, or something is held above the cumulative point: the chunk then lies below the
  highest TSN received and is stored at a FULL buffer, the zero-window admission rule of `C11_zero_window_admission`), unless
  the reassembly queue refuses the chunk, in which case `willSendAbort` or `panicked` is up afterwards.
* `C02_netsys_roundok_taken` — the two halves glued. `LiveDefs.lean` states the premises of one round as the decidable
  `RoundOk P s` = receiver established ∧ `Room` ∧ `InSync` (the sender's cumulative ack point is not ahead of the receiver's,
  and when they coincide the lowest outstanding chunk is not gap-acked) ∧ `HeadOk` (no ABORT / panic in answer to the round's
  first delivery). `RoundOk P s` and something outstanding give `Taken P s`: the round's first `deliver` carries exactly the
  chunk of the sender half into exactly the receiver state of the receiver half; afterwards the receiver's cumulative point
  only moves forward and the round's sender operations do not move the cumulative ack point.
  `C02_netsys_drains_roundok` is `C02_netsys_drains_partial` with `TakenN` replaced by the per-round premises `RoundOkN`, over
  `Reliable` runs (which abandon nothing: `noab_of_reliable`).
* `C02_netsys_honest_insync` — for runs whose sender only processed SOUND SACKs (`Honest`, a decidable predicate on the run:
  `soundSack` in `LiveDefs.lean`) `InSync` holds whenever the receive queue is pop-normalised; run invariant `run_hl`: every
  gap-acked in-flight chunk was really received. `C02_netsys_honest_taken` is `C02_netsys_roundok_taken` with `InSync`
  replaced by `Honest`. `C02_netsys_drains_honest` is the iterated drain theorem for `Honest` runs: honesty is preserved along
  the healed rounds because the SACK a round hands to the sender is the receiver's truthful one, which is sound
  (`truthful_sound`, `hl_healed`); per-round premises `RoundOkHN` = receiver established, `Room`, `Normal` (receive queue
  pop-normalised), `HeadOk`.
* `C02_netsys_entry_cap_off_partial` — with `maxReassemblyQueueEntries = 0` every reassembly queue of every reachable state has
  `maxEntries = 0`, `pushWithError` returns no limit error and never panics, a chunk `acceptPayloadData` decides to store is
  stored. `C02_netsys_nocap_invariants` — with `maxReassemblyQueueEntries = 0` the receive queue is pop-normalised in every
  reachable state (`run_normal`), and when every chunk of the history decodes to non-empty user data (`WireDataB`) the receiver
  never raises the ABORT flag (`run_noabort`). `C02_netsys_drains_honest_nocap` is the drain theorem with the fewest per-round
  premises: "receiver established" and `Room`. Its standing hypotheses: MTU < 2^30 (`CfgOk`), fragment size fits the MTU
  (`CfgFit`), `maxReassemblyQueueEntries = 0`, fewer than 2^31 chunks written / in flight (`chunksWritten`, `TsnOk`), reliable
  ordered streams (`Reliable`), sound SACK history (`Honest`), sender established, every chunk of the final history carries
  user data (`WireDataB`).
* `C02_netsys_delivered_prefix` — `C01_netsys_prefix_fifo` for a run extended by healed rounds: reads are a prefix of writes;
  `Reliable`, `SelFifo`, `chunksWritten < 2^31` and `WinOk` are premises on the EXTENDED operation list, DATA framing.
* `C02_netsys_stuck_witness` — the statement WITHOUT `Taken`, under "the receive buffer holds at least one maximal chunk and
  the application reads in every round", is FALSE: on the witness run (evaluated for up to 12 rounds) a message larger than the
  receive buffer is not delivered.

**What is open.** Every drain theorem takes its per-round premises (`TakenN` / `RoundOkN` / `RoundOkHN` / `RoundOkEN`) about
the states the healed rounds lead to, not only about the state they start from. `Room` is the premise none of them
discharges, and `C02_netsys_stuck_witness` shows that it can fail. That the receiver has credit after the application has read
everything readable, when every message fits the receive buffer (`maxMessageSize ≤ maxReceiveBufferSize`), needs the
reassembly-level fact "held bytes = bytes of TSNs above the cumulative point + at most one incomplete message", i.e. the
CONVERSE of `Reasm.OrdInv.pushed` (every pushed fragment of a message at or above the cursor is in the table); it is not
proved. No theorem here says what the reads of a round return; `reads = writes` at the end is not stated (it additionally
needs reassembly completeness, `C01_complete_iff_data`, composed with the receive queue) and is evaluated on the example run
only. `WireDataB` (a written fragment has `0 < len` and lies inside the written payload: `toWire_data` of the C01 proof) is
assumed, not derived from the sender model. `Honest` is a premise on the run: that every SACK the receiver model emits is sound
is `C05_assoc_sack_sound` and `truthful_sound`; here only the healed rounds are shown to keep it.

**NOT covered**: timers really firing and their back-off bounds ("within a few maximum RTOs": C19 gives the RTO clamp
`C19_rto_clamped`, the back-off bounds and the timer automaton; a healed round costs at most one T3 period ≤ `rtoMax` plus the
200 ms ack interval — combined in prose only); goroutine wake-ups (`awakeWriteLoop`, `readNotifier`); that the receiver's
`gather` emits exactly the truthful SACK (ack state machine: `C19_ack_scheduled`, `C19_immediate_ack_is_sent`; here the SACK is
computed from the receiver state after its gather, and the example checks that the gather emitted it); unordered / partially
reliable / reset traffic (no FORWARD-TSN or RE-CONFIG in NetSys); ALL fair schedules — this is ONE explicit fair schedule
from every reachable state.
-/
namespace C02
open Gen NetSys NetSysLive

/-- ✱ **The receiver's truthful SACK is never rejected.** In every reachable NetSys state — any earlier history — the SACK
`createSelectiveAckChunk` builds in the current receiver state is stale (`sna32GT cumAck cum`: earlier, untruthful SACKs
made the sender release more than the receiver has) or passes the validation at the head of `processSelectiveAck`; handed
to the sender it is answered `ok`, `stale` or (association not established) `notEstablished` — never `rejected`, never
`failedLate` —, for every advertised window and every RACK / PTO mark list. Hypotheses: MTU < 2^30; fewer than 2^31 chunks
written (32-bit serial arithmetic); fewer than 2^31 chunks in flight. -/
theorem C02_netsys_truthful_sack_accepted (P : Params) (ops : List Op) (hc : SenderProofs.CfgOk P.cfg)
    (hN : chunksWritten P ops < 2^31) (hsm : (run P (init P) ops).snd.inflight.length < 2^31)
    (arwnd : BitVec 32) (marks : List (BitVec 32)) :
    let s := run P (init P) ops
    (truthfulSack s.rcv).1 = s.rcv.pq.cum ∧ (truthfulSack s.rcv).2.2 = RecvQ.gaps s.rcv.pq ∧
    (sna32GT s.snd.cumAck (truthfulSack s.rcv).1 = true ∨ Sender.validate s.snd (truthfulSack s.rcv).1 (truthfulSack s.rcv).2.2 = true) ∧
    ((Sender.sack s.snd (truthfulSack s.rcv).1 arwnd (truthfulSack s.rcv).2.2 marks).2 = .ok ∨
     (Sender.sack s.snd (truthfulSack s.rcv).1 arwnd (truthfulSack s.rcv).2.2 marks).2 = .stale ∨
     (Sender.sack s.snd (truthfulSack s.rcv).1 arwnd (truthfulSack s.rcv).2.2 marks).2 = .notEstablished) := by
  intro s
  have hv := truthful_valid P ops hc (Nat.lt_of_le_of_lt (tsnsUsed_le P ops) hN) hsm
  refine ⟨rfl, rfl, hv, ?_⟩
  rw [truthfulSack_eq]
  dsimp only
  rcases SenderProofs.sack_cases s.snd s.rcv.pq.cum arwnd (RecvQ.gaps s.rcv.pq) marks (snd_seq P ops hc) hsm with
    ⟨_, _, _, h⟩ | ⟨hok, _⟩
  · right
    unfold Sender.sack
    rcases h with h | h | h
    · right; simp [h]
    · by_cases he : s.snd.established = true
      · left; simp [he, h]
      · right; simp [he]
    · rcases hv with hv | hv
      · have hv' : sna32GT s.snd.cumAck s.rcv.pq.cum = true := hv
        by_cases he : s.snd.established = true
        · left; simp [he, hv']
        · right; simp [he]
      · rw [hv] at h; cases h
  · exact Or.inl hok

/-- **Sender half of a healed round: the lowest outstanding chunk goes on the wire** whatever cwnd / rwnd are. In every
reachable NetSys state with the sender established, something outstanding, every un-acked in-flight chunk fitting a packet
(`InfFit`: `SenderProofs.run_inffit` under `TsnOk`) and no in-flight chunk abandoned (`C07_reliable_never_abandoned` over
reliable streams): after the sender operations of the healed round — T3 iff something is in flight, then
`gather freeOracle` with FIFO selection; `(preSack P s).snd` is the state they lead to — the in-flight queue is not empty, its
head carries TSN `cumulative ack point + 1`, and that chunk is gap-acked or is the FIRST chunk the gather put on the wire. -/
theorem C02_netsys_lowest_on_wire (P : Params) (ops : List Op) (hc : SenderProofs.CfgOk P.cfg) (hf : SenderProofs.CfgFit P.cfg)
    (hest : (run P (init P) ops).snd.established = true)
    (hsm : (run P (init P) ops).snd.inflight.length + (run P (init P) ops).snd.pending.length < 2^31)
    (hfit : SenderProofs.InfFit (run P (init P) ops).snd)
    (hnab : ∀ c ∈ (sndT3 (run P (init P) ops).snd).inflight, (sndT3 (run P (init P) ops).snd).abandoned c = false)
    (hpos : 0 < outstanding (run P (init P) ops)) :
    let s := run P (init P) ops
    ∃ c0 r, (preSack P s).snd.inflight = c0 :: r ∧ c0.tsn = s.snd.cumAck + 1 ∧
      (c0.acked = true ∨ ∃ e rest,
        (Sender.gather (sndT3 s.snd) Sender.freeOracle (fifoSel (sndT3 s.snd))).2.packets.flatten = e :: rest ∧ e.tsn = c0.tsn) := by
  intro s
  rw [preSack_snd]
  have hpos' : 0 < (run P (init P) ops).snd.inflight.length + (run P (init P) ops).snd.pending.length := by
    unfold outstanding at hpos; omega
  exact head_on_wire (run P (init P) ops).snd (snd_live P ops hc hf hest hsm) hfit hnab hpos'

/-- **Receiver half: the chunk right after the cumulative point is taken — also at a full buffer when it fills a gap.** In
every reachable NetSys state with the receiver established (`state = 3`): handed a chunk `c` of the wire history whose TSN is
the receiver's cumulative point + 1, with a stream object available (`getOrCreateStream` succeeds: the stream exists or the
accept backlog has room), and `Room` — the receiver has credit, or holds something above its cumulative point (then `c` lies
below the highest TSN received: `acceptPayloadData` stores it although the buffer is full) — `handleData` moves the cumulative
point forward by at least one (`NetSysLive.idx` = offset of the cumulative point from the initial TSN), unless the reassembly
queue refuses the chunk: then the ABORT flag or the panic flag is up. Without `Room` the chunk is dropped
(`C02_netsys_stuck_witness`). -/
theorem C02_netsys_receiver_takes (P : Params) (ops : List Op) (hN : chunksWritten P ops < 2^31) (c : Sender.Chunk) (imm : Bool)
    (hc : c ∈ (run P (init P) ops).wire) (hst : (run P (init P) ops).rcv.state = 3#32)
    (htsn : c.tsn = (run P (init P) ops).rcv.pq.cum + 1)
    (hstream : (Receiver.getOrCreateStream (run P (init P) ops).rcv c.si true).2.isSome = true)
    (hroom : Room (run P (init P) ops).rcv = true) :
    (Receiver.handleData (run P (init P) ops).rcv (toWire P c) imm).willSendAbort = true ∨
    (Receiver.handleData (run P (init P) ops).rcv (toWire P c) imm).panicked = true ∨
    idx P.tsn (run P (init P) ops).rcv.pq + 1 ≤ idx P.tsn (Receiver.handleData (run P (init P) ops).rcv (toWire P c) imm).pq :=
  receiver_takes P ops hN c imm hc hst htsn hstream hroom

/-- **One healed round** (partial: `Taken` is a hypothesis, see the file header). From every reachable NetSys state with the
sender established and fewer than 2^31 chunks queued: the healed round adds nothing to `pending + in flight`; and if, when
the receiver's SACK is built, its cumulative point is ahead of the sender's cumulative ack point (`Taken`: the receiver has
the lowest outstanding chunk), at least one chunk leaves the sender's queues, and the sender's cumulative ack point equals
the receiver's cumulative point afterwards.
`Taken` is derived from premises on the state at the start of the round in `C02_netsys_roundok_taken` and
`C02_netsys_honest_taken`; that those premises hold in every round is open (file header). -/
theorem C02_netsys_round_progress_partial (P : Params) (ops : List Op) (hc : SenderProofs.CfgOk P.cfg)
    (hf : SenderProofs.CfgFit P.cfg) (hN : chunksWritten P ops < 2^31)
    (hest : (run P (init P) ops).snd.established = true)
    (hsm : (run P (init P) ops).snd.inflight.length + (run P (init P) ops).snd.pending.length < 2^31) :
    let s := run P (init P) ops
    outstanding (healed P s) ≤ outstanding s ∧ (healed P s).snd.established = true ∧
    (Taken P s = true → outstanding (healed P s) < outstanding s ∧ (healed P s).snd.cumAck = (healed P s).rcv.pq.cum) := by
  intro s
  obtain ⟨⟨_, r⟩, p2, p3⟩ := (round_reach P ops hN (snd_live P ops hc hf hest hsm)).progress
  exact ⟨p2, r.live.est, p3⟩

/-- **The healed rounds drain the sender** (partial: `TakenN` is a hypothesis, see the file header). From every reachable
NetSys state with the sender established: `n ≥ pending + in-flight chunks` healed rounds, each of which starts with nothing
outstanding or finds the receiver ahead when its SACK is built (`TakenN`, decidable on the run), end in a state — itself the
state of the run `ops ++ healedRounds P n s` — whose pending and in-flight queues are empty and whose
`Association.BufferedAmount()` is 0; under C15's D9 premise on the run (`RunOk`) and without 64-bit wrap of a buffered
amount, every stream's `BufferedAmount()` is 0. The bound is the worst case one chunk per round; cwnd growth is not used. -/
theorem C02_netsys_drains_partial (P : Params) (ops : List Op) (n : Nat) (hc : SenderProofs.CfgOk P.cfg)
    (hf : SenderProofs.CfgFit P.cfg) (hN : chunksWritten P ops < 2^31)
    (hest : (run P (init P) ops).snd.established = true)
    (hsm : (run P (init P) ops).snd.inflight.length + (run P (init P) ops).snd.pending.length < 2^31)
    (ht : TakenN P n (run P (init P) ops) = true) (hn : outstanding (run P (init P) ops) ≤ n) :
    let fin := run P (init P) (ops ++ healedRounds P n (run P (init P) ops))
    fin = healedN P n (run P (init P) ops) ∧
    fin.snd.inflight = [] ∧ fin.snd.pending = [] ∧ fin.snd.penBytes + fin.snd.infBytes = 0 ∧
    (SenderProofs.RunOk (Sender.init P.cfg P.tsn P.peerRwnd)
        (sndOps P (init P).snd (ops ++ healedRounds P n (run P (init P) ops))) →
      fin.snd.wrapBuf = false → ∀ si, SenderProofs.bufOf fin.snd si = 0) := by
  intro fin
  have hfin : fin = healedN P n (run P (init P) ops) := by
    show run P (init P) (ops ++ _) = _
    rw [NetSys.run_append, run_healedRounds]
  obtain ⟨d1, d2⟩ := (round_reach P ops hN (snd_live P ops hc hf hest hsm)).drains n (by rw [← takenN_eq]; exact ht) hn
  rw [← hfin] at d1 d2
  obtain ⟨e1, e2, e3⟩ := drained_buffered d1 d2
  exact ⟨hfin, e1, e2, e3, fun hok hwb => drained_streams P hc _ hok hwb e1 e2⟩

/-- **One healed round, readable premises: `RoundOk` gives `Taken`.** In every reachable NetSys state over reliable ordered
streams (`Reliable ops`) with the sender established, `InfFit` and something outstanding: if the receiver is established
(`state = 3`), has `Room` (credit, or something held above its cumulative point), the two endpoints are `InSync` (the sender's
cumulative ack point is not ahead of the receiver's cumulative point, and when they coincide the lowest outstanding chunk
is not gap-acked) and the receiver does not answer the round's first delivery with an ABORT (`HeadOk`) — `RoundOk P s` —
then in this healed round the receiver's cumulative point is ahead of the sender's when the SACK is built: `Taken P s`.
(Sender half `C02_netsys_lowest_on_wire`, receiver half `C02_netsys_receiver_takes`, glued: the round's first `deliver`
carries exactly that chunk into exactly that receiver state.) -/
theorem C02_netsys_roundok_taken (P : Params) (ops : List Op) (hc : SenderProofs.CfgOk P.cfg) (hf : SenderProofs.CfgFit P.cfg)
    (hN : chunksWritten P ops < 2^31) (hrel : Reliable ops = true)
    (hest : (run P (init P) ops).snd.established = true)
    (hsm : (run P (init P) ops).snd.inflight.length + (run P (init P) ops).snd.pending.length < 2^31)
    (hfit : SenderProofs.InfFit (run P (init P) ops).snd)
    (hok : RoundOk P (run P (init P) ops) = true) (hpos : 0 < outstanding (run P (init P) ops)) :
    Taken P (run P (init P) ops) = true :=
  (round_reach P ops hN (snd_live P ops hc hf hest hsm)).taken hfit (noab_of_reliable P ops hc hrel) hok hpos

/-- **Honest runs are `InSync`.** For every NetSys run whose sender only ever processed SOUND SACKs (`Honest`: at the
moment a SACK is processed its cumulative TSN is not ahead of the receiver's cumulative point and every TSN in its gap
blocks is at or below that point or held in the receive queue — what `C05_assoc_sack_sound` proves of every SACK the real
receiver emits when it is built; a delayed, duplicated or reordered copy stays sound as long as the receiver's cumulative
point only moves forward and accepted TSNs stay accepted (`step_rcv_got`), which is not stated as a lemma about `soundSack`;
the advertised window and the RACK / PTO marks are free), with fewer than 2^31 chunks written and in flight (`TsnOk`): the
sender's cumulative ack point is not ahead of the receiver's cumulative point, and — the receive queue being pop-normalised
(`hnorm`: the TSN right after the cumulative point is not held; true after every `handleData` that did not end in a
reassembly error) — when the two coincide the lowest outstanding chunk is not gap-acked. Behind it the run invariant
`NetSysLive.run_hl`: every gap-acked in-flight chunk of the sender has been accepted by the receiver ("accepted stays
accepted": `step_rcv_got`; only a processed SACK raises `acked`, on chunks named by its blocks: `ackPhase_acked`). -/
theorem C02_netsys_honest_insync (P : Params) (ops : List Op) (hc : SenderProofs.CfgOk P.cfg) (hN : chunksWritten P ops < 2^31)
    (hts : SenderProofs.TsnOk (Sender.init P.cfg P.tsn P.peerRwnd) (sndOps P (init P).snd ops))
    (hh : Honest P (init P) ops = true)
    (hnorm : RecvQ.hasChunk (run P (init P) ops).rcv.pq ((run P (init P) ops).rcv.pq.cum + 1) = false) :
    InSync (run P (init P) ops) = true :=
  have hM : tsnsUsed P ops < 2^31 := Nat.lt_of_le_of_lt (tsnsUsed_le P ops) hN
  insync_of_hl P ops hc hM (run_hl P ops hc hM hts hh) hnorm

/-- **One healed round of an honest run**: `C02_netsys_roundok_taken` with `InSync` replaced by `Honest ops` and the
pop-normalised receive queue. -/
theorem C02_netsys_honest_taken (P : Params) (ops : List Op) (hc : SenderProofs.CfgOk P.cfg) (hf : SenderProofs.CfgFit P.cfg)
    (hN : chunksWritten P ops < 2^31) (hrel : Reliable ops = true)
    (hts : SenderProofs.TsnOk (Sender.init P.cfg P.tsn P.peerRwnd) (sndOps P (init P).snd ops))
    (hh : Honest P (init P) ops = true)
    (hest : (run P (init P) ops).snd.established = true)
    (hsm : (run P (init P) ops).snd.inflight.length + (run P (init P) ops).snd.pending.length < 2^31)
    (hst : (run P (init P) ops).rcv.state = 3#32) (hroom : Room (run P (init P) ops).rcv = true)
    (hnorm : RecvQ.hasChunk (run P (init P) ops).rcv.pq ((run P (init P) ops).rcv.pq.cum + 1) = false)
    (hhead : HeadOk P (run P (init P) ops) = true) (hpos : 0 < outstanding (run P (init P) ops)) :
    Taken P (run P (init P) ops) = true := by
  have hsync := C02_netsys_honest_insync P ops hc hN hts hh hnorm
  exact C02_netsys_roundok_taken P ops hc hf hN hrel hest hsm (snd_inffit P ops hc hts)
    (by simp only [RoundOk, Bool.and_eq_true, beq_iff_eq]; exact ⟨⟨⟨hst, hroom⟩, hsync⟩, hhead⟩) hpos

/-- **The healed rounds drain the sender — readable premises.** `C02_netsys_drains_partial` with the opaque `TakenN`
replaced by `RoundOkN P n s`: at the start of each of the `n` rounds that has something outstanding, the receiver is
established, has `Room`, the endpoints are `InSync`, and the first delivery is not answered with an ABORT. From every
reachable NetSys state over reliable ordered streams (`Reliable ops`) with the sender established and `InfFit`
(`SenderProofs.run_inffit` under `TsnOk`): `n ≥ pending + in-flight chunks` healed rounds end with both sender queues empty,
`Association.BufferedAmount()` = 0, and every stream's `BufferedAmount()` = 0 under C15's D9 premise.
The per-round premises are about the states the rounds lead to. `InSync` is derived for `Honest` runs
(`C02_netsys_drains_honest`), `HeadOk` with `maxReassemblyQueueEntries = 0` (`C02_netsys_drains_honest_nocap`); `Room` is open
(file header). -/
theorem C02_netsys_drains_roundok (P : Params) (ops : List Op) (n : Nat) (hc : SenderProofs.CfgOk P.cfg)
    (hf : SenderProofs.CfgFit P.cfg) (hN : chunksWritten P ops < 2^31) (hrel : Reliable ops = true)
    (hest : (run P (init P) ops).snd.established = true)
    (hsm : (run P (init P) ops).snd.inflight.length + (run P (init P) ops).snd.pending.length < 2^31)
    (hfit : SenderProofs.InfFit (run P (init P) ops).snd)
    (hok : RoundOkN P n (run P (init P) ops) = true) (hn : outstanding (run P (init P) ops) ≤ n) :
    let fin := run P (init P) (ops ++ healedRounds P n (run P (init P) ops))
    fin = healedN P n (run P (init P) ops) ∧
    fin.snd.inflight = [] ∧ fin.snd.pending = [] ∧ fin.snd.penBytes + fin.snd.infBytes = 0 ∧
    (SenderProofs.RunOk (Sender.init P.cfg P.tsn P.peerRwnd)
        (sndOps P (init P).snd (ops ++ healedRounds P n (run P (init P) ops))) →
      fin.snd.wrapBuf = false → ∀ si, SenderProofs.bufOf fin.snd si = 0) :=
  C02_netsys_drains_partial P ops n hc hf hN hest hsm
    (takenN_of_roundOkN P hc n ops hN (snd_live P ops hc hf hest hsm) hfit hrel hok) hn

/-- **The healed rounds drain the sender of an HONEST run — no `InSync` premise.** From every reachable NetSys
state over reliable ordered streams whose sender only ever processed SOUND SACKs (`Honest ops`, `TsnOk`), sender established:
`n ≥ pending + in-flight chunks` healed rounds, at the start of each of which (if something is outstanding) the receiver is
established, has `Room`, its receive queue is pop-normalised (`Normal`) and it does not answer the first delivery with an
ABORT (`HeadOk`) — `RoundOkHN P n s` — end with both sender queues empty, `Association.BufferedAmount()` = 0, and every
stream's `BufferedAmount()` = 0 under C15's D9 premise. Honesty is PRESERVED along the rounds: the SACK a healed round hands
to the sender is the receiver's truthful one, which is sound (`NetSysLive.truthful_sound`, `hl_healed`).
`Normal` and `HeadOk` fail only after a reassembly error and are discharged with `maxReassemblyQueueEntries = 0` in
`C02_netsys_drains_honest_nocap`; `Room` is open (file header). -/
theorem C02_netsys_drains_honest (P : Params) (ops : List Op) (n : Nat) (hc : SenderProofs.CfgOk P.cfg)
    (hf : SenderProofs.CfgFit P.cfg) (hN : chunksWritten P ops < 2^31) (hrel : Reliable ops = true)
    (hts : SenderProofs.TsnOk (Sender.init P.cfg P.tsn P.peerRwnd) (sndOps P (init P).snd ops))
    (hh : Honest P (init P) ops = true)
    (hest : (run P (init P) ops).snd.established = true)
    (hsm : (run P (init P) ops).snd.inflight.length + (run P (init P) ops).snd.pending.length < 2^31)
    (hok : RoundOkHN P n (run P (init P) ops) = true) (hn : outstanding (run P (init P) ops) ≤ n) :
    let fin := run P (init P) (ops ++ healedRounds P n (run P (init P) ops))
    fin = healedN P n (run P (init P) ops) ∧
    fin.snd.inflight = [] ∧ fin.snd.pending = [] ∧ fin.snd.penBytes + fin.snd.infBytes = 0 ∧
    (SenderProofs.RunOk (Sender.init P.cfg P.tsn P.peerRwnd)
        (sndOps P (init P).snd (ops ++ healedRounds P n (run P (init P) ops))) →
      fin.snd.wrapBuf = false → ∀ si, SenderProofs.bufOf fin.snd si = 0) := by
  have hM : tsnsUsed P ops < 2^31 := Nat.lt_of_le_of_lt (tsnsUsed_le P ops) hN
  exact C02_netsys_drains_roundok P ops n hc hf hN hrel hest hsm (snd_inffit P ops hc hts)
    (roundOkN_of_honest P hc n ops hN (snd_live P ops hc hf hest hsm) (run_hl P ops hc hM hts hh) hok) hn

/-- **Entry cap off ⇒ no reassembly error** (step towards deriving `HeadOk` and `Normal`). With
`maxReassemblyQueueEntries = 0` (the default), in EVERY reachable NetSys state: every reassembly queue of the receiver —
registered or already deleted from the table — has `maxEntries = 0` (`NetSysLive.run_z`), so `pushWithError` returns no
limit error on any chunk (`pushWithError_z`), it never panics (`C03_recv_total`), and therefore a chunk that
`acceptPayloadData` decides to store (`Receiver.stores`: a stream object is available and there is credit or the chunk fills a
gap) IS stored: the call reports success, no ABORT is raised by it and `handleData` goes on to the pop loop.
PARTIAL: this is one `acceptPayloadData` call. Its two consequences for runs are `C02_netsys_nocap_invariants`: (i) `Normal`
as a run invariant (every `handleData` trace is then `data`, never a bare `push`, so the queue is pop-normalised after every
packet: `popAllS_done`), (ii) `willSendAbort = false` as a run invariant when every chunk of the history decodes to non-empty
user data (`toWire` of a written fragment; available inside the C01 proof as `toWire_data`), which gives `HeadOk`. -/
theorem C02_netsys_entry_cap_off_partial (P : Params) (h0 : P.maxEntries = 0) (ops : List Op) (c : Reasm.Chunk)
    (hst : Receiver.stores (run P (init P) ops).rcv c = true) :
    (∀ x ∈ (run P (init P) ops).rcv.streams ++ (run P (init P) ops).rcv.gone, x.q.maxEntries = 0 ∧
      (x.q.pushWithError c).2.2 = .none) ∧
    (Receiver.acceptPayloadData (run P (init P) ops).rcv c).2 = true := by
  obtain ⟨hme, hz, hnp, _⟩ := run_nb0 P h0 ops
  refine ⟨?_, accept_stored _ c hme hz hnp hst⟩
  intro x hx
  have hzx : Z x.q := by
    rcases List.mem_append.mp hx with h | h
    · exact hz.1 x h
    · exact hz.2 x h
  have hne : Reasm.NoEmpty x.q := by
    rcases List.mem_append.mp hx with h | h
    · exact hnp.2.1 x h
    · exact hnp.2.2 x h
  refine ⟨hzx, ?_⟩
  rcases pushWithError_z x.q c hzx with h | h
  · exact h
  · exact absurd h (Reasm.pushWithError_no_panic x.q c hne)

/-- **Entry cap off: `Normal` and no ABORT are run invariants.** With `maxReassemblyQueueEntries = 0` (the default), in EVERY
reachable NetSys state the receive queue is pop-normalised (`Normal`: the TSN right after the cumulative point is never left
un-popped — no `handleData` trace is a bare `push`); and if every chunk of the history decodes to non-empty user data
(`WireDataB`: every written fragment carries at least one byte), the receiver never raises the ABORT flag and never panics. -/
theorem C02_netsys_nocap_invariants (P : Params) (h0 : P.maxEntries = 0) (ops : List Op) :
    Normal (run P (init P) ops).rcv = true ∧
    (WireDataB P (run P (init P) ops).wire = true →
      (run P (init P) ops).rcv.willSendAbort = false ∧ (run P (init P) ops).rcv.panicked = false) := by
  refine ⟨by simp only [Normal, Bool.not_eq_true']; exact run_normal P h0 ops, ?_⟩
  intro hw
  exact ⟨run_noabort P h0 ops (wireData_of_B P _ hw), (run_nb0 P h0 ops).2.2.1.1⟩

/-- **The healed rounds drain the sender — entry cap off: only "receiver established" and `Room` remain per round.**
`C02_netsys_drains_honest` with `Normal` and `HeadOk` discharged: `maxReassemblyQueueEntries = 0` and every chunk of the
history (healed rounds included: `WireDataB` of the final history) decoding to non-empty user data. From every reachable
NetSys state over reliable ordered streams whose sender only processed sound SACKs, sender established:
`n ≥ pending + in-flight chunks` healed rounds, at the start of each of which (if something is outstanding) the receiver is
established and has `Room` (credit, or something held above its cumulative point) — `RoundOkEN P n s` — end with both sender
queues empty, `Association.BufferedAmount()` = 0, and every stream's `BufferedAmount()` = 0 under C15's D9 premise.
`Room` is the one per-round premise left: that it holds when every message fits the receive buffer and the application reads
in every round needs the reassembly-level completeness lemma (converse of `Reasm.OrdInv.pushed`), which is not proved; when a
message does not fit, `C02_netsys_stuck_witness` applies. -/
theorem C02_netsys_drains_honest_nocap (P : Params) (ops : List Op) (n : Nat) (hc : SenderProofs.CfgOk P.cfg)
    (hf : SenderProofs.CfgFit P.cfg) (h0 : P.maxEntries = 0) (hN : chunksWritten P ops < 2^31) (hrel : Reliable ops = true)
    (hts : SenderProofs.TsnOk (Sender.init P.cfg P.tsn P.peerRwnd) (sndOps P (init P).snd ops))
    (hh : Honest P (init P) ops = true)
    (hest : (run P (init P) ops).snd.established = true)
    (hsm : (run P (init P) ops).snd.inflight.length + (run P (init P) ops).snd.pending.length < 2^31)
    (hw : WireDataB P (run P (init P) (ops ++ healedRounds P n (run P (init P) ops))).wire = true)
    (hok : RoundOkEN P n (run P (init P) ops) = true) (hn : outstanding (run P (init P) ops) ≤ n) :
    let fin := run P (init P) (ops ++ healedRounds P n (run P (init P) ops))
    fin = healedN P n (run P (init P) ops) ∧
    fin.snd.inflight = [] ∧ fin.snd.pending = [] ∧ fin.snd.penBytes + fin.snd.infBytes = 0 ∧
    (SenderProofs.RunOk (Sender.init P.cfg P.tsn P.peerRwnd)
        (sndOps P (init P).snd (ops ++ healedRounds P n (run P (init P) ops))) →
      fin.snd.wrapBuf = false → ∀ si, SenderProofs.bufOf fin.snd si = 0) :=
  C02_netsys_drains_honest P ops n hc hf hN hrel hts hh hest hsm
    (roundOkHN_of_nocap P h0 n ops (wireData_of_B P _ hw) hok) hn

/-- **Safety along the healed rounds**: C01 for the run extended by any number of healed rounds — over reliable ordered
streams with FIFO selection (the healed rounds select FIFO and open no stream), what the application has read on a stream is
a prefix of what was written on it. (`C01_netsys_prefix_fifo` for the extended operation list, DATA framing; its hypotheses
are decidable predicates of that EXTENDED list, not of `ops`.) -/
theorem C02_netsys_delivered_prefix (P : Params) (ops : List Op) (n : Nat) (si : BitVec 16)
    (hil : P.cfg.useInterleaving = false)
    (hrel : Reliable (ops ++ healedRounds P n (run P (init P) ops)) = true)
    (hsel : SelFifo (ops ++ healedRounds P n (run P (init P) ops)) = true)
    (htsn : chunksWritten P (ops ++ healedRounds P n (run P (init P) ops)) < 2^31)
    (hwin : WinOk P si (2^15) (init P) (ops ++ healedRounds P n (run P (init P) ops)) = true) :
    readsOn P si (init P) (ops ++ healedRounds P n (run P (init P) ops)) <+:
      writesOn P si (init P) (ops ++ healedRounds P n (run P (init P) ops)) :=
  netsys_prefix_data P _ si hil hrel (selFifo_selContig P _ hsel hrel) htsn hwin

/-! ## tests by evaluation and non-vacuity (`decide` on concrete runs — these are tests, not theorems) -/

private def bytes (m : Nat) : List UInt8 :=
  match m with
  | 0 => [1, 2, 3, 4, 5]
  | 1 => [7]
  | 2 => [9, 8, 7]
  | 3 => [4, 4, 4, 4, 4, 4]
  | _ => []

-- two streams, 2-byte fragments, TSNs across the wrap, a 6-byte receive buffer. History: three messages (3 + 1 + 2
-- chunks) sent; the first chunk LOST, the others delivered out of order, one DUPLICATED, one with the I-bit; the receive
-- buffer is full (ZERO WINDOW: credit 0); the receiver's SACK (cum 2^32−3, a_rwnd 0) arrives mutilated (one gap block
-- only); T3 expires TWICE (back-off, cwnd collapsed to one MTU, everything flagged); a fourth message (3 chunks) is written.
private def PD : Params := { cfg := { mtu := 1200, maxPayload := 2 }, tsn := 4294967294#32, pay := bytes, maxBuf := 6 }
private def ops0 : List Op :=
  [.snd (.openS 1 false 0 0 0), .snd (.openS 2 false 0 0 0), .write 1 51, .write 2 61, .write 1 52,
   .snd (.gather Sender.freeOracle [0, 0, 0, 0, 0, 0]),
   .deliver [(5, false), (4, true)], .deliver [(2, false), (1, false), (1, false)], .deliver [(3, false)],
   .rcv .gather,
   .snd (.sack 4294967293#32 0 [(3, 3)] []), .snd .t3, .snd .t3, .write 1 53]

/-- What the theorems below ask of a history and of the state it leads to, for the example history: closed decidable
facts, decided together (`evalAll`) so that the run (and the nine healed rounds after it) is evaluated once. -/
private structure Premises : Prop where
  written : chunksWritten PD ops0 < 2^31
  reliable : Reliable ops0 = true
  tsnOk : SenderProofs.TsnOk (Sender.init PD.cfg PD.tsn PD.peerRwnd) (sndOps PD (init PD).snd ops0)
  honest : Honest PD (init PD) ops0 = true
  est : (run PD (init PD) ops0).snd.established = true
  small : (run PD (init PD) ops0).snd.inflight.length + (run PD (init PD) ops0).snd.pending.length < 2^31
  out : outstanding (run PD (init PD) ops0) ≤ 9
  outPos : 0 < outstanding (run PD (init PD) ops0)
  takenN : TakenN PD 9 (run PD (init PD) ops0) = true
  roundOk : RoundOk PD (run PD (init PD) ops0) = true
  roundOkN : RoundOkN PD 9 (run PD (init PD) ops0) = true
  roundOkHN : RoundOkHN PD 9 (run PD (init PD) ops0) = true
  roundOkEN : RoundOkEN PD 9 (run PD (init PD) ops0) = true
  noNext : RecvQ.hasChunk (run PD (init PD) ops0).rcv.pq ((run PD (init PD) ops0).rcv.pq.cum + 1) = false
  rcvEst : (run PD (init PD) ops0).rcv.state = 3#32
  room : Room (run PD (init PD) ops0).rcv = true
  headOk : HeadOk PD (run PD (init PD) ops0) = true
  wireData : WireDataB PD (run PD (init PD) (ops0 ++ healedRounds PD 9 (run PD (init PD) ops0))).wire = true

private instance : Decidable Premises :=
  decidable_of_iff (_ ∧ _ ∧ _ ∧ _ ∧ _ ∧ _ ∧ _ ∧ _ ∧ _ ∧ _ ∧ _ ∧ _ ∧ _ ∧ _ ∧ _ ∧ _ ∧ _ ∧ _)
    ⟨fun ⟨h1, h2, h3, h4, h5, h6, h7, h8, h9, h10, h11, h12, h13, h14, h15, h16, h17, h18⟩ =>
      ⟨h1, h2, h3, h4, h5, h6, h7, h8, h9, h10, h11, h12, h13, h14, h15, h16, h17, h18⟩,
     fun ⟨h1, h2, h3, h4, h5, h6, h7, h8, h9, h10, h11, h12, h13, h14, h15, h16, h17, h18⟩ =>
      ⟨h1, h2, h3, h4, h5, h6, h7, h8, h9, h10, h11, h12, h13, h14, h15, h16, h17, h18⟩⟩

/-- What the tests below ask of the example state and of the healed rounds that start in it.
The fields spell the state out as the examples do: a name for it would be unfolded under projections when an example is
matched with its field, and that evaluates the run once more. -/
private structure EvalState : Prop where
  heals : ((run PD (init PD) ops0).snd.inflight.map (fun c => (c.tsn, c.acked, c.retransmit)), (run PD (init PD) ops0).snd.pending.length,
      (run PD (init PD) ops0).snd.rwnd, (run PD (init PD) ops0).snd.cwnd) =
      ([(4294967294#32, false, true), (4294967295#32, false, true), (0#32, true, false), (1#32, false, true), (2#32, false, true),
        (3#32, false, true)], 3, 0#32, 1200#32) ∧
    truthfulSack (run PD (init PD) ops0).rcv = (4294967293#32, 0#32, [(2#16, 6#16)]) ∧ Honest PD (init PD) ops0 = true
  rounds : (healedRound PD (run PD (init PD) ops0)).length = 11 ∧
    truthfulSack (preSack PD (run PD (init PD) ops0)).rcv = (3#32, 6#32, []) ∧
    (outstanding (run PD (init PD) ops0), outstanding (healed PD (run PD (init PD) ops0)),
      outstanding (healedN PD 2 (run PD (init PD) ops0))) = (9, 3, 0)
  sackOut : (Receiver.gather (run PD (run PD (init PD) ops0) ((roundOps PD (run PD (init PD) ops0)).dropLast)).rcv).2.1 =
    [.sack 3#32 6#32 [] []]
  sackOk : (Sender.sack (run PD (init PD) ops0).snd (truthfulSack (run PD (init PD) ops0).rcv).1 0
    (truthfulSack (run PD (init PD) ops0).rcv).2.2 []).2 = .ok
  roundOk3 : RoundOkN PD 3 (run PD (init PD) ops0) = true ∧ Room (run PD (init PD) ops0).rcv = true ∧
    InSync (run PD (init PD) ops0) = true ∧ HeadOk PD (run PD (init PD) ops0) = true
  infFit : ∀ c ∈ (run PD (init PD) ops0).snd.inflight,
    Sender.hdr + c.sizeInPacket (run PD (init PD) ops0).snd.cfg.useInterleaving ≤ ((run PD (init PD) ops0).snd.cfg.mtu.toNat : Int)
  stores : Receiver.stores (run PD (init PD) ops0).rcv (toWire PD ((run PD (init PD) ops0).wire[0]!)) = true
  wireData : WireDataB PD (run PD (init PD) ops0).wire = true

private instance : Decidable EvalState :=
  decidable_of_iff (_ ∧ _ ∧ _ ∧ _ ∧ _ ∧ _ ∧ _ ∧ _)
    ⟨fun ⟨h1, h2, h3, h4, h5, h6, h7, h8⟩ => ⟨h1, h2, h3, h4, h5, h6, h7, h8⟩,
     fun ⟨h1, h2, h3, h4, h5, h6, h7, h8⟩ => ⟨h1, h2, h3, h4, h5, h6, h7, h8⟩⟩

/-- The same for the history extended by two healed rounds. -/
private structure EvalHealed : Prop where
  allRead : readsOn PD 1 (init PD) (ops0 ++ healedRounds PD 2 (run PD (init PD) ops0)) =
      writesOn PD 1 (init PD) (ops0 ++ healedRounds PD 2 (run PD (init PD) ops0)) ∧
    readsOn PD 2 (init PD) (ops0 ++ healedRounds PD 2 (run PD (init PD) ops0)) =
      writesOn PD 2 (init PD) (ops0 ++ healedRounds PD 2 (run PD (init PD) ops0)) ∧
    readsOn PD 1 (init PD) (ops0 ++ healedRounds PD 2 (run PD (init PD) ops0)) =
      [(51, [1, 2, 3, 4, 5]), (52, [9, 8, 7]), (53, [4, 4, 4, 4, 4, 4])] ∧
    SenderProofs.bufOf (run PD (init PD) (ops0 ++ healedRounds PD 2 (run PD (init PD) ops0))).snd 1 = 0
  reliable : Reliable (ops0 ++ healedRounds PD 2 (run PD (init PD) ops0)) = true
  selFifo : SelFifo (ops0 ++ healedRounds PD 2 (run PD (init PD) ops0)) = true
  written : chunksWritten PD (ops0 ++ healedRounds PD 2 (run PD (init PD) ops0)) < 2^31
  win : WinOk PD 1 (2^15) (init PD) (ops0 ++ healedRounds PD 2 (run PD (init PD) ops0)) = true

private instance : Decidable EvalHealed :=
  decidable_of_iff (_ ∧ _ ∧ _ ∧ _ ∧ _)
    ⟨fun ⟨h1, h2, h3, h4, h5⟩ => ⟨h1, h2, h3, h4, h5⟩, fun ⟨h1, h2, h3, h4, h5⟩ => ⟨h1, h2, h3, h4, h5⟩⟩

/-- The three groups in ONE declaration: what the kernel has evaluated it keeps for the declaration it is checking, so the run
`run PD (init PD) ops0` and the healed rounds from it are computed once for all of them. Each group has a `Decidable` instance
of its own because instance synthesis for a single conjunction of all the leaves exceeds its default size. -/
private theorem evalAll : Premises ∧ EvalState ∧ EvalHealed := by decide +kernel

private theorem prem : Premises := evalAll.1
private theorem evalState : EvalState := evalAll.2.1
private theorem evalHealed : EvalHealed := evalAll.2.2

private theorem cfgOk : SenderProofs.CfgOk PD.cfg := by unfold SenderProofs.CfgOk; decide

private theorem cfgFit : SenderProofs.CfgFit PD.cfg := by unfold SenderProofs.CfgFit; decide

-- test: the state the network heals in — 6 chunks in flight (the third gap-acked), 3 pending, peer window closed, cwnd one
-- MTU, the receiver holds offsets 2..6 above its cumulative point and advertises 0
set_option maxRecDepth 1000000 in
example :
    let s := run PD (init PD) ops0
    (s.snd.inflight.map (fun c => (c.tsn, c.acked, c.retransmit)), s.snd.pending.length, s.snd.rwnd, s.snd.cwnd) =
      ([(4294967294#32, false, true), (4294967295#32, false, true), (0#32, true, false), (1#32, false, true), (2#32, false, true),
        (3#32, false, true)], 3, 0#32, 1200#32) ∧
    truthfulSack s.rcv = (4294967293#32, 0#32, [(2#16, 6#16)]) ∧ Honest PD (init PD) ops0 = true := evalState.heals

-- test: round 1 — only the lowest outstanding chunk goes out (closed window: the exception of loop index 0), the receiver
-- takes it at zero window (it fills a gap), its cumulative point jumps to 3, the application reads, the SACK (cum 3,
-- a_rwnd 6) empties the in-flight queue; round 2 sends the three pending chunks
set_option maxRecDepth 1000000 in
example :
    let s := run PD (init PD) ops0
    (healedRound PD s).length = 11 ∧ truthfulSack (preSack PD s).rcv = (3#32, 6#32, []) ∧
    (outstanding s, outstanding (healed PD s), outstanding (healedN PD 2 s)) = (9, 3, 0) := evalState.rounds

-- test: the receiver's gather of the round emitted exactly the SACK the sender is handed
set_option maxRecDepth 1000000 in
example :
    let s := run PD (init PD) ops0
    let r := (run PD s ((roundOps PD s).dropLast)).rcv
    (Receiver.gather r).2.1 = [.sack 3#32 6#32 [] []] := evalState.sackOut

-- non-vacuity of `C02_netsys_drains_partial` (n = 9 = pending + in flight); test: on the example state the truthful SACK is
-- answered `ok`, the first alternative of `C02_netsys_truthful_sack_accepted` (its hypotheses follow from the premises above)
set_option maxRecDepth 1000000 in
example :
    let fin := run PD (init PD) (ops0 ++ healedRounds PD 9 (run PD (init PD) ops0))
    fin.snd.inflight = [] ∧ fin.snd.pending = [] ∧ fin.snd.penBytes + fin.snd.infBytes = 0 :=
  let h := C02_netsys_drains_partial PD ops0 9 cfgOk cfgFit prem.written prem.est prem.small prem.takenN prem.out
  ⟨h.2.1, h.2.2.1, h.2.2.2.1⟩

set_option maxRecDepth 1000000 in
example : (Sender.sack (run PD (init PD) ops0).snd (truthfulSack (run PD (init PD) ops0).rcv).1 0
    (truthfulSack (run PD (init PD) ops0).rcv).2.2 []).2 = .ok := evalState.sackOk

-- test: after the healed rounds the application has read EVERY accepted write of both streams, in order, and the stream's
-- buffered amount is 0
set_option maxRecDepth 1000000 in
example :
    let all := ops0 ++ healedRounds PD 2 (run PD (init PD) ops0)
    readsOn PD 1 (init PD) all = writesOn PD 1 (init PD) all ∧ readsOn PD 2 (init PD) all = writesOn PD 2 (init PD) all ∧
    readsOn PD 1 (init PD) all = [(51, [1, 2, 3, 4, 5]), (52, [9, 8, 7]), (53, [4, 4, 4, 4, 4, 4])] ∧
    SenderProofs.bufOf (run PD (init PD) all).snd 1 = 0 := evalHealed.allRead

-- `InfFit` of the example state (every un-acked in-flight chunk fits a packet), by evaluation
private theorem infFit_ex : SenderProofs.InfFit (run PD (init PD) ops0).snd :=
  fun c hc _ => evalState.infFit c hc

-- non-vacuity of `C02_netsys_roundok_taken` and `C02_netsys_drains_roundok` (n = 9 = pending + in flight)
set_option maxRecDepth 1000000 in
example : Taken PD (run PD (init PD) ops0) = true :=
  C02_netsys_roundok_taken PD ops0 cfgOk cfgFit prem.written prem.reliable prem.est prem.small infFit_ex prem.roundOk prem.outPos

set_option maxRecDepth 1000000 in
example :
    let fin := run PD (init PD) (ops0 ++ healedRounds PD 9 (run PD (init PD) ops0))
    fin.snd.inflight = [] ∧ fin.snd.pending = [] ∧ fin.snd.penBytes + fin.snd.infBytes = 0 :=
  let h := C02_netsys_drains_roundok PD ops0 9 cfgOk cfgFit prem.written prem.reliable prem.est prem.small infFit_ex
    prem.roundOkN prem.out
  ⟨h.2.1, h.2.2.1, h.2.2.2.1⟩

-- non-vacuity of `C02_netsys_honest_insync` / `C02_netsys_honest_taken`: the example history is honest (its one SACK, though
-- mutilated, names only what the receiver holds) and `TsnOk`
set_option maxRecDepth 1000000 in
example : InSync (run PD (init PD) ops0) = true :=
  C02_netsys_honest_insync PD ops0 cfgOk prem.written prem.tsnOk prem.honest prem.noNext

set_option maxRecDepth 1000000 in
example : Taken PD (run PD (init PD) ops0) = true :=
  C02_netsys_honest_taken PD ops0 cfgOk cfgFit prem.written prem.reliable prem.tsnOk prem.honest prem.est prem.small
    prem.rcvEst prem.room prem.noNext prem.headOk prem.outPos

-- test: a run that is NOT honest — the sender is handed a SACK for TSN 2^32−2 that the receiver never got — is not `InSync`
set_option maxRecDepth 1000000 in
example :
    let bad := [Op.snd (.openS 1 false 0 0 0), .write 1 51, .snd (.gather Sender.freeOracle [0, 0, 0]),
      .snd (.sack 4294967294#32 65536 [] [])]
    Honest PD (init PD) bad = false ∧ InSync (run PD (init PD) bad) = false := by decide +kernel

-- non-vacuity of `C02_netsys_drains_honest` (n = 9): honest history, `RoundOkHN` decided on the run
set_option maxRecDepth 1000000 in
example :
    let fin := run PD (init PD) (ops0 ++ healedRounds PD 9 (run PD (init PD) ops0))
    fin.snd.inflight = [] ∧ fin.snd.pending = [] ∧ fin.snd.penBytes + fin.snd.infBytes = 0 :=
  let h := C02_netsys_drains_honest PD ops0 9 cfgOk cfgFit prem.written prem.reliable prem.tsnOk prem.honest prem.est
    prem.small prem.roundOkHN prem.out
  ⟨h.2.1, h.2.2.1, h.2.2.2.1⟩

-- non-vacuity of `C02_netsys_entry_cap_off_partial`: the example state, the next chunk of the history
set_option maxRecDepth 1000000 in
example : (Receiver.acceptPayloadData (run PD (init PD) ops0).rcv (toWire PD ((run PD (init PD) ops0).wire[0]!))).2 = true :=
  (C02_netsys_entry_cap_off_partial PD rfl ops0 _ evalState.stores).2

-- non-vacuity of `C02_netsys_nocap_invariants` and `C02_netsys_drains_honest_nocap` (n = 9): entry cap off, every chunk of
-- the final history carries user data, `RoundOkEN` (receiver established, `Room`) decided on the run
set_option maxRecDepth 1000000 in
example : (run PD (init PD) ops0).rcv.willSendAbort = false ∧ (run PD (init PD) ops0).rcv.panicked = false :=
  (C02_netsys_nocap_invariants PD rfl ops0).2 evalState.wireData

set_option maxRecDepth 1000000 in
example :
    let fin := run PD (init PD) (ops0 ++ healedRounds PD 9 (run PD (init PD) ops0))
    fin.snd.inflight = [] ∧ fin.snd.pending = [] ∧ fin.snd.penBytes + fin.snd.infBytes = 0 :=
  let h := C02_netsys_drains_honest_nocap PD ops0 9 cfgOk cfgFit rfl prem.written prem.reliable prem.tsnOk prem.honest
    prem.est prem.small prem.wireData prem.roundOkEN prem.out
  ⟨h.2.1, h.2.2.1, h.2.2.2.1⟩

-- non-vacuity of `C02_netsys_delivered_prefix`
set_option maxRecDepth 1000000 in
example : readsOn PD 1 (init PD) (ops0 ++ healedRounds PD 2 (run PD (init PD) ops0)) <+:
    writesOn PD 1 (init PD) (ops0 ++ healedRounds PD 2 (run PD (init PD) ops0)) :=
  C02_netsys_delivered_prefix PD ops0 2 1 rfl evalHealed.reliable evalHealed.selFifo evalHealed.written evalHealed.win

-- test: the premises of a round (`RoundOk`: receiver established, `Room`, `InSync`, `HeadOk`) hold at the start of every healed
-- round of the example that has something outstanding; in the stuck witness `Room` fails from the second round on
set_option maxRecDepth 1000000 in
example : RoundOkN PD 3 (run PD (init PD) ops0) = true ∧ Room (run PD (init PD) ops0).rcv = true ∧
    InSync (run PD (init PD) ops0) = true ∧ HeadOk PD (run PD (init PD) ops0) = true := evalState.roundOk3

/-- **Witness: a message larger than the receive buffer is never delivered.** Receive buffer 4 bytes, fragments of 2
bytes (the buffer holds two maximal chunks), one 6-byte message on a reliable ordered stream, no fault at all. The first
healed round delivers all three chunks: the receiver takes two (4 bytes: credit 0) and refuses the third — `acceptPayloadData`
drops a chunk at a full buffer unless it fills a gap below the highest TSN received, and nothing is held above the
cumulative point. The message is incomplete, so the application can read nothing, so the credit stays 0: every further
healed round retransmits TSN 12 (T3, zero-window probe), the receiver drops it again, the SACK repeats cumulative TSN 11.
The sender keeps one chunk in flight, `Taken` is false in every round, nothing is ever read. (Evaluated for 12 rounds; from
round 2 on the state repeats up to counters.) So "receive buffer ≥ one maximal chunk and the application reads in every
round" is NOT enough for C02; what is needed is that every message in progress fits the receive buffer
(`maxMessageSize ≤ maxReceiveBufferSize`), which the defaults satisfy (64 KiB vs 1 MiB) but `Config` does not enforce. -/
theorem C02_netsys_stuck_witness :
    let P : Params := { cfg := { mtu := 1200, maxPayload := 2 }, tsn := 10#32, maxBuf := 4,
                        pay := fun m => if m = 0 then [4, 4, 4, 4, 4, 4] else [] }
    let ops := [Op.snd (.openS 1 false 0 0 0), .write 1 51]
    let s := run P (init P) ops
    Reliable ops = true ∧ SelFifo ops = true ∧ Honest P (init P) ops = true ∧ outstanding s = 3 ∧
    (∀ n ∈ [1, 2, 3, 4, 8, 12],
      (healedN P n s).snd.inflight.map (fun c => (c.tsn, c.acked)) = [(12#32, false)] ∧ (healedN P n s).snd.pending = [] ∧
      (healedN P n s).rcv.pq.cum = 11#32 ∧ Receiver.credit (healedN P n s).rcv = 0#32 ∧ Room (healedN P n s).rcv = false ∧
      Taken P (healedN P n s) = false ∧
      readsOn P 1 (init P) (ops ++ healedRounds P n s) = []) := by
  decide +kernel

end C02
