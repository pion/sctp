import SctpVerif.Proofs.Receiver.Prefix
/-!
# C01 at association level — the receive-side system theorem

Property theorems only, about the L0 model `Model/Receiver.lean` of the receive half of the association
(tied to association.go / stream.go by `TestVerifAssocReceiver`, whose honest generator plays a fragmenting,
retransmitting, reordering, duplicating peer and whose executable predicate compares every successful read of
the real association with the generator's ground-truth messages).

`C01_dedup` states the receive-queue refinement (`Props/C05.lean`) at association level, for every reachable
state: a TSN is handed to a stream only if it lies in the tracking window and its absolute index was not accepted
before. The prefix theorems `C01_receiver_prefix[_idata]` are the two instances of `Receiver.receiver_prefix`
(`Proofs/Receiver/Prefix.lean`), which COMPOSES, through the simulation `prefix_main`,

* the same receive-queue fact for the chunks of the peer's universe (`RecvQ.GInv.fresh` / `GInv.index` of
  `Proofs/Receiver/Dedup.lean`; `index_of_accept`): a fragment that `canPush` admits has the absolute index `idx + 1`,
  never accepted before;
* the reassembly-queue refinements `OrdInv` (DATA: SSN, consecutive TSNs) and `MidInv` (I-DATA: MID/FSN) of
  `Proofs/ReasmOrd.lean` (the invariants behind `C01_reasm_ordered` of `Props/C01.lean`), whose push step asks that
  no fragment is pushed twice (`SSpec.inv_push`, hypothesis `(k, i) ∉ P`): the first fact discharges it.

Vocabulary: `Reasm.Sender` = stream id, the peer's initial TSN `t0`, the messages written on the stream, each
cut into fragments as `packetize` does, and `skip k` = how many TSNs other streams used before message `k`
(streams share the TSN space). `S.dataFrag k i` / `S.idataFrag τ k i` = fragment `i` of message `k` as it
arrives. `delivs si s ops` = the `(PPI, payload)` of every successful read on stream `si` along the run.
`pushes s c` = `handleData` hands chunk `c` to `pushPayloadDataToStream` in state `s`.
-/
namespace C01
open Gen Receiver

/-- ✱ duplicate suppression. In every reachable association state `s` (ANY op list: packets with any chunks,
FORWARD-TSNs and resets included), if `handleData` hands a DATA chunk to its stream, then the chunk's TSN lies in
the tracking window `(cum, cum + maxTSNOffset]`, its absolute index `A + (tsn − cum)` — the TSN counted from
the peer's initial TSN without wrap-around — was NEVER accepted before, and it counts as accepted in every
later state (the chunk taken alone in its packet). Hence an absolute index reaches a stream's `pushWithError` at
most once per association; the same 32-bit TSN value names another index only 2^32 TSNs later. -/
theorem C01_dedup (maxBuf maxEntries : BitVec 32) (il f g : Bool) (am : Int) (t : BitVec 32)
    (ops : List Op) (c : Reasm.Chunk) (imm : Bool) (ops' : List Op) :
    let s0 := init maxBuf maxEntries il f g am t
    let s := run s0 ops
    let R := RecvQ.run (RecvQ.start (getMaxTSNOffset maxBuf) (t - 1)) (runTrace s0 ops)
    let R' := RecvQ.run (RecvQ.start (getMaxTSNOffset maxBuf) (t - 1)) (runTrace s0 (ops ++ Op.pkt [.data c imm] :: ops'))
    pushes s c = true →
      1 ≤ (c.tsn - s.pq.cum).toNat ∧ (c.tsn - s.pq.cum).toNat ≤ s.pq.maxOff.toNat ∧
      ¬ R.h.acc (R.h.A + (c.tsn - s.pq.cum).toNat) ∧ R'.h.acc (R.h.A + (c.tsn - s.pq.cum).toNat) := by
  intro s0 s R R' hp
  have hpq : s.pq = R.q := run_pq_trace maxBuf maxEntries il f g am t ops
  have hg : RecvQ.GInv R := RecvQ.run_ginv (RecvQ.start_ginv _ _) _
  have hmo : R.q.maxOff.toNat ≤ 40000 := hpq ▸ (run_pq_inv maxBuf maxEntries il f g am t ops).2
  -- the chunk alone in its packet: `data_ghost` in the state after `handleChunksStart`
  have hps : pushes (chunksStart s) c = true := by rw [pushes_chunksStart]; exact hp
  obtain ⟨_, _, g3, g4⟩ := data_ghost (chunksStart s) R hpq c imm
  obtain ⟨f1, f2, f3⟩ := hg.fresh hmo (g4 hps)
  rw [hpq]
  refine ⟨f1, f2, f3, ?_⟩
  -- the operation this chunk performs on the queue accepts the index; later operations keep it
  have htr : runTrace s0 (ops ++ Op.pkt [.data c imm] :: ops') =
      runTrace s0 ops ++ (chunkTrace (chunksStart s) (.data c imm) ++ runTrace (step s (.pkt [.data c imm])) ops') := by
    rw [runTrace_append]
    simp only [runTrace, opTrace, chunksTrace, List.append_nil]
    rfl
  show (RecvQ.run _ (runTrace s0 (ops ++ Op.pkt [.data c imm] :: ops'))).h.acc _
  rw [htr, RecvQ.run_append, RecvQ.run_append]
  exact RecvQ.run_acc_mono _ _ _ (runTrace_noInit _ _) ((g3 _).mpr (Or.inr ⟨hps, rfl⟩))


/-! ## the receive-side system theorem -/

/-- ✱ **Receive side, ordered DATA.** Let the peer's streams be described by `senders` (pairwise distinct
stream ids, all starting from the peer's initial TSN `t`, fewer than 2^31 TSNs in all — so that a 32-bit TSN
names one chunk). Take ANY op list in which every inbound chunk is a HEARTBEAT or a DATA fragment
`S.dataFrag k i` of some stream of the universe — in any order, any number of times, with any loss (fragments
never delivered), bundled into packets in any way — interleaved with reads of any buffer size on any stream
object, `accept`, `open`, `gather`, clock ticks and association-state changes. Then for every stream `S` of
the universe the successful reads on stream `S.si` form a PREFIX of the messages written on it (PPI and bytes):
nothing is delivered twice, out of order, truncated, merged or altered, whatever the network did.
Hypothesis `hwin` is the 16-bit SSN window (deviation D15): whenever a fragment of message `k` of this stream
is handed to its reassembly queue, `k` is fewer than 2^15 messages ahead of what the application has read. -/
theorem C01_receiver_prefix (senders : List Reasm.Sender) (t : BitVec 32) (N : Nat) (hN : N < 2^31)
    (hWF : ∀ S ∈ senders, S.WF) (ht0 : ∀ S ∈ senders, S.t0 = t)
    (hidx : ∀ S ∈ senders, ∀ k i, k < S.msgs.length → i < S.nf k → S.base k + i < N)
    (hsi : ∀ S ∈ senders, ∀ S' ∈ senders, S'.si = S.si → S' = S)
    (maxBuf maxEntries : BitVec 32) (il f g : Bool) (am : Int) (ops : List Op)
    (hgood : ∀ cs, Op.pkt cs ∈ ops → ∀ ch ∈ cs, (∃ info, ch = .hb info) ∨
      ∃ S ∈ senders, ∃ k i imm, k < S.msgs.length ∧ i < S.nf k ∧ ch = .data (S.dataFrag k i) imm)
    (S : Reasm.Sender) (hS : S ∈ senders)
    (hwin : ∀ ops1 cs1 k i imm cs2 ops2, ops = ops1 ++ Op.pkt (cs1 ++ InChunk.data (S.dataFrag k i) imm :: cs2) :: ops2 →
      k < S.msgs.length → i < S.nf k →
      pushes (cs1.foldl handleChunk (chunksStart (run (init maxBuf maxEntries il f g am t) ops1))) (S.dataFrag k i) = true →
      k < (delivs S.si (init maxBuf maxEntries il f g am t) ops1).length + 2^15) :
    delivs S.si (init maxBuf maxEntries il f g am t) ops <+: S.msgs.map Reasm.Msg.out :=
  prefix_data ⟨t, N, hN, senders, hWF, ht0, hidx, hsi⟩ maxBuf maxEntries il f g am ops hgood S hS hwin

/-- ✱ **Receive side, ordered I-DATA** (message interleaving): the same statement for fragments
`S.idataFrag τ k i`, whose TSNs `τ k i = t + ν S k i` are ARBITRARY (any interleaving of the streams' fragments
in the TSN space; fewer than 2^31 TSNs in all), with the 32-bit MID window 2^31. -/
theorem C01_receiver_prefix_idata (senders : List Reasm.Sender) (t : BitVec 32) (N : Nat) (hN : N < 2^31)
    (ν : Reasm.Sender → Nat → Nat → Nat)
    (hWF : ∀ S ∈ senders, S.WF)
    (hidx : ∀ S ∈ senders, ∀ k i, k < S.msgs.length → i < S.nf k → ν S k i < N)
    (hsi : ∀ S ∈ senders, ∀ S' ∈ senders, S'.si = S.si → S' = S)
    (maxBuf maxEntries : BitVec 32) (il f g : Bool) (am : Int) (ops : List Op)
    (hgood : ∀ cs, Op.pkt cs ∈ ops → ∀ ch ∈ cs, (∃ info, ch = .hb info) ∨
      ∃ S ∈ senders, ∃ k i imm, k < S.msgs.length ∧ i < S.nf k ∧
        ch = .data (S.idataFrag (fun k i => t + BitVec.ofNat 32 (ν S k i)) k i) imm)
    (S : Reasm.Sender) (hS : S ∈ senders)
    (hwin : ∀ ops1 cs1 k i imm cs2 ops2,
      ops = ops1 ++ Op.pkt (cs1 ++ InChunk.data (S.idataFrag (fun k i => t + BitVec.ofNat 32 (ν S k i)) k i) imm :: cs2) :: ops2 →
      k < S.msgs.length → i < S.nf k →
      pushes (cs1.foldl handleChunk (chunksStart (run (init maxBuf maxEntries il f g am t) ops1)))
        (S.idataFrag (fun k i => t + BitVec.ofNat 32 (ν S k i)) k i) = true →
      k < (delivs S.si (init maxBuf maxEntries il f g am t) ops1).length + 2^31) :
    delivs S.si (init maxBuf maxEntries il f g am t) ops <+: S.msgs.map Reasm.Msg.out :=
  receiver_prefix senders t N hN hWF (fun S h => specIData S h t (ν S))
    (fun S => S.idataFrag (fun k i => t + BitVec.ofNat 32 (ν S k i))) ν (2^31) (fun _ _ => ⟨rfl, rfl, rfl, rfl⟩)
    (fun S hS k i hk hi => ⟨rfl, hidx S hS k i hk hi⟩) hsi maxBuf maxEntries il f g am ops hgood S hS hwin


/-! ### non-vacuity: a two-stream universe across the TSN wrap -/

-- stream 1 writes two messages (2 + 1 fragments), stream 2 one; the peer's initial TSN is 2^32−2, stream 2's
-- message takes the TSN between the two messages of stream 1 (`skip`): TSNs 2^32−2, 2^32−1 | 0 | 1.
private def S1 : Reasm.Sender :=
  { si := 1, t0 := 4294967294#32, msgs := [{ ppi := 51, frags := [[1, 2], [3]] }, { ppi := 52, frags := [[9]] }],
    skip := fun k => if k == 0 then 0 else 1 }
private def S2 : Reasm.Sender :=
  { si := 2, t0 := 4294967294#32, msgs := [{ ppi := 61, frags := [[7]] }], skip := fun _ => 2 }
private def opsX : List Op :=
  [.data (S1.dataFrag 1 0), .read (1, 0) 100, .data (S1.dataFrag 0 1), .data (S1.dataFrag 0 1), .data (S2.dataFrag 0 0),
   .read (2, 0) 100, .gather, .data (S1.dataFrag 0 0), .read (1, 0) 1, .read (1, 0) 100, .data (S1.dataFrag 1 0), .read (1, 0) 100]
private def sX : St := init 65536 0 false true false 0 4294967294#32

-- test by evaluation: out of order, duplicated, across the wrap — both messages of stream 1, in order, once
set_option maxRecDepth 1000000 in
example : delivs 1 sX opsX = [(51, [1, 2, 3]), (52, [9])] ∧ delivs 2 sX opsX = [(61, [7])] := by decide +kernel

-- the theorem applies to this run (all hypotheses hold)
example : delivs 1 sX opsX <+: S1.msgs.map Reasm.Msg.out := by
  refine C01_receiver_prefix [S1, S2] 4294967294#32 10 (by decide +kernel) ?_ ?_ ?_ ?_ 65536 0 false true false 0 opsX ?_ S1 (by simp) ?_
  · intro S hS; simp at hS; rcases hS with rfl | rfl <;> (unfold Reasm.Sender.WF; decide +kernel)
  · intro S hS; simp at hS; rcases hS with rfl | rfl <;> rfl
  · intro S hS k i hk hi
    simp at hS
    rcases hS with rfl | rfl
    · have : k < 2 := hk
      have hk2 : k = 0 ∨ k = 1 := by omega
      rcases hk2 with rfl | rfl
      · have : i < 2 := hi
        have : Reasm.Sender.base S1 0 = 0 := by decide +kernel
        omega
      · have : i < 1 := hi
        have : Reasm.Sender.base S1 1 = 3 := by decide +kernel
        omega
    · have : k < 1 := hk
      have hk0 : k = 0 := by omega
      subst hk0
      have : i < 1 := hi
      have : Reasm.Sender.base S2 0 = 2 := by decide +kernel
      omega
  · intro S hS S' hS' he
    simp at hS hS'
    rcases hS with rfl | rfl <;> rcases hS' with rfl | rfl <;> first | rfl | (exact absurd he (by decide +kernel))
  · intro cs hcs ch hch
    simp only [opsX, Op.data, List.mem_cons, Op.pkt.injEq, reduceCtorEq, List.mem_nil_iff, or_false, false_or] at hcs
    right
    rcases hcs with rfl | rfl | rfl | rfl | rfl | rfl <;> simp only [List.mem_singleton] at hch <;> subst hch
    · exact ⟨S1, by simp, 1, 0, false, by decide +kernel, by decide +kernel, rfl⟩
    · exact ⟨S1, by simp, 0, 1, false, by decide +kernel, by decide +kernel, rfl⟩
    · exact ⟨S1, by simp, 0, 1, false, by decide +kernel, by decide +kernel, rfl⟩
    · exact ⟨S2, by simp, 0, 0, false, by decide +kernel, by decide +kernel, rfl⟩
    · exact ⟨S1, by simp, 0, 0, false, by decide +kernel, by decide +kernel, rfl⟩
    · exact ⟨S1, by simp, 1, 0, false, by decide +kernel, by decide +kernel, rfl⟩
  · intro ops1 cs1 k i imm cs2 ops2 _ hk _ _
    have : k < 2 := hk
    omega

end C01
