import SctpVerif.Proofs.Handshake
/-!
# C13 — association level: a zero checksum is emitted only as negotiated

(The packet-level rules — what `packet.unmarshal` accepts, what `packet.marshal` writes — are in
`Props/C13.lean` on the byte-level codec model.) Here: over the handshake/negotiation model `Hs`,
for EVERY packet either endpoint ever emits in ANY run (any loss / duplication / reordering, any
timer expiries, retransmissions queued and marshalled later by the write loop).
-/
namespace C13
open Hs

/-- Every packet ever put on the wire with a zero checksum field was sent to a peer that declared
zero checksums acceptable, and is neither an INIT nor a COOKIE-ECHO packet. -/
theorem C13_send_zero_only_if_advertised (ilA zcA ilB zcB : Bool) (ops : List Op) :
    let s := (Sys.init ilA zcA ilB zcB).run ops
    (∀ p ∈ s.ha.toList, p.zeroCk = true →
        zcB = true ∧ (match p.msg with | .init .. => False | .cookieEcho .. => False | _ => True)) ∧
    (∀ p ∈ s.hb.toList, p.zeroCk = true →
        zcA = true ∧ (match p.msg with | .init .. => False | .cookieEcho .. => False | _ => True)) := by
  intro s
  have h := run_inv ilA zcA ilB zcB ops
  exact ⟨fun p hp hz => (h.ha p hp).2 hz, fun p hp hz => (h.hb p hp).2 hz⟩

/-- Direction: whether A sends zero checksums depends on B's option only (and vice versa) — the
endpoint's own option plays no role (the v1.8.12 regression as a theorem). -/
theorem C13_direction (ilA zcA ilB zcB : Bool) (ops : List Op) :
    let s := (Sys.init ilA zcA ilB zcB).run ops
    (s.a.sendZero = true → zcB = true) ∧ (s.b.sendZero = true → zcA = true) := by
  intro s
  have h := run_inv ilA zcA ilB zcB ops
  exact ⟨h.a.zero, h.b.zero⟩

/-- The marshalling rule of the association (`marshalPacket`), stated outright. -/
theorem C13_assoc_outbound_rule (e : Ep) (m : Msg) :
    (mkPkt e m).zeroCk = (e.sendZero && !(match m with | .init .. => true | .cookieEcho .. => true | _ => false)) := by
  cases m <;> rfl

/-- The acceptance rule of the association (`unmarshalPacket`), stated outright, and a rejected packet has
no effect whatsoever. -/
theorem C13_assoc_inbound_rule (e : Ep) (p : Pkt) :
    (accepts e p = (!p.zeroCk || (e.zc && !(match p.msg with | .init .. => true | .cookieEcho .. => true | _ => false)))) ∧
    (accepts e p = false → handle e p = (e, [])) := by
  constructor
  · obtain ⟨m, z⟩ := p
    cases z <;> cases m <;> rfl
  · intro h
    exact if_pos (by rw [h]; rfl)

-- non-vacuity: with both options on, a COOKIE-ACK does leave with a zero checksum
example : ((Sys.init false true false true).run [.start false, .deliver false 0, .deliver true 0, .deliver false 1]).hb.toList.any (·.zeroCk) = true := by
  decide +kernel

end C13
