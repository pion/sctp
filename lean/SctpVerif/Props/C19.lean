import SctpVerif.Proofs.Timer
import SctpVerif.Proofs.TimerAuto
import SctpVerif.Gen.Facts
/-!
# C19 — timer laws

Property theorems only. What they are about:

* `Gen.calculateNextTimeout_Rat`, `Gen.rtoManager_*_Rat`, the `Gen.*` constants and the
  `Gen.*Sites` facts are REGENERATED from /repo by the translator on every run;
* `Rto.R.*` (`Model/Rto.lean`) only wires the generated arithmetic to a record;
* `Timer.RtxSys` / `Timer.AckSys` (`Model/Timer.lean`) are hand-written models of
  rtx_timer.go / ack_timer.go with the Go runtime timer as environment; they are tied to the
  code by the synctest correspondence runs, not verified.

`float64` is `Rat` here (rounding is outside the theorems; the `Float` instance is compared with
the Go code bit for bit by the harness). `Tame` = at every step fewer than 255 fired callbacks
are waiting for the timer's mutex (`pending` is a `uint8`).

Not in this file: the association-level parts of the property, on the `Receiver` model, are in
`Props/C19recv.lean` — immediate SACK on gap / duplicate, SACK within 200 ms of every DATA packet
(here only the ack-timer law it rests on), heartbeat echo; the round-trip sample a heartbeat
yields is not a theorem (deviations D1/D2/D11 of DESIGN §6 live there).
-/
namespace C19
open Gen Rto Timer TimerProofs

/-! ## retransmission timeout value -/

/-- Whatever round-trip samples (and resets) arrive, the manager's RTO stays between RTO.Min and
the configured maximum, provided the configured maximum is not below RTO.Min. -/
theorem C19_rto_clamped (rtoMax : Rat) (ops : List R.Op) (h : Gen.rtoMin ≤ (R.new rtoMax).rtoMax) :
    Gen.rtoMin ≤ R.getRTO (R.run (R.new rtoMax) ops) ∧
    R.getRTO (R.run (R.new rtoMax) ops) ≤ (R.new rtoMax).rtoMax := by
  obtain ⟨hi, hm⟩ := minv_run (R.new rtoMax) ops (minv_new rtoMax h)
  have : R.getRTO (R.run (R.new rtoMax) ops) = (R.run (R.new rtoMax) ops).rto := rfl
  rw [this]
  exact ⟨hi.lo, by rw [← hm]; exact hi.hi⟩

/-- non-vacuity: the default configuration (`RTOMax = 0` ↦ 60 s) and any maximum ≥ 1 s qualify;
RTO.Min is one second. -/
example : Gen.rtoMin ≤ (R.new 0).rtoMax := by decide +kernel
example : Gen.rtoMin ≤ (R.new 3000).rtoMax := by decide +kernel
example : Gen.rtoMin = 1000 ∧ (R.new 0).rtoMax = 60000 := by decide +kernel

/-- Back-off of the generated `calculateNextTimeout`: each further expiry doubles the interval up
to the maximum, the sequence never decreases, and from the 31st expiry on it is the maximum.
(`hbig` concerns expiry 31 only, where the code stops shifting: it holds whenever `rto ≥ RTO.Min`
and the maximum is below 2^31 s, see `C19_backoff_protocol_range`.) -/
theorem C19_backoff (rto rtoMax : Rat) (n : Nat) (hrto : 0 ≤ rto) (hmax : 0 ≤ rtoMax)
    (hbig : 30 ≤ n → rtoMax ≤ rto * 2^31) :
    calculateNextTimeout_Rat rto (n+1) rtoMax = min (2 * calculateNextTimeout_Rat rto n rtoMax) rtoMax ∧
    calculateNextTimeout_Rat rto n rtoMax ≤ calculateNextTimeout_Rat rto (n+1) rtoMax ∧
    (31 ≤ n → calculateNextTimeout_Rat rto n rtoMax = rtoMax) ∧
    calculateNextTimeout_Rat rto 0 rtoMax = min rto rtoMax :=
  ⟨backoff_step rto rtoMax n hmax hbig, backoff_mono rto rtoMax n hrto, next_ge rto rtoMax n,
   by rw [next_lt _ _ 0 (by omega), pow_zero, mul_one]⟩

example : (0 : Rat) ≤ 1000 ∧ (0 : Rat) ≤ 60000 ∧ ((30 : Nat) ≤ 30 → (60000 : Rat) ≤ 1000 * 2^31) := by
  refine ⟨by decide +kernel, by decide +kernel, fun _ => by norm_num⟩

/-- In the protocol's range (RTO from the manager, maximum below 2^31 s) doubling holds for
every expiry number. -/
theorem C19_backoff_protocol_range (rto rtoMax : Rat) (n : Nat) (hlo : Gen.rtoMin ≤ rto)
    (hmm : Gen.rtoMin ≤ rtoMax) (hcap : rtoMax ≤ 1000 * 2^31) :
    calculateNextTimeout_Rat rto (n+1) rtoMax = min (2 * calculateNextTimeout_Rat rto n rtoMax) rtoMax := by
  rw [rtoMin_val] at hlo hmm
  refine backoff_step rto rtoMax n (le_trans (by norm_num) hmm) fun _ => le_trans hcap ?_
  exact mul_le_mul_of_nonneg_right hlo (by positivity)

example : Gen.rtoMin ≤ (1000 : Rat) ∧ Gen.rtoMin ≤ (60000 : Rat) ∧ (60000 : Rat) ≤ 1000 * 2^31 := by
  refine ⟨by decide +kernel, by decide +kernel, by norm_num⟩

/-- Every expiry interval of a timer started with the manager's RTO lies in [RTO.Min, max]. -/
theorem C19_interval_bounds (rto rtoMax : Rat) (n : Nat) (hlo : Gen.rtoMin ≤ rto) (hmm : Gen.rtoMin ≤ rtoMax) :
    Gen.rtoMin ≤ calculateNextTimeout_Rat rto n rtoMax ∧ calculateNextTimeout_Rat rto n rtoMax ≤ rtoMax :=
  interval_bounds rto rtoMax n hlo hmm

example : Gen.rtoMin ≤ (1000 : Rat) ∧ Gen.rtoMin ≤ (60000 : Rat) := ⟨by decide +kernel, by decide +kernel⟩

/-- FACT (decide over the generated call-site list): every retransmission timer in non-test code
is started with the manager's current RTO, the manager and all five timers get the same configured
maximum expression, and the `setRTO` test hook (which could bypass the clamp) has no non-test caller. -/
theorem C19_start_uses_manager_rto :
    (Gen.rtxTimerStartSites.all fun p => p.2.2 == "a.rtoMgr.getRTO()") = true ∧
    Gen.rtxTimerStartSites.length = 9 ∧ Gen.setRTOSites = [] ∧
    Gen.rtoMaxArgSites = [("newRTOManager", "rtoMax"), ("newRTXTimer", "rtoMax"), ("newRTXTimer", "rtoMax"),
      ("newRTXTimer", "rtoMax"), ("newRTXTimer", "rtoMax"), ("newRTXTimer", "rtoMax")] := by decide +kernel

/-! ## the rtxTimer automaton -/

/-- For every interleaving of `start/stop/close` with the environment (`fire`, callbacks running
in any order, time passing) that is `Tame`:
the `pending` counter equals [runtime timer armed] + #callbacks fired and not yet run; the runtime
timer is armed only while started and only by (or after) the latest `start`; `nRtos` counts the
real expiries since the latest start; a started timer always has an expiry on its way; and a
callback reaches the observer iff the timer is started, nothing is armed and it is the LAST
outstanding callback — in which case an expiry since the latest start is really due and not yet
accounted for (so stale callbacks are absorbed, and nothing fires after stop/close). -/
theorem C19_timer_automaton (tid k : Nat) (ops : List Op) (i : Nat)
    (ht : RtxSys.Tame (RtxSys.new tid k) ops) :
    let s := ((RtxSys.new tid k).exec ops).1
    s.t.pending.toNat = (if s.g.armed.isSome then 1 else 0) + s.g.spawned.length ∧
    (∀ d tag, s.g.armed = some (d, tag) → s.t.state = .started ∧ tag = s.epoch) ∧
    (s.t.state = .started → s.t.nRtos + (if s.g.armed.isSome then 0 else 1) = s.fires) ∧
    (s.t.state = .started → s.g.armed.isSome ∨ s.g.spawned ≠ []) ∧
    (i < s.g.spawned.length →
      ((s.run i).2.isSome ↔ (s.t.state = .started ∧ s.g.armed = none ∧ s.g.spawned.length = 1)) ∧
      ((s.run i).2.isSome → s.fires = s.t.nRtos + 1)) := by
  intro s
  have hinv : RInv tid k s := rinv_exec _ ops (rinv_new tid k) ht
  refine ⟨hinv.pinv.cnt, fun d tag hx => ⟨hinv.pinv.armedStarted (by rw [hx]; rfl), hinv.armedTag d tag hx⟩,
    hinv.acct, hinv.pinv.due, fun hi => ⟨run_delivers_iff s i hinv hi, fun hdel => ?_⟩⟩
  obtain ⟨e, he⟩ := Option.isSome_iff_exists.mp hdel
  exact (run_report hinv he).1

/-- non-vacuity and a replayed scenario (TEST by `decide` on one trace): start, fire, the callback
runs → observer gets (3, 1) and the timer is re-armed. -/
example : RtxSys.Tame (RtxSys.new 3 0) [.start (fun _ => 1), .fire, .run 0] := by decide +kernel
example : ((RtxSys.new 3 0).exec [.start (fun _ => 1), .fire, .run 0]).2 = [.timeout 3 1] := by decide +kernel

/-- When callbacks run in the order they were spawned, the oldest one reaches the observer iff
the timer is started and that callback stems from an arming made by (or after) the latest
`start` — the identity form of stale-expiry suppression. -/
theorem C19_timer_automaton_fifo (tid k : Nat) (ops : List Op)
    (ht : RtxSys.Tame (RtxSys.new tid k) ops) (hf : Fifo ops) :
    let s := ((RtxSys.new tid k).exec ops).1
    0 < s.g.spawned.length →
    ((s.run 0).2.isSome ↔ (s.t.state = .started ∧ s.g.spawned.head? = some s.epoch)) := by
  intro s hi
  exact fifo_delivers_iff s (rinv_exec _ ops (rinv_new tid k) ht)
    (finv_exec _ ops (rinv_new tid k) (finv_new tid k) ht hf) hi

example : Fifo [.start (fun _ => 1), .fire, .run 0] ∧ RtxSys.Tame (RtxSys.new 3 0) [.start (fun _ => 1), .fire, .run 0] := by
  refine ⟨?_, by decide +kernel⟩
  intro o ho i hi
  simp only [List.mem_cons, List.mem_nil_iff, or_false] at ho
  rcases ho with rfl | rfl | rfl <;> cases hi
  rfl

/-- WITNESS (decide on one trace) that the identity form needs in-order execution: when the fresh
callback (tag 2) happens to run before the stale one (tag 1), the code swallows the fresh one and
reports the expiry when the stale one runs. The count-based statement of `C19_timer_automaton`
still holds: one report, after the real expiry. -/
theorem C19_out_of_order_witness :
    let pre : List Op := [.start (fun _ => 1), .fire, .stop, .start (fun _ => 1), .fire]
    ((RtxSys.new 3 0).exec pre).1.g.spawned = [1, 2] ∧ ((RtxSys.new 3 0).exec pre).1.epoch = 2 ∧
    ((RtxSys.new 3 0).exec (pre ++ [.run 1])).2 = [] ∧
    ((RtxSys.new 3 0).exec (pre ++ [.run 1, .run 0])).2 = [.timeout 3 1] := by decide +kernel

/-- WITNESS (one trace; replayed on the implementation as known finding K19-pending-uint8)
that `Tame` cannot be dropped: `pending` is a `uint8`. After 256 rounds of start / fire / stop with
none of the 256 callbacks having run yet, the counter has wrapped to 0; the timer is started
afresh (armed, nothing fired since: `fires = 0`), and the first stale callback that runs is taken
for its expiry. Needs 256 goroutines stalled in front of the timer's mutex. -/
theorem C19_pending_wrap_witness :
    let ops : List Op := (List.replicate 256 [Op.start (fun _ => 1), Op.fire, Op.stop]).flatten ++ [Op.start (fun _ => 1)]
    let s := ((RtxSys.new 3 0).exec ops).1
    s.g.spawned.length = 256 ∧ s.t.pending = 1 ∧ s.fires = 0 ∧ s.g.armed.isSome = true ∧
    (s.run 0).2 = some (.timeout 3 1) := by
  intro ops s
  have hs : s = _ := (exec_append _ _ _).trans (by rw [leak_rounds _ 255 _ rfl rfl])
  rw [hs]
  decide +kernel

/-! ## retry budget -/

/-- Whatever a callback reports is determined by the budget: with `maxRetrans = k` the report is
`failure` iff `k ≠ 0` and this is expiry number `k+1` since the latest start (exactly: never
earlier, never later), otherwise it is `timeout(id, n)` with `n` = the number of real expiries
since the latest start. FACTS from the generated call sites: T1-init and T1-cookie are created
with `maxInitRetrans` = 8, T2-shutdown, T3-rtx and the reconfig timer with `noMaxRetrans` = 0. -/
theorem C19_retry_budget :
    (∀ (tid k : Nat) (ops : List Op) (i : Nat) (e : Ev),
      RtxSys.Tame (RtxSys.new tid k) ops →
      let s := ((RtxSys.new tid k).exec ops).1
      (s.run i).2 = some e →
        s.fires = s.t.nRtos + 1 ∧
        ((e = .failure tid ∧ k ≠ 0 ∧ s.fires = k + 1) ∨
         (e = .timeout tid s.fires ∧ (k = 0 ∨ s.fires ≤ k)))) ∧
    Gen.rtxTimerSites = [("timerT1Init", "maxInitRetrans"), ("timerT1Cookie", "maxInitRetrans"),
      ("timerT2Shutdown", "noMaxRetrans"), ("timerT3RTX", "noMaxRetrans"), ("timerReconfig", "noMaxRetrans")] ∧
    Gen.maxInitRetrans = 8 ∧ Gen.noMaxRetrans = 0 := by
  refine ⟨?_, by decide +kernel, by decide +kernel, by decide +kernel⟩
  intro tid k ops i e ht s he
  exact run_report (rinv_exec _ ops (rinv_new tid k) ht) he

/-- TEST by `decide`: with a budget of 2 the third expiry is the failure report. -/
example : ((RtxSys.new 0 2).exec [.start (fun _ => 1), .fire, .run 0, .fire, .run 0, .fire, .run 0]).2
    = [.timeout 0 1, .timeout 0 2, .failure 0] := by decide +kernel

/-- A timer created with `maxRetrans = 0` (data, shutdown, reconfig) never reports failure, in any
interleaving at all; and as long as it is started an expiry is always on its way. -/
theorem C19_never_gives_up (tid : Nat) (ops : List Op) :
    (∀ e ∈ ((RtxSys.new tid 0).exec ops).2, ∀ x, e ≠ .failure x) ∧
    (RtxSys.Tame (RtxSys.new tid 0) ops →
      let s := ((RtxSys.new tid 0).exec ops).1
      s.t.state = .started → s.g.armed.isSome ∨ s.g.spawned ≠ []) := by
  refine ⟨no_failure_of_zero _ ops rfl, fun ht => ?_⟩
  exact (C19_timer_automaton tid 0 ops 0 ht).2.2.2.1

/-! ## Karn's rule -/

/-- FACT (decide over the generated call-site list): `setNewRTT` is called at exactly three places;
the two in SACK processing (cumulative-ack path and gap-ack path) are both guarded by
`chunkPayload.nSent == 1` (chunks that were not retransmitted), the third is the HEARTBEAT-ACK
handler. -/
theorem C19_karn :
    (Gen.setNewRTTSites.all fun p =>
      p.1 == "Association.handleHeartbeatAck" || p.2.contains "chunkPayload.nSent == 1") = true ∧
    Gen.setNewRTTSites.map (·.1) =
      ["Association.handleHeartbeatAck", "Association.processSelectiveAck", "Association.processSelectiveAck"] := by
  decide +kernel

/-! ## ack timer -/

/-- PARTIAL: the ack-timer law the 200 ms bound rests on (the association-level statement — after
every DATA packet the ack state is immediate or this timer is armed — is `C19_ack_delay_bound` in
`Props/C19recv.lean`, on the `Receiver` model). For every `Tame` interleaving: while the timer is started, either the runtime timer is
armed for exactly `since + 200 ms` (`since` = instant of the `start` that armed it, `≤ now`), or
it has already fired and its callback is outstanding; a `start` on a started timer reports
`false` and changes nothing (the deadline is not pushed back); the callback reaches the observer
iff the timer is started, nothing is armed and it is the last outstanding one, and that stops the
timer (one shot). FACT: the only `start` site is `handleChunksEnd` under
`!immediateAckTriggered && delayedAckTriggered`; with `immediateAckTriggered` the timer is stopped. -/
theorem C19_ack_delay_bound_partial (ops : List Op) (i : Nat) (ht : AckSys.Tame {} ops) :
    let s := (AckSys.exec {} ops).1
    Gen.ackInterval = 200000000 ∧ s.since ≤ s.now ∧
    (s.t.state = .started →
      (∃ tag, s.g.armed = some (s.since + Gen.ackInterval, tag)) ∨ (s.g.armed = none ∧ s.g.spawned ≠ [])) ∧
    (s.t.state = .started → s.start = (s, false)) ∧
    (i < s.g.spawned.length →
      ((s.run i).2.isSome ↔ (s.t.state = .started ∧ s.g.armed = none ∧ s.g.spawned.length = 1)) ∧
      ((s.run i).2.isSome → (s.run i).2 = some .ack ∧ (s.run i).1.t.state = .stopped)) ∧
    Gen.ackTimerStartSites = [("Association.handleChunksEnd", ["!(a.immediateAckTriggered)", "a.delayedAckTriggered"])] ∧
    ("Association.handleChunksEnd", ["a.immediateAckTriggered"]) ∈ Gen.ackTimerStopSites := by
  intro s
  have hinv : AInv s := ainv_exec _ ops ainv_new ht
  exact ⟨rfl, hinv.since_le, ainv_started hinv,
    fun hst => AckSys.start_of_not_stopped (by rw [hst]; nofun),
    ack_run_delivers hinv, by decide +kernel, by decide +kernel⟩

/-- TEST by `decide`: start at 0, a second start at 150 ms is refused, the runtime timer stays
armed for 200 ms. -/
example : (AckSys.exec {} [.start (fun _ => 0), .tick 150000000, .start (fun _ => 0)]).1.g.armed
    = some (200000000, 1) := by decide +kernel
example : AckSys.Tame {} [.start (fun _ => 0), .tick 150000000, .start (fun _ => 0)] := by decide +kernel

end C19
