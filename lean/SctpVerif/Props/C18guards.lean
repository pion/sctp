import SctpVerif.Gen.Facts
/-!
# C18 — state guards of the code, pinned

`Gen.stateTests` is REGENERATED from /repo on every run by the translator (`go/extract/facts_state.go`): per function,
every comparison of the association state with a state constant, every `case` over state constants and every `setState`
call, in source order. This file pins that list for the state gates of the write path (`Sender.write`: `notEstablished` branch) and of stream opening / closing.
The hand-written L0 models mirror exactly these guards; the correspondence harnesses compare behaviour. A change of a guard
in the code breaks this obligation at once (a syntactic tie: a harmless rewrite breaks it too — then the expectation here is
to be updated after checking the models), and the harness jobs of C18 look for a concrete failing input.
-/
namespace C18

theorem C18_state_guards_pinned :
    Gen.stateTests.filter (fun p => ["Association.OpenStream", "Association.sendPayloadData", "Association.sendResetRequest"].contains p.1) =
    [("Association.OpenStream", ["case shutdownAckSent,shutdownPending,shutdownReceived,shutdownSent,closed"]),
     ("Association.sendPayloadData", ["state != established", "state != established"]),
     ("Association.sendResetRequest", ["state != established"])] := by decide +kernel

end C18
