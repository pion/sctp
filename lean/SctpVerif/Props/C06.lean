import SctpVerif.Proofs.StreamApi
/-!
# C06 (API-visible half) — DCEP is always reliable and ordered; retransmission policies bound the transmissions

Property theorems only. They are about the L0 models `Sender` (`Model/Sender.lean`: `checkPartialReliabilityStatus`,
`abandoned()` = marked ∧ all fragments in flight, the three retransmission paths of a gather, T3 / RACK / PTO marking) and
`Sapi` (`Model/StreamApi.lean`: `WriteSCTP` … on top of it), tied to the code by the direct-drive harnesses
(`TestVerifAssocSender`, `TestVerifStreamAPI`: per-chunk `nSent`, abandoned flags, DATA packets and FORWARD-TSN of every
gather are compared) and by regenerated expression sites: `Gen.checkPR_*` (the abandonment decision), `Gen.abandoned_*`,
and the `abandoned()` tests of every marking / retransmission path (`C06_abandon_decision`, `C06_abandoned_skipped`).

Quantification: all states / arguments for the decision theorems; ALL operation lists of the stream-API model (`Sapi.Op`:
writes on any stream, gathers with arbitrary budget / selection oracles, SACKs with arbitrary contents, T3, clock ticks
with arbitrary RACK / PTO marks, state changes, closes, reads) for the bounds, from any state satisfying the stated
invariant (it holds when the stream has just been opened with the policy).

The receive-side half of C06 (at most once, intact, subsequence) is not in this file (Reasm / receiver work).

Findings the theorems make precise: **D14** (known): `abandoned()` needs all fragments in flight, so for fragmented
messages the bounds hold only for the last fragment — `C06_rexmit_bound_fragmented_partial`, `C06_D14_witness`.
**D21** (found on the tree before 6ddfdda, now fixed there): `getDataPacketsToRetransmit` did not look at `abandoned()`; a
chunk that carried a T3 mark, was fast-retransmitted first and became abandoned by that transmission was sent once more —
under a lifetime policy a SECOND transmission after expiry. With the fix every retransmission path skips abandoned chunks
(`C06_abandoned_skipped`), an abandoned() message is never transmitted again (`C06_abandoned_never_retransmitted`), and
the lifetime bound holds at full strength for unfragmented messages (`C06_timed_bound`); the old witness is now a
regression guard (`C06_D21_fixed`, corpus/C06/sapi_d21_timed_second_late_transmission.ops).
-/
namespace C06
open Gen Sapi SapiProofs SenderProofs

/-- **DCEP is sent ordered and is never abandoned** (full strength), for any reliability parameters of the stream:
(1) `packetize` clears the U flag for PPI = DCEP whatever the stream's `unordered` setting, on every fragment;
(2) `checkPartialReliabilityStatus` never marks a DCEP chunk, whatever the policy, the transmission count, the clock;
(3) so an accepted `write` with PPI = DCEP queues ordered chunks only. -/
theorem C06_dcep_reliable_ordered :
    (∀ (cfg : Sender.Cfg) (st : Sender.Stream) (si : BitVec 16) (msg len : Nat),
      (Sender.packetize cfg st si msg dcep len).unordered = false ∧
      ∀ c ∈ (Sender.packetize cfg st si msg dcep len).chunks, c.unordered = false ∧ c.ppi = dcep) ∧
    (∀ (s : Sender.St) (ab : List Nat) (c : Sender.Chunk), c.ppi = dcep → Sender.checkPR s ab c = ab) ∧
    (∀ (s : St) (si : BitVec 16) (len : Nat) (dl : Option Nat) (n : Nat), (write s si dcep len dl).2 = .ok n → n ≠ 0 →
      ∃ cs, (write s si dcep len dl).1.snd.pending = s.snd.pending ++ cs ∧ ∀ c ∈ cs, c.unordered = false ∧ c.ppi = dcep) := by
  refine ⟨?_, ?_, ?_⟩
  · intro cfg st si msg len
    have hu : (Sender.packetize cfg st si msg dcep len).unordered = false := by simp [Sender.packetize, dcep]
    refine ⟨hu, ?_⟩
    intro c hc
    have hm := mkChunks_static si msg dcep _ _ _ _ 0 true c (by simpa [Sender.packetize] using hc)
    exact ⟨by rw [hm.1]; simp [dcep], hm.2.1⟩
  · intro s ab c hp
    simp only [Sender.checkPR]
    split
    · rfl
    · have : (c.ppi == BitVec.ofNat 32 PayloadTypeWebRTCDCEP) = true := by rw [hp]; simp [dcep]
      simp [this]
  · intro s si len dl n hr hn
    obtain ⟨st, cs, u, _, _, h3, _, _, h6, h7, _⟩ := write_ok_shape s si dcep len dl n hr hn
    refine ⟨cs, h3, ?_⟩
    intro c hc
    obtain ⟨i, hi⟩ := List.getElem?_of_mem hc
    obtain ⟨_, a2, a3, _⟩ := h6 i c hi
    exact ⟨by rw [a3, h7]; simp [dcep], a2⟩

/-- non-vacuity: a DCEP message on an unordered stream with retransmission limit 0 is queued ordered, sent, lost three
times over (T3, T3, fast retransmission marks) and never abandoned; an ordinary message on the same stream is -/
example :
    let s := run (init { mtu := 1200, maxPayload := 1172 } false 1000 1048576)
      [.openS 1 true 1 0, .write 1 50 20 none, .write 1 53 30 none, .gather Sender.freeOracle [0, 0] none, .t3,
       .gather Sender.freeOracle [] none, .t3, .gather Sender.freeOracle [] none]
    s.snd.inflight.map (fun c => (c.ppi.toNat, c.unordered, c.nSent.toNat, s.snd.abandoned c)) = [(50, false, 3, false), (53, true, 1, true)] := by
  decide +kernel

/-- **The abandonment decision is the code's.** `Sender.checkPR` (the model of `checkPartialReliabilityStatus`, with the
`firstSent` of the D19 fix) written with the conditions the translator regenerates from the source on every run: not
enabled → nothing; DCEP → nothing; stream not in the table → nothing; retransmission limit: `nSent >= value`; lifetime:
`elapsed (ms since the FIRST transmission) >= value`; and `abandoned()` = marked ∧ all fragments in flight, read through
the head fragment. A changed comparison or a dropped exemption in /repo changes these definitions and breaks this theorem. -/
theorem C06_abandon_decision (s : Sender.St) (ab ai : List Nat) (c : Sender.Chunk) :
    Sender.checkPR s ab c =
      (if checkPR_disabled s.cfg.prEnabled then ab
       else if checkPR_isDCEP c.ppi then ab
       else match s.streams c.si with
         | none => ab
         | some st =>
           if !st.registered then ab
           else if checkPR_isRexmit st.relType then (if checkPR_rexmitExhausted c.nSent st.relVal then c.msg :: ab else ab)
           else if checkPR_isTimed st.relType then
             (if checkPR_timedExpired ((s.now - c.firstSent : Nat) : Int) st.relVal then c.msg :: ab else ab)
           else ab) ∧
    Sender.isAbandoned ab ai c = abandoned_viaHead (ab.contains c.msg) (ai.contains c.msg) ∧
    Sender.isAbandoned ab ai c = abandoned_self (ab.contains c.msg) (ai.contains c.msg) := by
  refine ⟨?_, rfl, rfl⟩
  simp only [Sender.checkPR, checkPR_disabled, checkPR_isDCEP, checkPR_isRexmit, checkPR_isTimed, checkPR_rexmitExhausted,
    checkPR_timedExpired, PayloadTypeWebRTCDCEP, ReliabilityTypeRexmit, ReliabilityTypeTimed]
  simp only [decide_eq_true_eq, Int.ofNat_le, ge_iff_le]
  cases s.streams c.si <;> rfl

/-- **Every path that marks or picks a chunk for retransmission, and the advance of the peer ack point, test `abandoned()`
as the code does** (regenerated sites): T3 marking (`markAllToRetrasmit`), miss indications (`processFastRetransmission`),
the fast-retransmission gather, RACK after a SACK, the RACK timer and PTO (oracle marks of the model: applied to chunks
that are neither acked nor abandoned), the two loops that advance `advancedPeerTSNAckPoint`, and (since the D21 fix) the T3-retransmission gather
`getDataPacketsToRetransmit`: a marked chunk that is abandoned() is passed over. -/
theorem C06_abandoned_skipped (s : Sender.St) (c : Sender.Chunk) (marks : List (BitVec 32)) :
    (∀ {B : Type} (allow : B → Int → Bool × B) (awnd : BitVec 32) (i : Int) (a : Sender.LoopAcc B), c.retransmit = true →
      rtx_skipsAbandoned (Sender.isAbandoned a.aband s.allInflightMsgs c) = true → Sender.rtxDecide s allow awnd i a c = .skip) ∧
    (Sender.markAllToRetransmit s = s.inflight.map fun c => if markAll_skips c.acked (s.abandoned c) then c else { c with retransmit := true }) ∧
    ((!c.acked && !s.abandoned c && decide (c.missIndicator < 3)) = miss_eligible c.acked (s.abandoned c) c.missIndicator) ∧
    ((c.acked || Sender.isAbandoned s.abandonedMsgs s.allInflightMsgs c) = fastRtx_skipsDone c.acked (s.abandoned c)) ∧
    ((Sender.applyMarks s marks).inflight = s.inflight.map fun c =>
        if marks.contains c.tsn && !rackSack_skips c.acked (s.abandoned c) then { c with retransmit := true } else c) ∧
    (rackSack_skips c.acked (s.abandoned c) = rackTimeout_skips c.acked (s.abandoned c) ∧
     rackSack_skips c.acked (s.abandoned c) = pto_skips c.acked (s.abandoned c)) ∧
    ((!s.abandoned c) = advanceSack_stops (s.abandoned c) ∧ (!s.abandoned c) = advanceT3_stops (s.abandoned c)) := by
  refine ⟨?_, rfl, rfl, rfl, ?_, ⟨rfl, rfl⟩, ⟨rfl, rfl⟩⟩
  · intro B allow awnd i a hr ha
    simp only [rtx_skipsAbandoned] at ha
    simp [Sender.rtxDecide, hr, ha]
  simp only [Sender.applyMarks, rackSack_skips]
  congr 1
  funext x
  cases marks.contains x.tsn <;> cases x.acked <;> cases s.abandoned x <;> rfl

/-! ### the bounds along runs -/

/-- the invariant behind the bounds holds when the stream has just been opened with the policy -/
theorem C06_invariant_initial (cfg : Sender.Cfg) (bw : Bool) (tsn rw : BitVec 32) (hc : CfgOk cfg) (hpr : cfg.prEnabled = true)
    (σ : BitVec 16) (u : Bool) (v : BitVec 32) :
    RInv (KRex σ v) Unmarked (RexCtx σ v) (step (init cfg bw tsn rw) (.openS σ u (BitVec.ofNat 8 ReliabilityTypeRexmit) v)) ∧
    RInv (KTimed σ v) (fun _ => True) (TimedCtx σ v) (step (init cfg bw tsn rw) (.openS σ u (BitVec.ofNat 8 ReliabilityTypeTimed) v)) := by
  have hopen : ∀ rt, (step (init cfg bw tsn rw) (.openS σ u rt v)).snd = Sender.openStream (Sender.init cfg tsn rw) σ u rt v 0 := by
    intro rt
    have : ¬ openRefused (init cfg bw tsn rw).state = true := by simp [init, openRefused, established, shutdownAckSent, shutdownPending, shutdownReceived, shutdownSent, closed]
    exact (open_frame (init cfg bw tsn rw) σ u rt v this).2.2
  have hw : ∀ rt, (step (init cfg bw tsn rw) (.openS σ u rt v)).waiters = [] := by
    intro rt
    have : ¬ openRefused (init cfg bw tsn rw).state = true := by simp [init, openRefused, established, shutdownAckSent, shutdownPending, shutdownReceived, shutdownSent, closed]
    exact (open_frame (init cfg bw tsn rw) σ u rt v this).1
  have hpol : ∀ rt : Nat, Policy (Sender.openStream (Sender.init cfg tsn rw) σ u (BitVec.ofNat 8 rt) v 0) σ rt v := by
    intro rt
    exact ⟨hpr, { unordered := u, relType := BitVec.ofNat 8 rt, relVal := v, threshold := 0, hasCb := true },
      by simp [Sender.openStream, Sender.setStream, Sender.init], rfl, rfl, rfl⟩
  refine ⟨⟨⟨by rw [hopen]; exact hc, by rw [hopen]; exact hpol _⟩, ?_, ?_, ?_⟩, ⟨⟨by rw [hopen]; exact hc, by rw [hopen]; exact hpol _⟩, ?_, ?_, ?_⟩⟩
  · rw [hopen]; intro c hc'; simp [Sender.openStream, Sender.setStream, Sender.init] at hc'
  · rw [hopen]; intro c hc'; simp [Sender.openStream, Sender.setStream, Sender.init] at hc'
  · rw [hw]; intro w hw'; cases hw'
  · rw [hopen]; intro c hc'; simp [Sender.openStream, Sender.setStream, Sender.init] at hc'
  · rw [hopen]; intro c hc'; simp [Sender.openStream, Sender.setStream, Sender.init] at hc'
  · rw [hw]; intro w hw'; cases hw'

/-- **Retransmission limit N: at most N+1 transmissions** (full strength for unfragmented messages; in general for the
last fragment of every message). Stream `σ` under a retransmission limit `N` with FORWARD-TSN negotiated; any run that
does not re-open or re-configure `σ` (everything else is allowed, on `σ` and on other streams). Then in every reachable
state every in-flight chunk of `σ` that is an ending fragment (E flag: in particular every unfragmented message) and
not DCEP has `nSent ≤ max 1 N ≤ N+1`, and every such chunk that ANY gather puts on the wire — new DATA, T3-path
retransmission, fast retransmission — carries `nSent ≤ max 1 N`. `nSent` is the transmission ordinal: 1 when the chunk is
moved to in-flight, `+1` by `rtxUpd` / `fastUpd` for every later appearance in a packet (the record in the packet is the
updated chunk). (The code's test is `nSent >= N`: the chunk is abandoned when its N-th transmission is made, one
transmission earlier than the statement allows; N = 0 behaves like N = 1.) -/
theorem C06_rexmit_bound (σ : BitVec 16) (N : BitVec 32) (s : St) (h : RInv (KRex σ N) Unmarked (RexCtx σ N) s)
    (ops : List Op) (hops : ∀ op ∈ ops, Keeps σ op) :
    (∀ c ∈ (run s ops).snd.inflight, c.si = σ → c.ppi ≠ dcep → c.efrag = true →
      c.nSent.toNat ≤ max 1 N.toNat ∧ c.nSent.toNat ≤ N.toNat + 1) ∧
    (∀ orc sel woke, ∀ p ∈ (gather (run s ops) orc sel woke).2.out.packets, ∀ e ∈ p,
      e.si = σ → e.ppi ≠ dcep → e.efrag = true → e.nSent.toNat ≤ max 1 N.toNat ∧ e.nSent.toNat ≤ N.toNat + 1) := by
  obtain ⟨a, b⟩ := run_holds (rex_hyp σ N) s h ops hops
  exact ⟨fun c hc => (a c hc).bound, fun orc sel woke p hp e he => (b orc sel woke p hp e he).bound⟩

/-- non-vacuity, and the bound `max 1 N` is met: limit 2, unfragmented messages; T3 marks 1000 and 1001, the closed window
lets only 1000 out, three gap reports fast-retransmit 1001 (2nd transmission: limit reached, abandoned). The T3 mark it
still carries no longer sends it a 3rd time (D21 fix); nothing more, whatever is tried (T3 again, RACK marks) -/
example :
    let s := run (init { mtu := 1200, maxPayload := 1172 } false 1000 1048576)
      [.openS 1 false 1 2, .write 1 53 1100 none, .write 1 53 1100 none, .write 1 53 1100 none,
       .gather Sender.freeOracle [0, 0, 0] none, .t3,
       .sack 999 1500 [(3, 3)] [], .sack 999 1500 [(3, 3)] [], .sack 999 1500 [(3, 3)] [],
       .gather Sender.freeOracle [] none, .sack 1000 1048576 [(2, 2)] [], .gather Sender.freeOracle [] none,
       .t3, .gather Sender.freeOracle [] none, .tick 5000 2 [1001], .gather Sender.freeOracle [] none]
    s.snd.inflight.map (fun c => (c.tsn.toNat, c.nSent.toNat, s.snd.abandoned c)) = [(1001, 2, true), (1002, 1, false)] := by decide +kernel

/-- **Fragmented messages: what the code really guarantees** (partial: D14).
FULL STATEMENT (false for this implementation, `C06_D14_witness`): under a retransmission limit N every chunk is put on
the wire at most N+1 times.
PROVED, for every fragment of every message of `σ` (not DCEP), in every reachable state and for every chunk any gather
emits: once a fragment has been transmitted N times its message is MARKED abandoned (`_abandoned` on the head: the
decision is taken at every transmission, independent of fragmentation) — but `abandoned()` additionally needs the last
fragment to have left the pending queue, and until then T3 / RACK / fast retransmission keep sending the marked
fragments. The N+1 bound is proved for the ending fragment (`C06_rexmit_bound`); from the moment the message is
abandoned() no fragment is transmitted again (`C06_abandoned_never_retransmitted`).
MISSING for the full statement: nothing provable — the code retransmits fragments of a marked message while its tail is
still pending (design choice, known finding D14). -/
theorem C06_rexmit_bound_fragmented_partial (σ : BitVec 16) (N : BitVec 32) (s : St) (h : RInv (KRex σ N) Unmarked (RexCtx σ N) s)
    (ops : List Op) (hops : ∀ op ∈ ops, Keeps σ op) :
    (∀ c ∈ (run s ops).snd.inflight, c.si = σ → c.ppi ≠ dcep → N.toNat ≤ c.nSent.toNat → c.msg ∈ (run s ops).snd.abandonedMsgs) ∧
    (∀ orc sel woke, ∀ p ∈ (gather (run s ops) orc sel woke).2.out.packets, ∀ e ∈ p,
      e.si = σ → e.ppi ≠ dcep → N.toNat ≤ e.nSent.toNat → e.msg ∈ (Sender.gather (run s ops).snd orc sel).1.abandonedMsgs) := by
  obtain ⟨a, b⟩ := run_holds (rex_hyp σ N) s h ops hops
  exact ⟨fun c hc => (a c hc).marked, fun orc sel woke p hp e he => (b orc sel woke p hp e he).marked⟩

/-- the witness of D14 on the model (the implementation does the same: corpus/C06/known/d14_rexmit_limit_fragmented.ops):
limit 0, a 2-fragment message, the zero window lets only the first fragment out; T3: it is sent a second time (2 > N+1 = 1)
although its message is marked, because the tail is still pending -/
theorem C06_D14_witness :
    let s := run (init { mtu := 1200, maxPayload := 1168 } false 100 0)
      [.openS 1 false 1 0, .write 1 53 2000 none, .gather Sender.freeOracle [0, 0] none, .t3, .gather Sender.freeOracle [0] none]
    s.snd.inflight.map (fun c => (c.nSent.toNat, c.efrag, s.snd.abandonedMsgs.contains c.msg, s.snd.abandoned c)) = [(2, false, true, false)] ∧
    s.snd.pending.length = 1 := by decide +kernel

/-- **Once a message is abandoned() it is never transmitted again** (all policies, fragmented or not; holds since the
D21 fix). Take any state in which message `m` is abandoned() (marked and all its fragments in flight: none of its chunks
is pending or held by a parked call), and let `B` be a snapshot of the transmission counts of its in-flight chunks
(indexed by TSN). Then after ANY operation list every in-flight chunk of `m` still has `nSent ≤ B tsn` — the counter every
appearance on the wire increments never moves again — and every chunk of `m` a gather would put on the wire has
`nSent ≤ B tsn` as well (so it is not a new transmission: a transmission stamps `old nSent + 1`). -/
theorem C06_abandoned_never_retransmitted (m : Nat) (B : BitVec 32 → Nat) (s : St) (hc : CfgOk s.snd.cfg) (hm : m < s.snd.nextMsg)
    (hab : m ∈ s.snd.abandonedMsgs) (hai : m ∈ s.snd.allInflightMsgs)
    (hB : ∀ c ∈ s.snd.inflight, c.msg = m → c.nSent.toNat ≤ B c.tsn)
    (hpen : ∀ c ∈ s.snd.pending, c.msg ≠ m) (hwait : ∀ w ∈ s.waiters, ∀ c ∈ w.chunks, c.msg ≠ m) (ops : List Op) :
    (∀ c ∈ (run s ops).snd.inflight, c.msg = m → c.nSent.toNat ≤ B c.tsn) ∧
    (∀ orc sel woke, ∀ p ∈ (gather (run s ops) orc sel woke).2.out.packets, ∀ e ∈ p, e.msg = m → e.nSent.toNat ≤ B e.tsn) := by
  have h0 : RInv (Frozen m B) (fun c => c.msg ≠ m) (FrozenCtx m) s :=
    ⟨⟨hc, hm⟩, fun c hc' hcm => ⟨⟨hab, hai⟩, hB c hc' hcm⟩, hpen, hwait⟩
  obtain ⟨a, b⟩ := run_holds (frozen_hyp m B) s h0 ops (fun _ _ => trivial)
  exact ⟨fun c hc' hcm => (a c hc' hcm).2, fun orc sel woke p hp e he hem => (b orc sel woke p hp e he hem).2⟩

/-- non-vacuity: the hypotheses hold for message 1 (TSN 1001) in the D21 scenario after its fast retransmission (marked, all in
flight, transmitted twice): it stays at two transmissions -/
example :
    let s1 := run (init { mtu := 1200, maxPayload := 1172 } false 1000 1048576)
      [.openS 1 false 2 50, .write 1 53 1100 none, .write 1 53 1100 none, .write 1 53 1100 none,
       .gather Sender.freeOracle [0, 0, 0] none, .tick 100 0 [], .t3,
       .sack 999 1500 [(3, 3)] [], .sack 999 1500 [(3, 3)] [], .sack 999 1500 [(3, 3)] [],
       .gather Sender.freeOracle [] none]
    (1 < s1.snd.nextMsg ∧ 1 ∈ s1.snd.abandonedMsgs ∧ 1 ∈ s1.snd.allInflightMsgs) ∧
    s1.snd.inflight.all (fun c => c.msg != 1 || decide (c.nSent.toNat ≤ 2)) = true ∧ s1.snd.pending.all (fun c => c.msg != 1) = true ∧
    s1.waiters = [] := by decide +kernel

/-- **Lifetime L: once it has expired at most one further transmission** (full strength for unfragmented messages; in
general for the last fragment of every message). Stream `σ` under a lifetime of `L` ms with FORWARD-TSN negotiated; any
run that does not re-open or re-configure `σ`. For every in-flight chunk of `σ` (not DCEP) in every reachable state, and
every chunk any gather puts on the wire: if its LAST transmission (`since`) happened `L` ms or more after its FIRST
(`firstSent`: D19 fix) then its message is marked abandoned, and if the chunk is an ending fragment the message is also
flagged all-in-flight — it is abandoned(). By `C06_abandoned_never_retransmitted` it is then never transmitted again: the
transmission that finds the lifetime expired is the last one. (Non-final fragments of a fragmented message: marked but not
abandoned() while the tail is pending — the D14 class.) -/
theorem C06_timed_bound (σ : BitVec 16) (L : BitVec 32) (s : St) (h : RInv (KTimed σ L) (fun _ => True) (TimedCtx σ L) s)
    (ops : List Op) (hops : ∀ op ∈ ops, Keeps σ op) :
    (∀ c ∈ (run s ops).snd.inflight, c.si = σ → c.ppi ≠ dcep → L.toNat ≤ c.since - c.firstSent →
      c.msg ∈ (run s ops).snd.abandonedMsgs ∧ (c.efrag = true → (run s ops).snd.abandoned c = true)) ∧
    (∀ orc sel woke, ∀ p ∈ (gather (run s ops) orc sel woke).2.out.packets, ∀ e ∈ p,
      e.si = σ → e.ppi ≠ dcep → L.toNat ≤ e.since - e.firstSent →
        e.msg ∈ (Sender.gather (run s ops).snd orc sel).1.abandonedMsgs ∧
        (e.efrag = true → (Sender.gather (run s ops).snd orc sel).1.abandoned e = true)) := by
  obtain ⟨a, b⟩ := run_holds (timed_hyp σ L) s h ops hops
  exact ⟨fun c hc => (a c hc).expired, fun orc sel woke p hp e he => (b orc sel woke p hp e he).expired⟩

/-- the D21 scenario on the model of the FIXED tree (the implementation does the same:
corpus/C06/sapi_d21_timed_second_late_transmission.ops): lifetime 50 ms, three unfragmented messages sent at t = 0; at
t = 100 ms T3 marks 1000 and 1001; the closed window lets only 1000 out; three gap reports fast-retransmit 1001 (the one
transmission after expiry: abandoned() now, the T3 mark stays); the next gather puts NO DATA on the wire, only the
FORWARD-TSN up to 1001. Before 6ddfdda it sent 1001 a third time. -/
theorem C06_D21_fixed :
    let s1 := run (init { mtu := 1200, maxPayload := 1172 } false 1000 1048576)
      [.openS 1 false 2 50, .write 1 53 1100 none, .write 1 53 1100 none, .write 1 53 1100 none,
       .gather Sender.freeOracle [0, 0, 0] none, .tick 100 0 [], .t3,
       .sack 999 1500 [(3, 3)] [], .sack 999 1500 [(3, 3)] [], .sack 999 1500 [(3, 3)] [],
       .gather Sender.freeOracle [] none]
    let g := gather (run s1 [.sack 1000 1048576 [(2, 2)] []]) Sender.freeOracle [] none
    (s1.snd.inflight.filter (·.tsn == 1001)).map (fun c => (c.nSent.toNat, c.retransmit, c.since, c.firstSent, s1.snd.abandoned c)) =
      [(2, true, 100, 0, true)] ∧
    g.2.out.packets = [] ∧ g.2.fwd == .fwd 1001 [(1, 1)] ∧
    (g.1.snd.inflight.filter (·.tsn == 1001)).map (fun c => c.nSent.toNat) = [2] := by decide +kernel

end C06
