import SctpVerif.Gen.Facts
import SctpVerif.Gen.Consts
/-!
# C04 — state guards of the code, pinned

`Gen.stateTests` is REGENERATED from /repo on every run by the translator (`go/extract/facts_state.go`): per function,
every comparison of the association state with a state constant, every `case` over state constants and every `setState`
call, in source order. This file pins that list for the handshake handlers modelled by `Hs` (`Model/Handshake.lean`: `handleInit`, `handleInitAck`, `handleCookieEcho`, `handleCookieAck`, `establish`, `start`).
The hand-written L0 models mirror exactly these guards; the correspondence harnesses compare behaviour. A change of a guard
in the code breaks this obligation at once (a syntactic tie: a harmless rewrite breaks it too — then the expectation here is
to be updated after checking the models), and the harness jobs of C04 look for a concrete failing input.
-/
namespace C04

theorem C04_state_guards_pinned :
    Gen.stateTests.filter (fun p => ["Association.establish", "Association.handleCookieAck", "Association.handleCookieEcho", "Association.handleInit", "Association.handleInitAck", "Association.initClient"].contains p.1) =
    [("Association.establish", ["setState established"]),
     ("Association.handleCookieAck", ["state != cookieEchoed"]),
     ("Association.handleCookieEcho", ["case established", "case closed,cookieWait,cookieEchoed"]),
     ("Association.handleInit", ["state == shutdownAckSent", "state != closed", "state != cookieWait", "state != cookieEchoed"]),
     ("Association.handleInitAck", ["state != cookieWait", "setState cookieEchoed"]),
     ("Association.initClient", ["setState cookieWait"])] := by decide +kernel

/-- **T1 retry budget**: INIT and COOKIE-ECHO are retransmitted `maxInitRetrans = 8` times before the connect attempt fails (the schedules of `C04_recovers_from_single_losses` stay far below it). -/
theorem C04_t1_budget :
    ("timerT1Init", "maxInitRetrans") ∈ Gen.rtxTimerSites ∧ ("timerT1Cookie", "maxInitRetrans") ∈ Gen.rtxTimerSites ∧ Gen.maxInitRetrans = 8 := by decide +kernel

end C04
