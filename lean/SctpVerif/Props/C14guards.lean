import SctpVerif.Gen.Facts
import SctpVerif.Gen.Consts
/-!
# C14 — facts of the code the stream-reset argument rests on, pinned
-/
namespace C14

/-- **The reconfiguration timer is created without a retry limit** (`noMaxRetrans = 0`, regenerated timer-creation fact); with
`C19_never_gives_up` of the timer automaton: an unanswered reset request keeps being retransmitted. -/
theorem C14_treconfig_never_gives_up :
    ("timerReconfig", "noMaxRetrans") ∈ Gen.rtxTimerSites ∧ Gen.noMaxRetrans = 0 := by decide +kernel

end C14
