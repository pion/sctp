import SctpVerif.Proofs.Shutdown
import SctpVerif.Proofs.Sna
/-!
# C08 — graceful shutdown delivers everything first and completes on both sides

Property theorems only, about the L0 model `Sd` (Model/Shutdown.lean), which the direct-drive
correspondence `TestVerifShutdown` replays line by line against two real, established associations.
`ops : List Op` is an arbitrary interleaving of: writes on any stream, Shutdown calls, write-loop passes with
ANY choice of DATA chunks to (re)transmit, deliveries of ANY packet ever sent by either side (so loss,
duplication, reordering, arbitrary delay and stale replays of DATA, SACK, SHUTDOWN, SHUTDOWN-ACK and
SHUTDOWN-COMPLETE are all included), T2-shutdown / T3-rtx / delayed-ack expiries, reads, Close and Abort calls, transport
failures.
-/
namespace C08
open Sd

/-- the model's state numbers are the code's (translator-generated constants) -/
theorem C08_state_constants :
    stClosed = Gen.closed ∧ stCookieWait = Gen.cookieWait ∧ stCookieEchoed = Gen.cookieEchoed ∧
    stEstablished = Gen.established ∧ stShutdownAckSent = Gen.shutdownAckSent ∧
    stShutdownPending = Gen.shutdownPending ∧ stShutdownReceived = Gen.shutdownReceived ∧
    stShutdownSent = Gen.shutdownSent := by decide +kernel

/-- the model's state gates are the code's: `isDataReceiveState`, `isShutdownHandleState` and
`entersShutdownReceived` as translated from association.go agree, on all eight states, with the three Boolean
expressions below — the conditions of `handleData`, `handleShutdown` and `enterReceived` of the model written out again
(the statement does not mention the model's functions; that the model tests these expressions is read off
`Model/Shutdown.lean`) -/
theorem C08_gates_match_code (st : Nat) (h : st < 8) :
    (st == stEstablished || st == stShutdownPending || st == stShutdownSent) = Gen.isDataReceiveState (BitVec.ofNat 32 st) ∧
    (st == stShutdownSent || st == stEstablished || st == stShutdownPending || st == stShutdownReceived)
      = Gen.isShutdownHandleState (BitVec.ofNat 32 st) ∧
    (st == stEstablished || st == stShutdownPending) = Gen.entersShutdownReceived (BitVec.ofNat 32 st) := by
  revert st
  decide +kernel

/-- the state tests and the SACK decision the model re-types are the expressions of the code: every `if` condition on
the association state in Shutdown, sendPayloadData, handleSack, handleShutdown, handleShutdownAck, handleShutdownComplete,
the two non-terminal cases of gatherOutboundPriorityPackets and the `sackNow` / `gapDetected` assignments of handleData,
as the translator reads them off association.go on this run (`Gen.sd_*`), agree with what `shutdownCall`, `write`,
`handleSack`, `handleShutdown`, `handleShutdownAck`, `handleShutdownComplete`, `gatherPrio` and `handleData` of the
model test (written out again on the left-hand sides; the statement does not mention the model's functions) — on all
eight states and all values of `f`, `g`; the SACK decision with `immediateSack = false` (the model carries no I-bit). The
TSN comparison is `C08_gap_test_matches_code`. -/
theorem C08_sites_match_code (st : Nat) (h : st < 8) (f g : Bool) :
    (st == stEstablished) = !Gen.sd_shutdownRefused (BitVec.ofNat 32 st) ∧
    (st == stEstablished) = !Gen.sd_writeRefused (BitVec.ofNat 32 st) ∧
    (!(st == stEstablished || st == stShutdownPending || st == stShutdownReceived)) = Gen.sd_sackIgnored (BitVec.ofNat 32 st) ∧
    (st == stShutdownAckSent) = Gen.sd_shutdownInAckSent (BitVec.ofNat 32 st) ∧
    (st == stShutdownSent) = Gen.sd_shutdownInSent (BitVec.ofNat 32 st) ∧
    (!(st == stShutdownSent || st == stEstablished || st == stShutdownPending || st == stShutdownReceived))
      = Gen.sd_shutdownNotHandled (BitVec.ofNat 32 st) ∧
    (st == stShutdownSent || st == stShutdownAckSent) = Gen.sd_shutdownAckHandled (BitVec.ofNat 32 st) ∧
    (st == stShutdownAckSent) = Gen.sd_shutdownCompleteHandled (BitVec.ofNat 32 st) ∧
    (st == stShutdownAckSent && f) = Gen.sd_prioShutdownAck (BitVec.ofNat 32 st) f ∧
    (st == stShutdownSent && f) = Gen.sd_prioShutdown (BitVec.ofNat 32 st) f ∧
    (f || !g) = Gen.sd_dataSackNow false f g := by
  revert st f g
  decide +kernel

/-- the gap test of handleData: `sna32GT(chunk.tsn, peerLastTSN + 1)` is the model's `pl < t` on offsets from ANY
initial TSN `base` (offsets below 2^31) -/
theorem C08_gap_test_matches_code (base : BitVec 32) (t pl : Nat) (ht : t < 2^31) (hp : pl < 2^31) :
    Gen.sd_dataGap (base + BitVec.ofNat 32 t) (base + BitVec.ofNat 32 pl) = decide (pl < t) := by
  have hsub : ((base + BitVec.ofNat 32 t) - (base + BitVec.ofNat 32 pl)).toNat = (t + 2^32 - pl) % 2^32 := by
    have h1 : (BitVec.ofNat 32 t).toNat = t := by rw [BitVec.toNat_ofNat]; omega
    have h2 : (BitVec.ofNat 32 pl).toNat = pl := by rw [BitVec.toNat_ofNat]; omega
    bv_omega
  rw [Gen.sd_dataGap, Bool.eq_iff_iff, Sna.gt32_iff, hsub, decide_eq_true_iff]
  omega

/-- **Shutdown returned nil ⇒ everything was delivered first, in order, before closure.**
In every reachable state (every interleaving, every fault pattern, every choice of what the write loop sends, Close /
Abort / transport failure at any moment): if the Shutdown call of side `x` has returned nil, then
(1) no message was accepted after the call, (2) every message `x` ever accepted has been handed to the peer's
streams (it sits complete in a reassembly queue or has been read), (3) what the peer has read from each stream is
a prefix, in order, of what `x` wrote to that stream, and (4) every stream of the peer on which closure has been
reported had delivered ALL messages written to it before.
Full strength since the fix of D22 (`Shutdown` returns ErrShutdownIncomplete unless SHUTDOWN-ACK or SHUTDOWN-COMPLETE was
received): before it this needed the hypothesis "the local transport did not fail". -/
theorem C08_shutdown_ok_implies_delivered (ops : List Op) (x : Bool) :
    let s := Sys.init.run ops
    (s.ep x).sd = 2 →
      (s.ep x).snd.wlog.length = (s.ep x).callAt ∧
      (∀ w ∈ (s.ep x).snd.wlog, Got (s.ep (!x)).rcv w) ∧
      (∀ sid, (s.ep (!x)).rcv.readOn sid =
        ((onStream (s.ep x).snd.wlog sid).take ((s.ep (!x)).rcv.readOn sid).length).map (·.1)) ∧
      (∀ sid k, (sid, k) ∈ (s.ep (!x)).rcv.eofs →
        (s.ep (!x)).rcv.readOn sid = (onStream (s.ep x).snd.wlog sid).map (·.1)) :=
  delivered_of_inv _ (run_inv ops) x

/-- regression statement for D22 (the former witness): one message queued, Shutdown called, the local transport fails —
the call now returns the error (sd = 3), not nil; the same for Close, and for Abort followed by the write-loop pass
that sends the ABORT. Replayed on the real code from corpus/C08/sd_d22_shutdown_nil_on_transport_failure.ops. -/
theorem C08_d22_transport_failure_reports_error :
    (Sys.init.run [.write false 0, .shutdown false, .closeConn false]).a.sd = 3 ∧
    (Sys.init.run [.write false 0, .shutdown false, .closeApi false]).a.sd = 3 ∧
    (Sys.init.run [.write false 0, .shutdown false, .abort false, .gather false []]).a.sd = 3 ∧
    (Sys.init.run [.write false 0, .shutdown false, .closeConn false]).b.rcv.store = [] := by decide +kernel

/-- **An interrupted Shutdown reports it.** In every reachable state in which a Shutdown call of `x` is waiting and the
peer's SHUTDOWN-ACK has not arrived: a transport failure, `Close`, or `Abort` (once the write loop has sent the ABORT,
whatever else that pass was asked to send) makes the call return the error, never nil. -/
theorem C08_interrupted_shutdown_reports_error (ops : List Op) (x : Bool) (d : List (List (Nat × Nat))) :
    let s := Sys.init.run ops
    (s.ep x).sd = 1 → (s.ep x).scp = false →
      ((s.step (.closeConn x)).ep x).sd = 3 ∧ ((s.step (.closeApi x)).ep x).sd = 3 ∧
      (((s.step (.abort x)).step (.gather x d)).ep x).sd = 3 ∧
      ((s.step (.abort x)).step (.gather x d)).hist x = s.hist x ++ #[[Chunk.abort]] :=
  fun h1 h2 => interrupted_of_inv _ (run_inv ops) x d h1 h2

example : let s := Sys.init.run [.write false 0, .shutdown false]; (s.ep false).sd = 1 ∧ (s.ep false).scp = false := by decide +kernel

/-- **Writes (and OpenStream) after Shutdown began are rejected.** In every reachable state in which a Shutdown
call of side `x` has passed its state gate: no message has been accepted since, a write on any stream is
rejected and queues nothing, and OpenStream is refused. -/
theorem C08_no_write_after_shutdown (ops : List Op) (x : Bool) (sid : Nat) :
    let s := Sys.init.run ops
    (s.ep x).sd ≠ 0 →
      (s.ep x).snd.wlog.length = (s.ep x).callAt ∧
      (write (s.ep x) sid).2 = false ∧
      (write (s.ep x) sid).1.snd.wlog = (s.ep x).snd.wlog ∧ (write (s.ep x) sid).1.snd.pend = (s.ep x).snd.pend ∧
      openOk (s.ep x) = false :=
  no_write_of_inv _ (run_inv ops) x sid (run_stRange ops x)

/-- non-vacuity of `C08_shutdown_ok_implies_delivered` and `C08_no_write_after_shutdown`: a run in which Shutdown returns nil
with two messages written on two streams, no transport failure (so the hypotheses are satisfiable and the conclusion talks
about real messages; `sd ≠ 0` of this run is the example after `C08_shutdown_states_drained`) -/
def demoOps : List Op :=
  [.write false 0, .write false 1, .gather false [[(0, 0), (1, 1)]], .deliver false 0, .ackt true, .gather true [],
   .deliver true 0, .shutdown false, .write false 0, .gather false [], .deliver false 1, .gather true [], .deliver true 1,
   .gather false [], .deliver false 2, .read true 0, .read true 1]
example : let s := Sys.init.run demoOps
    (s.ep false).sd = 2 ∧ (s.ep false).snd.wlog = [(0, 0, 0), (1, 1, 0)] ∧
    (s.ep false).snd.attempts = 3 ∧ (s.ep true).rcv.rlog = [(0, 0, 0), (1, 1, 0)] ∧ (s.ep true).rcv.eofs = [(0, 1), (1, 1)] := by
  decide +kernel

/-- The states in which SHUTDOWN / SHUTDOWN-ACK are sent belong to a drained endpoint: in every reachable state an
endpoint in SHUTDOWN-SENT or SHUTDOWN-ACK-SENT has nothing queued and nothing in flight, and a Shutdown call
that has returned (nil or the error) means the association is closed -/
theorem C08_shutdown_states_drained (ops : List Op) (x : Bool) :
    let s := Sys.init.run ops
    ((s.ep x).st = stShutdownSent ∨ (s.ep x).st = stShutdownAckSent →
      (s.ep x).snd.pend = [] ∧ (s.ep x).inflight = 0 ∧ (s.ep x).hasData = false) ∧
    ((s.ep x).sd = 2 ∨ (s.ep x).sd = 3 → (s.ep x).st = stClosed ∧ (s.ep x).dead = true) := by
  have inv := (run_inv ops x).1
  refine ⟨fun h => ?_, fun h => ?_⟩
  · obtain ⟨h1, h2⟩ := inv.ctl.drained h
    refine ⟨h1, by simp [Ep.inflight, h2], by simp [Ep.hasData, h1, h2]⟩
  · have hd := inv.ctl.sdDead h
    exact ⟨inv.ctl.deadSt.1 hd, hd⟩

example : ((Sys.init.run [.write false 0, .gather false [[(0, 0)]], .deliver false 0, .ackt true, .gather true [], .deliver true 0,
    .shutdown false]).ep false).st = stShutdownSent := by decide +kernel
example : ((Sys.init.run demoOps).ep false).sd ≠ 0 := by decide +kernel

/-- **Closed is absorbing.** Once the loops of an endpoint are gone (state CLOSED), no operation whatsoever —
deliveries of any old packet, timer expiries, API calls — changes its state, its Shutdown result, what it accepted,
sent and acknowledged, or what it received; it puts nothing on the wire; what was delivered to its streams stays
available to its readers. -/
theorem C08_closed_absorbing (ops : List Op) (x : Bool) (op : Op) :
    let s := Sys.init.run ops
    (s.ep x).dead = true →
      let s' := s.step op
      (s'.ep x).dead = true ∧ (s'.ep x).st = stClosed ∧ (s'.ep x).sd = (s.ep x).sd ∧
      (s'.ep x).snd.wlog = (s.ep x).snd.wlog ∧ (s'.ep x).snd.sentq = (s.ep x).snd.sentq ∧ (s'.ep x).snd.cum = (s.ep x).snd.cum ∧
      (s'.ep x).rcv.pl = (s.ep x).rcv.pl ∧ s'.hist x = s.hist x ∧
      (∀ c, Got (s.ep x).rcv c → Got (s'.ep x).rcv c) :=
  fun hd => closed_of_inv _ (run_inv ops) x op hd

example : ((Sys.init.run demoOps).ep false).dead = true := by decide +kernel

/-- **Stale, duplicated and reordered packets are harmless.** Delivering ANY packet ever sent by `x` (any index:
old, duplicate, out of order) to the other side: never takes away a message already handed to its streams, changes
nothing its readers have seen (reads and closure reports), leaves the sender side and both histories untouched,
never moves an endpoint back to ESTABLISHED (no re-opening) nor out of CLOSED, and can make a Shutdown call
return nil only if everything that side accepted has been delivered (the main theorem holds after the delivery). -/
theorem C08_stale_harmless (ops : List Op) (x : Bool) (i : Nat) :
    let s := Sys.init.run ops
    let s' := s.step (.deliver x i)
    (∀ c, Got (s.ep (!x)).rcv c → Got (s'.ep (!x)).rcv c) ∧
    (s'.ep (!x)).rcv.rlog = (s.ep (!x)).rcv.rlog ∧ (s'.ep (!x)).rcv.eofs = (s.ep (!x)).rcv.eofs ∧
    s'.ep x = s.ep x ∧ s'.hist x = s.hist x ∧ s'.hist (!x) = s.hist (!x) ∧
    (∀ z, (s.ep z).st ≠ stEstablished → (s'.ep z).st ≠ stEstablished) ∧
    (∀ z, (s.ep z).st = stClosed → (s'.ep z).st = stClosed) ∧
    (∀ z, (s'.ep z).sd = 2 → ∀ w ∈ (s'.ep z).snd.wlog, Got (s'.ep (!z)).rcv w) :=
  stale_of_inv _ (run_inv ops) x i

/-! ## liveness on explicit schedules, for every message count -/

/-- **Fault-free shutdown completes, for every number of messages.** Side A writes `n` messages, calls Shutdown with
all of them still queued (SHUTDOWN-PENDING), the data drains under the shutdown one round trip per message, then
SHUTDOWN, SHUTDOWN-ACK and SHUTDOWN-COMPLETE are exchanged: both sides end CLOSED, A's Shutdown has returned nil, and all `n` messages sit, in order, in B's stream ready to be read. -/
theorem C08_fault_free_completes (n : Nat) :
    let s := Sys.init.run (schedule n ++ closingFaultFree n n)
    s.a.dead = true ∧ s.a.st = stClosed ∧ s.a.sd = 2 ∧ s.b.dead = true ∧ s.b.st = stClosed ∧
    s.a.snd.wlog = M n ∧ s.a.callAt = n ∧ s.b.rcv.store = M n := by
  have h := closing_fault_free (formR n n) (formR_ready n)
  rw [(formR_sizes n).1, (formR_sizes n).2] at h
  exact schedule_done n _ h

/-- the same run for each single loss in the shutdown sequence, recovered by T2-shutdown, for every message count:
(1) the first SHUTDOWN lost — T2 at the caller, SHUTDOWN sent again; (2) the SHUTDOWN-ACK lost — T2 at the caller, the
retransmitted SHUTDOWN finds the peer in SHUTDOWN-ACK-SENT which answers again; (3) the SHUTDOWN-COMPLETE lost — the
caller is closed and its Shutdown has returned nil, the peer retransmits SHUTDOWN-ACK to nobody and ends CLOSED when its
transport closes. In all three: both sides CLOSED, Shutdown returned nil at the caller, and
all `n` messages are in the peer's stream. -/
theorem C08_recovers_from_single_losses (n : Nat) :
    (∀ tail ∈ [closingShutdownLost n n, closingAckLost n n, closingCompleteLost n n],
      let s := Sys.init.run (schedule n ++ tail)
      s.a.dead = true ∧ s.a.st = stClosed ∧ s.a.sd = 2 ∧ s.b.dead = true ∧ s.b.st = stClosed ∧
      s.a.snd.wlog = M n ∧ s.b.rcv.store = M n) := by
  have h1 := closing_shutdown_lost (formR n n) (formR_ready n)
  have h2 := closing_ack_lost (formR n n) (formR_ready n)
  have h3 := closing_complete_lost (formR n n) (formR_ready n)
  rw [(formR_sizes n).1, (formR_sizes n).2] at h1 h2 h3
  intro tail ht
  have key : Done (formR n n) ((formR n n).run tail) := by
    simp only [List.mem_cons, List.mem_nil_iff, or_false] at ht
    rcases ht with rfl | rfl | rfl
    · exact h1
    · exact h2
    · exact h3
  obtain ⟨d1, d2, d3, d4, d5, d6, -, d8⟩ := schedule_done n tail key
  exact ⟨d1, d2, d3, d4, d5, d6, d8⟩

/-- **Shutdowns started by both sides at once complete as well**, for every message count: after A's `n` messages have
drained under its Shutdown, B calls Shutdown too before A's SHUTDOWN is on the wire; the two SHUTDOWNs cross, each is
answered by SHUTDOWN-ACK, each of those by SHUTDOWN-COMPLETE: both sides CLOSED, BOTH Shutdown calls returned nil. -/
theorem C08_crossed_shutdown_completes (n : Nat) :
    let s := Sys.init.run (schedule n ++ [.shutdown true] ++ closingCrossed n n)
    s.a.dead = true ∧ s.a.st = stClosed ∧ s.a.sd = 2 ∧ s.b.dead = true ∧ s.b.st = stClosed ∧ s.b.sd = 2 := by
  intro s
  have hs : s = ((formR n n).step (.shutdown true)).run (closingCrossed n n) := by
    show Sys.init.run (schedule n ++ [.shutdown true] ++ closingCrossed n n) = _
    rw [List.append_assoc, schedule_then, List.singleton_append, run_cons]
  obtain ⟨hr, hsa, hsb, -, -⟩ := formR_readyBoth n
  have h := closing_crossed _ hr
  rw [hsa, hsb] at h
  obtain ⟨d1, d2, d3, -, d5, d6, d7, -⟩ := h
  rw [hs]
  exact ⟨d1, d2, d3, d5, d6, d7⟩

/-- an instance of the schedules evaluated by the kernel (a test, `n = 1`) -/
example : (Sys.init.run (schedule 1 ++ closingAckLost 1 1)).b.rcv.store = [(0, 0, 0)] := by decide +kernel

end C08
