import SctpVerif.Proofs.RecvQ
/-!
# C05 — selective acknowledgements tell the truth

Property theorems only; definitions and lemmas are in `Proofs/RecvQ/*.lean`.

All theorems are about the L0 model `RecvQ` of receive_payload_queue.go (tied to the Go struct by
the differential runs of `./check`), with the translator-generated `Gen.sna32*`,
`Gen.tsnBitmaskWords`, `Gen.getMaxTSNOffset`. They hold for **every** op list, every cumulative
point (all 2^32, windows straddling the wrap included) and every bitmap `new m` can build.

Vocabulary (`Op`, `run`, `start`, `heldAt` in Proofs/RecvQ/History.lean; `gapsNat` in Gaps.lean; `AcceptedTSN`,
`SkippedTSN`, `assocOp` in Mono.lean; `Shift`, `shiftOp` in Shift.lean):
* `Op` — `init c | push t | pop force | adv c` (the bare queue operations, in any order) and
  `data t store | fwd c | sack` (what `handleData`, `handleForwardTSN` and
  `createSelectiveAckChunk` do with the queue, pop loop included).
* `run (start m c) ops` — the state after `newReceivePayloadQueue(m)`, `init(c)`, then `ops`,
  instrumented with the ghost history `h`: `c0` the cumulative point of the last `init`, `A`
  how far the cumulative point has moved since (a natural number, so nothing is lost when the
  32-bit space wraps), `acc k` / `skp k` — the TSN `c0 + k` was accepted (`push` returned
  true) / explicitly skipped by the peer (FORWARD-TSN up to it, or a forced pop).
* `heldAt q d` — offset `d ≥ 1` from the cumulative point is in the abstract set of the queue.
* `gapsNat q` — the gap blocks before truncation to the 16-bit wire fields; `gaps q` (the model
  of `getGapAckBlocks`) is `gapsNat q` truncated, and equal to it when `maxOff < 2^16`, which
  holds for every queue the association builds (`C05_assoc_window`).
-/
namespace C05
open Gen Sna RecvQ

/-! ## the ring -/

/-- With a power-of-two word count (at most 2^26) the bitmap index is injective on every window
of `64·W` consecutive TSNs, wherever the window lies — also across 2^32−1 → 0. -/
theorem C05_ring_injective (k : Nat) (hk : k ≤ 26) (c d1 d2 : BitVec 32)
    (h1 : d1.toNat < 64 * 2^k) (h2 : d2.toNat < 64 * 2^k)
    (h : pos (2^k) (c + d1) = pos (2^k) (c + d2)) : d1 = d2 :=
  pos_inj_off (pow2_dvd hk) c d1 d2 h1 h2 h

-- non-vacuity: two offsets in a window that straddles the wrap
example : (2000#32).toNat < 64 * 2^8 ∧ (2100#32).toNat < 64 * 2^8 ∧
    pos (2^8) (4294965243#32 + 2000#32) ≠ pos (2^8) (4294965243#32 + 2100#32) := by decide +kernel

/-- every bitmap `newReceivePayloadQueue` builds is such a ring and is large enough for the
(rounded) admission bound. -/
theorem C05_ring_new (m : BitVec 32) :
    ∃ k, k ≤ 26 ∧ (new m).W = 2^k ∧ (new m).bits.size = 64 * 2^k ∧ (new m).maxOff.toNat ≤ 64 * 2^k :=
  new_geom m

/-- documentation of the defect that was fixed (D4): with the former default of 132 words the
index is NOT injective on a window that straddles the wrap — TSNs 2^32−2043 and 2053 are 4096
apart (the window is 8448) and share a bit, because 64·132 does not divide 2^32.
The statement is about the index function `pos` with the literal word count 132, a geometry that
`new` does not build (`C05_ring_new`); it says nothing about a run of the model.
(A `decide`d witness, i.e. a test of one instance, not a universally quantified statement.) -/
theorem C05_ring_witness_132 :
    pos 132 4294965253#32 = pos 132 2053#32 ∧ (2053#32 - 4294965253#32).toNat = 4096 ∧
    4096 < 64 * 132 ∧ ¬ (64 * 132 ∣ 2^32) := by decide +kernel

/-- the association's sizing: `getMaxTSNOffset` never exceeds 40000, so the hypotheses
`maxOff < 2^16` (gap blocks fit the wire format) and `maxOff < 2^31` below hold for every queue
the association creates (`newReceivePayloadQueue(getMaxTSNOffset(maxReceiveBufferSize))`). -/
theorem C05_assoc_window (rb : BitVec 32) :
    (new (getMaxTSNOffset rb)).maxOff.toNat ≤ 40000 ∧ (new (getMaxTSNOffset rb)).maxOff.toNat < 2^16 :=
  assoc_window rb

/-! ## refinement: the bitmap queue is a cumulative point plus a set of offsets -/

/-- **Refinement invariant.** In every reachable state the representation invariant holds and
the queue *is* `(cum, {d | heldAt q d})`: `hasChunk` is membership, offsets lie in
`[1, maxTSNOffset]`, set bits and offsets are in bijection through the ring index, `chunkSize`
is the number of set bits, and `tailTSN` is `cum + max offsets` (`= cum` when empty). -/
theorem C05_refines_set (m c : BitVec 32) (ops : List Op) :
    ∀ q, q = (run (start m c) ops).q →
    Inv q ∧
    (∀ t, hasChunk q t = true ↔ heldAt q (t - q.cum).toNat) ∧
    (∀ d, heldAt q d → 1 ≤ d ∧ d ≤ q.maxOff.toNat ∧ d ≤ 2^31) ∧
    (∀ i, getBit q.bits i = true ↔ ∃ d, heldAt q d ∧ pos q.W (q.cum + BitVec.ofNat 32 d) = i) ∧
    (∀ d d', heldAt q d → heldAt q d' →
        pos q.W (q.cum + BitVec.ofNat 32 d) = pos q.W (q.cum + BitVec.ofNat 32 d') → d = d') ∧
    q.size = (cnt q.bits : Int) ∧
    (q.size = 0 → q.tail = q.cum ∧ ∀ d, ¬ heldAt q d) ∧
    (q.size ≠ 0 → heldAt q (q.tail - q.cum).toNat ∧ ∀ d, heldAt q d → d ≤ (q.tail - q.cum).toNat) ∧
    q.maxOff = (new m).maxOff := by
  intro q hq
  have g := run_ginv (start_ginv m c) ops
  have I : Inv q := hq ▸ g.inv
  refine ⟨I, ?_, ?_, bit_iff_heldAt I, fun d d' => heldAt_inj I, I.hcnt, ?_, ?_, ?_⟩
  · intro t; rw [hasChunk_iff I, held_iff_heldAt]
  · intro d h; have := heldAt_le I h; exact ⟨h.1, this.1, this.2⟩
  · intro hs; exact ⟨I.ht0 hs, fun d h => heldAt_size I h hs⟩
  · intro hs; exact ⟨heldAt_tail I hs, fun d h => h.2.1⟩
  · rw [hq, run_start_maxOff]

/-- **Refinement of the operations** (for any state satisfying the invariant, hence for every
reachable one): each queue operation acts on `(cum, offsets)` as the set specification says,
and re-establishes the invariant.
`push t` (`canPush t` is the same boolean): accepted iff `admissible q t ∧ d ∉ offsets` for `d = t − cum`, where
`admissible` is `1 ≤ d ≤ maxTSNOffset` when `maxOff < 2^31`; `cum` stays; accepted: `d` is added, rejected: the
offsets stay;
`pop f`: succeeds iff `1 ∈ offsets`; when it succeeds or is forced, `cum+1` and every offset moves down by one;
a failed `pop false` leaves the state as it is;
`advance c`: no-op unless `cum <s c`, then `cum = c`, offsets `≤ c − cum` dropped, rest re-based;
`push`, `pop`, `advance` and `init` give a state satisfying `Inv`. -/
theorem C05_refines_set_ops {q : Q} (I : Inv q) :
    (∀ t, canPush q t = (push q t).2) ∧
    (∀ t, (push q t).2 = true ↔ (admissible q t ∧ ¬ heldAt q (t - q.cum).toNat)) ∧
    (q.maxOff.toNat < 2^31 → ∀ t, admissible q t ↔ (1 ≤ (t - q.cum).toNat ∧ (t - q.cum).toNat ≤ q.maxOff.toNat)) ∧
    (∀ t, (push q t).1.cum = q.cum) ∧
    (∀ t, (push q t).2 = true → ∀ d, heldAt (push q t).1 d ↔ (heldAt q d ∨ d = (t - q.cum).toNat)) ∧
    (∀ t, (push q t).2 = false → ∀ d, heldAt (push q t).1 d ↔ heldAt q d) ∧
    (∀ f, (pop q f).2 = true ↔ heldAt q 1) ∧
    (∀ f, ((pop q f).2 = true ∨ f = true) →
        (pop q f).1.cum = q.cum + 1 ∧ ∀ d, 1 ≤ d → (heldAt (pop q f).1 d ↔ heldAt q (d + 1))) ∧
    ((pop q false).2 = false → (pop q false).1 = q) ∧
    (∀ c, sna32LT q.cum c = true →
        (advance q c).cum = c ∧ ∀ d, 1 ≤ d → (heldAt (advance q c) d ↔ heldAt q (d + (c - q.cum).toNat))) ∧
    (∀ c, sna32LT q.cum c = false → advance q c = q) ∧
    (∀ t, Inv (push q t).1) ∧ (∀ f, Inv (pop q f).1) ∧ (∀ c, Inv (advance q c)) ∧ (∀ c, Inv (init q c)) := by
  refine ⟨fun t => canPush_eq_push t, ?_, fun hm t => admissible_small hm t, push_cum q,
    fun t hr d => push_heldAt I t hr d, ?_, fun f => pop_ok_iff I f, ?_, pop_noop, ?_, fun c hl => advance_noop hl,
    push_inv I, pop_inv I, advance_inv I, init_inv I.toRing⟩
  · intro t; rw [push_accept_iff I, held_iff_heldAt]
  · intro t hr d; rw [heldAt_push I, hr]; simp
  · intro f hf
    have R := pop_rebase I f hf
    exact ⟨R.cum, R.heldAt I⟩
  · intro c hl
    exact ⟨by rw [advance_cum, hl]; rfl, (advance_rebase I c hl).heldAt I⟩

-- non-vacuity of `Inv`: the state after `new 8448; init 4294965243` and any run from it
example : Inv (run (start 8448#32 4294965243#32) [.data 4294965245#32 true, .fwd 7#32, .sack]).q :=
  (run_ginv (start_ginv _ _) _).inv

/-! ## soundness (S1, S2) -/

/-- **S1 + S2.** After any op list: the cumulative point is `c0 + A`; every TSN it has moved
over since `init` (index `1 ≤ k ≤ A`) was accepted or explicitly skipped (S1); every gap block
names only accepted TSNs, blocks are well-formed, sorted, disjoint and non-adjacent (S2) —
for the untruncated blocks always, and for the emitted 16-bit blocks when `maxOff < 2^16`. -/
theorem C05_sound (m c : BitVec 32) (ops : List Op) :
    ∀ s, s = run (start m c) ops →
    s.q.cum = s.h.c0 + BitVec.ofNat 32 s.h.A ∧
    (∀ k, 1 ≤ k → k ≤ s.h.A → s.h.acc k ∨ s.h.skp k) ∧
    (∀ p ∈ gapsNat s.q, 1 ≤ p.1 ∧ p.1 ≤ p.2 ∧ ∀ j, p.1 ≤ j → j ≤ p.2 → s.h.acc (s.h.A + j)) ∧
    (gapsNat s.q).Pairwise (fun a b => a.2 + 1 < b.1) ∧
    ((new m).maxOff.toNat < 2^16 →
      gaps s.q = (gapsNat s.q).map trunc16 ∧
      (∀ b ∈ gaps s.q, 1 ≤ b.1.toNat ∧ b.1.toNat ≤ b.2.toNat ∧
          ∀ j, b.1.toNat ≤ j → j ≤ b.2.toNat → s.h.acc (s.h.A + j)) ∧
      (gaps s.q).Pairwise (fun a b => a.2.toNat + 1 < b.1.toNat)) := by
  intro s hs
  have g : GInv s := hs ▸ run_ginv (start_ginv m c) ops
  have a := g.gapsNat_acc
  refine ⟨g.hcum, g.hS1, a.1, a.2.2.1, fun hm => ?_⟩
  have b := g.gaps_acc (by rw [hs, run_start_maxOff]; exact hm)
  exact ⟨gaps_eq g.inv, b.1, b.2.2.1⟩

/-- the same at the level of 32-bit TSNs: whatever the cumulative point has covered since
`init`, and whatever a gap block names, is an accepted or skipped TSN. -/
theorem C05_sound_tsn (m c : BitVec 32) (ops : List Op) :
    ∀ s, s = run (start m c) ops →
    (∀ k, 1 ≤ k → k ≤ s.h.A →
        AcceptedTSN s (s.h.c0 + BitVec.ofNat 32 k) ∨ SkippedTSN s (s.h.c0 + BitVec.ofNat 32 k)) ∧
    (s.h.A < 2^32 → ∀ t : BitVec 32, 1 ≤ (t - s.h.c0).toNat → (t - s.h.c0).toNat ≤ s.h.A →
        AcceptedTSN s t ∨ SkippedTSN s t) ∧
    ((new m).maxOff.toNat < 2^16 → ∀ b ∈ gaps s.q, ∀ j, b.1.toNat ≤ j → j ≤ b.2.toNat →
        AcceptedTSN s (s.q.cum + BitVec.ofNat 32 j)) := by
  intro s hs
  obtain ⟨hcum, h1, _, _, h5⟩ := C05_sound m c ops s hs
  have hk : ∀ k, 1 ≤ k → k ≤ s.h.A →
      AcceptedTSN s (s.h.c0 + BitVec.ofNat 32 k) ∨ SkippedTSN s (s.h.c0 + BitVec.ofNat 32 k) := by
    intro k k1 k2
    rcases h1 k k1 k2 with h | h
    · exact Or.inl ⟨k, h, rfl⟩
    · exact Or.inr ⟨k, h, rfl⟩
  refine ⟨hk, ?_, ?_⟩
  · intro _ t t1 t2
    have := hk _ t1 t2
    rwa [add_off] at this
  · intro hm b hb j j1 j2
    obtain ⟨_, h, _⟩ := h5 hm
    refine ⟨s.h.A + j, (h b hb).2.2 j j1 j2, ?_⟩
    rw [hcum, BitVec.add_assoc, ← BitVec.ofNat_add]

-- non-vacuity: a run across the wrap in which a TSN is accepted above the cumulative point
-- and reported in a block (`new 8448; init 2^32-2053; data 2^32-2051`)
example : (run (start 8448#32 4294965243#32) [.data 4294965245#32 true]).h.acc 2 := by
  have hc : canPush (start 8448#32 4294965243#32).q 4294965245#32 = true := by decide +kernel
  rw [run, List.foldl_cons, List.foldl_nil, step, sData, hc, Bool.and_true, if_pos rfl, popAllS,
    (popLoopS_sets _ _).1]
  exact Or.inr ⟨by decide +kernel, by decide +kernel⟩
example : (new 8448#32).maxOff.toNat < 2^16 := by decide +kernel
-- test on a 64-bit ring across the wrap: two blocks, TSNs 2^32-4 and 1 seen from cum = 2^32-6
set_option maxRecDepth 100000 in
example : gaps (run (start 64#32 4294967290#32) [.data 4294967292#32 true, .data 1#32 true]).q
    = [(2#16, 2#16), (7#16, 7#16)] := by decide +kernel

/-! ## monotonicity (S3) -/

/-- **S3.** No operation other than `init` moves the cumulative point backwards: the origin
`c0` is kept, the clock `A` does not decrease, the new cumulative point is the old one plus the
increment, the ghost sets only grow; the increment is `≤ max (2^31−1) maxOff` for every op (the sharper
`< 2^31` for the bare queue operations is `C05_monotone_prim`); hence, for `maxOff < 2^31` (always the case
in the association, `C05_assoc_window`), the increment is the serial distance of the two points, the old point
is `≤` the new one in serial-number order and the new one is not `<` the old one. -/
theorem C05_monotone (m c : BitVec 32) (ops : List Op) (op : Op) (hop : ∀ c', op ≠ .init c') :
    ∀ s s', s = run (start m c) ops → s' = run (start m c) (ops ++ [op]) →
    s'.h.c0 = s.h.c0 ∧ s.h.A ≤ s'.h.A ∧
    s'.q.cum = s.q.cum + BitVec.ofNat 32 (s'.h.A - s.h.A) ∧
    s'.h.A - s.h.A ≤ max (2^31 - 1) (new m).maxOff.toNat ∧
    (∀ k, s.h.acc k → s'.h.acc k) ∧ (∀ k, s.h.skp k → s'.h.skp k) ∧
    ((new m).maxOff.toNat < 2^31 →
      (s'.q.cum - s.q.cum).toNat = s'.h.A - s.h.A ∧
      sna32LTE s.q.cum s'.q.cum = true ∧ sna32LT s'.q.cum s.q.cum = false) := by
  intro s s' hs hs'
  have g : GInv s := hs ▸ run_ginv (start_ginv m c) ops
  have hstep : s' = step s op := by rw [hs', hs, run_append]; rfl
  have g' : GInv s' := hstep ▸ step_ginv g op
  have f := step_fwd g op hop
  rw [← hstep] at f
  have hmo : s.q.maxOff = (new m).maxOff := by rw [hs, run_start_maxOff]
  have hcum : s'.q.cum = s.q.cum + BitVec.ofNat 32 (s'.h.A - s.h.A) := by
    rw [g'.hcum, g.hcum, f.c0, BitVec.add_assoc, ← BitVec.ofNat_add]
    have := f.mono
    rw [show s.h.A + (s'.h.A - s.h.A) = s'.h.A by omega]
  obtain ⟨ma, ms⟩ := step_sets_mono s op hop
  rw [← hstep] at ma ms
  refine ⟨f.c0, f.mono, hcum, hmo ▸ f.bnd, ma, ms, ?_⟩
  intro hm
  have hb := f.bnd
  rw [hmo] at hb
  have hd : (s'.q.cum - s.q.cum).toNat = s'.h.A - s.h.A := by
    rw [hcum, off_of_eq (by omega) rfl]
  exact ⟨hd, fwd_order (by omega)⟩

-- non-vacuity: the hypothesis on `op` is satisfiable
example : ∀ c', Op.data 5#32 true ≠ .init c' := by intro c' h; cases h

/-- S3 for the bare queue operations: `push` leaves the cumulative point, `pop` moves it forward by at most 1,
`adv` by less than 2^31 (and the old point is serially `≤` the new one), whatever the window size. The bounds
hold for EVERY state `s`: the proof does not use that `s` is reachable. -/
theorem C05_monotone_prim (m c : BitVec 32) (ops : List Op) :
    ∀ s, s = run (start m c) ops →
    (∀ t, (step s (.push t)).q.cum = s.q.cum) ∧
    (∀ f, ((step s (.pop f)).q.cum - s.q.cum).toNat ≤ 1) ∧
    (∀ c', ((step s (.adv c')).q.cum - s.q.cum).toNat < 2^31 ∧
           sna32LTE s.q.cum (step s (.adv c')).q.cum = true) := by
  intro s _
  refine ⟨fun t => push_cum _ _, fun f => pop_delta _ _, fun c' => ?_⟩
  have := advance_delta s.q c'
  exact ⟨this, (fwd_order this).1⟩

/-! ## completeness (S4) -/

/-- **S4.** Every TSN accepted so far is reported: it is at or below the cumulative point, or it
lies inside a gap block (and the blocks are maximal: the offsets just before and just after a
block are not accepted TSNs). -/
theorem C05_complete (m c : BitVec 32) (ops : List Op) :
    ∀ s, s = run (start m c) ops →
    (∀ k, s.h.acc k → k ≤ s.h.A ∨ ∃ p ∈ gapsNat s.q, p.1 ≤ k - s.h.A ∧ k - s.h.A ≤ p.2) ∧
    (∀ p ∈ gapsNat s.q, (2 ≤ p.1 → ¬ s.h.acc (s.h.A + (p.1 - 1))) ∧ ¬ s.h.acc (s.h.A + (p.2 + 1))) ∧
    ((new m).maxOff.toNat < 2^16 →
      (∀ k, s.h.acc k → k ≤ s.h.A ∨ ∃ b ∈ gaps s.q, b.1.toNat ≤ k - s.h.A ∧ k - s.h.A ≤ b.2.toNat) ∧
      (∀ b ∈ gaps s.q, (2 ≤ b.1.toNat → ¬ s.h.acc (s.h.A + (b.1.toNat - 1))) ∧
                        ¬ s.h.acc (s.h.A + (b.2.toNat + 1)))) := by
  intro s hs
  have g : GInv s := hs ▸ run_ginv (start_ginv m c) ops
  have a := g.gapsNat_acc
  refine ⟨a.2.1, a.2.2.2, fun hm => ?_⟩
  have b := g.gaps_acc (by rw [hs, run_start_maxOff]; exact hm)
  exact ⟨b.2.1, b.2.2.2⟩

/-- After a run in which only `init`/`data`/`fwd`/`sack` were issued (hypothesis `ha`; the pop loop has
then run after every accepted chunk and every advance) the queue is pop-normalised: `pop(false)`
fails, the TSN right after the cumulative point is not an accepted one, and every gap block
starts at offset 2 or later. That the association acts on its queue through these ops — and, on the path
that ends in an ABORT for an exceeded reassembly limit, through a bare `push`, which `ha` excludes — is the
subject of `Proofs/Receiver/Sack.lean`, not of this theorem. -/
theorem C05_pop_normalised (m c : BitVec 32) (ops : List Op) (ha : ∀ op ∈ ops, assocOp op) :
    ∀ s, s = run (start m c) ops →
    (pop s.q false).2 = false ∧ ¬ s.h.acc (s.h.A + 1) ∧
    (∀ p ∈ gapsNat s.q, 2 ≤ p.1) ∧
    ((new m).maxOff.toNat < 2^16 → ∀ b ∈ gaps s.q, 2 ≤ b.1.toNat) := by
  intro s hs
  have g : GInv s := hs ▸ run_ginv (start_ginv m c) ops
  have hn : Normalised s.q := hs ▸ run_normalised (start_ginv m c) (start_normalised m c) ops ha
  have hn1 := (normalised_iff g.inv).mp hn
  have hst := gapsNat_start g.inv hn1
  refine ⟨by rw [pop_ok]; exact hn, fun h => hn1 ((g.hacc 1 (by omega)).mp h), hst, ?_⟩
  exact fun hm => (gaps_forall g.inv (by rw [hs, run_start_maxOff]; exact hm)).mp hst

-- non-vacuity: an association-level op list
example : ∀ op ∈ [Op.init 7#32, .data 9#32 true, .fwd 12#32, .sack], assocOp op := by
  intro op h; simp at h; rcases h with rfl | rfl | rfl | rfl <;> trivial

/-! ## shift invariance (the C16 obligation of this component) -/

/-- Running the same ops with every TSN shifted by `k` (from a queue initialised at `c + k`)
gives the shifted state — same `chunkSize`, same window, the bitmap the same ring read at shifted
TSNs — and exactly the same observable results: the same booleans from `hasChunk`, `canPush`,
`push`, `pop`, the same gap blocks, and the shifted last-TSN and duplicate list. The position
of the 2^32 wrap is therefore invisible. -/
theorem C05_shift_invariant (m c k : BitVec 32) (ops : List Op) :
    ∀ s s', s = run (start m c) ops → s' = run (start m (c + k)) (ops.map (shiftOp k)) →
    Shift k s.q s'.q ∧ gaps s'.q = gaps s.q ∧
    (∀ t, hasChunk s'.q (t + k) = hasChunk s.q t ∧ canPush s'.q (t + k) = canPush s.q t ∧
          (push s'.q (t + k)).2 = (push s.q t).2) ∧
    (∀ f, (pop s'.q f).2 = (pop s.q f).2) ∧
    lastTSN s'.q = (lastTSN s.q).map (· + k) ∧
    (popDuplicates s'.q).2 = (popDuplicates s.q).2.map (· + k) := by
  intro s s' hs hs'
  have g : GInv s := hs ▸ run_ginv (start_ginv m c) ops
  have h : Shift k s.q s'.q := by
    rw [hs, hs']; exact shift_run ops (start_ginv m c).inv.toRing (shift_start m c k)
  refine ⟨h, shift_gaps h, fun t => ⟨shift_hasChunk h t, shift_canPush h t, (shift_push g.inv.toRing h t).1⟩,
    fun f => (shift_pop g.inv.toRing h f).1, ?_, h.dups⟩
  simp only [lastTSN, h.size, h.tail]
  split <;> rfl

-- non-vacuity / test: a run across the wrap and the same run shifted by 2^31+5 report the same blocks
set_option maxRecDepth 100000 in
example : gaps (run (start 64#32 (4294967290#32 + 2147483653#32))
      ([Op.data 4294967292#32 true, .data 1#32 true].map (shiftOp 2147483653#32))).q
    = [(2#16, 2#16), (7#16, 7#16)] := by decide +kernel

end C05
