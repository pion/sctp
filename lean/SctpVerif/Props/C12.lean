import SctpVerif.Proofs.Codec
/-!
# C12 — wire codec fidelity

Property theorems only, about the L0 model of packet.go / chunkheader.go / chunk_*.go / param*.go /
error_cause*.go (Model/Codec.lean; tied to the code by the `TestVerifCodec` differential runs).
`crc` is an arbitrary function throughout; `Codec.dec`/`Codec.enc` are the instances with CRC32c.

* `CodecSpec.wfPacket` — the explicit, decidable well-formedness predicate (Spec/CodecSpec.lean):
  lengths fit their 16-bit fields, derived fields are consistent (I-DATA: SSN = low 16 bits of MID,
  FSN = 0 on a B fragment, PPID = 0 otherwise; DATA: MID = FSN = 0), INIT/INIT-ACK flags 0, cause kind
  matches cause code, HMAC ids ∈ {1,3}, I-FORWARD-TSN streams normalised, HEARTBEAT(-ACK) exactly one
  Heartbeat-Info, and the LAST parameter of INIT / INIT-ACK longer than 4 bytes.
* `Codec.decChunks bs` — the chunk loop of `packet.unmarshal` on the chunk area `bs`.

Known and replayed on every run (known_findings.txt): F-codec-1 (an empty HEARTBEAT-ACK is accepted
but cannot be re-encoded), F-codec-2 (a trailing 4-byte INIT parameter is not decoded). They are why
re-encode stability is stated as `C12_reencode_stable_partial` (its hypothesis `CodecSpec.reencodable`
excludes exactly these two decoded shapes). Witness theorems below: `C12_reencode_witness_heartbeatAck`
exhibits F-codec-1 as an accepted packet that cannot be re-encoded; `C12_roundtrip_witness_initTail` exhibits
the decoder behaviour behind F-codec-2 as an encodable packet (outside `wfPacket`) with `dec (enc p) ≠ p` —
it is not itself a decoded packet that fails re-encode stability (such a one is the decoding of an INIT that
ends in two 4-byte parameters: the first is decoded, re-encoded, and then not decoded).
Chunk values may be up to 65535 bytes: for 65532…65535 the 16-bit chunk length wraps on both sides.
-/
namespace C12
open Codec CodecSpec

/-! ### framing layer -/

theorem C12_be16_roundtrip (v : BitVec 16) (x y : Byte) :
    (match be16 v with | [a, b] => u16 a b | _ => 0) = v ∧ be16 (u16 x y) = [x, y] :=
  ⟨by simp [be16], be16_u16 x y⟩

theorem C12_be32_roundtrip (v : BitVec 32) :
    (match be32 v with | [a, b, c, d] => u32 a b c d | _ => 0) = v ∧
    (match le32 v with | [a, b, c, d] => u32 d c b a | _ => 0) = v :=
  ⟨by simp [be32], by simp [le32]⟩

/-- `getPadding` (the translator-generated function): pads to the next multiple of 4 with 0–3 bytes -/
theorem C12_padding (n : Nat) : (n + pad4 n) % 4 = 0 ∧ pad4 n < 4 ∧ (n % 4 = 0 → pad4 n = 0) :=
  ⟨add_pad4_mod n, pad4_lt n, pad4_of_mod⟩

/-- `chunkHeader.unmarshal ∘ chunkHeader.marshal = id` for every value shorter than 2^16 bytes (also
the 65532…65535-byte values whose length field wraps), followed by at least 4 more bytes or by zero
bytes only -/
theorem C12_chunkHeader_roundtrip (t f : Byte) (v tail : Bytes) (hv : v.length < 65536)
    (ht : 4 ≤ tail.length ∨ allZero tail = true) :
    chunkHeaderUnmarshal (chunkHeaderMarshal t f v ++ tail) = .ok (t, f, v) :=
  chunkHeader_roundtrip t f v tail hv ht

/-- A CHUNK'S DECODING IS A FUNCTION OF ITS OWN `length` BYTES: for any chunk `hdr ++ v` whose length
field frames exactly itself, followed by ANY bytes (at least 4 of them, or only zeros), the result
is computed from (type, flags, v) alone. No hypothesis on `v`: it holds for malformed bodies too. -/
theorem C12_chunk_own_bytes (t f b1 b2 : Byte) (v tail tail' : Bytes)
    (hl : (u16 b1 b2 - 4#16).toNat = v.length)
    (ht : 4 ≤ tail.length ∨ allZero tail = true) (ht' : 4 ≤ tail'.length ∨ allZero tail' = true) :
    decChunk (t :: f :: b1 :: b2 :: (v ++ tail)) = decChunk (t :: f :: b1 :: b2 :: (v ++ tail')) := by
  rw [decChunk_framed t f b1 b2 v tail hl ht, decChunk_framed t f b1 b2 v tail' hl ht']

/-- LOCALITY of bundling: decoding `chunk ++ padding ++ rest` = decoding the chunk from its own
(type, flags, value), then decoding `rest`; `rest` is empty (then the padding must be zero) or holds
at least one more chunk header. Neither chunk influences how the other is decoded. -/
theorem C12_locality (t f b1 b2 : Byte) (v pad rest : Bytes)
    (hl : (u16 b1 b2 - 4#16).toNat = v.length) (hpad : pad.length = pad4 v.length)
    (hrest : (rest = [] ∧ allZero pad = true) ∨ 4 ≤ rest.length) :
    decChunks (t :: f :: b1 :: b2 :: (v ++ (pad ++ rest))) =
      ((if knownChunkType t then decBody t f v else .err .ErrUnmarshalUnknownChunkType) >>= fun c =>
        decChunks rest >>= fun cs => .ok (c :: cs)) :=
  decChunks_cons t f b1 b2 v pad rest hl hpad hrest

/-- `packet.unmarshal` applies exactly that chunk loop to everything after the 12-byte header -/
theorem C12_packet_chunks (raw : Bytes) (h : 12 ≤ raw.length) :
    decAfter raw = decChunks (raw.drop 12) >>= fun cs =>
      .ok { sport := g16 raw 0, dport := g16 raw 2, vtag := g32 raw 4, chunks := cs } :=
  decAfter_eq raw h

/-! ### round trips -/

/-- every parameter struct: `buildParam ∘ marshal = id`, whatever follows it -/
theorem C12_roundtrip_param (p : Param) (tail : Bytes) (h : CodecSpec.wfParam p = true) :
    buildParam (ptOf p) (encParam p ++ tail) = .ok (p, (encParam p).length) :=
  buildParam_roundtrip p tail h

/-- every error-cause struct: `buildErrorCause ∘ marshal = id`, whatever follows it -/
theorem C12_roundtrip_cause (c : Cause) (tail : Bytes) (h : wfCause c = true) :
    ∃ bs, encCause c = .ok bs ∧ buildErrorCause (bs ++ tail) = .ok (c, bs.length) :=
  ⟨causeBytes c, encCause_ok c h, by rw [buildErrorCause_roundtrip c tail h, causeBytes_length]⟩

/-- every chunk type (all 17: DATA, I-DATA, INIT, INIT-ACK, SACK, HEARTBEAT, HEARTBEAT-ACK, ABORT,
ERROR, SHUTDOWN, SHUTDOWN-ACK, SHUTDOWN-COMPLETE, COOKIE-ECHO, COOKIE-ACK, RECONFIG, FORWARD-TSN,
I-FORWARD-TSN): the chunk's `marshal` yields `header(t, f, v)` and its `unmarshal` on (t, f, v) yields
the chunk back -/
theorem C12_roundtrip_chunk (c : Chunk) (h : wfChunk c = true) :
    ∃ t f v, encChunk c = .ok (chunkHeaderMarshal t f v) ∧ knownChunkType t = true ∧ v.length < 65536 ∧
      decBody t f v = .ok c :=
  chunk_roundtrip c h

/-- ROUND TRIP: a well-formed packet (any bundle of the 17 chunk types) is marshalled successfully with
the sender's `doChecksum = true` (the CRC is written) and the result unmarshals to exactly the packet it
was built from, for both values of the receiver's `doChecksum` flag. Marshalling with `doChecksum = false`
(zero checksum field) is not covered here. -/
theorem C12_roundtrip_packet (crc : Bytes → BitVec 32) (p : Packet) (h : wfPacket p = true) :
    ∃ raw, encWith crc true p = .ok raw ∧ ∀ doChecksum, decWith crc doChecksum raw = .ok p :=
  packet_roundtrip crc p h

/-- the same for the functions the driver runs (real CRC32c) -/
theorem C12_roundtrip_packet_crc32c (p : Packet) (h : wfPacket p = true) :
    ∃ raw, enc true p = .ok raw ∧ ∀ doChecksum, dec doChecksum raw = .ok p :=
  packet_roundtrip Crc.crc32c p h

/-- the chunk loop of `packet.marshal` on a list of well-formed chunks, started on a 4-byte aligned buffer
`pre`, succeeds and appends a chunk area whose length is a multiple of 4 and which the chunk loop of
`packet.unmarshal` decodes to the same list -/
theorem C12_emitted_aligned (pre : Bytes) (hpre : pre.length % 4 = 0) (cs : List Chunk)
    (hwf : ∀ c ∈ cs, wfChunk c = true) :
    ∃ body, encChunks pre cs = .ok (pre ++ body) ∧ decChunks body = .ok cs ∧ body.length % 4 = 0 := by
  obtain ⟨body, h1, h2, h3, _⟩ := encChunks_roundtrip pre hpre cs hwf
  exact ⟨body, h1, h2, h3⟩

/-! ### type dispatch (against the tables the translator reads off the Go source) -/

/-- (1) for every type byte: the model accepts exactly the chunk types `packet.unmarshal` has a `case` for.
(2) TEST on one value per type (`probeValue`, flags 0), not a statement about all values: each type of the
table is decoded into the struct that case instantiates. -/
theorem C12_dispatch_chunks :
    (∀ t : Byte, knownChunkType t = (Gen.packetUnmarshalDispatch.map (·.1)).contains t.toNat) ∧
    (∀ e ∈ Gen.packetUnmarshalDispatch,
      (match decBody (byteOf e.1) 0 (probeValue e.1) with | .ok c => c.goStruct | _ => "rejected") = e.2) := by
  constructor
  · decide +kernel
  · decide +kernel

/-- `buildParam`. (1) TEST on one input per type (`probeParam`), not a statement about all inputs: each
parameter type of the Go switch is built into the struct of its case. (2) For every type number outside
the switch and all bytes: the result is `ErrParamTypeUnhandled`. -/
theorem C12_dispatch_params :
    (∀ e ∈ Gen.buildParamDispatch,
      (match buildParam (trunc16 e.1) (probeParam e.1) with | .ok (p, _) => p.goStruct | _ => "rejected") = e.2) ∧
    (∀ (typ : BitVec 16) (raw : Bytes), (Gen.buildParamDispatch.map (·.1)).contains typ.toNat = false →
      buildParam typ raw = .err .ErrParamTypeUnhandled) := by
  constructor
  · decide +kernel
  · intro typ raw h
    -- outside the table means different from each type number `buildParam` tests for
    simp only [Gen.buildParamDispatch, List.map_cons, List.map_nil, List.contains_eq_mem, List.mem_cons, List.not_mem_nil,
      or_false, decide_eq_false_iff_not, not_or] at h
    unfold buildParam
    simp only [pt_fwdtsn, pt_supext, pt_ecn, pt_random, pt_hmac, pt_chunklist, pt_cookie, pt_hb, pt_outreset,
      pt_reconfresp, pt_zerock, ← BitVec.toNat_inj, BitVec.toNat_ofNat, Nat.reducePow, Nat.reduceMod, h, ↓reduceIte]

/-- `buildErrorCause`, on the 4-byte causes `[a, b, 0, 4]` only (code `u16 a b`, length 4: header without
data) — a test on that one shape, not a statement about all cause bytes: (1) each cause code of the Go
switch selects the struct of its case; (2) every code outside the switch selects the plain header struct. -/
theorem C12_dispatch_causes :
    (∀ e ∈ Gen.buildErrorCauseDispatch,
      (match buildErrorCause [byteOf (e.1 / 256), byteOf e.1, 0, 4] with | .ok (c, _) => c.kind.goStruct | _ => "rejected") = e.2) ∧
    (∀ (a b : Byte), (Gen.buildErrorCauseDispatch.map (·.1)).contains (u16 a b).toNat = false →
      (match buildErrorCause [a, b, 0, 4] with | .ok (c, _) => c.kind.goStruct | _ => "rejected") = "errorCauseHeader") := by
  constructor
  · decide +kernel
  · intro a b h
    simp only [Gen.buildErrorCauseDispatch, List.map_cons, List.map_nil, List.contains_eq_mem, List.mem_cons,
      List.not_mem_nil, or_false, decide_eq_false_iff_not, not_or] at h
    have hcu := causeHeaderUnmarshal_cons a b 0 4 [] [] (by decide +kernel)
    simp only [List.append_nil, List.length_nil, Nat.add_zero] at hcu
    unfold buildErrorCause
    simp only [u16At_zero, ok_bind, hcu, cc_invparam, cc_unrec, cc_pviol, cc_uabort, ← BitVec.toNat_inj,
      BitVec.toNat_ofNat, Nat.reducePow, Nat.reduceMod, h, ↓reduceIte]
    rfl

/-! ### re-encode stability -/

/-- RE-ENCODE STABILITY, PARTIAL. Full strength would be: for EVERY accepted packet. That is false in
the code as it is (F-codec-1: `C12_reencode_witness_heartbeatAck` below; F-codec-2: the decoder behaviour
shown by `C12_roundtrip_witness_initTail` below), so the hypothesis `reencodable` excludes exactly
those two decoded shapes: a HEARTBEAT-ACK without parameter, and an INIT / INIT-ACK whose last
recognised parameter encodes to 4 bytes. For every other accepted byte string — any flag, any chunk
types, malformed-but-accepted bodies, trailing junk inside chunks, 65532…65535-byte values included —
the decoded packet `p` re-encodes successfully, the re-encoding decodes (for every receiver flag) to
`norm p` (= `p` without the never-marshalled list of unrecognised INIT parameters), and `norm p`
re-encodes to the same bytes: a fixpoint after one round. -/
theorem C12_reencode_stable_partial (crc : Bytes → BitVec 32) (doChecksum : Bool) (raw : Bytes) (p : Packet)
    (h : decWith crc doChecksum raw = .ok p) (hr : p.chunks.all reencodable = true) :
    ∃ raw', encWith crc true p = .ok raw' ∧ (∀ dc', decWith crc dc' raw' = .ok (norm p)) ∧
      encWith crc true (norm p) = .ok raw' :=
  reencode_stable crc doChecksum raw p h hr

/-- every chunk the decoder returns is well formed after `normChunk`, unless it is one of the two
shapes — in particular its re-encoding fits its length fields -/
theorem C12_decoded_wf (t f : Byte) (v : Bytes) (c : Chunk) (h : decBody t f v = .ok c) (hv : v.length < 65536)
    (hr : reencodable c = true) : wfChunk (normChunk c) = true :=
  (decBody_spec t f v).of_ok h hv hr

/-- WITNESS (F-codec-1) that full-strength re-encode stability is false in the code as it is: the
16-byte packet with an empty HEARTBEAT-ACK is accepted and decodes to a structure the encoder refuses. -/
theorem C12_reencode_witness_heartbeatAck :
    ∃ raw p, decWith (fun _ => 0#32) true raw = .ok p ∧ encWith (fun _ => 0#32) true p = .err .ErrHeartbeatAckParams :=
  ⟨[0x13,0x88, 0x13,0x88, 0,0,0,1, 0,0,0,0, 5,0,0,4].map (BitVec.ofNat 8),
   ⟨5000, 5000, 1, [.heartbeatAck 0 []]⟩, by decide +kernel, by decide +kernel⟩

/-- WITNESS (F-codec-2) against the round trip outside `wfPacket`: an INIT whose last parameter is 4 bytes
long (here ECN-capable) is encoded with it but decoded without it — the parameter loop stops at
`remaining ≤ 4`. (The decoded packet here, an INIT without parameters, is itself stable under re-encoding;
this is the behaviour that makes a decoded INIT ending in such a parameter unstable, not an instance of it.) -/
theorem C12_roundtrip_witness_initTail :
    ∃ p raw p', encWith (fun _ => 0#32) true p = .ok raw ∧ decWith (fun _ => 0#32) true raw = .ok p' ∧ p' ≠ p :=
  ⟨⟨5000, 5000, 1, [.init 0 ⟨1, 1500, 1, 1, 1, [.ecnCapable], []⟩]⟩,
   [0x13,0x88, 0x13,0x88, 0,0,0,1, 0,0,0,0, 1,0,0,0x18, 0,0,0,1, 0,0,5,0xdc, 0,1, 0,1, 0,0,0,1, 0x80,0,0,4].map (BitVec.ofNat 8),
   ⟨5000, 5000, 1, [.init 0 ⟨1, 1500, 1, 1, 1, [], []⟩]⟩, by decide +kernel, by decide +kernel, by decide +kernel⟩

/-! ### non-vacuity -/
example : wfPacket ⟨5000, 5000, 1, [.sack 0 7 1500 [(2, 3)] [9], .data false true true true false 1 2 3 0 0 51 [0x41#8],
    .init 0 ⟨1, 1500, 1, 1, 1, [.stateCookie [1#8, 2#8], .supportedExt [130#8, 192#8]], []⟩,
    .abort [⟨.userAbort, 12#16, [0x62#8]⟩], .reconfig 0 (.outReset 1 2 3 [4]) (some (.reconfigResp 5 1)),
    .iForwardTsn 0 9 [(1, true, 5), (1, false, 6)], .heartbeat [.heartbeatInfo [1#8]]]⟩ = true := by decide +kernel
example : (u16 0#8 5#8 - 4#16).toNat = ([0x41#8] : Bytes).length := by decide +kernel
example : wfPacket ⟨0, 0, 0, [.init 0 ⟨1, 1500, 1, 1, 1, [.ecnCapable], []⟩]⟩ = false := by decide +kernel
/-- the hypothesis of `C12_reencode_stable_partial` holds for a decoded packet with unrecognised INIT
parameters (where `norm p ≠ p`) and fails for exactly the witnesses -/
example : (Packet.mk 1 2 3 [.init 0 ⟨1, 1500, 1, 1, 1, [.stateCookie [1#8]], [(9#16, [])]⟩, .heartbeatAck 0 [.heartbeatInfo []]]).chunks.all
    reencodable = true := by decide +kernel
example : reencodable (.heartbeatAck 0 []) = false ∧ reencodable (.init 0 ⟨1, 1500, 1, 1, 1, [.ecnCapable], []⟩) = false := by
  decide +kernel

end C12
