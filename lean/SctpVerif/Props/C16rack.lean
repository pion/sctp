import SctpVerif.Proofs.Rack.Shift
/-!
# C16 — RACK / PTO / TLR do not depend on absolute TSN values (`Model/Rack.lean`)

Property theorems only. `Rack.shSt k s` adds `k` (mod 2^32) to every TSN of the state: the chunks of the in-flight
queue, the RACK list, `cumulativeTSNAckPoint`, `myNextTSN`, `minTSN2MeasureRTT`, `rackHighestDeliveredOrigTSN`, and
`tlrEndTSN` while a TLR episode is active (outside an episode the code leaves the literal 0 there). `Rack.shOp k`
does the same to the TSNs an operation carries. Every serial-number comparison in these functions is one of the
generated `Gen.sna32*` (`Props/C16.lean`).
-/
namespace C16
open Rack Gen

/-- ✱ Every function of the loss-recovery machinery commutes with shifting all TSNs by any constant, and the TSNs it
reports as marked are shifted by the same constant: `onRackAfterSACK`, the RACK timer callback, the PTO callback, the
timer loop, the SACK as a whole, `tlrBegin`, `tlrMaybeFinish`, the burst budget, sending and retransmitting — hence
every operation, hence every run. No behaviour depends on where in the TSN space an association lives. -/
theorem C16_rack_shift_invariant (k : BitVec 32) (s : St) (env : Env) :
    (∀ (found : Bool) (nt : Int) (t : BitVec 32) (nd : Int),
      onRackAfterSACK (shSt k s) env found nt (t + k) nd =
        (shSt k (onRackAfterSACK s env found nt t nd).1, (onRackAfterSACK s env found nt t nd).2.map (· + k))) ∧
    onRackTimeout (shSt k s) env = (shSt k (onRackTimeout s env).1, (onRackTimeout s env).2.map (· + k)) ∧
    onPTOTimer (shSt k s) env = (shSt k (onPTOTimer s env).1, (onPTOTimer s env).2.map (· + k)) ∧
    timerFire (shSt k s) env = (shSt k (timerFire s env).1, (timerFire s env).2.map (· + k)) ∧
    (∀ (cum : BitVec 32) (gaps : List (BitVec 32)) (nd : Int) (nm : Nat),
      sack (shSt k s) env (cum + k) (gaps.map (· + k)) nd nm =
        (sack s env cum gaps nd nm).map fun r => (shSt k r.1, r.2.map (· + k))) ∧
    tlrBegin (shSt k s) = shSt k (tlrBegin s) ∧
    (∀ p, tlrMaybeFinish (shSt k s) p = shSt k (tlrMaybeFinish s p)) ∧
    tlrBudgetScaled (shSt k s) env = (shSt k (tlrBudgetScaled s env).1, (tlrBudgetScaled s env).2) ∧
    schedulePTOAfterSend (shSt k s) env = shSt k (schedulePTOAfterSend s env) ∧
    (∀ op, step (shSt k s) (shOp k op) = shSt k (step s op)) :=
  ⟨fun _ _ _ _ => onRackAfterSACK_shift _ _ _ _ _ _ _ _ fun _ => rfl, by rw [onRackTimeout_eq, onRackTimeout_eq, markWith_shift], onPTOTimer_shift _ _ _, timerFire_shift _ _ _,
   fun _ _ _ _ => sack_shift _ _ _ _ _ _ _, tlrBegin_shift _ _, fun _ => tlrMaybeFinish_shift _ _ _, tlrBudgetScaled_shift _ _ _,
   schedulePTOAfterSend_shift _ _ _, fun _ => step_shift _ _ _⟩

/-- whole runs: the same operations from a shifted state end in the shifted state -/
theorem C16_rack_run_shift (k : BitVec 32) (s : St) (ops : List Op) :
    run (shSt k s) (ops.map (shOp k)) = shSt k (run s ops) := run_shift k ops s

/-- ✱ The initial state shifts with the initial TSN — in particular the RACK high-watermark starts just below the
first TSN (`init_rackHighWatermark`, regenerated from `createAssociationFromConfigWithTsn`), not at 0. This is the
defect D20, fixed in /repo (436b310): with `rackHighestDeliveredOrigTSN = 0` this theorem is false, and every
association whose initial TSN lies in the upper half of the number space reported reordering on its first SACK. -/
theorem C16_rack_init_shift (k : BitVec 32) (cfg : Cfg) (tsn : BitVec 32) (now : Int) :
    init cfg (tsn + k) now = shSt k (init cfg tsn now) := init_shift k cfg tsn now

/-- so two associations that differ only in their initial TSN go through the same RACK / PTO / TLR states, TSN for TSN -/
theorem C16_rack_runs_from_any_tsn (k : BitVec 32) (cfg : Cfg) (tsn : BitVec 32) (now : Int) (ops : List Op) :
    run (init cfg (tsn + k) now) (ops.map (shOp k)) = shSt k (run (init cfg tsn now) ops) := by
  rw [init_shift, run_shift]

-- non-vacuity / the D20 situation: the first delivered TSN is above the high-watermark wherever the TSN space starts
example : rack_hwAdvances (init {} 0xFFFFFFF0#32 1).hw 0xFFFFFFF0#32 = true := by decide +kernel
example : rack_hwAdvances (init {} 5#32 1).hw 5#32 = true := by decide +kernel
example : rack_hwAdvances 0#32 0xFFFFFFF0#32 = false := by decide +kernel   -- what a high-watermark of 0 did

end C16
