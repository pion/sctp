import SctpVerif.Proofs.NetSys.Data
/-!
# C01 — the composition: sender half + adversarial network + receiver half (`NetSys`)

Property theorems only. `Model/NetSys.lean` composes the two L0 models that are tied to the code by the direct-drive
correspondence runs (`Sender`: `TestVerifAssocSender`, `Receiver`: `TestVerifAssocReceiver`):

* a sending endpoint (`Sender.St`), a receiving endpoint (`Receiver.St`), the HISTORY of every DATA / I-DATA chunk any
  gather of the sender put on the wire;
* `deliver is` hands the receiver one packet made of the history chunks with indices `is` — any indices, any number of
  times, in any order, in any bundling; an index never chosen is a lost chunk;
* the sender's other inputs are ARBITRARY: the SACKs it processes (`Op.snd (.sack cum arwnd gaps marks)`) need not be the
  receiver's, nor truthful; the burst budget, RACK / PTO marks, T3 expiries and clock ticks are oracle values. Safety does
  not depend on any of them;
* the application's bytes are the ghost `pay` (message identity ↦ bytes); the sender model sees their length only;
  `toWire` cuts the slice `[i·mp, i·mp + len)` of `pay msg` for fragment `i` (what `packetize` copies — the copy
  itself is not modelled) and decodes the header as `chunkPayloadData.unmarshal` does.

The theorems below are the statement of C01 (safety part) for EVERY run of NetSys over reliable ordered streams:
on every stream, what the receiving application has read is a PREFIX of what the sending application wrote —
(PPI, bytes), in write order: nothing lost before something delivered, duplicated, reordered, truncated, merged, altered.

Hypotheses (each decidable on the run, each shown satisfiable by the `example`s at the end):
* `Reliable ops`: every `openS` is ordered with `relType = 0`, no `unreg` (the SSN / MID counters of a stream object are
  never restarted; no FORWARD-TSN is ever due, and NetSys delivers none);
* `chunksWritten P ops < 2^31`: fewer than 2^31 DATA chunks are created in all (each gets at most one TSN —
  `SenderTsn.run_tsn`, `moved_le_written`), so that a 32-bit TSN names one chunk;
* `SelContig P ops` (DATA only): the order in which the pending queue hands out chunks — the `sel` ORACLE of the Sender model;
  it is the order of the TSNs — keeps the fragments of a message together and serves each stream first-in-first-out.
  Stated on the run's `moved` list (chunks of the Sender model). `Props/C17.lean` proves the corresponding facts of the
  pending-queue model (`PendQ`, tied by `TestVerifPendQ`) about its own pops; no Lean statement connects the two except, for
  ordered-only traffic, the composed model `NetSysQ` (`Props/C01sel.lean`): `C17_contiguous` (once a non-final fragment is popped, the next pop is the
  next fragment of that message) and `C17_fragment_order` (the pops of a stream are a prefix of its pushes). It is needed
  because the receiver theorem describes the peer by a universe in which the fragments of a message have consecutive TSNs
  and the messages of a stream ascending ones; an arbitrary oracle (message 1 of a stream sent before message 0, fragments
  of two messages mixed) produces chunk sets outside that universe. (For such selections the theorem is silent: delivery
  would stall — `isComplete` never sees consecutive TSNs — whether safety could still fail is not decided here.)
* `WinOk P si W`: deviation D15 — at every step the messages written on the stream are at most `W` ahead of the messages
  read on it (`W = 2^31` for the 32-bit MID, `2^15` for the 16-bit SSN). It implies the `hwin` hypothesis of the receiver
  theorem (inside the proof: a chunk on the wire at some moment belongs to a message written before that moment).
-/
namespace C01
open NetSys SenderProofs SenderTsn

/-- ✱ **NetSys, I-DATA (message interleaving negotiated).** For every run of NetSys from the initial state, with ANY
selection oracle of the pending queue (fragments of different messages may interleave in the TSN space in any way: I-DATA
reassembly is by MID / FSN), any SACKs, any losses / duplications / reorderings / bundlings: on every stream `si` the
`(PPI, bytes)` read by the receiving application are a prefix of the `(PPI, bytes)` of the accepted writes on `si`. -/
theorem C01_netsys_prefix_idata (P : Params) (ops : List Op) (si : BitVec 16)
    (hil : P.cfg.useInterleaving = true) (hrel : Reliable ops = true)
    (htsn : chunksWritten P ops < 2^31) (hwin : WinOk P si (2^31) (init P) ops = true) :
    readsOn P si (init P) ops <+: writesOn P si (init P) ops :=
  netsys_prefix_idata P ops si hil hrel htsn hwin

/-- ✱ **NetSys, DATA (no interleaving).** For every run of NetSys from the initial state whose selection oracle is
message-contiguous and per-stream FIFO (`SelContig`, what `Props/C17.lean` proves of the real pending queue), with any
SACKs, any losses / duplications / reorderings / bundlings: on every stream `si` the `(PPI, bytes)` read by the receiving
application are a prefix of the `(PPI, bytes)` of the accepted writes on `si`.
Fragments that were written but never got a TSN are given, in the receiver theorem's universe, TSN offsets that no
moved chunk uses and that stay below the number of chunks written (counting: `Proofs/NetSys/Count.lean`). -/
theorem C01_netsys_prefix (P : Params) (ops : List Op) (si : BitVec 16)
    (hil : P.cfg.useInterleaving = false) (hrel : Reliable ops = true) (hsel : SelContig P ops = true)
    (htsn : chunksWritten P ops < 2^31) (hwin : WinOk P si (2^15) (init P) ops = true) :
    readsOn P si (init P) ops <+: writesOn P si (init P) ops :=
  netsys_prefix_data P ops si hil hrel hsel htsn hwin

/-- **One fragment, one TSN** (sender half, all runs, any configuration, any SACKs / oracles). Along every run from
`init`: the `j`-th chunk moved from the pending queue to in flight carries TSN `tsn + j`; every chunk ANY gather puts on
the wire — first transmission or T3 / RACK / PTO / fast retransmission — carries the TSN and the fragment identity of a
moved chunk; fragment identities are pairwise distinct among the moved chunks; and no more chunks are moved than were
written. (The consequence — two chunks on the wire with the same TSN, fewer than 2^32 chunks moved, are copies of the same
fragment, and a fragment never travels under two TSNs — is drawn where it is used, not stated here.) -/
theorem C01_wire_tsn_stable (cfg : Sender.Cfg) (tsn peerRwnd : BitVec 32) (ops : List Sender.Op) :
    let mv := moved (Sender.init cfg tsn peerRwnd) ops
    (∀ j m, mv[j]? = some m → m.tsn = tsn + BitVec.ofNat 32 j) ∧
    (∀ e ∈ wire (Sender.init cfg tsn peerRwnd) ops, ∃ m ∈ mv, m.tsn = e.tsn ∧ Chunk.frag m = Chunk.frag e) ∧
    (mv.map Chunk.frag).Nodup ∧ mv.length ≤ (written (Sender.init cfg tsn peerRwnd) ops).length :=
  ⟨(run_tsn cfg tsn peerRwnd ops).2.2.1, (run_tsn cfg tsn peerRwnd ops).2.2.2.1, moved_frag_nodup cfg tsn peerRwnd ops,
   moved_le_written cfg tsn peerRwnd ops⟩

/-- **SSN / MID assignment** (sender half). In every run in which the streams are opened ordered and never unregistered,
the chunks created by the writes are exactly `gen` of the accepted writes: the `k`-th accepted write on a stream
(from 0) creates fragments with SSN `k mod 2^16` (DATA) resp. MID `k mod 2^32` (I-DATA), FSN `0, 1, …`, `B` first,
`E` last, lengths `fragSizes`. Rejected writes consume no sequence number (the not-established one rolls back). -/
theorem C01_ssn_assignment (cfg : Sender.Cfg) (tsn peerRwnd : BitVec 32) (lenOf : Nat → Nat) (ops : List Sender.Op)
    (ho : ∀ op ∈ ops, OrdOp op) (hl : LenOk lenOf (Sender.init cfg tsn peerRwnd) ops) :
    written (Sender.init cfg tsn peerRwnd) ops =
      gen cfg.useInterleaving cfg.maxPayload.toNat lenOf [] (accepted (Sender.init cfg tsn peerRwnd) ops) :=
  (run_gen cfg.useInterleaving lenOf [] (Sender.init cfg tsn peerRwnd) ops (init_cinv _ cfg tsn peerRwnd) rfl ho hl).1

/-! ## tests by evaluation and non-vacuity (`decide` on concrete runs — these are tests, not theorems) -/

private def bytes (m : Nat) : List UInt8 :=
  match m with
  | 0 => [1, 2, 3, 4, 5]
  | 1 => [7]
  | 2 => [9, 8, 7]
  | _ => []

-- two streams, three messages (3 + 1 + 2 fragments at 2 bytes per fragment), initial TSN 2^32 − 2: the TSNs wrap.
-- I-DATA with an INTERLEAVING selection (fragments of message 0 and 2 of stream 1 and message 1 of stream 2 mixed),
-- deliveries out of order, duplicated, with a lost-then-retransmitted first fragment (an arbitrary SACK, T3, second gather),
-- indices beyond the history, a short read.
private def PI : Params :=
  { cfg := { mtu := 1200, maxPayload := 2, useInterleaving := true }, tsn := 4294967294#32, pay := bytes }
private def opsI : List Op :=
  [.snd (.openS 1 false 0 0 0), .snd (.openS 2 false 0 0 0), .write 1 51, .write 2 61, .write 1 52,
   .snd (.gather Sender.freeOracle [0, 2, 3, 0, 0, 0]),
   .deliver [(5, false), (4, true)], .rcv (.read (1, 0) 100),
   .deliver [(2, false), (1, false), (1, false)], .deliver [(3, false)], .rcv (.read (2, 0) 100),
   .snd (.sack 77 65536 [] []), .snd .t3, .snd (.gather Sender.freeOracle []),
   .deliver [(0, false), (9, false), (100, false)], .rcv (.read (1, 0) 1), .rcv (.read (1, 0) 100), .rcv (.read (1, 0) 100),
   .rcv (.read (1, 0) 100)]

-- test: the TSNs and MIDs the run assigned (wire history, first gather)
set_option maxRecDepth 1000000 in
example : ((run PI (init PI) opsI).wire.take 6).map (fun c => (c.tsn, c.si, c.msg, c.mid, c.fsn, c.len)) =
    [(4294967294#32, 1#16, 0, 0#32, 0#32, 2), (4294967295#32, 2#16, 1, 0#32, 0#32, 1), (0#32, 1#16, 2, 1#32, 1#32, 1),
     (1#32, 1#16, 0, 0#32, 1#32, 2), (2#32, 1#16, 0, 0#32, 2#32, 1), (3#32, 1#16, 2, 1#32, 0#32, 2)] := by decide +kernel

/-- What the tests below ask of the run `opsI`, decided together: the kernel keeps what it has evaluated only within one
declaration, and nearly all of the work is the receiver half of the run (about 2 000 heartbeats per delivered chunk). -/
private structure EvalI : Prop where
  reads : readsOn PI 1 (init PI) opsI = [(51, [1, 2, 3, 4, 5]), (52, [9, 8, 7])] ∧ readsOn PI 2 (init PI) opsI = [(61, [7])] ∧
    writesOn PI 1 (init PI) opsI = [(51, [1, 2, 3, 4, 5]), (52, [9, 8, 7])]
  reliable : Reliable opsI = true
  written : chunksWritten PI opsI < 2^31
  win : WinOk PI 1 (2^31) (init PI) opsI = true

private theorem evalI : EvalI := by
  refine (fun ⟨h1, h2, h3, h4⟩ => ⟨h1, h2, h3, h4⟩ : _ ∧ _ ∧ _ ∧ _ → EvalI) ?_
  decide +kernel

-- test: both messages of stream 1 arrive intact and in order, the message of stream 2 too
set_option maxRecDepth 1000000 in
example : readsOn PI 1 (init PI) opsI = [(51, [1, 2, 3, 4, 5]), (52, [9, 8, 7])] ∧ readsOn PI 2 (init PI) opsI = [(61, [7])] ∧
    writesOn PI 1 (init PI) opsI = [(51, [1, 2, 3, 4, 5]), (52, [9, 8, 7])] := evalI.reads

-- non-vacuity: the hypotheses of the theorem hold for this run
set_option maxRecDepth 1000000 in
example : readsOn PI 1 (init PI) opsI <+: writesOn PI 1 (init PI) opsI :=
  C01_netsys_prefix_idata PI opsI 1 rfl evalI.reliable evalI.written evalI.win

-- DATA: the same workload with a message-contiguous, per-stream FIFO selection (the pending queue's message policy)
private def PD : Params := { cfg := { mtu := 1200, maxPayload := 2 }, tsn := 4294967294#32, pay := bytes }
private def opsD : List Op :=
  [.snd (.openS 1 false 0 0 0), .snd (.openS 2 false 0 0 0), .write 1 51, .write 2 61, .write 1 52,
   .snd (.gather Sender.freeOracle [0, 0, 0, 0, 0, 0]),
   .deliver [(5, false), (4, true)], .rcv (.read (1, 0) 100),
   .deliver [(2, false), (1, false), (1, false)], .deliver [(3, false)], .rcv (.read (2, 0) 100),
   .snd (.sack 77 65536 [] []), .snd .t3, .snd (.gather Sender.freeOracle []),
   .deliver [(0, false), (9, false), (100, false)], .rcv (.read (1, 0) 1), .rcv (.read (1, 0) 100), .rcv (.read (1, 0) 100),
   .rcv (.read (1, 0) 100)]

-- test: TSNs 2^32−2, 2^32−1, 0 for message 0 (SSN 0), 1 for stream 2, 2, 3 for message 2 (SSN 1)
set_option maxRecDepth 1000000 in
example : ((run PD (init PD) opsD).wire.take 6).map (fun c => (c.tsn, c.si, c.msg, c.ssn, c.fsn, c.len)) =
    [(4294967294#32, 1#16, 0, 0#16, 0#32, 2), (4294967295#32, 1#16, 0, 0#16, 1#32, 2), (0#32, 1#16, 0, 0#16, 2#32, 1),
     (1#32, 2#16, 1, 0#16, 0#32, 1), (2#32, 1#16, 2, 1#16, 0#32, 2), (3#32, 1#16, 2, 1#16, 1#32, 1)] := by decide +kernel

/-- The same for the run `opsD`. -/
private structure EvalD : Prop where
  reads : readsOn PD 1 (init PD) opsD = [(51, [1, 2, 3, 4, 5]), (52, [9, 8, 7])] ∧ readsOn PD 2 (init PD) opsD = [(61, [7])]
  reliable : Reliable opsD = true
  sel : SelContig PD opsD = true
  written : chunksWritten PD opsD < 2^31
  win : WinOk PD 1 (2^15) (init PD) opsD = true

private theorem evalD : EvalD := by
  refine (fun ⟨h1, h2, h3, h4, h5⟩ => ⟨h1, h2, h3, h4, h5⟩ : _ ∧ _ ∧ _ ∧ _ ∧ _ → EvalD) ?_
  decide +kernel

set_option maxRecDepth 1000000 in
example : readsOn PD 1 (init PD) opsD = [(51, [1, 2, 3, 4, 5]), (52, [9, 8, 7])] ∧ readsOn PD 2 (init PD) opsD = [(61, [7])] := evalD.reads

-- non-vacuity: the run satisfies `SelContig` and the other hypotheses
set_option maxRecDepth 1000000 in
example : readsOn PD 1 (init PD) opsD <+: writesOn PD 1 (init PD) opsD :=
  C01_netsys_prefix PD opsD 1 rfl evalD.reliable evalD.sel evalD.written evalD.win

-- test: the interleaving selection of `opsI` is NOT message-contiguous
set_option maxRecDepth 1000000 in
example : SelContig PD opsI = false := by decide +kernel

end C01
