import SctpVerif.Proofs.Receiver.Sack
import SctpVerif.Props.C05
/-!
# C05 at association level — the SACKs the association builds tell the truth

Property theorems only. They are about the L0 model `Model/Receiver.lean` of the receive half of the
association (tied to association.go / stream.go by the correspondence run `TestVerifAssocReceiver`, which
replays every operation through the model and evaluates the ghost-set predicate S1–S4 on every SACK the
real association emits). The model COMPOSES the proved queue model `RecvQ`; the theorems below lift
`C05_sound`, `C05_complete` and `C05_monotone` to the SACK chunk built by `createSelectiveAckChunk`.

Vocabulary: `Receiver.Op` is the association's input alphabet (`pkt` = one inbound packet with any list of
DATA / I-DATA / FORWARD-TSN / I-FORWARD-TSN / HEARTBEAT / RE-CONFIG-reset chunks, `read`, `accept`, `open`,
`gather`, `tick`, `setState`); `Receiver.init` is the association after the handshake. `runTrace s ops` is
the list of association-level queue operations (`data t store`, `fwd c`, `sack`) the run performs on
`payloadQueue`; `RecvQ.run (RecvQ.start m c) …` instruments them with the ghost history `h`
(`acc k` / `skp k`: TSN `c0 + k` was accepted by `push` / explicitly skipped by the peer; `A`: how far the
cumulative point moved).
-/
namespace C05
open Gen RecvQ Receiver

/-- ✱ every SACK `gather` emits, after ANY op list, carries exactly the state of the receive queue, and that
state is the state of a ghost-instrumented run of association-level queue operations from
`newReceivePayloadQueue(getMaxTSNOffset(buf)); init(peerInitialTSN−1)`: so (S1) the cumulative TSN ack is
`c0 + A` and covers only accepted or skipped TSNs, (S2) every gap block names only accepted TSNs, and the
blocks are well-formed, sorted, disjoint and non-adjacent. -/
theorem C05_assoc_sack_sound (maxBuf maxEntries : BitVec 32) (il f g : Bool) (am : Int) (t : BitVec 32)
    (ops : List Receiver.Op) :
    let s0 := Receiver.init maxBuf maxEntries il f g am t
    let s := Receiver.run s0 ops
    let R := RecvQ.run (RecvQ.start (getMaxTSNOffset maxBuf) (t - 1)) (runTrace s0 ops)
    s.pq = R.q ∧
    (∀ cum arw gaps dups, Out.sack cum arw gaps dups ∈ (Receiver.gather s).2.1 →
      cum = R.q.cum ∧ gaps = RecvQ.gaps R.q ∧ dups = R.q.dups ∧
      cum = R.h.c0 + BitVec.ofNat 32 R.h.A ∧
      (∀ k, 1 ≤ k → k ≤ R.h.A → R.h.acc k ∨ R.h.skp k) ∧
      (∀ b ∈ gaps, 1 ≤ b.1.toNat ∧ b.1.toNat ≤ b.2.toNat ∧ ∀ j, b.1.toNat ≤ j → j ≤ b.2.toNat → R.h.acc (R.h.A + j)) ∧
      gaps.Pairwise (fun a b => a.2.toNat + 1 < b.1.toNat)) := by
  intro s0 s R
  have hpq : s.pq = R.q := run_pq_trace maxBuf maxEntries il f g am t ops
  refine ⟨hpq, ?_⟩
  intro cum arw gaps dups hmem
  obtain ⟨h1, h2, _, _, h5⟩ := C05_sound (getMaxTSNOffset maxBuf) (t - 1) (runTrace s0 ops) R rfl
  obtain ⟨_, hw⟩ := C05_assoc_window maxBuf
  obtain ⟨_, h6, h7⟩ := h5 hw
  obtain ⟨rfl, _, rfl, rfl⟩ := sack_mem_gather hmem
  rw [hpq]
  exact ⟨rfl, rfl, rfl, h1, h2, h6, h7⟩

/-- ✱ completeness (S4) for the association's SACK: every TSN accepted so far is at or below the cumulative
TSN ack or lies inside one of the SACK's gap blocks, and the blocks are maximal. -/
theorem C05_assoc_sack_complete (maxBuf maxEntries : BitVec 32) (il f g : Bool) (am : Int) (t : BitVec 32)
    (ops : List Receiver.Op) :
    let s0 := Receiver.init maxBuf maxEntries il f g am t
    let s := Receiver.run s0 ops
    let R := RecvQ.run (RecvQ.start (getMaxTSNOffset maxBuf) (t - 1)) (runTrace s0 ops)
    ∀ cum arw gaps dups, Out.sack cum arw gaps dups ∈ (Receiver.gather s).2.1 →
      (∀ k, R.h.acc k → k ≤ R.h.A ∨ ∃ b ∈ gaps, b.1.toNat ≤ k - R.h.A ∧ k - R.h.A ≤ b.2.toNat) ∧
      (∀ b ∈ gaps, (2 ≤ b.1.toNat → ¬ R.h.acc (R.h.A + (b.1.toNat - 1))) ∧ ¬ R.h.acc (R.h.A + (b.2.toNat + 1))) := by
  intro s0 s R cum arw gaps dups hmem
  obtain ⟨_, hs⟩ := C05_assoc_sack_sound maxBuf maxEntries il f g am t ops
  obtain ⟨_, hg, _⟩ := hs cum arw gaps dups hmem
  obtain ⟨_, _, h3⟩ := C05_complete (getMaxTSNOffset maxBuf) (t - 1) (runTrace s0 ops) R rfl
  obtain ⟨_, hw⟩ := C05_assoc_window maxBuf
  rw [hg]
  exact h3 hw

/-- ✱ (S3) no inbound chunk moves the cumulative point backwards: for every reachable association state and
every chunk (handed over in a packet of its own), the cumulative TSN afterwards is serially at or after the
one before, never before it. Chunks other than DATA / FORWARD-TSN do not move it at all. (Per chunk, not per
packet: serial-number order is not transitive across jumps that add up to 2^31 or more.) -/
theorem C05_assoc_cum_monotone (maxBuf maxEntries : BitVec 32) (il f g : Bool) (am : Int) (t : BitVec 32)
    (ops : List Receiver.Op) (ch : InChunk) :
    let s0 := Receiver.init maxBuf maxEntries il f g am t
    let s := Receiver.run s0 ops
    let s' := Receiver.step s (.pkt [ch])
    sna32LTE s.pq.cum s'.pq.cum = true ∧ sna32LT s'.pq.cum s.pq.cum = false := by
  intro s0 s s'
  have hrun : s' = Receiver.run s0 (ops ++ [.pkt [ch]]) := by
    show _ = Receiver.run s0 _
    rw [Receiver.run_append]; rfl
  have htr : runTrace s0 (ops ++ [.pkt [ch]]) = runTrace s0 ops ++ chunkTrace (chunksStart s) ch := by
    rw [runTrace_append]
    simp only [runTrace, opTrace, chunksTrace, List.append_nil]
    rfl
  have hq : ∀ ops', (Receiver.run s0 ops').pq = (RecvQ.run (RecvQ.start (getMaxTSNOffset maxBuf) (t - 1)) (runTrace s0 ops')).q :=
    run_pq_trace maxBuf maxEntries il f g am t
  rcases chunkTrace_short (chunksStart s) ch with he | ⟨op, he, hno⟩
  · have : s'.pq = s.pq := by
      rw [hrun, hq, htr, he, List.append_nil, ← hq]
    rw [this]
    exact ⟨by simp [sna32LTE], by simp [sna32LT]⟩
  · have hop : ∀ c', op ≠ .init c' := by
      intro c' hc; rw [hc] at hno; exact hno
    obtain ⟨_, hw⟩ := C05_assoc_window maxBuf
    have hm := C05_monotone (getMaxTSNOffset maxBuf) (t - 1) (runTrace s0 ops) op hop _ _ rfl rfl
    obtain ⟨_, _, _, _, _, _, h7⟩ := hm
    obtain ⟨_, h8, h9⟩ := h7 (by omega)
    have e1 : s.pq = (RecvQ.run (RecvQ.start (getMaxTSNOffset maxBuf) (t - 1)) (runTrace s0 ops)).q := hq ops
    have e2 : s'.pq = (RecvQ.run (RecvQ.start (getMaxTSNOffset maxBuf) (t - 1)) (runTrace s0 ops ++ [op])).q := by
      rw [hrun, hq, htr, he]
    rw [e1, e2]
    exact ⟨h8, h9⟩

-- non-vacuity (tests, by evaluation): an association whose peer starts at TSN 2^32−2; DATA 2^32−2, then a gap
-- (TSN 1 before TSN 2^32−1 and 0), then `gather`: one SACK with cumulative TSN 2^32−2 and the block 3-3.
private def c0 (t : Nat) : Reasm.Chunk :=
  { tsn := BitVec.ofNat 32 t, si := 1, ssn := 0, bf := true, ef := true, ppi := 51, userData := [7] }
private def ops0 : List Receiver.Op := [.data (c0 4294967294), .data (c0 1)]
set_option maxRecDepth 100000 in
example : (Receiver.gather (Receiver.run (Receiver.init 65536 0 false true false 0 4294967294#32) ops0)).2.1
    = [.sack 4294967294#32 65534#32 [(3#16, 3#16)] []] := by decide +kernel

end C05
