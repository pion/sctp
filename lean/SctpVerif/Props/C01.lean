import SctpVerif.Proofs.ReasmOrd
/-!
# C01 — reliable ordered streams deliver each message exactly once, in order, intact
(component level: the reassembly queue; DATA and I-DATA)

Property theorems only, about the L0 model `Model/Reasm.lean` of `reassemblyQueue` (tied to
reassembly_queue.go by the correspondence run `TestVerifReasm`; the same run evaluates the
executable form of this property on the implementation's own read results).

Vocabulary (defined in `Proofs/ReasmOrd.lean`):
* `Sender` = stream id, initial TSN (any value, the 2^32 wrap included) and the list of messages
  written; a `Msg` is a PPI and the list of pieces `Stream.packetize` cut the payload into
  (`Sender.WF`: at least one, fewer than 2^31 pieces). No bound on sizes or on the number of messages.
* `S.dataFrag k i` / `S.idataFrag τ k i`: fragment `i` of message `k` as it arrives: SSN = `k` mod 2^16
  and consecutive TSNs per message (DATA), MID = `k` mod 2^32 and FSN = `i` (I-DATA, whose TSNs `τ`
  are arbitrary), B/E flags at the ends, PPI on every DATA fragment / on the first I-DATA fragment only.
* `HOp`: `push k i` hands that fragment to `pushWithError`, `read n` calls `read` with an `n`-byte buffer.
* `S.Admissible frag W q d P ops`: indices valid; no fragment is pushed twice (the association filters
  duplicate TSNs, C05); and — the hypothesis the 16/32-bit sequence space forces — the fragment pushed
  belongs to a message fewer than `W` ahead of the number `d` of messages the application has read
  (`W = 2^15` for SSN, `2^31` for MID). Arrival order, interleaving with reads, buffer sizes, loss
  (fragments never pushed) and the entry limit `maxEntries` are otherwise arbitrary.
* `S.deliveries frag q ops`: the `(PPI, bytes)` of every read that returned no error, in order.
-/
namespace C01
open Reasm

/-- ✱ ordered DATA: the successful reads are a prefix of the written messages (PPI and bytes):
nothing lost before something delivered, duplicated, reordered, truncated, merged or altered. -/
theorem C01_reasm_ordered_data (S : Sender) (hS : S.WF) (maxEntries : BitVec 32) (ops : List HOp)
    (hadm : S.Admissible S.dataFrag (2^15) (new S.si maxEntries) 0 [] ops) :
    S.deliveries S.dataFrag (new S.si maxEntries) ops <+: S.msgs.map Msg.out := by
  have := OrdInv.prefix hS ops (OrdInv_new S maxEntries) hadm
  simpa using this

/-- ✱ ordered I-DATA (MID/FSN reassembly): same statement, window 2^31, TSNs arbitrary. -/
theorem C01_reasm_ordered_idata (S : Sender) (hS : S.WF) (τ : Nat → Nat → BitVec 32) (maxEntries : BitVec 32)
    (ops : List HOp)
    (hadm : S.Admissible (S.idataFrag τ) (2^31) (new S.si maxEntries) 0 [] ops) :
    S.deliveries (S.idataFrag τ) (new S.si maxEntries) ops <+: S.msgs.map Msg.out := by
  have := MidInv.prefix hS ops (MidInv_new S τ maxEntries) hadm
  simpa using this

/-- ✱ C01 at the reassembly queue, both framings under one name: the pair of `C01_reasm_ordered_data` and
`C01_reasm_ordered_idata` (same sender, same op list), with no content beyond them. -/
theorem C01_reasm_ordered (S : Sender) (hS : S.WF) (τ : Nat → Nat → BitVec 32) (maxEntries : BitVec 32)
    (ops : List HOp) :
    (S.Admissible S.dataFrag (2^15) (new S.si maxEntries) 0 [] ops →
      S.deliveries S.dataFrag (new S.si maxEntries) ops <+: S.msgs.map Msg.out) ∧
    (S.Admissible (S.idataFrag τ) (2^31) (new S.si maxEntries) 0 [] ops →
      S.deliveries (S.idataFrag τ) (new S.si maxEntries) ops <+: S.msgs.map Msg.out) :=
  ⟨C01_reasm_ordered_data S hS maxEntries ops, C01_reasm_ordered_idata S hS τ maxEntries ops⟩

/-- `chunkSet.isComplete` characterised: a TSN-sorted set of distinct fragments of message `k`
is complete iff it holds exactly all fragments of that message. -/
theorem C01_complete_iff_data (S : Sender) (hS : S.WF) (k : Nat) (hk : k < S.msgs.length) (js : List Nat)
    (hjs : ∀ j ∈ js, j < S.nf k) :
    chunksComplete (js.map (S.dataFrag k)) = true ↔ js = List.range (S.nf k) :=
  complete_iff_all S k (S.nf_pos hS hk) js hjs

/-- `chunkSetMID.isComplete` characterised likewise (FSN 0 … n-1, B first, E last). -/
theorem C01_complete_iff_idata (S : Sender) (hS : S.WF) (τ : Nat → Nat → BitVec 32) (k : Nat)
    (hk : k < S.msgs.length) (js : List Nat) (hjs : ∀ j ∈ js, j < S.nf k) :
    chunksCompleteMID (js.map (S.idataFrag τ k)) = true ↔ js = List.range (S.nf k) :=
  completeMID_iff_of (idataFrag_msgFrags S τ k) (S.nf_pos hS hk) js hjs

/-- the copy loop of `read`: when it ends without the short-buffer flag, the bytes copied are the concatenation
of the chunks' payloads in slice order and the count it returns is their total length. The short-buffer case
(flag set) is not covered by this theorem. -/
theorem C01_read_copies_concat (buflen : Int) (cs : List Chunk)
    (h : (copyLoop buflen cs 0 false []).2.1 = false) :
    (copyLoop buflen cs 0 false []).2.2 = (cs.map (·.userData)).flatten ∧
    (copyLoop buflen cs 0 false []).1 = (bytesOf cs : Nat) := by
  refine ⟨by simpa using copyLoop_ok buflen cs 0 [] h, by simpa using copyLoop_total buflen cs 0 false []⟩

-- non-vacuity (tests, by evaluation): two messages (2 + 1 fragments) starting at the TSN wrap, delivered
-- out of order with reads in between, satisfy `Admissible` and deliver both messages, in both framings.
private def S0 : Sender :=
  { si := 3, t0 := 0xFFFFFFFF#32, msgs := [{ ppi := 51, frags := [[1, 2], [3]] }, { ppi := 53, frags := [[9]] }] }
private def ops0 : List HOp := [.push 1 0, .read 100, .push 0 1, .read 100, .push 0 0, .read 1, .read 100, .read 100]
example : S0.Admissible S0.dataFrag (2^15) (new S0.si 0) 0 [] ops0 := by decide +kernel
example : S0.deliveries S0.dataFrag (new S0.si 0) ops0 = [(51, [1, 2, 3]), (53, [9])] := by decide +kernel
example : S0.Admissible (S0.idataFrag fun _ _ => 7) (2^31) (new S0.si 0) 0 [] ops0 := by decide +kernel
example : S0.deliveries (S0.idataFrag fun _ _ => 7) (new S0.si 0) ops0 = [(51, [1, 2, 3]), (53, [9])] := by decide +kernel
example : S0.WF := by unfold Sender.WF; decide +kernel

end C01
