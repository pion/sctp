import SctpVerif.Gen.Facts
/-!
# C10 — state guards of the code, pinned

`Gen.stateTests` is REGENERATED from /repo on every run by the translator (`go/extract/facts_state.go`): per function,
every comparison of the association state with a state constant, every `case` over state constants and every `setState`
call, in source order. This file pins that list for the state gate of SACK processing (`Sender.sack` is modelled for the established state; pending / received shutdown states process SACKs identically).
The hand-written L0 models mirror exactly these guards; the correspondence harnesses compare behaviour. A change of a guard
in the code breaks this obligation at once (a syntactic tie: a harmless rewrite breaks it too — then the expectation here is
to be updated after checking the models), and the harness jobs of C10 look for a concrete failing input.
-/
namespace C10

theorem C10_state_guards_pinned :
    Gen.stateTests.filter (fun p => ["Association.handleSack"].contains p.1) =
    [("Association.handleSack", ["state != established", "state != shutdownPending", "state != shutdownReceived"])] := by decide +kernel

end C10
