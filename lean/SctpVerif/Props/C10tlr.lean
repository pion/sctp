import SctpVerif.Proofs.Rack.Tlr
import SctpVerif.Proofs.Rack.Units
/-!
# C10 — the TLR burst budget (`tlr*Locked` in association.go), on `Model/Rack.lean`

Property theorems only. `Rack.tlrAllow` is `tlrAllowSendLocked` assembled from the generated expression sites
`Gen.tlrAllow_*`; `Rack.admitted active (budget, consumed) ests` are the positive estimates among the requests `ests`
of ONE `gatherOutbound` (in the order its three loops make them) that were answered `true`.

What the code gives — and what it does not: the budget is handed out per GATHER (`gatherOutbound` starts every call
with a fresh `tlrCurrentBurstBudgetScaledLocked()` and `consumed = false`), not per RTT phase. The bound below is
therefore per gather; two gathers in the same phase each get the full budget (`C10_tlr_budget_is_per_gather`).
-/
namespace C10
open Rack Gen

/-- ✱ One gather during a TLR episode: four times the admitted estimated bytes stay within the scaled burst budget
(`units * MTU`, i.e. `units/4` MTUs), except that the FIRST admitted request is let through whatever it costs — then it
is the only one (nothing else fits a budget that was clamped to 0). The exact bound of the code:
`4 * Σ admitted ≤ max budget (4 * first admitted)`. -/
theorem C10_tlr_budget_bound (budget : Int) (hb : 0 ≤ budget) (ests : List Int) :
    4 * (admitted true (budget, false) ests).sum ≤ max budget (4 * (admitted true (budget, false) ests).headD 0) :=
  admitted_fresh ests budget hb

/-- the same in bytes when no single request exceeds one MTU (every call site tests `addBytes <= MTU` before asking):
at most `max (units/4) 1` MTUs per gather, `units` being the burst units of the current phase -/
theorem C10_tlr_budget_bound_mtu (units mtu : Int) (hu : 0 ≤ units) (hm : 0 ≤ mtu) (ests : List Int)
    (hreq : ∀ e ∈ ests, e ≤ mtu) :
    4 * (admitted true (units * mtu, false) ests).sum ≤ max units 4 * mtu := by
  have h := admitted_fresh ests (units * mtu) (Int.mul_nonneg hu hm)
  have hsub : ∀ (b : Int × Bool) (l : List Int), (∀ e ∈ l, e ≤ mtu) → (admitted true b l).headD 0 ≤ mtu := by
    intro b l
    induction l generalizing b with
    | nil => intro _; simpa [admitted] using hm
    | cons e es ih =>
      intro hl
      simp only [admitted]
      split
      · simpa using hl e List.mem_cons_self
      · exact ih _ (fun x hx => hl x (List.mem_cons_of_mem _ hx))
  have h2 := hsub (units * mtu, false) ests hreq
  have h3 : units * mtu ≤ max units 4 * mtu := Int.mul_le_mul_of_nonneg_right (Int.le_max_left _ _) hm
  have h4 : 4 * mtu ≤ max units 4 * mtu := Int.mul_le_mul_of_nonneg_right (Int.le_max_right _ _) hm
  have h5 : 4 * (admitted true (units * mtu, false) ests).headD 0 ≤ 4 * mtu := by omega
  omega

/-- outside an episode, and for requests that cost nothing, the gate is open and the budget untouched -/
theorem C10_tlr_inactive_free (active : Bool) (b : Int × Bool) (est : Int) (h : active = false ∨ est ≤ 0) :
    tlrAllow active b est = (true, b) := tlrAllow_free_cases active b est h

/-- the budget is per gather, not per RTT phase: two gathers at the same instant of an episode (budget of 2 MTUs of
1200 bytes, scaled by 4) each admit two full packets -/
theorem C10_tlr_budget_is_per_gather :
    admitted true (8 * 1200, false) [1200, 1200, 1200] = [1200, 1200] ∧
    admitted true (8 * 1200, false) [1200, 1200, 1200] ++ admitted true (8 * 1200, false) [1200, 1200, 1200] = [1200, 1200, 1200, 1200] := by
  decide +kernel

/-- the gate the sender model of C10/C15 is replayed with (`Sender.tlrAllow`) is this function: the theorems of
`Props/C10.lean`, stated for any oracle, and the ones here are about the same code -/
theorem C10_tlr_allow_is_senders (active : Bool) (bud : Int) (con : Bool) (est : Int) :
    Sender.tlrAllow (active, bud, con) est =
      ((tlrAllow active (bud, con) est).1, (active, (tlrAllow active (bud, con) est).2.1, (tlrAllow active (bud, con) est).2.2)) :=
  tlrAllow_sender active bud con est

/-- ✱ `tlrMaybeFinishLocked` ends the episode exactly when the cumulative ack point has reached the TSN recorded at its
start (serial-number comparison), whatever else is going on … -/
theorem C10_tlr_finish (s : St) (p : Bool) (ha : s.tlrActive = true) :
    (tlrMaybeFinish s p).tlrActive = !sna32GTE s.cumAck s.tlrEndTSN :=
  tlrMaybeFinish_tlrActive s p ha

/-- … and that TSN is the highest one in the in-flight queue when the episode began (`cumAck` if the queue was empty):
the episode ends when everything outstanding at its start has been cumulatively acknowledged -/
theorem C10_tlr_begin_end (s : St) :
    (tlrBegin s).tlrActive = true ∧
    (tlrBegin s).tlrEndTSN = s.cumAck + BitVec.ofNat 32 (scanFrom s.q (s.cumAck + 1)).length := by
  refine ⟨rfl, ?_⟩
  have h0 : tlr_scanTSN (a_cumulativeTSNAckPoint := s.cumAck) (i := 0) = s.cumAck + 1 := by
    unfold tlr_scanTSN; bv_omega
  simp only [tlrBegin, tlrHighestOutstanding, h0]
  generalize (scanFrom s.q (s.cumAck + 1)).length = n
  by_cases hn : n = 0
  · simp [hn]
  · simp only [hn, ↓reduceIte, tlr_scanTSN]
    have : n - 1 + 1 = n := by omega
    rw [show BitVec.ofNat 32 n = BitVec.ofNat 32 (n - 1 + 1) by rw [this]]
    simp only [BitVec.ofNat_add]
    bv_omega

/-- the burst units never leave the range the code intends — first-RTT burst in [8, 16] quarter-MTUs (2 … 4 MTU),
later-RTT burst in [5, 8] (1.25 … 2 MTU) — in every state reachable by any operation list; so the budget of a gather
(`units * MTU`, scaled by 4) is between 1.25 and 4 MTUs during an episode -/
theorem C10_tlr_units_bounded (cfg : Cfg) (tsn : BitVec 32) (now : Int) (ops : List Op) :
    let s := run (init cfg tsn now) ops
    8 ≤ s.tlrBurstFirst ∧ s.tlrBurstFirst ≤ 16 ∧ 5 ≤ s.tlrBurstLater ∧ s.tlrBurstLater ≤ 8 :=
  UnitsOK.run ops (UnitsOK.init cfg tsn now)

-- non-vacuity: an episode over TSNs 11..13 ends at cumAck = 13, not at 12
example : (tlrMaybeFinish { (default : St) with tlrActive := true, tlrEndTSN := 13, cumAck := 12 } true).tlrActive = true := by decide +kernel
example : (tlrMaybeFinish { (default : St) with tlrActive := true, tlrEndTSN := 13, cumAck := 13 } true).tlrActive = false := by decide +kernel
example : 4 * (admitted true (9600, false) [1200, 1200, 1200]).sum ≤ 9600 := by decide +kernel
example : admitted true (0, false) [1500, 100] = [1500] := by decide +kernel
-- C10_tlr_budget_bound_mtu: 8 units, MTU 1200, requests of at most one MTU: two MTUs pass
example : 4 * (admitted true (8 * 1200, false) [1200, 1200, 600]).sum ≤ max 8 4 * 1200 := by decide +kernel

end C10
