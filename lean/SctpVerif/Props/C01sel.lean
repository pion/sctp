import SctpVerif.Proofs.NetSys.Data
import SctpVerif.Proofs.NetSys.SelFifo
import SctpVerif.Proofs.NetSys.SelQShape
/-!
# C01 — the selection hypothesis of the DATA composition, discharged for FIFO selection

Property theorems only. `C01_netsys_prefix` (`Props/C01net.lean`) has the hypothesis `SelContig P ops`: the order in
which the pending queue hands out chunks (the `sel` ORACLE of `Model/Sender.lean`, = the TSN order) keeps the fragments of
a message together and serves each stream first-in-first-out. Here it is DERIVED from what the code does:

* without interleaving `pendingQueue` runs `messagePendingQueuePolicy`: an ordered and an unordered FIFO queue; `peek`
  returns the head of the queue of the message being sent (`selected`, `unorderedIsSelected`), otherwise the head of the
  unordered queue if it is non-empty, else the head of the ordered queue (pending_queue.go; `PendQ.MsgPol.peek`);
* over RELIABLE ORDERED streams (`Reliable ops`) every chunk is ordered, so only the ordered queue is ever used and every
  `peek` returns the OLDEST queued chunk: `C17.C17_ordered_only_fifo` (`Props/C17fifo.lean`, PendQ model);
* in the Sender model the queue is the list `pending` in push order and `sel` are the indices `peek` returned, each taken
  after the earlier pops: the oldest queued chunk is index 0. `SelFifo ops` says exactly this: every `gather` of the run
  has a selection list of zeros.

`C01_selfifo_selcontig`: `SelFifo` and `Reliable` imply `SelContig`, because `write` fills the pending queue message by
message with the fragments adjacent and in order (`C01_write_fragments`, `C01_ssn_assignment`) and a FIFO queue hands them
out in that order (`C01_fifo_tsn_order`). `C01_netsys_prefix_fifo` is `C01_netsys_prefix` with `SelFifo` in the place of
`SelContig`.

`Model/NetSysQ.lean` COMPOSES the two models: next to the sender state runs the message policy `PendQ.MsgPol`, pushed every
chunk a write appends to `pending`; the selection list of a gather is what draining that queue hands out, each chunk
looked up by identity in the pending list (exactly how the `as` harness computes the `sel=` values it logs from the real
queue). `C01_netsysq_selfifo`: over reliable ordered streams every selection list NetSysQ computes is all zeros;
`C01_netsysq_prefix`: the prefix theorem for every run of NetSysQ, WITHOUT any hypothesis on the selection.

What remains outside Lean: that the real `pendingQueue` and the real `pending`-order bookkeeping behave as the composed
model says, i.e. `SelFifo` for real runs. It is tied by `TestVerifPendQ` (PendQ model vs pending_queue.go) and by the `as`
correspondence harness, which logs the indices of the chunks the real queue handed out (`sel=`), replays them through
`Sender.gather`, and whose predicate `[C01,C17]` (`Driver/Assoc.lean`) checks that they are all 0 in non-interleaved,
all-ordered sequences. (`C01_netsysq_no_queue_error`: in such runs of the composed model no `pendingQueue.pop` fails —
the `err` flag of NetSysQ, after which it hands out nothing, is never raised.)
-/
namespace C01
open NetSys SenderProofs SenderTsn

/-- **FIFO selection: TSNs are assigned in write order** (sender half; any configuration, any streams — ordered or not,
reliable or not —, any SACKs / budget / loss-mark / timer oracles). In every run of the Sender model from `init` whose
gathers all carry a selection list of zeros (`peek` = the oldest pending chunk), the fragment identities of the chunks
written so far are those of the chunks moved to in flight so far (= in TSN order, `C01_wire_tsn_stable`) followed by
those of the chunks still pending: nothing overtakes, nothing is dropped from the pending queue. -/
theorem C01_fifo_tsn_order (cfg : Sender.Cfg) (tsn peerRwnd : BitVec 32) (ops : List Sender.Op)
    (hsel : ∀ op ∈ ops, FifoOp op = true) :
    (written (Sender.init cfg tsn peerRwnd) ops).map Chunk.frag =
      (moved (Sender.init cfg tsn peerRwnd) ops).map Chunk.frag ++
        (Sender.run (Sender.init cfg tsn peerRwnd) ops).pending.map Chunk.frag :=
  moved_prefix_written cfg tsn peerRwnd ops hsel

/-- **Over reliable ordered streams only ordered chunks are queued** — the Sender-model counterpart of the hypothesis `hord`
of `C17.C17_ordered_only_fifo` (which is about the pushes of a `PendQ` run).
In every NetSys run whose streams are all opened ordered (`Reliable`), every chunk any write pushes to the pending queue
has `unordered = false`. -/
theorem C01_reliable_pushes_ordered (P : Params) (ops : List Op) (hrel : Reliable ops = true) :
    ∀ c ∈ written (init P).snd (sndOps P (init P).snd ops), c.unordered = false :=
  reliable_written_ordered P ops hrel

/-- ✱ **`SelContig` holds for FIFO selection.** For every NetSys run over reliable ordered streams in which every
gather selects the oldest pending chunk every time (`SelFifo`), the move order (= TSN order) is message-contiguous and
per-stream first-in-first-out. Any configuration (interleaving on or off), any SACKs, any deliveries. -/
theorem C01_selfifo_selcontig (P : Params) (ops : List Op) (hsel : SelFifo ops = true) (hrel : Reliable ops = true) :
    SelContig P ops = true :=
  selFifo_selContig P ops hsel hrel

/-- ✱ **NetSys, DATA (no interleaving), FIFO selection.** The statement of `C01_netsys_prefix` with the hypothesis
`SelContig` replaced by `SelFifo` — what `messagePendingQueuePolicy` does when only ordered chunks are queued
(`C17.C17_ordered_only_fifo`): for every run of NetSys from the initial state over reliable ordered streams whose gathers
take the pending chunks oldest first, with any SACKs, any losses / duplications / reorderings / bundlings, on every stream
`si` the `(PPI, bytes)` read by the receiving application are a prefix of the `(PPI, bytes)` of the accepted writes on `si`. -/
theorem C01_netsys_prefix_fifo (P : Params) (ops : List Op) (si : BitVec 16)
    (hil : P.cfg.useInterleaving = false) (hrel : Reliable ops = true) (hsel : SelFifo ops = true)
    (htsn : chunksWritten P ops < 2^31) (hwin : WinOk P si (2^15) (init P) ops = true) :
    readsOn P si (init P) ops <+: writesOn P si (init P) ops :=
  netsys_prefix_data P ops si hil hrel (selFifo_selContig P ops hsel hrel) htsn hwin

/-- **NetSysQ runs are NetSys runs**: the system state of a run of the composed model `NetSysQ` (NetSys + the message
policy of the pending-queue model in the place of the selection oracle) is the state of the NetSys run on the resolved
operation list, in which every gather carries the selection the queue model computed. -/
theorem C01_netsysq_run (P : Params) (ops : List Op) :
    (NetSysQ.run P (NetSysQ.init P) ops).sys = run P (init P) (NetSysQ.resolve P (NetSysQ.init P) ops) :=
  NetSysQ.run_sys P (NetSysQ.init P) ops

/-- ✱ **The pending-queue model selects FIFO over reliable ordered streams.** In every run of NetSysQ whose streams are
all opened ordered and reliable (whatever selection lists the operations carry — they are ignored), every selection list
the message policy produces is all zeros, and the resolved run is again over reliable ordered streams. -/
theorem C01_netsysq_selfifo (P : Params) (ops : List Op) (hrel : Reliable ops = true) :
    SelFifo (NetSysQ.resolve P (NetSysQ.init P) ops) = true ∧ Reliable (NetSysQ.resolve P (NetSysQ.init P) ops) = true :=
  NetSysQ.resolve_fifo P (NetSysQ.init P) ops (NetSysQ.init_rinv P) hrel

/-- ✱ **NetSysQ, DATA (no interleaving): no hypothesis on the selection.** For every run of NetSysQ — sender half, the
message policy of `pendingQueue` choosing the chunks, adversarial network, receiver half — over reliable ordered streams,
with any SACKs, budgets, loss marks, timer inputs, any losses / duplications / reorderings / bundlings: on every stream
`si` the `(PPI, bytes)` read by the receiving application are a prefix of the `(PPI, bytes)` of the accepted writes. -/
theorem C01_netsysq_prefix (P : Params) (ops : List Op) (si : BitVec 16)
    (hil : P.cfg.useInterleaving = false) (hrel : Reliable ops = true)
    (htsn : chunksWritten P (NetSysQ.resolve P (NetSysQ.init P) ops) < 2^31)
    (hwin : WinOk P si (2^15) (init P) (NetSysQ.resolve P (NetSysQ.init P) ops) = true) :
    readsOn P si (init P) (NetSysQ.resolve P (NetSysQ.init P) ops) <+:
      writesOn P si (init P) (NetSysQ.resolve P (NetSysQ.init P) ops) :=
  C01_netsys_prefix_fifo P _ si hil (C01_netsysq_selfifo P ops hrel).2 (C01_netsysq_selfifo P ops hrel).1 htsn hwin

/-- **No queue error over reliable ordered streams.** In every run of NetSysQ whose streams are all opened ordered and
reliable, no `pendingQueue.pop` fails (`ErrUnexpectedQState` needs a non-first fragment at the head while no message is
selected; writes queue whole messages, B first, E last, and the queue runs parallel to the sender's pending list) and
every chunk `peek` returns is found in the pending list: the flag `err` is never raised. -/
theorem C01_netsysq_no_queue_error (P : Params) (ops : List Op) (hrel : Reliable ops = true) :
    (NetSysQ.run P (NetSysQ.init P) ops).q.err = false :=
  NetSysQ.run_noerr P (NetSysQ.init P) ops (NetSysQ.init_rinv2 P) hrel

/-! ## tests by evaluation and non-vacuity (`decide` on concrete runs — these are tests, not theorems) -/

private def bytes (m : Nat) : List UInt8 :=
  match m with
  | 0 => [1, 2, 3, 4, 5]
  | 1 => [7]
  | 2 => [9, 8, 7]
  | _ => []

-- the DATA workload of `Props/C01net.lean`: two streams, three messages (3 + 1 + 2 fragments), TSNs wrap; the first
-- gather's selection list ends after two chunks, a later gather takes the rest
private def PD : Params := { cfg := { mtu := 1200, maxPayload := 2 }, tsn := 4294967294#32, pay := bytes }
private def opsD : List Op :=
  [.snd (.openS 1 false 0 0 0), .snd (.openS 2 false 0 0 0), .write 1 51, .write 2 61,
   .snd (.gather Sender.freeOracle [0, 0]), .write 1 52,
   .snd (.gather Sender.freeOracle [0, 0, 0, 0, 0, 0]),
   .deliver [(5, false), (4, true)], .rcv (.read (1, 0) 100),
   .deliver [(2, false), (1, false), (1, false)], .deliver [(3, false)], .rcv (.read (2, 0) 100),
   .snd (.sack 77 65536 [] []), .snd .t3, .snd (.gather Sender.freeOracle []),
   .deliver [(0, false), (9, false), (100, false)], .rcv (.read (1, 0) 1), .rcv (.read (1, 0) 100), .rcv (.read (1, 0) 100),
   .rcv (.read (1, 0) 100)]

-- test: write order = TSN order
set_option maxRecDepth 1000000 in
example : ((run PD (init PD) opsD).wire.take 6).map (fun c => (c.tsn, c.si, c.msg, c.ssn, c.fsn, c.len)) =
    [(4294967294#32, 1#16, 0, 0#16, 0#32, 2), (4294967295#32, 1#16, 0, 0#16, 1#32, 2), (0#32, 1#16, 0, 0#16, 2#32, 1),
     (1#32, 2#16, 1, 0#16, 0#32, 1), (2#32, 1#16, 2, 1#16, 0#32, 2), (3#32, 1#16, 2, 1#16, 1#32, 1)] := by decide +kernel

/-- What the tests below ask of the run `opsD`, decided together: the kernel keeps what it has evaluated only within one
declaration, and nearly all of the work is the receiver half of the run. -/
private structure EvalD : Prop where
  reads : readsOn PD 1 (init PD) opsD = [(51, [1, 2, 3, 4, 5]), (52, [9, 8, 7])] ∧ readsOn PD 2 (init PD) opsD = [(61, [7])]
  reliable : Reliable opsD = true
  selFifo : SelFifo opsD = true
  written : chunksWritten PD opsD < 2^31
  win : WinOk PD 1 (2^15) (init PD) opsD = true
  selContig : SelContig PD opsD = true

private theorem evalD : EvalD := by
  refine (fun ⟨h1, h2, h3, h4, h5, h6⟩ => ⟨h1, h2, h3, h4, h5, h6⟩ : _ ∧ _ ∧ _ ∧ _ ∧ _ ∧ _ → EvalD) ?_
  decide +kernel

set_option maxRecDepth 1000000 in
example : readsOn PD 1 (init PD) opsD = [(51, [1, 2, 3, 4, 5]), (52, [9, 8, 7])] ∧ readsOn PD 2 (init PD) opsD = [(61, [7])] := evalD.reads

-- non-vacuity: the run satisfies `SelFifo` and the other hypotheses
set_option maxRecDepth 1000000 in
example : readsOn PD 1 (init PD) opsD <+: writesOn PD 1 (init PD) opsD :=
  C01_netsys_prefix_fifo PD opsD 1 rfl evalD.reliable evalD.selFifo evalD.written evalD.win

-- test: the derived `SelContig` agrees with its evaluation on the run
set_option maxRecDepth 1000000 in
example : SelContig PD opsD = true := evalD.selContig

-- test: a selection that is not FIFO (index 2 first) is rejected by `SelFifo`
example : SelFifo [.snd (.gather Sender.freeOracle [0, 2, 3, 0, 0, 0])] = false := by decide +kernel

-- NetSysQ: the same workload with ARBITRARY selection lists in the operations (ignored): the queue model resolves them
private def opsQ : List Op :=
  [.snd (.openS 1 false 0 0 0), .snd (.openS 2 false 0 0 0), .write 1 51, .write 2 61,
   .snd (.gather (Sender.tlrOracle true 0) [7, 7]), .write 1 52,
   .snd (.gather Sender.freeOracle [5, 4, 3, 2, 1, 0]),
   .deliver [(5, false), (4, true)], .rcv (.read (1, 0) 100),
   .deliver [(2, false), (1, false), (1, false)], .deliver [(3, false)], .rcv (.read (2, 0) 100),
   .snd (.sack 77 65536 [] []), .snd .t3, .snd (.gather Sender.freeOracle []),
   .deliver [(0, false), (9, false), (100, false)], .rcv (.read (1, 0) 1), .rcv (.read (1, 0) 100), .rcv (.read (1, 0) 100),
   .rcv (.read (1, 0) 100)]

/-- The same for the run `opsQ` of the composed model. -/
private structure EvalQ : Prop where
  sels : ((NetSysQ.resolve PD (NetSysQ.init PD) opsQ).filterMap fun
      | .snd (.gather _ sel) => some sel
      | _ => none) = [[0, 0, 0, 0], [0, 0, 0, 0, 0], []] ∧
    (NetSysQ.run PD (NetSysQ.init PD) opsQ).q.err = false
  reads : readsOn PD 1 (init PD) (NetSysQ.resolve PD (NetSysQ.init PD) opsQ) = [(51, [1, 2, 3, 4, 5]), (52, [9, 8, 7])]
  reliable : Reliable opsQ = true
  written : chunksWritten PD (NetSysQ.resolve PD (NetSysQ.init PD) opsQ) < 2^31
  win : WinOk PD 1 (2^15) (init PD) (NetSysQ.resolve PD (NetSysQ.init PD) opsQ) = true

private theorem evalQ : EvalQ := by
  refine (fun ⟨h1, h2, h3, h4, h5⟩ => ⟨h1, h2, h3, h4, h5⟩ : _ ∧ _ ∧ _ ∧ _ ∧ _ → EvalQ) ?_
  decide +kernel

-- test: the selection lists the queue model computed (4, then 6 - 1 chunks queued: the budget let one chunk through), no queue error
set_option maxRecDepth 1000000 in
example : ((NetSysQ.resolve PD (NetSysQ.init PD) opsQ).filterMap fun
      | .snd (.gather _ sel) => some sel
      | _ => none) = [[0, 0, 0, 0], [0, 0, 0, 0, 0], []] ∧
    (NetSysQ.run PD (NetSysQ.init PD) opsQ).q.err = false := evalQ.sels

set_option maxRecDepth 1000000 in
example : readsOn PD 1 (init PD) (NetSysQ.resolve PD (NetSysQ.init PD) opsQ) = [(51, [1, 2, 3, 4, 5]), (52, [9, 8, 7])] := evalQ.reads

-- non-vacuity of `C01_netsysq_prefix`
set_option maxRecDepth 1000000 in
example : readsOn PD 1 (init PD) (NetSysQ.resolve PD (NetSysQ.init PD) opsQ) <+:
    writesOn PD 1 (init PD) (NetSysQ.resolve PD (NetSysQ.init PD) opsQ) :=
  C01_netsysq_prefix PD opsQ 1 rfl evalQ.reliable evalQ.written evalQ.win

end C01
