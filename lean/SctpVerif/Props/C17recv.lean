import SctpVerif.Proofs.Receiver.Total
/-!
# C17 (negotiation half, receive side) — a chunk of the wrong kind is answered with a protocol-violation ABORT

Property theorems only, about the L0 model `Model/Receiver.lean` (tied by `TestVerifAssocReceiver`; the
executable predicate on the real association checks the ABORT flag after every wrong-kind chunk and cause
code 13 in the ABORT that `gatherOutbound` then produces). The decision logic of the heads of `handleData`,
`handleForwardTSN`, `handleIForwardTSN` is the translator-generated `Gen.data_wrongKind` plus the model's
literal copies of the two FORWARD-TSN guards.
-/
namespace C17
open Gen Receiver

/-- ✱ In a state that receives data, a DATA chunk while interleaving was negotiated, or an I-DATA chunk while
it was not, sets the ABORT flag and does nothing else: no TSN is accepted, nothing reaches a stream, no
acknowledgement is scheduled. Likewise FORWARD-TSN under interleaving and I-FORWARD-TSN without negotiated
support, in every state. -/
theorem C17_wrong_kind_abort (s : St) :
    (∀ (c : Reasm.Chunk) (imm : Bool), c.userData ≠ [] → data_canHandle s.scp s.state = true → c.iData ≠ s.il →
        handleChunk s (.data c imm) = { s with willSendAbort := true }) ∧
    (∀ newCum es, s.il = true → handleChunk s (.fwd newCum es) = { s with willSendAbort := true }) ∧
    (∀ newCum es, s.useIFwd = false → handleChunk s (.ifwd newCum es) = { s with willSendAbort := true }) := by
  refine ⟨?_, ?_, ?_⟩
  · intro c imm hne hst hk
    have : data_wrongKind c.iData s.il = true := by simpa [data_wrongKind] using hk
    simp [handleChunk, hne, handleData, hst, this, abortPV]
  · intro newCum es hil
    simp [handleChunk, handleFwd, hil, abortPV]
  · intro newCum es hf
    simp [handleChunk, handleIFwd, hf, abortPV]

/-- the ABORT flag survives the rest of the packet, and the next `gather` emits exactly one packet — the ABORT
with the protocol-violation cause — and tells the writer to close the association (`ok = false`). -/
theorem C17_abort_is_sent (s : St) (h : s.willSendAbort = true) :
    (chunksEnd s).willSendAbort = true ∧ (gather s).2 = ([.abort], false) ∧ (gather s).1.willSendAbort = false := by
  refine ⟨?_, ?_, ?_⟩
  · unfold chunksEnd; repeat' split
    all_goals exact h
  · simp [gather, h]
  · simp [gather, h]

-- non-vacuity: a fresh association with interleaving and a DATA chunk
example : data_canHandle false 3#32 = true ∧ (false ≠ true) := by decide +kernel

end C17
