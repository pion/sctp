import SctpVerif.Proofs.Teardown.Results
import SctpVerif.Model.ConcFacts
/-!
# C09 — Close, Abort or transport failure at any moment unblocks callers, leaks nothing

Property theorems only. **What they are about.** `Conc.step` (`Model/Teardown.lean`) is a hand-written transition system of
the goroutines of one association — `readLoop`, `writeLoop`, `timerLoop`, a timer callback, the constructor call and a
LIST of API callers of ARBITRARY length (reads per stream, blocking writes, `AcceptStream`, `Shutdown`, `Close`, `Abort`) —
over the channels, the once-guards, the condition variables and `a.lock`. Its choreography is a parameter; the one used
here, `Conc.choreoOfFacts`, is READ OFF the translator's facts, which are regenerated from /repo on every run: the ordered
statements of `readLoop`'s deferred block, of `close()`, `Close()` and `Abort()`, the arms of the selects of
`completeHandshake`, `writeLoop`, `timerLoop`, `Shutdown`, the constructors and the blocking-write wait, Broadcast vs
Signal in `unregisterStream` / `onInboundStreamReset`, the write-error path. `C09_choreography_matches_code` decides that it
is the choreography the proofs were made for; drop `close(a.acceptCh)` from the defer, an arm from a select, or turn a
Broadcast into a Signal and that theorem — hence every theorem below — no longer holds (the `example`s at the end show the
model really gets stuck then).

All theorems below that one, except the decided instance `C09_shutdown_error_regression`, quantify over every reachable
state (some over every state): any number of callers, any interleaving of the processes, any behaviour of the environment (packets, timer expiries, new calls, normal completions, transport read / write failure, context
cancellation — each spending one unit of an arbitrary finite `fuel`).

**What this is not.** Real goroutine interleavings, `sync.Mutex/Cond`, channel and `sync.Once` semantics are ASSUMED as
modelled; the harness samples them (teardown scenarios under `testing/synctest`: every goroutine must be gone when the
bubble ends). "Promptly" is "without any further help from the environment". Model assumptions: one constructor call per
association, API calls only after it returned, `completeHandshake` attempted at most once, stream identifiers not reused
after a reset. A critical section without a blocking operation is one atomic step (`C20_interleaving_refines_sequence`).
-/
namespace C09
open Conc

/-- **The model's choreography is the code's.** -/
theorem C09_choreography_matches_code : choreoOfFacts = Choreo.expected := by decide +kernel

/-- states reachable from a fresh association with any list of not-yet-issued calls -/
def Reachable (s : St) : Prop :=
  ∃ (cs : List Caller) (fuel : Nat) (client : Bool) (as : List Act),
    (∀ c ∈ cs, ∃ k, c = .idle k) ∧ run choreoOfFacts { callers := cs, fuel := fuel, cn := .sel client } as = some s

theorem reachable_inv {s : St} (h : Reachable s) : Inv s := by
  obtain ⟨cs, fuel, client, as, hcs, hrun⟩ := h
  rw [C09_choreography_matches_code] at hrun
  exact inv_run _ s as (inv_init cs fuel client hcs) hrun

/-- **(a) No stuck state.** In every reachable state in which a teardown has been set off (the transport fails or has been
closed, a `Close`/`Abort` call or the context-cancelled constructor is under way, an inbound ABORT or SHUTDOWN-COMPLETE is
being handled, `writeLoop` hit a write error or sent its last packet): either no goroutine of the package is left and no
call is pending, or some process of the package can take a step by itself. -/
theorem C09_no_stuck_state (s : St) (hr : Reachable s) (ht : s.triggered = true) : s.stuck choreoOfFacts = false := by
  rw [C09_choreography_matches_code]
  exact no_stuck s (reachable_inv hr) ht

/-- **(b) Termination.** For every run from a reachable triggered state `s`: its length is bounded (`as.length + mu s' ≤ mu s`,
`mu` = weighted program counters + 40 × fuel, which EVERY step strictly decreases — the bound itself needs neither
`triggered` nor any scheduling assumption: the environment is finite by `fuel`); the teardown stays set off; the state
reached is not stuck; and if none of the package's actions (`procActs`) is enabled there, all goroutines have stopped and
every issued call has returned (`done`). No notion of fairness or of a maximal run is defined: that a run which cannot
be extended ends in `done` is the last conjunct applied to its last state. -/
theorem C09_terminates (s s' : St) (as : List Act) (hr : Reachable s) (ht : s.triggered = true)
    (hrun : run choreoOfFacts s as = some s') :
    as.length + mu s' ≤ mu s ∧ s'.triggered = true ∧ s'.stuck choreoOfFacts = false ∧
    ((∀ a ∈ procActs s', step choreoOfFacts s' a = none) → s'.done = true) := by
  have hi := reachable_inv hr
  rw [C09_choreography_matches_code] at hrun ⊢
  have hi' := inv_run s s' as hi hrun
  have ht' := trig_run s s' as hi ht hrun
  exact ⟨run_length_le s s' as hi hrun, ht', no_stuck s' hi' ht', fun hall => done_of_blocked s' hi' ht' ⟨hall⟩⟩

/-- **(c) Results.** When the package lets a pending call return, the result is: a blocked read — the stream's read error
(the close error `readLoop` left with, or EOF if the peer had reset the stream), never success; a write — the
not-established error once the association is closed or shutting down; a blocked blocking-write that is released —
re-tests the state (and then fails as before) or hits its deadline; `AcceptStream` — EOF; `Shutdown` begun after the
end — its non-established error; a `Shutdown` that is already waiting — `nil` ONLY if the peer's SHUTDOWN-ACK or
SHUTDOWN-COMPLETE had been handled (`sdAcked`), otherwise the shutdown-incomplete error (or the context's error).
See `C09_shutdown_interrupted`. -/
theorem C09_results (s s' : St) (i arm : Nat) (c : Caller) (k : Kind) (r : Res)
    (hc : s.callers[i]? = some c) (h : step choreoOfFacts s (.call i arm) = some s') (hf : s'.callers[i]? = some (.fin k r)) :
    match c with
    | .rdWait sid _ => r = readRes s sid ∧ r.isFailure = true
    | .wrBegin => (r = .ok ∧ s.notEst = false) ∨ (r = .err .notEstablished ∧ s.notEst = true)
    | .wrWait => r = .err .ctx
    | .accWait => r = .eof
    | .shBegin => r = .err .shutdownNonEstablished
    | .shWait => (r = .nil ∧ s.cw = true ∧ s.sdAcked = true) ∨ (r = .err .shutdownIncomplete ∧ s.cw = true ∧ s.sdAcked = false) ∨ r = .err .ctx
    | .cl _ => r = .ok
    | .ab _ _ => r = .ok
    | _ => False := by
  rw [C09_choreography_matches_code] at h
  exact call_result s s' i arm c k r hc h hf

/-- **A Shutdown that a teardown cuts short returns an error.** The completion flag is raised by nothing but the handling
of the peer's SHUTDOWN-ACK or SHUTDOWN-COMPLETE; a waiting `Shutdown` that returns while the flag is down — i.e. whenever
Close, Abort, an inbound ABORT or a transport failure ended the association before the peer acknowledged the SHUTDOWN —
returns an error (shutdown-incomplete, or the context's), never `nil`. -/
theorem C09_shutdown_interrupted :
    (∀ s s' a, step choreoOfFacts s a = some s' → s'.sdAcked = true →
      s.sdAcked = true ∨ (a = .rlHandle ∧ (s.rl = .handling .shutdownAck ∨ s.rl = .handling .shutdownComplete))) ∧
    (∀ s s' i arm r, s.callers[i]? = some .shWait → s.sdAcked = false → step choreoOfFacts s (.call i arm) = some s' →
      s'.callers[i]? = some (.fin .sh r) → r.isFailure = true) := by
  rw [C09_choreography_matches_code]
  refine ⟨fun s s' a h hs => sdAcked_only_by_peer s s' a h hs, ?_⟩
  intro s s' i arm r hc hsa h hf
  have := call_result s s' i arm _ .sh r hc h hf
  simp only at this
  rcases this with ⟨_, _, h1⟩ | ⟨rfl, _⟩ | rfl
  · rw [hsa] at h1; cases h1
  · rfl
  · rfl

/-- the constructor: once a teardown has closed `readLoopCloseCh` it returns "closed before connected", a cancelled
context makes it run `Close()` and return the context's error; only the hand-over from `completeHandshake` yields success
or the handshake error -/
theorem C09_results_constructor (s : St) (hr : Reachable s) (r : Res) (h : s.cn = .fin r) :
    (hsRes r = true ∧ s.hsTried = true) ∨ (s.rc = true ∧ (r = .err .closedBeforeConn ∨ (r = .err .ctx ∧ s.conn = true))) := by
  have hs := (reachable_inv hr).hs
  rw [h] at hs
  have := hs.ctor.2
  split at this
  · exact Or.inl ⟨‹_›, this.1⟩
  · exact Or.inr this

/-- TEST (one schedule, decided — not a quantified statement): the witness of finding K09-shutdown-nil (fixed in /repo
52b27be) on the choreography read off the code. Two callers — a reader and a `Shutdown` — on an established association,
the transport fails; the reader gets the transport error and `Shutdown`, whose sequence never ran, gets the
shutdown-incomplete error (nil before the fix) … -/
theorem C09_shutdown_error_regression :
    (run choreoOfFacts { fuel := 9, callers := [.idle (.rd 1), .idle .sh] }
      [.envPacket (.hsFinal false), .rlHandle, .rlCH 0, .envStart 0, .envStart 1, .call 1 0, .envReadFail,
       .rlReadErr, .rlDefer, .call 1 0, .rlDefer, .rlDefer, .rlDefer, .call 0 0]).map (·.callers) =
    some [.fin (.rd 1) (.err .transport), .fin .sh (.err .shutdownIncomplete)] := by
  rw [C09_choreography_matches_code]; decide +kernel

/-- … while a shutdown the peer has acknowledged still ends with nil (non-vacuity of the nil branch) -/
example :
    (run Choreo.expected { fuel := 9, callers := [.idle .sh] }
      [.envPacket (.hsFinal false), .rlHandle, .rlCH 0, .envStart 0, .call 0 0, .envPacket .shutdownAck, .rlHandle,
       .envPacket .shutdownComplete, .rlHandle, .call 0 0]).map (·.callers) = some [.fin .sh .nil] := by decide +kernel

/-- **(d) At most one write after close** (not none, whatever the name says). In every reachable state at most ONE
`netConn.Write` has been issued after `netConn.Close()` (the one that was in flight or next in `writeLoop`'s batch), and
once it has been issued `writeLoop` is on its exit path or gone; a `wlWrite` step taken with the transport closed sends
`writeLoop` to its exit path (`.exit`). -/
theorem C09_no_write_after_close (s : St) (hr : Reachable s) :
    s.lateWrites ≤ 1 ∧ (s.lateWrites = 1 → s.wl = .exit ∨ s.wl = .done) ∧
    (∀ n ok ab s', s.wl = .write (n+1) ok ab → s.conn = true → step choreoOfFacts s .wlWrite = some s' → s'.wl = .exit) := by
  have hlw := (reachable_inv hr).tr.lw
  refine ⟨?_, ?_, ?_⟩
  · rcases hlw with h | h <;> omega
  · intro h1; rcases hlw with h | h
    · omega
    · exact wlOut_iff.mp h.2
  · intro n ok ab s' hw hc hs
    rw [C09_choreography_matches_code] at hs
    exact (write_after_close_fails s s' n ok ab hw hc hs).1

/-- **(e) Close is idempotent.** However many `Close` / `Abort` calls, context cancellations, inbound ABORTs and write
errors race, in every reachable state `netConn.Close()` has been called at most once (exactly once iff the transport
counts as closed). Second half, for ONE schedule only: on a state that is `Closed` (transport, state, timers,
`closeWriteLoopCh`, `readLoopCloseCh` all closed) a `Close` call at its first statement, given six consecutive steps with
nothing interleaved, runs through its statements without waiting and returns, and the state reached differs from `s` only
in that caller's program point. -/
theorem C09_close_idempotent (s : St) (hr : Reachable s) :
    s.connCloses = (if s.conn then 1 else 0) ∧
    (∀ i, Closed s → s.callers[i]? = some (.cl 0) →
      run choreoOfFacts s (List.replicate 6 (.call i 0)) = some (setCaller s i (.fin .cl .ok))) := by
  refine ⟨(reachable_inv hr).tr.cc, ?_⟩
  intro i hc hi
  rw [C09_choreography_matches_code]
  exact close_again s i hc hi

/-- **(f) An ABORT carries its cause to the peer's readers.** Sender: after `Abort(cause)` has stored the cause, the next
gather of `writeLoop` puts exactly that cause on the wire as a lone terminal packet. Receiver: handling an inbound ABORT
with cause `c` makes `abort c` the close error and sends `readLoop` into its deferred block (that it also closes the
transport and `closeWriteLoopCh` is `Conc.handle_abort`, not restated here); the close error does not change while
`readLoop` is on its way out; and a read that the package lets return while the close error is `abort c`, on a stream the
peer had not reset before, returns exactly it. (That the cause string survives encoding and decoding is C12's round trip.) -/
theorem C09_abort_carries_cause :
    (∀ s s' n f c, s.willAbort = some c → step choreoOfFacts s (.wlGather n f) = some s' →
      s'.wireAbort = some c ∧ s'.wl = .write 1 false true) ∧
    (∀ s s' c, s.rl = .handling (.abort c) → step choreoOfFacts s .rlHandle = some s' →
      s'.closeErr = some (.abort c) ∧ s'.rl = .defer 0) ∧
    (∀ s s' a, leaving s = true → step choreoOfFacts s a = some s' → s'.closeErr = s.closeErr) ∧
    (∀ s s' i arm sid w c r, s.callers[i]? = some (.rdWait sid w) → s.closeErr = some (.abort c) → s.gone.contains sid = false →
      step choreoOfFacts s (.call i arm) = some s' → s'.callers[i]? = some (.fin (.rd sid) r) → r = .err (.abort c)) := by
  rw [C09_choreography_matches_code]
  refine ⟨?_, ?_, ?_, ?_⟩
  · intro s s' n f c h1 h2
    have := gather_abort s s' n f c h1 h2
    exact ⟨this.1, this.2.1⟩
  · intro s s' c h1 h2
    have := handle_abort s s' c h1 h2
    exact ⟨this.1, this.2.1⟩
  · intro s s' a h1 h2
    exact closeErr_stable s s' a h1 h2
  · intro s s' i arm sid w c r h1 h2 h3 h4 h5
    have := (call_result s s' i arm _ (.rd sid) r h1 h4 h5).1
    have h3' : sid ∉ s.gone := by simpa using h3
    simp [readRes, h2, h3'] at this
    exact this

/-- **(g) The terminal read error is sticky.** Once `readLoop` has unregistered the streams with its close error, no step
of any process and no event of the environment — in particular no read deadline that was armed earlier and expires only
now (`envDeadline`), while no read is blocked — changes what a read on any stream returns (the close error, or EOF for a
stream the peer had reset), and no stream ever loses its terminal error (`lost = []`); so a reader that comes back later,
whatever deadline it sets first, gets that error at once (`C09_no_stuck_state`). Tie: the helper goroutine of
`SetReadDeadline` stores the deadline error only `if s.readErr == nil` (`Choreo.dlKeepsTerminal`, read off `Gen.lockEvents`). -/
theorem C09_terminal_error_sticky (s s' : St) (a : Act) (hr : Reachable s) (hu : s.unreg = true)
    (h : step choreoOfFacts s a = some s') :
    s'.unreg = true ∧ s'.lost = [] ∧ ∀ sid, readRes s' sid = readRes s sid := by
  rw [C09_choreography_matches_code] at h
  obtain ⟨h1, h2, h3, h4⟩ := terminal_sticky s s' a (reachable_inv hr) hu h
  exact ⟨h1, h4, fun sid => by simp [readRes, h2, h3]⟩

def idleDeadlineRun (ch : Choreo) : Option St :=
  (run ch { fuel := 9, callers := [.idle (.rd 1)] }
    [.envPacket (.hsFinal false), .rlHandle, .rlCH 0, .envPacket (.abort "why"), .rlHandle]).map fun s =>
  let t := runGreedy ch 40 s                        -- the teardown runs to its end; nobody is reading
  match run ch t [.envDeadline 1, .envStart 0] with -- the old deadline expires; the application reads again
  | some u => runGreedy ch 5 u
  | none => t

/-- a deadline armed while nobody reads, peer ABORT, late expiry, then a read: it returns the abort cause … -/
example : ((idleDeadlineRun Choreo.expected).map fun t => (t.done, t.callers)) =
    some (true, [.fin (.rd 1) (.err (.abort "why"))]) := by decide +kernel

/-- … and if the helper stored the deadline error unconditionally, the reader would be parked for ever -/
example : ((idleDeadlineRun { Choreo.expected with dlKeepsTerminal := false }).map fun t =>
    (t.stuck { Choreo.expected with dlKeepsTerminal := false }, t.callers)) = some (true, [.rdWait 1 true]) := by decide +kernel

/-! ## non-vacuity, and what the tie buys -/

/-- the context-cancel scenario: the client's context is cancelled while the COOKIE-ACK is being processed (the handler
sits in `completeHandshake` holding `a.lock`, nobody receives). With the code's choreography everything ends. -/
example :
    ((run Choreo.expected { fuel := 10 } [.envCtxCancel, .cn 1, .envPacket (.hsFinal false), .rlHandle]).map fun s =>
      let t := runGreedy Choreo.expected 60 s
      (s.triggered, s.lock, t.done, t.cn)) = some (true, some .rlCH, true, .fin (.err .ctx)) := by decide +kernel

/-- … without the `closeWriteLoopCh` arm in `completeHandshake` the same schedule deadlocks: the handler keeps `a.lock`
forever, `Close()` waits for `readLoop` forever -/
example :
    ((run { Choreo.expected with chCw := false } { fuel := 10 } [.envCtxCancel, .cn 1, .envPacket (.hsFinal false), .rlHandle]).map fun s =>
      let t := runGreedy { Choreo.expected with chCw := false } 60 s
      (t.done, t.stuck { Choreo.expected with chCw := false }, t.rl, t.cn)) = some (false, true, .inCH false, .closing 4) := by decide +kernel

def twoReaders : Option St :=
  run Choreo.expected { fuel := 20, callers := [.idle (.rd 1), .idle (.rd 1), .idle .acc] }
    [.envPacket (.hsFinal false), .rlHandle, .rlCH 0, .envStart 0, .envStart 1, .envStart 2, .envReadFail]

/-- two readers on one stream and an `AcceptStream`; transport failure: all three return -/
example : (twoReaders.map fun s => let t := runGreedy Choreo.expected 60 s; (t.done, t.callers)) =
    some (true, [.fin (.rd 1) (.err .transport), .fin (.rd 1) (.err .transport), .fin .acc .eof]) := by decide +kernel

/-- … with Signal instead of Broadcast in `unregisterStream` the second reader sleeps forever -/
example : (twoReaders.map fun s => let t := runGreedy { Choreo.expected with unregWake := .one } 60 s
    (t.stuck { Choreo.expected with unregWake := .one }, t.callers[1]?)) = some (true, some (.rdWait 1 false)) := by decide +kernel

/-- … and without `close(a.acceptCh)` in the deferred block `AcceptStream` never returns -/
example : (twoReaders.map fun s =>
    let m := { Choreo.expected with deferProg := [.closeCw, .lockA, .setClosed, .unregAll, .unblockWrites, .unlockA, .closeRc] }
    let t := runGreedy m 60 s
    (t.stuck m, t.callers[2]?)) = some (true, some .accWait) := by decide +kernel

end C09
