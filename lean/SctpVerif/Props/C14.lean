import SctpVerif.Proofs.Reset
/-!
# C14 — stream close is ordered after the stream's data; identifiers can be reused

Property theorems only; helper lemmas are in `Proofs/Reset/*.lean`. The model is `Rs` (`Model/Reset.lean`), replayed
line by line against two real associations by `TestVerifReset` (`go/harness/rs_test.go`).
-/
namespace C14
open Rs Gen

/-! ## stream close is ordered after the stream's data — the two-endpoint model `Rs`

`s := (Sys.init il tsnA tsnB).run ops` is ANY reachable state: `ops` is an arbitrary list of application calls at
either endpoint (open / write / close / read / accept, on any handle, in any order), write-loop passes with ANY
admissible choice of what leaves the pending queue and ANY retransmissions, deliveries of ANY packet ever sent to the
other side (never = loss, twice = duplication, any order = reordering, old = stale replay), and timer expiries.
`0 < tsnA`, `0 < tsnB`: initial TSNs are not 0 (TSNs are natural numbers in the model, see the header of the model).
An identifier is judged as long as the applications re-open it only after both directions were reset
(`sid ∉ s.taint`, where `taint` collects the identifiers for which `openS` created an object while `Sys.quiet` was
false). -/

/-- ✱ EOF only after all data. If the reader of a stream object `o` (at endpoint `x`) has been given EOF, then the peer
has a stream object `w` with the same identifier and incarnation — the partner —, `w` was closed by its application, and
EVERY message written on `w` has been handed to the reader of `o`: the ordered ones in the order they were written
(`Sublist` of what Read returned), the unordered ones each at least once. Under any loss / duplication / reordering /
stale replay of DATA, SACK and RE-CONFIG packets and any retransmission pattern. -/
theorem C14_eof_after_data (il : Bool) (tsnA tsnB : Nat) (ha : 0 < tsnA) (hb : 0 < tsnB) (ops : List Op)
    (x : Bool) (ho : Nat) (o : Obj)
    (hobj : (((Sys.init il tsnA tsnB).run ops).ep x).objs[ho]? = some o) (heof : o.eofSeen = true)
    (ht : o.sid ∉ ((Sys.init il tsnA tsnB).run ops).taint) :
    ∃ (hw : Nat) (w : Obj), (((Sys.init il tsnA tsnB).run ops).ep (!x)).objs[hw]? = some w ∧ w.sid = o.sid ∧ w.gen = o.gen ∧
      ¬ isOpen w ∧ (wroteCls w false).Sublist (ordGot o) ∧ ∀ m, (m, true) ∈ w.wrote → (m, true) ∈ o.got := by
  obtain ⟨inv, g⟩ := run_all il tsnA tsnB ha hb ops
  have hil := run_il il tsnA tsnB ops
  refine eof_after_data_core (hctx_to inv g x) ?_ ho o hobj heof ht
  cases x
  · exact hil
  · exact hil.symm

/-- non-vacuity (a test): A opens stream 1, writes messages 7 and 8, closes; everything is delivered in order; B accepts,
reads — and is given EOF after both messages -/
example :
    let s := (Sys.init false 10 20).run [.openS false 1, .write false 0 8 false 7, .write false 0 8 false 8, .close false 0,
      .gather false [0, 0, 0] [[10, 11]] [] false, .deliver false 0, .deliver false 1, .accept true, .read true 0]
    (s.ep true).objs[0]?.map (fun o => (o.eofSeen, o.got)) = some (true, [(7, false), (8, false)]) ∧ s.taint = [] := by
  decide +kernel

/-- the marker sits behind the data: whenever a reset request exists, every chunk of every object it closes was sent
with a TSN not above the request's last TSN, nothing of those objects is pending, and the objects are closed -/
theorem C14_marker_after_data (il : Bool) (tsnA tsnB : Nat) (ha : 0 < tsnA) (hb : 0 < tsnB) (ops : List Op) (x : Bool)
    (rq : ReqRec) (hrq : rq ∈ (((Sys.init il tsnA tsnB).run ops).ep x).reqLog) (h : Nat) (hh : h ∈ rq.wobjs) :
    (∃ o, (((Sys.init il tsnA tsnB).run ops).ep x).objs[h]? = some o ∧ ¬ isOpen o) ∧
    (∀ d, Item.data d ∈ (((Sys.init il tsnA tsnB).run ops).ep x).pend → d.wobj ≠ h) ∧
    ∀ c ∈ (((Sys.init il tsnA tsnB).run ops).ep x).sent, c.d.wobj = h → c.tsn ≤ rq.last := by
  obtain ⟨inv, _⟩ := run_all il tsnA tsnB ha hb ops
  obtain ⟨hlen, _, hall⟩ := (inv x).si.recOK rq hrq
  obtain ⟨sd, hz⟩ := mem_wobjs_zip rq hlen h hh
  obtain ⟨o, ho, _, hc, _, h4, h5⟩ := hall _ hz
  exact ⟨⟨o, ho, hc⟩, h4, h5⟩

/-- a request is only performed once the cumulative point has reached its last TSN (deferral): every performed request
sequence number belongs to a request of the peer whose last TSN is at or below the cumulative point -/
theorem C14_deferred_until_cum (il : Bool) (tsnA tsnB : Nat) (ha : 0 < tsnA) (hb : 0 < tsnB) (ops : List Op) (x : Bool)
    (rsn : Nat) (hp : rsn ∈ (((Sys.init il tsnA tsnB).run ops).ep x).perf) :
    ∃ rq ∈ (((Sys.init il tsnA tsnB).run ops).ep (!x)).reqLog, rq.rsn = rsn ∧ rq.last ≤ (((Sys.init il tsnA tsnB).run ops).ep x).cum := by
  obtain ⟨inv, g⟩ := run_all il tsnA tsnB ha hb ops
  exact (hctx_to inv g x).x.perf rsn hp

/-! ## messages already received stay readable -/

/-- No inbound packet — in particular no reset request, performed at once, deferred or performed later when the data
arrives — removes a message from a receive queue or alters what the reader was given: for EVERY endpoint state and
EVERY packet, each stream object keeps everything it had queued (`QueueKeeps`); only `read` consumes. -/
theorem C14_received_stay_readable (s : Sys) (x : Bool) (i : Nat) (h : Nat) (o : Obj) (ho : (s.ep (!x)).objs[h]? = some o) :
    ∃ o', ((s.step (.deliver x i)).ep (!x)).objs[h]? = some o' ∧ QueueKeeps o o' := by
  simp only [Sys.step]
  split
  · exact ⟨o, ho, QueueKeeps.refl o⟩
  · rename_i p _
    obtain ⟨o', ho', k⟩ := handle_keeps (s.ep (!x)) p h o ho
    exact ⟨o', by simpa using ho', k⟩

/-- and a reset request in particular leaves the queues of every object exactly as they were -/
theorem C14_reset_keeps_queues (e : Ep) (rsn last : Nat) (sids : List Nat) (h : Nat) (o : Obj) (ho : e.objs[h]? = some o) :
    ∃ o', (handleReq e rsn last sids).1.objs[h]? = some o' ∧ o'.ord = o.ord ∧ o'.unord = o.unord ∧ o'.got = o.got ∧ o'.nextSeq = o.nextSeq := by
  obtain ⟨o', ho', q⟩ := (handleReq_objs e rsn last sids).2 h o ho
  exact ⟨o', ho', q.ord, q.unord, q.got, q.nextSeq⟩

/-- Read serves the queue before the read error: in every reachable state, an object whose reader has been given EOF
(`eofSeen`) has its read error set and nothing readable left (`readOne o = none`) — EOF is reported only after whatever
was readable has been returned -/
theorem C14_read_before_error (il : Bool) (tsnA tsnB : Nat) (ha : 0 < tsnA) (hb : 0 < tsnB) (ops : List Op) (x : Bool)
    (h : Nat) (o : Obj) (ho : (((Sys.init il tsnA tsnB).run ops).ep x).objs[h]? = some o) (heof : o.eofSeen = true) :
    o.readErr = true ∧ readOne o = none := by
  obtain ⟨inv, _⟩ := run_all il tsnA tsnB ha hb ops
  exact (inv x).ri.eofErr h o ho heof

/-! ## a repeated request, a late response -/

/-- D10 as a theorem. A reset request whose sequence number was performed — a retransmission after a lost response, a
network duplicate, a stale replay into a later incarnation — is answered ("performed") and changes NOTHING else at the
endpoint: no stream object is touched (no second EOF, no counter reset), no table entry, no bookkeeping. For every
state and every such packet. -/
theorem C14_duplicate_request_harmless (s : Sys) (x : Bool) (i rsn last : Nat) (sids : List Nat)
    (hp : (s.hist x)[i]? = some (Msg.req rsn last sids)) (hdone : rsn ∈ (s.ep (!x)).perf) :
    s.step (.deliver x i) = s.setEp (!x) { s.ep (!x) with ctl := (s.ep (!x)).ctl ++ [Msg.resp rsn Gen.reconfigResultSuccessPerformed] } := by
  simp only [Sys.step, hp, handle, handleReq_performed _ rsn last sids hdone]

/-- non-vacuity (a test): a run after which the hypotheses hold — request 10 is item 1 of A's history and is in B's performed set -/
example :
    let s := (Sys.init false 10 20).run [.openS false 1, .write false 0 8 false 7, .close false 0,
      .gather false [0, 0] [[10]] [] false, .deliver false 0, .deliver false 1]
    (s.hist false)[1]? = some (Msg.req 10 10 [1]) ∧ 10 ∈ (s.ep true).perf := by decide +kernel

/-- D16 as a theorem. A re-configuration response — for whatever request, however late — never changes a stream object
that is open for writing (its SSN / MID counters in particular): for every endpoint state, response and handle. -/
theorem C14_late_response_harmless (e : Ep) (rsn result : Nat) (h : Nat) (o : Obj) (ho : e.objs[h]? = some o) (hopen : isOpen o) :
    (handleResp e rsn result).objs[h]? = some o := by
  obtain ⟨o', ho', r⟩ := (handleResp_objs e rsn result).2 h o ho
  rcases r with rfl | ⟨hc, _⟩
  · exact ho'
  · exact absurd hopen hc

/-- the same at system level: delivering any response leaves every open stream object of the receiving endpoint as it was -/
theorem C14_late_response_harmless_sys (s : Sys) (x : Bool) (i rsn result : Nat) (hp : (s.hist x)[i]? = some (Msg.resp rsn result))
    (h : Nat) (o : Obj) (ho : (s.ep (!x)).objs[h]? = some o) (hopen : isOpen o) :
    ((s.step (.deliver x i)).ep (!x)).objs[h]? = some o := by
  simp only [Sys.step, hp, handle]
  simpa using C14_late_response_harmless (s.ep (!x)) rsn result h o ho hopen

/-! ## identifiers can be reused -/

/-- After both directions were reset (`quiet`), OpenStream creates a NEW stream object: next sequence number and both
message-identifier counters 0, receive cursor 0, empty queues, no read error, open; it belongs to the next incarnation
and the identifier stays judged (it is not added to `taint`). -/
theorem C14_reopen_fresh (s : Sys) (x : Bool) (sid : Nat) (hq : s.quiet sid = true) :
    ∃ o, ((s.step (.openS x sid)).ep x).objs[(s.ep x).objs.length]? = some o ∧
      o.sid = sid ∧ o.ssn = 0 ∧ o.omid = 0 ∧ o.umid = 0 ∧ o.nextSeq = 0 ∧ o.ord = [] ∧ o.unord = [] ∧ o.readErr = false ∧
      isOpen o ∧ o.gen = s.gen sid + 1 ∧ lookup sid ((s.step (.openS x sid)).ep x).reg = some (s.ep x).objs.length ∧
      (s.step (.openS x sid)).taint = s.taint := by
  have hnone : lookup sid (s.ep x).reg = none := by
    unfold Sys.quiet sideQuiet at hq
    simp only [Bool.and_eq_true, Option.isNone_iff_eq_none] at hq
    cases x
    · exact hq.1.1.1.1
    · exact hq.2.1.1.1
  simp only [Sys.step, openStream_none _ _ _ hnone, hq, ↓reduceIte]
  refine ⟨{ sid := sid, gen := s.gen sid + 1 }, ?_, rfl, rfl, rfl, rfl, rfl, rfl, rfl, rfl, rfl, rfl, ?_, ?_⟩
  · cases x <;> simp [Sys.ep, Sys.setEp, addObjEp]
  · cases x <;> simp [Sys.ep, Sys.setEp, addObjEp, lookup_insert_self]
  · cases x <;> rfl

/-- The explicit schedule, for ALL message counts (by induction over the message lists) and both framings: A opens stream 1
and sends the messages `v1 :: ms1` one at a time (write, write loop, delivery, read at B); both applications close
(A first) and every RE-CONFIG packet arrives; A opens stream 1 again and sends `v2 :: ms2`. At the end B holds exactly two
stream objects: the first has handed its reader `v1 :: ms1` in order and then EOF, the second — of incarnation 2, not
reset — has handed its reader `v2 :: ms2` in order; A's second object has written exactly `v2 :: ms2`; the identifier
was never re-opened early (`taint = []`). -/
theorem C14_reopen_schedule (il : Bool) (tsnA tsnB : Nat) (ha : 0 < tsnA) (v1 : Nat) (ms1 : List Nat) (v2 : Nat) (ms2 : List Nat) :
    ∃ (o1 o2 w2 : Obj), (((Sys.init il tsnA tsnB).run (scheduleOps tsnA v1 ms1 v2 ms2)).ep true).objs = [o1, o2] ∧
      o1.eofSeen = true ∧ o1.got = (v1 :: ms1).map (fun m => (m, false)) ∧
      o2.got = (v2 :: ms2).map (fun m => (m, false)) ∧ o2.gen = 2 ∧ o2.readErr = false ∧ o2.nextSeq = ms2.length + 1 ∧
      (((Sys.init il tsnA tsnB).run (scheduleOps tsnA v1 ms1 v2 ms2)).ep false).objs[1]? = some w2 ∧
      w2.wrote = (v2 :: ms2).map (fun m => (m, false)) ∧ w2.gen = 2 ∧
      ((Sys.init il tsnA tsnB).run (scheduleOps tsnA v1 ms1 v2 ms2)).taint = [] :=
  reopen_schedule il tsnA tsnB ha v1 ms1 v2 ms2

/-- sample (a test): the schedule for 2 + 1 messages, as an operation list -/
example : scheduleOps 10 7 [8] 9 [] =
    [.openS false 1,
     .write false 0 8 false 7, .gather false [0] [[10]] [] false, .deliver false 0, .read true 0,
     .write false 0 8 false 8, .gather false [0] [[11]] [] false, .deliver false 1, .read true 0,
     .close false 0, .gather false [0] [] [] false, .deliver false 2, .read true 0, .close true 0, .gather true [0] [] [] false,
     .deliver true 0, .deliver true 1, .read false 0, .gather false [] [] [] false, .deliver false 3,
     .openS false 1,
     .write false 1 8 false 9, .gather false [0] [[12]] [] false, .deliver false 4, .read true 1] := by decide +kernel

/-- Numbering on an object (with `C14_reopen_fresh`: a re-opened identifier numbers from 0 again, DATA: SSN, I-DATA: MID,
whatever happened to earlier incarnations): in every reachable state, the sequence number of a numbered chunk is a position,
among the messages of its kind written on its object, that holds its message (`wroteCls o u`, which starts empty on a fresh
object). -/
theorem C14_numbering_from_zero (il : Bool) (tsnA tsnB : Nat) (ha : 0 < tsnA) (hb : 0 < tsnB) (ops : List Op) (x : Bool)
    (c : Chunk) (hc : c ∈ (((Sys.init il tsnA tsnB).run ops).ep x).sent)
    (hn : numbered (((Sys.init il tsnA tsnB).run ops).ep x).il c.d.unord = true) :
    ∃ o, (((Sys.init il tsnA tsnB).run ops).ep x).objs[c.d.wobj]? = some o ∧ o.sid = c.d.sid ∧
      (wroteCls o c.d.unord)[c.d.seq]? = some c.d.msg := by
  obtain ⟨inv, _⟩ := run_all il tsnA tsnB ha hb ops
  have hi : c.d ∈ (((Sys.init il tsnA tsnB).run ops).ep x).items := by
    unfold Ep.items; exact List.mem_append_left _ (List.mem_map_of_mem hc)
  obtain ⟨o, ho, hs, _, _, hnum⟩ := (inv x).wi.item c.d hi
  exact ⟨o, ho, hs, hnum hn⟩

/-- every stream object, however created (by `OpenStream` or by the first DATA on an identifier that is not in the stream
table), only ever receives chunks of its own incarnation and identifier, and they are chunks the peer sent — on identifiers
that were never re-opened early (`taint`) -/
theorem C14_no_mixing (il : Bool) (tsnA tsnB : Nat) (ha : 0 < tsnA) (hb : 0 < tsnB) (ops : List Op) (x : Bool)
    (h : Nat) (o : Obj) (ho : (((Sys.init il tsnA tsnB).run ops).ep x).objs[h]? = some o)
    (ht : o.sid ∉ ((Sys.init il tsnA tsnB).run ops).taint) (c : Chunk) (hc : c ∈ o.rx) :
    c.d.gen = o.gen ∧ c.d.sid = o.sid ∧ c ∈ (((Sys.init il tsnA tsnB).run ops).ep (!x)).sent := by
  obtain ⟨inv, g⟩ := run_all il tsnA tsnB ha hb ops
  have k := hctx_to inv g x
  obtain ⟨a, b, _⟩ := k.x.rx h o ho c hc
  exact ⟨k.gR.rxGen h o ho ht c hc, b, a⟩

/-! ## the performed-request bookkeeping (D10 fix), exact model `Rs.PerfSet` -/

/-- For ALL start values and ALL lengths: after the requests `start, start+1, …, start+n-1` were performed (the trim
at 2048 entries runs as often as it has to), every one of them that is at most 1024 behind the newest is still
remembered by `PerfSet.has` (the test `handleReconfigParam` makes before performing a request; the `Rs` system model keeps
the performed set as a plain list, the driver compares `PerfSet` with the real method). The requests of this theorem are
consecutive and performed in increasing order. -/
theorem C14_performed_recent_remembered (start : BitVec 32) (n k : Nat) (hk : k < n) (hw : n ≤ k + 1025) :
    (({} : PerfSet).run (consec start n)).has (start + BitVec.ofNat 32 k) = true := by
  have := (run_consec start n).win k hk hw
  simpa [PerfSet.has] using this

/-- `newestPerformedReset` is the serial-number maximum of what was remembered (for up to 2^31 consecutive numbers,
beyond which a maximum is not defined): it is the last number, it is in the set, and no remembered number is after it. -/
theorem C14_performed_newest_is_max (start : BitVec 32) (n : Nat) (hn : 0 < n) (h31 : n ≤ 2 ^ 31) :
    (({} : PerfSet).run (consec start n)).newest = start + BitVec.ofNat 32 (n - 1) ∧
    (({} : PerfSet).run (consec start n)).has (({} : PerfSet).run (consec start n)).newest = true ∧
    ∀ k, k < n → sna32LT (({} : PerfSet).run (consec start n)).newest (start + BitVec.ofNat 32 k) = false := by
  have inv := run_consec start n
  have hnew := inv.newest hn
  refine ⟨hnew, ?_, ?_⟩
  · rw [hnew]
    have := inv.win (n - 1) (by omega) (by omega)
    simpa [PerfSet.has] using this
  · intro k hk
    rw [hnew, Bool.eq_false_iff]
    intro h
    rw [Sna.lt32_iff] at h
    simp only [BitVec.toNat_sub, BitVec.toNat_add, BitVec.toNat_ofNat] at h
    omega

/-- nothing is reported as performed that never was -/
theorem C14_performed_only_remembered (start : BitVec 32) (n : Nat) (q : BitVec 32)
    (h : (({} : PerfSet).run (consec start n)).has q = true) : ∃ k, k < n ∧ q = start + BitVec.ofNat 32 k := by
  have : q ∈ (({} : PerfSet).run (consec start n)).set := by simpa [PerfSet.has] using h
  exact (run_consec start n).sub q this

/-- non-vacuity: 3000 requests from just below the wrap (the trim has run); the newest is still remembered -/
example : (({} : PerfSet).run (consec 0xFFFFFA00#32 3000)).has (0xFFFFFA00#32 + BitVec.ofNat 32 2999) = true :=
  C14_performed_recent_remembered _ 3000 2999 (by omega) (by omega)

/-- sample (a test, not the theorem): a duplicate of an older number does not move the watermark back -/
example : (({} : PerfSet).run [5#32, 6#32, 7#32, 5#32]).newest = 7#32 := by decide +kernel

end C14
