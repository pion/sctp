import SctpVerif.Proofs.Sender
/-!
# C10 — the sender honours cwnd, peer rwnd and MTU

Property theorems only. They are about the L0 model `Sender` (`Model/Sender.lean`: a hand-written mirror of the send
and acknowledgement paths of association.go / payload_queue.go / stream.go, tied to the code by the direct-drive
correspondence runs: every `as` line of the harness is replayed through it and compared) and about definitions the
translator REGENERATES from /repo on every run:

* `Gen.popPending_exceedsCwnd`, `Gen.popPending_exceedsRwnd`, `Gen.popPending_rwndAfterSend`, `Gen.popPending_probe…`,
  `Gen.*_packetFull`, `Gen.*_firstTooBig`, `Gen.bundle_packetFull` — the window / MTU tests of
  `popPendingDataChunksToSend`, `getDataPacketsToRetransmit`, the fast-retransmit gather and `bundleDataChunksIntoPackets`;
* `Gen.sack_windowFull`, `Gen.sack_rwndArg` — the rwnd update of `handleSack`;
* `Gen.t3_ssthresh`, `Gen.t3_cwndArg`, `Gen.fastRecovery_ssthresh`, `Gen.fastRecovery_cwndArg`, `Gen.cumAck_*`,
  `Gen.initialCwnd`, `Gen.Association_setCWND` — congestion control;
* `Gen.getPadding`, `Gen.chunkPayloadData_chunkSize[InPacket]`, `Gen.maxPayloadSizeForMTU`, `Gen.commonHeaderSize` — sizes.

Quantification: ALL operation lists (`openS / unreg / setEstablished / write / gather / sack / t3 / tick`, with arbitrary
SACK contents) from the initial state of ANY configuration with `MTU < 2^30` (`CfgOk`: `4·MTU` fits a uint32), and
ALL oracle values: the burst-budget machine of a gather (`Oracle`: any state type, any answers), the pending-queue
selection (`sel`), the RACK/PTO loss marks, the number of T3 expiries of a `tick`.

`wrapWin` is a ghost flag of the model, raised (and never lowered: `run_win`) when a uint32 window computation leaves the
range in which it equals the natural-number one: ≥ 2^32 bytes in flight, or `cwnd + increment ≥ 2^32`. The theorems that
read windows as natural numbers assume it is still down at the end of the run (DESIGN §4 overflow hypotheses).

"Cut" (C10_loss_response) is formalised as the RFC 4960 §7.2.3 formula, not as "never larger than before" (which is
false by design below 4·MTU). Loss signals here are the T3 expiry and the third miss indication outside fast recovery;
RACK / PTO marks only flag chunks for retransmission in this implementation (they are oracle inputs and do not touch cwnd).
-/
namespace C10
open Gen Sender SenderProofs

/-- the initial state of a configuration satisfies the window invariants -/
private theorem reach (cfg : Cfg) (tsn peerRwnd : BitVec 32) (hc : CfgOk cfg) (ops : List Op) :
    WinInv (run (init cfg tsn peerRwnd) ops) := (run_win _ ops (init_win cfg tsn peerRwnd hc)).1

/-- **Admission of new DATA.** In every reachable state, every chunk a `gather` moves from pending to in flight was
admitted with `in-flight bytes before + len ≤ cwnd` and `len ≤ rwnd` (values at that moment), or it is the zero-window
probe: the only chunk of that gather, taken with an empty in-flight queue. The `admits` are exactly the chunks appended to
the in-flight queue, in order. -/
theorem C10_admission (cfg : Cfg) (tsn peerRwnd : BitVec 32) (hc : CfgOk cfg) (ops : List Op) (orc : Oracle) (sel : List Nat)
    (hw : (gather (run (init cfg tsn peerRwnd) ops) orc sel).1.wrapWin = false) :
    (∀ x ∈ (gather (run (init cfg tsn peerRwnd) ops) orc sel).2.admits,
      (x.probe = false ∧ 0 < x.chunk.len ∧ x.infBefore + (x.chunk.len : Int) ≤ (x.cwnd.toNat : Int) ∧ x.chunk.len ≤ x.rwndBefore.toNat) ∨
      (x.probe = true ∧ (gather (run (init cfg tsn peerRwnd) ops) orc sel).2.admits = [x] ∧ x.nInflightBefore = 0)) ∧
    (gather (run (init cfg tsn peerRwnd) ops) orc sel).1.inflight.map Chunk.core =
      (run (init cfg tsn peerRwnd) ops).inflight.map Chunk.core ++
        ((gather (run (init cfg tsn peerRwnd) ops) orc sel).2.admits.map (·.chunk)).map Chunk.core := by
  refine ⟨?_, gather_inflight _ orc sel⟩
  intro x hx
  rcases ((gather_spec _ orc sel (reach cfg tsn peerRwnd hc ops).rw).2.2 hw).2 x hx with h | h
  · exact Or.inl ⟨h.1, h.2.1, h.2.2.1, h.2.2.2.1⟩
  · exact Or.inr h

/-- non-vacuity: a gather that admits two chunks under the rule, and one that sends a lone probe into a zero window -/
example :
    let s := run (init { mtu := 1200, maxPayload := 1168 } 100 65536) [.openS 1 false 0 0 0, .write 1 53 2000]
    ((gather s freeOracle [0, 0]).2.admits.map (fun x => (x.probe, x.chunk.len, x.infBefore))) = [(false, 1168, 0), (false, 832, 1168)] ∧
    (gather s freeOracle [0, 0]).1.wrapWin = false := by decide +kernel
example :
    let s := run (init { mtu := 1200, maxPayload := 1168 } 100 0) [.openS 1 false 0 0 0, .write 1 53 2000]
    ((gather s freeOracle [0, 0]).2.admits.map (fun x => (x.probe, x.chunk.len, x.nInflightBefore))) = [(true, 1168, 0)] := by decide +kernel

/-- **Peer window invariant.** In every reachable state `rwnd + in-flight bytes ≤ max (last advertised a_rwnd) (in-flight bytes)`:
the sender's view of the peer window never exceeds what the peer last advertised minus what is outstanding. -/
theorem C10_rwnd_invariant (cfg : Cfg) (tsn peerRwnd : BitVec 32) (hc : CfgOk cfg) (ops : List Op)
    (hw : (run (init cfg tsn peerRwnd) ops).wrapWin = false) :
    ((run (init cfg tsn peerRwnd) ops).rwnd.toNat : Int) + (run (init cfg tsn peerRwnd) ops).infBytes ≤
      max ((run (init cfg tsn peerRwnd) ops).lastArwnd.toNat : Int) (run (init cfg tsn peerRwnd) ops).infBytes :=
  (reach cfg tsn peerRwnd hc ops).rw hw

/-- Consequence: after any send that is not the probe, the bytes in flight are within the window the peer last
advertised (the probe itself is charged against rwnd, so nothing is sent on top of it). -/
theorem C10_rwnd_after_send (cfg : Cfg) (tsn peerRwnd : BitVec 32) (hc : CfgOk cfg) (ops : List Op) (orc : Oracle) (sel : List Nat)
    (hw : (gather (run (init cfg tsn peerRwnd) ops) orc sel).1.wrapWin = false) :
    ∀ x ∈ (gather (run (init cfg tsn peerRwnd) ops) orc sel).2.admits, x.probe = false →
      x.infBefore + (x.chunk.len : Int) ≤ ((run (init cfg tsn peerRwnd) ops).lastArwnd.toNat : Int) := by
  intro x hx hp
  rcases ((gather_spec _ orc sel (reach cfg tsn peerRwnd hc ops).rw).2.2 hw).2 x hx with h | h
  · exact h.2.2.2.2
  · rw [h.1] at hp; cases hp

/-- non-vacuity (the D17 scenario, after the fix): a_rwnd = 300, a 1168-byte probe goes out, nothing on top of it -/
example :
    let s := run (init { mtu := 1200, maxPayload := 1168, useInterleaving := true } 100 300)
      [.openS 1 false 0 0 0, .write 1 53 1168, .write 1 53 128, .gather freeOracle [0, 0]]
    (s.inflight.map (·.len), s.rwnd, (gather s freeOracle [0]).2.admits.length, s.wrapWin) = ([1168], 0#32, 0, false) := by decide +kernel

/-- **MTU.** Whatever the state and the oracles, every packet a gather builds — retransmissions, new DATA, fast
retransmissions — is non-empty and its marshalled length (`packet.marshal`: 12-byte common header, every chunk padded
to 4) is at most the MTU. -/
theorem C10_mtu_bound (s : St) (orc : Oracle) (sel : List Nat) :
    ∀ p ∈ (gather s orc sel).2.packets, p ≠ [] ∧ marshalLen s.cfg.useInterleaving p ≤ (s.cfg.mtu.toNat : Int) :=
  gather_packets_fit s orc sel

/-- non-vacuity: 2000 bytes on a 1200-byte MTU leave as two packets of 1196 and 860 bytes -/
example :
    let s := run (init { mtu := 1200, maxPayload := 1168 } 100 65536) [.openS 1 false 0 0 0, .write 1 53 2000]
    ((gather s freeOracle [0, 0]).2.packets.map (marshalLen false)) = [1196, 860] := by decide +kernel

/-- **Retransmission window.** Whatever the state and the oracles, the user bytes `getDataPacketsToRetransmit` puts
back on the wire in one gather are at most `min(cwnd, rwnd)`, or that gather retransmits exactly one chunk (the probe of
the earliest outstanding chunk, allowed when the peer window is smaller than it). -/
theorem C10_retransmit_window (s : St) (orc : Oracle) :
    (sumLen (gatherRtx s orc).2.1 : Int) ≤ ((min32 s.cwnd s.rwnd).toNat : Int) ∨ (gatherRtx s orc).2.1.length = 1 :=
  gatherRtx_window s orc

/-- non-vacuity: after a T3 expiry (cwnd back to one MTU) only the first of three outstanding chunks is retransmitted -/
example :
    let s := run (init { mtu := 1200, maxPayload := 1172 } 100 65536)
      [.openS 1 false 0 0 0, .write 1 53 3000, .gather freeOracle [0, 0, 0], .t3]
    ((gatherRtx s freeOracle).2.1.map (·.len), (min32 s.cwnd s.rwnd).toNat) = ([1172], 1200) := by decide +kernel

/-- **Fragments.** The exact arithmetic the sender relies on, on the generated size functions: a chunk with at most
`maxPayloadSizeForMTU(mtu, interleaving)` user bytes, padded, fits behind the 12-byte common header in one MTU;
and every chunk an accepted write queues carries between 1 and `maxPayloadSize` bytes (larger messages are
fragmented), the fragments adding up to the message. -/
theorem C10_fragment_bound (mtu : BitVec 32) (il : Bool) (len : Nat)
    (hmp : maxPayloadSizeForMTU mtu il ≠ 0) (hlen : len ≤ (maxPayloadSizeForMTU mtu il).toNat) :
    ((commonHeaderSize : Int) + chunkPayloadData_chunkSizeInPacket (p_userData_len := (len : Int)) (p_iData := il) (p_typ := 0#8)
      ≤ (mtu.toNat : Int)) ∧
    (∀ (cfg : Cfg) (st : Stream) (si : BitVec 16) (msg : Nat) (ppi : BitVec 32) (n : Nat), cfg.maxPayload ≠ 0 →
      sumLen (packetize cfg st si msg ppi n).chunks = n ∧
      ∀ c ∈ (packetize cfg st si msg ppi n).chunks, 0 < c.len ∧ c.len ≤ cfg.maxPayload.toNat) :=
  ⟨fragment_fits mtu il len hmp hlen,
   fun cfg st si msg ppi n h => ⟨(packetize_spec cfg st si msg ppi n h).2.2.2.1,
     fun c hc => ⟨((packetize_spec cfg st si msg ppi n h).2.2.2.2.2.1 c hc).1, ((packetize_spec cfg st si msg ppi n h).2.2.2.2.2.1 c hc).2.1⟩⟩⟩

example : maxPayloadSizeForMTU 1200 false ≠ 0 ∧ (1168 : Nat) ≤ (maxPayloadSizeForMTU 1200 false).toNat := by decide +kernel
example : ((packetize { mtu := 1200, maxPayload := 1168 } {} 1 0 53 2500).chunks.map (·.len)) = [1168, 1168, 164] := by decide +kernel

/-- **Congestion window floor.** In every reachable state the congestion window is at least one MTU. -/
theorem C10_cwnd_floor (cfg : Cfg) (tsn peerRwnd : BitVec 32) (hc : CfgOk cfg) (ops : List Op)
    (hw : (run (init cfg tsn peerRwnd) ops).wrapWin = false) :
    cfg.mtu.toNat ≤ (run (init cfg tsn peerRwnd) ops).cwnd.toNat := by
  have h := (reach cfg tsn peerRwnd hc ops).floor hw
  have hcfg : (run (init cfg tsn peerRwnd) ops).cfg = cfg := run_cfg _ ops hc
  rw [hcfg] at h; exact h

example : CfgOk { mtu := 1200, maxPayload := 1168 } := by unfold CfgOk; decide +kernel
example :
    let s := run (init { mtu := 1200, maxPayload := 1168 } 100 65536)
      [.openS 1 false 0 0 0, .write 1 53 5000, .gather freeOracle [0, 0, 0, 0, 0], .t3, .t3]
    (s.cwnd, s.ssthresh, s.wrapWin) = (1200#32, 4800#32, false) := by decide +kernel

/-- **Loss response** ("cut" = the RFC 4960 §7.2.3 formula).
(1) A T3 expiry sets `ssthresh = max(cwnd/2, 4·MTU)` and `cwnd = max(MTU, MinCwnd)`.
(2) When `processFastRetransmission` takes the sender into fast recovery (third miss indication of a chunk), it sets
`ssthresh = max(cwnd/2, 4·MTU)` from the cwnd of that moment and `cwnd = max(ssthresh, MinCwnd)`, and arms the fast
retransmission; while already in fast recovery it changes neither. Hence after either signal `cwnd ≤ max(cwnd_before, 4·MTU, MinCwnd)`. -/
theorem C10_loss_response (s : St) (hc : CfgOk s.cfg) :
    ((t3 s).ssthresh.toNat = max (s.cwnd.toNat / 2) (4 * s.cfg.mtu.toNat) ∧
     (t3 s).cwnd.toNat = max s.cfg.mtu.toNat s.cfg.minCwnd.toNat) ∧
    (∀ cum gaps htna adv, s.inFastRecovery = false → (fastRetransCheck s cum gaps htna adv).1.inFastRecovery = true →
      (fastRetransCheck s cum gaps htna adv).1.ssthresh.toNat = max (s.cwnd.toNat / 2) (4 * s.cfg.mtu.toNat) ∧
      (fastRetransCheck s cum gaps htna adv).1.cwnd.toNat = max (max (s.cwnd.toNat / 2) (4 * s.cfg.mtu.toNat)) s.cfg.minCwnd.toNat ∧
      (fastRetransCheck s cum gaps htna adv).1.willRetransmitFast = true) ∧
    (∀ cum gaps htna adv, s.inFastRecovery = true →
      (fastRetransCheck s cum gaps htna adv).1.cwnd = s.cwnd ∧ (fastRetransCheck s cum gaps htna adv).1.ssthresh = s.ssthresh) := by
  obtain ⟨_, t2, t3'⟩ := t3_frame s
  obtain ⟨f1, f2⟩ := ssthresh_formula s.cwnd s.cfg.mtu hc
  refine ⟨⟨by rw [t3', f1], by rw [t2, setCwnd_eq]; rfl⟩, ?_, ?_⟩
  · intro cum gaps htna adv h0 h1
    obtain ⟨a, b, c⟩ := (fastRetransCheck_loss s cum gaps htna adv).2.1 h0 h1
    refine ⟨by rw [a, f2], ?_, c⟩
    rw [b, setCwnd_eq]; simp only [fastRecovery_cwndArg]; rw [f2]
  · intro cum gaps htna adv h1
    exact (fastRetransCheck_loss s cum gaps htna adv).1 h1

/-- non-vacuity: three SACKs reporting the same hole take the sender into fast recovery with the formula's values
(cwnd 4380 → ssthresh = cwnd = 4·1200) -/
example :
    let s := run (init { mtu := 1200, maxPayload := 1168 } 100 65536)
      [.openS 1 false 0 0 0, .write 1 53 4000, .gather freeOracle [0, 0, 0, 0],
       .sack 99 65536 [(2, 2)] [], .sack 99 65536 [(2, 3)] [], .sack 99 65536 [(2, 4)] []]
    (s.inFastRecovery, s.ssthresh, s.cwnd, s.willRetransmitFast) = (true, 4800#32, 4800#32, true) := by decide +kernel

end C10
