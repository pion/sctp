import SctpVerif.Proofs.StreamApi
/-!
# C18 — write/read API contract: rejected or failed calls have no side effects

Property theorems only. They are about the L0 model `Sapi` (`Model/StreamApi.lean`: `Stream.WriteSCTP` + `packetize` +
`Association.sendPayloadData` incl. the blocking-write gate, `Stream.Close`, `Stream.ReadSCTP` / `SetReadDeadline`), which
sits on the models `Sender` (send half) and `Reasm` (reassembly queue), imported as they are, and is tied to the code by the
direct-drive correspondence `TestVerifStreamAPI` (every `sa` line replayed, state line compared after every op) and by
the expression sites the translator regenerates on every run: `Gen.write_tooLarge`, `Gen.write_notOpen`, `Gen.write_empty`,
`Gen.send_notEstablished[AfterWait]`, `Gen.send_gated`, `Gen.send_waits`, `Gen.popPending_notifyWritable`,
`Gen.packetize_*` (see `C18_packetize_sites`).

Quantification: ALL states / arguments for the single-call theorems; ALL operation lists (`Sapi.Op`: state changes,
stream open / policy change / close, writes with and without deadline, gathers with arbitrary oracles, SACKs with
arbitrary contents, T3, clock ticks, and the read-side operations) for the run theorems, from any state satisfying the
stated invariant (`WInv`, `GInv`: both hold in the initial state of every configuration with MTU < 2^30).

Single-threaded abstraction of the model (DESIGN §4): one call at a time, everything that became runnable has run before
the next operation; goroutine interleavings of concurrent writers are sampled by the e2e `api` mode, not proved.
-/
namespace C18
open Gen Sapi SapiProofs SenderProofs

/-- **Rejected or failed writes have no side effects** (full strength). Whatever the state: a `write` that neither queues
data nor is parked — payload larger than the maximum message size, stream not open, empty payload, association not
established, blocking mode with `writePending` up and the deadline already passed, the stream's write lock held by a
parked call, no Stream object — returns EXACTLY the state it was given: stream sequence number, both message-identifier
counters, buffered amount, pending queue, `writePending`, everything. (The model runs `packetize` and then the failure
branch of `WriteSCTP` on the state-gate and deadline paths, as the code does; the theorem says the roll-back is exact.) -/
theorem C18_rejected_write_no_effect (s : St) (si : BitVec 16) (ppi : BitVec 32) (len : Nat) (dl : Option Nat)
    (h : accepted (write s si ppi len dl).2 = false) : (write s si ppi len dl).1 = s := by
  rcases write_cases s si ppi len dl with h1 | ⟨st, _, hl, _, _, _, _, _, _, e⟩ | ⟨st, _, _, _, _, _, _, _, _, _, e⟩
  · exact h1.1
  · rw [e] at h; simp [accepted, hl] at h
  · rw [e] at h; simp [accepted] at h

/-- every error result, and the empty write, are such calls -/
theorem C18_errors_are_rejected (s : St) (si : BitVec 16) (ppi : BitVec 32) (len : Nat) (dl : Option Nat) :
    ((write s si ppi len dl).2.isErr = true → (write s si ppi len dl).1 = s) ∧
    (len = 0 → (write s si ppi len dl).1 = s) ∧
    (len > s.snd.cfg.maxMessageSize.toNat → (write s si ppi len dl).1 = s) := by
  refine ⟨?_, ?_, ?_⟩
  · intro h; apply C18_rejected_write_no_effect
    cases hr : (write s si ppi len dl).2 <;> rw [hr] at h <;> simp [WRes.isErr] at h <;> rfl
  · intro h0; subst h0
    rcases write_cases s si ppi 0 dl with h1 | ⟨_, _, hl, _⟩ | ⟨_, _, hl, _⟩
    · exact h1.1
    · exact absurd rfl hl
    · exact absurd rfl hl
  · intro hl
    rcases write_cases s si ppi len dl with h1 | ⟨_, _, _, ht, _⟩ | ⟨_, _, _, ht, _⟩
    · exact h1.1
    · simp [write_tooLarge] at ht; omega
    · simp [write_tooLarge] at ht; omega

/-- non-vacuity: oversize by one, closed stream, not established (interleaving, unordered: the MID roll-back), deadline passed -/
example :
    let s0 := run (init { mtu := 1200, maxPayload := 1168, maxMessageSize := 1200, useInterleaving := true } true 100 0)
      [.openS 1 true 0 0, .openS 2 false 1 0, .write 1 53 1200 none, .close 2]
    ((write s0 1 53 1201 none).2, (write s0 2 53 10 none).2, (write (setState s0 2) 1 53 10 none).2, (write s0 1 53 10 (some 0)).2,
     (write s0 1 53 0 none).2, s0.writePending) =
    (.err .tooLarge, .err .streamClosed, .err .notEstablished, .err .deadline, .ok 0, true) := by decide +kernel

/-- **A parked write that fails is rolled back exactly** — stated for the failure that comes before any other operation.
Blocking mode: a `write` that has to wait leaves exactly one new record in `waiters` (its SSN / MID and its bytes are taken
while it waits); `failWaiter` — the step a parked call takes when it gives up: deadline, or the association no longer
established when it is woken — applied to that record in the state the `write` returned gives the state the `write` found,
apart from the model's two identity allocators (`nextWid`, `nextMsg`: ghost names of calls and messages, no behaviour
depends on them). When other operations run between parking and failing, what is proved is the part about the counters:
`C18_ids_consecutive` (a parked call that fails leaves the `settled` counters where they were); nothing is stated here about
the buffered amount in that case. -/
theorem C18_parked_write_rollback (s : St) (hw : WInv s) (si : BitVec 16) (ppi : BitVec 32) (len : Nat) (dl : Option Nat)
    (wid : Nat) (h : (write s si ppi len dl).2 = .blocked wid) :
    ∃ w, (write s si ppi len dl).1.waiters = s.waiters ++ [w] ∧ w.wid = wid ∧
      failWaiter (write s si ppi len dl).1 w = { s with snd := { s.snd with nextMsg := s.snd.nextMsg + 1 }, nextWid := s.nextWid + 1 } := by
  rcases write_cases s si ppi len dl with ⟨_, e2⟩ | ⟨st, _, _, _, _, _, _, _, _, e⟩ | ⟨st, hst, _, _, _, _, _, _, _, _, e⟩
  · rw [h] at e2; simp [accepted] at e2
  · rw [e] at h; cases h
  · rw [e] at h ⊢
    simp only [WRes.blocked.injEq] at h
    exact ⟨parkedCall s si st ppi len dl, rfl, h, park_then_fail s hw.fresh si st ppi len dl hst⟩

example :
    let s0 := run (init { mtu := 1200, maxPayload := 1168 } true 100 0) [.openS 1 false 0 0, .openS 2 false 0 0, .write 1 53 2000 none]
    let s1 := (write s0 2 53 700 (some 50)).1
    ((write s0 2 53 700 (some 50)).2, (s1.snd.streams 2).map (fun st => (st.ssn, st.buffered)),
     ((step s1 (.tick 50 0 [])).snd.streams 2).map (fun st => (st.ssn, st.buffered)), (step s1 (.tick 50 0 [])).waiters.length) =
    (.blocked 0, some (1, 700), some (0, 0), 0) := by decide +kernel

/-- **An accepted write consumes exactly one identifier and queues exactly its fragments.** For every state and every
`write` that returns `(n, nil)` with n > 0: n = len; the pending queue is the old one followed by ⌈len/maxPayloadSize⌉
chunks; the i-th of them has FSN i, the B flag iff i = 0, the E flag iff it is the last, between 1 and maxPayloadSize
bytes, the stream id and PPI of the call, the U flag of the message (stream unordered ∧ PPI ≠ DCEP), and carries the
identifier the stream's counters held (`carries`: SSN for DATA; the ordered or unordered MID, and SSN = low 16 bits of
it, for I-DATA); the lengths add up to len; afterwards exactly one counter of that stream has advanced by one (`adv`: the
SSN for an ordered DATA message, the ordered / unordered MID under interleaving, none for an unordered DATA message), the
buffered amount grew by len, and no other stream changed. -/
theorem C18_write_consumes_one_id (s : St) (si : BitVec 16) (ppi : BitVec 32) (len : Nat) (dl : Option Nat) (n : Nat)
    (hr : (write s si ppi len dl).2 = .ok n) (hn : n ≠ 0) :
    ∃ st cs u, s.snd.streams si = some st ∧ n = len ∧
      (write s si ppi len dl).1.snd.pending = s.snd.pending ++ cs ∧
      cs.length = (len + s.snd.cfg.maxPayload.toNat - 1) / s.snd.cfg.maxPayload.toNat ∧
      Sender.sumLen cs = len ∧
      (∀ i c, cs[i]? = some c →
        c.si = si ∧ c.ppi = ppi ∧ c.unordered = u ∧ c.fsn = BitVec.ofNat 32 i ∧ c.bfrag = (i == 0) ∧ c.efrag = (i + 1 == cs.length) ∧
        0 < c.len ∧ c.len ≤ s.snd.cfg.maxPayload.toNat ∧ carries s.snd.cfg.useInterleaving (ids st) c) ∧
      u = (ppi != BitVec.ofNat 32 PayloadTypeWebRTCDCEP && st.unordered) ∧
      ((write s si ppi len dl).1.snd.streams si).map ids = some (adv s.snd.cfg.useInterleaving u (ids st)) ∧
      ((write s si ppi len dl).1.snd.streams si).map (·.buffered) = some (st.buffered + BitVec.ofNat 64 len) ∧
      (∀ j, j ≠ si → (write s si ppi len dl).1.snd.streams j = s.snd.streams j) :=
  write_ok_shape s si ppi len dl n hr hn

example :
    let s0 := run (init { mtu := 1200, maxPayload := 1168 } false 100 65536) [.openS 1 false 0 0, .write 1 53 5 none]
    let s1 := (write s0 1 53 2500 none).1
    (write s0 1 53 2500 none).2 = .ok 2500 ∧
    (s1.snd.pending.drop 1).map (fun c => (c.fsn.toNat, c.bfrag, c.efrag, c.len, c.ssn.toNat)) =
      [(0, true, false, 1168, 1), (1, false, false, 1168, 1), (2, false, true, 164, 1)] ∧
    (s1.snd.streams 1).map (fun st => (st.ssn.toNat, st.buffered.toNat)) = some (2, 2505) := by decide +kernel

/-- **Consecutive identifiers, whatever happens in between** (the D7 property as a theorem, all operation lists).
Take any state satisfying the invariant of parked calls and any operation list. `logOn si` is the log of accepted messages
of stream `si` along the run, in order, by definition (`pushedOn`, `Proofs/StreamApi/Run.lean`): for a `write` on `si` that
returns `(n, nil)`, n > 0, the fragments `packetize` builds for it; for a gather, the fragments of the call parked on `si`
that it reports released. (These are the chunks `write` / `wake` append to the pending queue — `C18_write_consumes_one_id`
for the write; that equation is not part of this statement.)
Then the first message of the log carries the identifier the stream's counters hold at the start (`settled`: for a stream
with a parked call, the counters as they are once that call has been rolled back), and each later one carries the next
identifier of its class: `Consecutive` threads the counters through `adv`. Oversize, empty, closed-stream, not-established,
deadline-passed writes, parked writes that time out or are refused on wake-up, SACKs, T3, ticks, reads, policy changes in
between contribute nothing to the log and leave the `settled` counters where they are (`step_settled`). A sample (the
`example` after `C18_invariant_reachable`): three accepted ordered writes with rejected ones in between carry SSN 0, 1, 2. -/
theorem C18_ids_consecutive (s : St) (h : WInv s) (ops : List Op) (si : BitVec 16) (x : Ids) (hx : settled s si = some x) :
    Consecutive s.snd.cfg.useInterleaving x (logOn si s ops) := by
  show Consecutive (il s) x (logOn si s ops)
  induction ops generalizing s x with
  | nil => trivial
  | cons op ops ih =>
    obtain ⟨a1, a2, a3⟩ := step_settled s h op si
    simp only [logOn]
    rcases a3 x hx with ⟨b1, b2⟩ | ⟨m, u, b1, b2, b3, b4⟩
    · rw [b1, List.nil_append]
      have := ih (step s op) a1 x b2
      rw [a2] at this; exact this
    · rw [b1]
      have := ih (step s op) a1 _ b4
      rw [a2] at this
      exact ⟨u, b2, b3, this⟩

/-- the invariant holds initially and along every run -/
theorem C18_invariant_reachable (cfg : Sender.Cfg) (bw : Bool) (tsn rw : BitVec 32) (hc : CfgOk cfg) (ops : List Op) :
    WInv (run (init cfg bw tsn rw) ops) ∧ GInv (run (init cfg bw tsn rw) ops) :=
  ⟨run_winv _ (init_winv cfg bw tsn rw hc) ops, run_ginv _ (init_ginv cfg bw tsn rw hc) ops⟩

/-- non-vacuity (the D7 scenario and more): empty, oversize and not-established writes between three ordered writes, the
three messages carry SSN 0, 1, 2 -/
example :
    let s0 := run (init { mtu := 1200, maxPayload := 1168 } false 100 65536) [.openS 1 false 0 0]
    let ops := [Op.write 1 53 10 none, .write 1 53 0 none, .write 1 53 70000 none, .write 1 53 20 none, .setState 1, .write 1 53 30 none,
                .setState 3, .write 1 53 40 none]
    (settled s0 1, (logOn 1 s0 ops).map (fun m => m.map (fun c => (c.ssn.toNat, c.len)))) =
      (some (0, 0, 0), [[(0, 10)], [(1, 20)], [(2, 40)]]) := by decide +kernel

/-- **Short buffer keeps the message** (on the reassembly-queue model `Reasm.Q`, all queue states, all buffer sizes): a `read` that
reports a short buffer returns the queue unchanged and reports the size of the message at its head; every later `read`
of that queue with a buffer of at least that size returns exactly that message — its bytes in order, its PPI. -/
theorem C18_short_read_keeps_message (q : Reasm.Q) (n : Nat) (h : (q.read n).2.err = .shortBuffer) :
    (q.read n).1 = q ∧
    ∃ ppi cs, headSet q = some (ppi, cs) ∧ (q.read n).2.n = (Reasm.bytesOf cs : Int) ∧ n < Reasm.bytesOf cs ∧
      ∀ m, Reasm.bytesOf cs ≤ m →
        (q.read m).2 = { n := (Reasm.bytesOf cs : Int), ppi := ppi, err := .ok, data := bytesCat cs } := by
  have hs := read_spec q n
  cases hh : headSet q with
  | none => rw [hh] at hs; simp only at hs; rw [hs] at h; cases h
  | some pc =>
    obtain ⟨ppi, cs⟩ := pc
    rw [hh] at hs; simp only at hs
    by_cases hn : (n : Int) < (Reasm.bytesOf cs : Int)
    · rw [if_pos hn] at hs
      refine ⟨by rw [hs], ppi, cs, rfl, by rw [hs], by omega, fun m hm => ?_⟩
      have hm' := read_spec q m
      rw [hh] at hm'; simp only at hm'
      rw [if_neg (by omega)] at hm'
      exact hm'
    · rw [if_neg hn] at hs; rw [hs] at h; cases h

/-- the same one level up: one pass of the loop of `ReadSCTP` -/
theorem C18_short_ReadSCTP_keeps_stream (r : RStream) (n : Nat) (k : Int) (h : (tryRead r n).2 = some (.short k)) :
    (tryRead r n).1 = r ∧ ∃ ppi cs, k = (Reasm.bytesOf cs : Int) ∧ n < Reasm.bytesOf cs ∧
      ∀ m, Reasm.bytesOf cs ≤ m → (tryRead r m).2 = some (.data k ppi (bytesCat cs)) := by
  simp only [tryRead] at h ⊢
  cases he : (r.q.read n).2.err with
  | ok => simp [he] at h
  | tryAgain => simp only [he] at h; split at h <;> simp at h
  | shortBuffer =>
    simp only [he, Option.some.injEq, RRes.short.injEq] at h ⊢
    obtain ⟨e1, ppi, cs, _, e3, e4, e5⟩ := C18_short_read_keeps_message r.q n he
    exact ⟨by rw [e1], ppi, cs, by rw [← h, e3], e4, fun m hm => by rw [e5 m hm, ← h, e3]⟩

example :
    let c1 : Reasm.Chunk := { tsn := 5, ssn := 0, bf := true, ef := false, ppi := 77, userData := [1, 2, 3] }
    let c2 : Reasm.Chunk := { tsn := 6, ssn := 0, bf := false, ef := true, ppi := 77, userData := [4, 5] }
    let q := ((Reasm.new 0 0).push c1).1.push c2 |>.1
    ((q.read 4).2.err, (q.read 4).2.n, (q.read 4).1.nBytes, (q.read 5).2.data, (q.read 5).2.ppi) = (.shortBuffer, 5, 5, [1, 2, 3, 4, 5], 77) := by decide +kernel

/-- **A read deadline that fails a read takes nothing from the queue** (one stream object, one firing of its timer, all
`RStream` states). `fireTimer r` is what happens when the read-deadline timer of a stream fires: `readErr` is set unless one
is set already, the parked reader (if any) runs the loop of `ReadSCTP` once more. If that reader is handed an error —
whichever: the deadline, or an earlier EOF — the reassembly queue afterwards is exactly the queue before. The statement is
about `fireTimer` on one `RStream`; it is not lifted here to `fireTimers` / `tick` / `rdeadline` or to operation lists, and
it says nothing about a woken reader that finds a message (that reader runs `tryRead`, the same function `read` uses). -/
theorem C18_read_deadline_keeps_messages (r : RStream) (rid : Nat) (e : RdErr) (h : (rid, RRes.err e) ∈ (fireTimer r).2) :
    (fireTimer r).1.q = r.q := by
  unfold fireTimer at h ⊢
  exact wakeReader_err_keeps _ rid e h

example :
    let s0 := run (init { mtu := 1200, maxPayload := 1168 } false 100 65536) [.openS 1 false 0 0, .rdeadline 1 (some 50), .read 1 100]
    ((s0.rd 1).map (fun r => (r.reader, r.timer)), ((tick s0 49 0 []).2.2).length,
     ((tick s0 50 0 []).2.2).map (fun x => (x.1, x.2 == RRes.err .deadline))) = (some (some (0, 100), some 50), 0, [(0, true)]) := by decide +kernel

/-- **The blocking-write gate.** In every state satisfying the gate invariant (all reachable states: `C18_invariant_reachable`),
in blocking mode:
(1) a write that returns `(n, nil)`, n > 0, at once found `writePending` down and NO DATA chunk of any earlier write in
    the pending queue (only end-of-stream markers may be there): everything written before had been handed to the
    transmission (in-flight) queue;
(2) a parked write is released only by a gather that left the pending queue EMPTY and ran `notifyBlockWritable`;
(3) (D18) a gather of an established association that leaves the pending queue empty and wakes nobody leaves
    `writePending` down — whether or not it sent anything — so the next write does not wait.
When a write waits: exactly when `Gen.send_gated blockWrite ∧ Gen.send_waits writePending` (`mustWait`, by definition of
`write`); what releases it: `Gen.popPending_notifyWritable` at the end of `popPendingDataChunksToSend`, or its deadline. -/
theorem C18_blocking_write_gate (s : St) (h : GInv s) (hb : s.blockWrite = true) :
    (∀ si ppi len dl n, n ≠ 0 → (write s si ppi len dl).2 = .ok n →
      s.writePending = false ∧ ∀ c ∈ s.snd.pending, c.len = 0) ∧
    (∀ orc sel woke wid n, (wid, WRes.ok n) ∈ (gather s orc sel woke).2.woken →
      (Sender.gather s.snd orc sel).1.pending = [] ∧ (gather s orc sel woke).2.notified = true) ∧
    (∀ orc sel woke, s.snd.established = true → (gather s orc sel woke).2.woken = [] →
      (gather s orc sel woke).1.snd.pending = [] → (gather s orc sel woke).1.writePending = false) := by
  refine ⟨fun si ppi len dl n hn hr => ?_, fun orc sel woke wid n hw => ?_, fun orc sel woke he hw hp => ?_⟩
  · rcases write_cases s si ppi len dl with ⟨_, e2⟩ | ⟨st, _, _, _, _, _, _, _, hmw, e⟩ | ⟨st, _, _, _, _, _, _, _, _, _, e⟩
    · rw [hr] at e2; simp [accepted, hn] at e2
    · have hwp : s.writePending = false := by
        simp only [mustWait, send_gated, send_waits, hb, Bool.true_and] at hmw; exact hmw
      exact ⟨hwp, h.gate hb hwp⟩
    · rw [e] at hr; cases hr
  · rcases gather_cases s orc sel woke with ⟨_, e⟩ | ⟨w, _, _, hn, _⟩
    · rw [e] at hw; cases hw
    · exact ⟨notifies_empty h.core hn, by rw [(gather_out s orc sel woke).2]; exact hn⟩
  · rcases gather_cases s orc sel woke with ⟨e, _⟩ | ⟨w, _, _, _, ⟨_, e⟩ | ⟨_, e⟩⟩
    · rw [e] at hp ⊢
      cases hn : notifies s orc sel with
      | true => simp only [gathered, hn, if_true]
      | false =>
        -- not notified although the queue is empty: the flag was already down
        have hp' : (Sender.gather s.snd orc sel).1.pending = [] := hp
        have hz : (Sender.gather s.snd orc sel).1.penChunks = 0 := by rw [(gather_core s.snd orc sel h.core).penN, hp']; rfl
        simp only [notifies, he, hb, hz, popPending_notifyWritable, Bool.true_and, beq_self_eq_true, Bool.and_true, Bool.or_eq_false_iff] at hn
        simp only [gathered, hn.2, ite_self]
    · rw [e] at hw; cases hw
    · rw [e] at hw; cases hw

/-- non-vacuity: the D18 scenario (zero window: the only chunk leaves as a probe, the end-of-stream marker stays queued;
the next gather only drops the marker) — `writePending` is down afterwards; and a parked write released by a drain -/
example :
    let s0 := run (init { mtu := 1200, maxPayload := 1168 } true 100 0) [.openS 1 false 0 0, .openS 2 false 0 0, .write 1 53 100 none, .close 1]
    let s1 := step s0 (.gather Sender.freeOracle [0] none)
    let s2 := step s1 (.gather Sender.freeOracle [0] none)
    (s0.writePending, s1.writePending, s1.snd.pending.length, s2.writePending, s2.snd.pending.length, (write s2 2 53 5 none).2) =
      (true, true, 1, false, 0, .ok 5) := by decide +kernel

/-- the regenerated sites of `Stream.packetize` against the model. Two of them are equal to what `Sender.packetize` computes:
the U flag of the message (`Gen.packetize_unordered`) and whether the SSN advances (`Gen.packetize_ssnAdvances`). For the
other three the statement pins the site itself to a closed form — fragment size = `min(maxPayloadSize, remaining)`, B flag iff
the offset is 0, E flag iff `remaining − fragmentSize = 0` (uint32) — which is the form `Sender.fragAux` / `Sender.mkChunks`
are written in (over `Nat`: `min mp remaining`, first fragment, last fragment); that the model's functions have this form
is read off their definitions and is not part of the statement. A changed site in /repo breaks the corresponding conjunct. -/
theorem C18_packetize_sites (cfg : Sender.Cfg) (st : Sender.Stream) (si : BitVec 16) (msg : Nat) (ppi : BitVec 32) (len : Nat) :
    (Sender.packetize cfg st si msg ppi len).unordered = packetize_unordered ppi st.unordered ∧
    (∀ remaining : BitVec 32, (packetize_fragmentSize cfg.maxPayload remaining).toNat = min cfg.maxPayload.toNat remaining.toNat) ∧
    (∀ offset : BitVec 32, packetize_beginning offset = (offset == 0)) ∧
    (∀ remaining fragmentSize : BitVec 32, packetize_ending remaining fragmentSize = (remaining - fragmentSize == 0)) ∧
    ((ids (Sender.packetize cfg st si msg ppi len).st).1 =
        if packetize_ssnAdvances cfg.useInterleaving (Sender.packetize cfg st si msg ppi len).unordered then st.ssn + 1 else st.ssn) := by
  refine ⟨rfl, ?_, fun _ => rfl, fun _ _ => rfl, ?_⟩
  · intro r
    simp only [packetize_fragmentSize, min32]
    split <;> rename_i h <;> simp only [decide_eq_true_eq, BitVec.lt_def] at h <;> omega
  · rw [ids_packetize]
    simp only [adv, ids, packetize_ssnAdvances]
    cases cfg.useInterleaving <;> cases (Sender.packetize cfg st si msg ppi len).unordered <;> simp

end C18
