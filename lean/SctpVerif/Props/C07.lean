import SctpVerif.Proofs.Sender
/-!
# C07 — abandoned messages never block or destroy anything else (SENDER SIDE: what the peer is told to skip)

Property theorems only, about the L0 model `Sender` (`Model/Sender.lean`: hand-written mirror of the send / acknowledgement
paths of association.go, tied to the code by the direct-drive correspondence runs — every `as` line of the real
`Association`, including the FORWARD-TSN / I-FORWARD-TSN chunk a gather emits, is replayed through it and compared).

What is covered here: the sender half of the statement — *the peer is told to skip exactly the abandoned messages*:
which TSNs the advanced peer ack point (the "new cumulative TSN" of FORWARD-TSN / I-FORWARD-TSN) walks over, that it
walks as far as it can, that the chunk is (re)sent until the peer confirms it, what its stream list contains, that
abandonment is permanent and touches only messages whose stream policy allows it, and that no retransmission path flags
or sends an abandoned chunk.

What is NOT covered here (still exploration level: the e2e `pr` scenarios and their predicates): the RECEIVER half
(`handleForwardTSN` / `forwardTSNFor*`: nothing that was not abandoned is discarded, later messages are delivered) and
the composition of the two halves over a faulty network.

Quantification: ALL configurations with `MTU < 2^30` (`CfgOk`) and partial reliability negotiated (`prEnabled`), ALL
operation lists from `init` (`openS / unreg / setEstablished / write / gather / sack / t3 / tick` with arbitrary SACK
contents), ALL oracle values (burst budget machine, pending-queue selection, RACK/PTO marks, T3 expiries per tick).
`TsnOk` is the run premise serial-number arithmetic needs: fewer than 2^31 TSNs outstanding in every state of the run
(decidable; examples show real runs satisfy it).

`s.abandoned c` is `chunkPayloadData.abandoned()`: the head fragment of the chunk's message is flagged abandoned AND all
fragments of the message are in flight.
-/
namespace C07
open Gen Sender SenderProofs

private theorem reach (cfg : Cfg) (tsn peerRwnd : BitVec 32) (hc : CfgOk cfg) (hpr : cfg.prEnabled = true) (ops : List Op)
    (hok : TsnOk (init cfg tsn peerRwnd) ops) :
    Seq (run (init cfg tsn peerRwnd) ops) ∧ WinInv (run (init cfg tsn peerRwnd) ops) ∧ AdvInv (run (init cfg tsn peerRwnd) ops) ∧
    (run (init cfg tsn peerRwnd) ops).cfg = cfg ∧ (run (init cfg tsn peerRwnd) ops).inflight.length < 2^31 :=
  ⟨run_seq _ ops (init_seq cfg tsn peerRwnd) (init_win cfg tsn peerRwnd hc),
   (run_win _ ops (init_win cfg tsn peerRwnd hc)).1,
   run_adv _ ops (init_seq cfg tsn peerRwnd) (init_win cfg tsn peerRwnd hc) hpr (init_adv cfg tsn peerRwnd) hok,
   run_cfg _ ops hc, hok.last⟩

/-- **The skip covers abandoned chunks only.** In every reachable state the advanced peer ack point — what FORWARD-TSN /
I-FORWARD-TSN carry as new cumulative TSN — lies inside the in-flight queue, not behind the cumulative ack point, and
every in-flight chunk whose TSN lies in (cumAck, advPeerAck] is abandoned: the point never walks over a chunk that is
merely gap-acked, nor over a chunk of a message that is still being (re)transmitted. -/
theorem C07_skip_only_abandoned (cfg : Cfg) (tsn peerRwnd : BitVec 32) (hc : CfgOk cfg) (hpr : cfg.prEnabled = true) (ops : List Op)
    (hok : TsnOk (init cfg tsn peerRwnd) ops) :
    ((run (init cfg tsn peerRwnd) ops).advPeerAck - (run (init cfg tsn peerRwnd) ops).cumAck).toNat ≤ (run (init cfg tsn peerRwnd) ops).inflight.length ∧
    ∀ c ∈ (run (init cfg tsn peerRwnd) ops).inflight,
      sna32LT (run (init cfg tsn peerRwnd) ops).cumAck c.tsn = true → sna32LTE c.tsn (run (init cfg tsn peerRwnd) ops).advPeerAck = true →
      (run (init cfg tsn peerRwnd) ops).abandoned c = true := by
  obtain ⟨hs, _, ha, _, hsm⟩ := reach cfg tsn peerRwnd hc hpr ops hok
  exact ⟨ha.le, fun c hmem _ h2 => ha.range hs hsm hmem h2⟩

/-- non-vacuity: stream 2 allows no retransmission; its message (TSN 101) is abandoned when sent, the reliable messages
before and after it (TSN 100, 102) are not. The first SACK acknowledges 100 and gap-acks 102: the point advances over 101
only (not over the gap-acked 102); `TsnOk` holds. -/
example :
    let ops := [Op.openS 1 false 0 0 0, .openS 2 false 1 0 0, .write 1 53 10, .write 2 53 20, .write 1 53 30,
      .gather freeOracle [0, 0, 0], .sack 100 65536 [(2, 2)] []]
    let s := run (init { mtu := 1200, maxPayload := 1172 } 100 65536) ops
    TsnOk (init { mtu := 1200, maxPayload := 1172 } 100 65536) ops ∧
    (s.cumAck, s.advPeerAck, s.inflight.map (fun c => (c.tsn, s.abandoned c, c.acked)), s.willSendForwardTSN) =
      (100#32, 101#32, [(101#32, true, false), (102#32, false, true)], true) := by decide +kernel

/-- **The skip is maximal.** After an accepted SACK and after a T3 expiry the chunk right after the advanced peer ack
point, if in flight, is NOT abandoned: the peer is told about every abandoned chunk it can be told about. -/
theorem C07_skip_maximal (cfg : Cfg) (tsn peerRwnd : BitVec 32) (hc : CfgOk cfg) (hpr : cfg.prEnabled = true) (ops : List Op)
    (hok : TsnOk (init cfg tsn peerRwnd) ops) :
    (∀ cum arwnd gaps marks, (sack (run (init cfg tsn peerRwnd) ops) cum arwnd gaps marks).2 = .ok → ∀ off c,
      Sender.get (sack (run (init cfg tsn peerRwnd) ops) cum arwnd gaps marks).1.inflight
        ((sack (run (init cfg tsn peerRwnd) ops) cum arwnd gaps marks).1.advPeerAck + 1) = some (off, c) →
      (sack (run (init cfg tsn peerRwnd) ops) cum arwnd gaps marks).1.abandoned c = false) ∧
    (∀ off c, Sender.get (t3 (run (init cfg tsn peerRwnd) ops)).inflight ((t3 (run (init cfg tsn peerRwnd) ops)).advPeerAck + 1) = some (off, c) →
      (t3 (run (init cfg tsn peerRwnd) ops)).abandoned c = false) := by
  obtain ⟨hs, hw, ha, hcfg, hsm⟩ := reach cfg tsn peerRwnd hc hpr ops hok
  have hpr' : (run (init cfg tsn peerRwnd) ops).cfg.prEnabled = true := by rw [hcfg]; exact hpr
  exact ⟨fun cum arwnd gaps marks hok' => (sack_post _ cum arwnd gaps marks hs hsm hpr' ha hok').max,
    (t3_post _ hs (by omega) hpr' ha).max⟩

/-- non-vacuity: two abandoned messages in a row (TSN 100, 101), then a reliable one (102): T3 advances the point to 101 and
stops in front of 102, which is in flight and not abandoned -/
example :
    let s := t3 (run (init { mtu := 1200, maxPayload := 1172 } 100 65536)
      [.openS 1 false 0 0 0, .openS 2 true 1 0 0, .write 2 53 10, .write 2 53 20, .write 1 53 30, .gather freeOracle [0, 0, 0]])
    (s.advPeerAck, (Sender.get s.inflight (s.advPeerAck + 1)).map (fun oc => (oc.2.tsn, s.abandoned oc.2))) = (101#32, some (102#32, false)) := by
  decide +kernel

/-- **The FORWARD-TSN is (re)sent until the peer confirms it.** (1) After an accepted SACK and (2) after every T3 expiry:
advanced peer ack point ahead of the cumulative point ⇒ `willSendForwardTSN` is up. (3) A gather in state established
always leaves the flag down, and it emits a FORWARD-TSN / I-FORWARD-TSN exactly when the flag was up and the point was
ahead; the chunk carries the advanced peer ack point and the stream list of the state the gather leaves (see
`C07_forward_lists_exact`). So while the peer has not acknowledged the skip, every T3 expiry makes the next gather send
it again. -/
theorem C07_forward_flag (cfg : Cfg) (tsn peerRwnd : BitVec 32) (hc : CfgOk cfg) (hpr : cfg.prEnabled = true) (ops : List Op)
    (hok : TsnOk (init cfg tsn peerRwnd) ops) :
    (∀ cum arwnd gaps marks, (sack (run (init cfg tsn peerRwnd) ops) cum arwnd gaps marks).2 = .ok →
      sna32GT (sack (run (init cfg tsn peerRwnd) ops) cum arwnd gaps marks).1.advPeerAck (sack (run (init cfg tsn peerRwnd) ops) cum arwnd gaps marks).1.cumAck = true →
      (sack (run (init cfg tsn peerRwnd) ops) cum arwnd gaps marks).1.willSendForwardTSN = true) ∧
    (sna32GT (t3 (run (init cfg tsn peerRwnd) ops)).advPeerAck (t3 (run (init cfg tsn peerRwnd) ops)).cumAck = true →
      (t3 (run (init cfg tsn peerRwnd) ops)).willSendForwardTSN = true) ∧
    (∀ orc sel, (run (init cfg tsn peerRwnd) ops).established = true →
      (gather (run (init cfg tsn peerRwnd) ops) orc sel).1.willSendForwardTSN = false ∧
      ((gather (run (init cfg tsn peerRwnd) ops) orc sel).2.fwd.isSome = true ↔
        ((run (init cfg tsn peerRwnd) ops).willSendForwardTSN = true ∧
         sna32GT (run (init cfg tsn peerRwnd) ops).advPeerAck (run (init cfg tsn peerRwnd) ops).cumAck = true)) ∧
      (∀ f, (gather (run (init cfg tsn peerRwnd) ops) orc sel).2.fwd = some f →
        f = (if cfg.useIForwardTSN then Fwd.ifwd (run (init cfg tsn peerRwnd) ops).advPeerAck (iForwardTSN (gather (run (init cfg tsn peerRwnd) ops) orc sel).1).2
             else Fwd.fwd (run (init cfg tsn peerRwnd) ops).advPeerAck (forwardTSN (gather (run (init cfg tsn peerRwnd) ops) orc sel).1).2))) := by
  obtain ⟨hs, hw, ha, hcfg, hsm⟩ := reach cfg tsn peerRwnd hc hpr ops hok
  have hpr' : (run (init cfg tsn peerRwnd) ops).cfg.prEnabled = true := by rw [hcfg]; exact hpr
  refine ⟨fun cum arwnd gaps marks h1 => (sack_post _ cum arwnd gaps marks hs hsm hpr' ha h1).flag,
    (t3_post _ hs (by omega) hpr' ha).flag, ?_⟩
  intro orc sel he
  obtain ⟨g1, g2⟩ := gather_fwd _ orc sel he
  refine ⟨gather_flag _ orc sel he, ?_, ?_⟩
  · rw [g1, hcfg]
    constructor
    · intro h; exact ⟨h.1, h.2.1⟩
    · intro h; exact ⟨h.1, h.2, Or.inr hpr⟩
  · intro f hf
    have := g2 f hf
    rw [hcfg] at this
    exact this

/-- non-vacuity: the abandoned message (TSN 100) is skipped by a FORWARD-TSN after T3; the gather sends it and lowers the
flag; the peer stays silent, T3 expires again: the flag is up again and the next gather sends the same FORWARD-TSN -/
example :
    let s0 := run (init { mtu := 1200, maxPayload := 1172 } 100 65536)
      [.openS 1 false 0 0 0, .openS 2 false 1 0 0, .write 2 53 10, .write 1 53 30, .gather freeOracle [0, 0], .t3]
    let s1 := (gather s0 freeOracle []).1
    (s0.willSendForwardTSN, (gather s0 freeOracle []).2.fwd == some (.fwd 100 [(2, 0)]), s1.willSendForwardTSN,
     (t3 s1).willSendForwardTSN, (gather (t3 s1) freeOracle []).2.fwd == some (.fwd 100 [(2, 0)])) = (true, true, false, true, true) := by
  decide +kernel

/-- **Abandonment is permanent.** Whatever happens afterwards (any operations, any oracle values, no premise at all): a
message whose head is flagged abandoned stays flagged, a message all of whose fragments are in flight stays so; hence a
chunk that is `abandoned()` in some state is `abandoned()` in every later state. -/
theorem C07_abandonment_monotone (s : St) (ops : List Op) (c : Chunk) (h : s.abandoned c = true) : (run s ops).abandoned c = true :=
  (run_abLe s ops).abandoned rfl h

example :
    let s := run (init { mtu := 1200, maxPayload := 1172 } 100 65536) [.openS 2 false 1 0 0, .write 2 53 10, .gather freeOracle [0]]
    s.inflight.map (fun c => s.abandoned c) = [true] := by decide +kernel

/-- what "the lists are exact" says about a state: (1) both builders scan exactly the chunks in (cumAck, advPeerAck] — the
first `advPeerAck − cumAck` chunks of the queue — and all of them are abandoned; (2) FORWARD-TSN: new cumulative TSN =
advanced peer ack point; one entry per stream; every entry is (stream, SSN) of an abandoned ORDERED chunk in the range
(unordered ones are not listed: D5a fix); every stream with an ordered chunk in the range has an entry, and that entry is
the greatest SSN of those chunks whenever the SSNs of the stream in the range lie in one half-space window (fewer than
2^15 ordered messages of a stream skipped at once); (3) I-FORWARD-TSN: the same with keys (stream, unordered flag) and
message identifiers. -/
def FwdExact (s : St) : Prop :=
  fwdChunks s = s.inflight.take (s.advPeerAck - s.cumAck).toNat ∧
  (∀ c ∈ fwdChunks s, s.abandoned c = true) ∧
  ((forwardTSN s).1 = s.advPeerAck ∧ ((forwardTSN s).2.map (·.1)).Nodup ∧
   (∀ e ∈ (forwardTSN s).2, ∃ c ∈ fwdChunks s, s.abandoned c = true ∧ c.unordered = false ∧ c.si = e.1 ∧ c.ssn = e.2) ∧
   (∀ base : BitVec 16 → BitVec 16, (∀ c ∈ fwdChunks s, c.unordered = false → (c.ssn - base c.si).toNat < 2^15) →
     ∀ c ∈ fwdChunks s, c.unordered = false → ∃ ssn, (c.si, ssn) ∈ (forwardTSN s).2 ∧ sna16LTE c.ssn ssn = true)) ∧
  ((iForwardTSN s).1 = s.advPeerAck ∧ ((iForwardTSN s).2.map (·.1)).Nodup ∧
   (∀ e ∈ (iForwardTSN s).2, ∃ c ∈ fwdChunks s, s.abandoned c = true ∧ (c.si, c.unordered) = e.1 ∧ c.mid = e.2) ∧
   (∀ base : BitVec 16 × Bool → BitVec 32, (∀ c ∈ fwdChunks s, (c.mid - base (c.si, c.unordered)).toNat < 2^31) →
     ∀ c ∈ fwdChunks s, ∃ mid, ((c.si, c.unordered), mid) ∈ (iForwardTSN s).2 ∧ sna32LTE c.mid mid = true))

/-- **The stream lists are exact** in every reachable state (hence in the state a gather leaves, which is the one whose
lists go on the wire: `C07_forward_flag`): see `FwdExact`. Nothing of a message that is not abandoned is listed. -/
theorem C07_forward_lists_exact (cfg : Cfg) (tsn peerRwnd : BitVec 32) (hc : CfgOk cfg) (hpr : cfg.prEnabled = true) (ops : List Op)
    (hok : TsnOk (init cfg tsn peerRwnd) ops) : FwdExact (run (init cfg tsn peerRwnd) ops) := by
  obtain ⟨hs, _, ha, _, hsm⟩ := reach cfg tsn peerRwnd hc hpr ops hok
  generalize run (init cfg tsn peerRwnd) ops = s at hs ha hsm
  have hch := fwdChunks_eq s hs hsm ha
  have hab := ha.fwd_abandoned hs hsm
  obtain ⟨f1, f2, f3⟩ := fwdStreams_spec (fwdChunks s)
  obtain ⟨g1, g2, g3⟩ := ifwdStreams_spec (fwdChunks s)
  refine ⟨hch, hab, ⟨rfl, f1, ?_, f3⟩, ⟨rfl, g1, ?_, g3⟩⟩
  · intro e he
    obtain ⟨c, c1, c2, c3, c4⟩ := f2 e he
    exact ⟨c, c1, hab c c1, c2, c3, c4⟩
  · intro e he
    obtain ⟨c, c1, c2, c3⟩ := g2 e he
    exact ⟨c, c1, hab c c1, c2, c3⟩

/-- non-vacuity: ordered stream 2 and unordered stream 3 allow no retransmission, stream 1 is reliable. Written: two
ordered messages on 2 (SSN 0, 1), one unordered on 3, a reliable one on 1. After T3 the point covers TSN 100..102; the
FORWARD-TSN lists stream 2 with SSN 1 (the greater), not the unordered stream 3, not stream 1; the I-FORWARD-TSN of the
interleaving variant lists (2, ordered, MID 1) and (3, unordered, MID 0). -/
example :
    let ops := [Op.openS 1 false 0 0 0, .openS 2 false 1 0 0, .openS 3 true 1 0 0, .write 2 53 10, .write 2 53 20, .write 3 53 5, .write 1 53 30,
      .gather freeOracle [0, 0, 0, 0], .t3]
    let s := run (init { mtu := 1200, maxPayload := 1172 } 100 65536) ops
    let s' := run (init { mtu := 1200, maxPayload := 1168, useInterleaving := true, useIForwardTSN := true } 100 65536) ops
    TsnOk (init { mtu := 1200, maxPayload := 1172 } 100 65536) ops ∧
    (fwdChunks s).map (·.tsn) = [100#32, 101#32, 102#32] ∧ forwardTSN s = (102#32, [(2#16, 1#16)]) ∧
    iForwardTSN s' = (102#32, [((2#16, false), 1#32), ((3#16, true), 0#32)]) := by decide +kernel

/-- **Who can be abandoned.** In every reachable state, for every chunk the sender holds (in flight or pending):
(1) a chunk carrying the DCEP payload type belongs to no abandoned message, whatever the policy of its stream;
(2) for a stream `si` that no operation of the run gives a partially reliable policy (`KeepsRel si`: every
`openS si … relType …` of the run has a type other than "limited retransmissions" and "timed"), no chunk of `si` belongs
to an abandoned message — whatever happens to the messages of other streams sharing the association.
No premise on the configuration or on sequence numbers. (`checkPartialReliabilityStatus` is the only place that flags a
message; the fragments of a message share stream and payload type: `MsgInv`.) -/
theorem C07_reliable_never_abandoned (cfg : Cfg) (tsn peerRwnd : BitVec 32) (hc : CfgOk cfg) (ops : List Op) :
    (∀ c ∈ (run (init cfg tsn peerRwnd) ops).inflight ++ (run (init cfg tsn peerRwnd) ops).pending,
      c.ppi = BitVec.ofNat 32 PayloadTypeWebRTCDCEP →
      c.msg ∉ (run (init cfg tsn peerRwnd) ops).abandonedMsgs ∧ (run (init cfg tsn peerRwnd) ops).abandoned c = false) ∧
    (∀ si, (∀ op ∈ ops, KeepsRel si op) →
      ∀ c ∈ (run (init cfg tsn peerRwnd) ops).inflight ++ (run (init cfg tsn peerRwnd) ops).pending, c.si = si →
      c.msg ∉ (run (init cfg tsn peerRwnd) ops).abandonedMsgs ∧ (run (init cfg tsn peerRwnd) ops).abandoned c = false) := by
  have hm := init_msginv cfg tsn peerRwnd
  have h0 : ∀ Q, NoAb Q (init cfg tsn peerRwnd) := by intro Q c hcm; simp [chunksOf, init] at hcm
  refine ⟨?_, ?_⟩
  · intro c hmem hppi
    have h := run_noab_dcep _ ops hm (h0 _)
    exact ⟨h c hmem hppi, h.abandoned hmem hppi⟩
  · intro si hk c hmem hsi
    have h := (run_noab_stream si _ ops (init_win cfg tsn peerRwnd hc) hm (by intro st hst; simp [init] at hst) (h0 _) hk).1
    exact ⟨h c hmem hsi, h.abandoned hmem hsi⟩

/-- non-vacuity: stream 2 allows no retransmission, stream 1 is reliable; a DCEP message on stream 2 and a message on
stream 1 are sent between two abandoned messages of stream 2 and go through two T3 rounds: only the plain messages of
stream 2 are abandoned -/
example :
    let ops := [Op.openS 1 false 0 0 0, .openS 2 false 1 0 0, .write 2 53 10, .write 2 50 20, .write 1 53 30, .write 2 53 40,
      .gather freeOracle [0, 0, 0, 0], .t3, .gather freeOracle [], .t3]
    let s := run (init { mtu := 1200, maxPayload := 1172 } 100 65536) ops
    (∀ op ∈ ops, KeepsRel 1 op) ∧ s.inflight.map (fun c => (c.si, c.ppi, s.abandoned c)) =
      [(2#16, 53#32, true), (2#16, 50#32, false), (1#16, 53#32, false), (2#16, 53#32, true)] := by
  refine ⟨?_, by decide +kernel⟩
  intro op hop
  simp only [List.mem_cons, List.not_mem_nil, or_false] at hop
  rcases hop with h | h | h | h | h | h | h | h | h | h <;> subst h <;> simp [KeepsRel] <;> decide +kernel

/-- **No retransmission path flags or sends an abandoned chunk.** For EVERY state:
(1) a T3 expiry flags exactly the in-flight chunks that are neither acked nor abandoned and changes nothing else in the queue;
(2) RACK / PTO marks flag only chunks that are neither acked nor abandoned;
(3) the fast-retransmit gather puts on the wire only chunks that are neither acked nor abandoned;
(4) the T3 retransmission gather (`getDataPacketsToRetransmit`) puts on the wire only chunks that carry the `retransmit` flag
and are not abandoned — "abandoned" as the loop sees it, including abandonments made earlier in the same gather.
(Before the fix of finding D21 clause (4) was false: the loop did not test `abandoned()`, so a chunk flagged while its
message was not yet abandoned — tail fragment still pending — was retransmitted after the message had been abandoned, in the
very gather that emitted the FORWARD-TSN skipping it. The witness is now the regression theorem below and the op file
corpus/C06/d21_abandoned_chunk_retransmitted.ops.) -/
theorem C07_abandoned_not_retransmitted (s : St) :
    ((t3 s).inflight = s.inflight.map (fun c => if c.acked || s.abandoned c then c else { c with retransmit := true })) ∧
    (∀ marks, (applyMarks s marks).inflight =
      s.inflight.map fun c => if marks.contains c.tsn && !c.acked && !s.abandoned c then { c with retransmit := true } else c) ∧
    (∀ (B : Type) (allow : B → Int → Bool × B) (b : B), ∀ x ∈ (gatherFast s allow b).2,
      ∃ c ∈ s.inflight, x = fastUpd { s with willRetransmitFast := false } c ∧ c.acked = false ∧ s.abandoned c = false) ∧
    (∀ orc, ∀ x ∈ (gatherRtx s orc).2.1, ∃ c ∈ s.inflight, c.retransmit = true ∧ s.abandoned c = false ∧ x = rtxUpd s c) :=
  ⟨t3_inflight s, fun _ => rfl, fun _ allow b => gatherFast_skips_abandoned s allow b, gatherRtx_sends_flagged s⟩

/-- non-vacuity of (1) and (3): after T3 the abandoned chunk 100 is not flagged, the reliable chunk 101 is -/
example :
    let s := run (init { mtu := 1200, maxPayload := 1172 } 100 65536)
      [.openS 1 false 0 0 0, .openS 2 false 1 0 0, .write 2 53 10, .write 1 53 30, .gather freeOracle [0, 0]]
    (t3 s).inflight.map (fun c => (c.tsn, c.retransmit, s.abandoned c)) = [(100#32, false, true), (101#32, true, false)] := by decide +kernel

/-- **Regression for finding D21** (the run that used to retransmit an abandoned chunk). Stream 2 allows no retransmission;
its message has two fragments, the tail is held back by the peer's window. T3 flags the head (TSN 101) while the message is
not `abandoned()` yet; the next gather cannot retransmit it (window) but sends the tail, which makes the message
`abandoned()`. After the next SACK TSN 101 is abandoned AND still flagged, the advanced peer ack point is at 102 — and the
gather retransmits NOTHING, it only emits the FORWARD-TSN that skips 101 and 102. -/
theorem C07_d21_regression :
    let s := run (init { mtu := 1200, maxPayload := 1172, minCwnd := 20000 } 100 2200)
      [.openS 1 false 0 0 0, .openS 2 false 1 0 0, .write 1 53 1000, .write 2 53 1272,
       .gather freeOracle [0, 0, 0], .t3, .sack 99 2700 [] [], .gather freeOracle [0], .sack 100 65536 [] []]
    s.inflight.map (fun c => (c.tsn, c.retransmit, s.abandoned c)) = [(101#32, true, true), (102#32, false, true)] ∧
    s.advPeerAck = 102#32 ∧
    (gatherRtx s freeOracle).2.1 = [] ∧ (gather s freeOracle []).2.packets = [] ∧
    ((gather s freeOracle []).2.fwd == some (.fwd 102 [(2, 0)])) = true := by decide +kernel

end C07
