import SctpVerif.Proofs.Sender
/-!
# C02 — no permanent stall (SENDER SIDE: the mechanisms that make a stall impossible, and the drain argument)

Property theorems only, about the L0 model `Sender` (`Model/Sender.lean`: hand-written mirror of the send / acknowledgement
paths of association.go, tied to the code by the direct-drive correspondence runs: every `as` line of the real
`Association` is replayed through it and compared; its window tests and formulas are `Gen.*` definitions regenerated from
the code on every run).

What the theorems say — the liveness building blocks of the sender half, each for ALL configurations with `MTU < 2^30`
(`CfgOk`), ALL operation lists from `init` (arbitrary earlier loss, duplication, reordering of SACKs, zero-window episodes,
congestion collapse, any number of T3 expiries), ALL oracle values:
* T3 has no precondition and no retry limit and flags everything outstanding (`C02_t3_marks_all`);
* a flagged chunk at the head of the queue is retransmitted whatever cwnd and rwnd are (`C02_rtx_progress_partial`; the
  literal "lowest flagged chunk, always" is false — `C02_rtx_lowest_not_first_witness` — and the theorem says what holds);
* with nothing in flight a gather admits a chunk whatever cwnd and rwnd are — the zero-window probe (`C02_probe_when_blocked`);
* a SACK whose cumulative TSN covers the lowest outstanding chunk removes it (`C02_ack_progress`), and empty queues mean
  zero buffered bytes;
* no reachable state is a dead end: the schedule "gather, then a SACK that acknowledges everything in flight" drains both
  queues in at most `pending chunks + 1` rounds ≤ `pending bytes + 1` rounds (`C02_drains_fault_free`,
  `C02_recovers_after_blackout`). The bound is the worst case "one chunk per round" (congestion window at its minimum of one
  MTU, or a closed peer window): it does not use cwnd growth, so it is linear in the queued chunks, i.e. at most
  ⌈bytes / fragment size⌉ + messages + 1 rounds, each round costing at most one retransmission timeout in the
  implementation (C19 bounds that by `rtoMax`).

* and the same with a peer whose answers are earned (`C02_recovers_faithful`): every round starts with a T3 expiry, and the
  SACK covers only what that peer — which keeps nothing beyond its cumulative point except what it gap-acked — can have:
  gap-acked before, skipped by the FORWARD-TSN of this gather, or put on the wire by this gather.

What they do NOT cover (still exploration level: the e2e `transfer` scenarios and their predicate `P_C02`): that timers
really fire and the writer goroutine really runs (Go scheduling, `awakeWriteLoop`), the RECEIVER half (that the peer
accepts the probe / the gap-filling chunk at zero window and answers with such a SACK), the composition over a network that
"eventually stops misbehaving", and the wall-clock bound. In the drain theorems the peer's answer is an INPUT of the
schedule (a full cumulative SACK), not something derived from a receiver model.

Premises: `CfgFit` — the fragment size is at most `maxPayloadSizeForMTU(MTU)` (as `createAssociation` sets it), so every
fragment fits a packet (C10); `PickOk` — `pendingQueue.peek` returns a chunk of the queue when the queue is not empty;
`inflight + pending < 2^31` chunks (serial-number arithmetic).
-/
namespace C02
open Gen Sender SenderProofs

/-- **T3 never gives up and flags everything.** `onRetransmissionTimeout(T3)` is a total function of the state — it has no
precondition (it does not even look at the association state) and there is no retry counter in it — and after ANY number
`n + 1` of consecutive expiries, from ANY state, every in-flight chunk that is neither acked nor abandoned carries the
`retransmit` flag. -/
theorem C02_t3_marks_all (s : St) (n : Nat) :
    ∀ c ∈ (iter t3 (n + 1) s).inflight, c.acked = false → (iter t3 (n + 1) s).abandoned c = false → c.retransmit = true := by
  rw [iter_succ']
  exact t3_marks_all _

/-- non-vacuity: three chunks in flight, the middle one gap-acked, the last one of an abandoned message; after 12 T3
expiries exactly the first is flagged (the back-off has no end in the model, as in the code: `noMaxRetrans`) -/
example :
    let s := run (init { mtu := 1200, maxPayload := 1172 } 100 65536)
      [.openS 1 false 0 0 0, .openS 2 false 1 0 0, .write 1 53 10, .write 1 53 20, .write 2 53 30, .gather freeOracle [0, 0, 0],
       .sack 99 65536 [(2, 2)] []]
    (iter t3 12 s).inflight.map (fun c => (c.tsn, c.acked, (iter t3 12 s).abandoned c, c.retransmit)) =
      [(100#32, false, false, true), (101#32, true, false, false), (102#32, false, true, false)] := by decide +kernel

/-
FULL STATEMENT (as asked for): "in any reachable state whose in-flight queue contains a flagged chunk, a gather puts at
least the LOWEST flagged chunk on the wire, whatever cwnd and rwnd are."  FALSE when the lowest flagged chunk is not the
EARLIEST OUTSTANDING chunk: `getDataPacketsToRetransmit` grants the window exception only to loop index 0, i.e. to the chunk
right after the cumulative ack point. If that chunk is abandoned (or was gap-acked) it is not flagged, the lowest flagged
chunk sits behind it, and with a closed peer window it is NOT sent (`C02_rtx_lowest_not_first_witness`; the implementation
agrees: corpus/C02/rtx_lowest_flagged_behind_abandoned.ops). This is not a stall: the abandoned chunk in front is skipped by
the FORWARD-TSN of the same gather (C07), the peer's answer moves the cumulative point, and then the flagged chunk IS the
earliest one (second half of the witness). What holds is the theorem below.
-/

/-- **The lowest flagged chunk is retransmitted** (partial: see above). In every reachable established state without
window overflow, if `c` is the lowest flagged chunk of the in-flight queue, is not abandoned (a chunk is never abandoned when it
is flagged; one whose message was abandoned afterwards is skipped and left to the FORWARD-TSN: C07), fits the MTU (C10 proves it
for every fragment) and the burst budget allows a first chunk, then the first retransmission packet of a gather starts with `c` —
(1) whatever cwnd and rwnd are (rwnd = 0, cwnd at its minimum) when `c` is the earliest outstanding chunk, and
(2) wherever it is in the queue when it fits `min(cwnd, rwnd)`. -/
theorem C02_rtx_progress_partial (cfg : Cfg) (tsn peerRwnd : BitVec 32) (hc : CfgOk cfg) (ops : List Op) (orc : Oracle) (sel : List Nat)
    (pre : List Chunk) (c : Chunk) (post : List Chunk)
    (hest : (run (init cfg tsn peerRwnd) ops).established = true) (hw : (run (init cfg tsn peerRwnd) ops).wrapWin = false)
    (hq : (run (init cfg tsn peerRwnd) ops).inflight = pre ++ c :: post) (hpre : ∀ x ∈ pre, x.retransmit = false) (hcf : c.retransmit = true)
    (hnab : (run (init cfg tsn peerRwnd) ops).abandoned c = false)
    (hfit : hdr + c.sizeInPacket cfg.useInterleaving ≤ (cfg.mtu.toNat : Int))
    (hal : (orc.allow orc.b (c.sizeInPacket cfg.useInterleaving + hdr)).1 = true)
    (hwin : pre = [] ∨ c.len ≤ min (run (init cfg tsn peerRwnd) ops).cwnd.toNat (run (init cfg tsn peerRwnd) ops).rwnd.toNat) :
    ∃ p rest, (gather (run (init cfg tsn peerRwnd) ops) orc sel).2.rtx = (rtxUpd (run (init cfg tsn peerRwnd) ops) c :: p) :: rest := by
  have hs := run_seq _ ops (init_seq cfg tsn peerRwnd) (init_win cfg tsn peerRwnd hc)
  have hwi := (run_win _ ops (init_win cfg tsn peerRwnd hc)).1
  have hcfg : (run (init cfg tsn peerRwnd) ops).cfg = cfg := run_cfg _ ops hc
  generalize run (init cfg tsn peerRwnd) ops = s at *
  have hfloor := hwi.floor hw
  rw [hcfg] at hfloor
  have hlen : (c.len : Int) ≤ c.sizeInPacket cfg.useInterleaving := len_le_sizeInPacket _ c
  have hlm : c.len ≤ cfg.mtu.toNat := by
    have : (0 : Int) ≤ hdr := by decide +kernel
    omega
  have hwin' : (pre = [] ∧ s.rwnd.toNat < c.len) ∨ c.len ≤ (min32 s.cwnd s.rwnd).toNat := by
    rw [min32_toNat]
    rcases hwin with h | h
    · by_cases hr : s.rwnd.toNat < c.len
      · exact Or.inl ⟨h, hr⟩
      · right; omega
    · exact Or.inr h
  obtain ⟨tl, htl⟩ := gatherRtx_lowest s orc hs pre c post hq hpre hcf hnab hwin' (by rw [hcfg]; exact hfit) (by rw [hcfg]; exact hal)
  have hg : (gather s orc sel).2.rtx = bundle s.cfg.mtu s.cfg.useInterleaving (gatherRtx s orc).2.1 [] hdr := by
    unfold gather
    simp only [hest, Bool.not_true, Bool.false_eq_true, if_false]
  rw [hg, htl, hcfg]
  exact bundle_head cfg.mtu cfg.useInterleaving (rtxUpd s c) tl (by rw [sip_congr _ _ _ (show (rtxUpd s c).len = c.len from rfl)]; exact hfit)

/-- non-vacuity of (1): after T3 (cwnd back to one MTU) and a SACK that closes the peer window (a_rwnd = 0), the earliest
outstanding chunk is retransmitted all the same -/
example :
    let s := run (init { mtu := 1200, maxPayload := 1172 } 100 65536)
      [.openS 1 false 0 0 0, .write 1 53 3000, .gather freeOracle [0, 0, 0], .t3, .sack 99 0 [] []]
    (s.rwnd, s.cwnd, s.inflight.map (·.retransmit), (gather s freeOracle []).2.rtx.map (fun p => p.map (fun c => (c.tsn, c.nSent)))) =
      (0#32, 1200#32, [true, true, true], [[(100#32, 2#32)]]) := by decide +kernel

/-- **Witness against the literal statement.** TSN 100 belongs to an abandoned message (stream 2, no retransmission), TSN 101
is reliable and flagged by T3, the peer window is closed: the retransmission gather sends NOTHING (101 is not at loop index
0), but the same gather emits the FORWARD-TSN for 100; once the peer has answered it (cumulative TSN 100) the flagged chunk
is the earliest outstanding one and goes out as the probe. -/
theorem C02_rtx_lowest_not_first_witness :
    let s := run (init { mtu := 1200, maxPayload := 1172 } 100 65536)
      [.openS 1 false 0 0 0, .openS 2 false 1 0 0, .write 2 53 10, .write 1 53 30, .gather freeOracle [0, 0], .t3, .sack 99 0 [] []]
    s.inflight.map (fun c => (c.tsn, c.retransmit, s.abandoned c)) = [(100#32, false, true), (101#32, true, false)] ∧ s.rwnd = 0#32 ∧
    (gather s freeOracle []).2.rtx = [] ∧ ((gather s freeOracle []).2.fwd == some (.fwd 100 [(2, 0)])) = true ∧
    (gather (sack (gather s freeOracle []).1 100 0 [] []).1 freeOracle []).2.rtx.map (fun p => p.map (fun c => (c.tsn, c.nSent))) = [[(101#32, 2#32)]] := by
  decide +kernel

/-- **The zero-window probe.** In every reachable established state with nothing in flight and a non-empty pending queue, a
gather admits at least one chunk — whatever cwnd and rwnd are — provided `peek` hands out a chunk (`sel` starts with a valid
index `i`) and the burst budget allows a first chunk. If the chunk does not pass the window tests of the code (in
particular for EVERY rwnd smaller than the chunk, 0 included: `dataLen > a.RWND()`), exactly that one chunk goes out, flagged
as the probe. -/
theorem C02_probe_when_blocked (cfg : Cfg) (tsn peerRwnd : BitVec 32) (hc : CfgOk cfg) (hf : CfgFit cfg) (ops : List Op)
    (orc : Oracle) (i : Nat) (rest : List Nat)
    (hest : (run (init cfg tsn peerRwnd) ops).established = true) (hin : (run (init cfg tsn peerRwnd) ops).inflight = [])
    (hi : i < (run (init cfg tsn peerRwnd) ops).pending.length)
    (hal : (orc.allow orc.b (((run (init cfg tsn peerRwnd) ops).pending[i]).sizeInPacket cfg.useInterleaving + hdr)).1 = true) :
    (gather (run (init cfg tsn peerRwnd) ops) orc (i :: rest)).2.admits ≠ [] ∧
    (gather (run (init cfg tsn peerRwnd) ops) orc (i :: rest)).1.pending.length < (run (init cfg tsn peerRwnd) ops).pending.length ∧
    ((run (init cfg tsn peerRwnd) ops).rwnd.toNat < ((run (init cfg tsn peerRwnd) ops).pending[i]).len →
      ∃ x, (gather (run (init cfg tsn peerRwnd) ops) orc (i :: rest)).2.admits = [x] ∧ x.probe = true ∧
        x.chunk.tsn = (run (init cfg tsn peerRwnd) ops).myNextTSN ∧ x.chunk.len = ((run (init cfg tsn peerRwnd) ops).pending[i]).len) := by
  have hcore := run_core _ ops (init_books cfg tsn peerRwnd).core (init_win cfg tsn peerRwnd hc)
  have hfit := run_pendfit _ ops (init_win cfg tsn peerRwnd hc) hf (init_pendfit cfg tsn peerRwnd)
  have hcfg : (run (init cfg tsn peerRwnd) ops).cfg = cfg := run_cfg _ ops hc
  generalize run (init cfg tsn peerRwnd) ops = s at *
  have l1 := (hcore.penSmall _ (List.getElem_mem hi)).1
  obtain ⟨g1, g2, g3⟩ := gather_progress_at s orc i rest hcore hfit hest hin hi (by rw [hcfg]; exact hal)
  refine ⟨g2, g1, ?_⟩
  intro hr
  have hex : popPending_exceedsRwnd (BitVec.ofNat 32 s.pending[i].len) s.rwnd = true := by
    simp only [popPending_exceedsRwnd, decide_eq_true_eq, gt_iff_lt, BitVec.lt_def, BitVec.toNat_ofNat]
    rw [Nat.mod_eq_of_lt l1]; exact hr
  refine ⟨_, g3 (Or.inr hex), rfl, ?_, ?_⟩
  · simp [mkAdmit, admitProbe, move, popPend, chargeProbe]
  · simp [mkAdmit, admitProbe, move, popPend, chargeProbe]

/-- non-vacuity: a_rwnd = 300 from the handshake, a 1168-byte fragment at the head of the queue (0 < rwnd < chunk): it goes
out as the probe; with a_rwnd = 0 likewise -/
example :
    let s := run (init { mtu := 1200, maxPayload := 1168 } 100 300) [.openS 1 false 0 0 0, .write 1 53 2000]
    let s0 := run (init { mtu := 1200, maxPayload := 1168 } 100 0) [.openS 1 false 0 0 0, .write 1 53 2000]
    CfgFit { mtu := 1200, maxPayload := 1168 } ∧
    (gather s freeOracle [0, 0]).2.admits.map (fun x => (x.probe, x.chunk.tsn, x.chunk.len)) = [(true, 100#32, 1168)] ∧
    (gather s0 freeOracle [0, 0]).2.admits.map (fun x => (x.probe, x.chunk.tsn, x.chunk.len)) = [(true, 100#32, 1168)] := by
  refine ⟨by unfold CfgFit; decide +kernel, by decide +kernel, by decide +kernel⟩

/-- **A cumulative SACK makes progress.** In every reachable established state, a SACK that passes the validation and whose
cumulative TSN is ahead of the cumulative ack point (it covers at least the lowest outstanding chunk) is accepted, removes
`k ≥ 1` chunks from the front of the in-flight queue, moves the cumulative ack point by `k` and lowers the byte counter of
the in-flight queue by at least the bytes those chunks held. And whenever both queues are empty the association's
`BufferedAmount()` is zero and (under the D9 premise `RunOk` of C15) so is every stream's. -/
theorem C02_ack_progress (cfg : Cfg) (tsn peerRwnd : BitVec 32) (hc : CfgOk cfg) (ops : List Op) (hok : TsnOk (init cfg tsn peerRwnd) ops) :
    (∀ cum arwnd gaps marks, (run (init cfg tsn peerRwnd) ops).established = true →
      sna32LT (run (init cfg tsn peerRwnd) ops).cumAck cum = true → validate (run (init cfg tsn peerRwnd) ops) cum gaps = true →
      (sack (run (init cfg tsn peerRwnd) ops) cum arwnd gaps marks).2 = .ok ∧
      ∃ k, 1 ≤ k ∧
        (sack (run (init cfg tsn peerRwnd) ops) cum arwnd gaps marks).1.inflight.length + k = (run (init cfg tsn peerRwnd) ops).inflight.length ∧
        (sack (run (init cfg tsn peerRwnd) ops) cum arwnd gaps marks).1.cumAck = (run (init cfg tsn peerRwnd) ops).cumAck + BitVec.ofNat 32 k ∧
        (sack (run (init cfg tsn peerRwnd) ops) cum arwnd gaps marks).1.infBytes + (sumLen ((run (init cfg tsn peerRwnd) ops).inflight.take k) : Int) ≤
          (run (init cfg tsn peerRwnd) ops).infBytes) ∧
    ((run (init cfg tsn peerRwnd) ops).inflight = [] → (run (init cfg tsn peerRwnd) ops).pending = [] →
      (run (init cfg tsn peerRwnd) ops).penBytes + (run (init cfg tsn peerRwnd) ops).infBytes = 0 ∧
      (RunOk (init cfg tsn peerRwnd) ops → (run (init cfg tsn peerRwnd) ops).wrapBuf = false → ∀ si, bufOf (run (init cfg tsn peerRwnd) ops) si = 0)) := by
  have hs := run_seq _ ops (init_seq cfg tsn peerRwnd) (init_win cfg tsn peerRwnd hc)
  have hwi := (run_win _ ops (init_win cfg tsn peerRwnd hc)).1
  have hcore := run_core _ ops (init_books cfg tsn peerRwnd).core (init_win cfg tsn peerRwnd hc)
  refine ⟨fun cum arwnd gaps marks he hlt hv => sack_ack_progress _ cum arwnd gaps marks hs hok.last hwi.cfgOk hcore he hlt hv, ?_⟩
  intro h1 h2
  refine ⟨hcore.drained h1 h2, ?_⟩
  intro hrun hwb si
  have hb := (run_books _ ops (fun _ => init_books cfg tsn peerRwnd) (init_win cfg tsn peerRwnd hc) hrun).1 hwb
  rw [hb.streams si, outstanding, h1, h2]
  simp [bytesOf]

/-- non-vacuity: three chunks in flight; a SACK for the first two (and a gap block for the third): two chunks leave the
queue, 2344 bytes leave the counter with them (and the gap-acked chunk releases its 656) -/
example :
    let ops := [Op.openS 1 false 0 0 0, .write 1 53 3000, .gather freeOracle [0, 0, 0]]
    let s := run (init { mtu := 1200, maxPayload := 1172 } 100 65536) ops
    TsnOk (init { mtu := 1200, maxPayload := 1172 } 100 65536) ops ∧ sna32LT s.cumAck 101 = true ∧ validate s 101 [(1, 1)] = true ∧
    (s.infBytes, (sack s 101 65536 [(1, 1)] []).1.infBytes, (sack s 101 65536 [(1, 1)] []).1.inflight.length) = (3000, 0, 1) := by decide +kernel

/-- the schedule of the drain theorems: `n` rounds of "gather (free burst budget, `pick` = what `peek` returns), then a SACK
that acknowledges everything in flight and advertises `arwnd`" as a list of model operations -/
abbrev drain (pick : St → List Nat) (arwnd : BitVec 32) (n : Nat) (s : St) : List Op := drainOps pick arwnd n s

private theorem drained (cfg : Cfg) (tsn peerRwnd : BitVec 32) (hc : CfgOk cfg) (hf : CfgFit cfg) (ops : List Op)
    (pick : St → List Nat) (hp : PickOk pick) (arwnd : BitVec 32) (n : Nat)
    (hest : (run (init cfg tsn peerRwnd) ops).established = true)
    (hsm : (run (init cfg tsn peerRwnd) ops).inflight.length + (run (init cfg tsn peerRwnd) ops).pending.length < 2^31)
    (hn : (run (init cfg tsn peerRwnd) ops).pending.length + 1 ≤ n) :
    (run (init cfg tsn peerRwnd) (ops ++ drain pick arwnd n (run (init cfg tsn peerRwnd) ops))).inflight = [] ∧
    (run (init cfg tsn peerRwnd) (ops ++ drain pick arwnd n (run (init cfg tsn peerRwnd) ops))).pending = [] ∧
    (run (init cfg tsn peerRwnd) (ops ++ drain pick arwnd n (run (init cfg tsn peerRwnd) ops))).penBytes +
      (run (init cfg tsn peerRwnd) (ops ++ drain pick arwnd n (run (init cfg tsn peerRwnd) ops))).infBytes = 0 ∧
    (RunOk (init cfg tsn peerRwnd) ops →
      (run (init cfg tsn peerRwnd) (ops ++ drain pick arwnd n (run (init cfg tsn peerRwnd) ops))).wrapBuf = false →
      ∀ si, bufOf (run (init cfg tsn peerRwnd) (ops ++ drain pick arwnd n (run (init cfg tsn peerRwnd) ops))) si = 0) := by
  have hl := run_live cfg tsn peerRwnd hc hf ops hest hsm
  obtain ⟨d1, d2, d3⟩ := rounds_drain pick arwnd hp n _ hl hn
  have hrun : run (init cfg tsn peerRwnd) (ops ++ drain pick arwnd n (run (init cfg tsn peerRwnd) ops)) =
      rounds pick arwnd n (run (init cfg tsn peerRwnd) ops) := by
    rw [run_append]; exact run_drainOps pick arwnd n _
  refine ⟨by rw [hrun]; exact d2, by rw [hrun]; exact d3, by rw [hrun]; exact d1.core.drained d2 d3, ?_⟩
  intro hok hwb si
  have hok' : RunOk (init cfg tsn peerRwnd) (ops ++ drain pick arwnd n (run (init cfg tsn peerRwnd) ops)) :=
    runOk_append hok (runOk_drainOps pick arwnd n _)
  have hb := (run_books _ _ (fun _ => init_books cfg tsn peerRwnd) (init_win cfg tsn peerRwnd hc) hok').1 hwb
  rw [hb.streams si, outstanding, hrun, d2, d3]
  simp [bytesOf]

/-- **Fault-free drain** — for ALL message counts and sizes, indeed after ANY operation list `ops` (in particular `open`
followed by any number of writes of any sizes): if the association is established and fewer than 2^31 chunks are queued,
then `n ≥ pending chunks + 1` rounds of "gather; SACK acknowledging everything in flight" (whatever window `arwnd` that
SACK advertises — 0 included — and whatever chunk `peek` picks) leave both queues empty, `Association.BufferedAmount()` = 0
and (under C15's D9 premise) every stream's buffered amount 0. `pending chunks ≤ pending bytes`, so `pending bytes + 1`
rounds always suffice. -/
theorem C02_drains_fault_free (cfg : Cfg) (tsn peerRwnd : BitVec 32) (hc : CfgOk cfg) (hf : CfgFit cfg) (ops : List Op)
    (pick : St → List Nat) (hp : PickOk pick) (arwnd : BitVec 32) (n : Nat)
    (hest : (run (init cfg tsn peerRwnd) ops).established = true)
    (hsm : (run (init cfg tsn peerRwnd) ops).inflight.length + (run (init cfg tsn peerRwnd) ops).pending.length < 2^31)
    (hn : (run (init cfg tsn peerRwnd) ops).pending.length + 1 ≤ n) :
    ((run (init cfg tsn peerRwnd) (ops ++ drain pick arwnd n (run (init cfg tsn peerRwnd) ops))).inflight = [] ∧
     (run (init cfg tsn peerRwnd) (ops ++ drain pick arwnd n (run (init cfg tsn peerRwnd) ops))).pending = [] ∧
     (run (init cfg tsn peerRwnd) (ops ++ drain pick arwnd n (run (init cfg tsn peerRwnd) ops))).penBytes +
       (run (init cfg tsn peerRwnd) (ops ++ drain pick arwnd n (run (init cfg tsn peerRwnd) ops))).infBytes = 0 ∧
     (RunOk (init cfg tsn peerRwnd) ops →
       (run (init cfg tsn peerRwnd) (ops ++ drain pick arwnd n (run (init cfg tsn peerRwnd) ops))).wrapBuf = false →
       ∀ si, bufOf (run (init cfg tsn peerRwnd) (ops ++ drain pick arwnd n (run (init cfg tsn peerRwnd) ops))) si = 0)) ∧
    ((run (init cfg tsn peerRwnd) ops).pending.length : Int) ≤ (run (init cfg tsn peerRwnd) ops).penBytes := by
  refine ⟨drained cfg tsn peerRwnd hc hf ops pick hp arwnd n hest hsm hn, ?_⟩
  have hl := run_live cfg tsn peerRwnd hc hf ops hest hsm
  rw [hl.core.pen]
  exact Int.ofNat_le.mpr (pending_le_bytes _ hl.fit)

/-- non-vacuity: three messages (3000, 1, 2500 bytes = 7 chunks) written into a CLOSED peer window (a_rwnd = 0 from the
handshake and in every SACK): 8 rounds drain them, one probe per round (`pickHead_ok`: "the oldest chunk" is a valid `peek`) -/
example :
    let cfg : Cfg := { mtu := 1200, maxPayload := 1172 }
    let ops := [Op.openS 1 false 0 0 0, .write 1 53 3000, .write 1 53 1, .write 1 53 2500]
    let s := run (init cfg 100 0) ops
    let fin := run (init cfg 100 0) (ops ++ drain (fun s => List.replicate s.pending.length 0) 0 8 s)
    (s.pending.length, s.penBytes, fin.pending.length, fin.inflight.length, fin.penBytes + fin.infBytes, bufOf fin 1, fin.cumAck) =
      (7, 5501, 0, 0, 0, 0, 106#32) := by decide +kernel

/-- **No reachable state is a dead end** (recovery after a blackout). From ANY reachable established state — whatever loss,
duplication, reordering of SACKs, zero-window episodes, congestion collapse and T3 expiries produced it — the schedule
"T3 expires; then rounds of gather + full cumulative SACK" drains everything within `pending chunks + 1` rounds. -/
theorem C02_recovers_after_blackout (cfg : Cfg) (tsn peerRwnd : BitVec 32) (hc : CfgOk cfg) (hf : CfgFit cfg) (ops : List Op)
    (pick : St → List Nat) (hp : PickOk pick) (arwnd : BitVec 32) (n : Nat)
    (hest : (run (init cfg tsn peerRwnd) ops).established = true)
    (hsm : (run (init cfg tsn peerRwnd) ops).inflight.length + (run (init cfg tsn peerRwnd) ops).pending.length < 2^31)
    (hn : (run (init cfg tsn peerRwnd) ops).pending.length + 1 ≤ n) :
    (run (init cfg tsn peerRwnd) (ops ++ .t3 :: drain pick arwnd n (t3 (run (init cfg tsn peerRwnd) ops)))).inflight = [] ∧
    (run (init cfg tsn peerRwnd) (ops ++ .t3 :: drain pick arwnd n (t3 (run (init cfg tsn peerRwnd) ops)))).pending = [] ∧
    (run (init cfg tsn peerRwnd) (ops ++ .t3 :: drain pick arwnd n (t3 (run (init cfg tsn peerRwnd) ops)))).penBytes +
      (run (init cfg tsn peerRwnd) (ops ++ .t3 :: drain pick arwnd n (t3 (run (init cfg tsn peerRwnd) ops)))).infBytes = 0 := by
  have hl := live_t3 (run_live cfg tsn peerRwnd hc hf ops hest hsm)
  have hpe : (t3 (run (init cfg tsn peerRwnd) ops)).pending = (run (init cfg tsn peerRwnd) ops).pending := (t3_ident _).2.1
  obtain ⟨d1, d2, d3⟩ := rounds_drain pick arwnd hp n _ hl (by rw [hpe]; exact hn)
  have hrun : run (init cfg tsn peerRwnd) (ops ++ .t3 :: drain pick arwnd n (t3 (run (init cfg tsn peerRwnd) ops))) =
      rounds pick arwnd n (t3 (run (init cfg tsn peerRwnd) ops)) := by
    rw [run_append]
    show run (t3 (run (init cfg tsn peerRwnd) ops)) _ = _
    exact run_drainOps pick arwnd n _
  exact ⟨by rw [hrun]; exact d2, by rw [hrun]; exact d3, by rw [hrun]; exact d1.core.drained d2 d3⟩

/-- non-vacuity: 5000 bytes written, three chunks sent (initial cwnd), the third gap-acked three times, two T3 expiries (cwnd
collapsed to one MTU), peer window closed by the last SACK, 2000 more bytes written: 3 chunks in flight, 4 pending; T3 and
`pending + 1 = 5` rounds later nothing is left -/
example :
    let cfg : Cfg := { mtu := 1200, maxPayload := 1172 }
    let ops := [Op.openS 1 false 0 0 0, .write 1 53 5000, .gather freeOracle [0, 0, 0, 0, 0],
      .sack 99 65536 [(3, 3)] [], .sack 99 65536 [(3, 3)] [], .sack 99 65536 [(3, 3)] [], .t3, .t3, .sack 99 0 [] [], .write 1 53 2000]
    let s := run (init cfg 100 65536) ops
    let fin := run (init cfg 100 65536) (ops ++ .t3 :: drain (fun s => List.replicate s.pending.length 0) 65536 5 (t3 s))
    (s.inflight.length, s.pending.length, s.cwnd, s.rwnd) = (3, 4, 1200#32, 0#32) ∧
    (fin.inflight.length, fin.pending.length, fin.penBytes + fin.infBytes, bufOf fin 1) = (0, 0, 0, 0) := by decide +kernel

/-- **Recovery against a forgetful peer** — the drain argument with a peer's answer that is *earned*. Schedule of one round
(`recoverOps`): a T3 expiry; one gather; a SACK whose cumulative TSN covers exactly the longest prefix of the in-flight queue
the peer can have: chunks it had gap-acked before, chunks the FORWARD-TSN of this gather tells it to skip, chunks this gather
put on the wire (`reach` / `faithfulCum`) — a peer that keeps NOTHING else beyond its cumulative point, so whatever was sent
above a hole is lost again and must be retransmitted. From ANY reachable established state (partial reliability negotiated,
`TsnOk`), for any window the SACKs advertise (0 included) and any `peek` choice, `n ≥ in-flight + pending chunks` such rounds
leave both queues empty and `BufferedAmount()` = 0. Every round makes progress because: T3 flags the earliest outstanding
chunk unless it is acked or abandoned (`C02_t3_marks_all`); flagged, it is retransmitted whatever the windows are
(`C02_rtx_progress_partial`, cwnd ≥ MTU right after T3); abandoned, the FORWARD-TSN that skips it is sent again after every
T3 (`C07_skip_maximal`, `C07_forward_flag`); with nothing in flight the probe goes out (`C02_probe_when_blocked`); and the
SACK pops what it covers (`C02_ack_progress`). -/
theorem C02_recovers_faithful (cfg : Cfg) (tsn peerRwnd : BitVec 32) (hc : CfgOk cfg) (hf : CfgFit cfg) (hpr : cfg.prEnabled = true)
    (ops : List Op) (hok : TsnOk (init cfg tsn peerRwnd) ops) (pick : St → List Nat) (hp : PickOk pick) (arwnd : BitVec 32) (n : Nat)
    (hest : (run (init cfg tsn peerRwnd) ops).established = true)
    (hsm : (run (init cfg tsn peerRwnd) ops).inflight.length + (run (init cfg tsn peerRwnd) ops).pending.length < 2^31)
    (hn : (run (init cfg tsn peerRwnd) ops).inflight.length + (run (init cfg tsn peerRwnd) ops).pending.length ≤ n) :
    (run (init cfg tsn peerRwnd) (ops ++ recoverOps pick arwnd n (run (init cfg tsn peerRwnd) ops))).inflight = [] ∧
    (run (init cfg tsn peerRwnd) (ops ++ recoverOps pick arwnd n (run (init cfg tsn peerRwnd) ops))).pending = [] ∧
    (run (init cfg tsn peerRwnd) (ops ++ recoverOps pick arwnd n (run (init cfg tsn peerRwnd) ops))).penBytes +
      (run (init cfg tsn peerRwnd) (ops ++ recoverOps pick arwnd n (run (init cfg tsn peerRwnd) ops))).infBytes = 0 := by
  obtain ⟨d1, d2, d3⟩ := roundsF_drain pick arwnd hp n _ (run_rec cfg tsn peerRwnd hc hf hpr ops hok hest hsm) hn
  have hrun : run (init cfg tsn peerRwnd) (ops ++ recoverOps pick arwnd n (run (init cfg tsn peerRwnd) ops)) =
      roundsF pick arwnd n (run (init cfg tsn peerRwnd) ops) := by
    rw [run_append]; exact run_recoverOps pick arwnd n _
  exact ⟨by rw [hrun]; exact d2, by rw [hrun]; exact d3, by rw [hrun]; exact d1.live.core.drained d2 d3⟩

/-- non-vacuity: an abandoned message (TSN 100), three reliable chunks (101..103) of which the last was gap-acked, one more
message pending, peer window closed; nothing else ever reached the peer. Round 1: only the FORWARD-TSN for 100 (101 is flagged
but not at loop index 0 and the window is closed) → cumulative TSN 100; round 2: 101 goes out as the probe → 101; round 3: 102
retransmitted, 103 was gap-acked → 103; round 4: the pending chunk → 104. `in-flight + pending = 5` rounds are allowed. -/
example :
    let cfg : Cfg := { mtu := 1200, maxPayload := 1172 }
    let ops := [Op.openS 1 false 0 0 0, .openS 2 false 1 0 0, .write 2 53 10, .write 1 53 3000, .gather freeOracle [0, 0, 0, 0],
      .sack 99 0 [(4, 4)] [], .write 1 53 50]
    let s := run (init cfg 100 65536) ops
    let pick := fun (s : St) => List.replicate s.pending.length 0
    TsnOk (init cfg 100 65536) ops ∧ (s.inflight.length, s.pending.length, s.rwnd) = (4, 1, 0#32) ∧
    (roundsF pick 0 1 s).cumAck = 100#32 ∧ (roundsF pick 0 2 s).cumAck = 101#32 ∧ (roundsF pick 0 3 s).cumAck = 103#32 ∧
    (roundsF pick 0 4 s).cumAck = 104#32 ∧
    ((run (init cfg 100 65536) (ops ++ recoverOps pick 0 5 s)).inflight.length,
     (run (init cfg 100 65536) (ops ++ recoverOps pick 0 5 s)).pending.length) = (0, 0) := by decide +kernel

end C02
