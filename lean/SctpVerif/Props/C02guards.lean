import SctpVerif.Gen.Facts
import SctpVerif.Gen.Consts
/-!
# C02 — facts of the code the "no permanent stall" argument rests on, pinned

Regenerated from /repo on every run (`Gen.rtxTimerSites`: the retry budget each retransmission timer is created with).
-/
namespace C02

/-- **T3-rtx never gives up**: the data retransmission timer is created without a retry limit (`noMaxRetrans = 0`), so the
T3 expiries that `C02_t3_marks_all` / `C02_recovers_after_blackout` quantify over keep coming for as long as data is outstanding. -/
theorem C02_t3_never_gives_up :
    ("timerT3RTX", "noMaxRetrans") ∈ Gen.rtxTimerSites ∧ Gen.noMaxRetrans = 0 := by decide +kernel

end C02
