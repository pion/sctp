import SctpVerif.Proofs.Codec
/-!
# C13 — checksum rules (packet-level decision logic)

Property theorems only, about the L0 model of `packet.unmarshal` / `packet.marshal` and of the two
association wrappers that choose the flag (`unmarshalPacket`: `doChecksum = !recvZeroChecksum`,
`marshalPacket`: `doChecksum = !sendZeroChecksum || chunkMandatoryChecksum`). The CRC is
UNINTERPRETED: every theorem holds for any function `crc : Bytes → BitVec 32`.

* `field raw`     — the 32-bit little-endian checksum field, bytes 8..11
* `cksum crc raw` — `generatePacketChecksum`: `crc` of the packet with that field taken as zero
* `decAfter raw`  — everything `packet.unmarshal` does after the checksum stage (independent of the
  flag and of `crc`)

Not here (association level, other components): that `sendZeroChecksum` is only set after the peer
advertised acceptance with the DTLS method, that `recvZeroChecksum` is the configured constant, and
that a rejected packet leaves the association state untouched beyond `unmarshal` returning an error.
-/
namespace C13
open Codec

/-- INBOUND, the exact rule as a case equation. A packet of at least 12 bytes passes the checksum
stage iff its field equals the CRC, or the field is zero and the caller did not ask for
verification and the packet does not start (within its first chunk header) with INIT or
COOKIE-ECHO. If it passes, the result is `decAfter raw`, which mentions neither the flag nor the CRC;
if it does not, the result is the checksum error: nothing is decoded. -/
theorem C13_inbound_accept_iff (crc : Bytes → BitVec 32) (doChecksum : Bool) (raw : Bytes) (h : 12 ≤ raw.length) :
    ((field raw = cksum crc raw ∨ (field raw = 0#32 ∧ doChecksum = false ∧ firstIsInitOrCookieEcho raw = false))
        → decWith crc doChecksum raw = decAfter raw) ∧
    (¬ (field raw = cksum crc raw ∨ (field raw = 0#32 ∧ doChecksum = false ∧ firstIsInitOrCookieEcho raw = false))
        → decWith crc doChecksum raw = .err .ErrChecksumMismatch) := by
  rw [decWith_eq crc doChecksum raw h]
  constructor
  · intro ha; exact if_pos (show accept crc doChecksum raw from ha)
  · intro ha; exact if_neg (show ¬ accept crc doChecksum raw from ha)

/-- a packet shorter than the common header is rejected before any checksum is looked at -/
theorem C13_inbound_short (crc : Bytes → BitVec 32) (doChecksum : Bool) (raw : Bytes) (h : raw.length < 12) :
    decWith crc doChecksum raw = .err .ErrPacketRawTooSmall := by
  unfold decWith
  rw [if_pos (by rw [c_packetHeaderSize]; exact h)]

/-- a non-zero wrong checksum is never accepted, whatever the flag -/
theorem C13_inbound_wrong_rejected (crc : Bytes → BitVec 32) (doChecksum : Bool) (raw : Bytes) (h : 12 ≤ raw.length)
    (hne : field raw ≠ 0#32) (hwrong : field raw ≠ cksum crc raw) :
    decWith crc doChecksum raw = .err .ErrChecksumMismatch :=
  (C13_inbound_accept_iff crc doChecksum raw h).2 (by rintro (h1 | ⟨h1, _⟩) <;> contradiction)

/-- a zero checksum (that is not the correct CRC) is accepted only through
`Association.unmarshalPacket` of an endpoint with `recvZeroChecksum = true` … -/
theorem C13_inbound_zero_needs_option (crc : Bytes → BitVec 32) (raw : Bytes) (h : 12 ≤ raw.length)
    (hz : field raw = 0#32) (hwrong : cksum crc raw ≠ 0#32) :
    unmarshalPacketWith crc false raw = .err .ErrChecksumMismatch := by
  unfold unmarshalPacketWith
  refine (C13_inbound_accept_iff crc (!false) raw h).2 ?_
  rintro (h1 | ⟨_, h2, _⟩)
  · rw [hz] at h1; exact hwrong h1.symm
  · simp at h2

/-- … and never for a packet whose first byte after the common header is INIT or COOKIE-ECHO:
such a packet with a zero (incorrect) checksum is rejected for every flag value. -/
theorem C13_inbound_zero_never_for_init (crc : Bytes → BitVec 32) (doChecksum : Bool) (raw : Bytes)
    (h : 12 < raw.length) (hz : field raw = 0#32) (hwrong : cksum crc raw ≠ 0#32)
    (hfirst : g8 raw 12 = ctInit ∨ g8 raw 12 = ctCookieEcho) :
    ∃ e, decWith crc doChecksum raw = .err e := by
  by_cases h16 : 16 ≤ raw.length
  · refine ⟨_, (C13_inbound_accept_iff crc doChecksum raw (by omega)).2 ?_⟩
    rintro (h1 | ⟨_, _, h3⟩)
    · rw [hz] at h1; exact hwrong h1.symm
    · have : firstIsInitOrCookieEcho raw = true := by
        unfold firstIsInitOrCookieEcho
        rcases hfirst with hf | hf <;> simp [hf, h16]
      rw [this] at h3; cases h3
  · rw [decWith_eq crc doChecksum raw (by omega)]
    split
    · exact ⟨_, decAfter_short raw h (by omega)⟩
    · exact ⟨_, rfl⟩

/-- OUTBOUND: `packet.marshal(doChecksum)` writes the correct CRC when asked and leaves the field zero
otherwise. -/
theorem C13_marshal_field (crc : Bytes → BitVec 32) (doChecksum : Bool) (p : Packet) (raw : Bytes)
    (h : encWith crc doChecksum p = .ok raw) :
    field raw = if doChecksum then cksum crc raw else 0#32 :=
  (encWith_field crc doChecksum p raw h).2

/-- OUTBOUND rule of `Association.marshalPacket`: the emitted field is the correct CRC, or it is zero
and `sendZeroChecksum` is set and the packet carries no INIT / COOKIE-ECHO chunk. -/
theorem C13_outbound_rule (crc : Bytes → BitVec 32) (sendZeroChecksum : Bool) (p : Packet) (raw : Bytes)
    (h : marshalPacketWith crc sendZeroChecksum p = .ok raw) :
    field raw = cksum crc raw ∨
      (field raw = 0#32 ∧ sendZeroChecksum = true ∧ chunkMandatoryChecksum p.chunks = false) := by
  unfold marshalPacketWith at h
  have := (encWith_field crc _ p raw h).2
  cases hs : sendZeroChecksum <;> cases hm : chunkMandatoryChecksum p.chunks <;> simp [hs, hm] at this <;> simp [this]

/-- in particular a packet with an INIT or COOKIE-ECHO chunk, and every packet of an endpoint whose
peer did not advertise acceptance, carries the correct CRC -/
theorem C13_outbound_mandatory (crc : Bytes → BitVec 32) (sendZeroChecksum : Bool) (p : Packet) (raw : Bytes)
    (h : marshalPacketWith crc sendZeroChecksum p = .ok raw)
    (hm : sendZeroChecksum = false ∨ chunkMandatoryChecksum p.chunks = true) :
    field raw = cksum crc raw := by
  rcases C13_outbound_rule crc sendZeroChecksum p raw h with h1 | ⟨_, h2, h3⟩
  · exact h1
  · rcases hm with hm | hm
    · rw [hm] at h2; cases h2
    · rw [hm] at h3; cases h3

/-- what is emitted with a correct CRC is accepted by every receiver configuration (for well-formed
packets this is `C12_roundtrip_packet`; here only the checksum stage, for any packet) -/
theorem C13_emitted_crc_accepted (crc : Bytes → BitVec 32) (p : Packet) (raw : Bytes) (doChecksum : Bool)
    (h : encWith crc true p = .ok raw) : decWith crc doChecksum raw = decAfter raw := by
  obtain ⟨hl, hf⟩ := encWith_field crc true p raw h
  exact (C13_inbound_accept_iff crc doChecksum raw hl).1 (Or.inl (by simpa using hf))

/-! non-vacuity: the hypotheses are satisfiable and both outcomes of the rule occur (`crc := fun _ => 7`) -/
example : ∃ raw : Bytes, 12 ≤ raw.length ∧ field raw = 0#32 ∧ cksum (fun _ => 7#32) raw ≠ 0#32 ∧
    firstIsInitOrCookieEcho raw = false ∧
    decWith (fun _ => 7#32) false raw = decAfter raw ∧ decWith (fun _ => 7#32) true raw = .err .ErrChecksumMismatch :=
  ⟨[0,0,0,0, 0,0,0,0, 0,0,0,0, 11,0,0,4].map (BitVec.ofNat 8), by decide +kernel, by decide +kernel, by decide +kernel, by decide +kernel,
    by decide +kernel, by decide +kernel⟩
example : marshalPacketWith (fun _ => 7#32) true ⟨1, 2, 3, [.cookieAck 0 []]⟩ =
    .ok ([0,1, 0,2, 0,0,0,3, 0,0,0,0, 11,0,0,4].map (BitVec.ofNat 8)) := by decide +kernel
example : marshalPacketWith (fun _ => 7#32) true ⟨1, 2, 3, [.cookieEcho 0 []]⟩ =
    .ok ([0,1, 0,2, 0,0,0,3, 7,0,0,0, 10,0,0,4].map (BitVec.ofNat 8)) := by decide +kernel

end C13
