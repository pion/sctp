import SctpVerif.Proofs.Sna
import SctpVerif.Gen.Facts
/-!
# C16 — sequence-number wrap-around is invisible (algebra part)

Property theorems only. All are about the translator-generated definitions `Gen.sna32*`,
`Gen.sna16*`, so they are re-checked against util.go on every run.
`(b - a).toNat` is the modular distance from `a` forward to `b`.
-/
namespace C16
open Gen Sna

/-- before ⇔ forward distance strictly between 0 and half the space (32 bit). -/
theorem C16_lt32_iff (a b : BitVec 32) :
    sna32LT a b = true ↔ (0 < (b - a).toNat ∧ (b - a).toNat < 2^31) := lt32_iff a b

theorem C16_lt16_iff (a b : BitVec 16) :
    sna16LT a b = true ↔ (0 < (b - a).toNat ∧ (b - a).toNat < 2^15) := lt16_iff a b

/-- for two distinct values not exactly half the space apart exactly one of before / after holds. -/
theorem C16_trichotomy32 (a b : BitVec 32) (hne : a ≠ b) (hanti : (b - a).toNat ≠ 2^31) :
    (sna32LT a b = true ∧ sna32LT b a = false) ∨ (sna32LT a b = false ∧ sna32LT b a = true) := by
  simp only [← Bool.not_eq_true, lt32_iff]; bv_omega

theorem C16_trichotomy16 (a b : BitVec 16) (hne : a ≠ b) (hanti : (b - a).toNat ≠ 2^15) :
    (sna16LT a b = true ∧ sna16LT b a = false) ∨ (sna16LT a b = false ∧ sna16LT b a = true) := by
  simp only [← Bool.not_eq_true, lt16_iff]; bv_omega

/-- equal values: neither before nor after, and EQ/LTE/GTE hold. -/
theorem C16_refl32 (a : BitVec 32) :
    sna32LT a a = false ∧ sna32GT a a = false ∧ sna32LTE a a = true ∧ sna32GTE a a = true ∧ sna32EQ a a = true := by
  simp [sna32LT, sna32GT, sna32LTE, sna32GTE, sna32EQ]

theorem C16_refl16 (a : BitVec 16) :
    sna16LT a a = false ∧ sna16GT a a = false ∧ sna16LTE a a = true ∧ sna16GTE a a = true ∧ sna16EQ a a = true := by
  simp [sna16LT, sna16GT, sna16LTE, sna16GTE, sna16EQ]

/-- all five comparisons are unchanged when both operands are shifted by the same amount. -/
theorem C16_shift32 (a b k : BitVec 32) :
    sna32LT (a + k) (b + k) = sna32LT a b ∧ sna32LTE (a + k) (b + k) = sna32LTE a b ∧
    sna32GT (a + k) (b + k) = sna32GT a b ∧ sna32GTE (a + k) (b + k) = sna32GTE a b ∧
    sna32EQ (a + k) (b + k) = sna32EQ a b :=
  ⟨lt32_shift a b k, lte32_shift a b k, gt32_shift a b k, gte32_shift a b k, eq32_shift a b k⟩

theorem C16_shift16 (a b k : BitVec 16) :
    sna16LT (a + k) (b + k) = sna16LT a b ∧ sna16LTE (a + k) (b + k) = sna16LTE a b ∧
    sna16GT (a + k) (b + k) = sna16GT a b ∧ sna16GTE (a + k) (b + k) = sna16GTE a b ∧
    sna16EQ (a + k) (b + k) = sna16EQ a b := by
  refine ⟨?_, ?_, ?_, ?_, ?_⟩
  · rw [Bool.eq_iff_iff, lt16_iff, lt16_iff, sub_shift16]
  · rw [Bool.eq_iff_iff, lte16_iff, lte16_iff, sub_shift16]
  · rw [Bool.eq_iff_iff, gt16_iff, gt16_iff, sub_shift16]
  · rw [Bool.eq_iff_iff, gte16_iff, gte16_iff, sub_shift16]
  · rw [sna16EQ, sna16EQ, Bool.eq_iff_iff, beq_iff_eq, beq_iff_eq, BitVec.add_left_inj]

/-- after is the converse of before away from the antipode (where the code makes both GT hold). -/
theorem C16_gt_converse32 (a b : BitVec 32) (hanti : (b - a).toNat ≠ 2^31) :
    sna32GT a b = sna32LT b a := by
  rw [Bool.eq_iff_iff, gt32_iff, lt32_iff]; bv_omega

theorem C16_gt_converse16 (a b : BitVec 16) (hanti : (b - a).toNat ≠ 2^15) :
    sna16GT a b = sna16LT b a := by
  rw [Bool.eq_iff_iff, gt16_iff, lt16_iff]; bv_omega

/-- LTE is exactly "not after": the five predicates are one order. -/
theorem C16_lte_not_gt32 (a b : BitVec 32) :
    sna32LTE a b = !sna32GT a b := lte32_eq_not_gt32 a b

theorem C16_lte_not_gt16 (a b : BitVec 16) :
    sna16LTE a b = !sna16GT a b := lte16_eq_not_gt16 a b

/-- transitivity inside a half-space window. -/
theorem C16_trans32 (a b c : BitVec 32) (h1 : sna32LT a b = true) (h2 : sna32LT b c = true)
    (hw : (c - a).toNat < 2^31) : sna32LT a c = true := by
  rw [lt32_iff] at *; bv_omega

theorem C16_trans16 (a b c : BitVec 16) (h1 : sna16LT a b = true) (h2 : sna16LT b c = true)
    (hw : (c - a).toNat < 2^15) : sna16LT a c = true := by
  rw [lt16_iff] at *; bv_omega

/-- plain `<` implies the serial order when no wrap is involved (numerically less than 2^31 apart) … -/
theorem C16_nowrap32 (a b : BitVec 32) (h : b.toNat - a.toNat < 2^31) (hab : a.toNat < b.toNat) :
    sna32LT a b = true := by
  rw [lt32_iff]; bv_omega

/-- … and across the wrap: the successor of 2^32-1 is 0 and comes after it. -/
theorem C16_wrap_succ32 (a : BitVec 32) : sna32LT a (a + 1) = true ∧ sna32GT (a + 1) a = true := lt32_succ a

theorem C16_wrap_succ16 (a : BitVec 16) : sna16LT a (a + 1) = true ∧ sna16GT (a + 1) a = true := lt16_succ a

/-- Every ordered comparison of protocol sequence numbers in the code goes through the serial-number
helpers proved above: the translator lists every `< <= > >=` between uint16/uint32 operands named like
a sequence number outside util.go (regenerated from the source on every run); the list must be empty.
(On the pinned tree it was not: `a.peerLastTSN() < par.senderLastTSN`, fixed in /repo.) -/
theorem C16_all_compares_serial : Gen.rawSeqCompares = [] := by decide +kernel

-- tests by evaluation at the wrap itself: 2^32−1 is before 0, not after it
example : sna32LT 0xFFFFFFFF#32 0#32 = true ∧ sna32LT 0#32 0xFFFFFFFF#32 = false := by decide +kernel
example : sna16LT 0xFFFF#16 5#16 = true := by decide +kernel

end C16
