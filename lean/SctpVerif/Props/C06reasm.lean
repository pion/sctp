import SctpVerif.Proofs.ReasmUnordMid
import SctpVerif.Proofs.ReasmUnordMix
/-!
# C06, receive half at the reassembly queue — unordered messages: at most once, intact, never a fragment or a splice

Property theorems only, about the L0 model `Model/Reasm.lean` of `reassemblyQueue` (tied to reassembly_queue.go by the
correspondence run `TestVerifReasm`, job REASM of this property). Ordered traffic is `C01_reasm_ordered` /
`C07_reasm_skip_then_deliver`; here the UNORDERED class: DATA (`unorderedChunks` sorted by TSN,
`findCompleteUnorderedChunkSet` cuts out a B…E run of consecutive TSNs) and I-DATA (`unorderedMIDMap` keyed by MID,
FSN contiguity), complete messages waiting in `unordered` / `unorderedMID`, `read` serving them BEFORE ordered ones.

Vocabulary (`Proofs/ReasmOrd.lean`, `Proofs/ReasmUnord*.lean`):
* `Sender` = stream id, initial TSN `t0` (any value, the 2^32 wrap included), the messages written (`Msg` = PPI + the
  pieces `packetize` cut) and `skip k` = TSNs of other traffic before message `k`.
* `S.udataFrag σ k i`: unordered DATA fragment `i` of message `k`: U flag, TSN `t0 + base k + i` (consecutive inside a
  message), B on the first, E on the last, the PPI on every fragment; the SSN field is `σ k` (arbitrary, never read).
* `S.UWF`: messages well formed (1 … 2^31-1 fragments), `skip` monotone (the TSN ranges of the messages are disjoint, in
  message order, not necessarily adjacent) and the whole universe spans at most 2^31 TSNs — the hypothesis serial-number
  comparison of TSNs forces (there is no cursor an unordered window could be anchored at).
* `S.uidataFrag τ k i`: unordered I-DATA fragment: U flag, MID `k` (mod 2^32, unordered MID space), FSN `i`, B / E at the
  ends, the PPI on the first fragment only, TSN `τ k i` ARBITRARY. `S.UMWF`: messages well formed and at most 2^31 messages
  (one half-space window of MIDs). `S.usetFull τ k` = the complete set of message `k` as it waits in `unorderedMID`.
* `HOp`: `push k i` hands that fragment to `pushWithError`, `read n` calls `read` with an `n`-byte buffer.
* `S.AdmissibleU P ops`: indices valid and no fragment pushed twice (the association filters duplicate TSNs, C05).
  Arrival order, interleaving with reads, buffer sizes, loss (fragments never pushed) and `maxEntries` are arbitrary.
* `S.deliveries frag q ops`: `(PPI, bytes)` of every read that returned no error, in order; `finalQ frag q ops`: the queue
  after the run; `accepted frag q ops`: the fragments `pushWithError` took without an error (a queue with an entry limit
  refuses fragments with `errReassemblyQueueLimitExceeded` / `errReassemblyQueueMIDLimitExceeded`; a refused fragment is not in the queue, the association does not
  acknowledge it). `S.out k` = `(PPI, payload)` of message `k`; `S.uset σ k` = the complete set of message `k` as it
  waits in `unordered`.
* mixed classes (`Proofs/ReasmUnordMix.lean`): `MOp` = `pushO k i` (fragment of ordered message `k` of universe `SO`, as in
  C01) | `pushU k i` (fragment of unordered message `k` of universe `SU`, same stream id) | `read n`;
  `mixDeliveries` tags every successful read with the class that served it (`true`: a complete unordered message was
  waiting — `read` serves it first); `ordPart` / `unordPart` split the history by that tag; `AdmissibleM` = `Admissible`
  (window 2^15 relative to the number of ORDERED messages read) for `pushO` and `AdmissibleU` for `pushU`.
-/
namespace C06
open Reasm

/-- ✱ the characterisation behind "never a fragment, never a splice": whatever `findCompleteUnorderedChunkSet` cuts out
of a slice is a `BERun` (`Proofs/ReasmUnordScan.lean`: B first, E last and nowhere before, each TSN the previous + 1),
for ANY slice; and a `BERun` made of universe fragments — of whatever messages, adjacent TSN ranges included — is
exactly ALL fragments of ONE message. (`chunkSet.isComplete` alone would accept B…E B…E with consecutive TSNs.) -/
theorem C06_reasm_unordered_run_is_message (S : Sender) (hS : S.UWF) (σ : Nat → BitVec 16) :
    (∀ uc set rest, findCompleteUnorderedChunkSet uc = .found set rest →
      ∃ a b, uc = a ++ set.chunks ++ b ∧ rest = a ++ b ∧ BERun set.chunks) ∧
    (∀ uc, findCompleteUnorderedChunkSet uc ≠ .panic) ∧
    (∀ ps : List (Nat × Nat), (∀ p ∈ ps, S.Valid p) → BERun (ps.map (S.ufrag σ)) →
      ∃ k, k < S.msgs.length ∧ ps = msgIdx k (S.nf k)) := by
  refine ⟨?_, ?_, ?_⟩
  · intro uc set rest h
    rcases findCompleteUnordered_cases uc with ⟨hnf, _⟩ | ⟨a, r, b, c0, tl, huc, hrun, hr, hf⟩
    · rw [hnf] at h; cases h
    · rw [hf] at h; cases h
      exact ⟨a, b, huc, rfl, hrun⟩
  · intro uc h
    rcases findCompleteUnordered_cases uc with ⟨hnf, _⟩ | ⟨a, r, b, c0, tl, huc, hrun, hr, hf⟩
    · rw [hnf] at h; cases h
    · rw [hf] at h; cases h
  · intro ps hv h
    exact beRun_universe S hS σ h ps rfl hv

/-- ✱ unordered DATA. For ANY admissible run the successful reads are messages of the universe, each with its PPI and
its whole payload, each message AT MOST ONCE (`D.Nodup`; the order of `D` is not constrained), only messages all of
whose fragments were pushed; and every message whose fragments were all taken has been read or waits complete in
`unordered` — so nothing taken completely is ever lost, duplicated, truncated or merged. -/
theorem C06_reasm_unordered_data (S : Sender) (hS : S.UWF) (σ : Nat → BitVec 16) (maxEntries : BitVec 32)
    (ops : List HOp) (hadm : S.AdmissibleU [] ops) :
    ∃ D : List Nat, D.Nodup ∧ (∀ k ∈ D, k < S.msgs.length) ∧
      S.deliveries (S.udataFrag σ) (new S.si maxEntries) ops = D.map S.out ∧
      (∀ k ∈ D, ∀ i, i < S.nf k → HOp.push k i ∈ ops) ∧
      (∀ k, k < S.msgs.length →
        (∀ i, i < S.nf k → (k, i) ∈ accepted (S.udataFrag σ) (new S.si maxEntries) ops) →
        k ∈ D ∨ S.uset σ k ∈ (finalQ (S.udataFrag σ) (new S.si maxEntries) ops).unordered) := by
  obtain ⟨D, P, G, ⟨W, U, h, _⟩, hdel, hG, hP⟩ := UInv.run hS ops (UInv_new S hS σ maxEntries) rfl hadm
  simp only [List.nil_append] at h
  have hnd := h.nodup
  rw [List.nodup_append] at hnd
  refine ⟨D, hnd.1, fun k hk => h.dwlen k (by simp [hk]), hdel, ?_, ?_⟩
  · intro k hk i hi
    rcases hP _ (h.dwpush k (by simp [hk]) i hi) with hin | hin
    · simp at hin
    · exact hin
  · exact fun k hk hall => h.complete hk (fun j hj => (hG _).2 (.inr (hall j hj)))

/-- reliable unordered streams: when every fragment of every message has been taken and the reader has drained the
queue, the reads are the written messages EXACTLY once each (a permutation of the write history). -/
theorem C06_reasm_unordered_data_exactly_once (S : Sender) (hS : S.UWF) (σ : Nat → BitVec 16) (maxEntries : BitVec 32)
    (ops : List HOp) (hadm : S.AdmissibleU [] ops)
    (hall : ∀ k, k < S.msgs.length → ∀ i, i < S.nf k → (k, i) ∈ accepted (S.udataFrag σ) (new S.si maxEntries) ops)
    (hdrained : (finalQ (S.udataFrag σ) (new S.si maxEntries) ops).unordered = []) :
    (S.deliveries (S.udataFrag σ) (new S.si maxEntries) ops).Perm (S.msgs.map Msg.out) := by
  obtain ⟨D, hnd, hlen, hdel, _, hcomp⟩ := C06_reasm_unordered_data S hS σ maxEntries ops hadm
  rw [hdel]
  refine perm_msgs_of_all S hnd hlen (fun k hk => (hcomp k hk (hall k hk)).resolve_right ?_)
  rw [hdrained]; exact List.not_mem_nil

/-- ✱ unordered I-DATA (MID / FSN reassembly through `unorderedMIDMap`): the same statement; TSNs arbitrary, window
2^31 on MIDs. -/
theorem C06_reasm_unordered_idata (S : Sender) (hS : S.UMWF) (τ : Nat → Nat → BitVec 32) (maxEntries : BitVec 32)
    (ops : List HOp) (hadm : S.AdmissibleU [] ops) :
    ∃ D : List Nat, D.Nodup ∧ (∀ k ∈ D, k < S.msgs.length) ∧
      S.deliveries (S.uidataFrag τ) (new S.si maxEntries) ops = D.map S.out ∧
      (∀ k ∈ D, ∀ i, i < S.nf k → HOp.push k i ∈ ops) ∧
      (∀ k, k < S.msgs.length →
        (∀ i, i < S.nf k → (k, i) ∈ accepted (S.uidataFrag τ) (new S.si maxEntries) ops) →
        k ∈ D ∨ S.usetFull τ k ∈ (finalQ (S.uidataFrag τ) (new S.si maxEntries) ops).unorderedMID) := by
  obtain ⟨D, P, G, ⟨W, A, h, _⟩, hdel, hG, hP⟩ :=
    UMInv.run hS ops (UMInv_new S τ maxEntries) ⟨rfl, rfl, rfl⟩ hadm
  simp only [List.nil_append] at h
  have hnd := h.nodup
  rw [List.nodup_append] at hnd
  refine ⟨D, hnd.1, fun k hk => h.dwlen k (by simp [hk]), hdel, ?_, ?_⟩
  · intro k hk i hi
    rcases hP _ (h.dwpush k (by simp [hk]) i hi) with hin | hin
    · simp at hin
    · exact hin
  · exact fun k hk hall => h.complete hS hk (fun j hj => (hG _).2 (.inr (hall j hj)))

theorem C06_reasm_unordered_idata_exactly_once (S : Sender) (hS : S.UMWF) (τ : Nat → Nat → BitVec 32)
    (maxEntries : BitVec 32) (ops : List HOp) (hadm : S.AdmissibleU [] ops)
    (hall : ∀ k, k < S.msgs.length → ∀ i, i < S.nf k → (k, i) ∈ accepted (S.uidataFrag τ) (new S.si maxEntries) ops)
    (hdrained : (finalQ (S.uidataFrag τ) (new S.si maxEntries) ops).unorderedMID = []) :
    (S.deliveries (S.uidataFrag τ) (new S.si maxEntries) ops).Perm (S.msgs.map Msg.out) := by
  obtain ⟨D, hnd, hlen, hdel, _, hcomp⟩ := C06_reasm_unordered_idata S hS τ maxEntries ops hadm
  rw [hdel]
  refine perm_msgs_of_all S hnd hlen (fun k hk => (hcomp k hk (hall k hk)).resolve_right ?_)
  rw [hdrained]; exact List.not_mem_nil

/-- frame lemmas, universe free (ANY queue state, DATA framing): (1) a push of an ordered DATA chunk commutes with
masking `unordered` and leaves `unordered` / `unorderedChunks` untouched; (2) a push of an unordered DATA chunk of this
stream leaves the ordered containers and both cursors untouched; (3) with a complete unordered message waiting, `read`
serves THAT one, before any ordered message, and leaves the ordered container and cursor untouched. -/
theorem C06_reasm_class_frames (q : Q) (c : Chunk) (hd : c.iData = false) :
    (c.unordered = false →
      (({ q with unordered := [] } : Q).pushWithError c).1 = { (q.pushWithError c).1 with unordered := [] } ∧
      (q.pushWithError c).1.unordered = q.unordered ∧ (q.pushWithError c).1.unorderedChunks = q.unorderedChunks) ∧
    (c.unordered = true → c.si = q.si →
      (q.pushWithError c).1.ordered = q.ordered ∧ (q.pushWithError c).1.nextSSN = q.nextSSN ∧
      (q.pushWithError c).1.orderedMID = q.orderedMID ∧ (q.pushWithError c).1.nextMID = q.nextMID) ∧
    (∀ cset rest n, q.useInterleaving = false → q.unordered = cset :: rest →
      (q.read n).1.ordered = q.ordered ∧ (q.read n).1.nextSSN = q.nextSSN ∧
      ((q.read n).2.err = .ok → (q.read n).1.unordered = rest ∧ (q.read n).2.ppi = cset.ppi ∧
        (q.read n).2.data = (cset.chunks.map (·.userData)).flatten)) := by
  refine ⟨?_, ?_, ?_⟩
  · intro hu
    obtain ⟨a, b, c', _, _⟩ := pushO_frame q c hd hu
    exact ⟨a, b, c'⟩
  · intro hu hsi
    rcases pushU_cases q c hd hsi hu with h | ⟨_, _, h⟩ | ⟨_, _, _, _, _, _, _, _, h⟩ <;> rw [h] <;>
      exact ⟨rfl, rfl, rfl, rfl⟩
  · intro cset rest n hil hun
    rcases read_unordered_head q hil hun n with ⟨herr, hq⟩ | ⟨_, hppi, hdata, nb, hq⟩
    · rw [hq, herr]; exact ⟨rfl, rfl, fun h => nomatch h⟩
    · rw [hq]; exact ⟨rfl, rfl, fun _ => ⟨rfl, hppi, hdata⟩⟩

/-- ✱ ordered and unordered messages on the SAME stream (DATA framing) do not disturb each other: on every admissible
mixed run the reads served from the ordered container are a PREFIX of the ordered writes (the statement of
`C01_reasm_ordered_data`) and, side by side, the reads served from `unordered` satisfy the statement of
`C06_reasm_unordered_data` (each unordered message at most once, whole, with its PPI; everything taken completely is
read or waits complete). DATA framing; the I-DATA analogue (`orderedMID` next to `unorderedMIDMap` / `unorderedMID`) is NOT
proved here — `MidInv` of C01 fixes `unorderedMID = []`; the same masking argument would apply. -/
theorem C06_reasm_mixed_classes (SO SU : Sender) (hSO : SO.WF) (hSU : SU.UWF) (hsi : SU.si = SO.si)
    (σ : Nat → BitVec 16) (maxEntries : BitVec 32) (ops : List MOp)
    (hadm : AdmissibleM SO SU SO.dataFrag (SU.udataFrag σ) (new SO.si maxEntries) 0 [] [] ops) :
    ordPart (mixDeliveries SO.dataFrag (SU.udataFrag σ) (new SO.si maxEntries) ops) <+: SO.msgs.map Msg.out ∧
    ∃ D : List Nat, D.Nodup ∧ (∀ k ∈ D, k < SU.msgs.length) ∧
      unordPart (mixDeliveries SO.dataFrag (SU.udataFrag σ) (new SO.si maxEntries) ops) = D.map SU.out ∧
      (∀ k, k < SU.msgs.length →
        (∀ i, i < SU.nf k → (k, i) ∈ mixAccepted SO.dataFrag (SU.udataFrag σ) (new SO.si maxEntries) ops) →
        k ∈ D ∨ SU.uset σ k ∈ (mixFinal SO.dataFrag (SU.udataFrag σ) (new SO.si maxEntries) ops).unordered) := by
  have hu0 : UInv SU σ (new SO.si maxEntries) [] [] [] [] [] := hsi ▸ UInv_new SU hSU σ maxEntries
  obtain ⟨hpre, D, W, U, P, G, h, hdel, hG⟩ :=
    mix_run hSO hSU hsi ops (q := new SO.si maxEntries) (OrdInv_new SO maxEntries) hu0 hadm
  simp only [List.nil_append] at h
  have hnd := h.nodup
  rw [List.nodup_append] at hnd
  refine ⟨by simpa using hpre, D, hnd.1, fun k hk => h.dwlen k (by simp [hk]), hdel, ?_⟩
  exact fun k hk hall => h.complete hk (fun j hj => (hG _).2 (.inr (hall j hj)))

-- non-vacuity (tests, by evaluation): two unordered messages (2 + 2 fragments) whose TSN ranges straddle the 2^32 wrap
-- and are ADJACENT (…FFFE, …FFFF | 0, 1), so that E of the first and B of the second carry consecutive TSNs; fragments
-- interleaved, the second message completes first; reads in between, one with a short buffer.
private def S0 : Sender :=
  { si := 3, t0 := 0xFFFFFFFE#32, msgs := [{ ppi := 51, frags := [[1, 2], [3]] }, { ppi := 53, frags := [[9], [8]] }] }
private def ops0 : List HOp :=
  [.push 1 0, .push 0 1, .read 100, .push 1 1, .push 0 0, .read 1, .read 100, .read 100, .read 100]
example : S0.UWF := ⟨by unfold Sender.WF; decide +kernel, fun _ => Nat.le_refl _, by decide +kernel⟩
example : S0.AdmissibleU [] ops0 := by decide +kernel
example : S0.deliveries (S0.udataFrag fun _ => 7) (new S0.si 0) ops0 = [(53, [9, 8]), (51, [1, 2, 3])] := by decide +kernel
example : accepted (S0.udataFrag fun _ => 7) (new S0.si 0) ops0 = [(1, 0), (0, 1), (1, 1), (0, 0)] := by decide +kernel
example : (finalQ (S0.udataFrag fun _ => 7) (new S0.si 0) ops0).unordered = [] := by decide +kernel
-- the four chunks with consecutive TSNs B E B E are never spliced: after three pushes the slice holds E(0) B(1) E(1)
example : ((finalQ (S0.udataFrag fun _ => 7) (new S0.si 0) [.push 1 0, .push 0 1, .push 1 1]).unordered.map (·.ppi),
           (finalQ (S0.udataFrag fun _ => 7) (new S0.si 0) [.push 1 0, .push 0 1, .push 1 1]).unorderedChunks.length)
          = ([53], 1) := by decide +kernel

-- `chunkSet.isComplete` alone WOULD accept the splice B E B E of the two adjacent messages (consecutive TSNs across the wrap)
example : chunksComplete ((msgIdx 0 2 ++ msgIdx 1 2).map (S0.ufrag fun _ => 7)) = true := by decide +kernel
-- the same run as I-DATA (MID / FSN; all TSNs equal — never looked at)
example : S0.UMWF := ⟨by unfold Sender.WF; decide +kernel, by decide +kernel⟩
example : S0.deliveries (S0.uidataFrag fun _ _ => 7) (new S0.si 0) ops0 = [(53, [9, 8]), (51, [1, 2, 3])] := by decide +kernel
example : accepted (S0.uidataFrag fun _ _ => 7) (new S0.si 0) ops0 = [(1, 0), (0, 1), (1, 1), (0, 0)] := by decide +kernel
example : (finalQ (S0.uidataFrag fun _ _ => 7) (new S0.si 0) ops0).unorderedMID = [] := by decide +kernel

-- mixed: the ordered universe of C01's example and the unordered one above on stream 3; an ordered message (SSN 0) is
-- complete and readable, yet the unordered message that completes later is served first by the next read
private def SO0 : Sender :=
  { si := 3, t0 := 0x10#32, msgs := [{ ppi := 61, frags := [[4], [5]] }, { ppi := 63, frags := [[6]] }] }
private def mops0 : List MOp :=
  [.pushO 1 0, .pushU 1 0, .pushO 0 0, .pushO 0 1, .pushU 1 1, .read 100, .read 100, .pushU 0 0, .read 100, .pushU 0 1,
   .read 1, .read 100, .read 100]
example : SO0.WF := by unfold Sender.WF; decide +kernel
example : AdmissibleM SO0 S0 SO0.dataFrag (S0.udataFrag fun _ => 7) (new SO0.si 0) 0 [] [] mops0 := by decide +kernel
example : mixDeliveries SO0.dataFrag (S0.udataFrag fun _ => 7) (new SO0.si 0) mops0 =
    [(true, 53, [9, 8]), (false, 61, [4, 5]), (false, 63, [6]), (true, 51, [1, 2, 3])] := by decide +kernel

end C06
