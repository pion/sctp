import SctpVerif.Proofs.Reset.Perf
/-!
# C16 — sequence-number wrap-around is invisible: the performed-reset bookkeeping (D10 fix)

`Rs.PerfSet` is `performedResetRSNs` / `newestPerformedReset` with `rememberPerformedReset` exactly as in
association.go (uint32, `Gen.sna32LT`, trimming). The harness drives the real method in bulk (`rs remember`) and the
driver compares every call with this model.
-/
namespace C16
open Rs

/-- The bookkeeping commutes with adding a constant to every request sequence number — for ALL call sequences (not
only consecutive numbers) and ALL constants, starting from the zero-value state (nil map, watermark 0) on both sides:
the set is the shifted set, the watermark is the shifted watermark as soon as anything was remembered (the first call
sets it whatever its old value was — a watermark that "starts at 0" would break this), and every query gets the same
answer. Nothing depends on absolute values, in particular not on where the 2^32 wrap falls. -/
theorem C16_performed_set_shift_invariant (d : BitVec 32) (rs : List (BitVec 32)) :
    (({} : PerfSet).run (rs.map (· + d))).set = (({} : PerfSet).run rs).set.map (· + d) ∧
    (rs ≠ [] → (({} : PerfSet).run (rs.map (· + d))).newest = (({} : PerfSet).run rs).newest + d) ∧
    ∀ q, (({} : PerfSet).run (rs.map (· + d))).has (q + d) = (({} : PerfSet).run rs).has q := by
  have h0 : ShiftRel d ({} : PerfSet) ({} : PerfSet) := ⟨rfl, fun h => absurd rfl h⟩
  have hrel := run_shiftRel d rs _ _ h0
  refine ⟨hrel.1, ?_, ?_⟩
  · intro hne
    rcases List.eq_nil_or_concat rs with rfl | ⟨init, r, rfl⟩
    · exact absurd rfl hne
    · have hi := run_shiftRel d init _ _ h0
      have := (remember_shiftRel d _ _ r hi).2
      simp only [PerfSet.run, List.concat_eq_append, List.map_append, List.map_cons, List.map_nil, List.foldl_append, List.foldl_cons, List.foldl_nil] at this ⊢
      exact this.symm
  · intro q
    unfold PerfSet.has
    rw [hrel.1, Sna.contains_map_add_right]

/-- non-vacuity / sample (a test, not the theorem): three numbers across the wrap, shifted by 2^31 -/
example : (({} : PerfSet).run ([0xFFFFFFFE#32, 0xFFFFFFFF#32, 0#32].map (· + 0x80000000#32))).newest = 0x80000000#32 := by decide +kernel

end C16
