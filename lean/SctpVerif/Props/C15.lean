import SctpVerif.Proofs.Sender
import SctpVerif.Gen.Facts
/-!
# C15 — buffered-amount accounting is exact; the low-threshold callback fires per downward crossing

Property theorems only, about the L0 model `Sender` (`Model/Sender.lean`, tied to association.go / payload_queue.go /
stream.go by the direct-drive correspondence runs) and about regenerated definitions and facts:
`Gen.release_underflows`, `Gen.release_crossesLow` (the two tests of `Stream.onBufferReleased`, translated from the code on
every run), `Gen.lockPaths` and `Gen.onBufferReleasedSites` (control-flow paths of `onBufferReleased` with their lock
operations; the statements around its only call site).

Quantification: ALL operation lists (writes, gathers with arbitrary oracles, SACKs with arbitrary contents, T3, clock
ticks, stream open / drop, leaving and re-entering the established state) from the initial state of any configuration
with `MTU < 2^30`.

* `bufOf s si` = `Stream.BufferedAmount()` of the Stream object for `si`; `outstanding s si` = user bytes of `si` in
  pending ∪ in-flight chunks (a gap-acked chunk holds none: its payload is emptied when it is acked, so each byte is
  released once). "Newly acknowledged (or skipped as abandoned)": abandoned chunks are released when the peer's
  cumulative ack passes them (its answer to FORWARD-TSN) — the same SACK path.
* `RunOk` is the hypothesis deviation D9 forces (hence `_partial`): the association drops a stream from its table
  (peer reset) only when nothing of it is outstanding, and nobody writes to a dropped stream before it is opened again.
  `C15_D9_witness` shows the statement false without it.
* `wrapBuf` is a ghost flag raised if a uint64 `bufferedAmount` addition wrapped (≥ 2^64 bytes buffered on one stream).
-/
namespace C15
open Gen Sender SenderProofs

private theorem booksAt (cfg : Cfg) (tsn peerRwnd : BitVec 32) (hc : CfgOk cfg) (ops : List Op)
    (hok : RunOk (init cfg tsn peerRwnd) ops) (hw : (run (init cfg tsn peerRwnd) ops).wrapBuf = false) :
    Books (run (init cfg tsn peerRwnd) ops) :=
  (run_books _ ops (fun _ => init_books cfg tsn peerRwnd) (init_win cfg tsn peerRwnd hc) hok).1 hw

/-- **Per-stream figure** (partial: D9). While streams stay registered as long as they have data outstanding, every
stream's buffered amount equals the user bytes of its chunks in pending ∪ in flight that are not yet acknowledged. -/
theorem C15_stream_exact_partial (cfg : Cfg) (tsn peerRwnd : BitVec 32) (hc : CfgOk cfg) (ops : List Op)
    (hok : RunOk (init cfg tsn peerRwnd) ops) (hw : (run (init cfg tsn peerRwnd) ops).wrapBuf = false) (si : BitVec 16) :
    bufOf (run (init cfg tsn peerRwnd) ops) si = outstanding (run (init cfg tsn peerRwnd) ops) si :=
  (booksAt cfg tsn peerRwnd hc ops hok hw).streams si

/-- the witness of D9 on the model (the implementation does the same: corpus/C15/known/d9_write_after_peer_reset.ops):
drop the stream, write 17 bytes, send, acknowledge — 17 bytes stay "buffered" with nothing outstanding -/
theorem C15_D9_witness :
    let s := run (init { mtu := 1200, maxPayload := 1172 } 100 65536)
      [.openS 1 false 0 0 0, .unreg 1, .write 1 53 17, .gather freeOracle [0], .sack 100 65536 [] []]
    bufOf s 1 = 17 ∧ outstanding s 1 = 0 ∧ s.wrapBuf = false := by decide +kernel

/-- non-vacuity: gap-ack then cumulative ack of a fragmented message, each byte released once -/
example :
    let ops := [Op.openS 1 false 0 0 0, .write 1 53 3000, .gather freeOracle [0, 0, 0], .sack 99 65536 [(2, 3)] [], .sack 100 65536 [] []]
    RunOk (init { mtu := 1200, maxPayload := 1172 } 100 65536) ops ∧
    (bufOf (run (init { mtu := 1200, maxPayload := 1172 } 100 65536) (ops.take 3)) 1,
     bufOf (run (init { mtu := 1200, maxPayload := 1172 } 100 65536) (ops.take 4)) 1,
     bufOf (run (init { mtu := 1200, maxPayload := 1172 } 100 65536) ops) 1) = (3000, 1172, 0) := by
  refine ⟨?_, by decide +kernel⟩
  simp only [RunOk, OpOk]
  decide +kernel

/-- **Association figure** (full strength: no hypothesis on streams, no overflow flag). In every reachable state
`Association.BufferedAmount()` = `pendingQueue.getNumBytes() + inflightQueue.getNumBytes()` is exactly the user bytes
held by the pending chunks plus those held by the in-flight chunks, and the chunk counter of the pending queue is exact. -/
theorem C15_assoc_exact (cfg : Cfg) (tsn peerRwnd : BitVec 32) (hc : CfgOk cfg) (ops : List Op) :
    (run (init cfg tsn peerRwnd) ops).penBytes + (run (init cfg tsn peerRwnd) ops).infBytes =
      (sumLen (run (init cfg tsn peerRwnd) ops).pending : Int) + (sumLen (run (init cfg tsn peerRwnd) ops).inflight : Int) ∧
    (run (init cfg tsn peerRwnd) ops).penChunks = ((run (init cfg tsn peerRwnd) ops).pending.length : Int) ∧
    (∀ c ∈ (run (init cfg tsn peerRwnd) ops).inflight, c.acked = true → c.len = 0) := by
  have h := run_core _ ops (init_books cfg tsn peerRwnd).core (init_win cfg tsn peerRwnd hc)
  exact ⟨by rw [h.pen, h.inf], h.penN, h.ackedEmpty⟩

/-- **No underflow** (partial: D9). `onBufferReleased` never takes its "released more than is buffered" branch. -/
theorem C15_no_underflow_partial (cfg : Cfg) (tsn peerRwnd : BitVec 32) (hc : CfgOk cfg) (ops : List Op)
    (hok : RunOk (init cfg tsn peerRwnd) ops) (hw : (run (init cfg tsn peerRwnd) ops).wrapBuf = false) :
    (run (init cfg tsn peerRwnd) ops).clamped = false :=
  (booksAt cfg tsn peerRwnd hc ops hok hw).noClamp

/-- without the hypothesis the branch is reachable: drop the stream while 100 bytes are in flight, open it again (a new
Stream object with buffered amount 0), acknowledge — the release of 100 bytes meets a buffered amount of 0 -/
theorem C15_underflow_witness :
    (run (init { mtu := 1200, maxPayload := 1172 } 100 65536)
      [.openS 1 false 0 0 0, .write 1 53 100, .gather freeOracle [0], .unreg 1, .openS 1 false 0 0 0, .sack 100 65536 [] []]).clamped = true := by
  decide +kernel

/-- **Zero iff idle** (partial: D9). A stream's buffered amount is zero exactly when none of its chunks in pending ∪
in flight holds user bytes; likewise the association figure. -/
theorem C15_zero_iff_idle_partial (cfg : Cfg) (tsn peerRwnd : BitVec 32) (hc : CfgOk cfg) (ops : List Op)
    (hok : RunOk (init cfg tsn peerRwnd) ops) (hw : (run (init cfg tsn peerRwnd) ops).wrapBuf = false) (si : BitVec 16) :
    (bufOf (run (init cfg tsn peerRwnd) ops) si = 0 ↔
      ∀ c ∈ (run (init cfg tsn peerRwnd) ops).pending ++ (run (init cfg tsn peerRwnd) ops).inflight, c.si = si → c.len = 0) ∧
    ((run (init cfg tsn peerRwnd) ops).penBytes + (run (init cfg tsn peerRwnd) ops).infBytes = 0 ↔
      ∀ c ∈ (run (init cfg tsn peerRwnd) ops).pending ++ (run (init cfg tsn peerRwnd) ops).inflight, c.len = 0) := by
  have hb := booksAt cfg tsn peerRwnd hc ops hok hw
  refine ⟨?_, ?_⟩
  · rw [hb.streams si, outstanding, ← bytesOf_append]
    exact bytesOf_zero_iff si _
  · rw [hb.pen, hb.inf]
    have := sumLen_zero_iff ((run (init cfg tsn peerRwnd) ops).pending ++ (run (init cfg tsn peerRwnd) ops).inflight)
    rw [sumLen_append] at this
    constructor
    · intro h; exact this.mp (by omega)
    · intro h; have := this.mpr h; omega

/-- **A SACK is applied completely or not at all.** In every reachable state the in-flight queue is TSN-contiguous from
the cumulative ack point up to `myNextTSN`; therefore a SACK that is not stale and passes the validation at the head of
`processSelectiveAck` runs both of its loops (cumulative pops, gap marks) to the end: the two error returns that sit
AFTER the first modification of the queue (`ErrInflightQueueTSNPop`, `ErrTSNRequestNotExist`) are unreachable. Every
other SACK (association not established, stale, rejected by the validation) leaves the state untouched by definition
of `sack`. So bytes are released for exactly the chunks a SACK names, never for a prefix of them. -/
theorem C15_sack_atomic (cfg : Cfg) (tsn peerRwnd : BitVec 32) (hc : CfgOk cfg) (ops : List Op)
    (cum : BitVec 32) (gaps : List (BitVec 16 × BitVec 16))
    (hstale : sna32GT (run (init cfg tsn peerRwnd) ops).cumAck cum = false)
    (hval : validate (run (init cfg tsn peerRwnd) ops) cum gaps = true) :
    (ackPhase (run (init cfg tsn peerRwnd) ops) cum gaps).isSome = true ∧
    Seq (run (init cfg tsn peerRwnd) ops) := by
  have hs := run_seq _ ops (init_seq cfg tsn peerRwnd) (init_win cfg tsn peerRwnd hc)
  obtain ⟨r, hr, _⟩ := ackPhase_total _ cum gaps hs hstale hval
  exact ⟨by rw [hr]; rfl, hs⟩

/-- non-vacuity: a SACK with a gap block inside the queue is validated and applied; one naming a TSN never sent is rejected -/
example :
    let s := run (init { mtu := 1200, maxPayload := 1172 } 4294967295 65536) [.openS 1 false 0 0 0, .write 1 53 3000, .gather freeOracle [0, 0, 0]]
    (sna32GT s.cumAck 4294967295, validate s 4294967295 [(1, 2)], (sack s 4294967295 65536 [(1, 2)] []).2,
     validate s 0 [(3, 3)], (sack s 0 65536 [(3, 3)] []).2) = (false, true, .ok, false, .rejected) := by decide +kernel

/-- **Rollback.** A write that fails because the association is not established leaves the stream exactly as it was —
buffered amount, stream sequence number, both message-identifier counters — and queues nothing. -/
theorem C15_rollback_exact (s : St) (si : BitVec 16) (ppi : BitVec 32) (len : Nat) (h : s.established = false) :
    (write s si ppi len).1.streams = s.streams ∧ (write s si ppi len).1.pending = s.pending ∧
    (write s si ppi len).1.penBytes = s.penBytes ∧ (write s si ppi len).1.penChunks = s.penChunks ∧ (write s si ppi len).2.1 = 0 :=
  write_rollback s si ppi len h

example :
    let s := run (init { mtu := 1200, maxPayload := 1172, useInterleaving := true } 100 65536) [.openS 1 true 0 0 0, .setEstablished false]
    (write s 1 53 5000).2.2 = .notEstablished ∧ ((write s 1 53 5000).1.streams 1) = s.streams 1 := by decide +kernel

/-- **Callback = downward crossings.** For a stream whose object, threshold and callback stay in place over the run
(no `openS` on it): the number of callback invocations grows by exactly the number of downward crossings of the threshold
(above before, at or below after) in the sequence of buffered amounts observed after each operation. Holds with or
without D9. One release per stream and SACK: the per-stream amounts of a SACK are summed first (`sack_streams`). -/
theorem C15_callback_crossings (cfg : Cfg) (tsn peerRwnd : BitVec 32) (hc : CfgOk cfg) (pre ops : List Op)
    (si : BitVec 16) (th : BitVec 64) (hwt : Watched (run (init cfg tsn peerRwnd) pre) si th)
    (hops : ∀ op ∈ ops, ∀ u rt rv th', op ≠ .openS si u rt rv th')
    (hw : (run (run (init cfg tsn peerRwnd) pre) ops).wrapBuf = false) :
    cbOf (run (run (init cfg tsn peerRwnd) pre) ops) si =
      cbOf (run (init cfg tsn peerRwnd) pre) si + crossings th.toNat (traj si (run (init cfg tsn peerRwnd) pre) ops) :=
  run_cb _ ops si th hwt (run_win _ pre (init_win cfg tsn peerRwnd hc)).1 hops hw

/-- non-vacuity: threshold 1000; 3000 bytes written; the first SACK releases 1172 (1828 left: no crossing), the second
the rest (0 left: one crossing, one callback) -/
example :
    let s0 := run (init { mtu := 1200, maxPayload := 1172 } 100 65536) [.openS 1 false 0 0 1000]
    let ops := [Op.write 1 53 3000, .gather freeOracle [0, 0, 0], .sack 100 65536 [] [], .sack 102 65536 [] []]
    (traj 1 s0 ops, crossings 1000 (traj 1 s0 ops), cbOf (run s0 ops) 1) = ([0, 3000, 3000, 1828, 0], 1, 1) := by decide +kernel

/-! ### the callback runs without internal locks (decided on regenerated facts) -/

/-- lock depth along a path: every callback (`dyncall`) at depth 0, no unlock of a lock not held, nothing held at the end -/
def pathOk : Nat → List (String × String) → Bool
  | d, [] => d == 0
  | d, (k, _) :: r =>
    if k == "Lock" || k == "RLock" then pathOk (d + 1) r
    else if k == "Unlock" || k == "RUnlock" then d != 0 && pathOk (d - 1) r
    else if k == "dyncall" then d == 0 && pathOk d r
    else pathOk d r

/-- the crossing test (an `if`) is evaluated while the lock is held, and the callback comes right after the unlock -/
def testThenUnlockThenCall : List (String × String) → Bool
  | (k1, _) :: (k2, x2) :: (k3, x3) :: (k4, x4) :: r =>
    (k1 == "if" && k2 == "assign" && x2 == x4 && k3 == "Unlock" && x3 == "s.lock" && k4 == "dyncall") ||
      testThenUnlockThenCall ((k2, x2) :: (k3, x3) :: (k4, x4) :: r)
  | _ => false

/-- **Callback unlocked.** On every control-flow path of `Stream.onBufferReleased` (regenerated from the source) the
user callback is invoked with no lock of the function held: `s.lock` is taken, the crossing test is evaluated under it,
the handler is copied, the lock is released, then the handler is called; every path ends with nothing held. Its only
caller (`processAcknowledgement`) releases the association lock around the call. -/
theorem C15_callback_unlocked :
    (∃ paths, Gen.lockPaths.lookup "Stream.onBufferReleased" = some paths ∧
      paths.all (pathOk 0) = true ∧
      (paths.filter (fun p => p.any (fun e => e.1 == "dyncall"))).all testThenUnlockThenCall = true ∧
      (paths.any (fun p => p.any (fun e => e.1 == "dyncall"))) = true) ∧
    Gen.onBufferReleasedSites = [("Association.processAcknowledgement", "a.lock.Unlock()", "s.onBufferReleased(nBytesAcked)", "a.lock.Lock()")] := by
  refine ⟨⟨_, rfl, ?_, ?_, ?_⟩, ?_⟩ <;> decide +kernel

end C15
